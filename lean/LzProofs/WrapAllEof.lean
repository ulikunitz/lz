/-
  LzProofs.WrapAllEof — chunking independence of `WrappedParser.Parse` for readers that return data
  TOGETHER WITH io.EOF.

  `FillR` (PBufLemmas.lean), the reader class of `WSim` / `C08_wrap_chunking` / `C08_chunking_independent`,
  demands error code 0 on EVERY response, so a response `(mx, 1)` = "data and io.EOF" is outside it.
  In the model a response carries a fixed code: `(mx, 1)` reports io.EOF whether or not it exhausts the
  payload (that depends on the slice `ReadFrom` offers, i.e. on the buffer).  A script is therefore
  "truthful" for every buffer only if its io.EOF response can never leave payload behind.  `TruthR`
  is that class: error-free responses, then possibly one response `(m, 1)` placed where at most one
  payload byte can be left (`|payload| ≤ |error-free responses before it| + 1`), then only `nil`/io.EOF
  codes.  For `TruthR` readers `ReadFrom` stops only when the buffer is full or the payload exhausted,
  and the chunking theorems go through; the only observable difference to `FillR` readers is the error
  of a `ReadFrom` that did read data (`ErrFullBuffer` vs io.EOF when the last bytes fill the buffer),
  which `WrappedParser.Parse` ignores.
-/
import LzProofs.WrapAllHist
namespace LZ
open PBuf

/-! ## the reader class -/

/-- error-free responses `P`, then `(m, 1)` (data with io.EOF) where at most one byte can be left,
    then responses with codes `nil`/io.EOF only -/
def EofScript (resps : List (Nat × Nat)) (plen : Nat) : Prop :=
  ∃ P m rest, resps = P ++ (m, 1) :: rest ∧ (∀ x ∈ P, x.2 = 0 ∧ 1 ≤ x.1) ∧ 1 ≤ m ∧
    plen ≤ P.length + 1 ∧ ∀ x ∈ rest, x.2 ≤ 1

/-- readers that never fail and report io.EOF only when the payload is exhausted, for every buffer:
    `FillR`, or an `EofScript`, or a reader that is done -/
def TruthR (r : Reader) : Prop :=
  FillR r ∨ EofScript r.resps r.payload.length ∨ ReaderDone r

theorem TruthR.of_fillR {r : Reader} (h : FillR r) : TruthR r := Or.inl h

theorem readLoop_eofScript (P : List (Nat × Nat)) (b : PBuf) (payload : List Byte) (m : Nat)
    (rest : List (Nat × Nat))
    (hP : ∀ x ∈ P, x.2 = 0 ∧ 1 ≤ x.1) (hm : 1 ≤ m) (hpl : payload.length ≤ P.length + 1)
    (hrest : ∀ x ∈ rest, x.2 ≤ 1) :
    ((readLoop b ⟨payload, P ++ (m, 1) :: rest⟩).2.2 = .full ∨
      (readLoop b ⟨payload, P ++ (m, 1) :: rest⟩).2.1.payload = []) ∧
    ((readLoop b ⟨payload, P ++ (m, 1) :: rest⟩).2.2 = .full ∨
      (readLoop b ⟨payload, P ++ (m, 1) :: rest⟩).2.2 = .eof) ∧
    TruthR (readLoop b ⟨payload, P ++ (m, 1) :: rest⟩).2.1 := by
  by_cases hfull : b.cfg.bufferSize ≤ b.data.length
  · rw [readLoop_full b _ hfull]
    exact ⟨Or.inl rfl, Or.inl rfl, Or.inr (Or.inl ⟨P, m, rest, rfl, hP, hm, hpl, hrest⟩)⟩
  have hroom : b.data.length < b.cfg.bufferSize := by omega
  have hc := stepCap_ge b
  have hstep := readLoop_eq b ⟨payload, P ++ (m, 1) :: rest⟩ hroom
  generalize stepCap b = c at hc hstep
  rw [hstep]
  match P, hP, hpl with
  | [], _, hpl =>
    obtain ⟨-, g1, -, -, g2⟩ := slice_bounds (mx := m) (pl := payload.length) hroom hc
    have hn : min3 m (min (c - Facts.margin) b.cfg.bufferSize - b.data.length) payload.length
        = payload.length := by
      simp only [List.length_nil] at hpl
      omega
    simp only [List.nil_append, hn, List.drop_length]
    rw [if_pos (by omega)]
    exact ⟨Or.inr rfl, Or.inr rfl, Or.inr (Or.inr ⟨rfl, hrest⟩)⟩
  | (mx, ec) :: P', hP, hpl =>
    obtain ⟨hec, hmx⟩ : ec = 0 ∧ 1 ≤ mx := hP (mx, ec) List.mem_cons_self
    subst hec
    simp only [List.cons_append]
    -- code 0 always continues; with the payload exhausted the answer is `(0, nil)`
    obtain ⟨-, g1, -, -, g3⟩ := slice_bounds (mx := mx) (pl := payload.length) hroom hc
    generalize min3 mx (min (c - Facts.margin) b.cfg.bufferSize - b.data.length)
      payload.length = n at g1 g3
    simp only [ne_eq, not_true_eq_false, if_false]
    apply readLoop_eofScript P' _ _ m rest (fun x hx => hP x (List.mem_cons_of_mem _ hx)) hm _ hrest
    simp only [List.length_drop, List.length_cons] at hpl ⊢; omega
termination_by structural P

/-- `ReadFrom` with a truthful reader stops only because the buffer is full or the payload
    exhausted, only with `ErrFullBuffer` or io.EOF, and the reader stays truthful -/
theorem truthR_readFrom {b : PBuf} (hlen : b.data.length ≤ b.cfg.bufferSize) {r : Reader}
    (ht : TruthR r) {b' : PBuf} {r' : Reader} {n : Nat} {e : Err}
    (h : b.readFrom r = (b', r', n, e)) :
    (e = .full ∨ r'.payload = []) ∧ (e = .full ∨ e = .eof) ∧ TruthR r' := by
  rcases ht with hf | ⟨P, m, rest, hr, hP, hm, hpl, hrest⟩ | ⟨hd1, hd2⟩
  · obtain ⟨s1, s2, -⟩ := readFrom_stop_of_fillScript hlen (hf.fillScript _) h
    exact ⟨s1, s2, Or.inl (fillR_readFrom hlen hf h)⟩
  · obtain ⟨payload, resps⟩ := r
    simp only [] at hr hpl
    subst hr
    have key := readLoop_eofScript P b payload m rest hP hm hpl hrest
    unfold readFrom at h
    simp only [Prod.mk.injEq] at h
    obtain ⟨h1, h2, -, h4⟩ := h
    rw [h2, h4] at key
    exact key
  · obtain ⟨c, pre, hb, hr', hn1, hn2, hm, hpre, hprelen, hcase⟩ := readFrom_master hlen h
    have hpl : r'.payload = [] := by rw [hr', hd1]; simp
    have hsub : ∀ x ∈ r'.resps, x ∈ r.resps := by
      intro x hx
      rcases hcase with ⟨_, g, _⟩ | ⟨_, _, g, _⟩ | ⟨mx, ec, g, _⟩
      · rw [g]; exact List.mem_append_right _ hx
      · rw [g] at hx; cases hx
      · rw [g]; simp [hx]
    refine ⟨Or.inr hpl, ?_, Or.inr (Or.inr ⟨hpl, fun x hx => hd2 x (hsub x hx)⟩)⟩
    rcases hcase with ⟨g, _⟩ | ⟨g, _⟩ | ⟨mx, ec, g1, hec, g2⟩
    · exact Or.inl g
    · exact Or.inr g
    · right
      have hmem : (mx, ec) ∈ r.resps := by rw [g1]; simp
      have := hd2 _ hmem
      simp only [] at this
      rw [g2]
      exact errOfCode_le_one ec hec this

theorem TruthR.done {r : Reader} (h : TruthR r) (hp : r.payload = []) : ReaderDone r := by
  refine ⟨hp, ?_⟩
  rcases h with hf | ⟨P, m, rest, hr, hP, -, -, hrest⟩ | hd
  · intro x hx; have := (hf.1 x hx).1; omega
  · intro x hx
    rw [hr] at hx
    simp only [List.mem_append, List.mem_cons] at hx
    rcases hx with hx | hx | hx
    · have := (hP x hx).1; omega
    · subst hx; exact Nat.le_refl _
    · exact hrest x hx
  · exact hd.2

theorem truthful_truthR : Truthful TruthR :=
  ⟨fun hlen ht _ _ _ _ h => truthR_readFrom hlen ht h, fun ht hp => (ht.done hp).2⟩

/-! ## chunking independence of `WrappedParser.Parse` for truthful readers -/

/-- two wrapped parsers that differ at most in buffer capacity and in how their TRUTHFUL readers
    (data with io.EOF allowed, `TruthR`) chunk the same remaining payload -/
structure WSimT (wa wb : Wrapped) : Prop where
  sim : Parser.Sim wa.s wb.s
  payload : wa.r.payload = wb.r.payload
  truthA : TruthR wa.r
  truthB : TruthR wb.r

theorem WSim.toT {wa wb : Wrapped} (h : WSim wa wb) : WSimT wa wb :=
  ⟨h.sim, h.payload, Or.inl h.fillA, Or.inl h.fillB⟩

/-- C08, chunking independence of one call, readers with data+EOF allowed (all kinds) -/
theorem C08_wrap_chunking_eof (wa wb : Wrapped) (flags : Nat) (fa fb : List Byte)
    (ha : WInv I_all wa fa) (hb : WInv I_all wb fb) (hs : WSimT wa wb) :
    (wa.parse flags).2 = (wb.parse flags).2 ∧ WSimT (wa.parse flags).1 (wb.parse flags).1 := by
  obtain ⟨h, g1, g2, g3, g4⟩ := Wrapped.parse_chunking_aux parseSpec_all truthful_truthR flags _
    wa wb fa fb rfl ha hb ⟨hs.sim, hs.payload, hs.truthA, hs.truthB⟩
  exact ⟨h, g1, g2, g3, g4⟩

/-- the same call; for `Reset` the two reader scripts are truthful (`TruthR`: error free, io.EOF
    possibly together with the last data) and carry the same payload -/
def WOp.SimT : WOp → WOp → Prop
  | .parse f, .parse f' => f = f'
  | .reset r, .reset r' => r.payload = r'.payload ∧ TruthR r ∧ TruthR r'
  | _, _ => False

def OpsSimT : List WOp → List WOp → Prop
  | [], [] => True
  | a :: as, b :: bs => a.SimT b ∧ OpsSimT as bs
  | _, _ => False

theorem WOp.SimT.toR {a b : WOp} (h : a.SimT b) : a.SimR TruthR b := by
  cases a <;> cases b <;> exact h

theorem OpsSimT.toR : ∀ {as bs : List WOp}, OpsSimT as bs → OpsSimR TruthR as bs
  | [], [], _ => .nil
  | _ :: _, _ :: _, h => .cons h.1.toR (OpsSimT.toR h.2)
  | [], _ :: _, h => h.elim
  | _ :: _, [], h => h.elim

/-- C08, chunking independence over histories, data+EOF allowed (all seven kinds).  As
    `C08_chunking_independent`, but the readers (the initial ones and those installed by `Reset`)
    only have to be truthful (`TruthR`): error free, and io.EOF may come together with the last
    data (an `EofScript`) instead of on a separate, empty read. -/
theorem C08_chunking_independent_eof (k : Kind) (raw : Cfg) (s0 : Parser)
    (h0 : newParser k raw = some s0) (ra rb : Reader) (hp : ra.payload = rb.payload)
    (hta : TruthR ra) (htb : TruthR rb) (opsA opsB : List WOp) (ho : OpsSimT opsA opsB) :
    (Wrapped.runW ⟨ra, s0⟩ opsA).2 = (Wrapped.runW ⟨rb, s0⟩ opsB).2 :=
  (Wrapped.runW_chunking truthful_truthR ho.toR (newParser_winv k raw s0 h0 ra)
    (newParser_winv k raw s0 h0 rb) ⟨.refl s0, hp, hta, htb⟩).1

/-- C08, completeness, data+EOF allowed (all seven kinds): `C08_complete` with `TruthR`
    readers (error free; io.EOF may come together with the last data). -/
theorem C08_complete_eof (k : Kind) (raw : Cfg) (s0 : Parser) (h0 : newParser k raw = some s0)
    (r0 : Reader) (hf0 : TruthR r0) (ops : List WOp) (hfr : ∀ r, WOp.reset r ∈ ops → TruthR r)
    (f : Nat) :
    let wg := Wrapped.runG (⟨r0, s0⟩, Ghost.init) ops
    let src := curSrc r0.payload ops
    let res := (Wrapped.runW ⟨r0, s0⟩ ops).1.parse f
    decode [] wg.2.log = some (src.take wg.2.consumed) ∧
    ((res.2.2.1 = .ok ∧ 1 ≤ res.2.1) ∨
     (res.2.1 = 0 ∧ res.2.2.1 = .eof ∧ decode [] wg.2.log = some src ∧
      ∀ fs : List Nat, ∀ o ∈ (res.1.runW (fs.map WOp.parse)).2, o.1 = 0 ∧ o.2.1 = .eof)) :=
  C08_complete_of truthful_truthR k raw s0 h0 r0 hf0 ops hfr f

/-! ## io.EOF is reached -/

theorem Wrapped.runW_length (ops : List WOp) : ∀ (wp : Wrapped), (wp.runW ops).2.length = ops.length := by
  induction ops with
  | nil => intro wp; rfl
  | cons op ops ih => intro wp; simp only [Wrapped.runW, List.length_cons, ih]

theorem length_le_sum_of_pos (l : List WOut) (h : ∀ o ∈ l, 1 ≤ o.1) :
    l.length ≤ (l.map (·.1)).sum := by
  induction l with
  | nil => simp
  | cons a l ih =>
    have h1 := h a List.mem_cons_self
    have h2 := ih (fun o ho => h o (List.mem_cons_of_mem _ ho))
    simp only [List.length_cons, List.map_cons, List.sum_cons]
    omega

/-- C08: io.EOF is reached (all seven kinds).  With a truthful reader (in particular an
    error-free one, `TruthR.of_fillR`), among any `|payload| + 1` calls of `Parse` (any flags) at
    least one returns `(0, io.EOF)`: every other call delivers at least one byte and no more than
    the payload is ever delivered.  (By `C08_complete_eof` the blocks delivered before it expand
    to exactly the payload, and all later calls return `(0, io.EOF)`.) -/
theorem C08_eof_reached (k : Kind) (raw : Cfg) (s0 : Parser) (h0 : newParser k raw = some s0)
    (r0 : Reader) (hf0 : TruthR r0) (fs : List Nat) (hlen : r0.payload.length < fs.length) :
    ∃ o ∈ (Wrapped.runW ⟨r0, s0⟩ (fs.map WOp.parse)).2, o.1 = 0 ∧ o.2.1 = .eof := by
  apply Classical.byContradiction
  intro hno
  have houts := Wrapped.runW_outs truthful_truthR fs ⟨r0, s0⟩ [] (newParser_winv k raw s0 h0 r0) hf0
  have hpos : ∀ o ∈ (Wrapped.runW ⟨r0, s0⟩ (fs.map WOp.parse)).2, 1 ≤ o.1 := by
    intro o ho
    rcases houts o ho with h | h
    · exact h.2
    · exact absurd ⟨o, ho, h⟩ hno
  have h1 := length_le_sum_of_pos _ hpos
  rw [Wrapped.runW_length, List.length_map] at h1
  obtain ⟨-, l2, -⟩ := Wrapped.runG_parse_log fs (⟨r0, s0⟩, Ghost.init)
  obtain ⟨-, -, -, -, c5, -, c7⟩ := C08_history k raw s0 h0 r0 (fs.map WOp.parse)
  rw [curSrc_map_parse] at c7
  have h2 := congrArg List.length c7
  simp only [List.length_append] at h2
  have h3 : (Ghost.init).consumed = 0 := rfl
  simp only [] at l2 c5
  omega

/-! ### why the class cannot be larger in this reader model -/

def cfgS : BufCfg := { shrinkSize := 1, bufferSize := 4, windowSize := 4, blockSize := 4 }

/-- A script whose io.EOF response may leave more than one byte behind is NOT chunk-independent:
    the response `(5, 1)` = "up to 5 bytes and io.EOF" is offered a 4-byte slice by an empty
    4-byte buffer, hands out 4 of its 5 bytes and still says io.EOF, so `ReadFrom` stops with one
    byte left in the reader and reports io.EOF instead of `ErrFullBuffer`; the same payload read
    through an error-free script gives `(4, ErrFullBuffer)`. Both keep the same 4 bytes. (A real
    `io.Reader` would not say io.EOF there; the model's responses carry a fixed code.) -/
theorem eof_response_depends_on_room :
    ((PBuf.init cfgS).readFrom ⟨[1, 2, 3, 4, 5], [(5, 1)]⟩).2.2 = (4, .eof) ∧
    ((PBuf.init cfgS).readFrom ⟨[1, 2, 3, 4, 5], [(5, 0), (5, 0), (5, 0), (5, 0), (5, 0)]⟩).2.2
      = (4, .full) := by
  constructor <;>
  simp [readFrom, readLoop, init, grow, cfgS, Facts.margin, Facts.chunkSize, Facts.growMin, min3,
    errOfCode]

end LZ

#print axioms LZ.truthR_readFrom
#print axioms LZ.truthful_truthR
#print axioms LZ.C08_wrap_chunking_eof
#print axioms LZ.C08_chunking_independent_eof
#print axioms LZ.C08_complete_eof
#print axioms LZ.C08_eof_reached
#print axioms LZ.eof_response_depends_on_room
