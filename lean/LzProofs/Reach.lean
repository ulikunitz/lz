/-
  The states a parser can reach.  `Reachable s0 s` (LzProofs/ResetProps.lean) for `s0` returned by
  `NewParser`: `Base` collects what then holds of `s` whatever the kind (`Reachable.base`), and
  `Reachable.keeps` is the induction over reachable states (`Reachable.induct`, ResetProps.lean) with
  `Base` at hand in the step.
-/
import LzProofs.SafeTables
import LzProofs.ResetProps
import LzProofs.GlueProps
namespace LZ

/-- What holds in every state of every history of a parser `NewParser` returned as `s0`, whatever
    the kind: kind and configurations are those of `s0`, `W` lies inside the buffer, the buffer has
    room, the static bounds, the search structure has the variant and table sizes of a fresh one,
    and OSAP's edge table was computed for a prefix of the buffer. -/
structure Base (k : Kind) (s0 s : Parser) : Prop where
  kind : s.kind = k
  cfg : s.cfg = s0.cfg
  bcfg : s.buf.cfg = s0.buf.cfg
  hw : s.buf.w ≤ s.buf.data.length
  room : Room s.buf
  mm : 1 ≤ s.minMatch
  bs : 1 ≤ s.buf.cfg.blockSize
  shape : DictShape k s0.cfg s.dict
  tables : TablesOK s.dict
  osap : ∀ o, s.dict = .osap o →
    OsapOK s.buf.data s.buf.w s.buf.cfg.windowSize s.cfg.maxMatchLen.toNat o

theorem Reachable.step {s0 s : Parser} (h : Reachable s0 s) (op : POp) :
    Reachable s0 (stepP s op) :=
  stepP_eq s op ▸ h.stepOut op

theorem Reachable.base {k : Kind} {raw : Cfg} {s0 s : Parser} (h0 : newParser k raw = some s0)
    (h : Reachable s0 s) : Base k s0 s := by
  have hR := reachable_rinv k raw s0 h0 s h
  obtain ⟨ops, rfl⟩ := (reachable_iff_runOps s0 s).1 h
  have hI := history_inv_all k raw s0 h0 ops
  obtain ⟨-, hmm, hbs⟩ := newParser_inv k raw s0 h0
  exact { kind := hI.kind, cfg := hI.cfg, bcfg := hI.bcfg, hw := hI.hw, room := hR.buf
          mm := by rw [minMatch_eq, hI.kind, hI.cfg]; exact hmm
          bs := by rw [hI.bcfg]; exact hbs
          shape := hR.dict, tables := C16_tables_reachable k raw s0 h0 ops
          osap := fun o ho => (hI.dict.osap ho).2 }

/-- `Reachable.induct` for a parser made by `NewParser`: the step may use `Base` -/
theorem Reachable.keeps {k : Kind} {raw : Cfg} {s0 : Parser} (h0 : newParser k raw = some s0)
    (P : Parser → Prop) (init : P s0) (keeps : ∀ s op, Base k s0 s → P s → P (stepP s op))
    {s : Parser} (h : Reachable s0 s) : P s :=
  h.induct init fun s op hr => stepP_eq s op ▸ keeps s op (hr.base h0)

theorem newParser_verify {k : Kind} {raw : Cfg} {s0 : Parser} (h0 : newParser k raw = some s0) :
    verify k s0.cfg = true := by
  obtain ⟨hv, rfl⟩ := newParser_eq_some h0
  exact hv

end LZ
#print axioms LZ.Reachable.base
#print axioms LZ.Reachable.keeps
