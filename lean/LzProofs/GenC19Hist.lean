/-
  Property C19 (maximality of the emitted matches) about the TRANSLATION of the Go text of the
  hash parsers HP, BHP, DHP, BDHP.

  The maximality clauses are proved at history level on the model (LzProofs/C19Hist.lean:
  `C19_maximal_reachable_log`, per call `C19_right_maximal_reachable`, `C19_left_maximal_reachable`).  The history
  theorems `gen_hp_history` / `gen_bhp_history` / `gen_dhp_history` / `gen_bdhp_history` say that every value the translated functions
  return is the model's and that the bookkeeping `ghostRun` — computed from the Go calls and the Go results alone, the
  blocks read through `ofBlock` — is the model's ghost.  Hence:

    C19_go_text_hp, C19_go_text_dhp    every event of the log of every history of translated calls satisfies
        `EventMax g.fed false BlockSize` (C19Hist): the block `(n, flags, ofBlock blk')` returned by the translated
        `Parse` at stream position `pos` saw a block prefix ending at `lim` (`pos + n ≤ lim ≤ pos + BlockSize`,
        `lim ≤ |fed|`, `lim = pos + n` without `NoTrailingLiterals`) and every match of it lies inside that prefix,
        has `1 ≤ Offset ≤` its stream position, and ends at `lim` or before a byte of the stream `fed` that differs from the
        byte `Offset` back (`SeqMaxStream`): RIGHT-MAXIMAL w.r.t. the bytes fed.
    C19_go_text_bhp, C19_go_text_bdhp  `EventMax g.fed true BlockSize`: in addition LEFT-MAXIMAL — no literal is pending
        before the match, or its source starts at the first byte the buffer held at the time of the call (`base`), or the
        bytes of `fed` before the match and before its source differ.
    C19_right_go_text_hp / _bhp / _dhp / _bdhp, C19_left_go_text_bhp / _bdhp   the two clauses spelled out without `EventMax`
        (the statements of `C19_right_maximal_reachable_log`, `C19_left_maximal_reachable_log`).
  `g = ghostRun Ghost.init ops rs`; the log holds the blocks since the last successful `Reset`, and histories are
  prefix-closed, so EVERY block the translated `Parse` returns in any history is covered (it is the last event of the
  log of the history that ends with its call).  The statements mention the translated functions, `ghostRun` / `ofBlock`
  and the predicates of C19Hist on streams of bytes; no `Parser`, `runOps`, `POp`.
  Not transported: the third clause of C19 (`Parser.LongestNearest`: the candidates of a probe live in the search
  structure of the model state; a Go-text statement needs the tables through `ofHash`).
-/
import LzProofs.C19Hist
import LzProofs.GenBHPHistRun
import LzProofs.GenDHPHistRun
import LzProofs.GenBDHPHistRun

set_option linter.unusedSimpArgs false
set_option linter.unusedVariables false

namespace LZ.GenC19Hist
open LZ LZ.Gen LZ.GenBuf LZ.GenHash LZ.GenHPParse LZ.GenBHPParse LZ.GenDHPParse LZ.GenBDHPParse LZ.GenProps
open LZ.GenHPHist (GOp GOp.WF ghostRun)

/-- the right clause of `EventMax`, spelled out (the event predicate of `C19_right_maximal_reachable_log`) -/
def EventRightMax (fed : List Byte) (bs : Nat) (pos : Nat) (e : Event) : Prop :=
  ∀ n fl blk, e = .block n fl blk →
    ∃ lim, pos + n ≤ lim ∧ lim ≤ pos + bs ∧ lim ≤ fed.length ∧
      ((fl % 2 = 0 ∨ blk.seqs = []) → lim = pos + n) ∧
      SeqsAll (fun q sq => q + sq.litLen + sq.matchLen ≤ lim ∧
        (q + sq.litLen + sq.matchLen = lim ∨
          fed[q + sq.litLen + sq.matchLen]? ≠ fed[q + sq.litLen + sq.matchLen - sq.offset]?)) pos blk.seqs

/-- the left clause of `EventMax`, spelled out (the event predicate of `C19_left_maximal_reachable_log`) -/
def EventLeftMax (fed : List Byte) (pos : Nat) (e : Event) : Prop :=
  ∀ n fl blk, e = .block n fl blk →
    ∃ base, base ≤ pos ∧
      SeqsAll (fun q sq => sq.litLen = 0 ∨ sq.offset = q + sq.litLen - base ∨
        fed[q + sq.litLen - 1]? ≠ fed[q + sq.litLen - 1 - sq.offset]?) pos blk.seqs

theorem eventMax_right {fed : List Byte} {back : Bool} {bs pos : Nat} {e : Event} (h : EventMax fed back bs pos e) :
    EventRightMax fed bs pos e := by
  intro n fl blk heq
  subst heq
  obtain ⟨base, lim, -, b2, b3, b4, b5, b6⟩ := h
  exact ⟨lim, b2, b3, b4, b5, SeqsAll.mono (fun q sq h => ⟨h.1, h.2.2.2.1⟩) _ _ b6⟩

theorem eventMax_left {fed : List Byte} {bs pos : Nat} {e : Event} (h : EventMax fed true bs pos e) :
    EventLeftMax fed pos e := by
  intro n fl blk heq
  subst heq
  obtain ⟨base, lim, b1, -, -, -, -, b6⟩ := h
  exact ⟨base, b1, SeqsAll.mono (fun q sq h => h.2.2.2.2 rfl) _ _ b6⟩

/-- `C19_maximal_reachable_log` for a ghost known to be the model's after some history from `NewParser` -/
theorem C19_ghost {k : Kind} (hne : k ≠ .OSAP) {raw : Cfg} {p : Parser} (hp : newParser k raw = some p) (back : Bool)
    (hb : back = true → k = .BHP ∨ k = .BDHP) {mops : List POp} {g : Ghost}
    (hg : g = (runOps (p, Ghost.init) mops).2) : LogAll (EventMax g.fed back p.buf.cfg.blockSize) 0 g.log := by
  subst hg; exact C19_maximal_reachable_log k hne raw p hp back hb mops

/-! ## HP -/

/-- C19 about the Go text of HP (right-maximality w.r.t. the bytes fed; `EventMax … false`) -/
theorem C19_go_text_hp (cfg : Gen.HPConfig) (s0 : Gen.hashParser)
    (hinit : hashParser_init default cfg = Res.ok (s0, Gen.Err.ok))
    (grow : Nat → Nat → Nat) (fuel : Nat)
    (hfuel : s0.hashDictionary.ParserBuffer.BufConfig.BufferSize.toNat + 3 ≤ fuel)
    (ops : List GOp) (hwf : ∀ op ∈ ops, op.WF) :
    ∃ t rs, GenHPHist.runG grow fuel s0 ops = Res.ok (t, rs) ∧
      let g := ghostRun Ghost.init ops rs
      LogAll (EventMax g.fed false s0.hashDictionary.ParserBuffer.BufConfig.BlockSize.toNat) 0 g.log := by
  obtain ⟨p, t, rs, hp, h0, h1, -, -, h4, -⟩ := GenHPHist.gen_hp_history cfg s0 hinit grow fuel hfuel ops hwf
  subst h0
  exact ⟨t, rs, h1, C19_ghost (k := .HP) (by decide) hp false (by simp) h4⟩

theorem C19_right_go_text_hp (cfg : Gen.HPConfig) (s0 : Gen.hashParser)
    (hinit : hashParser_init default cfg = Res.ok (s0, Gen.Err.ok))
    (grow : Nat → Nat → Nat) (fuel : Nat)
    (hfuel : s0.hashDictionary.ParserBuffer.BufConfig.BufferSize.toNat + 3 ≤ fuel)
    (ops : List GOp) (hwf : ∀ op ∈ ops, op.WF) :
    ∃ t rs, GenHPHist.runG grow fuel s0 ops = Res.ok (t, rs) ∧
      let g := ghostRun Ghost.init ops rs
      LogAll (EventRightMax g.fed s0.hashDictionary.ParserBuffer.BufConfig.BlockSize.toNat) 0 g.log := by
  obtain ⟨t, rs, h1, h2⟩ := C19_go_text_hp cfg s0 hinit grow fuel hfuel ops hwf
  exact ⟨t, rs, h1, LogAll.mono (fun pos e he => eventMax_right he) _ _ h2⟩

/-! ## BHP -/

/-- C19 about the Go text of BHP (right- and left-maximality w.r.t. the bytes fed; `EventMax … true`); `lcs` is
    the opaque callee of the translation of bhp.go under `LcsSpec` -/
theorem C19_go_text_bhp (cfg : Gen.BHPConfig) (s0 : Gen.backwardHashParser)
    (hinit : backwardHashParser_init default cfg = Res.ok (s0, Gen.Err.ok))
    (grow : Nat → Nat → Nat) (fuel : Nat) (lcs : Slice → Slice → Int) (hlcs : LcsSpec lcs)
    (hfuel : 2 * s0.hashDictionary.ParserBuffer.BufConfig.BufferSize.toNat + 3 ≤ fuel)
    (ops : List GOp) (hwf : ∀ op ∈ ops, op.WF) :
    ∃ t rs, GenBHPHist.runG grow fuel lcs s0 ops = Res.ok (t, rs) ∧
      let g := ghostRun Ghost.init ops rs
      LogAll (EventMax g.fed true s0.hashDictionary.ParserBuffer.BufConfig.BlockSize.toNat) 0 g.log := by
  obtain ⟨p, t, rs, hp, h0, h1, -, -, h4, -⟩ :=
    GenBHPHist.gen_bhp_history cfg s0 hinit grow fuel lcs hlcs hfuel ops hwf
  subst h0
  exact ⟨t, rs, h1, C19_ghost (k := .BHP) (by decide) hp true (fun _ => Or.inl rfl) h4⟩

theorem C19_right_go_text_bhp (cfg : Gen.BHPConfig) (s0 : Gen.backwardHashParser)
    (hinit : backwardHashParser_init default cfg = Res.ok (s0, Gen.Err.ok))
    (grow : Nat → Nat → Nat) (fuel : Nat) (lcs : Slice → Slice → Int) (hlcs : LcsSpec lcs)
    (hfuel : 2 * s0.hashDictionary.ParserBuffer.BufConfig.BufferSize.toNat + 3 ≤ fuel)
    (ops : List GOp) (hwf : ∀ op ∈ ops, op.WF) :
    ∃ t rs, GenBHPHist.runG grow fuel lcs s0 ops = Res.ok (t, rs) ∧
      let g := ghostRun Ghost.init ops rs
      LogAll (EventRightMax g.fed s0.hashDictionary.ParserBuffer.BufConfig.BlockSize.toNat) 0 g.log := by
  obtain ⟨t, rs, h1, h2⟩ := C19_go_text_bhp cfg s0 hinit grow fuel lcs hlcs hfuel ops hwf
  exact ⟨t, rs, h1, LogAll.mono (fun pos e he => eventMax_right he) _ _ h2⟩

theorem C19_left_go_text_bhp (cfg : Gen.BHPConfig) (s0 : Gen.backwardHashParser)
    (hinit : backwardHashParser_init default cfg = Res.ok (s0, Gen.Err.ok))
    (grow : Nat → Nat → Nat) (fuel : Nat) (lcs : Slice → Slice → Int) (hlcs : LcsSpec lcs)
    (hfuel : 2 * s0.hashDictionary.ParserBuffer.BufConfig.BufferSize.toNat + 3 ≤ fuel)
    (ops : List GOp) (hwf : ∀ op ∈ ops, op.WF) :
    ∃ t rs, GenBHPHist.runG grow fuel lcs s0 ops = Res.ok (t, rs) ∧
      let g := ghostRun Ghost.init ops rs
      LogAll (EventLeftMax g.fed) 0 g.log := by
  obtain ⟨t, rs, h1, h2⟩ := C19_go_text_bhp cfg s0 hinit grow fuel lcs hlcs hfuel ops hwf
  exact ⟨t, rs, h1, LogAll.mono (fun pos e he => eventMax_left he) _ _ h2⟩

/-! ## DHP -/

/-- C19 about the Go text of DHP (right-maximality w.r.t. the bytes fed; `EventMax … false`) -/
theorem C19_go_text_dhp (cfg : Gen.DHPConfig) (s0 : Gen.doubleHashParser)
    (hinit : doubleHashParser_init default cfg = Res.ok (s0, Gen.Err.ok))
    (grow : Nat → Nat → Nat) (fuel : Nat)
    (hfuel : 2 * s0.doubleHashDictionary.ParserBuffer.BufConfig.BufferSize.toNat + 3 ≤ fuel)
    (ops : List GOp) (hwf : ∀ op ∈ ops, op.WF) :
    ∃ t rs, GenDHPHist.runG grow fuel s0 ops = Res.ok (t, rs) ∧
      let g := ghostRun Ghost.init ops rs
      LogAll (EventMax g.fed false s0.doubleHashDictionary.ParserBuffer.BufConfig.BlockSize.toNat) 0 g.log := by
  obtain ⟨p, t, rs, hp, h0, h1, -, -, h4, -⟩ := GenDHPHist.gen_dhp_history cfg s0 hinit grow fuel hfuel ops hwf
  subst h0
  exact ⟨t, rs, h1, C19_ghost (k := .DHP) (by decide) hp false (by simp) h4⟩

theorem C19_right_go_text_dhp (cfg : Gen.DHPConfig) (s0 : Gen.doubleHashParser)
    (hinit : doubleHashParser_init default cfg = Res.ok (s0, Gen.Err.ok))
    (grow : Nat → Nat → Nat) (fuel : Nat)
    (hfuel : 2 * s0.doubleHashDictionary.ParserBuffer.BufConfig.BufferSize.toNat + 3 ≤ fuel)
    (ops : List GOp) (hwf : ∀ op ∈ ops, op.WF) :
    ∃ t rs, GenDHPHist.runG grow fuel s0 ops = Res.ok (t, rs) ∧
      let g := ghostRun Ghost.init ops rs
      LogAll (EventRightMax g.fed s0.doubleHashDictionary.ParserBuffer.BufConfig.BlockSize.toNat) 0 g.log := by
  obtain ⟨t, rs, h1, h2⟩ := C19_go_text_dhp cfg s0 hinit grow fuel hfuel ops hwf
  exact ⟨t, rs, h1, LogAll.mono (fun pos e he => eventMax_right he) _ _ h2⟩

/-! ## BDHP -/

/-- C19 about the Go text of BDHP (right- and left-maximality w.r.t. the bytes fed; `EventMax … true`); `lcs` is
    the opaque callee of the translation of bdhp.go under `LcsSpec` -/
theorem C19_go_text_bdhp (cfg : Gen.BDHPConfig) (s0 : Gen.bdhp)
    (hinit : bdhp_init default cfg = Res.ok (s0, Gen.Err.ok))
    (grow : Nat → Nat → Nat) (fuel : Nat) (lcs : Slice → Slice → Int) (hlcs : LcsSpec lcs)
    (hfuel : 2 * s0.doubleHashDictionary.ParserBuffer.BufConfig.BufferSize.toNat + 3 ≤ fuel)
    (ops : List GOp) (hwf : ∀ op ∈ ops, op.WF) :
    ∃ t rs, GenBDHPHist.runG grow fuel lcs s0 ops = Res.ok (t, rs) ∧
      let g := ghostRun Ghost.init ops rs
      LogAll (EventMax g.fed true s0.doubleHashDictionary.ParserBuffer.BufConfig.BlockSize.toNat) 0 g.log := by
  obtain ⟨p, t, rs, hp, h0, h1, -, -, h4, -⟩ :=
    GenBDHPHist.gen_bdhp_history cfg s0 hinit grow fuel lcs hlcs hfuel ops hwf
  subst h0
  exact ⟨t, rs, h1, C19_ghost (k := .BDHP) (by decide) hp true (fun _ => Or.inr rfl) h4⟩

theorem C19_right_go_text_bdhp (cfg : Gen.BDHPConfig) (s0 : Gen.bdhp)
    (hinit : bdhp_init default cfg = Res.ok (s0, Gen.Err.ok))
    (grow : Nat → Nat → Nat) (fuel : Nat) (lcs : Slice → Slice → Int) (hlcs : LcsSpec lcs)
    (hfuel : 2 * s0.doubleHashDictionary.ParserBuffer.BufConfig.BufferSize.toNat + 3 ≤ fuel)
    (ops : List GOp) (hwf : ∀ op ∈ ops, op.WF) :
    ∃ t rs, GenBDHPHist.runG grow fuel lcs s0 ops = Res.ok (t, rs) ∧
      let g := ghostRun Ghost.init ops rs
      LogAll (EventRightMax g.fed s0.doubleHashDictionary.ParserBuffer.BufConfig.BlockSize.toNat) 0 g.log := by
  obtain ⟨t, rs, h1, h2⟩ := C19_go_text_bdhp cfg s0 hinit grow fuel lcs hlcs hfuel ops hwf
  exact ⟨t, rs, h1, LogAll.mono (fun pos e he => eventMax_right he) _ _ h2⟩

theorem C19_left_go_text_bdhp (cfg : Gen.BDHPConfig) (s0 : Gen.bdhp)
    (hinit : bdhp_init default cfg = Res.ok (s0, Gen.Err.ok))
    (grow : Nat → Nat → Nat) (fuel : Nat) (lcs : Slice → Slice → Int) (hlcs : LcsSpec lcs)
    (hfuel : 2 * s0.doubleHashDictionary.ParserBuffer.BufConfig.BufferSize.toNat + 3 ≤ fuel)
    (ops : List GOp) (hwf : ∀ op ∈ ops, op.WF) :
    ∃ t rs, GenBDHPHist.runG grow fuel lcs s0 ops = Res.ok (t, rs) ∧
      let g := ghostRun Ghost.init ops rs
      LogAll (EventLeftMax g.fed) 0 g.log := by
  obtain ⟨t, rs, h1, h2⟩ := C19_go_text_bdhp cfg s0 hinit grow fuel lcs hlcs hfuel ops hwf
  exact ⟨t, rs, h1, LogAll.mono (fun pos e he => eventMax_left he) _ _ h2⟩

end LZ.GenC19Hist

#print axioms LZ.GenC19Hist.C19_go_text_hp
#print axioms LZ.GenC19Hist.C19_right_go_text_hp
#print axioms LZ.GenC19Hist.C19_go_text_bhp
#print axioms LZ.GenC19Hist.C19_right_go_text_bhp
#print axioms LZ.GenC19Hist.C19_left_go_text_bhp
#print axioms LZ.GenC19Hist.C19_go_text_dhp
#print axioms LZ.GenC19Hist.C19_right_go_text_dhp
#print axioms LZ.GenC19Hist.C19_go_text_bdhp
#print axioms LZ.GenC19Hist.C19_right_go_text_bdhp
#print axioms LZ.GenC19Hist.C19_left_go_text_bdhp
