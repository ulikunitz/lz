/-
  LzProofs.RunsEval — a kernel-evaluable copy `Parser.parseF` of `Parser.parse` (the well-founded
  `greedyLoop` replaced by the fuel-based `greedyLoopF` of LzProofs/ParseEval.lean), proved equal to
  `Parser.parse`.  With it, histories that CONTAIN `Parse` calls can be evaluated inside the kernel
  (`decide`) — used by the witnesses of LzProofs/RunsBdhp.lean and LzProofs/RunsGsapCex.lean.
-/
import LzProofs.SafeProps
namespace LZ
open PBuf

namespace Parser

/-- verbatim copy of `Parser.parse` (LzModel/Parser.lean) with `runGreedyF` for `runGreedy` -/
def parseF (s : Parser) (flags : Nat) : Parser × Nat × Err × Block :=
  let n := s.blockN
  if n = 0 then (s, 0, .empty, ⟨[], []⟩)
  else
    let w := s.buf.w
    let data := s.buf.data
    let p := data.take (w + n)
    let ws := s.buf.cfg.windowSize
    let mm := s.minMatch
    let il : Nat := match s.dict with
      | .single h => h.inputLen | .double d => d.h1.inputLen | .bucket bk => bk.inputLen
      | _ => 0
    if il ≠ 0 ∧ (s.buf.cap : Int) < (p.length : Int) - il + 1 + Facts.margin then
      (s, 0, .panic, ⟨[], []⟩)
    else
    match s.dict with
    | .single h =>
      let h := processSegment1 h data ((w : Int) - h.inputLen + 1) w
      let inputEnd := p.length + 1 - h.inputLen
      let (h', w', blk, _) := runGreedyF ⟨hpProbe ws mm inputEnd (s.kind == .BHP)⟩ h p w inputEnd flags
      ({ s with buf := { s.buf with w := w' }, dict := .single h' }, w' - w, .ok, blk)
    | .double d =>
      let (h1, h2) := processSegment2 d.h1 d.h2 data ((w : Int) - d.h2.inputLen + 1) w
      let e1 := p.length + 1 - h1.inputLen
      let e2 := p.length + 1 - h2.inputLen
      let (d', w', blk, _) := runGreedyF ⟨dhpProbe ws mm e1 e2 (s.kind == .BDHP)⟩ ⟨h1, h2⟩ p w e1 flags
      ({ s with buf := { s.buf with w := w' }, dict := .double d' }, w' - w, .ok, blk)
    | .bucket bk =>
      let bk := processSegmentB bk data ((w : Int) - bk.inputLen + 1) w
      let inputEnd := p.length + 1 - bk.inputLen
      let (bk', w', blk, _) := runGreedyF ⟨bupProbe ws mm inputEnd⟩ bk p w inputEnd flags
      ({ s with buf := { s.buf with w := w' }, dict := .bucket bk' }, w' - w, .ok, blk)
    | .gsap g =>
      let g := if w + n > g.sa.size then gsapSort data w else g
      let (g', w', blk, li) := runGreedyF ⟨gsapProbe ws mm⟩ g p w p.length flags
      let g' := if flags % 2 = 1 ∧ blk.seqs ≠ [] ∧ li < p.length then { g' with sa := #[] } else g'
      ({ s with buf := { s.buf with w := w' }, dict := .gsap g' }, w' - w, .ok, blk)
    | .osap o =>
      let o := if w + n > o.start + o.edges.size then
          computeEdges data w ws mm s.cfg.maxMatchLen.toNat
        else o
      if o.nEdges = 0 then
        ({ s with buf := { s.buf with w := w + n }, dict := .osap o }, n, .ok,
         ⟨[], (data.drop w).take n⟩)
      else
        let path := shortestPath mm n o.edges (w - o.start)
        let (seqs, lits, _, li) := pathToSeqs p path w w [] []
        let (w', blk) :=
          if flags % 2 = 1 ∧ seqs ≠ [] then (li, (⟨seqs, lits⟩ : Block))
          else (p.length, ⟨seqs, lits ++ p.drop li⟩)
        ({ s with buf := { s.buf with w := w' }, dict := .osap o }, w' - w, .ok, blk)

theorem parse_eq_parseF (s : Parser) (flags : Nat) : s.parse flags = s.parseF flags := by
  unfold parse parseF
  simp only [runGreedy_eq_F]
  rfl

end Parser

/-- `stepP` with `parseF` -/
def stepPF (s : Parser) : POp → Parser
  | .write p => (s.write p).1
  | .readFrom r => (s.readFrom r).1
  | .parse flags => (s.parseF flags).1
  | .parseNil => s.parseNil.1
  | .shrink => s.shrink.1
  | .reset data capExtra => (s.reset data capExtra).1

theorem stepP_eq_F (s : Parser) (op : POp) : stepP s op = stepPF s op := by
  cases op <;> simp only [stepP, stepPF, Parser.parse_eq_parseF]

/-- the parser state after a history, in kernel-evaluable form -/
theorem runOps_fst_F (s0 : Parser) (ops : List POp) :
    (runOps (s0, Ghost.init) ops).1 = ops.foldl stepPF s0 := by
  rw [runOps_fst]
  show ops.foldl stepP s0 = _
  have : stepP = stepPF := by funext s op; exact stepP_eq_F s op
  rw [this]

end LZ
