/-
  LzProofs.BitsetProps — the word-level bitset model `LZ.BitsetW` (LzModel/BitsetW.lean, a
  transcription of bitset.go including the backing array, its capacity and its stale contents)
  refines the set-level model `LZ.BitsetM` (LzModel/Bitset.lean).

  Abstraction:   `members b`  — ascending list of all `i` with `mem b i`
                 `mem b i`    — bit `i % 64` of word `a[i/64 - off]` is set (and the word exists)
  Invariant:     `WInv b`     — `len(a) ≤ cap(a)`; NOTHING is assumed about the contents of the
                                backing array, in particular not about the stale words at and
                                behind position `len(a)`.
-/
import LzProofs.BitsetLemmas
import LzModel.Driver
namespace LZ
namespace BitsetW

/-! ## abstraction and invariant -/

theorem members_mem (b : BitsetW) (i : Nat) : i ∈ members b ↔ mem b i := mem_members

/-- so `members b` is a legal `BitsetM` value -/
theorem members_ascending (b : BitsetW) : (members b).Pairwise (· < ·) := members_sorted b

/-- states that the Go code can produce -/
inductive Reachable : BitsetW → Prop
  | empty : Reachable BitsetW.empty
  | insert {b b' : BitsetW} (is : List Nat) : Reachable b → b.insert is = some b' → Reachable b'
  | clear {b : BitsetW} : Reachable b → Reachable b.clear

theorem empty_inv : WInv BitsetW.empty := Nat.le_refl _

theorem empty_members : members BitsetW.empty = [] := rfl

/-! ## insert -/

/-- `support(min,max)` (current code) keeps the invariant and does not change the set, whatever
    the backing array contains -/
theorem support_refines (b : BitsetW) (hb : WInv b) (mn mx : Nat) :
    WInv (b.support mn mx) ∧ members (b.support mn mx) = members b :=
  ⟨support_inv b hb mn mx,
   sorted_ext (members_sorted _) (members_sorted _)
     (fun x => by rw [mem_members, mem_members, support_mem b hb])⟩

/-- `insert` never panics (no index out of range), keeps the invariant, and the new set is the
    one computed by the set-level model. -/
theorem insert_refines (b : BitsetW) (hb : WInv b) (is : List Nat) :
    ∃ b', b.insert is = some b' ∧ WInv b' ∧
      BitsetM.insert ⟨members b⟩ is = some ⟨members b'⟩ := by
  obtain ⟨b', e, inv', hm⟩ := insert_spec b hb is
  refine ⟨b', e, inv', ?_⟩
  unfold BitsetM.insert
  simp only [Option.some.injEq, BitsetM.mk.injEq]
  apply sorted_ext (sorted_foldl_insertOne is _ (members_sorted b)) (members_sorted b')
  intro x
  rw [mem_foldl_insertOne, mem_members, mem_members, hm]

theorem reachable_inv {b : BitsetW} (h : Reachable b) : WInv b := by
  induction h with
  | empty => exact empty_inv
  | insert is _ e ih =>
    obtain ⟨b', e', inv', _⟩ := insert_refines _ ih is
    rw [e] at e'; cases e'; exact inv'
  | clear _ _ => exact Nat.zero_le _

theorem insert_refines_reachable {b : BitsetW} (hr : Reachable b) (is : List Nat) :
    ∃ b', b.insert is = some b' ∧ Reachable b' ∧
      BitsetM.insert ⟨members b⟩ is = some ⟨members b'⟩ := by
  obtain ⟨b', e, _, h⟩ := insert_refines b (reachable_inv hr) is
  exact ⟨b', e, .insert is hr e, h⟩

theorem insert_members (b : BitsetW) (hb : WInv b) (is : List Nat) :
    ∃ b', b.insert is = some b' ∧ WInv b' ∧
      members b' = is.foldl BitsetM.insertOne (members b) := by
  obtain ⟨b', e, inv', h⟩ := insert_refines b hb is
  refine ⟨b', e, inv', ?_⟩
  simp only [BitsetM.insert, Option.some.injEq, BitsetM.mk.injEq] at h
  exact h.symm

/-! ## clear and the queries -/

theorem clear_refines (b : BitsetW) :
    WInv b.clear ∧ members b.clear = (BitsetM.clear ⟨members b⟩).members :=
  ⟨Nat.zero_le _, rfl⟩

/-- the capacity and the (now stale) contents of the backing array survive `clear` -/
theorem clear_keeps_backing (b : BitsetW) : b.clear.backing = b.backing ∧ b.clear.cap = b.cap :=
  ⟨rfl, rfl⟩

theorem memberBefore_refines (b : BitsetW) (i : Nat) :
    b.memberBefore i = BitsetM.memberBefore ⟨members b⟩ i :=
  (memberBefore_isPred b i).unique
    ((model_before_isPred (members_sorted b) i).congr fun _ => by rw [mem_members])

theorem memberAfter_refines (b : BitsetW) (i : Nat) :
    b.memberAfter i = BitsetM.memberAfter ⟨members b⟩ i :=
  (memberAfter_isGE b i).unique
    ((model_after_isGE (members_sorted b) i).congr fun _ => by rw [mem_members])

theorem slice_refines (b : BitsetW) : b.slice = BitsetM.slice ⟨members b⟩ :=
  slice_eq_members b

theorem memberBefore_spec (b : BitsetW) (i : Nat) :
    match b.memberBefore i with
    | none => ∀ x, mem b x → ¬ x < i
    | some j => mem b j ∧ j < i ∧ ∀ x, mem b x → x < i → x ≤ j := by
  have := memberBefore_isPred b i
  cases h : b.memberBefore i <;> simpa [h, IsPred] using this

theorem memberAfter_spec (b : BitsetW) (i : Nat) :
    match b.memberAfter i with
    | none => ∀ x, mem b x → ¬ i < x
    | some j => mem b j ∧ i < j ∧ ∀ x, mem b x → i < x → j ≤ x := by
  have := memberAfter_isGE b i
  cases h : b.memberAfter i <;> simp only [h, IsGE] at this ⊢
  · intro x hx hlt; exact this x hx hlt
  · exact ⟨this.1, this.2.1, fun x hx hlt => this.2.2 x hx hlt⟩

/-! ## histories -/

/-- operations and answers of the bitset machine -/
inductive Op where
  | ins (l : List Nat) | clear | before (i : Nat) | after (i : Nat) | slice
deriving Repr

inductive Ans where
  | ok | panic | found (o : Option Nat) | list (l : List Nat)
deriving Repr, DecidableEq

def stepW (b : BitsetW) : Op → BitsetW × Ans
  | .ins l => match b.insert l with
    | some b' => (b', .ok)
    | none => (b, .panic)
  | .clear => (b.clear, .ok)
  | .before i => (b, .found (b.memberBefore i))
  | .after i => (b, .found (b.memberAfter i))
  | .slice => (b, .list b.slice)

def stepM (m : BitsetM) : Op → BitsetM × Ans
  | .ins l => match m.insert l with
    | some m' => (m', .ok)
    | none => (m, .panic)
  | .clear => (m.clear, .ok)
  | .before i => (m, .found (m.memberBefore i))
  | .after i => (m, .found (m.memberAfter i))
  | .slice => (m, .list m.slice)

def runW (b : BitsetW) : List Op → List Ans
  | [] => []
  | op :: ops => (stepW b op).2 :: runW (stepW b op).1 ops

def runM (m : BitsetM) : List Op → List Ans
  | [] => []
  | op :: ops => (stepM m op).2 :: runM (stepM m op).1 ops

/-- the refinement relation -/
def Refines (b : BitsetW) (m : BitsetM) : Prop := WInv b ∧ m = ⟨members b⟩

theorem step_refines {b : BitsetW} {m : BitsetM} (h : Refines b m) (op : Op) :
    (stepW b op).2 = (stepM m op).2 ∧ Refines (stepW b op).1 (stepM m op).1 := by
  obtain ⟨hb, rfl⟩ := h
  cases op with
  | ins l =>
    obtain ⟨b', e, inv', em⟩ := insert_refines b hb l
    refine ⟨by simp only [stepW, stepM, e, em], ?_⟩
    simp only [stepW, stepM, e, em]
    exact ⟨inv', rfl⟩
  | clear => exact ⟨rfl, (clear_refines b).1, rfl⟩
  | before i => exact ⟨by simp only [stepW, stepM, memberBefore_refines], hb, rfl⟩
  | after i => exact ⟨by simp only [stepW, stepM, memberAfter_refines], hb, rfl⟩
  | slice => exact ⟨by simp only [stepW, stepM, slice_refines], hb, rfl⟩

theorem run_refines {b : BitsetW} {m : BitsetM} (h : Refines b m) (ops : List Op) :
    runW b ops = runM m ops := by
  induction ops generalizing b m with
  | nil => rfl
  | cons op ops ih =>
    obtain ⟨h1, h2⟩ := step_refines h op
    simp only [runW, runM, h1, ih h2]

/-- C12 (bitset part): for every history of operations on an initially empty bitset, the
    word-level model (= bitset.go with backing array reuse) and the set-level model `BitsetM`
    give the same answers to all operations; in particular no `insert` panics. -/
theorem C12_bitset_refines (ops : List Op) :
    runW BitsetW.empty ops = runM BitsetM.empty ops :=
  run_refines ⟨empty_inv, rfl⟩ ops

/-- the same from an arbitrary state with ARBITRARY contents of the backing array -/
theorem C12_bitset_refines_from (b : BitsetW) (hb : WInv b) (ops : List Op) :
    runW b ops = runM ⟨members b⟩ ops :=
  run_refines ⟨hb, rfl⟩ ops

/-- `insert` never answers `panic` -/
theorem C12_bitset_no_panic (ops : List Op) : Ans.panic ∉ runW BitsetW.empty ops := by
  rw [C12_bitset_refines]
  generalize BitsetM.empty = m
  induction ops generalizing m with
  | nil => simp [runM]
  | cons op ops ih =>
    simp only [runM, List.mem_cons, not_or]
    refine ⟨?_, ih _⟩
    cases op <;> simp [stepM, BitsetM.insert]

/-! ### the line protocol: `BitsetW.stepLine` against `Driver.stepBitset` -/

theorem natListP_eq (s : String) : natListP s = Driver.natList s := by
  unfold natListP Driver.natList Driver.splitOn Driver.nat!
  split <;> simp

theorem showNatsP_eq (l : List Nat) : showNatsP l = Driver.showNats l := rfl

/-- the `BitsetM` inside a driver machine -/
def machineSet (d : BitsetM) : Driver.Machine → BitsetM
  | .bitset m => m
  | _ => d

def linesW (b : BitsetW) : List (List String) → List String
  | [] => []
  | ws :: rest => (stepLine b ws).2 :: linesW (stepLine b ws).1 rest

def linesM (m : BitsetM) : List (List String) → List String
  | [] => []
  | ws :: rest =>
    (Driver.stepBitset m ws).2 :: linesM (machineSet m (Driver.stepBitset m ws).1) rest

theorem stepLine_refines {b : BitsetW} {m : BitsetM} (h : Refines b m) (ws : List String) :
    (stepLine b ws).2 = (Driver.stepBitset m ws).2 ∧
      Refines (stepLine b ws).1 (machineSet m (Driver.stepBitset m ws).1) := by
  obtain ⟨hb, rfl⟩ := h
  unfold stepLine Driver.stepBitset
  split
  · next l =>
    obtain ⟨b', e, inv', em⟩ := insert_refines b hb (natListP l)
    refine ⟨by simp only [← natListP_eq, e, em], ?_⟩
    simp only [← natListP_eq, e, em, machineSet]
    exact ⟨inv', rfl⟩
  · exact ⟨rfl, (clear_refines b).1, rfl⟩
  · next i =>
    refine ⟨?_, hb, rfl⟩
    simp only [memberBefore_refines, Driver.nat!]
    generalize BitsetM.memberBefore _ _ = o
    cases o <;> rfl
  · next i =>
    refine ⟨?_, hb, rfl⟩
    simp only [memberAfter_refines, Driver.nat!]
    generalize BitsetM.memberAfter _ _ = o
    cases o <;> rfl
  · exact ⟨by simp only [slice_refines, showNatsP_eq], hb, rfl⟩
  · next h1 h2 h3 h4 h5 =>
    split
    · exact absurd rfl (h1 _)
    · exact absurd rfl h2
    · exact absurd rfl (h3 _)
    · exact absurd rfl (h4 _)
    · exact absurd rfl h5
    · exact ⟨rfl, hb, rfl⟩

/-- C12 (bitset part), protocol level: on every script the hook `BitsetW.stepLine` prints
    exactly what the set-level driver machine `Driver.stepBitset` prints. -/
theorem C12_bitset_refines_lines (script : List (List String)) :
    linesW BitsetW.empty script = linesM BitsetM.empty script := by
  have : ∀ (b : BitsetW) (m : BitsetM), Refines b m → linesW b script = linesM m script := by
    induction script with
    | nil => intros; rfl
    | cons ws rest ih =>
      intro b m h
      obtain ⟨h1, h2⟩ := stepLine_refines h ws
      simp only [linesW, linesM, h1, ih _ _ h2]
  exact this _ _ ⟨empty_inv, rfl⟩

/-! ## the defect of the earlier `support` (finding D7) -/

/-- the script `insert 1000,10; clear; insert 500; insert 900; insert 100; slice` -/
def d7Script (ins : BitsetW → List Nat → Option BitsetW) : Option (List Nat) := do
  let b ← ins BitsetW.empty [1000, 10]
  let b := b.clear
  let b ← ins b [500]
  let b ← ins b [900]
  let b ← ins b [100]
  pure b.slice

/-- with the old `support` (zero `y.a[:d]`, then copy) the member 500 is lost;
    the current code answers correctly.  Kernel-checked by evaluation. -/
theorem supportOld_loses_member :
    d7Script insertOld = some [100, 900] ∧ d7Script insert = some [100, 500, 900] := by
  decide

/-- the state before the fatal `insert 100` -/
def d7s1 : BitsetW := (BitsetW.empty.insert [1000, 10]).getD BitsetW.empty
def d7s2 : BitsetW := (d7s1.clear.insert [500]).getD BitsetW.empty
def d7s3 : BitsetW := (d7s2.insert [900]).getD BitsetW.empty

theorem d7s3_reachable : Reachable d7s3 :=
  .insert [900] (.insert [500] (.clear (.insert [1000, 10] .empty (by decide : _ = some d7s1)))
    (by decide : _ = some d7s2)) (by decide : _ = some d7s3)

/-- `supportOld` does NOT preserve the set: there is a reachable state (16 words of capacity,
    `a = backing[0:8]`, `off = 7`) in which growing downwards inside the capacity drops a member.
    So `support_refines` is false for `supportOld`. -/
theorem supportOld_not_refines :
    ∃ b, Reachable b ∧ ∃ mn mx i, mem b i ∧ ¬ mem (b.supportOld mn mx) i :=
  ⟨d7s3, d7s3_reachable, 100, 100, 500, by decide, by decide⟩

/-- the defect is confined to growth DOWNWARDS (`d > 0`) inside the existing capacity: in all
    other cases the old and the current `support` return the same state -/
theorem supportOld_differs_only_downwards_in_place (b : BitsetW) (mn mx : Nat)
    (h : (supportOffD b (mn / 64)).2 = 0 ∨
      supportN b (mx / 64) (supportOffD b (mn / 64)).1 (supportOffD b (mn / 64)).2 > b.cap) :
    b.supportOld mn mx = b.support mn mx := by
  unfold supportOld support
  simp only [shr6]
  split
  · rfl
  · generalize hyd : supportOffD b (mn / 64) = yd at h
    obtain ⟨yoff, d⟩ := yd
    simp only at h ⊢
    split
    · rfl
    · next hcap =>
      rcases h with h | h
      · subst h
        simp only [zeroRange_empty]
      · exact absurd h hcap

/-- … whereas the current `support` keeps it (instance of `support_refines`) -/
example : mem (d7s3.support 100 100) 500 := by decide
example : d7s3.cap = 16 ∧ d7s3.len = 8 ∧ d7s3.off = 7 := by decide
example : (d7s3.support 100 100).cap = 16 ∧ (d7s3.support 100 100).len = 14 ∧
    (d7s3.support 100 100).off = 1 := by decide

/-! ## non-vacuity -/

/-- a state whose backing array is full of garbage behind `len(a) = 1` -/
def garbage : BitsetW :=
  { backing := #[5, 0xffffffffffffffff, 0x8000000000000001, 0xdeadbeef], len := 1, off := 2 }

example : WInv garbage := by decide
example : members garbage = [128, 130] := by decide
/-- growth downwards (`kmin = 1 < off = 2`) and upwards inside the capacity: the stale words
    become part of `a` and are zeroed -/
example : (garbage.insert [70, 200]).map members = some [70, 128, 130, 200] := by decide
example : (garbage.insert [70, 200]).map (·.cap) = some 4 := by decide
example : (BitsetM.insert ⟨members garbage⟩ [70, 200]).map (·.members) =
    some [70, 128, 130, 200] := by decide
example : garbage.memberBefore 130 = some 128 ∧ garbage.memberAfter 128 = some 130 ∧
    garbage.memberAfter 130 = none ∧ garbage.memberBefore 128 = none ∧
    garbage.memberBefore 1000 = some 130 ∧ garbage.memberAfter 0 = some 128 := by decide

example : Reachable d7s3 ∧ WInv d7s3 ∧ members d7s3 = [500, 900] :=
  ⟨d7s3_reachable, reachable_inv d7s3_reachable, by decide⟩

example : runW BitsetW.empty
    [.ins [1000, 10], .before 1000, .clear, .ins [500], .ins [900], .ins [100], .slice,
     .after 100, .before 100] =
    [.ok, .found (some 10), .ok, .ok, .ok, .ok, .list [100, 500, 900],
     .found (some 500), .found none] := by decide

-- the protocol hook, evaluated (a test, not a theorem: string functions do not reduce in the kernel)
#guard linesW BitsetW.empty
    [["ins", "1000,10"], ["clear"], ["ins", "500"], ["ins", "900"], ["ins", "100"], ["slice"],
     ["before", "500"], ["after", "500"], ["after", "900"], ["foo"]] =
    ["ok", "ok", "ok", "ok", "ok", "100,500,900", "100 true", "900 true", "-1 false", "bad-op"]

#print axioms members_mem
#print axioms members_ascending
#print axioms support_refines
#print axioms insert_refines
#print axioms insert_refines_reachable
#print axioms insert_members
#print axioms clear_refines
#print axioms memberBefore_refines
#print axioms memberAfter_refines
#print axioms slice_refines
#print axioms memberBefore_spec
#print axioms memberAfter_spec
#print axioms reachable_inv
#print axioms C12_bitset_refines
#print axioms C12_bitset_refines_from
#print axioms C12_bitset_no_panic
#print axioms C12_bitset_refines_lines
#print axioms supportOld_loses_member
#print axioms supportOld_not_refines
#print axioms supportOld_differs_only_downwards_in_place

end BitsetW
end LZ
