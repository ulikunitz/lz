/-
  The loops of hp.go `Parse`: the two inner loops (re-indexing = `ProbeW.insertRangeW`,
  match extension = `BytesW.matchExtLoop`) and one iteration of the greedy loop (loop_1 of the translation) = one
  step of `ProbeW.greedyLoopW (ProbeW.hpProbeW …)`.  The induction over the iterations is `GenParse.greedy_run`.
-/
import LzProofs.GenParseShared

set_option linter.unusedSimpArgs false
set_option linter.unusedVariables false

namespace LZ.GenHPParse
open LZ LZ.Gen LZ.GenBuf LZ.GenHash LZ.GenParse

/-! ## the inner loops -/

/-! The generated loop functions that the main loop of `hashParser.Parse` calls are NAMED HERE AND NOWHERE ELSE in
    the proofs (`rehashLoop`: `for j = i + 1; j < b; j++ { … }`, `extLoop`: `for len(q) >= 8 { … goto match … }`).
    The lemmas about them (`loop3_eq`, `loop2_eq`) and the two lines of `loop1_step` that instantiate these lemmas
    are the only things that depend on which generated function is which; when the translator renumbers the loop
    functions, this line is the only one to change. -/
open LZ.Gen renaming hashParser_Parse_loop_3 → rehashLoop, hashParser_Parse_loop_2 → extLoop

/-- the re-indexing loop of `Parse` (`for j = i + 1; j < b; j++ { … }`): spec of the generated loop function,
    for every bound `b` with `n = b - a` iterations and whatever the two dead parameters `x`, `h` are -/
theorem loop3_eq (grow : Nat → Nat → Nat) (_p : Slice) (n fuel j : Nat) (s : Gen.hashParser) (hf : n < fuel)
    (hn : n = 0 ∨ j + n + 7 ≤ _p.len)
    (c : TCtx s.hashDictionary.hash.mask s.hashDictionary.hash.shift s.hashDictionary.hash.inputLen _p)
    (ht : TOK s.hashDictionary.hash.shift s.hashDictionary.hash.table) :
    ∃ t', TOK s.hashDictionary.hash.shift t' ∧
      ProbeW.insertRangeW (ofHash s.hashDictionary.hash) _p.data j n = some (ofHashT s.hashDictionary.hash t') ∧
      ∀ (a b : Int) (x : UInt64) (h : UInt32), a = (j : Int) → n = (b - a).toNat →
        rehashLoop grow b x _p h fuel a s = Res.ok (((j + n : Nat) : Int), setT s t') := by
  obtain ⟨t', ht', hr, hl⟩ := reindex_loop (ι := Int × UInt64 × UInt32)
    (fun d => rehashLoop grow d.1 d.2.1 _p d.2.2) (·.1) _p
    (fun s => s.hashDictionary.hash) setT (fun _ _ => rfl) (fun _ _ _ => rfl) (fun _ => rfl)
    (fun d fuel a s (h : ¬ a < d.1) => by
      rw [rehashLoop]
      first | rw [if_neg (by omega)] | rw [if_pos (by omega)])
    (fun d fuel a s y t' (h : a < d.1) hF hset => by
      rw [rehashLoop]
      first | rw [if_pos (by omega)] | rw [if_neg (by omega)]
      rw [hF]; dsimp only; rw [hset, bind_ok])
    n fuel j s hf hn c ht
  exact ⟨t', ht', hr, fun a b x h => hl (b, x, h) a⟩

/-- the match extension loop `for len(q) >= 8 { … goto match … }`: spec of the generated loop function (`extLoop`),
    whatever its two dead parameters are -/
theorem loop2_eq (grow : Nat → Nat → Nat) (x : UInt64) : Loop2Spec (extLoop grow x) :=
  loop2_of_steps _
    (fun fuel k r q h => by
      rw [extLoop]
      split
      all_goals first
        | (exfalso; int_omega)
        | rfl)
    (fun fuel k r q b hr hq h8 hqr hb => by
      have hrl : r.data.length = r.len := data_length hr
      have hql : q.data.length = q.len := data_length hq
      have hr' : r.len ≤ r.arr.length := hr
      have hq' : q.len ≤ q.arr.length := hq
      -- the two words, on both sides
      have e1 : Gen._getLE64 r = Res.ok (BytesW.getLE64 r.data) := by
        rw [gen_le64 r hr, BytesW.le64_eq_some _ (by omega)]; rfl
      have e2 : Gen._getLE64 q = Res.ok (BytesW.getLE64 q.data) := by
        rw [gen_le64 q hq, BytesW.le64_eq_some _ (by omega)]; rfl
      by_cases hb8 : b < 8
      · rw [if_pos hb8, extLoop]
        split
        all_goals first
          | (exfalso; int_omega)
          | (rw [e1, bind_ok, e2, bind_ok]
             simp only [tz_shr, ← hb]
             split
             all_goals first
               | (exfalso; int_omega)
               | rfl)
      · rw [if_neg hb8, extLoop]
        split
        all_goals first
          | (exfalso; int_omega)
          | (rw [e1, bind_ok, e2, bind_ok]
             simp only [tz_shr, ← hb]
             split
             all_goals first
               | (exfalso; int_omega)
               | (refine bind_trans (slice_okI r 8 _ 8 r.len rfl rfl (by omega) hr') ?_
                  exact bind_trans (slice_okI q 8 _ 8 q.len rfl rfl (by omega) hq') rfl)))

/-! ## one iteration -/

theorem loop1_step (grow : Nat → Nat → Nat) (inputEnd mm : Int) (A : List UInt8) (L E mmN ws : Nat)
    (fuel i li : Nat) (ia lia : Int) (s : Gen.hashParser) (blk : Block')
    (c : TCtx s.hashDictionary.hash.mask s.hashDictionary.hash.shift s.hashDictionary.hash.inputLen
      { arr := A, len := E + 7 })
    (ht : TOK s.hashDictionary.hash.shift s.hashDictionary.hash.table)
    (hia : ia = (i : Int)) (hlia : lia = (li : Int)) (hE : inputEnd = (E : Int)) (hmm : mm = (mmN : Int))
    (hi : i < E) (hEL : E ≤ L) (hLA : L ≤ A.length) (hEA : E + 7 ≤ A.length) (hli : li ≤ i)
    (hws : ws = s.HPConfig.WindowSize.toNat) (hmm1 : 1 ≤ mmN) (hmm8 : mmN ≤ 8)
    (hfuel : L ≤ fuel + i) :
    ∃ r, ProbeW.hpProbeW ws mmN E false (A.drop L) (ofHash s.hashDictionary.hash) (A.take L) i li = some r ∧
      ∃ t', TOK s.hashDictionary.hash.shift t' ∧ r.1 = ofHashT s.hashDictionary.hash t' ∧
        hashParser_Parse_loop_1 grow inputEnd { arr := A, len := E + 7 } { arr := A, len := L } mm (fuel + 1) ia s blk lia =
          (match r.2 with
          | none =>
            hashParser_Parse_loop_1 grow inputEnd { arr := A, len := E + 7 } { arr := A, len := L } mm fuel (ia + 1)
              (setT s t') blk lia
          | some (st, k, o) =>
            hashParser_Parse_loop_1 grow inputEnd { arr := A, len := E + 7 } { arr := A, len := L } mm fuel
              ((st + k : Nat) : Int) (setT s t')
              { Sequences := blk.Sequences ++ [seqRep { litLen := st - li, matchLen := k, offset := o }],
                Literals := Slice.append grow blk.Literals ((A.drop li).take (st - li)) }
              ((st + k : Nat) : Int)) ∧
        (∀ st k o, r.2 = some (st, k, o) → li ≤ st ∧ st ≤ i ∧ i < st + k ∧ st + k ≤ L) := by
  have hmem := BytesW.sliceTo_take_drop A L (E + 7) hEA
  have hsmall : E + 7 < 4294967296 + 8 := c.small
  -- the load at i, the table access
  obtain ⟨y, hy, hF⟩ := gen_load_ok { arr := A, len := E + 7 } c.swf ia i hia (by show i + 8 ≤ E + 7; omega)
  have hy : (BytesW.sliceFrom (A.take (E + 7)) i).bind BytesW.le64 = some y := hy
  obtain ⟨ent, t1, hidx, hset, ht1, hget, hput⟩ := table_probe s.hashDictionary.hash s.hashDictionary.hash.table
    ht c.sh1 c.sh2 y ia i hia (by omega)
  rw [hashParser_Parse_loop_1, if_pos (by omega), hF]
  dsimp only
  rw [hidx, bind_ok, hset, bind_ok]
  have hnf := ProbeW.hpProbeW_nf ws mmN E false (A.drop L) (ofHash s.hashDictionary.hash) (A.take L) i li (A.take (E + 7)) y
    hmem hy (y &&& s.hashDictionary.hash.mask) (by rw [c.mask]; rfl) (ofEntry ent) hget
    (ofHashT s.hashDictionary.hash t1) hput
  simp only [ProbeW.candTail, Bool.false_eq_true, if_false, Option.bind_some, Nat.sub_zero, Nat.add_zero] at hnf
  -- A: the stored value differs
  by_cases hvA : (y &&& s.hashDictionary.hash.mask).toUInt32 ≠ ent.value
  · have hA := (val_ne_iff _ ent).mp hvA
    refine ⟨(ofHashT s.hashDictionary.hash t1, none), by rw [hnf, if_pos hA], t1, ht1, rfl, ?_,
      by intro st k o h; cases h⟩
    rw [if_pos (by simpa using hvA)]
  have hA : ¬ lo32 (y &&& s.hashDictionary.hash.mask) ≠ (ofEntry ent).2 := fun hc => hvA ((val_ne_iff _ ent).mpr hc)
  rw [if_neg (by simpa using hvA)]
  rw [if_neg hA] at hnf
  -- B: the candidate is outside the window (the test in whatever spelling, either arm order)
  have hj1 : (ofEntry ent).1 = ent.pos.toNat := rfl
  rw [hj1] at hnf
  generalize hjdef : ent.pos.toNat = j at hnf ⊢
  by_cases hw : ¬ (j < i ∧ i - j ≤ ws)
  · refine ⟨(ofHashT s.hashDictionary.hash t1, none), by rw [hnf, if_pos hw], t1, ht1, rfl, ?_,
      by intro st k o h; cases h⟩
    first | rw [if_pos (by int_omega)] | rw [if_neg (by int_omega)]
  first | rw [if_neg (by int_omega)] | rw [if_pos (by int_omega)]
  rw [if_neg hw] at hnf
  -- (from here on the facts are kept free of `-`, `min` and `toNat`: `omega` splits on each one in the context)
  replace hw : j < i ∧ i ≤ j + ws := by omega
  clear hws
  -- C: the first word of the candidate
  obtain ⟨z, hz, hF2⟩ := gen_load_ok { arr := A, len := E + 7 } c.swf (Int.ofNat j) j rfl (by show j + 8 ≤ E + 7; omega)
  have hz : (BytesW.sliceFrom (A.take (E + 7)) j).bind BytesW.le64 = some z := hz
  rw [hF2]
  simp only [tz_shr]
  obtain ⟨k8, hk8le, hk8, hfw⟩ := first_word A L E mmN i j y z ia hia hy hz hw.1 hi hEL hLA hEA
  -- the clamp `k > len(p)-i` in whatever spelling (operand order, arm order, hoisted `len(p)-i`): as a `min`
  have hk8a : Min.min (Int.ofNat L - ia) ((BytesW.tz64 (z ^^^ y) >>> 3 : Nat) : Int) = ((k8 : Nat) : Int) :=
    (ite_lt_min _ _).symm.trans hk8
  have hk8b : Min.min (((BytesW.tz64 (z ^^^ y) >>> 3 : Nat)) : Int) (Int.ofNat L - ia) = ((k8 : Nat) : Int) :=
    (Int.min_comm _ _).trans hk8a
  simp only [LZ.GenProps.gen_min, ite_lt_min, ite_le_min, ite_lt_max, ite_le_max]
  simp only [hk8a, hk8b]
  clear hk8 hk8a hk8b
  replace hk8le : i + k8 ≤ L := by omega
  rcases hfw with ⟨hC1, hml⟩ | ⟨hC1, kk, hme, hml, hkk1, hkk2⟩
  · refine ⟨(ofHashT s.hashDictionary.hash t1, none), by rw [hnf, hml]; rfl, t1, ht1, rfl, ?_,
      by intro st k o h; cases h⟩
    rw [if_pos (by omega)]
  rw [if_neg (by omega)]
  replace hkk2 : i + kk ≤ L := by omega
  clear hC1 hmm8 hsmall hmem hy hz hget hput hidx hset hF hF2
  -- the re-indexing loop
  obtain ⟨t2, ht2, hr3, hl3⟩ := loop3_eq grow { arr := A, len := E + 7 }
    (Min.min (i + kk) E - (i + 1)) fuel (i + 1) (setT s t1) (by omega)
    (by show _ ∨ _ ≤ E + 7; omega) c ht1
  have hr3 : ProbeW.insertRangeW (ofHashT s.hashDictionary.hash t1) (List.take (E + 7) A) (i + 1)
      (Min.min (i + kk) E - (i + 1)) = some (ofHashT s.hashDictionary.hash t2) := hr3
  refine ⟨(ofHashT s.hashDictionary.hash t2, some (i, kk, i - j)), ?_, t2, ht2, rfl, ?_, ?_⟩
  · rw [hnf, hml, Option.bind_some]
    dsimp only
    rw [hr3]; rfl
  · refine bind_trans (v := (kk : Int)) ?_ ?_
    · -- the match extension
      by_cases h8 : k8 = 8
      · subst h8
        rw [if_pos (by omega)]
        obtain ⟨e, kN', r', q', hl2, hr', hq', he1, he0⟩ := ext_loop_run _ (loop2_eq grow _) fuel A L i j kk hw.1
          (by omega) hLA (by omega) hme
        refine bind_trans (slice_okI _ (Int.ofNat j + 8) (Int.ofNat L) (j + 8) L (by show (j : Int) + 8 = _; omega) rfl
          (by omega) hLA) ?_
        refine bind_trans (slice_okI _ (ia + 8) (Int.ofNat L) (i + 8) L (by omega) rfl (by omega) hLA) ?_
        refine bind_trans hl2 ?_
        dsimp only
        by_cases he : e = 1
        · rw [if_pos he, he1 he]
        · rw [if_neg he, he0 he]
          by_cases hq0 : q'.len > 0
          · have htv := BytesW.matchExtTail_min r'.data q'.data kN' (by rw [data_length hq']; exact hq0)
            rw [data_length hq'] at htv
            rw [if_pos (by int_omega), gen_getLE64 r' hr', bind_ok, gen_getLE64 q' hq', bind_ok,
              bind_ok]
            try simp only [tz_shr]
            rw [htv]
            -- the clamp `b > len(q)` in whatever spelling
            refine congrArg Res.ok ?_
            (repeat' split) <;> int_omega
          · rw [if_neg (by int_omega), bind_ok, BytesW.matchExtTail_zero _ _ _ (by rw [data_length hq']; omega)]
      · rw [if_neg (by omega), Option.some.inj ((BytesW.matchExt_of_ne _ i j h8).symm.trans hme)]
    · dsimp only
      refine bind_trans (slice_okI _ lia ia li i hlia hia hli (by show i ≤ A.length; omega)) ?_
      dsimp only
      refine bind_trans (hl3 _ _ _ _ (by omega) (by (repeat' split) <;> int_omega)) ?_
      dsimp only
      have e1 : ia + (kk : Int) - 1 + 1 = ((i + kk : Nat) : Int) := by omega
      have e2 : ia + (kk : Int) = ((i + kk : Nat) : Int) := by omega
      have e3 : ia - Int.ofNat j = ((i - j : Nat) : Int) := by show ia - (j : Int) = _; omega
      rw [e1, e2, e3]
      rfl
  · intro st k o h
    cases h
    exact ⟨hli, Nat.le_refl _, by omega, by omega⟩

end LZ.GenHPParse

#print axioms LZ.GenHPParse.loop3_eq
#print axioms LZ.GenHPParse.loop2_eq
#print axioms LZ.GenHPParse.loop1_step
