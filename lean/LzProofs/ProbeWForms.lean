/-
  LzProofs.ProbeWForms — the word-level model of ProbeW.lean in the forms in which the walks through the
  translated `Parse` functions (Gen*Parse*) meet it: the finders and `parseNilW` without `do` (the loads are
  given, `h1`, `hy`; what follows is a chain of `bind`s, the tail of a candidate being `candTail`), the range
  equations of `insertRangeW`, and `frameW`, what `parseW` does for ONE family of dictionaries
  (`parseW_single`, `_double`, `_bucket`).  Nothing here is about the list-level model.
-/
import LzProofs.ProbeW
namespace LZ.ProbeW
open LZ.BytesW

/-! ## `insertRangeW`: a range is its first position and the rest; two adjacent ranges are one -/

theorem insertRangeW_succ (_p : List Byte) (k a : Nat) (h : HashT) :
    insertRangeW h _p a (k + 1) =
      (insertW h _p a).bind fun h1 => insertRangeW h1 _p (a + 1) k := rfl

theorem insertRangeW_add (_p : List Byte) : ∀ (n m a : Nat) (h : HashT),
    insertRangeW h _p a (n + m) =
      (insertRangeW h _p a n).bind fun h' => insertRangeW h' _p (a + n) m := by
  intro n
  induction n with
  | zero => intro m a h; simp [insertRangeW]
  | succ n ih =>
    intro m a h
    have e : n + 1 + m = (n + m) + 1 := by omega
    rw [e, insertRangeW_succ, insertRangeW_succ]
    cases insertW h _p a with
    | none => rfl
    | some h1 =>
      simp only [Option.bind_some]
      rw [ih m (a + 1) h1]
      have : a + 1 + n = a + (n + 1) := by omega
      rw [this]

theorem insertRangeW_trans {_p : List Byte} {a b c : Nat} {h h' h'' : HashT} (hab : a ≤ b) (hbc : b ≤ c)
    (h1 : insertRangeW h _p a (b - a) = some h') (h2 : insertRangeW h' _p b (c - b) = some h'') :
    insertRangeW h _p a (c - a) = some h'' := by
  rw [show c - a = (b - a) + (c - b) by omega, insertRangeW_add, h1, Option.bind_some, Nat.add_sub_cancel' hab, h2]

/-! ## the finders without `do` -/

theorem hpProbeW_nf (ws mm E : Nat) (back : Bool) (behind : List Byte) (h : HashT) (pd : List Byte) (i li : Nat)
    (_pd : List Byte) (y : UInt64)
    (h1 : sliceTo pd behind (E + 7) = some _pd)
    (hy : (sliceFrom _pd i).bind le64 = some y)
    (x : UInt64) (hx : x = y &&& maskOf h.inputLen)
    (e : Nat × Nat) (he : e = h.tbl.getD (LZ.hashValue x h.hashBits) (0, 0))
    (H1 : HashT) (hH1 : H1 = { h with tbl := h.tbl.setIfInBounds (LZ.hashValue x h.hashBits) (i, lo32 x) }) :
    hpProbeW ws mm E back behind h pd i li =
      if lo32 x ≠ e.2 then some (H1, none)
      else candTail ws mm E back pd behind i li e.1 (H1, none) fun k m =>
        (insertRangeW H1 _pd (i - m + 1) (Min.min (i - m + (k + m)) E - (i - m + 1))).bind fun h2 =>
        some (h2, some (i - m, k + m, i - e.1)) := by
  subst hx he hH1
  unfold hpProbeW loadKey
  simp only [Option.bind_eq_bind, Option.pure_def] at hy ⊢
  rw [h1, Option.bind_some]
  cases hsi : sliceFrom _pd i with
  | none => rw [hsi] at hy; cases hy
  | some li =>
    rw [hsi, Option.bind_some] at hy
    simp only [Option.bind_some, hy]
    split
    · rfl
    · exact candTail_do ..

/-- first loop (`i < e2`), after a candidate `ent` has been chosen; `T1`, `T2` = the tables after the insertion
    of position `i` -/
def dhpTail1 (ws mm e1 e2 : Nat) (back : Bool) (behind pd _pd : List Byte) (i li : Nat) (T1 T2 : HashT)
    (ent : Nat × Nat) : Option (Hash2 × Option (Nat × Nat × Nat)) :=
  candTail ws mm e1 back pd behind i li ent.1 (⟨T1, T2⟩, none) fun k m =>
    (insertRangeW T1 _pd (i - m + 1) (Min.min (i - m + (k + m)) e1 - (i - m + 1))).bind fun t1' =>
    (if back then some T2
      else insertRangeW T2 _pd (i - m + 1) (Min.min (i - m + (k + m)) e2 - (i - m + 1))).bind fun t2' =>
    some (⟨t1', t2'⟩, some (i - m, k + m, i - ent.1))

theorem dhpProbeW_nf1 (ws mm e1 e2 : Nat) (back : Bool) (behind : List Byte) (d : Hash2) (pd : List Byte) (i li : Nat)
    (_pd : List Byte) (y : UInt64) (hi2 : i < e2)
    (h1 : sliceTo pd behind (e1 + 7) = some _pd)
    (hy : (sliceFrom _pd i).bind le64 = some y)
    (x2 : UInt64) (hx2 : x2 = y &&& maskOf d.h2.inputLen)
    (ent2 : Nat × Nat) (he2 : ent2 = d.h2.tbl.getD (LZ.hashValue x2 d.h2.hashBits) (0, 0))
    (T2 : HashT) (hT2 : T2 = { d.h2 with tbl := d.h2.tbl.setIfInBounds (LZ.hashValue x2 d.h2.hashBits) (i, lo32 x2) })
    (x1 : UInt64) (hx1 : x1 = y &&& maskOf d.h1.inputLen)
    (ent1 : Nat × Nat) (he1 : ent1 = d.h1.tbl.getD (LZ.hashValue x1 d.h1.hashBits) (0, 0))
    (T1 : HashT) (hT1 : T1 = { d.h1 with tbl := d.h1.tbl.setIfInBounds (LZ.hashValue x1 d.h1.hashBits) (i, lo32 x1) }) :
    dhpProbeW ws mm e1 e2 back behind d pd i li =
      if lo32 x2 ≠ ent2.2 then
        (if lo32 x1 ≠ ent1.2 then some (⟨T1, T2⟩, none)
         else dhpTail1 ws mm e1 e2 back behind pd _pd i li T1 T2 ent1)
      else dhpTail1 ws mm e1 e2 back behind pd _pd i li T1 T2 ent2 := by
  unfold dhpProbeW loadKey dhpTail1
  simp only [Option.bind_eq_bind, Option.pure_def] at hy ⊢
  rw [h1, Option.bind_some, if_pos hi2]
  cases hsi : sliceFrom _pd i with
  | none => rw [hsi] at hy; cases hy
  | some l =>
    rw [hsi, Option.bind_some] at hy
    simp only [Option.bind_some, hy]
    rw [← hx2, ← hx1, ← he2, ← he1, ← hT2, ← hT1]
    by_cases hv2 : lo32 x2 ≠ ent2.2
    · by_cases hv1 : lo32 x1 ≠ ent1.2
      · simp only [if_pos hv2, if_pos hv1]
      · simp only [if_pos hv2, if_neg hv1]
        cases back <;> simp [candTail]
    · simp only [if_neg hv2]
      cases back <;> simp [candTail]

/-- second loop (`e2 ≤ i`), after the value test; `T1` = the table of h1 after the insertion of position `i` -/
def dhpTail2 (ws mm e1 : Nat) (back : Bool) (behind pd _pd : List Byte) (i li : Nat) (T1 : HashT) (d : Hash2)
    (ent : Nat × Nat) : Option (Hash2 × Option (Nat × Nat × Nat)) :=
  candTail ws mm e1 back pd behind i li ent.1 (⟨T1, d.h2⟩, none) fun k m =>
    (insertRangeW T1 _pd ent.1 (Min.min (i - m + (k + m)) e1 - ent.1)).bind fun t1' =>
    some (⟨t1', d.h2⟩, some (i - m, k + m, i - ent.1))

theorem dhpProbeW_nf2 (ws mm e1 e2 : Nat) (back : Bool) (behind : List Byte) (d : Hash2) (pd : List Byte) (i li : Nat)
    (_pd : List Byte) (y : UInt64) (hi2 : ¬ i < e2)
    (h1 : sliceTo pd behind (e1 + 7) = some _pd)
    (hy : (sliceFrom _pd i).bind le64 = some y)
    (x1 : UInt64) (hx1 : x1 = y &&& maskOf d.h1.inputLen)
    (ent1 : Nat × Nat) (he1 : ent1 = d.h1.tbl.getD (LZ.hashValue x1 d.h1.hashBits) (0, 0))
    (T1 : HashT) (hT1 : T1 = { d.h1 with tbl := d.h1.tbl.setIfInBounds (LZ.hashValue x1 d.h1.hashBits) (i, lo32 x1) }) :
    dhpProbeW ws mm e1 e2 back behind d pd i li =
      if lo32 x1 ≠ ent1.2 then some (⟨T1, d.h2⟩, none)
      else dhpTail2 ws mm e1 back behind pd _pd i li T1 d ent1 := by
  unfold dhpProbeW loadKey dhpTail2
  simp only [Option.bind_eq_bind, Option.pure_def] at hy ⊢
  rw [h1, Option.bind_some, if_neg hi2]
  cases hsi : sliceFrom _pd i with
  | none => rw [hsi] at hy; cases hy
  | some l =>
    rw [hsi, Option.bind_some] at hy
    simp only [Option.bind_some, hy]
    rw [← hx1, ← he1, ← hT1]
    by_cases hv1 : lo32 x1 ≠ ent1.2
    · simp only [if_pos hv1]
    · simp only [if_neg hv1]
      cases back <;> simp [candTail]

/-- the part of one scan step behind the byte check -/
def scanTail (bk : BucketT) (p : List Byte) (i ws v base : Nat) (rest : List Nat) (o k j : Nat) : Option (Nat × Nat) :=
  (sliceFrom p j).bind fun x =>
  (sliceFrom p i).bind fun y =>
  (lcpW? x y).bind fun ke =>
  if ke < k ∨ (ke = k ∧ i - j ≥ o) then bupScanW bk p i ws v base rest o k
  else bupScanW bk p i ws v base rest (i - j) ke

theorem bupScanW_cons (bk : BucketT) (p : List Byte) (i ws v base s : Nat) (rest : List Nat) (o k : Nat) :
    bupScanW bk p i ws v base (s :: rest) o k =
      if v ≠ (bk.buckets.getD (base + s) (0, 0)).2 then bupScanW bk p i ws v base rest o k
      else
        if ¬ ((bk.buckets.getD (base + s) (0, 0)).1 < i ∧ i - (bk.buckets.getD (base + s) (0, 0)).1 ≤ ws) then
          bupScanW bk p i ws v base rest o k
        else
          if k > 0 then
            (index p ((bk.buckets.getD (base + s) (0, 0)).1 + k - 1)).bind fun a =>
            (index p (i + k - 1)).bind fun b =>
            if (a != b) = true then bupScanW bk p i ws v base rest o k
            else scanTail bk p i ws v base rest o k (bk.buckets.getD (base + s) (0, 0)).1
          else scanTail bk p i ws v base rest o k (bk.buckets.getD (base + s) (0, 0)).1 := by
  rw [bupScanW]
  simp only [Option.bind_eq_bind, Option.pure_def, Option.bind_some, Bool.false_eq_true, if_false, scanTail]

/-- the finder of the model without `do` -/
theorem bupProbeW_nf (ws mm E : Nat) (behind : List Byte) (bk : BucketT) (pd : List Byte) (i li : Nat)
    (_pd : List Byte) (y : UInt64)
    (h1 : sliceTo pd behind (E + 7) = some _pd)
    (hy : (sliceFrom _pd i).bind le64 = some y)
    (x : UInt64) (hx : x = y &&& maskOf bk.inputLen) :
    bupProbeW ws mm E behind bk pd i li =
      (bupScanW bk pd i ws (lo32 x) (LZ.hashValue x bk.hashBits * bk.bucketSize) (List.range bk.bucketSize) 0 0).bind
        fun ok =>
        if ok.2 < mm then some (bk.add (LZ.hashValue x bk.hashBits) i (lo32 x), none)
        else
          (binsertRangeW (bk.add (LZ.hashValue x bk.hashBits) i (lo32 x)) _pd (i + 1)
            (Min.min (i + ok.2) E - (i + 1))).bind fun bk2 => some (bk2, some (i, ok.2, ok.1)) := by
  subst hx
  unfold bupProbeW loadKey
  simp only [Option.bind_eq_bind, Option.pure_def] at hy ⊢
  rw [h1, Option.bind_some]
  cases hsi : sliceFrom _pd i with
  | none => rw [hsi] at hy; cases hy
  | some l =>
    rw [hsi, Option.bind_some] at hy
    simp only [Option.bind_some, hy]

/-! ## `parseW` and `parseNilW` per family of dictionaries -/

/-- a word-level finder of the model -/
abbrev FinderW (δ : Type) := δ → List Byte → Nat → Nat → Option (δ × Option (Nat × Nat × Nat))

/-- `parseW` for one family of dictionaries: `seg` = the outcome of `processSegment`, `il d` = the input length
    that fixes `inputEnd`, `fnd d n behind` = the finder for a block prefix of `n` bytes, `mk` = the constructor of `Dict` -/
def frameW {δ : Type} (p : Parser) (stale : List Byte) (flags : Nat) (seg : Option δ) (il : δ → Nat)
    (fnd : δ → Nat → List Byte → FinderW δ) (mk : δ → Dict) : Option (Parser × Nat × LZ.Err × Block) :=
  if p.blockN = 0 then some (p, 0, .empty, ⟨[], []⟩)
  else
    seg.bind fun d =>
    (resliceMargin (p.buf.data.take (p.buf.w + p.blockN)) (p.buf.data.drop (p.buf.w + p.blockN) ++ stale)
      (il d)).bind fun _ =>
    (runGreedyW
      (fnd d (p.buf.data.take (p.buf.w + p.blockN)).length (p.buf.data.drop (p.buf.w + p.blockN) ++ stale)) d
      (p.buf.data.take (p.buf.w + p.blockN)) p.buf.w
      ((p.buf.data.take (p.buf.w + p.blockN)).length + 1 - il d) flags).bind fun r =>
    some ({ p with buf := { p.buf with w := r.2.1 }, dict := mk r.1 }, r.2.1 - p.buf.w, .ok, r.2.2.1)

theorem parseW_single (p : Parser) (stale : List Byte) (flags : Nat) (h : HashT) (hd : p.dict = .single h) :
    parseW p stale flags =
      frameW p stale flags (processSegment1W h p.buf.data stale ((p.buf.w : Int) - h.inputLen + 1) p.buf.w)
        HashT.inputLen
        (fun d n behind => hpProbeW p.buf.cfg.windowSize p.minMatch (n + 1 - d.inputLen) (p.kind == .BHP) behind)
        Dict.single := by
  unfold parseW frameW
  simp only [hd]
  rfl

theorem parseW_double (p : Parser) (stale : List Byte) (flags : Nat) (d : Hash2) (hd : p.dict = .double d) :
    parseW p stale flags =
      frameW p stale flags
        ((processSegment2W d.h1 d.h2 p.buf.data stale ((p.buf.w : Int) - d.h2.inputLen + 1) p.buf.w).map
          fun hh => (⟨hh.1, hh.2⟩ : Hash2))
        (fun d => d.h1.inputLen)
        (fun d n behind => dhpProbeW p.buf.cfg.windowSize p.minMatch (n + 1 - d.h1.inputLen)
          (n + 1 - d.h2.inputLen) (p.kind == .BDHP) behind)
        Dict.double := by
  unfold parseW frameW
  simp only [hd]
  cases processSegment2W d.h1 d.h2 p.buf.data stale ((p.buf.w : Int) - d.h2.inputLen + 1) p.buf.w <;> rfl

theorem parseW_bucket (p : Parser) (stale : List Byte) (flags : Nat) (bk : BucketT) (hd : p.dict = .bucket bk) :
    parseW p stale flags =
      frameW p stale flags (processSegmentBW bk p.buf.data stale ((p.buf.w : Int) - bk.inputLen + 1) p.buf.w)
        BucketT.inputLen
        (fun d n behind => bupProbeW p.buf.cfg.windowSize p.minMatch (n + 1 - d.inputLen) behind)
        Dict.bucket := by
  unfold parseW frameW
  simp only [hd]
  rfl

/-- the margin reslice `s.Data[:inputEnd+7]` on a block prefix `A[:L]` of a backing array -/
theorem resliceMargin_take (A : List UInt8) (L il : Nat) (hLA : L ≤ A.length) :
    resliceMargin (A.take L) (A.drop L) il =
      if (L : Int) - (il : Int) + 1 + 7 < 0 ∨ (A.length : Int) < (L : Int) - (il : Int) + 1 + 7 then none else some () := by
  unfold resliceMargin
  rw [List.take_append_drop, List.length_take, Nat.min_eq_left hLA]

theorem parseNilW_single_nf (s : Parser) (stale : List Byte) (h : HashT) (hd : s.dict = .single h)
    (hn : s.blockN ≠ 0) :
    parseNilW s stale =
      (processSegment1W h s.buf.data stale ((s.buf.w : Int) - h.inputLen + 1) ((s.buf.w + s.blockN : Nat) : Int)).bind fun h' =>
      some ({ s with buf := { s.buf with w := s.buf.w + s.blockN }, dict := .single h' }, s.blockN, .ok) := by
  unfold parseNilW
  simp only [hn, if_false, hd]
  rfl

/-- `parseNilW` of a parser with two tables, without `do` -/
theorem parseNilW_double_nf (s : Parser) (stale : List Byte) (d : Hash2) (hd : s.dict = .double d)
    (hn : s.blockN ≠ 0) :
    parseNilW s stale =
      (processSegment2W d.h1 d.h2 s.buf.data stale ((s.buf.w : Int) - d.h2.inputLen + 1)
        ((s.buf.w + s.blockN : Nat) : Int)).bind fun hh =>
      some ({ s with buf := { s.buf with w := s.buf.w + s.blockN }, dict := .double { h1 := hh.1, h2 := hh.2 } },
        s.blockN, .ok) := by
  unfold parseNilW
  simp only [hn, if_false, hd]
  rfl

theorem parseNilW_bucket_nf (s : Parser) (stale : List Byte) (bk : BucketT) (hd : s.dict = .bucket bk)
    (hn : s.blockN ≠ 0) :
    parseNilW s stale =
      (processSegmentBW bk s.buf.data stale ((s.buf.w : Int) - bk.inputLen + 1) ((s.buf.w + s.blockN : Nat) : Int)).bind fun bk' =>
      some ({ s with buf := { s.buf with w := s.buf.w + s.blockN }, dict := .bucket bk' }, s.blockN, .ok) := by
  unfold parseNilW
  simp only [hn, if_false, hd]
  rfl

end LZ.ProbeW
