/-
  One induction for every translated loop `for ; j < b; j++ { insert position j }` (re-indexing after a match,
  `processSegment`; one table, two tables, buckets).  The loop function enters through what ONE call does, in the
  model's terms: past the bound it returns (`hend`); below it, it inserts position `j` (`ins`) and is the call for
  `j + 1` (`hiter`).  `d` = the parameters the loop function carries besides the fuel and its state (taken from the
  text at the use site), `bnd d` = the bound among them; `rng` = the model's insertion of a range
  (`ProbeW.insertRangeW`, `ProbeW.binsertRangeW`: `hr0`, `hrS` hold by `rfl`).
-/
import LzModel.Generated.CodeSlicePrelude

namespace LZ.GenParse
open LZ LZ.Gen

theorem insert_loop {σ δ ι : Type} (F : ι → Nat → Int → σ → Res (Int × σ)) (bnd : ι → Int)
    (abs : σ → δ) (ins : δ → Nat → Option δ) (rng : δ → Nat → Nat → Option δ)
    (hr0 : ∀ d j, rng d j 0 = some d)
    (hrS : ∀ d j n, rng d j (n + 1) = (ins d j).bind fun d' => rng d' (j + 1) n)
    (Inv : σ → Prop) (lo hi : Nat)
    (hend : ∀ d fuel (a : Int) s, ¬ a < bnd d → F d (fuel + 1) a s = Res.ok (a, s))
    (hiter : ∀ (j : Nat) s, Inv s → lo ≤ j → j < hi → ∃ s', Inv s' ∧ ins (abs s) j = some (abs s') ∧
      ∀ d fuel, (j : Int) < bnd d → F d (fuel + 1) (j : Int) s = F d fuel ((j : Int) + 1) s') :
    ∀ (n fuel j : Nat) (s : σ), n < fuel → lo ≤ j → j + n ≤ hi → Inv s →
      ∃ s', Inv s' ∧ rng (abs s) j n = some (abs s') ∧
        ∀ (d : ι) (a : Int), a = (j : Int) → n = (bnd d - a).toNat →
          F d fuel a s = Res.ok (((j + n : Nat) : Int), s') := by
  intro n
  induction n with
  | zero =>
    intro fuel j s hf _ _ hinv
    obtain ⟨f, rfl⟩ : ∃ f, fuel = f + 1 := ⟨fuel - 1, by omega⟩
    refine ⟨s, hinv, hr0 _ _, ?_⟩
    intro d a ha hb
    rw [hend d f a s (by omega), ha]; rfl
  | succ n ih =>
    intro fuel j s hf hlo hhi hinv
    obtain ⟨f, rfl⟩ : ∃ f, fuel = f + 1 := ⟨fuel - 1, by omega⟩
    obtain ⟨s1, hinv1, hins, hF⟩ := hiter j s hinv hlo (by omega)
    obtain ⟨s', hinv', hr, hl⟩ := ih f (j + 1) s1 (by omega) (by omega) (by omega) hinv1
    refine ⟨s', hinv', by rw [hrS, hins, Option.bind_some]; exact hr, ?_⟩
    intro d a ha hb
    subst ha
    rw [hF d f (by omega), hl d ((j : Int) + 1) (by omega) (by omega), show j + 1 + n = j + (n + 1) by omega]

end LZ.GenParse

#print axioms LZ.GenParse.insert_loop
