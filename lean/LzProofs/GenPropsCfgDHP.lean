/-
  The parser configuration DHPConfig: `SetDefaults` / `Verify` through the reflective helpers, which appear in the
  generated code as the field copies the extractor read from their source.  `ofDHP` reads the generated struct as the
  model's union record `Cfg` (fields the kind does not have are zero), `toDHP` is the inverse on `Cfg.restrict .DHP`.
  Go `int`/`int64` are unbounded `Int` on both sides (overflow is out of scope), `uint32`/`uint64` wrap around.  The
  proofs do not depend on the shape of the generated term (see GenPropsBase).
-/
import LzModel.Generated.CodeCfgDHP
import LzProofs.GenPropsCfgBuf
import LzProofs.GenPropsCfgHash

set_option linter.unusedSimpArgs false

namespace LZ.GenProps
open LZ

def ofDHP (c : Gen.DHPConfig) : Cfg :=
  { shrinkSize := c.ShrinkSize, bufferSize := c.BufferSize, windowSize := c.WindowSize,
    blockSize := c.BlockSize,
    inputLen1 := c.InputLen1, hashBits1 := c.HashBits1, inputLen2 := c.InputLen2, hashBits2 := c.HashBits2 }

def toDHP (c : Cfg) : Gen.DHPConfig :=
  { ShrinkSize := c.shrinkSize, BufferSize := c.bufferSize, WindowSize := c.windowSize,
    BlockSize := c.blockSize,
    InputLen1 := c.inputLen1, HashBits1 := c.hashBits1, InputLen2 := c.inputLen2, HashBits2 := c.hashBits2 }

theorem ofDHP_toDHP (c : Cfg) : ofDHP (toDHP c) = c.restrict .DHP := by
  simp [ofDHP, toDHP, Cfg.restrict, Kind.fields]

theorem toDHP_ofDHP (c : Gen.DHPConfig) : toDHP (ofDHP c) = c := rfl

theorem gen_setDefaults_DHP (c : Gen.DHPConfig) :
    ofDHP (Gen.DHPConfig_SetDefaults c) = setDefaults .DHP (ofDHP c) := by
  simp only [Gen.DHPConfig_SetDefaults, gen_helper, gen_bufDefaults', gen_dhDefaults]
  rfl

theorem gen_verify_DHP (c : Gen.DHPConfig) :
    Gen.DHPConfig_Verify c = .ok ↔ verify .DHP (ofDHP c) = true := by
  -- the model's `verify` kind by kind (`verify_dh`), and what the two helper checks of the generated code mean
  have hb : Gen.BufConfig_Verify ⟨c.ShrinkSize, c.BufferSize, c.WindowSize, c.BlockSize⟩ = .ok ↔ bufVerify (ofDHP c) = true := gen_bufVerify _
  have hd := gen_dhVerify ⟨⟨c.InputLen1, c.HashBits1⟩, ⟨c.InputLen2, c.HashBits2⟩⟩
  rw [verify_dh (.inl rfl), ← hb]
  dsimp only [ofDHP] at hd ⊢
  rw [← hd]
  -- the rest is propositional in the two results, whatever the shape of the generated function
  dsimp only [Gen.DHPConfig_Verify, gen_helper]
  generalize Gen.BufConfig_Verify _ = e1
  generalize Gen.dhConfig_Verify _ = e2
  cases e1 <;> cases e2 <;> gen_ifs

theorem tieDHP : CfgTie .DHP ofDHP toDHP Gen.DHPConfig_SetDefaults Gen.DHPConfig_Verify :=
  ⟨ofDHP_toDHP, gen_setDefaults_DHP, gen_verify_DHP⟩

theorem gen_accepted_DHP (c : Cfg) :
    accepted .DHP c = true ↔ Gen.DHPConfig_Verify (Gen.DHPConfig_SetDefaults (toDHP c)) = .ok :=
  tieDHP.accepted c

end LZ.GenProps
