/-
  Histories of Write / ReadFrom / Parse / Shrink / Reset on the translated functions of dhp.go, `ReadFrom` promoted
  from the embedded `ParserBuffer`; as LzProofs/GenHPHistRF.lean + GenHPHistRF2.lean for HP: first relative to
  `RFSpec RF` (opaque `ReadFrom` that behaves as the model's `PBuf.readFrom`), then with `RF := rfGo extra` (the
  translated `(*ParserBuffer).ReadFrom` against the scripted reader; `rfGo_spec`), no hypothesis about `ReadFrom` left.
  Everything that does not mention the parser state (`RFun`, `RFSpec`, `genErr`, `rfGo`, `rfGo_spec`, `GOpR`, `GResR`,
  `GOpR.WF`, `GOpR.abs`, `resAgreeR`, `ResultsAgreeR`, `ghostStepR`, `ghostRunR`, `pbuf_readFrom`, `stepRel_R`)
  is that of LZ.GenHPHist.  Nothing is opaque in the translation of dhp.go; fuel `2·BufferSize + 3` as in
  GenDHPHistRun.
-/
import LzProofs.GenHPHistRF2
import LzProofs.GenDHPHistRun

set_option linter.unusedSimpArgs false
set_option linter.unusedVariables false

namespace LZ.GenDHPHist
open LZ LZ.Gen LZ.GenBuf LZ.GenHash LZ.GenHPParse LZ.GenDHPParse LZ.GenProps
open LZ.GenHPHist (BCOK GOp.WF GOp.abs RFun RFSpec genErr rfGo rfGo_spec GOpR GResR GOpR.WF GOpR.abs resAgreeR
  ResultsAgreeR ghostStepR ghostRunR callsR ghostRunR_eq resultsAgreeR_eq stepRel_R)
open LZ.GenHist (FRel ReadFromRel)

/-- `s.ReadFrom(r)` for `s *doubleHashParser`: promoted from the embedded `ParserBuffer` -/
def dhp_ReadFrom (RF : RFun) (s : Gen.doubleHashParser) (r : Reader) :
    Res (Gen.doubleHashParser × Reader × Int × Gen.Err) :=
  Res.bind (RF s.doubleHashDictionary.ParserBuffer r) fun x =>
  Res.ok ({ s with doubleHashDictionary := { s.doubleHashDictionary with ParserBuffer := x.1 } }, x.2.1, x.2.2.1, x.2.2.2)

theorem hist_readFrom {bc : BufCfg} (hbc : BCOK bc) (RF : RFun) (hRF : RFSpec RF) :
    ReadFromRel (FRel (HistOKD bc) ofDHPs) (dhp_ReadFrom RF) :=
  (bufHost hbc).readFrom RF hRF fun _ _ => rfl

/-! ## histories with ReadFrom -/

def stepGR (RF : RFun) (grow : Nat → Nat → Nat) (fuel : Nat)
    (s : Gen.doubleHashParser) : GOpR → Res (Gen.doubleHashParser × GResR)
  | .base op => Res.bind (stepG grow fuel s op) fun x => Res.ok (x.1, .base x.2)
  | .readFrom r => Res.bind (dhp_ReadFrom RF s r) fun x => Res.ok (x.1, .readFrom x.2.2.1 x.2.2.2)

def runGR (RF : RFun) (grow : Nat → Nat → Nat) (fuel : Nat) :
    Gen.doubleHashParser → List GOpR → Res (Gen.doubleHashParser × List GResR)
  | s, [] => Res.ok (s, [])
  | s, op :: ops =>
    Res.bind (stepGR RF grow fuel s op) fun x =>
    Res.bind (runGR RF grow fuel x.1 ops) fun q => Res.ok (q.1, x.2 :: q.2)

theorem runGR_eq (RF : RFun) (grow : Nat → Nat → Nat) (fuel : Nat) :
    runGR RF grow fuel = GenHist.run (stepGR RF grow fuel) :=
  GenHist.run_unique (fun _ => rfl) (fun _ _ _ => rfl)

theorem stepGR_sim {bc : BufCfg} (hbc : BCOK bc) (RF : RFun) (hRF : RFSpec RF) (grow : Nat → Nat → Nat) (fuel : Nat)
    (hfuel : 2 * bc.bufferSize + 3 ≤ fuel) :
    GenHist.StepSim callsR (stepGR RF grow fuel) (GenHist.FInv (HistOKD bc) ofDHPs) :=
  stepRel_R (fun _ _ _ => trivial) (stepG_sim hbc grow fuel hfuel) (hist_readFrom hbc RF hRF) (fun _ _ => rfl) (fun _ _ => rfl)

theorem gen_dhp_history_rf (cfg : Gen.DHPConfig) (s0 : Gen.doubleHashParser)
    (hinit : doubleHashParser_init default cfg = Res.ok (s0, Gen.Err.ok))
    (RF : RFun) (hRF : RFSpec RF) (grow : Nat → Nat → Nat) (fuel : Nat)
    (hfuel : 2 * s0.doubleHashDictionary.ParserBuffer.BufConfig.BufferSize.toNat + 3 ≤ fuel)
    (ops : List GOpR) (hwf : ∀ op ∈ ops, op.WF) :
    ∃ p t rs, newParser .DHP (ofDHP cfg) = some p ∧ ofDHPs s0 = p ∧
      runGR RF grow fuel s0 ops = Res.ok (t, rs) ∧ ParseOKD t ∧
      ofDHPs t = (runOps (p, Ghost.init) (ops.map GOpR.abs)).1 ∧
      ghostRunR Ghost.init ops rs = (runOps (p, Ghost.init) (ops.map GOpR.abs)).2 ∧
      ResultsAgreeR (p, Ghost.init) ops rs := by
  obtain ⟨p, hp, hbc, hf, h0⟩ := init_inv cfg s0 hinit fuel hfuel
  rw [runGR_eq, ghostRunR_eq, resultsAgreeR_eq]
  obtain ⟨t, rs, k1, ⟨⟨k2, k3⟩, -⟩, k4, k5⟩ :=
    GenHist.run_sim (stepGR_sim hbc RF hRF grow fuel hf) ops s0 _ h0 hwf
  exact ⟨p, t, rs, hp, h0.1.2, k1, k2.pok, k3, k4, k5⟩

/-- C01 about the Go text of DHP, histories with `ReadFrom` — relative to `RFSpec RF`. -/
theorem C01_go_text_dhp_rf (cfg : Gen.DHPConfig) (s0 : Gen.doubleHashParser)
    (hinit : doubleHashParser_init default cfg = Res.ok (s0, Gen.Err.ok))
    (RF : RFun) (hRF : RFSpec RF) (grow : Nat → Nat → Nat) (fuel : Nat)
    (hfuel : 2 * s0.doubleHashDictionary.ParserBuffer.BufConfig.BufferSize.toNat + 3 ≤ fuel)
    (ops : List GOpR) (hwf : ∀ op ∈ ops, op.WF) :
    ∃ t rs, runGR RF grow fuel s0 ops = Res.ok (t, rs) ∧
      decode [] (ghostRunR Ghost.init ops rs).log =
        some ((ghostRunR Ghost.init ops rs).fed.take (ghostRunR Ghost.init ops rs).consumed) := by
  obtain ⟨p, t, rs, hp, -, h1, -, -, h4, -⟩ := gen_dhp_history_rf cfg s0 hinit RF hRF grow fuel hfuel ops hwf
  exact ⟨t, rs, h1, GenHist.C01_ghost hp (histHyp_of_ne .DHP p (by decide)) h4⟩

/-! ## `RFSpec` discharged: `ReadFrom` is the translated function run against the scripted reader -/

theorem gen_dhp_history_rf_go (cfg : Gen.DHPConfig) (s0 : Gen.doubleHashParser)
    (hinit : doubleHashParser_init default cfg = Res.ok (s0, Gen.Err.ok))
    (extra : Nat) (grow : Nat → Nat → Nat) (fuel : Nat)
    (hfuel : 2 * s0.doubleHashDictionary.ParserBuffer.BufConfig.BufferSize.toNat + 3 ≤ fuel)
    (ops : List GOpR) (hwf : ∀ op ∈ ops, op.WF) :
    ∃ p t rs, newParser .DHP (ofDHP cfg) = some p ∧ ofDHPs s0 = p ∧
      runGR (rfGo extra) grow fuel s0 ops = Res.ok (t, rs) ∧ ParseOKD t ∧
      ofDHPs t = (runOps (p, Ghost.init) (ops.map GOpR.abs)).1 ∧
      ghostRunR Ghost.init ops rs = (runOps (p, Ghost.init) (ops.map GOpR.abs)).2 ∧
      ResultsAgreeR (p, Ghost.init) ops rs :=
  gen_dhp_history_rf cfg s0 hinit (rfGo extra) (rfGo_spec extra) grow fuel hfuel ops hwf

/-- C01 about the Go text of DHP, histories of Write / ReadFrom / Parse / Shrink / Reset — no hypothesis about
    `ReadFrom` is left: it is the translated function run against the scripted reader. -/
theorem C01_go_text_dhp_rf_go (cfg : Gen.DHPConfig) (s0 : Gen.doubleHashParser)
    (hinit : doubleHashParser_init default cfg = Res.ok (s0, Gen.Err.ok))
    (extra : Nat) (grow : Nat → Nat → Nat) (fuel : Nat)
    (hfuel : 2 * s0.doubleHashDictionary.ParserBuffer.BufConfig.BufferSize.toNat + 3 ≤ fuel)
    (ops : List GOpR) (hwf : ∀ op ∈ ops, op.WF) :
    ∃ t rs, runGR (rfGo extra) grow fuel s0 ops = Res.ok (t, rs) ∧
      decode [] (ghostRunR Ghost.init ops rs).log =
        some ((ghostRunR Ghost.init ops rs).fed.take (ghostRunR Ghost.init ops rs).consumed) :=
  C01_go_text_dhp_rf cfg s0 hinit (rfGo extra) (rfGo_spec extra) grow fuel hfuel ops hwf

/-- C02 about the Go text of DHP, histories with `ReadFrom` (as `C02_go_text_dhp`) -/
theorem C02_go_text_dhp_rf_go (cfg : Gen.DHPConfig) (s0 : Gen.doubleHashParser)
    (hinit : doubleHashParser_init default cfg = Res.ok (s0, Gen.Err.ok))
    (extra : Nat) (grow : Nat → Nat → Nat) (fuel : Nat)
    (hfuel : 2 * s0.doubleHashDictionary.ParserBuffer.BufConfig.BufferSize.toNat + 3 ≤ fuel)
    (ops : List GOpR) (hwf : ∀ op ∈ ops, op.WF) :
    ∃ t rs, runGR (rfGo extra) grow fuel s0 ops = Res.ok (t, rs) ∧
      LogAll (fun pos e => ∀ n fl blk, e = .block n fl blk →
        SeqsAll (SeqWF s0.doubleHashDictionary.ParserBuffer.BufConfig.WindowSize.toNat
          (Min.min 3 s0.DHPConfig.InputLen1.toNat)) pos blk.seqs ∧
        litSum blk.seqs ≤ blk.lits.length) 0 (ghostRunR Ghost.init ops rs).log := by
  obtain ⟨p, t, rs, hp, h0, h1, -, -, h4, -⟩ :=
    gen_dhp_history_rf_go cfg s0 hinit extra grow fuel hfuel ops hwf
  subst h0
  exact ⟨t, rs, h1, GenHist.C02_ghost hp (histHyp_of_ne .DHP _ (by decide)) h4⟩

/-- C03 about the Go text of DHP, histories with `ReadFrom` (as `C03_go_text_dhp`) -/
theorem C03_go_text_dhp_rf_go (cfg : Gen.DHPConfig) (s0 : Gen.doubleHashParser)
    (hinit : doubleHashParser_init default cfg = Res.ok (s0, Gen.Err.ok))
    (extra : Nat) (grow : Nat → Nat → Nat) (fuel : Nat)
    (hfuel : 2 * s0.doubleHashDictionary.ParserBuffer.BufConfig.BufferSize.toNat + 3 ≤ fuel)
    (ops : List GOpR) (hwf : ∀ op ∈ ops, op.WF) :
    ∃ t rs, runGR (rfGo extra) grow fuel s0 ops = Res.ok (t, rs) ∧
      let g := ghostRunR Ghost.init ops rs
      LogAll (fun pos e => 1 ≤ e.n ∧ e.n ≤ s0.doubleHashDictionary.ParserBuffer.BufConfig.BlockSize.toNat ∧
        pos + e.n ≤ g.fed.length ∧
        ∀ n fl blk, e = .block n fl blk →
          blk.len = n ∧ expand (g.fed.take pos) blk = some (g.fed.take (pos + n)) ∧
          (fl % 2 = 1 → blk.seqs ≠ [] → blk.lits.length = litSum blk.seqs ∧ n = seqsSpan blk.seqs)) 0 g.log ∧
      logSpan g.log = g.consumed ∧ g.consumed ≤ g.fed.length := by
  obtain ⟨p, t, rs, hp, h0, h1, -, -, h4, -⟩ :=
    gen_dhp_history_rf_go cfg s0 hinit extra grow fuel hfuel ops hwf
  subst h0
  exact ⟨t, rs, h1, GenHist.C03_ghost hp (histHyp_of_ne .DHP _ (by decide)) h4⟩

end LZ.GenDHPHist

#print axioms LZ.GenDHPHist.hist_readFrom
#print axioms LZ.GenDHPHist.gen_dhp_history_rf
#print axioms LZ.GenDHPHist.C01_go_text_dhp_rf
#print axioms LZ.GenDHPHist.gen_dhp_history_rf_go
#print axioms LZ.GenDHPHist.C01_go_text_dhp_rf_go
#print axioms LZ.GenDHPHist.C02_go_text_dhp_rf_go
#print axioms LZ.GenDHPHist.C03_go_text_dhp_rf_go
