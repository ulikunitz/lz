/-
  LzProofs.GsapLoop — C12 lifted through the greedy loop: every sequence GSAP emits carries
  the longest previous match at its position, and (buffer ≤ window) every literal position had
  no match of `minMatch` bytes available.
-/
import LzProofs.GsapProps
import LzProofs.ParseParser
namespace LZ.Sap

/-! ## the reference: longest previous match -/

/-- `max` over `f < k` of the common prefix of the suffixes of `p` at `f` and `i` -/
def lpmAt (p : List Byte) (i : Nat) : Nat → Nat
  | 0 => 0
  | k + 1 => max (lpmAt p i k) (lcpLen (p.drop k) (p.drop i))

/-- length of the longest match at `i` against any earlier position of `p` (clipped at the end
    of `p`) — the brute-force oracle -/
def lpm (p : List Byte) (i : Nat) : Nat := lpmAt p i i

theorem lpmAt_le_iff (p : List Byte) (i m : Nat) : ∀ k,
    lpmAt p i k ≤ m ↔ ∀ f, f < k → lcpLen (p.drop f) (p.drop i) ≤ m := by
  intro k
  induction k with
  | zero => simp [lpmAt]
  | succ k ih =>
    simp only [lpmAt, Nat.max_le, ih]
    constructor
    · rintro ⟨a, b⟩ f hf
      by_cases h : f = k
      · subst h; exact b
      · exact a f (by omega)
    · intro h; exact ⟨fun f hf => h f (by omega), h k (by omega)⟩

theorem lpmAt_attained (p : List Byte) (i : Nat) : ∀ k,
    lpmAt p i k = 0 ∨ ∃ f, f < k ∧ lpmAt p i k = lcpLen (p.drop f) (p.drop i) := by
  intro k
  induction k with
  | zero => left; rfl
  | succ k ih =>
    simp only [lpmAt]
    by_cases h : lpmAt p i k ≤ lcpLen (p.drop k) (p.drop i)
    · right; exact ⟨k, by omega, by omega⟩
    · rcases ih with h0 | ⟨f, a, b⟩
      · omega
      · right; exact ⟨f, by omega, by omega⟩

/-- characterisation used below: an attained upper bound is the maximum -/
theorem lpm_eq {p : List Byte} {i m f : Nat} (hf : f < i)
    (hm : m = lcpLen (p.drop f) (p.drop i))
    (hup : ∀ f', f' < i → lcpLen (p.drop f') (p.drop i) ≤ m) : lpm p i = m := by
  apply Nat.le_antisymm
  · exact (lpmAt_le_iff p i m i).2 hup
  · rw [hm]; exact (lpmAt_le_iff p i _ i).1 (Nat.le_refl _) f hf

theorem lpm_lt {p : List Byte} {i m : Nat} (hm : 0 < m)
    (hup : ∀ f', f' < i → lcpLen (p.drop f') (p.drop i) < m) : lpm p i < m := by
  rcases lpmAt_attained p i i with h | ⟨f, a, b⟩
  · unfold lpm; omega
  · unfold lpm; rw [b]; exact hup f a

theorem lpm_lt_iff (p : List Byte) (q mm : Nat) :
    lpm p q < mm ↔ 1 ≤ mm ∧ ∀ f, f < q → lcpLen (p.drop f) (p.drop q) < mm :=
  ⟨fun h => ⟨by omega, fun f hf =>
      Nat.lt_of_le_of_lt ((lpmAt_le_iff p q _ q).1 (Nat.le_refl _) f hf) h⟩,
    fun ⟨h1, h2⟩ => lpm_lt h1 h2⟩

/-! ## what the emitted sequences must satisfy -/

/-- The sequences, read from block position `a`: each match has exactly the longest-previous-
    match length at its position and at least `minMatch` bytes; when `lit` is set, every literal
    position in front of it had no match of `minMatch` bytes.  The match is real: its offset
    points to an earlier buffered position inside the window and the two suffixes share exactly
    `matchLen` bytes (clipped at the block end). -/
def GreedySpec (p : List Byte) (ws minMatch : Nat) (lit : Prop) : Nat → List Seq → Prop
  | _, [] => True
  | a, s :: r =>
    (lit → ∀ q, a ≤ q → q < a + s.litLen → lpm p q < minMatch) ∧
    s.matchLen = lpm p (a + s.litLen) ∧ minMatch ≤ s.matchLen ∧
    (1 ≤ s.offset ∧ s.offset ≤ a + s.litLen ∧ s.offset < ws ∧
      s.matchLen = lcpLen (p.drop (a + s.litLen - s.offset)) (p.drop (a + s.litLen))) ∧
    GreedySpec p ws minMatch lit (a + s.litLen + s.matchLen) r

theorem GreedySpec.of_lit {p : List Byte} {ws mm : Nat} {lit : Prop} (hl : lit) :
    ∀ (ss : List Seq) (a : Nat), GreedySpec p ws mm lit a ss → GreedySpec p ws mm True a ss
  | [], _, _ => trivial
  | _ :: r, _, ⟨h1, h2, h3, h4, h5⟩ => ⟨fun _ => h1 hl, h2, h3, h4, GreedySpec.of_lit hl r _ h5⟩

def endPos : Nat → List Seq → Nat
  | a, [] => a
  | a, s :: r => endPos (a + s.litLen + s.matchLen) r

theorem GreedySpec_snoc (p : List Byte) (ws minMatch : Nat) (lit : Prop) (s : Seq) :
    ∀ (ss : List Seq) (a : Nat), GreedySpec p ws minMatch lit a ss →
      GreedySpec p ws minMatch lit (endPos a ss) [s] → GreedySpec p ws minMatch lit a (ss ++ [s]) := by
  intro ss
  induction ss with
  | nil => intro a _ h; exact h
  | cons x r ih =>
    intro a h1 h2
    obtain ⟨b, c, d, d', e⟩ := h1
    exact ⟨b, c, d, d', ih _ e h2⟩

theorem endPos_snoc (s : Seq) : ∀ (ss : List Seq) (a : Nat),
    endPos a (ss ++ [s]) = endPos a ss + s.litLen + s.matchLen := by
  intro ss
  induction ss with
  | nil => intro a; rfl
  | cons x r ih => intro a; exact ih _

/-! ## the dictionary along the loop -/

theorem bitsOK_insertRanks {t : List Byte} {sa isa : Array Nat} {bits : Array Bool} {i c : Nat}
    (hs : SAOK t sa isa) (hb : BitsOK sa bits t.length i) (hic : i + c ≤ t.length) :
    BitsOK sa (insertRanks isa bits i c) t.length (i + c) := by
  refine ⟨by simp [hb.size], ?_⟩
  intro r
  rw [insertRanks_spec, hb.mark, hb.size]
  constructor
  · rintro (⟨a, b⟩ | ⟨a, k, hk, hr⟩)
    · exact ⟨a, by omega⟩
    · refine ⟨a, ?_⟩
      have := (hs.sa_isa (i + k) (by omega)).2
      rw [hr] at this
      omega
  · rintro ⟨a, b⟩
    by_cases hle : sa.getD r 0 < i
    · exact Or.inl ⟨a, hle⟩
    · right
      refine ⟨a, sa.getD r 0 - i, by omega, ?_⟩
      have : i + (sa.getD r 0 - i) = sa.getD r 0 := by omega
      rw [this]; exact hs.isa_sa r a

/-- Dictionary part of the state of the GSAP loop that started at `w` with the dictionary `g` and runs
    to `e`: whatever the probes found, `sa` and `isa` are untouched and the ranks of exactly the
    positions passed so far have been marked. -/
structure GD (g : GsapD) (w e : Nat) (st : LoopSt GsapD) : Prop where
  dict : st.dict = { g with bits := insertRanks g.isa g.bits w (st.i - w) }
  w_le : w ≤ st.i
  li_le : st.litIndex ≤ st.i
  i_le : st.i ≤ e

theorem GD.init (g : GsapD) {w e : Nat} (h : w ≤ e) :
    GD g w e { dict := g, i := w, litIndex := w, seqs := [], lits := [] } :=
  ⟨by simp only [Nat.sub_self]; rfl, Nat.le_refl _, Nat.le_refl _, h⟩

section
variable {g : GsapD} {w e ws mm : Nat} {p : List Byte} {st : LoopSt GsapD}

theorem GD.step {d : GsapD} {c : Nat} (hJ : GD g w e st)
    (hd : d = { st.dict with bits := insertRanks st.dict.isa st.dict.bits st.i c }) :
    d = { g with bits := insertRanks g.isa g.bits w (st.i + c - w) } := by
  have h := insertRanks_add g.isa (st.i - w) c g.bits w
  rw [Nat.add_sub_cancel' hJ.w_le] at h
  rw [hd, hJ.dict, show st.i + c - w = st.i - w + c by have := hJ.w_le; omega, ← h]

theorem GD.none {d : GsapD} (hJ : GD g w e st) (hi : st.i < e)
    (hp : gsapProbe ws mm st.dict p st.i st.litIndex = (d, none)) :
    GD g w e { st with dict := d, i := st.i + 1 } :=
  ⟨hJ.step (gsapProbe_none_dict hp), Nat.le_succ_of_le hJ.w_le, Nat.le_succ_of_le hJ.li_le, hi⟩

theorem GD.some {d : GsapD} {s k o : Nat} (hJ : GD g w e st) (hmm : 1 ≤ mm) (hpe : p.length = e)
    (hp : gsapProbe ws mm st.dict p st.i st.litIndex = (d, some (s, k, o))) :
    s = st.i ∧ mm ≤ k ∧ st.i + k ≤ e ∧
    ∀ sq ls, GD g w e { dict := d, i := s + k, litIndex := s + k, seqs := sq, lits := ls } := by
  obtain ⟨rfl, hk, hke, hd⟩ := gsapProbe_some_dict hmm hp
  have := hJ.i_le
  have := hJ.w_le
  exact ⟨rfl, hk, by omega, fun _ _ => ⟨hJ.step hd, by simp only; omega, Nat.le_refl _, by simp only; omega⟩⟩

/-- the loop, dictionary side: no hypothesis on the suffix array is needed -/
theorem gd_loop (hmm : 1 ≤ mm) (hpe : p.length = e) (st : LoopSt GsapD) (hJ : GD g w e st) :
    GD g w e (greedyLoop ⟨gsapProbe ws mm⟩ p e st) ∧ (greedyLoop ⟨gsapProbe ws mm⟩ p e st).i = e := by
  have key := greedyLoop_invariant ⟨gsapProbe ws mm⟩ p e (GD g w e) ?_ ?_ st hJ
  · exact ⟨key.1, by have := key.1.i_le; have := key.2; omega⟩
  · exact fun st d hi hJ hp => hJ.none hi hp
  · intro st d s k o _ hJ hp
    obtain ⟨rfl, hk, -, h⟩ := hJ.some hmm hpe hp
    exact ⟨by omega, h _ _⟩

variable {t : List Byte}

theorem GD.saok (hs : SAOK t g.sa g.isa) (hJ : GD g w e st) : SAOK t st.dict.sa st.dict.isa := by
  rw [hJ.dict]; exact hs

end

theorem gsapSort_bitsOK (data : List Byte) (w : Nat) (hw : w ≤ data.length)
    (hs : SAOK data (gsapSort data w).sa (gsapSort data w).isa) :
    BitsOK (gsapSort data w).sa (gsapSort data w).bits data.length w := by
  -- `sort()` clears the rank set and inserts the ranks of the positions `0 … w-1`
  have h0 : BitsOK (gsapSort data w).sa (Array.replicate (gsapSort data w).sa.size false) data.length 0 := by
    refine ⟨by rw [Array.size_replicate]; exact hs.size_sa, fun r => ?_⟩
    have hfalse : (Array.replicate (gsapSort data w).sa.size false).getD r false = false := by
      simp only [Array.getD_eq_getD_getElem?, Array.getElem?_replicate]
      split <;> rfl
    rw [hfalse]
    exact ⟨fun h => Bool.noConfusion h, fun h => absurd h.2 (Nat.not_lt_zero _)⟩
  have := bitsOK_insertRanks (c := w) hs h0 (by omega)
  rwa [Nat.zero_add] at this

/-- what a clause `B sa bits N i` about the rank set ("… the ranks of positions in front of `i`") has to
    satisfy to be carried along a history: `sort()` establishes it, and it follows the positions the loop
    marks -/
structure BitsClause (B : Array Nat → Array Bool → Nat → Nat → Prop) : Prop where
  sort : ∀ data w, w ≤ data.length → SAOK data (gsapSort data w).sa (gsapSort data w).isa →
    B (gsapSort data w).sa (gsapSort data w).bits data.length w
  insertRanks : ∀ {t sa isa bits i c}, SAOK t sa isa → B sa bits t.length i → i + c ≤ t.length →
    B sa (insertRanks isa bits i c) t.length (i + c)

theorem bitsOK_clause : BitsClause BitsOK :=
  ⟨gsapSort_bitsOK, fun hs hb h => bitsOK_insertRanks hs hb h⟩

theorem GD.clause {B} (hB : BitsClause B) {t : List Byte} {g : GsapD} {w e : Nat} {st : LoopSt GsapD}
    (hs : SAOK t g.sa g.isa) (hb : B g.sa g.bits t.length w) (he : e ≤ t.length) (hJ : GD g w e st) :
    B st.dict.sa st.dict.bits t.length st.i := by
  have h := hB.insertRanks (c := st.i - w) hs hb (by have := hJ.i_le; have := hJ.w_le; omega)
  rw [Nat.add_sub_cancel' hJ.w_le] at h
  rw [hJ.dict]; exact h

/-! ## the loop -/

section Loop
variable (t : List Byte) (g : GsapD) (e w ws minMatch : Nat) (lit : Prop)

/-- invariant of the GSAP loop over the block `p = t.take e`, started at `w` with the dictionary `g` -/
structure GInv (st : LoopSt GsapD) : Prop where
  gd : GD g w e st
  pos : endPos w st.seqs = st.litIndex
  spec : GreedySpec (t.take e) ws minMatch lit w st.seqs
  lits : lit → ∀ q, st.litIndex ≤ q → q < st.i → lpm (t.take e) q < minMatch

theorem gsap_loop (hs : SAOK t g.sa g.isa) (hb : BitsOK g.sa g.bits t.length w) (he : e ≤ t.length)
    (hmm : 1 ≤ minMatch) (hlit : lit → e ≤ ws) (st : LoopSt GsapD)
    (hJ : GInv t g e w ws minMatch lit st) :
    GInv t g e w ws minMatch lit (greedyLoop ⟨gsapProbe ws minMatch⟩ (t.take e) e st) ∧
    (greedyLoop ⟨gsapProbe ws minMatch⟩ (t.take e) e st).i = e := by
  have hlen : (t.take e).length = e := List.length_take_of_le he
  have key := greedyLoop_invariant ⟨gsapProbe ws minMatch⟩ (t.take e) e
    (GInv t g e w ws minMatch lit) ?_ ?_ st hJ
  · exact ⟨key.1, by have := key.1.gd.i_le; have := key.2; omega⟩
  · -- a literal
    intro st d hi hJ hp
    refine ⟨hJ.gd.none hi hp, hJ.pos, hJ.spec, ?_⟩
    intro hl q h1 h2
    rcases Nat.lt_or_eq_of_le (Nat.le_of_lt_succ h2) with hq | hq
    · exact hJ.lits hl q h1 hq
    · subst hq
      exact lpm_lt hmm (gsapProbe_literal_only_if ws minMatch st.litIndex (hJ.gd.saok hs)
        (hJ.gd.clause bitsOK_clause hs hb he) (by omega) (by have := hlit hl; omega) (congrArg Prod.snd hp))
  · -- a match
    intro st d s k o hi hJ hp
    have hp : gsapProbe ws minMatch st.dict (t.take e) st.i st.litIndex = (d, some (s, k, o)) := hp
    have hli := hJ.gd.li_le
    obtain ⟨-, -, hke, hgd⟩ := hJ.gd.some hmm hlen hp
    obtain ⟨rfl, ho1, ho2, ho3, hk1, hk2, hk3⟩ :=
      gsapProbe_longest ws minMatch st.litIndex (hJ.gd.saok hs) (hJ.gd.clause bitsOK_clause hs hb he) (by omega)
        (congrArg Prod.snd hp)
    have hq : ((List.drop st.litIndex (t.take e)).take (st.i - st.litIndex)).length = st.i - st.litIndex :=
      length_take_drop_sub _ (by rw [hlen]; omega)
    have hadd : st.litIndex + (st.i - st.litIndex) = st.i := by omega
    refine ⟨by omega, hgd _ _, ?_, ?_, fun _ q h1 h2 => absurd h2 (Nat.not_lt.2 h1)⟩
    · show endPos w (st.seqs ++ [_]) = st.i + k
      rw [endPos_snoc, hJ.pos]
      simp only [hq, hadd]
    · apply GreedySpec_snoc _ _ _ _ _ _ _ hJ.spec
      rw [hJ.pos]
      simp only [GreedySpec, hq, hadd]
      exact ⟨fun hl q h1 h2 => hJ.lits hl q h1 h2, (lpm_eq (f := st.i - o) (by omega) hk2 hk3).symm, hk1,
        ⟨ho1, ho2, ho3, hk2⟩, trivial⟩

end Loop

/-! ## the `.gsap` branch of `Parser.parse` -/

/-- the suffix array state the `.gsap` branch works with: re-sorted if the block is not covered -/
def gsapG (s : Parser) (g : GsapD) : GsapD :=
  if s.buf.w + s.blockN > g.sa.size then gsapSort s.buf.data s.buf.w else g

/-- the final loop state of the `.gsap` branch -/
def gsapRun (s : Parser) (g : GsapD) : LoopSt GsapD :=
  greedyLoop ⟨gsapProbe s.buf.cfg.windowSize s.minMatch⟩ (s.buf.data.take (s.buf.w + s.blockN))
    (s.buf.data.take (s.buf.w + s.blockN)).length
    { dict := gsapG s g, i := s.buf.w, litIndex := s.buf.w, seqs := [], lits := [] }

theorem parse_gsap_eq (s : Parser) (g : GsapD) (hd : s.dict = .gsap g) (flags : Nat)
    (hn : s.blockN ≠ 0) :
    s.parse flags =
      (let st := gsapRun s g
       let fb := finishBlock (s.buf.data.take (s.buf.w + s.blockN)) flags st
       let g' := if flags % 2 = 1 ∧ fb.2.seqs ≠ [] ∧ st.litIndex < (s.buf.data.take (s.buf.w + s.blockN)).length
         then { st.dict with sa := #[] } else st.dict
       ({ s with buf := { s.buf with w := fb.1 }, dict := .gsap g' }, fb.1 - s.buf.w, .ok, fb.2)) := by
  rw [Parser.parse_gsap s flags g hd hn]
  rfl

/-- the final loop state of the `.gsap` branch, dictionary side -/
theorem gsapRun_gd (s : Parser) (g : GsapD) (hn : s.blockN ≠ 0) (hmm : 1 ≤ s.minMatch) :
    GD (gsapG s g) s.buf.w (s.buf.w + s.blockN) (gsapRun s g) ∧ (gsapRun s g).i = s.buf.w + s.blockN := by
  have hplen : (s.buf.data.take (s.buf.w + s.blockN)).length = s.buf.w + s.blockN :=
    List.length_take_of_le (blockN_le s hn)
  unfold gsapRun
  rw [hplen]
  exact gd_loop hmm hplen _ (GD.init _ (Nat.le_add_right _ _))

theorem gsapRun_inv (s : Parser) (g : GsapD) (hn : s.blockN ≠ 0) (hmm : 1 ≤ s.minMatch)
    (t : List Byte) (ht : s.buf.data.take (s.buf.w + s.blockN) = t.take (s.buf.w + s.blockN))
    (he : s.buf.w + s.blockN ≤ t.length)
    (hs : SAOK t (gsapG s g).sa (gsapG s g).isa)
    (hb : BitsOK (gsapG s g).sa (gsapG s g).bits t.length s.buf.w)
    (lit : Prop) (hlit : lit → s.buf.w + s.blockN ≤ s.buf.cfg.windowSize) :
    GInv t (gsapG s g) (s.buf.w + s.blockN) s.buf.w s.buf.cfg.windowSize s.minMatch lit
      (gsapRun s g) ∧ (gsapRun s g).i = s.buf.w + s.blockN := by
  have hplen : (s.buf.data.take (s.buf.w + s.blockN)).length = s.buf.w + s.blockN :=
    List.length_take_of_le (blockN_le s hn)
  unfold gsapRun
  rw [hplen, ht]
  exact gsap_loop t _ (s.buf.w + s.blockN) s.buf.w s.buf.cfg.windowSize s.minMatch lit hs hb he hmm hlit _
    ⟨GD.init _ (Nat.le_add_right _ _), rfl, trivial, fun _ q a b => absurd b (Nat.not_lt.2 a)⟩

/-- C12 for a block (hypotheses named): let `t` be the data the suffix array in use was built
    from (`SAOK`; the block `p` is a prefix of `t`) and let `bits` mark exactly the ranks of the
    positions in front of the block (`BitsOK`).  Then
    * every emitted match has exactly the longest-previous-match length at its position
      (against all earlier buffered bytes, clipped at the block end) and `≥ MinMatchLen` bytes;
    * if the block end is inside the window (`w + n ≤ WindowSize`, implied by
      `BufferSize ≤ WindowSize`), every byte emitted as a literal — between the matches and
      behind the last one — had no earlier position offering `MinMatchLen` bytes. -/
theorem C12_longest_partial (s : Parser) (g : GsapD) (hd : s.dict = .gsap g) (flags : Nat)
    (hn : s.blockN ≠ 0) (hmm : 1 ≤ s.minMatch)
    (t : List Byte) (ht : s.buf.data.take (s.buf.w + s.blockN) = t.take (s.buf.w + s.blockN))
    (he : s.buf.w + s.blockN ≤ t.length)
    (hs : SAOK t (gsapG s g).sa (gsapG s g).isa)
    (hb : BitsOK (gsapG s g).sa (gsapG s g).bits t.length s.buf.w) :
    GreedySpec (s.buf.data.take (s.buf.w + s.blockN)) s.buf.cfg.windowSize s.minMatch
      (s.buf.w + s.blockN ≤ s.buf.cfg.windowSize) s.buf.w (s.parse flags).2.2.2.seqs ∧
    (s.buf.w + s.blockN ≤ s.buf.cfg.windowSize →
      ∀ q, endPos s.buf.w (s.parse flags).2.2.2.seqs ≤ q → q < s.buf.w + s.blockN →
        lpm (s.buf.data.take (s.buf.w + s.blockN)) q < s.minMatch) := by
  obtain ⟨hJ, hi⟩ := gsapRun_inv s g hn hmm t ht he hs hb _ id
  rw [parse_gsap_eq s g hd flags hn]
  simp only [finishBlock_seqs]
  rw [ht]
  refine ⟨hJ.spec, ?_⟩
  intro hl q h1 h2
  rw [hJ.pos] at h1
  rw [← hi] at h2
  exact hJ.lits hl q h1 h2

/-! ## the state invariant along `Parse` -/

/-- The state invariant of GSAP along a history, for a clause `B` about the rank set: the suffix array
    is absent (fresh parser, after `Reset`/`Shrink`, after a truncated block) or it is the suffix array
    of a prefix `t` of the present buffer and `B` holds of `bits` for the positions in front of `W`. -/
def GsapSt (B : Array Nat → Array Bool → Nat → Nat → Prop) (s : Parser) (g : GsapD) : Prop :=
  g.sa.size = 0 ∨ ∃ t, t <+: s.buf.data ∧ SAOK t g.sa g.isa ∧ B g.sa g.bits t.length s.buf.w

section
variable {B : Array Nat → Array Bool → Nat → Nat → Prop} {s : Parser} {g : GsapD}

/-- the dictionary the `.gsap` branch works with belongs to a text that covers the block -/
theorem GsapSt.block (hB : BitsClause B) (hn : s.blockN ≠ 0) (h : GsapSt B s g)
    (hsa : ∀ data w, SAOK data (gsapSort data w).sa (gsapSort data w).isa) :
    ∃ t, t <+: s.buf.data ∧ s.buf.w + s.blockN ≤ t.length ∧
      SAOK t (gsapG s g).sa (gsapG s g).isa ∧ B (gsapG s g).sa (gsapG s g).bits t.length s.buf.w := by
  have hle := blockN_le s hn
  unfold gsapG
  by_cases hre : s.buf.w + s.blockN > g.sa.size
  · rw [if_pos hre]
    exact ⟨s.buf.data, List.prefix_refl _, hle, hsa _ _, hB.sort _ _ (by omega) (hsa _ _)⟩
  · rw [if_neg hre]
    rcases h with h0 | ⟨t, h1, h2, h3⟩
    · omega
    · exact ⟨t, h1, by have := h2.size_sa; omega, h2, h3⟩

/-- `Parse(&blk, flags)` keeps the invariant: the loop marks exactly the positions it passes; a truncated
    block drops the suffix array -/
theorem GsapSt.parse (hB : BitsClause B) (hd : s.dict = .gsap g) (flags : Nat) (hn : s.blockN ≠ 0)
    (hmm : 1 ≤ s.minMatch) (h : GsapSt B s g)
    (hsa : ∀ data w, SAOK data (gsapSort data w).sa (gsapSort data w).isa) :
    ∃ g2, (s.parse flags).1.dict = .gsap g2 ∧ GsapSt B (s.parse flags).1 g2 := by
  obtain ⟨t, h1, h2, h3, h4⟩ := h.block hB hn hsa
  have hplen : (s.buf.data.take (s.buf.w + s.blockN)).length = s.buf.w + s.blockN :=
    List.length_take_of_le (blockN_le s hn)
  obtain ⟨hJ, hi⟩ := gsapRun_gd s g hn hmm
  have hb2 := hJ.clause hB h3 h4 h2
  rw [parse_gsap_eq s g hd flags hn]
  simp only
  split
  · exact ⟨_, rfl, Or.inl rfl⟩
  · rename_i hc
    refine ⟨_, rfl, Or.inr ⟨t, h1, hJ.saok h3, ?_⟩⟩
    rw [finishBlock_seqs] at hc
    have hw' := finishBlock_fst _ flags (gsapRun s g) (by rw [hplen, ← hi]; exact hJ.li_le) hc
    show B (gsapRun s g).dict.sa (gsapRun s g).dict.bits t.length
      (finishBlock (s.buf.data.take (s.buf.w + s.blockN)) flags (gsapRun s g)).1
    rw [hw', hplen, ← hi]; exact hb2

end

/-- C12 for a block parsed right after a (re-)sort: only the suffix-array facts about
    `saSpec`/`invertSA` remain as hypothesis -/
theorem C12_longest_fresh (s : Parser) (g : GsapD) (hd : s.dict = .gsap g) (flags : Nat)
    (hn : s.blockN ≠ 0) (hmm : 1 ≤ s.minMatch) (hsort : s.buf.w + s.blockN > g.sa.size)
    (hs : SAOK s.buf.data (gsapSort s.buf.data s.buf.w).sa (gsapSort s.buf.data s.buf.w).isa) :
    GreedySpec (s.buf.data.take (s.buf.w + s.blockN)) s.buf.cfg.windowSize s.minMatch
      (s.buf.w + s.blockN ≤ s.buf.cfg.windowSize) s.buf.w (s.parse flags).2.2.2.seqs ∧
    (s.buf.w + s.blockN ≤ s.buf.cfg.windowSize →
      ∀ q, endPos s.buf.w (s.parse flags).2.2.2.seqs ≤ q → q < s.buf.w + s.blockN →
        lpm (s.buf.data.take (s.buf.w + s.blockN)) q < s.minMatch) := by
  have hle := blockN_le s hn
  have hg : gsapG s g = gsapSort s.buf.data s.buf.w := by unfold gsapG; rw [if_pos hsort]
  apply C12_longest_partial s g hd flags hn hmm s.buf.data rfl hle
  · rw [hg]; exact hs
  · rw [hg]; exact gsapSort_bitsOK _ _ (by omega) hs

/-! ## non-vacuity -/

/-- `"abab"` with its suffix array `[2,0,3,1]` and inverse -/
example : SAOK [97, 98, 97, 98] #[2, 0, 3, 1] #[1, 3, 0, 2] :=
  ⟨by decide, by decide, by decide, by unfold LexSorted; decide⟩

/-- after position 0 and 1 were passed: ranks 1 (`abab`) and 3 (`bab`) are marked -/
example : BitsOK #[2, 0, 3, 1] #[false, true, false, true] 4 2 :=
  ⟨by decide, by
    intro r
    by_cases h : r < 4
    · have : r = 0 ∨ r = 1 ∨ r = 2 ∨ r = 3 := by omega
      rcases this with rfl | rfl | rfl | rfl <;> decide
    · have : (#[false, true, false, true] : Array Bool).getD r false = false :=
        getD_false_of_size_le _ (by simp; omega)
      rw [this]; simp; omega⟩

/-- the probe at position 2 of `"abab"` finds the match `(2, 2, 2)` — `lpm = 2` -/
example : (gsapProbe 8 2 ⟨#[2, 0, 3, 1], #[1, 3, 0, 2], #[false, true, false, true]⟩
    [97, 98, 97, 98] 2 0).2 = some (2, 2, 2) := by decide

example : lpm [97, 98, 97, 98] 2 = 2 := by decide

#print axioms gd_loop
#print axioms gsap_loop
#print axioms C12_longest_partial
#print axioms C12_longest_fresh
#print axioms GsapSt.block
#print axioms GsapSt.parse

/-! ## counter-witness: the unrepaired GSAP loop (D6) -/

/-- the loop of `gsap.Parse` before the repair, with fuel: `i++; continue` inside
    `for …; i++` advances by 2 after a literal, and after a match the position `litIndex` is
    skipped; `repaired = true` gives the repaired stepping -/
def gsapLoopFuel (repaired : Bool) (ws minMatch : Nat) (p : List Byte) :
    Nat → GsapD → Nat → List (Nat × Nat × Nat) → List (Nat × Nat × Nat)
  | 0, _, _, acc => acc
  | fuel + 1, g, i, acc =>
    if i < p.length then
      match gsapProbe ws minMatch g p i 0 with
      | (g', none) => gsapLoopFuel repaired ws minMatch p fuel g' (if repaired then i + 1 else i + 2) acc
      | (g', some (s, k, o)) =>
        gsapLoopFuel repaired ws minMatch p fuel g' (if repaired then s + k else s + k + 1) (acc ++ [(s, k, o)])
    else acc

def xabab : List Byte := [120, 97, 98, 97, 98]
def xababG : GsapD := ⟨#[3, 1, 4, 2, 0], #[4, 1, 3, 0, 2], #[false, false, false, false, false]⟩

example : SAOK xabab xababG.sa xababG.isa :=
  ⟨by decide, by decide, by decide, by unfold LexSorted; decide⟩

/-- `"xabab"`: the unrepaired loop visits only the positions 0, 2, 4 and finds nothing, although
    position 3 has a match of length 2 (`lpm = 2`); the repaired stepping emits it. -/
example : gsapLoopFuel false 8 2 xabab 5 xababG 0 [] = [] ∧
    lpm xabab 3 = 2 ∧
    gsapLoopFuel true 8 2 xabab 5 xababG 0 [] = [(3, 2, 2)] := by decide

end LZ.Sap
