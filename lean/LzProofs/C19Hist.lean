/-
  LzProofs.C19Hist — property C19, the maximality clauses, at HISTORY level.

  C19: "Every match emitted by the hash and bucket parsers is maximal to the right (the bytes
  following the match and its source differ, or the block/buffer or MaxMatchLen ends) and, for the
  backward-extending variants BHP and BDHP, also to the left down to the start of the pending
  literals (the byte before the match and before its source differ, or no literal is pending, or the
  source would leave the buffer).  Among the candidates of one probe the parser keeps the longest
  and on a tie the nearest one.  [run clause: Runs*.lean]"

  Histories: `runOps (s0, Ghost.init) ops` of LzProofs/ParseHist.lean (`POp`: Write, ReadFrom,
  Parse(&blk, flags), Parse(nil), Shrink, Reset; any arguments), `newParser k raw = some s0`,
  `stateAfter s0 ops` = the parser state reached.

  The third clause.  What "the candidates of one probe" are is read off the code
  (hp.go/bhp.go, dhp.go/bdhp.go, bup.go; model: `hpProbe`, `dhpProbe`, `bupProbe`/`bupScan`):
    * HP / BHP look at ONE table entry per probe (`HashT.cand`);
    * DHP / BDHP look at ONE entry per probe: in the first loop the entry of the long table if its
      stored value matches, otherwise the entry of the short table; in the second loop the entry of
      the short table (`Hash2.cand`).  The lengths of the two entries are never compared;
    * BUP scans all slots of one bucket and keeps the longest candidate, on a tie the one with the
      smaller offset (`bupScan_best`, `BupBest`) — the only parser with a real choice.
  `Parser.LongestNearest` states, for one call: the sequences of the block are exactly the matches
  reported by the probes of the greedy loop (`Chained`: each probe runs on the search structure the
  loop has built so far), and every probe reports its single candidate iff it verifies
  (`oneCandResult`), resp. the longest-then-nearest candidate of its bucket, and nothing only if no
  candidate verifies.  This holds for ARBITRARY table contents; reachability is only needed for
  "no panic", kind ↔ search structure, and `1 ≤ minMatch`.
  If instead BOTH table entries of DHP / BDHP were counted as candidates the clause would be FALSE
  at history level: `bdhp_long_table_first` is a kernel-checked BDHP history (stale long-table entry,
  the known BDHP re-indexing behaviour; no hash collision involved) where the emitted match has 4
  bytes and the short table's entry offers 8.  For DHP the long table is re-indexed everywhere the
  short one is, so such a violation needs a false positive of the long table (equal low 32 bits and
  equal slot for different keys, InputLen2 ≥ 6); no witness is given here.
-/
import LzProofs.ProbeW
import LzProofs.ParseProps
import LzProofs.GsapLoop
import LzProofs.Reach
namespace LZ
open Parser

/-! ## reachable states: kind and search structure belong together -/

/-- the parser state after the history `ops` on the parser `NewParser` returned -/
abbrev stateAfter (s0 : Parser) (ops : List POp) : Parser := (runOps (s0, Ghost.init) ops).1

/-- the variant of the search structure that belongs to a hash-parser kind -/
def DictOf : Kind → Dict → Prop
  | .HP, d | .BHP, d => ∃ h, d = .single h
  | .DHP, d | .BDHP, d => ∃ t, d = .double t
  | .BUP, d => ∃ b, d = .bucket b
  | _, _ => True

theorem DictShape.dictOf {k : Kind} {c : Cfg} {d : Dict} (h : DictShape k c d) : DictOf k d := by
  cases d with
  | single t => rcases h.1 with rfl | rfl <;> exact ⟨t, rfl⟩
  | double t => rcases h.1.1 with rfl | rfl <;> exact ⟨t, rfl⟩
  | bucket t => obtain rfl := h.1; exact ⟨t, rfl⟩
  | gsap g => have h : k = .GSAP := h; subst h; trivial
  | osap o => have h : k = .OSAP := h; subst h; trivial

/-- in every reachable state the kind is the one `NewParser` was called for and the search structure
    is the variant of that kind (single table / two tables / buckets) -/
theorem reachable_kind_dict (k : Kind) (raw : Cfg) (s0 : Parser)
    (h0 : newParser k raw = some s0) (ops : List POp) :
    (stateAfter s0 ops).kind = k ∧ DictOf k (stateAfter s0 ops).dict :=
  have hB := (reachable_runOps s0 ops).base h0
  ⟨hB.kind, hB.shape.dictOf⟩

/-- in every reachable state of BHP / BDHP `backward` (the flag `C19_left_maximal` asks for) is set -/
theorem reachable_backward (k : Kind) (hk : k = .BHP ∨ k = .BDHP) (raw : Cfg) (s0 : Parser)
    (h0 : newParser k raw = some s0) (ops : List POp) :
    (stateAfter s0 ops).backward = true := by
  rw [backward_iff]
  obtain ⟨h1, h2⟩ := reachable_kind_dict k raw s0 h0 ops
  rcases hk with rfl | rfl
  · obtain ⟨h, h2⟩ := h2
    exact Or.inl ⟨h, h2, h1⟩
  · obtain ⟨d, h2⟩ := h2
    exact Or.inr ⟨d, h2, h1⟩

/-- C19 at history level, right-maximality.  For every greedy parser kind (`k ≠ OSAP`: HP, BHP,
    DHP, BDHP, BUP — and GSAP), every accepted configuration, every history `ops` and all `flags`:
    every sequence of the block the next `Parse(&blk, flags)` returns is right-maximal in the block
    prefix `Data[:W + min(len(Data) - W, BlockSize)]` — the match ends at the end of the block
    prefix or the byte behind it differs from the byte `Offset` back (`SeqRightMax`, the statement
    of the per-call theorem `C19_right_maximal`; positions are buffer positions, `SeqsAll_iff`
    spells `SeqsAll` out).  Without unparsed data the block has no sequence. -/
theorem C19_right_maximal_reachable (k : Kind) (hk : k ≠ .OSAP) (raw : Cfg) (s0 : Parser)
    (h0 : newParser k raw = some s0) (ops : List POp) (flags : Nat) :
    let s := stateAfter s0 ops
    SeqsAll (SeqRightMax s.blockPrefix) s.buf.w (s.parse flags).2.2.2.seqs := by
  intro s
  obtain ⟨hs, hg⟩ := reachable_stateOK k raw s0 h0 hk ops
  exact SeqsAll.mono (fun _ _ h => h.2.2.1) _ _ (hs.parse_seqGood hg flags)

/-- C19 at history level, left-maximality (BHP, BDHP).  Every sequence of the block the next
    `Parse(&blk, flags)` returns after any history has no pending literal (`LitLen = 0`), or the
    source of its match starts at `Data[0]` (`Offset = ` position of the match), or the byte before
    the match differs from the byte before its source (`SeqLeftMax`, the statement of the per-call
    theorem `C19_left_maximal`, whose hypothesis `backward = true` is `reachable_backward`). -/
theorem C19_left_maximal_reachable (k : Kind) (hk : k = .BHP ∨ k = .BDHP) (raw : Cfg) (s0 : Parser)
    (h0 : newParser k raw = some s0) (ops : List POp) (flags : Nat) :
    let s := stateAfter s0 ops
    SeqsAll (SeqLeftMax s.blockPrefix) s.buf.w (s.parse flags).2.2.2.seqs := by
  intro s
  have hne : k ≠ .OSAP := by rcases hk with rfl | rfl <;> decide
  obtain ⟨hs, hg⟩ := reachable_stateOK k raw s0 h0 hne ops
  exact SeqsAll.mono (fun _ _ h => h.2.2.2 (reachable_backward k hk raw s0 h0 ops)) _ _ (hs.parse_seqGood hg flags)

/-! ## the probes of one greedy loop -/

/-- one probe of the greedy loop: the search structure BEFORE the probe, the probed position, the
    first uncovered byte, and what the finder reported -/
structure ProbeRec (δ : Type) where
  d : δ
  i : Nat
  li : Nat
  res : Option (Nat × Nat × Nat)

/-- the sequence the loop appends for a reported match `(start, len, offset)` -/
def ProbeRec.toSeq {δ} (r : ProbeRec δ) : Option Seq :=
  r.res.map fun m => { litLen := m.1 - r.li, matchLen := m.2.1, offset := m.2.2 }

/-- `tr` is exactly the list of probes the greedy loop performs from search structure `d`, position
    `i`, first uncovered byte `li` up to `stop`: each record holds the current state and the
    finder's answer, the next probe starts from the finder's new structure at `i + 1` (no match) or
    behind the match, and the list ends only when `stop` is reached -/
def Chained {δ} (F : Finder δ) (p : List Byte) (stop : Nat) :
    δ → Nat → Nat → List (ProbeRec δ) → Prop
  | _, i, _, [] => stop ≤ i
  | d, i, li, r :: rs =>
    i < stop ∧ r.d = d ∧ r.i = i ∧ r.li = li ∧ r.res = (F.probe d p i li).2 ∧
    match r.res with
    | none => Chained F p stop (F.probe d p i li).1 (i + 1) li rs
    | some (s, k, _) => Chained F p stop (F.probe d p i li).1 (s + k) (s + k) rs

/-- the sequences of the loop are the matches its probes report, in order (for a finder satisfying
    the probe contract) -/
theorem greedyLoop_trace {δ} (F : Finder δ) (p : List Byte) (ws mm stop : Nat)
    (hF : ProbeOK F p ws mm) :
    ∀ st : LoopSt δ, st.litIndex ≤ st.i →
      ∃ tr, Chained F p stop st.dict st.i st.litIndex tr ∧
        (greedyLoop F p stop st).seqs = st.seqs ++ tr.filterMap ProbeRec.toSeq := by
  intro st
  induction st using greedyLoop.induct F p stop with
  | case1 st h d hp ih =>
    intro hli
    obtain ⟨tr, hc, hs⟩ := ih (Nat.le_succ_of_le hli)
    refine ⟨⟨st.dict, st.i, st.litIndex, none⟩ :: tr, ⟨h, rfl, rfl, rfl, by rw [hp], ?_⟩, ?_⟩
    · show Chained F p stop (F.probe st.dict p st.i st.litIndex).1 (st.i + 1) st.litIndex tr
      rw [hp]; exact hc
    · rw [greedyLoop_none F p stop st d h hp, hs]; rfl
  | case2 st h d s k o hp hk q ih =>
    intro hli
    obtain ⟨-, -, -, hm, -⟩ := hF _ _ _ _ _ _ _ hli hp
    obtain ⟨tr, hc, hs⟩ := ih (Nat.le_refl _)
    refine ⟨⟨st.dict, st.i, st.litIndex, some (s, k, o)⟩ :: tr, ⟨h, rfl, rfl, rfl, by rw [hp], ?_⟩, ?_⟩
    · show Chained F p stop (F.probe st.dict p st.i st.litIndex).1 (s + k) (s + k) tr
      rw [hp]; exact hc
    · have hq : ((p.drop st.litIndex).take (s - st.litIndex)).length = s - st.litIndex := by
        have := hm.2.2.1
        simp only [List.length_take, List.length_drop]; omega
      rw [greedyLoop_some F p stop st d s k o h hp hk, hs, hq, List.append_assoc]
      rfl
  | case3 st h d s k o hp hk =>
    intro hli
    exact absurd (hF _ _ _ _ _ _ _ hli hp).2.2.1 hk
  | case4 st h =>
    intro _
    exact ⟨[], Nat.le_of_not_lt h, by rw [greedyLoop_done F p stop st h]; simp⟩

theorem Chained.res {δ} {F : Finder δ} {p : List Byte} {stop : Nat} :
    ∀ {tr : List (ProbeRec δ)} {d : δ} {i li : Nat}, Chained F p stop d i li tr →
      ∀ r, r ∈ tr → r.res = (F.probe r.d p r.i r.li).2 := by
  intro tr
  induction tr with
  | nil => intro d i li _ r hr; simp at hr
  | cons r0 rs ih =>
    intro d i li hc r hr
    obtain ⟨-, h1, h2, h3, h4, h5⟩ := hc
    rcases List.mem_cons.1 hr with rfl | hr
    · rw [h1, h2, h3]; exact h4
    · cases hres : r0.res with
      | none => rw [hres] at h5; exact ih h5 r hr
      | some m =>
        obtain ⟨s, k, o⟩ := m
        rw [hres] at h5; exact ih h5 r hr

/-! ## the candidates of a probe and the choice among them -/

/-! ### BUP: several candidates -/

/-- longest, on a tie nearest: what a BUP probe at `i` on the buckets `bk` reports.
    * no match: no candidate of the bucket passes the verification (`CandGood`);
    * a match `(i, k, o)`: it belongs to a candidate `j` of the bucket that passes the verification
      (`o = i - j`, `k = lcpLen`), and every candidate `j'` of the bucket at an earlier position
      inside the window offers a shorter match, or an equally long one at an offset `≥ o`. -/
def BupBest (ws mm : Nat) (p : List Byte) (bk : BucketT) (i : Nat) :
    Option (Nat × Nat × Nat) → Prop
  | none => ∀ j, bk.Cand p i j → ¬ CandGood ws mm p i j
  | some (s, k, o) =>
    s = i ∧
    (∃ j, bk.Cand p i j ∧ CandGood ws mm p i j ∧ k = lcpLen (p.drop j) (p.drop i) ∧ o = i - j) ∧
    ∀ j', bk.Cand p i j' → j' < i → i - j' ≤ ws →
      lcpLen (p.drop j') (p.drop i) < k ∨ (lcpLen (p.drop j') (p.drop i) = k ∧ o ≤ i - j')

/-- BUP: every probe reports the longest candidate of its bucket and on a tie the nearest one, and
    reports nothing only if no candidate passes the verification — whatever the buckets contain -/
theorem bupProbe_best (ws mm ie : Nat) (hmm : 1 ≤ mm) (bk : BucketT) (p : List Byte) (i li : Nat) :
    BupBest ws mm p bk i (bupProbe ws mm ie bk p i li).2 := by
  rw [bupProbe_eq]
  obtain ⟨h1, hall⟩ := bupBest_spec bk p i ws
  split
  · intro j hc hg
    have := hall j hc hg.1 hg.2.1
    have := hg.2.2
    omega
  · refine ⟨rfl, ?_, hall⟩
    rcases h1 with h0 | ⟨j, hc, a, b, e1, e2⟩
    · have : (bupBest bk p i ws).2 = 0 := by rw [h0]
      omega
    · exact ⟨j, hc, ⟨a, b, by omega⟩, e2, e1⟩

/-! ## one block, one `Parse` call -/

/-- `seqs` are exactly the matches reported by the probes of one greedy loop (from the search
    structure `d0` at position `w` up to `stop`), in order, and each of these probes — its search
    structure BEFORE the probe, position, first uncovered byte, result — satisfies `Best` -/
def BlockProbes {δ} (F : Finder δ) (p : List Byte) (stop : Nat) (d0 : δ) (w : Nat)
    (Best : δ → Nat → Nat → Option (Nat × Nat × Nat) → Prop) (seqs : List Seq) : Prop :=
  ∃ tr : List (ProbeRec δ), Chained F p stop d0 w w tr ∧ seqs = tr.filterMap ProbeRec.toSeq ∧
    ∀ r, r ∈ tr → Best r.d r.i r.li r.res

theorem runGreedy_blockProbes {δ} (F : Finder δ) (d : δ) (p : List Byte) (ws mm w stop flags : Nat)
    (Best : δ → Nat → Nat → Option (Nat × Nat × Nat) → Prop) (hF : ProbeOK F p ws mm)
    (hB : ∀ d i li, Best d i li (F.probe d p i li).2) :
    BlockProbes F p stop d w Best (runGreedy F d p w stop flags).2.2.1.seqs := by
  obtain ⟨tr, h2, h1⟩ := greedyLoop_trace F p ws mm stop hF
    { dict := d, i := w, litIndex := w, seqs := [], lits := [] } (Nat.le_refl _)
  refine ⟨tr, h2, ?_, ?_⟩
  · show (finishBlock p flags _).2.seqs = _
    rw [finishBlock_seqs, h1]; rfl
  · intro r hr
    rw [h2.res r hr]; exact hB _ _ _

/-- C19, "among the candidates of one probe the parser keeps the longest and on a tie the nearest
    one", for one `Parse(&blk, flags)` on the state `s`: the sequences `seqs` of the block are
    exactly the matches the probes of the call report, and every probe
    * HP / BHP (one table): looks at ONE candidate — the entry of the slot of its key
      (`HashT.cand`) — and reports it iff it passes the verification (`oneCandResult`);
    * DHP / BDHP (two tables): looks at ONE candidate — in the first loop the entry of the long
      table if its value matches, else the entry of the short table; in the second loop the entry
      of the short table (`Hash2.cand`) — and reports it iff it passes the verification;
    * BUP: reports the longest of the candidates of its bucket, on a tie the nearest (`BupBest`).
    The search structure of each probe is the one the loop has built up to that probe
    (`Chained`, starting from the structure after `processSegment`). -/
def Parser.LongestNearest (s : Parser) (seqs : List Seq) : Prop :=
  let w := s.buf.w
  let p := s.blockPrefix
  let ws := s.buf.cfg.windowSize
  let mm := s.minMatch
  match s.dict with
  | .single h =>
    let h1 := processSegment1 h s.buf.data ((w : Int) - h.inputLen + 1) w
    let ie := p.length + 1 - h1.inputLen
    BlockProbes ⟨hpProbe ws mm ie (s.kind == .BHP)⟩ p ie h1 w
      (fun d i li res => res = oneCandResult ws mm p (s.kind == .BHP) i li (d.cand p i)) seqs
  | .double d =>
    let hh := processSegment2 d.h1 d.h2 s.buf.data ((w : Int) - d.h2.inputLen + 1) w
    let e1 := p.length + 1 - hh.1.inputLen
    let e2 := p.length + 1 - hh.2.inputLen
    BlockProbes ⟨dhpProbe ws mm e1 e2 (s.kind == .BDHP)⟩ p e1 ⟨hh.1, hh.2⟩ w
      (fun d i li res => res = oneCandResult ws mm p (s.kind == .BDHP) i li (d.cand e2 p i)) seqs
  | .bucket bk =>
    let b1 := processSegmentB bk s.buf.data ((w : Int) - bk.inputLen + 1) w
    let ie := p.length + 1 - b1.inputLen
    BlockProbes ⟨bupProbe ws mm ie⟩ p ie b1 w (fun d i _ res => BupBest ws mm p d i res) seqs
  | _ => True

/-- C19, longest / nearest, one call on an arbitrary state with unparsed data (the search structure
    may hold anything) -/
theorem C19_longest_nearest (s : Parser) (flags : Nat) (hs : StateOK s)
    (hlt : s.buf.w < s.buf.data.length) :
    s.LongestNearest (s.parse flags).2.2.2.seqs := by
  have hn := hs.blockN_ne hlt
  have hm := marginOK_of_cap s hs.cap hn
  have hmm := hs.minMatch
  unfold Parser.LongestNearest
  cases hd : s.dict with
  | single h =>
    rw [parse_single s flags h hd hn hm]
    exact runGreedy_blockProbes _ _ _ _ _ _ _ _ _
      ((hpProbe_verifying _ _ _ _ _).probeOK hmm) (fun d i li => hpProbe_res _ _ _ _ d _ i li)
  | double d =>
    rw [parse_double s flags d hd hn hm]
    exact runGreedy_blockProbes _ _ _ _ _ _ _ _ _
      ((dhpProbe_verifying _ _ _ _ _ _).probeOK hmm) (fun d i li => dhpProbe_res _ _ _ _ _ d _ i li)
  | bucket bk =>
    rw [parse_bucket s flags bk hd hn hm]
    exact runGreedy_blockProbes _ _ _ _ _ _ _ _ _
      ((bupProbe_verifying _ _ _ hmm _).probeOK hmm) (fun d i li => bupProbe_best _ _ _ hmm d _ i li)
  | gsap g => trivial
  | osap o => trivial

/-- every sequence of a block described by `BlockProbes` is the answer of one of the probes -/
theorem BlockProbes.of_mem {δ} {F : Finder δ} {p : List Byte} {stop : Nat} {d0 : δ} {w : Nat}
    {Best : δ → Nat → Nat → Option (Nat × Nat × Nat) → Prop} {seqs : List Seq}
    (h : BlockProbes F p stop d0 w Best seqs) (sq : Seq) (hsq : sq ∈ seqs) :
    ∃ d i li s k o, (F.probe d p i li).2 = some (s, k, o) ∧ Best d i li (some (s, k, o)) ∧
      sq = { litLen := s - li, matchLen := k, offset := o } := by
  obtain ⟨tr, hc, rfl, hb⟩ := h
  obtain ⟨r, hr, hrs⟩ := List.mem_filterMap.1 hsq
  have h1 := hc.res r hr
  have h2 := hb r hr
  unfold ProbeRec.toSeq at hrs
  cases hres : r.res with
  | none => rw [hres] at hrs; simp at hrs
  | some m =>
    obtain ⟨s, k, o⟩ := m
    rw [hres] at hrs h1 h2
    simp only [Option.map_some, Option.some.injEq] at hrs
    exact ⟨r.d, r.i, r.li, s, k, o, h1.symm, h2, hrs.symm⟩

/-! ## history level -/

/-- C19 at history level, longest / nearest.  For every hash parser kind (HP, BHP, DHP, BDHP,
    BUP), every accepted configuration, every history `ops` and all `flags`: the state reached has
    the kind and the search structure of that kind, and if data is unparsed the sequences of the
    block the next `Parse(&blk, flags)` returns are exactly the matches reported by its probes, each
    probe choosing among ITS candidates as `Parser.LongestNearest` says (BUP: the longest candidate
    of the bucket, on a tie the nearest; HP/BHP: the one entry of the table; DHP/BDHP: the entry of
    the long table if its value matches, else the entry of the short table). -/
theorem C19_longest_nearest_reachable (k : Kind) (hk : ProbeW.HashKind k) (raw : Cfg) (s0 : Parser)
    (h0 : newParser k raw = some s0) (ops : List POp) (flags : Nat) :
    let s := stateAfter s0 ops
    s.kind = k ∧ DictOf k s.dict ∧
    (s.buf.w < s.buf.data.length → s.LongestNearest (s.parse flags).2.2.2.seqs) := by
  intro s
  obtain ⟨hs, -⟩ := reachable_stateOK k raw s0 h0 hk.not_sa.2 ops
  obtain ⟨h1, h2⟩ := reachable_kind_dict k raw s0 h0 ops
  exact ⟨h1, h2, fun hlt => C19_longest_nearest s flags hs hlt⟩

/-- the BUP case spelled out per sequence: every match of every block of every BUP history was
    reported by a probe at some position `i` on some bucket table `bk`; it starts at `i`, its source
    `j` is a candidate of the bucket of `i`, its length is the full common prefix of `j` and `i`
    inside the block prefix, and every other candidate `j'` of that bucket (earlier position, inside
    the window) offers a shorter match, or an equally long one at an offset that is not smaller. -/
theorem C19_longest_nearest_bup_reachable (raw : Cfg) (s0 : Parser)
    (h0 : newParser .BUP raw = some s0) (ops : List POp) (flags : Nat) :
    let s := stateAfter s0 ops
    ∀ sq, sq ∈ (s.parse flags).2.2.2.seqs →
      ∃ (bk : BucketT) (i li j : Nat), bk.Cand s.blockPrefix i j ∧
        CandGood s.buf.cfg.windowSize s.minMatch s.blockPrefix i j ∧
        sq.litLen = i - li ∧ sq.offset = i - j ∧
        sq.matchLen = lcpLen (s.blockPrefix.drop j) (s.blockPrefix.drop i) ∧
        ∀ j', bk.Cand s.blockPrefix i j' → j' < i → i - j' ≤ s.buf.cfg.windowSize →
          lcpLen (s.blockPrefix.drop j') (s.blockPrefix.drop i) < sq.matchLen ∨
          (lcpLen (s.blockPrefix.drop j') (s.blockPrefix.drop i) = sq.matchLen ∧
            sq.offset ≤ i - j') := by
  intro s sq hsq
  obtain ⟨-, ⟨bk0, hd⟩, hL⟩ := C19_longest_nearest_reachable .BUP (by simp [ProbeW.HashKind]) raw s0 h0
    ops flags
  by_cases hlt : s.buf.w < s.buf.data.length
  · have := hL hlt
    unfold Parser.LongestNearest at this
    rw [show (stateAfter s0 ops).dict = .bucket bk0 from hd] at this
    obtain ⟨d, i, li, s1, k, o, -, hb, rfl⟩ := this.of_mem sq hsq
    obtain ⟨rfl, ⟨j, c1, c2, c3, c4⟩, c5⟩ := hb
    subst c3 c4
    exact ⟨d, s1, li, j, c1, c2, rfl, rfl, rfl, c5⟩
  · rw [C03_parse_empty s flags (by have := (reachable_stateOK .BUP raw s0 h0 (by decide) ops).1.w_le; omega)]
      at hsq
    simp at hsq

/-! ## log level: every block of every history -/

/-- C19, longest / nearest, log level: every block in the ghost log of a history of a hash parser
    was returned by a `Parse` call of that history, and its sequences are the matches reported by the
    probes of that call, each chosen among the candidates of its probe as `Parser.LongestNearest`
    says for the state `stateAfter s0 ops1` the call started from -/
theorem C19_longest_nearest_reachable_log (k : Kind) (hk : ProbeW.HashKind k) (raw : Cfg)
    (s0 : Parser) (h0 : newParser k raw = some s0) (ops : List POp) (n fl : Nat) (blk : Block)
    (h : Event.block n fl blk ∈ (runOps (s0, Ghost.init) ops).2.log) :
    ∃ ops1 ops2, ops = ops1 ++ POp.parse fl :: ops2 ∧
      ((stateAfter s0 ops1).parse fl).2 = (n, .ok, blk) ∧
      (stateAfter s0 ops1).kind = k ∧ DictOf k (stateAfter s0 ops1).dict ∧
      (stateAfter s0 ops1).LongestNearest blk.seqs := by
  obtain ⟨ops1, ops2, e1, e2⟩ := log_block_origin s0 ops n fl blk h
  have e2 : ((stateAfter s0 ops1).parse fl).2 = (n, .ok, blk) := e2
  obtain ⟨a1, a2, a3⟩ := C19_longest_nearest_reachable k hk raw s0 h0 ops1 fl
  refine ⟨ops1, ops2, e1, e2, a1, a2, ?_⟩
  have hw := (reachable_stateOK k raw s0 h0 hk.not_sa.2 ops1).1.w_le
  by_cases hlt : (stateAfter s0 ops1).buf.w < (stateAfter s0 ops1).buf.data.length
  · have := a3 hlt
    rw [e2] at this; exact this
  · rw [C03_parse_empty _ fl (by omega)] at e2
    simp at e2

/-! ### right / left maximality relative to the stream -/

/-- C19 for one sequence relative to the stream `fed` (positions are stream positions since the last
    Reset): `lim` is the end of the block prefix the call saw (`min(len(Data) - W, BlockSize)` bytes
    behind the start of the block), `base` the stream position of `Data[0]` at the time of the call.
    * the match lies inside the block prefix;
    * right: it ends at `lim`, or the next byte differs from the byte `Offset` back;
    * left (`back`, BHP / BDHP): no pending literal, or the source starts at `Data[0]`, or the byte
      before the match differs from the byte before the source. -/
def SeqMaxStream (fed : List Byte) (back : Bool) (base lim : Nat) (q : Nat) (sq : Seq) : Prop :=
  q + sq.litLen + sq.matchLen ≤ lim ∧ 1 ≤ sq.offset ∧ sq.offset ≤ q + sq.litLen ∧
  (q + sq.litLen + sq.matchLen = lim ∨
    fed[q + sq.litLen + sq.matchLen]? ≠ fed[q + sq.litLen + sq.matchLen - sq.offset]?) ∧
  (back = true → sq.litLen = 0 ∨ sq.offset = q + sq.litLen - base ∨
    fed[q + sq.litLen - 1]? ≠ fed[q + sq.litLen - 1 - sq.offset]?)

/-- the C19 guarantee of an event at stream position `pos` -/
def EventMax (fed : List Byte) (back : Bool) (bs : Nat) (pos : Nat) : Event → Prop
  | .block n fl blk =>
    ∃ base lim, base ≤ pos ∧ pos + n ≤ lim ∧ lim ≤ pos + bs ∧ lim ≤ fed.length ∧
      ((fl % 2 = 0 ∨ blk.seqs = []) → lim = pos + n) ∧
      SeqsAll (SeqMaxStream fed back base lim) pos blk.seqs
  | .skip _ => True

theorem SeqMaxStream.append {fed : List Byte} {back : Bool} {base lim q : Nat} {sq : Seq}
    (h : SeqMaxStream fed back base lim q sq) (hl : lim ≤ fed.length) (x : List Byte) :
    SeqMaxStream (fed ++ x) back base lim q sq := by
  obtain ⟨a1, a2, a3, a4, a5⟩ := h
  refine ⟨a1, a2, a3, ?_, ?_⟩
  · rcases a4 with a4 | a4
    · exact Or.inl a4
    · by_cases he : q + sq.litLen + sq.matchLen = lim
      · exact Or.inl he
      · right
        rw [List.getElem?_append_left (by omega), List.getElem?_append_left (by omega)]
        exact a4
  · intro hb
    rcases a5 hb with a5 | a5 | a5
    · exact Or.inl a5
    · exact Or.inr (Or.inl a5)
    · by_cases h0 : sq.litLen = 0
      · exact Or.inl h0
      · right; right
        rw [List.getElem?_append_left (by omega), List.getElem?_append_left (by omega)]
        exact a5

theorem EventMax.append {fed : List Byte} {back : Bool} {bs pos : Nat} {e : Event}
    (h : EventMax fed back bs pos e) (x : List Byte) : EventMax (fed ++ x) back bs pos e := by
  cases e with
  | skip b => trivial
  | block n fl blk =>
    obtain ⟨base, lim, b1, b2, b3, b4, b5, b6⟩ := h
    refine ⟨base, lim, b1, b2, b3, by simp; omega, b5, ?_⟩
    exact SeqsAll.mono (fun q sq hq => hq.append b4 x) _ _ b6

/-- a sequence that is good in the block prefix `p = data.take L` (buffer positions) is maximal in
    the stream `dropped ++ data` (stream positions: shifted by `|dropped|`) -/
theorem seqGood_stream (dropped data : List Byte) (L ws mm : Nat) (back : Bool) (hL : L ≤ data.length)
    (q : Nat) (sq : Seq) (h : SeqGood (data.take L) ws mm back q sq) :
    SeqMaxStream (dropped ++ data) back dropped.length (dropped.length + L) (q + dropped.length) sq := by
  obtain ⟨hwf, hgen, hr, hl⟩ := h
  obtain ⟨w1, w2, w3, w4, w5⟩ := hwf
  obtain ⟨g1, g2, g3, g4⟩ := hgen
  have hpl : (data.take L).length = L := by simp; omega
  rw [hpl] at g3
  have get : ∀ x, x < L → (data.take L)[x]? = (dropped ++ data)[dropped.length + x]? := by
    intro x hx
    rw [List.getElem?_take_of_lt hx, List.getElem?_append_right (by omega)]
    congr 1; omega
  refine ⟨by omega, w1, by omega, ?_, ?_⟩
  · unfold SeqRightMax at hr
    rw [hpl] at hr
    by_cases he : q + sq.litLen + sq.matchLen = L
    · left; omega
    · right
      rcases hr with hr | hr
      · exact absurd hr he
      · rw [get _ (by omega), get _ (by omega)] at hr
        have e1 : q + dropped.length + sq.litLen + sq.matchLen =
            dropped.length + (q + sq.litLen + sq.matchLen) := by omega
        have e2 : q + dropped.length + sq.litLen + sq.matchLen - sq.offset =
            dropped.length + (q + sq.litLen + sq.matchLen - sq.offset) := by omega
        rw [e2, e1]; exact hr
  · intro hb
    rcases hl hb with hl | hl | hl
    · exact Or.inl hl
    · right; left; omega
    · by_cases h0 : sq.litLen = 0
      · exact Or.inl h0
      · by_cases h1 : sq.offset = q + sq.litLen
        · right; left; omega
        · right; right
          rw [get _ (by omega), get _ (by omega)] at hl
          have e1 : q + dropped.length + sq.litLen - 1 = dropped.length + (q + sq.litLen - 1) := by omega
          have e2 : q + dropped.length + sq.litLen - 1 - sq.offset =
              dropped.length + (q + sq.litLen - 1 - sq.offset) := by omega
          rw [e2, e1]; exact hl

/-- the block a `Parse` of a greedy parser returns is maximal relative to the stream -/
theorem eventMax_of_parse {k : Kind} {c : Cfg} {bc : BufCfg} {sg : Parser × Ghost}
    (hI : Inv k c bc sg) (hs : StateOK sg.1) (hg : Greedy sg.1) (back : Bool)
    (hback : back = true → sg.1.backward = true) {fl n : Nat} {blk : Block}
    (hp : (sg.1.parse fl).2 = (n, .ok, blk)) :
    EventMax sg.2.fed back bc.blockSize sg.2.consumed (.block n fl blk) := by
  obtain ⟨s, g⟩ := sg
  simp only at hs hg hback hp
  by_cases hle : s.buf.data.length ≤ s.buf.w
  · rw [C03_parse_empty s fl hle] at hp; cases hp
  obtain ⟨s', n', blk', hp', hok, -⟩ := hs.parse_ok hg (Nat.lt_of_not_le hle) fl
  rw [hp'] at hp
  cases hp
  obtain ⟨dropped, hf, hdl⟩ := hI.fed
  have hcons := hI.consumed
  have hbc := hI.bcfg
  simp only at hf hdl hcons hbc
  have hN := s.blockN_le
  have hw := hs.w_le
  simp only [hcons]
  refine ⟨s.buf.off, s.buf.off + (s.buf.w + s.blockN), by omega, ?_, ?_, ?_, ?_, ?_⟩
  · have := hok.n_le; omega
  · rw [← hbc]; omega
  · rw [hf, List.length_append]; omega
  · intro hfl
    have := hok.block.full hfl
    rw [s.blockPrefix_length hw] at this
    omega
  · have h2 := SeqsAll.shift dropped.length
      (fun q sq (hq : s.seqGood q sq) => seqGood_stream dropped s.buf.data (s.buf.w + s.blockN) _ _
        back (by omega) q sq ⟨hq.1, hq.2.1, hq.2.2.1, fun hbk => hq.2.2.2 (hback hbk)⟩)
      _ _ hok.block.all
    rw [hdl, ← hf] at h2
    rwa [Nat.add_comm s.buf.off s.buf.w]

/-- C19 maximality at log level, relative to the stream.  For every greedy parser kind
    (`k ≠ OSAP`: HP, BHP, DHP, BDHP, BUP, GSAP), every accepted configuration and every history:
    every `.block` event of the ghost log, at stream position `pos`, has a block-prefix end `lim`
    (`pos + n ≤ lim ≤ pos + BlockSize`, `lim ≤` bytes fed, `lim = pos + n` without
    `NoTrailingLiterals`) and a buffer start `base ≤ pos` such that every match of the block
    ends at `lim` or before a byte that differs from the byte `Offset` back, and — for `back = true`,
    allowed for BHP and BDHP — has no pending literal before it, or its source starts at `base`, or
    the bytes before the match and before its source differ (`SeqMaxStream`, stream positions). -/
theorem C19_maximal_reachable_log (k : Kind) (hne : k ≠ .OSAP) (raw : Cfg) (s0 : Parser)
    (h0 : newParser k raw = some s0) (back : Bool) (hb : back = true → k = .BHP ∨ k = .BDHP)
    (ops : List POp) :
    let g := (runOps (s0, Ghost.init) ops).2
    LogAll (EventMax g.fed back s0.buf.cfg.blockSize) 0 g.log := by
  have hI := history_inv k raw s0 h0 (histHyp_of_ne k s0 hne)
  refine runOps_logAll (Q := fun fed => EventMax fed back s0.buf.cfg.blockSize) (fun x h => h.append x)
    s0 (fun ops => (hI ops).span) (fun ops0 op e n he => ?_) ops
  cases op <;> cases e <;> first | exact he.elim | trivial | skip
  obtain ⟨rfl, rfl, hp⟩ := he
  obtain ⟨hs, hg⟩ := reachable_stateOK k raw s0 h0 hne ops0
  exact eventMax_of_parse (hI ops0) hs hg back
    (fun hbk => reachable_backward k (hb hbk) raw s0 h0 ops0) hp

/-- right-maximality alone, relative to the stream (all greedy kinds) -/
theorem C19_right_maximal_reachable_log (k : Kind) (hne : k ≠ .OSAP) (raw : Cfg) (s0 : Parser)
    (h0 : newParser k raw = some s0) (ops : List POp) :
    let g := (runOps (s0, Ghost.init) ops).2
    LogAll (fun pos e => ∀ n fl blk, e = .block n fl blk →
      ∃ lim, pos + n ≤ lim ∧ lim ≤ pos + s0.buf.cfg.blockSize ∧ lim ≤ g.fed.length ∧
        ((fl % 2 = 0 ∨ blk.seqs = []) → lim = pos + n) ∧
        SeqsAll (fun q sq => q + sq.litLen + sq.matchLen ≤ lim ∧
          (q + sq.litLen + sq.matchLen = lim ∨
            g.fed[q + sq.litLen + sq.matchLen]? ≠ g.fed[q + sq.litLen + sq.matchLen - sq.offset]?))
          pos blk.seqs) 0 g.log := by
  intro g
  refine LogAll.mono ?_ _ _ (C19_maximal_reachable_log k hne raw s0 h0 false (by simp) ops)
  intro pos e he n fl blk heq
  subst heq
  obtain ⟨base, lim, -, b2, b3, b4, b5, b6⟩ := he
  exact ⟨lim, b2, b3, b4, b5, SeqsAll.mono (fun q sq h => ⟨h.1, h.2.2.2.1⟩) _ _ b6⟩

/-- left-maximality alone, relative to the stream (BHP, BDHP): `base` is the stream position of
    `Data[0]` at the time of the call -/
theorem C19_left_maximal_reachable_log (k : Kind) (hk : k = .BHP ∨ k = .BDHP) (raw : Cfg)
    (s0 : Parser) (h0 : newParser k raw = some s0) (ops : List POp) :
    let g := (runOps (s0, Ghost.init) ops).2
    LogAll (fun pos e => ∀ n fl blk, e = .block n fl blk →
      ∃ base, base ≤ pos ∧
        SeqsAll (fun q sq => sq.litLen = 0 ∨ sq.offset = q + sq.litLen - base ∨
          g.fed[q + sq.litLen - 1]? ≠ g.fed[q + sq.litLen - 1 - sq.offset]?) pos blk.seqs) 0 g.log := by
  intro g
  have hne : k ≠ .OSAP := by rcases hk with rfl | rfl <;> decide
  refine LogAll.mono ?_ _ _ (C19_maximal_reachable_log k hne raw s0 h0 true (fun _ => hk) ops)
  intro pos e he n fl blk heq
  subst heq
  obtain ⟨base, lim, b1, -, -, -, -, b6⟩ := he
  exact ⟨base, b1, SeqsAll.mono (fun q sq h => h.2.2.2.2 rfl) _ _ b6⟩

/-! ## non-vacuity and witnesses (kernel-checked) -/

section Examples

/-- WindowSize 64 = BufferSize, BlockSize 48; HP/BHP/BUP: InputLen 3, 16 slots (BUP: buckets of 4);
    DHP/BDHP: InputLen1 3, InputLen2 4, 64 slots per table -/
def hCfg : Cfg :=
  { windowSize := 64, bufferSize := 64, blockSize := 48, shrinkSize := 16, inputLen := 3, hashBits := 4,
    inputLen1 := 3, hashBits1 := 6, inputLen2 := 4, hashBits2 := 6, bucketSize := 4 }

/-- the parser `NewParser` returns for `hCfg` -/
def hS0 (k : Kind) : Parser :=
  { kind := k, cfg := setDefaults k (hCfg.restrict k),
    buf := PBuf.init (setDefaults k (hCfg.restrict k)).bufCfg,
    dict := freshDict k (setDefaults k (hCfg.restrict k)) }

theorem hS0_new (k : Kind) (hv : verify k (setDefaults k (hCfg.restrict k)) = true) :
    newParser k hCfg = some (hS0 k) :=
  newParser_of_verify hv

/-- "Zabcdefgh1371" -/
def bhData1 : List Byte := [90, 97, 98, 99, 100, 101, 102, 103, 104, 49, 51, 55, 49]
/-- "51abcdefgh" -/
def bhData2 : List Byte := [53, 49, 97, 98, 99, 100, 101, 102, 103, 104]

/-- the history: `Write("Zabcdefgh1371")`, `Write("51abcdefgh")` -/
def bhOps : List POp := [.write bhData1, .write bhData2]

/-- A backward extension really happens in a BHP history (kernel-checked).  After the two
    writes the buffer holds "Zabcdefgh137151abcdefgh".  With 16 table slots the entries of "abc" and
    "bcd" (positions 1, 2) have been overwritten when the second "abcdefgh" (position 15) is reached,
    so HP finds the match only at position 17: 17 literals, then 6 bytes at offset 14.  BHP extends
    that match two bytes backwards over the pending literals "ab": 15 literals, then 8 bytes at
    offset 14 — and stops there because the bytes before the match ('1', position 14) and before
    its source ('Z', position 0) differ: exactly the third alternative of `SeqLeftMax`
    (`LitLen = 15 ≠ 0`, `Offset = 14 ≠ 15`). -/
theorem bhp_backward_example :
    let s := stateAfter (hS0 .BHP) bhOps
    newParser .BHP hCfg = some (hS0 .BHP) ∧ newParser .HP hCfg = some (hS0 .HP) ∧
    s.buf.w = 0 ∧ s.blockPrefix = bhData1 ++ bhData2 ∧
    (s.parse 0).2.2.2.seqs = [⟨15, 8, 14, 0⟩] ∧
    ((stateAfter (hS0 .HP) bhOps).parse 0).2.2.2.seqs = [⟨17, 6, 14, 0⟩] ∧
    s.blockPrefix[14]? ≠ s.blockPrefix[0]? := by
  intro s
  have hs : s = List.foldl stepPF (hS0 .BHP) bhOps := runOps_fst_F _ _
  have hs' : stateAfter (hS0 .HP) bhOps = List.foldl stepPF (hS0 .HP) bhOps := runOps_fst_F _ _
  have hp : s.blockPrefix = bhData1 ++ bhData2 := by rw [hs]; decide +kernel
  refine ⟨hS0_new _ (by decide +kernel), hS0_new _ (by decide +kernel), by rw [hs]; decide +kernel, hp, ?_, ?_, ?_⟩
  · rw [hs, parse_eq_parseF]; decide +kernel
  · rw [hs', parse_eq_parseF]; decide +kernel
  · rw [hp]; decide +kernel

/-- the history theorems applied to that history: the hypotheses are satisfiable and the
    conclusions speak about the block of `bhp_backward_example` -/
example :
    let s := stateAfter (hS0 .BHP) bhOps
    SeqsAll (SeqRightMax s.blockPrefix) s.buf.w (s.parse 0).2.2.2.seqs ∧
    SeqsAll (SeqLeftMax s.blockPrefix) s.buf.w (s.parse 0).2.2.2.seqs ∧
    (s.buf.w < s.buf.data.length → s.LongestNearest (s.parse 0).2.2.2.seqs) :=
  ⟨C19_right_maximal_reachable .BHP (by decide +kernel) hCfg _ (hS0_new _ (by decide +kernel)) bhOps 0,
   C19_left_maximal_reachable .BHP (Or.inl rfl) hCfg _ (hS0_new _ (by decide +kernel)) bhOps 0,
   (C19_longest_nearest_reachable .BHP (by simp [ProbeW.HashKind]) hCfg _ (hS0_new _ (by decide +kernel))
     bhOps 0).2.2⟩

/-- log level, non-vacuity: the history `Write, Write, Parse(&blk, 0)` leaves exactly one event in
    the ghost log — the block of `bhp_backward_example` at stream position 0 — and
    `C19_maximal_reachable_log` (with the left clause, `back = true`) speaks about it -/
theorem bhp_log_example :
    let g := (runOps (hS0 .BHP, Ghost.init) (bhOps ++ [.parse 0])).2
    g.fed = bhData1 ++ bhData2 ∧
    g.log = [.block 23 0 ⟨[⟨15, 8, 14, 0⟩], (bhData1 ++ bhData2).take 15⟩] ∧
    EventMax g.fed true 48 0 (.block 23 0 ⟨[⟨15, 8, 14, 0⟩], (bhData1 ++ bhData2).take 15⟩) := by
  intro g
  have hpar : ((stateAfter (hS0 .BHP) bhOps).parse 0).2 =
      (23, .ok, ⟨[⟨15, 8, 14, 0⟩], (bhData1 ++ bhData2).take 15⟩) := by
    have hs : stateAfter (hS0 .BHP) bhOps = List.foldl stepPF (hS0 .BHP) bhOps := runOps_fst_F _ _
    rw [hs, parse_eq_parseF]; decide +kernel
  have hg0 : (runOps (hS0 .BHP, Ghost.init) bhOps).2.fed = bhData1 ++ bhData2 ∧
      (runOps (hS0 .BHP, Ghost.init) bhOps).2.log.length = 0 := by decide +kernel
  have hlog0 : (runOps (hS0 .BHP, Ghost.init) bhOps).2.log = [] := List.eq_nil_of_length_eq_zero hg0.2
  have hg : g = { (runOps (hS0 .BHP, Ghost.init) bhOps).2 with
      consumed := (runOps (hS0 .BHP, Ghost.init) bhOps).2.consumed + 23,
      log := (runOps (hS0 .BHP, Ghost.init) bhOps).2.log ++
        [.block 23 0 ⟨[⟨15, 8, 14, 0⟩], (bhData1 ++ bhData2).take 15⟩] } := by
    show (runOps (hS0 .BHP, Ghost.init) (bhOps ++ [.parse 0])).2 = _
    rw [runOps_snoc]
    simp only [step, show ((runOps (hS0 .BHP, Ghost.init) bhOps).1.parse 0).2 = _ from hpar, if_true]
  have hlog : g.log = [.block 23 0 ⟨[⟨15, 8, 14, 0⟩], (bhData1 ++ bhData2).take 15⟩] := by
    rw [hg]; simp only [hlog0, List.nil_append]
  refine ⟨by rw [hg]; exact hg0.1, hlog, ?_⟩
  have hbs : (hS0 .BHP).buf.cfg.blockSize = 48 := by decide +kernel
  have := C19_maximal_reachable_log .BHP (by decide +kernel) hCfg _ (hS0_new _ (by decide +kernel)) true
    (fun _ => Or.inl rfl) (bhOps ++ [.parse 0])
  simp only at this
  rw [show (runOps (hS0 .BHP, Ghost.init) (bhOps ++ [.parse 0])).2 = g from rfl, hlog, hbs] at this
  exact this.1

/-- "abcXabcYabcZ" -/
def buData1 : List Byte := [97, 98, 99, 88, 97, 98, 99, 89, 97, 98, 99, 90]
/-- "abcdXabcYabcdZ" -/
def buData2 : List Byte := [97, 98, 99, 100, 88, 97, 98, 99, 89, 97, 98, 99, 100, 90]

/-- BUP, a tie: the nearest candidate wins (kernel-checked).  In "abcXabcYabcZ" the probe at
    position 8 finds positions 0 and 4 in the bucket of "abc"; both offer 3 bytes; the match is
    emitted with offset 4, not 8. -/
theorem bup_tie_nearest_example :
    let s := stateAfter (hS0 .BUP) [.write buData1]
    newParser .BUP hCfg = some (hS0 .BUP) ∧ s.buf.w = 0 ∧ s.blockPrefix = buData1 ∧
    (s.parse 0).2.2.2.seqs = [⟨4, 3, 4, 0⟩, ⟨1, 3, 4, 0⟩] ∧
    lcpLen (buData1.drop 0) (buData1.drop 8) = 3 ∧ lcpLen (buData1.drop 4) (buData1.drop 8) = 3 := by
  intro s
  have hs : s = List.foldl stepPF (hS0 .BUP) [.write buData1] := runOps_fst_F _ _
  refine ⟨hS0_new _ (by decide +kernel), by rw [hs]; decide +kernel, by rw [hs]; decide +kernel, ?_, by decide +kernel, by decide +kernel⟩
  rw [hs, parse_eq_parseF]; decide +kernel

/-- BUP: the longest candidate wins over a nearer one (kernel-checked).  In "abcdXabcYabcdZ"
    the probe at position 9 finds positions 0 (4 common bytes) and 5 (3 common bytes) in the bucket
    of "abc"; the match is emitted with length 4 and offset 9. -/
theorem bup_longest_example :
    let s := stateAfter (hS0 .BUP) [.write buData2]
    s.buf.w = 0 ∧ s.blockPrefix = buData2 ∧
    (s.parse 0).2.2.2.seqs = [⟨5, 3, 5, 0⟩, ⟨1, 4, 9, 0⟩] ∧
    lcpLen (buData2.drop 0) (buData2.drop 9) = 4 ∧ lcpLen (buData2.drop 5) (buData2.drop 9) = 3 := by
  intro s
  have hs : s = List.foldl stepPF (hS0 .BUP) [.write buData2] := runOps_fst_F _ _
  refine ⟨by rw [hs]; decide +kernel, by rw [hs]; decide +kernel, ?_, by decide +kernel, by decide +kernel⟩
  rw [hs, parse_eq_parseF]; decide +kernel

/-- "XabcdQXabcdefghRabcdefghS" -/
def bdData : List Byte :=
  [88, 97, 98, 99, 100, 81, 88, 97, 98, 99, 100, 101, 102, 103, 104, 82, 97, 98, 99, 100, 101, 102,
   103, 104, 83]

/-- DHP / BDHP do not compare their two table entries (kernel-checked witness; this is why
    `Hash2.cand` is ONE candidate and `Parser.LongestNearest` claims no more for these parsers).
    Buffer "XabcdQXabcdefghRabcdefghS", InputLen1 3, InputLen2 4, no hash collisions involved.
    The match "Xabcd" at position 6 covers position 7; BDHP re-indexes the covered positions only in
    the short table, so the long table keeps "abcd" ↦ 1 while the short table has "abc" ↦ 7.  The
    probe at position 16 takes the entry of the long table — position 1, 4 common bytes, offset 15 —
    although the entry of the short table — position 7, offset 9, inside the window — offers 8
    bytes.  DHP, which re-indexes both tables, emits those 8 bytes at offset 9 for the same history.
    So "the longest of the entries of BOTH tables" is FALSE for reachable BDHP states; the clause
    holds for the candidate the probe actually looks at. -/
theorem bdhp_long_table_first :
    let s := stateAfter (hS0 .BDHP) [.write bdData]
    newParser .BDHP hCfg = some (hS0 .BDHP) ∧ newParser .DHP hCfg = some (hS0 .DHP) ∧
    s.buf.w = 0 ∧ s.blockPrefix = bdData ∧
    (s.parse 0).2.2.2.seqs = [⟨6, 5, 6, 0⟩, ⟨5, 4, 15, 0⟩, ⟨0, 4, 9, 0⟩] ∧
    ((stateAfter (hS0 .DHP) [.write bdData]).parse 0).2.2.2.seqs = [⟨6, 5, 6, 0⟩, ⟨5, 8, 9, 0⟩] ∧
    lcpLen (bdData.drop 1) (bdData.drop 16) = 4 ∧ lcpLen (bdData.drop 7) (bdData.drop 16) = 8 := by
  intro s
  have hs : s = List.foldl stepPF (hS0 .BDHP) [.write bdData] := runOps_fst_F _ _
  have hs' : stateAfter (hS0 .DHP) [.write bdData] = List.foldl stepPF (hS0 .DHP) [.write bdData] :=
    runOps_fst_F _ _
  refine ⟨hS0_new _ (by decide +kernel), hS0_new _ (by decide +kernel), by rw [hs]; decide +kernel, by rw [hs]; decide +kernel,
    ?_, ?_, by decide +kernel, by decide +kernel⟩
  · rw [hs, parse_eq_parseF]; decide +kernel
  · rw [hs', parse_eq_parseF]; decide +kernel

end Examples

end LZ

/-! ## axioms -/
#print axioms LZ.reachable_kind_dict
#print axioms LZ.reachable_backward
#print axioms LZ.C19_right_maximal_reachable
#print axioms LZ.C19_left_maximal_reachable
#print axioms LZ.greedyLoop_trace
#print axioms LZ.hpProbe_res
#print axioms LZ.dhpProbe_res
#print axioms LZ.bupScan_best
#print axioms LZ.bupProbe_best
#print axioms LZ.C19_longest_nearest
#print axioms LZ.C19_longest_nearest_reachable
#print axioms LZ.C19_longest_nearest_bup_reachable
#print axioms LZ.log_block_origin
#print axioms LZ.C19_longest_nearest_reachable_log
#print axioms LZ.C19_maximal_reachable_log
#print axioms LZ.C19_right_maximal_reachable_log
#print axioms LZ.C19_left_maximal_reachable_log
#print axioms LZ.bhp_backward_example
#print axioms LZ.bhp_log_example
#print axioms LZ.bup_tie_nearest_example
#print axioms LZ.bup_longest_example
#print axioms LZ.bdhp_long_table_first
#print axioms LZ.runGreedy_blockProbes
