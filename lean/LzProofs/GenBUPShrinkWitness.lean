/-
  LzProofs.GenBUPShrinkWitness — the hypothesis `ShiftSpec` of LzProofs/GenBUPShrink.lean (the specification of the opaque
  state-passing callee `(*bucketHash).shiftOffsets`) is SATISFIABLE: a witness `shiftK` computed from the model's
  `BucketT.shiftOffsets` (`shiftK_spec`).
-/
import LzProofs.GenBUPShrink

set_option linter.unusedSimpArgs false
set_option linter.unusedVariables false

namespace LZ.GenBUPHist
open LZ LZ.Gen LZ.GenBuf LZ.GenHash LZ.GenHPParse LZ.GenBUPParse LZ.GenProps

/-- both components fit `uint32` -/
def Small (e : Nat × Nat) : Prop := e.1 < 2 ^ 32 ∧ e.2 < 2 ^ 32

def toBEntry (e : Nat × Nat) : Gen.bucketEntry := { pos := UInt32.ofNat e.1, val := UInt32.ofNat e.2 }

theorem ofBEntry_toBEntry (e : Nat × Nat) (h : Small e) : ofBEntry (toBEntry e) = e := by
  obtain ⟨a, b⟩ := e
  obtain ⟨h1, h2⟩ := h
  simp only [ofBEntry, toBEntry, UInt32.toNat_ofNat']
  simp only at h1 h2
  rw [Nat.mod_eq_of_lt h1, Nat.mod_eq_of_lt h2]

theorem small_ofBEntry (e : Gen.bucketEntry) : Small (ofBEntry e) :=
  ⟨UInt32.toNat_lt _, UInt32.toNat_lt _⟩

/-! ## list helpers -/

theorem map_map_id {α β : Type} (f : β → α) (k : α → β) :
    ∀ l : List α, (∀ e ∈ l, f (k e) = e) → (l.map k).map f = l
  | [], _ => rfl
  | a :: l, h => by
    simp only [List.map_cons]
    rw [h a (List.mem_cons_self), map_map_id f k l (fun e he => h e (List.mem_cons_of_mem _ he))]

theorem sum_map_const {α : Type} (f : α → Nat) (c : Nat) :
    ∀ l : List α, (∀ x ∈ l, f x = c) → (l.map f).sum = l.length * c
  | [], _ => by simp
  | a :: l, h => by
    simp only [List.map_cons, List.sum_cons, List.length_cons]
    rw [h a (List.mem_cons_self), sum_map_const f c l (fun e he => h e (List.mem_cons_of_mem _ he)), Nat.succ_mul]
    omega

theorem getD_prop {α : Type} (P : α → Prop) (l : List α) (d : α) (h : Nat) (hl : h < l.length)
    (hP : ∀ x ∈ l, P x) : P (l.getD h d) := by
  rw [List.getD_eq_getElem?_getD, List.getElem?_eq_getElem hl]
  exact hP _ (List.getElem_mem hl)

/-! ## one bucket -/

theorem shiftBucket_fst_small (bs d : Nat) (bucket : List (Nat × Nat)) (j : Nat) (h : ∀ e ∈ bucket, Small e) :
    ∀ e ∈ (BucketT.shiftBucket bs d bucket j).1, Small e := by
  intro e he
  unfold BucketT.shiftBucket at he
  simp only [List.mem_append, List.mem_map, List.mem_filter, List.mem_replicate] at he
  rcases he with ⟨x, ⟨hx, -⟩, rfl⟩ | ⟨-, rfl⟩
  · have hs : Small x := by
      rcases hx with hx | hx
      · exact h x (List.mem_of_mem_drop hx)
      · exact h x (List.mem_of_mem_take hx)
    obtain ⟨h1, h2⟩ := hs
    exact ⟨by show x.1 - d < 2 ^ 32; omega, h2⟩
  · exact ⟨by decide, by decide⟩

theorem shiftBucket_snd_lt (bs d : Nat) (bucket : List (Nat × Nat)) (j : Nat) (h : 1 ≤ bs) :
    (BucketT.shiftBucket bs d bucket j).2 < bs := by
  unfold BucketT.shiftBucket
  simp only
  split <;> omega

/-! ## the whole table -/

theorem shiftOffsets_indexes_size (b : BucketT) (d : Nat) (hd : d ≠ 0) :
    (b.shiftOffsets d).indexes.size = b.indexes.size := by
  simp [BucketT.shiftOffsets, hd]

theorem shiftOffsets_cfg (b : BucketT) (d : Nat) :
    (b.shiftOffsets d).inputLen = b.inputLen ∧ (b.shiftOffsets d).hashBits = b.hashBits ∧
      (b.shiftOffsets d).bucketSize = b.bucketSize := by
  unfold BucketT.shiftOffsets
  split <;> exact ⟨rfl, rfl, rfl⟩

theorem extract_length_le (a : Array (Nat × Nat)) (h bs : Nat) :
    (a.extract (h * bs) ((h + 1) * bs)).toList.length ≤ bs := by
  rw [Array.length_toList, Array.size_extract, Nat.succ_mul]
  omega

theorem mem_extract_toList (a : Array (Nat × Nat)) (i j : Nat) (e : Nat × Nat)
    (he : e ∈ (a.extract i j).toList) : e ∈ a.toList := by
  rw [Array.toList_extract, List.extract_eq_take_drop] at he
  exact List.mem_of_mem_drop (List.mem_of_mem_take he)

theorem shiftOffsets_buckets_size (b : BucketT) (d : Nat) (hd : d ≠ 0) :
    (b.shiftOffsets d).buckets.size = b.indexes.size * b.bucketSize := by
  simp only [BucketT.shiftOffsets, hd, if_false, List.size_toArray, List.length_flatten, List.map_map]
  rw [sum_map_const _ b.bucketSize]
  · simp
  · intro h _
    exact BucketT.shiftBucket_length _ _ _ _ (extract_length_le _ _ _)

theorem shiftOffsets_buckets_small (b : BucketT) (d : Nat) (hs : ∀ e ∈ b.buckets.toList, Small e) :
    ∀ e ∈ (b.shiftOffsets d).buckets.toList, Small e := by
  intro e he
  unfold BucketT.shiftOffsets at he
  split at he
  · exact hs e he
  · simp only [List.mem_flatten, List.mem_map, List.mem_range] at he
    obtain ⟨l, ⟨r, ⟨h, -, rfl⟩, rfl⟩, hel⟩ := he
    exact shiftBucket_fst_small _ _ _ _ (fun x hx => hs x (mem_extract_toList _ _ _ _ hx)) e hel

theorem shiftOffsets_indexes_lt (b : BucketT) (d : Nat) (hd : d ≠ 0) (hbs : 1 ≤ b.bucketSize) :
    ∀ i ∈ (b.shiftOffsets d).indexes.toList, i < b.bucketSize := by
  intro i hi
  simp only [BucketT.shiftOffsets, hd, if_false, List.mem_map, List.mem_range] at hi
  obtain ⟨r, ⟨h, -, rfl⟩, rfl⟩ := hi
  exact shiftBucket_snd_lt _ _ _ _ hbs

/-! ## the witness -/

/-- a witness for the opaque `(*bucketHash).shiftOffsets`: the model's table, written back -/
def shiftK : SOFun := fun g delta =>
  Res.ok { g with
    buckets := { arr := ((ofBucket g).shiftOffsets delta.toNat).buckets.toList.map toBEntry,
                 len := ((ofBucket g).shiftOffsets delta.toNat).buckets.size },
    indexes := { arr := ((ofBucket g).shiftOffsets delta.toNat).indexes.toList.map UInt8.ofNat,
                 len := ((ofBucket g).shiftOffsets delta.toNat).indexes.size } }

theorem shiftK_spec : ShiftSpec shiftK := by
  intro g delta hb hd
  have hd0 : delta.toNat ≠ 0 := by omega
  have hbs1 : 1 ≤ g.bucketSize.toNat := by have := hb.bs1; omega
  have hbs2 : g.bucketSize.toNat ≤ 256 := by have := hb.bs2; omega
  have hcfg := shiftOffsets_cfg (ofBucket g) delta.toNat
  have hisz : ((ofBucket g).shiftOffsets delta.toNat).indexes.size = g.indexes.len := by
    rw [shiftOffsets_indexes_size _ _ hd0]
    simp only [GenHash.ofBucket, List.size_toArray, List.length_map]
    exact data_length hb.swf
  have hbsz : ((ofBucket g).shiftOffsets delta.toNat).buckets.size = g.indexes.len * g.bucketSize.toNat := by
    rw [shiftOffsets_buckets_size _ _ hd0]
    simp only [GenHash.ofBucket, List.size_toArray, List.length_map]
    rw [data_length hb.swf]
  have hsm : ∀ e ∈ ((ofBucket g).shiftOffsets delta.toNat).buckets.toList, Small e := by
    apply shiftOffsets_buckets_small
    intro e he
    simp only [GenHash.ofBucket, List.mem_map] at he
    obtain ⟨x, -, rfl⟩ := he
    exact small_ofBEntry x
  have hil : ∀ i ∈ ((ofBucket g).shiftOffsets delta.toNat).indexes.toList, i < g.bucketSize.toNat :=
    shiftOffsets_indexes_lt _ _ hd0 hbs1
  refine ⟨_, rfl, ?_, ?_, ⟨rfl, rfl, rfl, rfl⟩⟩
  all_goals generalize (ofBucket g).shiftOffsets delta.toNat = m at hcfg hisz hbsz hsm hil ⊢
  · -- ofBucket g' = m
    apply bucketT_ext
    · simp only [GenHash.ofBucket, GSlice.data]
      rw [List.take_of_length_le (by simp)]
      exact map_map_id _ _ _ (fun e he => ofBEntry_toBEntry e (hsm e he))
    · simp only [GenHash.ofBucket, Slice.data]
      rw [List.take_of_length_le (by simp)]
      refine map_map_id _ _ _ (fun i hi => ?_)
      have := hil i hi
      rw [UInt8.toNat_ofNat', Nat.mod_eq_of_lt (by omega)]
    · exact hcfg.1.symm
    · exact hcfg.2.1.symm
    · exact hcfg.2.2.symm
  · -- BOK g'
    refine ⟨?_, ?_, hb.bs1, hb.bs2, ?_, ?_, ?_⟩
    · show m.buckets.size ≤ (m.buckets.toList.map toBEntry).length
      simp
    · show m.indexes.size ≤ (m.indexes.toList.map UInt8.ofNat).length
      simp
    · show m.indexes.size = 2 ^ (64 - g.shift.toNat)
      rw [hisz, hb.ilen]
    · show m.buckets.size = 2 ^ (64 - g.shift.toNat) * g.bucketSize.toNat
      rw [hbsz, hb.ilen]
    · intro h hh
      show ((m.indexes.toList.map UInt8.ofNat).getD h 0).toNat < g.bucketSize.toNat
      apply getD_prop (fun x : UInt8 => x.toNat < g.bucketSize.toNat)
      · simpa using hh
      · intro x hx
        simp only [List.mem_map] at hx
        obtain ⟨i, hi, rfl⟩ := hx
        have := hil i hi
        rw [UInt8.toNat_ofNat', Nat.mod_eq_of_lt (by omega)]
        exact this

end LZ.GenBUPHist

#print axioms LZ.GenBUPHist.shiftK_spec
