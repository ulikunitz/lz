/-
  LzProofs.RunsLemmas — for the run clause of C19 (LzProofs/Runs.lean).  The main notion is the
  coverage predicate `HashT.Cov h p a` ("every position `q < a` is indexed and the slot of its
  key holds a position `≥ q`"), kept by `insert`, `insertRange`, `processSegment1`, `hpProbe`;
  inside a run of equal bytes it makes every probe find a match, and `runGreedy_two_probes` is
  the common shape of the run blocks of HP, BHP, DHP, BDHP and BUP.
-/
import LzProofs.SafeTables
import LzProofs.BytesProps
namespace LZ
open BytesW

/-! ## the key depends on `inputLen` bytes only -/

theorem key_toNat (h : HashT) (p : List Byte) (i : Nat) :
    (h.key p i).toNat = leNat ((p.drop i).take (min h.inputLen 8)) := by
  unfold HashT.key
  rw [and_maskOf_toNat, le64At_toNat, ← leNat_take, List.take_take]
  congr 2
  omega

theorem key_eq_of_take (h : HashT) (p q : List Byte) (i j : Nat)
    (e : (p.drop i).take (min h.inputLen 8) = (q.drop j).take (min h.inputLen 8)) :
    h.key p i = h.key q j := by
  apply UInt64.toNat_inj.1
  rw [key_toNat, key_toNat, e]

/-- same `inputLen` bytes (as options: reading behind the end counts as "no byte") → same key -/
theorem key_eq_of_bytes (h : HashT) (p q : List Byte) (i j : Nat)
    (e : ∀ t, t < h.inputLen → p[i + t]? = q[j + t]?) : h.key p i = h.key q j := by
  apply key_eq_of_take
  apply List.ext_getElem?
  intro t
  rw [List.getElem?_take, List.getElem?_take, List.getElem?_drop, List.getElem?_drop]
  split
  · exact e t (by omega)
  · rfl

theorem key_take (h : HashT) (p : List Byte) (n i : Nat) (hi : i + h.inputLen ≤ n) :
    h.key (p.take n) i = h.key p i := by
  apply key_eq_of_bytes
  intro t ht
  rw [List.getElem?_take, if_pos (by omega)]

theorem key_append (h : HashT) (p x : List Byte) (i : Nat) (hi : i + h.inputLen ≤ p.length) :
    h.key (p ++ x) i = h.key p i := by
  apply key_eq_of_bytes
  intro t ht
  rw [List.getElem?_append_left (by omega)]

theorem key_drop (h : HashT) (p : List Byte) (d i : Nat) : h.key (p.drop d) i = h.key p (d + i) := by
  apply key_eq_of_bytes
  intro t _
  rw [List.getElem?_drop, Nat.add_assoc]

theorem key_run (h : HashT) (p : List Byte) (b : Byte) (i j : Nat)
    (hi : ∀ t, t < h.inputLen → p[i + t]? = some b) (hj : ∀ t, t < h.inputLen → p[j + t]? = some b) :
    h.key p i = h.key p j := by
  apply key_eq_of_bytes
  intro t ht
  rw [hi t ht, hj t ht]

/-! ## slots -/

theorem HashT.insert_inputLen (h : HashT) (p : List Byte) (i : Nat) :
    (h.insert p i).inputLen = h.inputLen := rfl

theorem HashT.insert_key (h : HashT) (p : List Byte) (i : Nat) (p' : List Byte) (j : Nat) :
    (h.insert p i).key p' j = h.key p' j := rfl

theorem HashT.insertRange_inputLen (p : List Byte) : ∀ (n a : Nat) (h : HashT),
    (h.insertRange p a n).inputLen = h.inputLen :=
  fun n a _ => (HashT.inputLen_kept _).insertRange p n a rfl

theorem HashT.insertRange_hashBits (p : List Byte) : ∀ (n a : Nat) (h : HashT),
    (h.insertRange p a n).hashBits = h.hashBits := by
  intro n
  induction n with
  | zero => intro a h; rfl
  | succ n ih => intro a h; exact ih _ _

theorem HashT.insertRange_key (p : List Byte) (n a : Nat) (h : HashT) (p' : List Byte) (j : Nat) :
    (h.insertRange p a n).key p' j = h.key p' j := by
  unfold HashT.key
  rw [HashT.insertRange_inputLen]

theorem HashT.slot_set (h : HashT) (hs : h.SizeOK) (x y : UInt64) (e : Nat × Nat) :
    ({ h with tbl := h.tbl.setIfInBounds (hashValue x h.hashBits) e } : HashT).slot y =
      if hashValue x h.hashBits = hashValue y h.hashBits then e else h.slot y := by
  unfold HashT.slot
  simp only
  rw [Array.getD_eq_getD_getElem?, Array.getElem?_setIfInBounds, Array.getD_eq_getD_getElem?]
  have hlt : hashValue x h.hashBits < h.tbl.size := by rw [hs]; exact hashValue_lt _ _
  split
  · first | rfl | (rw [if_pos hlt]; rfl)
  · rfl

theorem HashT.slot_insert (h : HashT) (hs : h.SizeOK) (p : List Byte) (i : Nat) (y : UInt64) :
    (h.insert p i).slot y =
      if hashValue (h.key p i) h.hashBits = hashValue y h.hashBits then (i, lo32 (h.key p i))
      else h.slot y :=
  HashT.slot_set h hs (h.key p i) y _

theorem HashT.slot_insert_self (h : HashT) (hs : h.SizeOK) (p : List Byte) (i : Nat) :
    (h.insert p i).slot (h.key p i) = (i, lo32 (h.key p i)) := by
  rw [HashT.slot_insert h hs, if_pos rfl]

theorem HashT.insertRange_succ (h : HashT) (p : List Byte) (a n : Nat) :
    h.insertRange p a (n + 1) = (h.insert p a).insertRange p (a + 1) n := rfl

theorem HashT.insertRange_zero (h : HashT) (p : List Byte) (a : Nat) : h.insertRange p a 0 = h := rfl

theorem HashT.slot_insertRange_same (p : List Byte) (x : UInt64) : ∀ (n a : Nat) (h : HashT),
    h.SizeOK → (∀ q, a ≤ q → q < a + (n + 1) → h.key p q = x) →
    (h.insertRange p a (n + 1)).slot x = (a + n, lo32 x) := by
  intro n
  induction n with
  | zero =>
    intro a h hs hk
    rw [HashT.insertRange_succ, HashT.insertRange_zero]
    have := hk a (Nat.le_refl _) (by omega)
    subst this
    rw [HashT.slot_insert_self h hs, Nat.add_zero]
  | succ n ih =>
    intro a h hs hk
    rw [HashT.insertRange_succ]
    rw [ih (a + 1) (h.insert p a) (HashT.sizeOK_insert hs p a)
      (fun q h1 h2 => by rw [HashT.insert_key]; exact hk q (by omega) (by omega))]
    congr 1; omega

/-! ## coverage -/

/-- every position `q < a` of `p` is covered: the slot of its key holds a position `≥ q` -/
def HashT.Cov (h : HashT) (p : List Byte) (a : Nat) : Prop :=
  ∀ q, q < a → q ≤ (h.slot (h.key p q)).1

theorem HashT.Cov.mono {h : HashT} {p : List Byte} {a : Nat} (hc : h.Cov p a) (a' : Nat) (ha : a' ≤ a) :
    h.Cov p a' := fun q hq => hc q (by omega)

theorem HashT.Cov.congr {h : HashT} {p : List Byte} {a : Nat} (hc : h.Cov p a) (p' : List Byte)
    (hk : ∀ q, q < a → h.key p' q = h.key p q) : h.Cov p' a := by
  intro q hq
  rw [hk q hq]; exact hc q hq

theorem HashT.Cov.insert {h : HashT} {p : List Byte} {a : Nat} (hc : h.Cov p a) (hs : h.SizeOK) :
    (h.insert p a).Cov p (a + 1) := by
  intro q hq
  rw [HashT.insert_key, HashT.slot_insert h hs]
  split
  · simp only; omega
  · rename_i hne
    have : q ≠ a := by
      intro e; subst e; exact hne rfl
    exact hc q (by omega)

theorem HashT.Cov.insertRange {p : List Byte} : ∀ (n a : Nat) (h : HashT), h.SizeOK → h.Cov p a →
    (h.insertRange p a n).Cov p (a + n) := by
  intro n
  induction n with
  | zero => intro a h _ hc; exact hc
  | succ n ih =>
    intro a h hs hc
    have := ih (a + 1) (h.insert p a) (HashT.sizeOK_insert hs p a) (hc.insert hs)
    have e : a + 1 + n = a + (n + 1) := by omega
    rw [e] at this; exact this

theorem HashT.Cov.insertRange_to {h : HashT} {p : List Byte} {a : Nat} (hc : h.Cov p a) (hs : h.SizeOK)
    (a0 b : Nat) (ha : a0 ≤ a) : (h.insertRange p a0 (b - a0)).Cov p b := by
  have := HashT.Cov.insertRange (b - a0) a0 h hs (hc.mono a0 ha)
  exact this.mono b (by omega)

/-! ## `processSegment` with natural-number bounds -/

theorem toNat_ite_neg (x : Int) : (if x < 0 then 0 else x).toNat = x.toNat := by
  split <;> omega

theorem ite_lt_eq_min (c b : Int) : (if c < b then c else b) = min c b := by
  split <;> omega

theorem processSegment1_eq (h : HashT) (data : List Byte) (a b : Int) :
    processSegment1 h data a b =
      h.insertRange data a.toNat ((min ((data.length : Int) - h.inputLen + 1) b).toNat - a.toNat) := by
  unfold processSegment1
  simp only [ite_lt_eq_min, toNat_ite_neg]
  split
  · have e : (min ((data.length : Int) - h.inputLen + 1) b).toNat - a.toNat = 0 := by omega
    rw [e]; rfl
  · rfl

theorem processSegment1_inputLen (h : HashT) (data : List Byte) (a b : Int) :
    (processSegment1 h data a b).inputLen = h.inputLen := by
  rw [processSegment1_eq, HashT.insertRange_inputLen]

theorem processSegment1_hashBits (h : HashT) (data : List Byte) (a b : Int) :
    (processSegment1 h data a b).hashBits = h.hashBits := by
  rw [processSegment1_eq, HashT.insertRange_hashBits]

/-- `processSegment(w - inputLen + 1, b0)` extends the coverage from `w + 1 - inputLen` to every
    `X ≤ b0` whose key bytes lie inside `data` -/
theorem processSegment1_cov (h : HashT) (data : List Byte) (w : Nat) (b0 : Int) (X : Nat)
    (hs : h.SizeOK) (hc : h.Cov data (w + 1 - h.inputLen))
    (hX : (X : Int) ≤ b0) (hXl : X ≤ data.length + 1 - h.inputLen) :
    (processSegment1 h data ((w : Int) - h.inputLen + 1) b0).Cov data X := by
  rw [processSegment1_eq]
  exact (hc.insertRange_to hs _ _ (by omega)).mono X (by omega)

/-! ## blocks parsed with two probes -/

theorem greedyLoop_last {δ} (F : Finder δ) (p : List Byte) (stop : Nat) (st : LoopSt δ) (d : δ)
    (m o : Nat) (hlt : st.i < stop) (hstop : stop ≤ p.length) (hm : m ≤ st.i - st.litIndex)
    (hp : F.probe st.dict p st.i st.litIndex = (d, some (st.i - m, p.length - st.i + m, o))) :
    (greedyLoop F p stop st).litIndex = p.length ∧
    (greedyLoop F p stop st).lits.length ≤ st.lits.length + (st.i - st.litIndex) := by
  rw [greedyLoop_some _ _ _ _ _ _ _ _ hlt hp (by omega), greedyLoop_done _ _ _ _ (by simp only; omega)]
  refine ⟨by simp only; omega, ?_⟩
  simp only [List.length_append, List.length_take, List.length_drop]
  omega

/-- A block that is parsed with two probes.  `Ready d i` describes dictionaries whose probe at `i`
    reports a match up to the end of `p`.  If the first probe of the block reports nothing and
    leaves a dictionary ready at `w + 1`, or reports a match `(w, k)` after which the dictionary is
    ready at `w + k` or the loop is over with at most `B` bytes left, the block emitted without
    `NoTrailingLiterals` has at most `max 1 B` literals. -/
theorem runGreedy_two_probes {δ} (F : Finder δ) (p : List Byte) (w stop B flags : Nat) (d : δ)
    (Ready : δ → Nat → Prop) (hf : flags % 2 = 0) (hw : w < stop) (hstop : stop ≤ p.length)
    (hready : ∀ d i li, Ready d i → li ≤ i → i < stop ∧ ∃ d' m o, m ≤ i - li ∧
      F.probe d p i li = (d', some (i - m, p.length - i + m, o)))
    (hnone : ∀ d', F.probe d p w w = (d', none) → Ready d' (w + 1))
    (hsome : ∀ d' s k o, F.probe d p w w = (d', some (s, k, o)) → s = w ∧ 0 < k ∧
      (Ready d' (w + k) ∨ (stop ≤ w + k ∧ p.length ≤ w + k + B))) :
    (Parser.runGreedy F d p w stop flags).2.2.1.lits.length ≤ max 1 B := by
  have key : (greedyLoop F p stop { dict := d, i := w, litIndex := w, seqs := [], lits := [] }).lits.length +
      (p.length - (greedyLoop F p stop { dict := d, i := w, litIndex := w, seqs := [], lits := [] }).litIndex) ≤
        max 1 B := by
    cases hpr : F.probe d p w w with
    | mk d' r =>
      cases r with
      | none =>
        rw [greedyLoop_none _ _ _ _ _ hw hpr]
        dsimp only
        obtain ⟨hlt, d'', m, o, hm, hp⟩ := hready d' (w + 1) w (hnone d' hpr) (Nat.le_succ w)
        have := greedyLoop_last F p stop { dict := d', i := w + 1, litIndex := w, seqs := [], lits := [] }
          d'' m o hlt hstop hm hp
        simp only [List.length_nil] at this
        omega
      | some r =>
        obtain ⟨s, k, o⟩ := r
        obtain ⟨rfl, hk, h⟩ := hsome d' s k o hpr
        rw [greedyLoop_some _ _ _ _ _ _ _ _ hw hpr (by simp only; omega)]
        simp only [Nat.sub_self, List.take_zero, List.append_nil, List.length_nil]
        rcases h with h | ⟨h1, h2⟩
        · obtain ⟨hlt, d'', m, o', hm, hp⟩ := hready d' (s + k) (s + k) h (Nat.le_refl _)
          have := greedyLoop_last F p stop
            { dict := d', i := s + k, litIndex := s + k,
              seqs := [] ++ [{ litLen := 0, matchLen := k, offset := o }], lits := [] }
            d'' m o' hlt hstop hm hp
          simp only [List.length_nil] at this
          omega
        · rw [greedyLoop_done _ _ _ _ (by simp only; omega)]
          simp only [List.length_nil]
          omega
  unfold Parser.runGreedy finishBlock
  simp only []
  rw [if_neg (by omega)]
  simp only [List.length_append, List.length_drop]
  exact key

/-- a dictionary invariant `C d a` indexed by the loop position: established for `stop` at the end
    of the loop if every probe advances it -/
theorem greedyLoop_cov {δ} (F : Finder δ) (p : List Byte) (stop : Nat) (C : δ → Nat → Prop)
    (hnone : ∀ d i li d', li ≤ i → i < stop → C d i → F.probe d p i li = (d', none) → C d' (i + 1))
    (hsome : ∀ d i li d' s k o, li ≤ i → i < stop → C d i → F.probe d p i li = (d', some (s, k, o)) →
      i < s + k ∧ C d' (min (s + k) stop))
    (st : LoopSt δ) (hli : st.litIndex ≤ st.i) (hC : C st.dict (min st.i stop)) :
    C (greedyLoop F p stop st).dict stop := by
  have key := greedyLoop_invariant F p stop (fun st => st.litIndex ≤ st.i ∧ C st.dict (min st.i stop))
    (fun st d hlt ⟨h1, h2⟩ hp => by
      rw [Nat.min_eq_left (Nat.le_of_lt hlt)] at h2
      exact ⟨Nat.le_succ_of_le h1, by
        rw [Nat.min_eq_left (Nat.succ_le_of_lt hlt)]; exact hnone _ _ _ _ h1 hlt h2 hp⟩)
    (fun st d s k o hlt ⟨h1, h2⟩ hp => by
      rw [Nat.min_eq_left (Nat.le_of_lt hlt)] at h2
      exact ⟨(hsome _ _ _ _ _ _ _ h1 hlt h2 hp).1, Nat.le_refl _, (hsome _ _ _ _ _ _ _ h1 hlt h2 hp).2⟩)
    st ⟨hli, hC⟩
  have h := key.1.2
  rwa [Nat.min_eq_right (Nat.le_of_not_lt key.2)] at h

/-! ## `hpProbe` keeps the coverage -/

theorem hpProbe_cov (ws mm ie : Nat) (back : Bool) (hmm : 1 ≤ mm) (h : HashT) (p : List Byte)
    (i li : Nat) (hli : li ≤ i) (hs : h.SizeOK) (hc : h.Cov p i) :
    (∀ d', hpProbe ws mm ie back h p i li = (d', none) → d'.SizeOK ∧ d'.Cov p (i + 1)) ∧
    (∀ d' s k o, hpProbe ws mm ie back h p i li = (d', some (s, k, o)) →
      i < s + k ∧ d'.SizeOK ∧ d'.Cov p (min (s + k) ie)) := by
  have hsi := HashT.sizeOK_insert hs p i
  constructor
  · intro d' hp
    rw [hpProbe_none hp]
    exact ⟨hsi, hc.insert hs⟩
  · intro d' s k o hp
    have hcf := (hpProbe_verifying ws mm ie back p h i li d' s k o hp).ok hmm hli
    rw [(hpProbe_some hp).2]
    exact ⟨hcf.1.2.2.1, HashT.sizeOK_insertRange _ _ _ _ hsi,
      (hc.insert hs).insertRange_to hsi _ _ (by have := hcf.1.2.1; omega)⟩

/-! ## `lcpLen` inside a run -/

theorem lcpLen_run (p : List Byte) (b : Byte) (j i : Nat) (hji : j < i) (hi : i ≤ p.length)
    (hrun : ∀ t, j ≤ t → t < p.length → p[t]? = some b) :
    lcpLen (p.drop j) (p.drop i) = p.length - i := by
  have hle := Sap.lcpLen_drop_le p j i
  rcases lcpLen_drop_maximal p j i hji with h | h | h
  · omega
  · omega
  · by_cases hlt : i + lcpLen (p.drop j) (p.drop i) < p.length
    · exfalso
      apply h
      rw [hrun _ (by omega) hlt, hrun _ (by omega) (by omega)]
    · omega

theorem lcpLen_run_short (p : List Byte) (b : Byte) (j i : Nat) (hji : j < i) (hi : i ≤ p.length)
    (hrun : ∀ t, i ≤ t → t < p.length → p[t]? = some b)
    (hk : i + lcpLen (p.drop j) (p.drop i) < p.length) :
    (∀ t, t < lcpLen (p.drop j) (p.drop i) → p[j + t]? = some b) ∧
    j + lcpLen (p.drop j) (p.drop i) < i := by
  have hpre : ∀ t, t < lcpLen (p.drop j) (p.drop i) → p[j + t]? = some b := by
    intro t ht
    have := lcpLen_getElem? _ _ t ht
    simp only [List.getElem?_drop] at this
    rw [this]; exact hrun _ (by omega) (by omega)
  refine ⟨hpre, ?_⟩
  rcases lcpLen_drop_maximal p j i hji with h | h | h
  · omega
  · omega
  · apply Decidable.byContradiction
    intro hge
    apply h
    rw [hrun _ (by omega) hk, hrun _ (by omega) (by omega)]

end LZ
