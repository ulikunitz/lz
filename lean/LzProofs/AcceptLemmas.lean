/-
  LzProofs.AcceptLemmas — decoder side of property C07: a block that is well-formed for the
  decoder's window (`WFSeqs`, LzProofs/AcceptDefs.lean) and whose sequences are at most
  `BufferSize - WindowSize` bytes long is never refused by `DecoderBuffer.WriteBlock` with anything
  but `ErrFullBuffer`, and never refused at all by `Decoder.WriteBlock`.

  The hypothesis on the state is `Decoder.Good` (DecoderLemmas.lean): the buffer represents the decoder's log.  It holds
  in every state reachable from an accepted `Init` (`DecoderHist.reach_ok`).

  What the calls do to the state is read off `Reach` / `Run` of DecoderLemmas: `Reach.rest` carries the hypotheses
  on a block over to what is left of it after part of it is in the log (the flush-and-retry of `WriteBlock`, the
  caller's retry after a writer fault), `feedAll_run` makes a list of items one run.
-/
import LzProofs.AcceptDefs
import LzProofs.DecoderLemmas
namespace LZ
open DecBuf Decoder

/-! ## buffer level -/

namespace DecBuf

theorem seqValid_of_wf {W : Nat} {w lits : List Byte} {s : Seq} {ss : List Seq}
    (h : WFSeqs W w.length lits.length (s :: ss)) : SeqValid w lits W s := by
  obtain ⟨h1, h2, h3, _⟩ := h
  refine ⟨h1, ?_⟩
  intro hc
  rcases hc with ⟨hc1, hc2⟩ | hc
  · omega
  · omega

/-- `DecoderBuffer.WriteBlock` on a well-formed block whose sequences are at most
    `BufferSize - WindowSize` long returns `nil` or `ErrFullBuffer`, never `errLitLen`, `errOffset`
    or `errMatchLen`. -/
theorem writeBlock_wf (g : Grow) {b : DecBuf} {w : List Byte} {d : Nat} (h : Abs b w d) (blk : Block)
    (hwf : WFSeqs b.ws w.length blk.lits.length blk.seqs)
    (hfit : SeqsFit (b.bs - b.ws) blk.seqs) :
    (b.writeBlock g blk).2.2.2.2 = .ok ∨ (b.writeBlock g blk).2.2.2.2 = .full := by
  generalize hr : b.writeBlock g blk = R
  obtain ⟨b', n, k, l, e⟩ := R
  show e = .ok ∨ e = .full
  obtain ⟨w1, rest, hk, hx, _, herr, -⟩ := writeBlock_spec g h blk hr
  by_cases he : e = .ok
  · exact Or.inl he
  right
  obtain ⟨_, _, _, hc⟩ := herr he
  rcases hc with ⟨hk', hsf⟩ | ⟨_, hf, _⟩
  · obtain ⟨_, st⟩ := writeBlock_run g h.inv blk hr
    have hws : b'.ws = b.ws := st.step.ext.ws
    have hbs : b.bs ≤ b'.bs := st.step.ext.bs_le
    have hd := WFSeqs.drop blk.seqs k w blk.lits w1 rest hwf hx
    rw [List.drop_eq_getElem_cons hk'] at hd
    have hv := seqValid_of_wf hd
    have hfk := hfit _ (List.getElem_mem hk')
    unfold SeqFail at hsf
    rw [hws] at hsf
    rcases hsf with ⟨_, h1⟩ | ⟨_, _, h1⟩ | ⟨_, _, h1⟩ | ⟨h1, _⟩
    · exact absurd h1 (by have := hv.1; omega)
    · exact absurd h1 hv.2
    · omega
    · exact h1
  · exact hf

end DecBuf

namespace Decoder

/-! ## `Decoder.WriteBlock` never refuses a well-formed block that fits -/

/-- the result is not one of the refusals of the buffer -/
def NotRefused (e : Err) : Prop := e ≠ .full ∧ e ≠ .litLen ∧ e ≠ .offset ∧ e ≠ .matchLen

theorem NotRefused.of_ok_or_werr {e : Err} (h : e = .ok ∨ WErr e) : NotRefused e := by
  rcases h with h | h | ⟨c, h⟩ <;> subst h <;> simp [NotRefused]

theorem NotRefused.ok_or_werr {e : Err} (h : NotRefused e) (h2 : BufErr e ∨ WErr e) : e = .ok ∨ WErr e := by
  rcases h2 with h2 | h2
  · unfold BufErr at h2
    obtain ⟨a, b, c, d⟩ := h
    rcases h2 with h2 | h2 | h2 | h2 | h2
    · exact Or.inl h2
    all_goals contradiction
  · exact Or.inr h2

theorem Expands.wf_rest {W : Nat} {hist lits out : List Byte} {seqs : List Seq} {k l : Nat}
    (hwf : WFSeqs W hist.length lits.length seqs) (h : Expands hist lits seqs k l out) :
    WFSeqs W out.length (lits.drop l).length (seqs.drop k) := by
  obtain ⟨hk, out1, rest, t, h1, h2, h3, h4, h5⟩ := h
  obtain ⟨hr, ht0, -⟩ := expandSeqs_counts h1
  have hd := WFSeqs.drop seqs k hist lits out1 rest hwf h1
  rcases h4 with h4 | h4
  · subst h4
    simp only [List.take_zero, List.append_nil] at h5
    subst h5
    have : (lits.drop l).length = rest.length := by
      rw [hr, List.length_drop] at h2 ⊢; rw [List.length_drop]; omega
    rw [this]; exact hd
  · rw [h4, List.drop_length]; trivial

/-- the hypotheses of C07 after part of the block: when a run has brought the log to the expansion of the
    first `k` sequences and `l` literals, what is left of the block is well-formed over the log reached
    and still fits -/
theorem Reach.rest {d d' : Decoder} {z lits : List Byte} {seqs : List Seq} {k l : Nat} (r : Reach d d' z)
    (hwf : WFSeqs d.buf.ws d.log.length lits.length seqs) (hfit : SeqsFit (d.buf.bs - d.buf.ws) seqs)
    (hx : Expands d.log lits seqs k l d'.log) :
    WFSeqs d'.buf.ws d'.log.length (lits.drop l).length (seqs.drop k) ∧
    SeqsFit (d'.buf.bs - d'.buf.ws) (seqs.drop k) :=
  ⟨by rw [r.ws]; exact Expands.wf_rest hwf hx, (hfit.mono r.room_le).drop k⟩

theorem writeBlock_accepts (g : Grow) (d : Decoder) (seqs : List Seq) (lits : List Byte)
    (n : Int) (k l : Nat) (h : Good d)
    (hwf : WFSeqs d.buf.ws d.log.length lits.length seqs) (hfit : SeqsFit (d.buf.bs - d.buf.ws) seqs) :
    NotRefused (d.writeBlock g seqs lits n k l).2.2.2.2 := by
  refine writeBlock_ind g (motive := fun d seqs lits _ _ _ r => Good d →
    WFSeqs d.buf.ws d.log.length lits.length seqs → SeqsFit (d.buf.bs - d.buf.ws) seqs →
    NotRefused r.2.2.2.2) ?_ ?_ ?_ ?_ d seqs lits n k l h.inv h hwf hfit
  · -- the buffer did not report "full": it accepted the whole block
    intro d seqs lits n k l b' nn kk ll e _ _ hb _ hne h hwf hfit
    have := DecBuf.writeBlock_wf g h ⟨seqs, lits⟩ hwf hfit
    rw [hb] at this
    rcases this with rfl | rfl
    · simp [NotRefused]
    · exact absurd rfl hne
  · -- trailing literals: `Decoder.Write`
    intro d seqs lits n k l b' nn kk ll _ d2 m e2 _ _ hs _ hw _ _ _
    have := (write_spec g { d with buf := b' } (lits.drop ll) 0 hs.step.inv).1
    rw [hw] at this
    exact NotRefused.of_ok_or_werr this
  · intro d seqs lits n k l b' nn kk ll _ d2 f e2 _ _ hs _ hw _ _ _ _
    exact NotRefused.of_ok_or_werr (flushed hs.step.inv hw).err
  · -- flushed: what is left of the block is well-formed over the log reached, and still fits
    intro d seqs lits n k l b' nn kk ll x d2 f r hi hb hs _ hw ih h hwf hfit
    have r := Run.bufFlush hi hs.step hw
    obtain ⟨hwf', hfit'⟩ := r.rest hwf hfit (by
      rw [r.log]; exact expands_log ((good_iff d).mp h).2.1 hs)
    exact ih (r.closed _ Good.stepClosed h) hwf' hfit'

/-! ## a stream -/

/-- feeding a list of items is one run: the items before the last one fed returned `nil` -/
theorem feedAll_run (g : Grow) : ∀ (es : List DEvent) (d : Decoder), DecBuf.Inv d.buf →
    ∃ z, Run d (d.feedAll g es).1 z (d.feedAll g es).2
  | [], d, h => ⟨[], Run.refl h ok_not_WErr⟩
  | e :: es, d, h => by
    obtain ⟨z1, r1⟩ : ∃ z, Run d (d.feed g e).1 z (d.feed g e).2 := by
      cases e with
      | block blk => exact (writeBlock_post g d blk.seqs blk.lits 0 0 0 h).run
      | raw p => exact (write_spec g d p 0 h).run
    by_cases hok : (d.feed g e).2 = .ok
    · rw [Decoder.feedAll_cons_ok g d e es hok]
      obtain ⟨z2, r2⟩ := feedAll_run g es _ r1.inv
      rw [hok] at r1
      exact ⟨_, r1.trans r2 rfl⟩
    · rw [Decoder.feedAll_cons_err g d e es hok]
      exact ⟨z1, r1⟩

end Decoder
end LZ

#print axioms LZ.Decoder.Reach.rest
#print axioms LZ.Decoder.writeBlock_accepts
#print axioms LZ.Decoder.feedAll_run
