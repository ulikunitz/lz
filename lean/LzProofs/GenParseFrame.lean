/-
  The frame of `Parse`, once for the five hash parsers.

  `ProbeW.frameW` is what `ProbeW.parseW` does for ONE family of dictionaries (`ProbeW.parseW_single`, `_double`,
  `_bucket`).  `frameW_nf` is `ProbeW.frameW` without `do`, over the backing array of the Go buffer (`Frame`): the form in
  which the walks through the generated `Parse` functions meet the model.  `parse_model_of` composes such a walk with
  `ProbeW.parseW_reachable`.
-/
import LzProofs.GenParseShared

set_option linter.unusedVariables false

namespace LZ.GenHPParse

/-- the Go error value of the two outcomes of `Parse` (`nil`, `ErrEmptyBuffer`) -/
def parseErr : LZ.Err → Gen.Err
  | .empty => Gen.ErrEmptyBuffer
  | _ => Gen.Err.ok

/-- `*blk` after the two `[:0]` statements at the head of `Parse` -/
def resetBlk (blk : Gen.Block') : Gen.Block' :=
  { blk with Sequences := [], Literals := { arr := blk.Literals.arr, len := 0 } }

end LZ.GenHPParse

namespace LZ.GenParse
open LZ LZ.Gen LZ.GenBuf LZ.GenHash LZ.GenHPParse

/-- `ProbeW.frameW` for a non-empty block, without `do`, over the backing array of the Go buffer: `L` = the end of the block -/
theorem frameW_nf {δ : Type} {p : Parser} {pb : Gen.ParserBuffer} {bs : Int} (hF : Frame p pb bs) (hn : p.blockN ≠ 0)
    (flags : Nat) (seg : Option δ) (il : δ → Nat) (fnd : δ → Nat → List Byte → ProbeW.FinderW δ) (mk : δ → Dict)
    (L : Nat) (hL : p.buf.w + p.blockN = L) :
    ProbeW.frameW p (pb.Data.arr.drop pb.Data.len) flags seg il fnd mk =
      seg.bind fun d =>
      (if (L : Int) - (il d : Int) + 1 + 7 < 0 ∨ (pb.Data.arr.length : Int) < (L : Int) - (il d : Int) + 1 + 7
        then none else some ()).bind fun _ =>
      (ProbeW.runGreedyW (fnd d L (pb.Data.arr.drop L)) d (pb.Data.arr.take L) p.buf.w (L + 1 - il d) flags).bind fun r =>
      some ({ p with buf := { p.buf with w := r.2.1 }, dict := mk r.1 }, r.2.1 - p.buf.w, .ok, r.2.2.1) := by
  subst hL
  have hL := hF.blockN_le
  have hLA : p.buf.w + p.blockN ≤ pb.Data.arr.length := Nat.le_trans hL hF.wf.data
  unfold ProbeW.frameW
  rw [if_neg hn, hF.take_data _ hL, hF.behind _ hL, List.length_take, Nat.min_eq_left hLA]
  congr 1; funext d
  rw [ProbeW.resliceMargin_take _ _ _ hLA]

/-- **Go text → list-level model**, for any of the five parsers: a translated `Parse` that is `ProbeW.parseW` (`hm`, the
    statement of `gen_<k>_parse`) returns, in a state that abstracts to a reachable one, the representation of
    `Parser.parse` and does not panic (`ProbeW.parseW_reachable`). -/
theorem parse_model_of {σ : Type} {k : Kind} (hk : ProbeW.HashKind k) {p : Parser} {stale : List Byte} {flags : Nat}
    (hb : ProbeW.Backing p stale) (raw : Cfg) (s0 : Parser) (h0 : newParser k raw = some s0) (ops : List POp)
    (hreach : p = (runOps (s0, Ghost.init) ops).1) {G : Res (σ × Block' × Int × Gen.Err)}
    (abs : σ → Parser) (stl : σ → List UInt8) (OK : σ → Prop) {s : σ}
    (hm : match ProbeW.parseW p stale flags with
      | none => G = Res.panic
      | some (s', n, e, b) =>
        ∃ t blk', G = Res.ok (t, blk', (n : Int), parseErr e) ∧
          abs t = s' ∧ stl t = stl s ∧ (e = .ok ∨ e = .empty) ∧
          blk'.Sequences = b.seqs.map seqRep ∧ blk'.Literals.data = b.lits ∧ SWF blk'.Literals ∧ OK t) :
    ∃ t blk', G = Res.ok (t, blk', ((p.parse flags).2.1 : Int), parseErr (p.parse flags).2.2.1) ∧
      abs t = (p.parse flags).1 ∧ stl t = stl s ∧
      blk'.Sequences = (p.parse flags).2.2.2.seqs.map seqRep ∧
      blk'.Literals.data = (p.parse flags).2.2.2.lits ∧ SWF blk'.Literals ∧ OK t := by
  subst hreach
  rw [ProbeW.parseW_reachable k hk raw s0 h0 ops stale flags hb] at hm
  obtain ⟨t, blk', h1, h2, h3, _, h5, h6, h7, h8⟩ := hm
  exact ⟨t, blk', h1, h2, h3, h5, h6, h7, h8⟩

end LZ.GenParse

#print axioms LZ.GenParse.frameW_nf
#print axioms LZ.GenParse.parse_model_of
