/-
  LzProofs.RunsBlock — block level of the run clause of C19 for HP / BHP:
  if the table at `Parse` entry (after `processSegment`) covers every position `q` with
  `q + inputLen ≤ W` (`HashT.Cov`), a block of `n ≥ 32` equal bytes is parsed into at most one
  literal followed by matches that reach the block end.
-/
import LzProofs.RunsLemmas
namespace LZ

/-- the block `[w, w+n)` at the end of the block prefix `p` consists of `n ≥ 32` bytes `b` -/
structure RunBlock (p : List Byte) (w n : Nat) (b : Byte) : Prop where
  len : p.length = w + n
  n32 : 32 ≤ n
  run : ∀ t, t < n → p[w + t]? = some b

namespace RunBlock
variable {p : List Byte} {w n : Nat} {b : Byte}

theorem «at» (h : RunBlock p w n b) (t : Nat) (h1 : w ≤ t) (h2 : t < p.length) : p[t]? = some b := by
  have := h.run (t - w) (by have := h.len; omega)
  have e : w + (t - w) = t := by omega
  rw [e] at this; exact this

theorem key_eq (hR : RunBlock p w n b) (h : HashT) (q : Nat) (h1 : w ≤ q) (h2 : q + h.inputLen ≤ w + n) :
    h.key p q = h.key p w := by
  have hlen := hR.len
  exact key_run h p b q w (fun t ht => hR.at _ (by omega) (by omega))
    (fun t ht => hR.at _ (by omega) (by omega))

theorem lcp (hR : RunBlock p w n b) (j i : Nat) (hj : w ≤ j) (hji : j < i) (hi : i ≤ p.length) :
    lcpLen (p.drop j) (p.drop i) = p.length - i :=
  lcpLen_run p b j i hji hi (fun t h1 h2 => hR.at t (by omega) h2)

theorem slot_insert (hR : RunBlock p w n b) (h : HashT) (hs : h.SizeOK) (q : Nat) (h1 : w ≤ q)
    (h2 : q + h.inputLen ≤ w + n) :
    (h.insert p w).slot ((h.insert p w).key p q) = (w, lo32 ((h.insert p w).key p q)) := by
  rw [HashT.insert_key, hR.key_eq h q h1 h2, HashT.slot_insert_self h hs]

/-- after a first match `(w, k)` and its re-indexing — or, for `k = 1`, after the insertion of `w`
    alone — the slot of the key of `w + k` holds `w + k - 1` -/
theorem slot_after (hR : RunBlock p w n b) (h : HashT) (hs : h.SizeOK) (k : Nat) (hk : 1 ≤ k)
    (hkn : k + h.inputLen ≤ n) :
    ((h.insert p w).insertRange p (w + 1) (k - 1)).slot
        (((h.insert p w).insertRange p (w + 1) (k - 1)).key p (w + k)) =
      (w + k - 1, lo32 (((h.insert p w).insertRange p (w + 1) (k - 1)).key p (w + k))) := by
  have hkey : ∀ q, w ≤ q → q < w + (k - 1 + 1) → h.key p q = h.key p w :=
    fun q h1 h2 => hR.key_eq h q h1 (by omega)
  rw [HashT.insertRange_key, HashT.insert_key, hR.key_eq h (w + k) (by omega) (by omega),
    ← HashT.insertRange_succ, HashT.slot_insertRange_same p (h.key p w) (k - 1) w h hs hkey]
  congr 1; omega

/-- a table that covers the positions in front of `w + 1 - inputLen` offers at `w` no match that
    ends inside the block and is longer than `inputLen` -/
theorem short_le_inputLen (hR : RunBlock p w n b) (h : HashT) (hcov : h.Cov p (w + 1 - h.inputLen))
    (hj : (h.slot (h.key p w)).1 < w)
    (hk : lcpLen (p.drop (h.slot (h.key p w)).1) (p.drop w) < n) :
    lcpLen (p.drop (h.slot (h.key p w)).1) (p.drop w) ≤ h.inputLen := by
  have hlen := hR.len
  obtain ⟨hpre, hjk⟩ := lcpLen_run_short p b _ w hj (by omega) (fun t h1 h2 => hR.at t h1 h2) (by omega)
  apply Decidable.byContradiction
  intro hgt
  -- the position behind the candidate has the run key and is covered: the slot holds a later one
  have hq := hcov ((h.slot (h.key p w)).1 + 1) (by omega)
  rw [key_run h p b ((h.slot (h.key p w)).1 + 1) w
    (fun t ht => by rw [Nat.add_assoc]; exact hpre (1 + t) (by omega))
    (fun t ht => hR.at _ (by omega) (by omega))] at hq
  omega

end RunBlock

theorem min_sub_succ (w k e : Nat) (h : w + k ≤ e) : min (w + k) e - (w + 1) = k - 1 := by
  rw [Nat.min_eq_left h, Nat.add_sub_add_left]

/-- inside the run a candidate `j` of position `i` is verified and its match reaches the block end -/
theorem RunBlock.answer {p : List Byte} {w n : Nat} {b : Byte} (hR : RunBlock p w n b) (ws mm : Nat)
    (back : Bool) (i li j : Nat) (hj1 : w ≤ j) (hj2 : j < i) (hj3 : i - j ≤ ws) (hi : i ≤ p.length)
    (hmm : mm ≤ p.length - i) :
    CandGood ws mm p i j ∧
      ∃ m, m ≤ i - li ∧ matchOf p back i li j = (i - m, p.length - i + m, i - j) := by
  have hl := hR.lcp j i hj1 hj2 hi
  refine ⟨⟨hj2, hj3, by rw [hl]; exact hmm⟩, _, backExt_if_le back p i li j, ?_⟩
  unfold matchOf
  rw [hl]

/-- the slot of the current position `i` (inside the run, behind its first byte) holds a block
    position `j` inside the window: the probe reports a match that reaches the block end -/
theorem hpProbe_run_last {p : List Byte} {w n : Nat} {b : Byte} (hR : RunBlock p w n b)
    (ws mm ie : Nat) (back : Bool) (h : HashT) (i li j : Nat) (hj1 : w ≤ j) (hj2 : j < i)
    (hj3 : i - j ≤ ws) (hi : i ≤ p.length) (hmm : mm ≤ p.length - i)
    (hslot : h.slot (h.key p i) = (j, lo32 (h.key p i))) :
    ∃ d' m, m ≤ i - li ∧ hpProbe ws mm ie back h p i li = (d', some (i - m, p.length - i + m, i - j)) := by
  obtain ⟨hg, m, hm, e⟩ := hR.answer ws mm back i li j hj1 hj2 hj3 hi hmm
  exact ⟨_, m, hm, Prod.ext rfl ((hpProbe_of_cand ws mm ie back li (HashT.cand_of_slot hslot) hg).trans
    (congrArg some e))⟩

/-- block level, HP / BHP: `runGreedy` on a run block without `NoTrailingLiterals`, from a
    table that covers the positions before `w + 1 - inputLen`, emits at most one literal -/
theorem hp_run_block (ws mm : Nat) (back : Bool) (h : HashT) (p : List Byte) (w n : Nat) (b : Byte)
    (flags : Nat) (hf : flags % 2 = 0)
    (hR : RunBlock p w n b) (hs : h.SizeOK) (hil1 : 1 ≤ h.inputLen) (hil8 : h.inputLen ≤ 8)
    (hws : 1 ≤ ws) (hmm1 : 1 ≤ mm) (hmm3 : mm ≤ 3) (hcov : h.Cov p (w + 1 - h.inputLen)) :
    (Parser.runGreedy ⟨hpProbe ws mm (p.length + 1 - h.inputLen) back⟩ h p w
      (p.length + 1 - h.inputLen) flags).2.2.1.lits.length ≤ 1 := by
  have hlen := hR.len
  have hn := hR.n32
  apply runGreedy_two_probes _ p w _ 0 flags h
    (fun d i => w + 1 ≤ i ∧ i + 8 ≤ w + n ∧ d.slot (d.key p i) = (i - 1, lo32 (d.key p i)))
    hf (by omega) (by omega)
  · intro d i li ⟨h1, h2, hslot⟩ hli
    obtain ⟨d', m, hm, hp⟩ := hpProbe_run_last hR ws mm (p.length + 1 - h.inputLen) back d i li (i - 1)
      (by omega) (by omega) (by omega) (by omega) (by omega) hslot
    exact ⟨by omega, d', m, _, hm, hp⟩
  · -- no match at `w`: one literal, then the match with offset 1
    intro d' hp
    rw [hpProbe_none hp]
    exact ⟨Nat.le_refl _, by omega, hR.slot_after h hs 1 (Nat.le_refl _) (by omega)⟩
  · -- a match from an older entry: it covers the block or is at most `inputLen` bytes long
    intro d' s k o hp
    obtain ⟨⟨j, hc, hg, e⟩, hd⟩ := hpProbe_some hp
    cases HashT.cand_some hc
    rw [matchOf_first] at e
    cases e
    rw [hd]
    have hkn := lcpLen_le_right (p.drop (h.slot (h.key p w)).1) (p.drop w)
    rw [List.length_drop] at hkn
    refine ⟨rfl, by have := hg.2.2; omega, ?_⟩
    by_cases hkn' : lcpLen (p.drop (h.slot (h.key p w)).1) (p.drop w) = n
    · right; omega
    · left
      have hkil := hR.short_le_inputLen h hcov hg.1 (by omega)
      have hc4 := hg.2.2
      generalize lcpLen (p.drop (h.slot (h.key p w)).1) (p.drop w) = k at hc4 hkn hkn' hkil ⊢
      rw [min_sub_succ w k _ (by omega)]
      exact ⟨by omega, by omega, hR.slot_after h hs k (by omega) (by omega)⟩

end LZ
