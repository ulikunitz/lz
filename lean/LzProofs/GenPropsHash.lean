/-
  hash.go: hashValue.  The hand-written model equals the code that `tools/extract -code` regenerates from the Go source
  (LzModel/Generated/Code<Topic>.lean, one file per topic).  Every theorem quantifies over all inputs; Go `int`/`int64`
  are unbounded `Int` on both sides (overflow is out of scope), `uint32`/`uint64` wrap around.  The proofs do not
  depend on the shape of the generated term (see GenPropsBase).
-/
import LzModel.Generated.CodeHash
import LzProofs.GenPropsBase

set_option linter.unusedSimpArgs false

namespace LZ.GenProps
open LZ

/-! ## hash.go: hashValue -/

theorem prime_eq : (9920624304325388887 : UInt64) = prime64 := by
  unfold prime64 Facts.prime; rfl

/-- `h.shift = 64 - uint(hashBits)` (hash.init) in `uint` arithmetic -/
theorem shift_eq (hb : Nat) (h : hb ≤ 64) : (64 : UInt64) - UInt64.ofNat hb = UInt64.ofNat (64 - hb) := by
  apply UInt64.toNat_inj.mp
  rw [UInt64.toNat_sub]
  simp only [UInt64.toNat_ofNat']
  have : (64 : UInt64).toNat = 64 := rfl
  rw [this]
  have h1 : hb % 2 ^ 64 = hb := Nat.mod_eq_of_lt (by omega)
  have h2 : (64 - hb) % 2 ^ 64 = 64 - hb := Nat.mod_eq_of_lt (by omega)
  rw [h1, h2]; omega

/-- for every `hashBits ≤ 64`: the Go function is the model value truncated to `uint32` -/
theorem gen_hashValue_mod (x : UInt64) (hb : Nat) (h : hb ≤ 64) :
    (Gen.hashValue x (64 - UInt64.ofNat hb)).toNat = LZ.hashValue x hb % 2 ^ 32 := by
  rw [shift_eq hb h]
  unfold Gen.hashValue Gen.shrU64 LZ.hashValue
  rw [prime_eq]
  have h2 : (UInt64.ofNat (64 - hb)).toNat = 64 - hb := by
    simp only [UInt64.toNat_ofNat']; exact Nat.mod_eq_of_lt (by omega)
  rw [h2]
  by_cases h0 : hb = 0
  · subst h0; simp
  · have : 64 - hb < 64 := by omega
    simp only [this, if_true, h0, if_false, UInt64.toNat_toUInt32]

theorem hashValue_lt (x : UInt64) (hb : Nat) (h : hb ≤ 64) : LZ.hashValue x hb < 2 ^ hb :=
  LZ.hashValue_lt x hb

/-- on the domain of the callers (`Verify` bounds HashBits by 24 ≤ 32) the model value
    is the Go value; for 32 < hashBits ≤ 64 the model lacks the `uint32(…)` truncation
    (see `gen_hashValue_mod`) -/
theorem gen_hashValue (x : UInt64) (hb : Nat) (h : hb ≤ 32) :
    (Gen.hashValue x (64 - UInt64.ofNat hb)).toNat = LZ.hashValue x hb := by
  rw [gen_hashValue_mod x hb (by omega)]
  apply Nat.mod_eq_of_lt
  have := hashValue_lt x hb (by omega)
  have : 2 ^ hb ≤ 2 ^ 32 := Nat.pow_le_pow_right (by omega) h
  omega

/-- on verified configurations (what `hash.init` / `bucketHash.init` accept) the model's
    `hashValue` is the Go `hashValue` with `shift = 64 - hashBits` -/
theorem gen_hashValue_verified (x : UInt64) (il hb : Int)
    (h : hashVerify il hb Facts.maxHashBits = true ∨ hashVerify il hb Facts.maxBucketHashBits = true) :
    (Gen.hashValue x (64 - UInt64.ofNat hb.toNat)).toNat = LZ.hashValue x hb.toNat := by
  apply gen_hashValue
  rcases h with h | h
  · have := hashBits_domain il hb h; omega
  · have := bucketHashBits_domain il hb h; omega

end LZ.GenProps
