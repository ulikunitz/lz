/-
  LzProofs.Scan — the stack machine `scanLCP` (segments.go) reports exactly the LCP-intervals.

  `popLoop_spec` describes one run of the inner loop as a split of the stack into the popped items
  and the rest.  The invariant `ScanInv` says that before index `j` the stack is exactly the set of
  intervals open at `j` (`Open`), so the callbacks issued at `j` are the LCP-intervals that end there
  (`mem_emit_iff`).  Result: `scanLCP_spec`, membership and order of the callback list.  Values are
  `Int` as in the Go code (the scan compares with `-1` behind the table); Segments.lean has the same
  notions over `Nat` (`LcpInterval`, `Reports`), SuffixProps.lean the translation (`scanLCP_reports`).
  The equations `popLoop_pop`, `popLoop_same`, `popLoop_push` and `popLoop_neg` are also what the
  comparison with the translated code rewrites with (GenSuffixPropsSeg.lean).
-/
import LzModel.Suffix
namespace LZ

/-! ### functional description of `popLoop` -/

/-- strictly decreasing `n` from the top of the stack to the bottom -/
abbrev StackSorted (st : List Item) : Prop := st.Pairwise (fun a b => b.n < a.n)

def cbOf (j : Nat) (it : Item) : Callback := (it.n.toNat, it.j, j)

/-- left boundary carried out of the pops: the `j` of the last popped item -/
def lastJ (left : Nat) (popped : List Item) : Nat := popped.foldl (fun _ it => it.j) left

/-- callbacks for the popped items -/
def emit (minLen : Int) (j : Nat) (popped : List Item) : List Callback :=
  (popped.filter (fun it => decide (minLen ≤ it.n))).map (cbOf j)

/-- what happens with the rest of the stack after the pops -/
def pushRes (n : Int) (left : Nat) : List Item → Option (List Item)
  | [] => none
  | top :: rest => if top.n < n then some (⟨n, left⟩ :: top :: rest) else some (top :: rest)

theorem popLoop_pop (minLen n : Int) (j left : Nat) (top : Item) (rest : List Item)
    (out : List Callback) (h : n < top.n) :
    popLoop minLen n j left (top :: rest) out =
      popLoop minLen n j top.j rest
        (if top.n ≥ minLen then out ++ [(top.n.toNat, top.j, j)] else out) := by
  have h1 : ¬ n > top.n := by omega
  have h2 : ¬ n = top.n := by omega
  cases rest with
  | nil => simp [popLoop, h1, h2]
  | cons a l => rw [popLoop]; simp only [h1, h2, if_false]

theorem popLoop_push (minLen n : Int) (j left : Nat) (top : Item) (rest : List Item)
    (out : List Callback) (h : top.n < n) :
    popLoop minLen n j left (top :: rest) out = (some (⟨n, left⟩ :: top :: rest), out) := by
  rw [popLoop, if_pos h]

theorem popLoop_same (minLen n : Int) (j left : Nat) (top : Item) (rest : List Item)
    (out : List Callback) (h : n = top.n) :
    popLoop minLen n j left (top :: rest) out = (some (top :: rest), out) := by
  rw [popLoop, if_neg (by omega), if_pos h]

/-- behind the table the scan compares with `-1` and empties a stack of non-negative values -/
theorem popLoop_neg (minLen : Int) (j : Nat) :
    ∀ (st : List Item) (left : Nat) (out : List Callback), (∀ it ∈ st, 0 ≤ it.n) →
      (popLoop minLen (-1) j left st out).1 = none
  | [], _, _, _ => rfl
  | top :: rest, _, _, h => by
    rw [popLoop_pop _ _ _ _ _ _ _ (by have := h top List.mem_cons_self; omega)]
    exact popLoop_neg minLen j rest _ _ fun it hit => h it (List.mem_cons_of_mem _ hit)

theorem popLoop_spec (minLen n : Int) (j : Nat) :
    ∀ (st : List Item) (left : Nat) (out : List Callback), StackSorted st →
      ∃ popped rest, st = popped ++ rest ∧ (∀ it ∈ popped, n < it.n) ∧ (∀ it ∈ rest, it.n ≤ n) ∧
        popLoop minLen n j left st out =
          (pushRes n (lastJ left popped) rest, out ++ emit minLen j popped) := by
  intro st
  induction st with
  | nil =>
    intro left out _
    exact ⟨[], [], rfl, by simp, by simp, by simp [popLoop, pushRes, emit]⟩
  | cons top st' ih =>
    intro left out hs
    have hs' := List.pairwise_cons.1 hs
    by_cases h3 : n < top.n
    · obtain ⟨popped, rest, e, hp, hr, hres⟩ := ih top.j
        (if top.n ≥ minLen then out ++ [(top.n.toNat, top.j, j)] else out) hs'.2
      refine ⟨top :: popped, rest, by rw [e]; rfl, List.forall_mem_cons.2 ⟨h3, hp⟩, hr, ?_⟩
      rw [popLoop_pop _ _ _ _ _ _ _ h3, hres]
      show (_, _) = (pushRes n (lastJ top.j popped) rest, _)
      by_cases hm : minLen ≤ top.n <;> simp [hm, emit, cbOf]
    · refine ⟨[], top :: st', rfl, by simp, List.forall_mem_cons.2
        ⟨by omega, fun it hit => by have := hs'.1 it hit; omega⟩, ?_⟩
      by_cases h1 : n > top.n
      · simp [popLoop, pushRes, emit, lastJ, h1]
      · have h2 : n = top.n := by omega
        simp [popLoop, pushRes, emit, h2]

theorem lastJ_spec : ∀ (popped : List Item) (left : Nat), StackSorted popped →
    (popped = [] ∧ lastJ left popped = left) ∨
    (∃ last, last ∈ popped ∧ lastJ left popped = last.j ∧ ∀ it ∈ popped, last.n ≤ it.n) := by
  intro popped
  induction popped with
  | nil => intro left _; exact Or.inl ⟨rfl, rfl⟩
  | cons a l ih =>
    intro left hs
    have hs' := List.pairwise_cons.1 hs
    right
    have hl : lastJ left (a :: l) = lastJ a.j l := rfl
    rcases ih a.j hs'.2 with ⟨e, h⟩ | ⟨last, hmem, hj, hmin⟩
    · subst e
      exact ⟨a, by simp, by rw [hl, h], by simp⟩
    · exact ⟨last, List.mem_cons_of_mem _ hmem, by rw [hl, hj],
        List.forall_mem_cons.2 ⟨by have := hs'.1 last hmem; omega, hmin⟩⟩

/-! ### open intervals and the stack invariant -/

section
variable (v : Nat → Int)

/-- `⟨n, p⟩` is an open interval at index `j`: all values in `(p, j)` are `≥ n`, `p` is the
    leftmost possible boundary, and the value `n` is attained (or it is the bottom item) -/
def Open (j : Nat) (n : Int) (p : Nat) : Prop :=
  p < j ∧ (∀ x, p < x → x < j → n ≤ v x) ∧ (p = 0 ∨ v p < n) ∧
    ((n = 0 ∧ p = 0) ∨ ∃ x, p < x ∧ x < j ∧ v x = n)

/-- `[lo, hi)` is an LCP-interval of value `m` of a table of `size` entries: open at `hi` and not
    extensible to the right (`LcpInterval` of Segments.lean over `Int`: `isLcpIv_iff`) -/
def IsLcpIv (size : Nat) (m : Int) (lo hi : Nat) : Prop :=
  Open v hi m lo ∧ hi ≤ size ∧ (hi = size ∨ v hi < m)

/-- invariant of the scan before index `j` is processed: the stack holds exactly the intervals open at
    `j` (so the table determines it), in decreasing order of value from the top, and the top has the
    value of the entry just processed -/
structure ScanInv (j : Nat) (st : List Item) : Prop where
  sorted : StackSorted st
  mem : ∀ it : Item, it ∈ st ↔ Open v j it.n it.j
  top : j = 1 ∨ ∃ it rest, st = it :: rest ∧ it.n = v (j - 1)

variable {v}

theorem Open.nonneg (hv : ∀ x, 0 ≤ v x) {j : Nat} {n : Int} {p : Nat} (h : Open v j n p) : 0 ≤ n := by
  rcases h.2.2.2 with ⟨e, _⟩ | ⟨x, _, _, e⟩
  · omega
  · rw [← e]; exact hv x

theorem left_unique {j : Nat} {n : Int} {p p' : Nat}
    (h1 : p < j) (h2 : ∀ x, p < x → x < j → n ≤ v x) (h3 : p = 0 ∨ v p < n)
    (h1' : p' < j) (h2' : ∀ x, p' < x → x < j → n ≤ v x) (h3' : p' = 0 ∨ v p' < n) : p = p' := by
  rcases Nat.lt_trichotomy p p' with h | h | h
  · rcases h3' with e | e
    · omega
    · have := h2 p' h h1'; omega
  · exact h
  · rcases h3 with e | e
    · omega
    · have := h2' p h h1; omega

theorem exists_left (n : Int) : ∀ j, 1 ≤ j →
    ∃ p, p < j ∧ (∀ x, p < x → x < j → n ≤ v x) ∧ (p = 0 ∨ v p < n) := by
  intro j
  induction j with
  | zero => intro h; omega
  | succ j ih =>
    intro _
    by_cases hj : j = 0
    · subst hj; exact ⟨0, by omega, fun x h1 h2 => by omega, Or.inl rfl⟩
    · by_cases hvj : v j < n
      · exact ⟨j, by omega, fun x h1 h2 => by omega, Or.inr hvj⟩
      · obtain ⟨p, h1, h2, h3⟩ := ih (by omega)
        refine ⟨p, by omega, fun x hx1 hx2 => ?_, h3⟩
        by_cases e : x = j
        · subst e; omega
        · exact h2 x hx1 (by omega)

theorem exists_right (n : Int) (size : Nat) : ∀ k b, b + k = size → b < size →
    ∃ h, b < h ∧ h ≤ size ∧ (∀ x, b < x → x < h → n ≤ v x) ∧ (h = size ∨ v h < n) := by
  intro k
  induction k with
  | zero => intro b h1 h2; omega
  | succ k ih =>
    intro b hb hlt
    by_cases e : b + 1 = size
    · exact ⟨size, by omega, Nat.le_refl _, fun x h1 h2 => by omega, Or.inl rfl⟩
    · by_cases hvb : v (b+1) < n
      · exact ⟨b+1, by omega, by omega, fun x h1 h2 => by omega, Or.inr hvb⟩
      · obtain ⟨h, h1, h2, h3, h4⟩ := ih (b+1) (by omega) (by omega)
        refine ⟨h, by omega, h2, fun x hx1 hx2 => ?_, h4⟩
        by_cases e' : x = b + 1
        · subst e'; omega
        · exact h3 x (by omega) hx2

theorem Open.extend {j : Nat} {n : Int} {p : Nat} (h : Open v j n p) (hn : n ≤ v j) :
    Open v (j+1) n p := by
  obtain ⟨h1, h2, h3, h4⟩ := h
  refine ⟨by omega, fun x hx1 hx2 => ?_, h3, ?_⟩
  · by_cases e : x = j
    · subst e; exact hn
    · exact h2 x hx1 (by omega)
  · rcases h4 with h4 | ⟨x, hx1, hx2, hx3⟩
    · exact Or.inl h4
    · exact Or.inr ⟨x, hx1, by omega, hx3⟩

/-- the bottom item `⟨0, 0⟩` (the whole range seen so far, value 0) is open at every index -/
theorem open_bottom (hv : ∀ x, 0 ≤ v x) {j : Nat} (hj : 1 ≤ j) : Open v j 0 0 :=
  ⟨hj, fun x _ _ => hv x, Or.inl rfl, Or.inl ⟨rfl, rfl⟩⟩

theorem Open.succ_cases (hv : ∀ x, 0 ≤ v x) {j : Nat} (hj : 1 ≤ j) {n : Int} {p : Nat}
    (h : Open v (j+1) n p) : (Open v j n p ∧ n ≤ v j) ∨ n = v j := by
  obtain ⟨h1, h2, h3, h4⟩ := h
  rcases h4 with ⟨rfl, rfl⟩ | ⟨x, hx1, hx2, hx3⟩
  · exact Or.inl ⟨open_bottom hv hj, hv j⟩
  · by_cases e : x = j
    · subst e; exact Or.inr hx3.symm
    · exact Or.inl ⟨⟨by omega, fun y hy1 hy2 => h2 y hy1 (by omega), h3, Or.inr ⟨x, hx1, by omega, hx3⟩⟩,
        h2 j (by omega) (by omega)⟩

theorem inv_init (hv : ∀ x, 0 ≤ v x) : ScanInv v 1 [⟨0, 0⟩] := by
  refine ⟨by simp, fun it => ⟨fun h => ?_, ?_⟩, Or.inl rfl⟩
  · rw [List.mem_singleton.1 h]; exact open_bottom hv (Nat.le_refl 1)
  · rintro ⟨h1, _, _, ⟨e1, e2⟩ | ⟨x, hx1, hx2, _⟩⟩
    · cases it; simp_all
    · omega

/-- left boundaries are non-decreasing from the bottom of the stack to the top -/
theorem ScanInv.j_mono {j : Nat} {st : List Item} (hI : ScanInv v j st) {a b : Item} (ha : a ∈ st)
    (hb : b ∈ st) (hn : b.n < a.n) : b.j ≤ a.j := by
  have oa := (hI.mem a).1 ha
  have ob := (hI.mem b).1 hb
  by_cases c : b.j ≤ a.j
  · exact c
  · rcases ob.2.2.1 with e | e
    · omega
    · have := oa.2.1 b.j (by omega) ob.1; omega

/-- the interval pushed when `v j` exceeds every value left on the stack is open at `j + 1`: its left
    boundary is that of the last popped interval (or `j - 1` if nothing was popped) -/
theorem open_pushed {j : Nat} {popped rest : List Item} (hI : ScanInv v j (popped ++ rest)) (hj : 1 ≤ j)
    (hp : ∀ it ∈ popped, v j < it.n) (hr : ∀ it ∈ rest, it.n < v j) :
    Open v (j+1) (v j) (lastJ (j-1) popped) := by
  rcases lastJ_spec popped (j-1) (List.pairwise_append.1 hI.sorted).1 with ⟨e, hl⟩ | ⟨last, hmem, hl, hmin⟩
  · subst e
    rw [hl]
    refine ⟨by omega, fun x h1 h2 => ?_, ?_, Or.inr ⟨j, by omega, by omega, rfl⟩⟩
    · have : x = j := by omega
      subst this; omega
    · rcases hI.top with e | ⟨it, r, e1, e2⟩
      · left; omega
      · right
        rw [← e2]
        exact hr it (by rw [List.nil_append] at e1; rw [e1]; exact List.mem_cons_self)
  · rw [hl]
    obtain ⟨h1, h2, h3, _⟩ := (hI.mem last).1 (List.mem_append_left _ hmem)
    have hlast := hp last hmem
    refine ⟨by omega, fun x hx1 hx2 => ?_, ?_, Or.inr ⟨j, h1, by omega, rfl⟩⟩
    · by_cases e : x = j
      · subst e; omega
      · have := h2 x hx1 (by omega); omega
    · by_cases hz : last.j = 0
      · exact Or.inl hz
      · right
        have h3 : v last.j < last.n := h3.resolve_left hz
        -- otherwise the value `v last.j` would be open at `j` strictly between the
        -- last popped item and the rest
        apply Classical.byContradiction
        intro hlt
        obtain ⟨q, hq1, hq2, hq3⟩ := exists_left (v := v) (v last.j) last.j (by omega)
        have hw : Open v j (v last.j) q := by
          refine ⟨by omega, fun x hx1 hx2 => ?_, hq3, Or.inr ⟨last.j, hq1, h1, rfl⟩⟩
          rcases Nat.lt_trichotomy x last.j with h | h | h
          · exact hq2 x hx1 h
          · subst h; omega
          · have := h2 x h hx2; omega
        rcases List.mem_append.1 ((hI.mem ⟨v last.j, q⟩).2 hw) with h | h
        · exact absurd (hmin ⟨v last.j, q⟩ h) (Int.not_le.2 h3)
        · exact hlt (hr ⟨v last.j, q⟩ h)

theorem inv_step (hv : ∀ x, 0 ≤ v x) {j : Nat} {st : List Item} (hI : ScanInv v j st) (hj : 1 ≤ j)
    {popped rest : List Item} (hst : st = popped ++ rest)
    (hp : ∀ it ∈ popped, v j < it.n) (hr : ∀ it ∈ rest, it.n ≤ v j) :
    ∃ st', pushRes (v j) (lastJ (j - 1) popped) rest = some st' ∧ ScanInv v (j+1) st' := by
  subst hst
  have hsorted := List.pairwise_append.1 hI.sorted
  -- the bottom item is in the rest
  obtain ⟨top, rest', rfl⟩ : ∃ top rest', rest = top :: rest' := by
    rcases List.mem_append.1 ((hI.mem ⟨0, 0⟩).2 (open_bottom hv hj)) with h | h
    · have := hp _ h; have := hv j; simp at *; omega
    · exact List.exists_cons_of_ne_nil (List.ne_nil_of_mem h)
  have hrs := List.pairwise_cons.1 hsorted.2.1
  have hrest_open : ∀ it ∈ top :: rest', Open v (j+1) it.n it.j := fun it hit =>
    ((hI.mem it).1 (List.mem_append_right _ hit)).extend (hr it hit)
  -- The new stack `st'` keeps the rest and has an item `x` of value `v j`.  Then it holds every
  -- interval open at `j+1`: one that was open at `j` is in the rest, any other has the value `v j`
  -- and hence the left boundary of `x`.
  have hmem : ∀ (st' : List Item) (x : Item), x ∈ st' → x.n = v j →
      (∀ it ∈ st', Open v (j+1) it.n it.j) → (∀ it ∈ top :: rest', it ∈ st') →
      ∀ it : Item, it ∈ st' ↔ Open v (j+1) it.n it.j := by
    intro st' x hx hxn hopen hsub it
    refine ⟨hopen it, fun ho => ?_⟩
    rcases ho.succ_cases hv hj with ⟨ho', hle⟩ | e
    · rcases List.mem_append.1 ((hI.mem it).2 ho') with h | h
      · have := hp it h; omega
      · exact hsub it h
    · have hxo := hopen x hx
      rw [hxn, ← e] at hxo
      have := left_unique ho.1 ho.2.1 ho.2.2.1 hxo.1 hxo.2.1 hxo.2.2.1
      have : it = x := by cases it; cases x; simp_all
      exact this ▸ hx
  by_cases hpush : top.n < v j
  · have hr' : ∀ it ∈ top :: rest', it.n < v j :=
      List.forall_mem_cons.2 ⟨hpush, fun it h => by have := hrs.1 it h; omega⟩
    refine ⟨⟨v j, lastJ (j-1) popped⟩ :: top :: rest', by simp [pushRes, hpush],
      List.pairwise_cons.2 ⟨hr', hsorted.2.1⟩, ?_, Or.inr ⟨_, _, rfl, by simp⟩⟩
    exact hmem _ ⟨v j, _⟩ List.mem_cons_self rfl
      (List.forall_mem_cons.2 ⟨open_pushed hI hj hp hr', hrest_open⟩) (fun it h => List.mem_cons_of_mem _ h)
  · have htop : top.n = v j := by have := hr top List.mem_cons_self; omega
    exact ⟨top :: rest', by simp [pushRes, hpush], hsorted.2.1,
      hmem _ top List.mem_cons_self htop hrest_open (fun _ h => h), Or.inr ⟨top, rest', rfl, by simp [htop]⟩⟩

end


/-! ### the outer loop -/

/-- the clipped LCP value the scan works with at index `x` -/
def vclip (lcp : Array Nat) (maxLen : Int) (x : Nat) : Int := min ((lcp.getD x 0 : Nat) : Int) maxLen

theorem vclip_nonneg (lcp : Array Nat) {maxLen : Int} (h : 0 ≤ maxLen) (x : Nat) :
    0 ≤ vclip lcp maxLen x := by
  unfold vclip; omega

/-- order in which callbacks are issued: by right end, then by decreasing value -/
def CbBefore (c1 c2 : Callback) : Prop := c1.2.2 < c2.2.2 ∨ (c1.2.2 = c2.2.2 ∧ c2.1 < c1.1)

section
variable {v : Nat → Int} (hv : ∀ x, 0 ≤ v x) {size j : Nat} {minLen : Int} {st popped rest : List Item}
  (hI : ScanInv v j st) (hst : st = popped ++ rest)
include hv hI hst

theorem emit_pairwise : (emit minLen j popped).Pairwise CbBefore := by
  unfold emit
  rw [List.pairwise_map]
  apply List.Pairwise.filter
  refine List.Pairwise.imp_of_mem ?_ (List.pairwise_append.1 (hst ▸ hI.sorted)).1
  intro a b _ hb hab
  right
  have := ((hI.mem b).1 (hst ▸ List.mem_append_left _ hb)).nonneg hv
  simp only [cbOf, true_and]
  omega

/-- the callbacks issued at index `j`, where the scan compares with `n` (the value `v j`, or `-1`
    behind the table), are the LCP-intervals with right end `j` -/
theorem mem_emit_iff {n : Int} (hp : ∀ it ∈ popped, n < it.n) (hr : ∀ it ∈ rest, it.n ≤ n)
    (hend : (j = size ∧ n < 0) ∨ (j < size ∧ n = v j)) (m lo hi : Nat) :
    (m, lo, hi) ∈ emit minLen j popped ↔
      minLen ≤ (m : Int) ∧ hi = j ∧ IsLcpIv v size (m : Int) lo hi := by
  simp only [emit, cbOf, List.mem_map, List.mem_filter, decide_eq_true_eq, Prod.mk.injEq]
  constructor
  · rintro ⟨it, ⟨hit, hmin⟩, rfl, rfl, rfl⟩
    have ho := (hI.mem it).1 (hst ▸ List.mem_append_left _ hit)
    have hlt := hp it hit
    rw [Int.toNat_of_nonneg (ho.nonneg hv)]
    exact ⟨hmin, rfl, ho, by omega, by omega⟩
  · rintro ⟨hmin, rfl, ho, hle, hend'⟩
    rcases List.mem_append.1 (hst ▸ (hI.mem ⟨m, lo⟩).2 ho) with h | h
    · exact ⟨⟨m, lo⟩, ⟨h, hmin⟩, by simp, rfl, rfl⟩
    · have : (m : Int) ≤ n := hr ⟨m, lo⟩ h
      omega

end

theorem scanFrom_lt_some (lcp : Array Nat) (minLen maxLen : Int) (j : Nat) (st : List Item)
    (out : List Callback) (h : j < lcp.size) {st' : List Item} {out' : List Callback}
    (hpop : popLoop minLen (vclip lcp maxLen j) j (j - 1) st out = (some st', out')) :
    scanFrom lcp minLen maxLen j st out = scanFrom lcp minLen maxLen (j + 1) st' out' := by
  rw [scanFrom]
  simp only [Nat.le_of_lt h, h, if_true]
  unfold vclip at hpop
  rw [hpop]

theorem scanFrom_last_none (lcp : Array Nat) (minLen maxLen : Int) (j : Nat) (st : List Item)
    (out : List Callback) (h : j = lcp.size) {out' : List Callback}
    (hpop : popLoop minLen (-1) j (j - 1) st out = (none, out')) :
    scanFrom lcp minLen maxLen j st out = out' := by
  rw [scanFrom]
  subst h
  simp only [Nat.le_refl, Nat.lt_irrefl, if_true, if_false]
  rw [hpop]

theorem scanFrom_spec (lcp : Array Nat) (minLen maxLen : Int) (hmax : 0 ≤ maxLen) :
    ∀ k j st out, j + k = lcp.size → 1 ≤ j → ScanInv (vclip lcp maxLen) j st →
      ∃ l, scanFrom lcp minLen maxLen j st out = out ++ l ∧
        (∀ m lo hi : Nat, (m, lo, hi) ∈ l ↔
          minLen ≤ (m : Int) ∧ j ≤ hi ∧ IsLcpIv (vclip lcp maxLen) lcp.size (m : Int) lo hi) ∧
        l.Pairwise CbBefore := by
  have hv := vclip_nonneg lcp hmax
  intro k
  induction k with
  | zero =>
    intro j st out hj hj1 hI
    have hje : j = lcp.size := by omega
    obtain ⟨popped, rest, hst, hp, hr, hres⟩ := popLoop_spec minLen (-1) j st (j-1) out hI.sorted
    have hmem := mem_emit_iff hv hI hst (minLen := minLen) hp hr (Or.inl ⟨hje, by omega⟩)
    have hrest : rest = [] := by
      cases rest with
      | nil => rfl
      | cons a l =>
        have h1 := hr a List.mem_cons_self
        have h2 := ((hI.mem a).1 (by rw [hst]; simp)).nonneg hv
        omega
    subst hrest
    refine ⟨emit minLen j popped, scanFrom_last_none _ _ _ _ _ _ hje (by rw [hres]; rfl),
      fun m lo hi => ?_, emit_pairwise hv hI hst⟩
    rw [hmem]
    exact ⟨fun ⟨a, b, c⟩ => ⟨a, by omega, c⟩, fun ⟨a, b, c⟩ => ⟨a, by have := c.2.1; omega, c⟩⟩
  | succ k ih =>
    intro j st out hj hj1 hI
    have hjlt : j < lcp.size := by omega
    obtain ⟨popped, rest, hst, hp, hr, hres⟩ :=
      popLoop_spec minLen (vclip lcp maxLen j) j st (j-1) out hI.sorted
    have hmem := mem_emit_iff hv hI hst (minLen := minLen) hp hr (Or.inr ⟨hjlt, rfl⟩)
    obtain ⟨st', hpush, hI'⟩ := inv_step hv hI hj1 hst hp hr
    obtain ⟨l', hl', hmem', hpw'⟩ := ih (j+1) st' (out ++ emit minLen j popped) (by omega) (by omega) hI'
    refine ⟨emit minLen j popped ++ l', ?_, fun m lo hi => ?_, ?_⟩
    · rw [scanFrom_lt_some _ _ _ _ _ _ hjlt (by rw [hres, hpush]), hl', List.append_assoc]
    · rw [List.mem_append, hmem', hmem]
      constructor
      · rintro (⟨a, b, c⟩ | ⟨a, b, c⟩) <;> exact ⟨a, by omega, c⟩
      · rintro ⟨a, b, c⟩
        by_cases e : hi = j
        · exact Or.inl ⟨a, e, c⟩
        · exact Or.inr ⟨a, by omega, c⟩
    · rw [List.pairwise_append]
      refine ⟨emit_pairwise hv hI hst, hpw', ?_⟩
      rintro ⟨m1, lo1, hi1⟩ ha ⟨m2, lo2, hi2⟩ hb
      have h1 := ((hmem m1 lo1 hi1).1 ha).2.1
      have h2 := ((hmem' m2 lo2 hi2).1 hb).2.1
      exact Or.inl (show hi1 < hi2 by omega)

/-- Characterisation of the callbacks of `scanLCP`: they are exactly the LCP-intervals of the
    clipped table with value `≥ minLen`, issued in the order `CbBefore`. -/
theorem scanLCP_spec (lcp : Array Nat) (minLen maxLen : Int) (hmax : 0 ≤ maxLen)
    (hsize : 0 < lcp.size) :
    (∀ m lo hi : Nat, (m, lo, hi) ∈ scanLCP lcp minLen maxLen ↔
      minLen ≤ (m : Int) ∧ IsLcpIv (vclip lcp maxLen) lcp.size (m : Int) lo hi) ∧
    (scanLCP lcp minLen maxLen).Pairwise CbBefore := by
  obtain ⟨l, hl, hmem, hpw⟩ := scanFrom_spec lcp minLen maxLen hmax (lcp.size - 1) 1 [⟨0, 0⟩] []
    (by omega) (Nat.le_refl _) (inv_init (vclip_nonneg lcp hmax))
  unfold scanLCP
  rw [hl, List.nil_append]
  refine ⟨fun m lo hi => ?_, hpw⟩
  rw [hmem]
  constructor
  · rintro ⟨h1, _, h3⟩; exact ⟨h1, h3⟩
  · rintro ⟨h1, h3⟩
    refine ⟨h1, ?_, h3⟩
    have := h3.1.1
    omega

end LZ
