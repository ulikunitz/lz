/-
  LzProofs.SapProps — C11 (OSAP emits a minimum-cost parse) and C12 (GSAP takes the longest
  available match), for one block and along a history of `Parse` calls.
  Named hypotheses that remain: `SAOK` and `CEHyps` (theorems of the suffix-array topic).
-/
import LzProofs.EdgesProps
import LzProofs.GsapLoop
namespace LZ.Sap

/-- C11.  Let the edges in use be those `computeEdges` produced for the buffer contents
    `data0` at window head `w0` (either just now, or at an earlier `Parse` of the same fill:
    `data0` agrees with the present buffer on the block and everything before it), and let the
    suffix-array facts `CEHyps` hold for that computation.  Then the block OSAP emits with
    flags 0
    * is itself an LZ77 parse of the block bytes (lengths in `[MinMatchLen, MaxMatchLen]`,
      offsets `≤ WindowSize`, sources in the buffer), and
    * costs no more than any such parse. -/
theorem C11_optimal (s : Parser) (o : OsapD) (hd : s.dict = .osap o) (flags : Nat)
    (hn : s.blockN ≠ 0) (hf : flags % 2 = 0)
    (data0 : List Byte) (w0 : Nat)
    (hedges : osapEdges s o =
      computeEdges data0 w0 s.buf.cfg.windowSize s.minMatch s.cfg.maxMatchLen.toNat)
    (hce : CEHyps data0 w0 s.buf.cfg.windowSize s.minMatch s.cfg.maxMatchLen.toNat)
    (hw0 : w0 ≤ s.buf.w) (hlen : s.buf.w + s.blockN ≤ data0.length)
    (hpre : data0.take (s.buf.w + s.blockN) = s.buf.data.take (s.buf.w + s.blockN)) :
    LzParse (s.buf.data.take (s.buf.w + s.blockN)) s.buf.w s.buf.cfg.windowSize
        s.minMatch s.cfg.maxMatchLen.toNat s.blockN (osapPath s o) ∧
    blockCost (s.parse flags).2.2.2 =
      (if (osapEdges s o).nEdges = 0 then 9 * s.blockN else pathCost (osapPath s o)) ∧
    ∀ π, LzParse (s.buf.data.take (s.buf.w + s.blockN)) s.buf.w s.buf.cfg.windowSize
        s.minMatch s.cfg.maxMatchLen.toNat s.blockN π →
      blockCost (s.parse flags).2.2.2 ≤ pathCost π := by
  have hsound := computeEdges_sound hce hw0 hlen
  have hcompl := computeEdges_complete hce hw0 hlen
  have hstart : (osapEdges s o).start = w0 := by rw [hedges]; exact computeEdges_start _ _ _ _ _
  rw [hpre, ← hedges] at hsound hcompl
  rw [← hstart] at hsound hcompl
  refine ⟨C11_emitted_is_parse s o hsound, osap_block_cost s o hd flags hn hf, ?_⟩
  apply C11_optimal_partial s o hd flags hn hf _ hcompl
  rw [hedges]; exact computeEdges_countOK _ _ _ _ _

/-- C11 for a block parsed right after the edges were (re)computed -/
theorem C11_optimal_fresh (s : Parser) (o : OsapD) (hd : s.dict = .osap o) (flags : Nat)
    (hn : s.blockN ≠ 0) (hf : flags % 2 = 0)
    (hre : s.buf.w + s.blockN > o.start + o.edges.size)
    (hce : CEHyps s.buf.data s.buf.w s.buf.cfg.windowSize s.minMatch s.cfg.maxMatchLen.toNat) :
    LzParse (s.buf.data.take (s.buf.w + s.blockN)) s.buf.w s.buf.cfg.windowSize
        s.minMatch s.cfg.maxMatchLen.toNat s.blockN (osapPath s o) ∧
    ∀ π, LzParse (s.buf.data.take (s.buf.w + s.blockN)) s.buf.w s.buf.cfg.windowSize
        s.minMatch s.cfg.maxMatchLen.toNat s.blockN π →
      blockCost (s.parse flags).2.2.2 ≤ pathCost π := by
  have h := C11_optimal s o hd flags hn hf s.buf.data s.buf.w
    (by unfold osapEdges; rw [if_pos hre]) hce (Nat.le_refl _) (blockN_le s hn) rfl
  exact ⟨h.1, h.2.2⟩

/-! ## C11 along a history -/

/-- The state invariant of OSAP along a history: the stored edges are either absent (fresh
    parser, after `Reset`/`Shrink`) or were computed by `computeEdges` for a prefix `data0` of the
    present buffer at a window head `w0 ≤ W` (and the suffix-array facts held for that
    computation). -/
def OsapHist (s : Parser) (o : OsapD) : Prop :=
  (o.edges.size = 0 ∧ o.start = 0) ∨
  ∃ data0 w0, o = computeEdges data0 w0 s.buf.cfg.windowSize s.minMatch s.cfg.maxMatchLen.toNat ∧
    CEHyps data0 w0 s.buf.cfg.windowSize s.minMatch s.cfg.maxMatchLen.toNat ∧
    w0 ≤ s.buf.w ∧ data0 <+: s.buf.data

theorem osapEdges_hist (s : Parser) (o : OsapD) (hn : s.blockN ≠ 0) (hist : OsapHist s o)
    (hce : CEHyps s.buf.data s.buf.w s.buf.cfg.windowSize s.minMatch s.cfg.maxMatchLen.toNat) :
    ∃ data0 w0, osapEdges s o =
        computeEdges data0 w0 s.buf.cfg.windowSize s.minMatch s.cfg.maxMatchLen.toNat ∧
      CEHyps data0 w0 s.buf.cfg.windowSize s.minMatch s.cfg.maxMatchLen.toNat ∧
      w0 ≤ s.buf.w ∧ s.buf.w + s.blockN ≤ data0.length ∧ data0 <+: s.buf.data := by
  have hle := blockN_le s hn
  by_cases hre : s.buf.w + s.blockN > o.start + o.edges.size
  · exact ⟨s.buf.data, s.buf.w, by unfold osapEdges; rw [if_pos hre], hce, Nat.le_refl _, hle,
      List.prefix_refl _⟩
  · rcases hist with ⟨h1, h2⟩ | ⟨data0, w0, e, hc, h1, h2⟩
    · omega
    · refine ⟨data0, w0, by unfold osapEdges; rw [if_neg hre]; exact e, hc, h1, ?_, h2⟩
      rw [e, computeEdges_start, computeEdges_edges_size] at hre
      omega

/-- C11 along a history (hypothesis: the suffix-array facts `CEHyps` for the present buffer;
    those for the buffer the stored edges came from are part of `OsapHist`) -/
theorem C11_optimal_hist (s : Parser) (o : OsapD) (hd : s.dict = .osap o) (flags : Nat)
    (hn : s.blockN ≠ 0) (hf : flags % 2 = 0) (hist : OsapHist s o)
    (hce : CEHyps s.buf.data s.buf.w s.buf.cfg.windowSize s.minMatch s.cfg.maxMatchLen.toNat) :
    LzParse (s.buf.data.take (s.buf.w + s.blockN)) s.buf.w s.buf.cfg.windowSize
        s.minMatch s.cfg.maxMatchLen.toNat s.blockN (osapPath s o) ∧
    ∀ π, LzParse (s.buf.data.take (s.buf.w + s.blockN)) s.buf.w s.buf.cfg.windowSize
        s.minMatch s.cfg.maxMatchLen.toNat s.blockN π →
      blockCost (s.parse flags).2.2.2 ≤ pathCost π := by
  obtain ⟨data0, w0, e, hc, h1, h2, h3⟩ := osapEdges_hist s o hn hist hce
  have h := C11_optimal s o hd flags hn hf data0 w0 e hc h1 h2 (take_eq_of_prefix h3 h2)
  exact ⟨h.1, h.2.2⟩

theorem parse_osap_hist (s : Parser) (o : OsapD) (hd : s.dict = .osap o) (flags : Nat)
    (hn : s.blockN ≠ 0) (hist : OsapHist s o)
    (hce : CEHyps s.buf.data s.buf.w s.buf.cfg.windowSize s.minMatch s.cfg.maxMatchLen.toNat) :
    (s.parse flags).1.dict = .osap (osapEdges s o) ∧ OsapHist (s.parse flags).1 (osapEdges s o) := by
  obtain ⟨data0, w0, e, hc, h1, h2, h3⟩ := osapEdges_hist s o hn hist hce
  rw [parse_osap_eq s o hd flags hn]
  have hle := blockN_le s hn
  split
  · exact ⟨rfl, Or.inr ⟨data0, w0, e, hc, Nat.le_trans h1 (Nat.le_add_right _ _), h3⟩⟩
  · refine ⟨rfl, Or.inr ⟨data0, w0, e, hc, ?_, h3⟩⟩
    simp only
    split
    · exact Nat.le_trans h1 (osapSeqs_spec s o hn).1
    · simp only [List.length_take]; omega

/-! ## non-vacuity: a concrete buffer satisfying `CEHyps` -/

def exData : List Byte := [97, 98, 97, 98]

theorem ex_t : ceT exData 2 8 = exData := rfl
theorem ex_sa : saSpec exData = [2, 0, 3, 1] := by
  simp [exData, saSpec, List.range, List.range.loop, List.mergeSort, List.MergeSort.Internal.splitInTwo, lexLe]
theorem ex_lcp : ceLcp exData 2 8 = #[0, 2, 0, 1] := by
  unfold ceLcp; rw [ex_t, ex_sa]; decide
theorem ex_maxlcp : ceMaxLcp exData 2 8 = 2 := by
  unfold ceMaxLcp; rw [ex_lcp]; rfl
theorem ex_maxlen : ceMaxLen exData 2 8 4 = 2 := by
  unfold ceMaxLen; rw [ex_maxlcp]; rfl
theorem ex_segs : ceSegs exData 2 8 2 4 = some [(2, 0, 2)] := by
  unfold ceSegs; rw [ex_lcp, ex_maxlen, ex_t, ex_sa]
  simp [segments32, segments, scanLCP, scanFrom, popLoop, Int.min_def]

theorem ex_segHyps : SegHyps exData [2, 0, 3, 1] 2 2 [(2, 0, 2)] := by
  refine ⟨by decide, ?_, ?_, ?_, by simp⟩
  · intro m lo hi h
    simp only [List.mem_singleton, Prod.mk.injEq] at h
    obtain ⟨rfl, rfl, rfl⟩ := h
    have h1 : ∀ b, b < 2 → ∀ a, a < b → 2 ≤ sufL exData [2, 0, 3, 1] a b := by decide
    have h2 : ∀ a, a < 2 → ∀ r, r < 4 → 2 ≤ r → sufL exData [2, 0, 3, 1] a r < 2 := by decide
    exact ⟨by omega, by omega, by omega, by simp, fun a b _ hab hb => h1 b hb a hab,
      fun a r _ ha hr hlo => h2 a ha r hr (by omega)⟩
  · have h : ∀ b, b < 4 → ∀ a, a < b → 2 ≤ sufL exData [2, 0, 3, 1] a b → a = 0 ∧ b = 1 := by decide
    intro a b h1 h2 h3
    obtain ⟨rfl, rfl⟩ := h b h2 a h1 h3
    exact ⟨0, 2, by decide, by omega, by omega⟩
  · intro m1 lo1 hi1 m2 lo2 hi2 h1 h2 _ _ h
    simp only [List.mem_singleton, Prod.mk.injEq] at h1 h2
    omega

/-- non-vacuity of `CEHyps`: the buffer `"abab"` with the window head at 2 -/
theorem ex_ceHyps : CEHyps exData 2 8 2 4 := by
  refine ⟨by rw [ex_t, ex_sa]; decide, ?_, ?_⟩
  · have h : ∀ b, b < 4 → ∀ a, a < b → sufL exData [2, 0, 3, 1] a b ≤ 2 := by decide
    intro a b h1 h2
    rw [ex_t, ex_sa] at h2 ⊢
    rw [ex_maxlcp]
    exact h b h2 a h1
  · intro _
    refine ⟨_, ex_segs, ?_⟩
    rw [ex_t, ex_sa, ex_maxlen]; exact ex_segHyps

/-- … and what `computeEdges` stores there: position 2 (`"ab"`) has the edge `(2, 2)` -/
example : (computeEdges exData 2 8 2 4).edges = #[[(2, 2)], []] ∧
    (computeEdges exData 2 8 2 4).nEdges = 1 := by
  rw [computeEdges_some exData 2 8 2 4 (by decide) ex_segs, ex_t, ex_sa]
  have hl : exData.length - 2 = 2 := rfl
  simp [edgeStep, sortedSeg, List.mergeSort, edgeCallback, hl, Array.replicate_succ]

/-- the optimal parse of the block `"ab"` at position 2 is the single match `(2, 2)`: 8 bits
    instead of 18 for two literals -/
example : shortestPath 2 2 #[[(2, 2)], []] 0 = [(2, 2)] ∧ pathCost [(2, 2)] = 8 := by
  constructor
  · rw [shortestPath_eq, dFinal]
    have : d0 2 = #[⟨0, 0, 0⟩, ⟨1, 0, 9⟩, ⟨1, 0, 18⟩] := by
      apply Array.ext'
      simp [d0, xzCost, List.range, List.range.loop]
    rw [this]; decide
  · decide

/-- C12, literal clause at one position (alias of `gsapProbe_literal_only_if`) -/
theorem C12_literal_only_if {t : List Byte} {g : GsapD} {i e : Nat} (ws minMatch li : Nat)
    (hs : SAOK t g.sa g.isa) (hb : BitsOK g.sa g.bits t.length i) (hi : i < t.length) (hw : i < ws)
    (h : (gsapProbe ws minMatch g (t.take e) i li).2 = none) :
    ∀ f, f < i → lcpLen ((t.take e).drop f) ((t.take e).drop i) < minMatch :=
  gsapProbe_literal_only_if ws minMatch li hs hb hi hw h

/-! ## C12 along a history -/

/-- The state invariant of GSAP along a history without `Parse(nil)`: the suffix array is
    either absent (fresh parser, after `Reset`/`Shrink`, after a truncated block) or it is the
    suffix array of a prefix `t` of the present buffer, and `bits` marks exactly the ranks of the
    positions in front of `W`. -/
def GsapHist (s : Parser) (g : GsapD) : Prop := GsapSt BitsOK s g

/-- C12 along a history (hypothesis: the suffix-array facts `SAOK` for `gsapSort`) -/
theorem C12_longest_hist (s : Parser) (g : GsapD) (hd : s.dict = .gsap g) (flags : Nat)
    (hn : s.blockN ≠ 0) (hmm : 1 ≤ s.minMatch) (hist : GsapHist s g)
    (hsa : ∀ data w, SAOK data (gsapSort data w).sa (gsapSort data w).isa) :
    GreedySpec (s.buf.data.take (s.buf.w + s.blockN)) s.buf.cfg.windowSize s.minMatch
      (s.buf.w + s.blockN ≤ s.buf.cfg.windowSize) s.buf.w (s.parse flags).2.2.2.seqs ∧
    (s.buf.w + s.blockN ≤ s.buf.cfg.windowSize →
      ∀ q, endPos s.buf.w (s.parse flags).2.2.2.seqs ≤ q → q < s.buf.w + s.blockN →
        lpm (s.buf.data.take (s.buf.w + s.blockN)) q < s.minMatch) := by
  obtain ⟨t, h1, h2, h3, h4⟩ := GsapSt.block bitsOK_clause hn hist hsa
  exact C12_longest_partial s g hd flags hn hmm t (take_eq_of_prefix h1 h2).symm h2 h3 h4

/-! ## bridges: discharging `SAOK`, `SegHyps`, `CEHyps` from the suffix-array theorems -/

theorem sufList_toArray (t : List Byte) (saL : List Nat) :
    sufList t saL.toArray = saL.map (fun i => t.drop i) := by
  apply List.ext_getElem
  · simp [sufList]
  · intro r h1 h2
    simp only [sufList, List.getElem_map, List.getElem_range]
    simp only [sufList, List.length_map, List.length_range, List.size_toArray] at h1
    simp [Array.getD_eq_getD_getElem?, List.getElem?_eq_getElem h1]

/-- `SAOK` for `sa = saL.toArray`, `isa = invertSA sa` from the list-level facts
    (`saSpec_isSuffixArray`, `invertSA_get_sa`, `sa_get_invertSA` of the suffix-array topic) -/
theorem SAOK_of_list (t : List Byte) (saL : List Nat)
    (hperm : saL.Perm (List.range t.length))
    (hsorted : saL.Pairwise (fun i j => lexLe (t.drop i) (t.drop j) = true))
    (hinv1 : ∀ j (hj : j < saL.length), (invertSA saL.toArray)[saL[j]]? = some j)
    (hinv2 : ∀ i, i < saL.length →
      ∃ k, (invertSA saL.toArray)[i]? = some k ∧ k < saL.length ∧ saL[k]? = some i) :
    SAOK t saL.toArray (invertSA saL.toArray) := by
  have hlen : saL.length = t.length := by simpa using hperm.length_eq
  refine ⟨by simp [hlen], ?_, ?_, ?_⟩
  · intro r hr
    have hr' : r < saL.length := by omega
    have e : saL.toArray.getD r 0 = saL[r] := by
      simp [Array.getD_eq_getD_getElem?, List.getElem?_eq_getElem hr']
    rw [e, Array.getD_eq_getD_getElem?, hinv1 r hr']; rfl
  · intro i hi
    obtain ⟨k, h1, h2, h3⟩ := hinv2 i (by omega)
    have e1 : (invertSA saL.toArray).getD i 0 = k := by
      rw [Array.getD_eq_getD_getElem?, h1]; rfl
    rw [e1]
    refine ⟨by omega, ?_⟩
    simp [Array.getD_eq_getD_getElem?, h3]
  · unfold LexSorted
    rw [sufList_toArray, List.pairwise_map]
    exact hsorted

theorem le_foldl_max : ∀ (l : List Nat) (init : Nat),
    init ≤ l.foldl max init ∧ ∀ v, v ∈ l → v ≤ l.foldl max init
  | [], init => ⟨Nat.le_refl _, fun v h => by simp at h⟩
  | x :: l, init => by
    simp only [List.foldl_cons]
    obtain ⟨a, b⟩ := le_foldl_max l (max init x)
    refine ⟨by omega, ?_⟩
    intro v hv
    rcases List.mem_cons.1 hv with h | h
    · subst h; omega
    · exact b v h

theorem getD_le_foldl_max (arr : Array Nat) (x : Nat) : arr.getD x 0 ≤ arr.foldl max 0 := by
  rw [← Array.foldl_toList]
  by_cases hx : x < arr.size
  · have : arr.getD x 0 ∈ arr.toList := by
      simp [Array.getD_eq_getD_getElem?, Array.getElem?_eq_getElem hx]
    exact (le_foldl_max arr.toList 0).2 _ this
  · simp [Array.getD_eq_getD_getElem?, Array.getElem?_eq_none (Nat.le_of_not_lt hx)]

/-- `CEHyps` with (H2) in the form "the common prefix of the suffixes at ranks `a < b` is at most
    the table entry `lcp[b]`" (a consequence of `kasai_correct` and `lcp_range_min`) -/
theorem CEHyps_of (data : List Byte) (w ws minMatch maxMatch : Nat)
    (hperm : (saSpec (ceT data w ws)).Perm (List.range (ceT data w ws).length))
    (hle : ∀ a b, a < b → b < (saSpec (ceT data w ws)).length →
      sufL (ceT data w ws) (saSpec (ceT data w ws)) a b ≤ (ceLcp data w ws).getD b 0)
    (hsegs : minMatch ≤ ceMaxLen data w ws maxMatch →
      ∃ cbs, ceSegs data w ws minMatch maxMatch = some cbs ∧
        SegHyps (ceT data w ws) (saSpec (ceT data w ws)) minMatch (ceMaxLen data w ws maxMatch) cbs) :
    CEHyps data w ws minMatch maxMatch :=
  ⟨hperm, fun a b h1 h2 => Nat.le_trans (hle a b h1 h2) (getD_le_foldl_max _ _), hsegs⟩

/-! ## axioms -/

#print axioms xzCost_mono_offset
#print axioms xzCost_one_zero
#print axioms xzCost_zero_offset
#print axioms dp_optimal
#print axioms shortestPath_cost
#print axioms pathToSeqs_spec
#print axioms cost_pathToSeqs
#print axioms osapSeqs_spec
#print axioms osap_block_cost
#print axioms dp_optimal_lz
#print axioms C11_optimal_partial
#print axioms C11_emitted_is_parse
#print axioms computeEdges_countOK
#print axioms computeEdges_sound
#print axioms computeEdges_complete
#print axioms C11_optimal
#print axioms C11_optimal_fresh
#print axioms C11_optimal_hist
#print axioms parse_osap_hist
#print axioms ex_ceHyps
#print axioms SAOK_of_list
#print axioms CEHyps_of
#print axioms memberBefore_spec
#print axioms memberAfter_spec
#print axioms memberBefore_some
#print axioms memberBefore_none
#print axioms memberAfter_some
#print axioms memberAfter_none
#print axioms memberBefore_isPred
#print axioms memberAfter_isGE
#print axioms insertRanks_spec
#print axioms sandwich
#print axioms lcpLen_take
#print axioms neighbour_max
#print axioms gsapProbe_longest
#print axioms gsapProbe_none
#print axioms gsapProbe_literal_only_if
#print axioms gsap_loop
#print axioms C12_longest_partial
#print axioms C12_longest_fresh
#print axioms GsapSt.parse
#print axioms C12_longest_hist

end LZ.Sap
