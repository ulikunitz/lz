/-
  LzProofs.GenBUPParseEx — non-vacuity of the hypotheses of `gen_bup_parse`: for a concrete configuration the
  TRANSLATED `bucketParser.init` (topic BucketInit, LzModel/Generated/CodeBucketInit.lean) run on `new(bucketParser)`
  returns a state that satisfies `ParseOKU` (kernel evaluation, `decide`; no `native_decide`).  For every accepted
  configuration this is `gen_bup_init_parseOK` (LzProofs/GenBUPHistInit.lean).
-/
import LzModel.Generated.CodeBucketInit
import LzProofs.GenBUPParse

namespace LZ.GenBUPParse
open LZ LZ.Gen LZ.GenBuf LZ.GenHash

def exCfg : Gen.BUPConfig :=
  { ShrinkSize := 8, BufferSize := 40, WindowSize := 16, BlockSize := 24, InputLen := 3, HashBits := 3, BucketSize := 2 }

/-- the state `new(bucketParser)` is in after `init(exCfg)` -/
def exS0 : Gen.bucketParser :=
  match bucketParser_init default exCfg with
  | Res.ok (s, _) => s
  | _ => default

theorem exInit : bucketParser_init default exCfg = Res.ok (exS0, Gen.Err.ok) := by decide +kernel

theorem exParseOKU : ParseOKU exS0 := by
  refine ⟨⟨⟨?_, ?_, ?_, ?_, ?_⟩, ⟨?_, ?_⟩⟩, ⟨?_, ?_, ?_, ?_, ?_, ?_, ?_⟩, ?_, ?_, ?_, ?_, ?_, ?_, ?_, ?_, ?_, ?_, ?_⟩
  all_goals first
    | (unfold SWF; decide +kernel)
    | (unfold GWF; decide +kernel)
    | decide +kernel

end LZ.GenBUPParse

#print axioms LZ.GenBUPParse.exInit
#print axioms LZ.GenBUPParse.exParseOKU
