/-
  LzProofs.GenBHPParse — the mechanical translation of bhp.go `(*backwardHashParser).Parse`
  (LzModel/Generated/CodeBHPParse.lean; `lcs` is an opaque parameter of the translation) versus the word-level
  model `LZ.ProbeW.parseW` (LzProofs/ProbeW.lean) for kind `.BHP`, under the specification `LcsSpec lcs`
  (`lcs p q` is the length of the longest common suffix of the elements of `p` and `q`).
  Same structure as LzProofs/GenHPParse.lean, whose definitions (`resetBlk`, `parseErr`, `seqRep`, …) and model-side
  lemma `blockN_nats` it uses; the model side is `frameW_nf` (GenParseFrame).  `ParseOKB.frame`, `.backing`, `.update`
  are the names of GenHPParse (see its header).
-/
import LzProofs.GenBHPParseLemmas

set_option linter.unusedSimpArgs false
set_option linter.unusedVariables false

namespace LZ.GenBHPParse
open LZ LZ.Gen LZ.GenBuf LZ.GenHash LZ.GenProps LZ.GenHPParse LZ.GenParse

/-- the model parser state a Go `backwardHashParser` stands for -/
def ofBHPs (s : Gen.backwardHashParser) : Parser := ofDict .BHP (ofBHP s.BHPConfig) s.hashDictionary

/-- the bytes between `len(s.Data)` and `cap(s.Data)`: the `stale` argument of `ProbeW.parseW` -/
def staleOfB (s : Gen.backwardHashParser) : List UInt8 :=
  s.hashDictionary.ParserBuffer.Data.arr.drop s.hashDictionary.ParserBuffer.Data.len

/-! ## the whole `Parse` -/

/-- the hypotheses of `gen_bhp_parse` on the Go state: the representation invariant `DictWF`, the three fields
    `BHPConfig` duplicates (`s.WindowSize`, `s.BlockSize` resolve to `BHPConfig`, the model reads the buffer's
    copy; `minMatchLen` comes from `s.inputLen = s.hash.inputLen`, the model's from the configuration; only their
    values as natural numbers matter), `0 ≤ BlockSize`, `W ≤ len(Data)`, `1 ≤ inputLen`, `hashBits ≤ 32`
    (`shift ≥ 32`; the model's `hashValue` has no `uint32(…)` truncation) and `len(Data) < 2^32` (positions are
    stored as `uint32`).  All hold after every API history (`Verify`: `2 ≤ InputLen ≤ 8`, `HashBits ≤ 24`,
    `BufferSize ≤ 2^32 - 8`). -/
structure ParseOKB (s : Gen.backwardHashParser) : Prop where
  wf : DictWF s.hashDictionary
  cws : s.BHPConfig.WindowSize.toNat = s.hashDictionary.ParserBuffer.BufConfig.WindowSize.toNat
  cbs : s.BHPConfig.BlockSize.toNat = s.hashDictionary.ParserBuffer.BufConfig.BlockSize.toNat
  cil : s.BHPConfig.InputLen.toNat = s.hashDictionary.hash.inputLen.toNat
  bs0 : 0 ≤ s.BHPConfig.BlockSize
  w : s.hashDictionary.ParserBuffer.W ≤ s.hashDictionary.ParserBuffer.Data.len
  il1 : 1 ≤ s.hashDictionary.hash.inputLen
  sh : 32 ≤ s.hashDictionary.hash.shift.toNat
  small : s.hashDictionary.ParserBuffer.Data.len < 4294967296

/-- `staleOfB` is what `ProbeW.Backing` asks for: data ++ stale is the whole backing array -/
theorem ParseOKB.backing {s : Gen.backwardHashParser} (h : ParseOKB s) :
    ProbeW.Backing (ofBHPs s) (staleOfB s) :=
  stale_length _ h.wf.1.data

theorem ParseOKB.frame {s : Gen.backwardHashParser} (h : ParseOKB s) :
    Frame (ofBHPs s) s.hashDictionary.ParserBuffer s.BHPConfig.BlockSize :=
  ⟨rfl, h.wf.1, h.cbs, h.bs0, h.w⟩

/-- the Go state after `Parse`: new `W`, new table -/
@[reducible] def withWTB (s : Gen.backwardHashParser) (w : Int) (t : GSlice hashEntry) : Gen.backwardHashParser :=
  { hashDictionary :=
      { ParserBuffer := { s.hashDictionary.ParserBuffer with W := w },
        hash := { s.hashDictionary.hash with table := t } },
    BHPConfig := s.BHPConfig }

theorem ParseOKB.update {s : Gen.backwardHashParser} (h : ParseOKB s) (w : Nat)
    (hw : w ≤ s.hashDictionary.ParserBuffer.Data.len) {t : GSlice hashEntry}
    (ht : TOK s.hashDictionary.hash.shift t) : ParseOKB (withWTB s (w : Int) t) :=
  ⟨⟨h.frame.wf_w w, ⟨ht.1, h.wf.2.2.1, h.wf.2.2.2.1, h.wf.2.2.2.2.1, ht.2⟩⟩,
    h.cws, h.cbs, h.cil, h.bs0, Int.ofNat_le.mpr hw, h.il1, h.sh, h.small⟩

/-- the arguments of `processSegment` in any spelling -/
theorem pseg_argsB (fuel : Nat) (f : Gen.hashDictionary) (a b : Int) {a' b' : Int} (h1 : a' = a) (h2 : b' = b) :
    hashDictionary_processSegment fuel f a' b' = hashDictionary_processSegment fuel f a b := by subst h1 h2; rfl

/-- the result tuple of `Parse` with the returned `n` in any spelling -/
theorem res4B {α β γ δ : Type} {a a' : α} {b b' : β} {c c' : γ} {d d' : δ}
    (h1 : a = a') (h2 : b = b') (h3 : c = c') (h4 : d = d') : Res.ok (a, b, c, d) = Res.ok (a', b', c', d') := by
  subst h1 h2 h3 h4; rfl

/-- bhp.go `Parse`, translated, is `ProbeW.parseW` for kind `.BHP` (same panic, same results), for every `lcs`
    that computes the longest common suffix.  Fuel: `2 * len(s.Data) + 3` instead of the `len(s.Data) + 3` of
    `gen_hp_parse`, because the re-indexing loop of bhp.go starts at the backward-extended position `i - m + 1`,
    which may lie up to `i - litIndex` positions before `i`; it is called with the fuel left after the iterations so
    far, so `len - i` units do not bound its `≤ inputEnd - (i - m + 1)` iterations. -/
theorem gen_bhp_parse (grow : Nat → Nat → Nat) (fuel : Nat) (lcs : Slice → Slice → Int) (hlcs : LcsSpec lcs)
    (s : Gen.backwardHashParser) (blk : Gen.Block') (flags : Int)
    (h : ParseOKB s) (hfl : 0 ≤ flags) (hfuel : 2 * s.hashDictionary.ParserBuffer.Data.len + 3 ≤ fuel) :
    match ProbeW.parseW (ofBHPs s) (staleOfB s) flags.toNat with
    | none => backwardHashParser_Parse grow fuel lcs s blk flags = Res.panic
    | some (s', n, e, b) =>
      ∃ t blk', backwardHashParser_Parse grow fuel lcs s blk flags = Res.ok (t, blk', (n : Int), parseErr e) ∧
        ofBHPs t = s' ∧ staleOfB t = staleOfB s ∧ (e = .ok ∨ e = .empty) ∧
        blk'.Sequences = b.seqs.map seqRep ∧ blk'.Literals.data = b.lits ∧ SWF blk'.Literals ∧ ParseOKB t := by
  have hD : SWF s.hashDictionary.ParserBuffer.Data := h.wf.1.data
  obtain ⟨_, _, hmask, hsh2, _⟩ := h.wf.2
  -- the natural numbers behind the Go integers; the clamp `n`
  obtain ⟨Wn, iln, hWn, hiln, hil1, (hLlen : Wn + (ofBHPs s).blockN ≤ _),
      (hnG : Min.min _ _ = (((ofBHPs s).blockN : Nat) : Int))⟩ :=
    blockN_nats h.frame h.il1
  have hwn : (ofBHPs s).buf.w = Wn := by show s.hashDictionary.ParserBuffer.W.toNat = Wn; omega
  have hiln' : s.hashDictionary.hash.inputLen.toNat = iln := by omega
  -- the Go side up to the test `n == 0`
  generalize hG : backwardHashParser_Parse grow fuel lcs s blk flags = G
  unfold backwardHashParser_Parse backwardHashParser_Parse_nilable at hG; simp only [Bool.false_eq_true] at hG
  simp only [if_false] at hG
  -- `n = min(len(s.Data) - s.W, s.BlockSize)` in whatever form the text computes it
  bhp_val (((ofBHPs s).blockN : Nat) : Int) at hG
  -- (`omega` splits on every `min`, `toNat` and `-` in the context: such facts are not kept)
  clear hnG
  rw [slice_zero, bind_ok] at hG
  by_cases hn : (ofBHPs s).blockN = 0
  · rw [hn] at hG
    bhp_ifc at hG
    rw [ProbeW.parseW_empty _ _ _ hn]
    exact ⟨s, resetBlk blk, hG.symm, rfl, rfl, Or.inr rfl, rfl, rfl, Nat.zero_le _, h⟩
  generalize hnN : (ofBHPs s).blockN = nN at hG hn hLlen ⊢
  bhp_ifc at hG
  -- the arguments of `processSegment` in any spelling
  rw [pseg_argsB fuel s.hashDictionary ((s.hashDictionary.ParserBuffer.W - s.hashDictionary.hash.inputLen) + 1)
    s.hashDictionary.ParserBuffer.W (by bhp_cond) (by bhp_cond)] at hG
  -- the model side, without `do`
  rw [show staleOfB s = s.hashDictionary.ParserBuffer.Data.arr.drop s.hashDictionary.ParserBuffer.Data.len from rfl,
    ProbeW.parseW_single (ofBHPs s) _ _ (ofHash s.hashDictionary.hash) rfl,
    frameW_nf h.frame (by rw [hnN]; exact hn) _ _ _ _ _ (Wn + nN)
      (by rw [hwn, hnN])]
  generalize hp1 : ProbeW.processSegment1W _ _ _ _ _ = r
  have hps := gen_processSegment_at fuel s.hashDictionary h.wf h.sh h.small (by omega) hp1
    ((s.hashDictionary.ParserBuffer.W - s.hashDictionary.hash.inputLen) + 1) s.hashDictionary.ParserBuffer.W rfl rfl
    (by rw [hwn, hWn]; show _ - ((s.hashDictionary.hash.inputLen.toNat : Nat) : Int) + 1 = _; omega) (by rw [hwn, hWn])
  cases r with
  | none =>
    rw [(hps :)] at hG
    exact hG.symm
  | some h' =>
    obtain ⟨t0, ht0, rfl, hps⟩ := hps
    rw [hps, bind_ok] at hG
    rw [Option.bind_some]
    dsimp only at hG
    simp only [ofHashT_inputLen, hiln', hwn]
    -- p := s.Data[:s.W+n]
    rw [hWn, slice_okB s.hashDictionary.ParserBuffer.Data 0 (Wn + nN) (by bhp_cond) (by bhp_cond)
      (Nat.zero_le _) (by have := hD; unfold SWF at this; omega), bind_ok] at hG
    simp only [List.drop_zero, Nat.sub_zero] at hG
    rw [hiln] at hG
    rw [show (ofBHPs s).buf.cfg.windowSize = s.BHPConfig.WindowSize.toNat from h.cws.symm,
      show (ofBHPs s).minMatch = Min.min 3 iln by show Min.min 3 s.BHPConfig.InputLen.toNat = _; rw [h.cil, hiln'],
      show ((ofBHPs s).kind == Kind.BHP) = true from rfl]
    clear hiln' hwn
    have hlenA : s.hashDictionary.ParserBuffer.Data.len ≤ s.hashDictionary.ParserBuffer.Data.arr.length := hD
    generalize hA : s.hashDictionary.ParserBuffer.Data.arr = A at hG hlenA ⊢
    -- `minMatchLen = min(3, s.inputLen)` in whatever form the text computes it
    bhp_val ((Min.min 3 iln : Nat) : Int) at hG
    -- the margin reslice `_p := s.Data[:inputEnd+7]`; `eI` = the Go value of `inputEnd`
    obtain ⟨eI, heI⟩ : ∃ eI : Int, eI = ((Wn + nN : Nat) : Int) - (iln : Int) + 1 := ⟨_, rfl⟩
    rw [← heI]
    by_cases hmar : eI + 7 < 0 ∨ (A.length : Int) < eI + 7
    · rw [if_pos hmar]
      rw [slice_panic _ _ _ (by rw [hA]; simp only [Int.ofNat_eq_natCast]; omega)] at hG
      exact hG.symm
    rw [if_neg hmar, Option.bind_some]
    rw [slice_okB s.hashDictionary.ParserBuffer.Data 0 (eI + 7).toNat (by bhp_cond) (by bhp_cond) (Nat.zero_le _)
      (by rw [hA]; omega), bind_ok] at hG
    simp only [List.drop_zero, Nat.sub_zero] at hG
    rw [hA] at hG
    -- the greedy loop
    obtain ⟨st', _, blk', hgl, hl1, ⟨t', rfl, ht'⟩, hdict', hiL, hli2, hseq', hlit', hswf', hli1⟩ :=
      greedy_run
        (ProbeW.hpProbeW s.BHPConfig.WindowSize.toNat (Min.min 3 iln) (Wn + nN + 1 - iln) true (A.drop (Wn + nN)))
        (backwardHashParser_Parse_loop_1 grow lcs eI { arr := A, len := (eI + 7).toNat } { arr := A, len := Wn + nN }
          ((Min.min 3 iln : Nat) : Int))
        (fun s' => ofHash s'.hashDictionary.hash)
        (fun s' => ∃ t, s' = setTB { hashDictionary := setD s.hashDictionary t0, BHPConfig := s.BHPConfig } t ∧
          TOK s.hashDictionary.hash.shift t)
        grow A (Wn + nN) (Wn + nN + 1 - iln) (Wn + nN + 1 - iln) (by omega) (by omega)
        (fun fuel ia s' blk lia hia => by
          rw [backwardHashParser_Parse_loop_1]
          bhp_ifc)
        (fun fuel i li ia lia s' blk hinv hia hlia _ hi hli hf => by
          obtain ⟨t, rfl, ht⟩ := hinv
          have hE : eI = ((Wn + nN + 1 - iln : Nat) : Int) := by omega
          have hE7 : (eI + 7).toNat = Wn + nN + 1 - iln + 7 := by omega
          rw [hE7]
          obtain ⟨r, hr, t1, ht1, hr1, hstp, hb⟩ := loop1_stepB grow lcs hlcs eI _ A (Wn + nN) (Wn + nN + 1 - iln)
            (Min.min 3 iln) _ fuel i li ia lia
            (setTB { hashDictionary := setD s.hashDictionary t0, BHPConfig := s.BHPConfig } t) blk
            ⟨by show Wn + nN + 1 - iln + 7 ≤ A.length; omega, hmask, h.sh, hsh2,
              by show Wn + nN + 1 - iln + 7 < _; have := h.small; omega⟩
            ht hia hlia hE rfl hi (by omega) (by omega) (by omega) hli rfl (by omega) (by omega) (by omega) (by omega)
          exact ⟨r, hr, _, ⟨t1, rfl, ht1⟩, hr1, hstp, hb⟩)
        fuel Wn Wn Wn Wn _ { Sequences := [], Literals := { arr := blk.Literals.arr, len := 0 } } [] [] (by omega)
        (Nat.le_refl _) rfl rfl (by omega) ⟨t0, rfl, ht0⟩ rfl rfl (Nat.zero_le _)
    replace hgl : ProbeW.greedyLoopW _ _ _
        { dict := ofHashT s.hashDictionary.hash t0, i := Wn, litIndex := Wn, seqs := [], lits := [] } = some st' := hgl
    replace hdict' : st'.dict = ofHashT s.hashDictionary.hash t' := hdict'
    -- (the bound `inputEnd` handed to the greedy loop, in any spelling)
    rw [congrArg (backwardHashParser_Parse_loop_1 grow lcs) (show _ = eI by bhp_cond), hl1, bind_ok] at hG
    dsimp only at hG
    rw [ProbeW.runGreedyW_of_loop hgl, Option.bind_some]
    dsimp only
    have hPt : ∀ w' : Nat, w' ≤ Wn + nN → ParseOKB (withWTB s (w' : Int) t') := fun w' hw' =>
      h.update w' (by omega) ht'
    have hpl : (A.take (Wn + nN)).length = Wn + nN := by rw [List.length_take]; omega
    unfold finishBlock
    -- the NoTrailingLiterals test: its two atoms as facts for `omega` (any spelling, either arm order)
    rcases noTrailing_cases flags hfl st'.seqs blk'.Sequences (by rw [hseq', List.length_map]) with
      ⟨hfin, hf1, hf2⟩ | ⟨hfin, hf⟩
    · rw [if_pos hfin]
      bhp_ifc at hG
      rw [bind_ok] at hG
      dsimp only at hG
      refine ⟨withWTB s (st'.litIndex : Int) t', blk', hG.symm.trans ?_, ?_, by rw [← hA]; rfl, Or.inl rfl, hseq', hlit',
        hswf', hPt _ (by omega)⟩
      · rw [hWn]
        exact res4B rfl rfl (by bhp_cond) rfl
      · rw [hdict']; rfl
    · rw [if_neg hfin]
      bhp_ifc at hG
      rw [slice_okB _ st'.litIndex (Wn + nN) (by bhp_cond) (by bhp_cond) (by omega)
        (by show Wn + nN ≤ A.length; omega), bind_ok, bind_ok] at hG
      dsimp only at hG
      refine ⟨withWTB s ((Wn + nN : Nat) : Int) t',
        { Sequences := blk'.Sequences,
          Literals := Slice.append grow blk'.Literals ((A.drop st'.litIndex).take (Wn + nN - st'.litIndex)) },
        hG.symm.trans ?_, ?_, by rw [← hA]; rfl, Or.inl rfl, hseq', ?_,
        swf_append grow _ hswf' _, hPt _ (Nat.le_refl _)⟩
      · rw [hWn, hpl]
        exact res4B rfl rfl (by bhp_cond) rfl
      · rw [hdict', hpl]; rfl
      · rw [(append_spec grow blk'.Literals hswf' _).1, hlit']
        show _ ++ (A.drop st'.litIndex).take (Wn + nN - st'.litIndex) = _ ++ (A.take (Wn + nN)).drop st'.litIndex
        rw [List.drop_take]

/-- Go text → list-level model.  For a Go state that abstracts to a state reachable through the API
    (`NewParser`, then any history of `Write`, `ReadFrom`, `Parse`, `Parse(nil)`, `Shrink`, `Reset`), the translated
    `Parse` does not panic and returns the representation of the LIST-LEVEL model `Parser.parse` — the function on
    which C01/C02/C03/C19 are proved. -/
theorem gen_bhp_parse_model (grow : Nat → Nat → Nat) (fuel : Nat) (lcs : Slice → Slice → Int) (hlcs : LcsSpec lcs)
    (s : Gen.backwardHashParser) (blk : Gen.Block') (flags : Int)
    (h : ParseOKB s) (hfl : 0 ≤ flags) (hfuel : 2 * s.hashDictionary.ParserBuffer.Data.len + 3 ≤ fuel)
    (raw : Cfg) (s0 : Parser) (h0 : newParser .BHP raw = some s0) (ops : List POp)
    (hreach : ofBHPs s = (runOps (s0, Ghost.init) ops).1) :
    ∃ t blk', backwardHashParser_Parse grow fuel lcs s blk flags =
        Res.ok (t, blk', (((ofBHPs s).parse flags.toNat).2.1 : Int), parseErr ((ofBHPs s).parse flags.toNat).2.2.1) ∧
      ofBHPs t = ((ofBHPs s).parse flags.toNat).1 ∧ staleOfB t = staleOfB s ∧
      blk'.Sequences = ((ofBHPs s).parse flags.toNat).2.2.2.seqs.map seqRep ∧
      blk'.Literals.data = ((ofBHPs s).parse flags.toNat).2.2.2.lits ∧ SWF blk'.Literals ∧ ParseOKB t := by
  exact parse_model_of (p := ofBHPs s) (stale := staleOfB s) (Or.inr (Or.inl rfl)) h.backing raw s0 h0 ops hreach ofBHPs staleOfB ParseOKB
    (gen_bhp_parse grow fuel lcs hlcs s blk flags h hfl hfuel)

end LZ.GenBHPParse

#print axioms LZ.GenBHPParse.gen_bhp_parse
#print axioms LZ.GenBHPParse.gen_bhp_parse_model
