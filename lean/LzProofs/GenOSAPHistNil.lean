/-
  LzProofs.GenOSAPHistNil — histories of the translated operations of OSAP WITH `Parse(nil, flags)`, and property C14
  about the Go text.  The per-operation lemmas are those of GenOSAPHist / GenOSAPHistRun; the added
  operation is `optSuffixArrayParser_Parse_nilable … true ghost flags` (LzProofs/GenOSAPParseNil.lean).  The operation /
  result types `GOpN`, `GResN`, `GOpN.WF`, `GOpN.abs`, `resAgreeN`, `ResultsAgreeN`, `ghostStepN`, `ghostRunN` are those
  of LzProofs/GenHPHistNil.lean (they do not mention the parser).  The opaque callee `computeEdges` enters under
  `CESpec B ce` (needed by `Parse(&blk)` only: the nil path does not call it).  The `…_ce_go` forms with the TRANSLATED
  `computeEdges` are in LzProofs/GenOSAPHistNilGo.lean.  No sorry, no axioms of its own.

    hist_parseNil        one `Parse(nil)`: never panics (every fuel, every `ce`), returns the model's `n` / error, hands the
                         ghost block back unchanged, preserves `HistOKO` (incl. `start ≤ W`), changes only `W`
    stepN, runN          a call = a call of GenOSAPHistRun (`Write`, `ReadFrom`, `Parse(&blk)`, `Shrink`, `Reset`) or
                         `parseNil ghost flags` (every ghost value, every `flags`, also negative)
    stepN_sim, gen_osap_history_nil_inv, gen_osap_history_nil   the simulation (model operation `.parseNil`,
                         ghost log entry `Event.skip`)
    (that `Parse(&blk, flags)` changes nothing of `ParserBuffer` but `W`, which it advances by the `n` it returns, is part
    of `GenOSAP.gen_osap_parse_model_ex`, LzProofs/GenOSAPParse.lean)
    C14_same_n_osap      model level: `parseNil` and `parse flags` (even flags) of an OSAP state return the same `n`, error
    C01_go_text_osap_nil C01 for histories WITH `Parse(nil)`; C03_go_text_osap_nil, C14_skip_go_text_osap likewise
    C14_go_text_osap     after ANY such history: `Parse(nil, flags)` returns the same `n` and error as `Parse(&blk, 0)`
                         from the same state, leaves the same `Data` and `W`, `n = min(BlockSize, len(Data) - W)`,
                         `ErrEmptyBuffer` iff `n = 0`, writes nothing, and changes NOTHING of the parser but `W`
-/
import LzProofs.GenOSAPParseNil
import LzProofs.GenOSAPHistRun
import LzProofs.GenHPHistNil

set_option linter.unusedSimpArgs false
set_option linter.unusedVariables false

namespace LZ.GenOSAPHist
open LZ LZ.Gen LZ.GenBuf LZ.GenHash LZ.GenSuffix LZ.GenHPParse LZ.GenProps LZ.GenOSAP LZ.GenNil
open LZ.GenHPHist (GOpN GResN GOpN.WF GOpN.abs resAgreeN ResultsAgreeN ghostStepN ghostRunN callsN ghostRunN_eq resultsAgreeN_eq
  stepRel_N parseNil_n_go parseNil_err_go)

/-- one `Parse(nil, flags)` on a Go state with `HistOKO`: no hypothesis on `fuel`, `flags`, `ce` -/
theorem hist_parseNil {bc : BufCfg} {B : Nat} (grow : Nat → Nat → Nat) (fuel : Nat) (ce : CEFun)
    (t : Gen.optSuffixArrayParser) (h : HistOKO bc B t) (ghost : Gen.Block') (flags : Int) :
    ∃ t', optSuffixArrayParser_Parse_nilable grow fuel ce t true ghost flags =
        Res.ok (t', ghost, (((ofOSAPs t).parseNil).2.1 : Int), parseErr ((ofOSAPs t).parseNil).2.2) ∧
      HistOKO bc B t' ∧ ofOSAPs t' = ((ofOSAPs t).parseNil).1 ∧ ofOD t' = ofOD t ∧
      t' = withWO t (t.ParserBuffer.W + (((ofOSAPs t).parseNil).2.1 : Int)) := by
  obtain ⟨t', h1, h2, h3, -, h5, h7⟩ := gen_osap_parseNil B grow fuel ce t ghost flags h.pok
  subst h5
  exact ⟨_, h1, ⟨h7, h.cfg, h.len, h.cap⟩, h2, h3, rfl⟩

/-! ## histories with `Parse(nil)` -/

def stepN (extra : Nat) (grow : Nat → Nat → Nat) (fuel : Nat) (ce : CEFun) (s : Gen.optSuffixArrayParser) :
    GOpN → Res (Gen.optSuffixArrayParser × GResN)
  | .r op => Res.bind (stepO extra grow fuel ce s op) fun x => Res.ok (x.1, .r x.2)
  | .parseNil ghost flags =>
    Res.bind (optSuffixArrayParser_Parse_nilable grow fuel ce s true ghost flags) fun x =>
      Res.ok (x.1, .parseNil x.2.1 x.2.2.1 x.2.2.2)

def runN (extra : Nat) (grow : Nat → Nat → Nat) (fuel : Nat) (ce : CEFun) :
    Gen.optSuffixArrayParser → List GOpN → Res (Gen.optSuffixArrayParser × List GResN)
  | s, [] => Res.ok (s, [])
  | s, op :: ops =>
    Res.bind (stepN extra grow fuel ce s op) fun x =>
    Res.bind (runN extra grow fuel ce x.1 ops) fun q => Res.ok (q.1, x.2 :: q.2)

theorem runN_eq (extra : Nat) (grow : Nat → Nat → Nat) (fuel : Nat) (ce : CEFun) :
    runN extra grow fuel ce = GenHist.run (stepN extra grow fuel ce) :=
  GenHist.run_unique (fun _ => rfl) (fun _ _ _ => rfl)

theorem stepN_sim {bc : BufCfg} {B : Nat} (hbc : BCOKO bc) (ce : CEFun) (hCE : CESpec B ce) (extra : Nat)
    (grow : Nat → Nat → Nat) (fuel : Nat) (hfuel : bc.bufferSize + B + 5 ≤ fuel)
    (raw : Cfg) (p0 : Parser) (h0 : newParser .OSAP raw = some p0) :
    GenHist.StepSim callsN (stepN extra grow fuel ce) (SimO bc B p0) :=
  stepRel_N (fun _ op h => h.step op) (stepO_sim hbc ce hCE extra grow fuel hfuel raw p0 h0)
    (by
      rintro t _ ghost flags ⟨h, rfl⟩
      obtain ⟨t', h1, h2, h3, -, -⟩ := hist_parseNil grow fuel ce t h ghost flags
      exact ⟨t', h1, h2, h3⟩)
    (fun _ _ => rfl) (fun _ _ _ => rfl)

/-- the history theorem with the full relation (`SimO`: `HistOKO`, reachability) exported -/
theorem gen_osap_history_nil_inv (B : Nat) (cfg : Gen.OSAPConfig) (s0 : Gen.optSuffixArrayParser)
    (hinit : optSuffixArrayParser_init default cfg = Res.ok (s0, Gen.Err.ok))
    (h32 : s0.OSAPConfig.MinMatchLen < 4294967296) (ce : CEFun) (hCE : CESpec B ce)
    (extra : Nat) (grow : Nat → Nat → Nat) (fuel : Nat)
    (hfuel : s0.ParserBuffer.BufConfig.BufferSize.toNat + B + 5 ≤ fuel)
    (ops : List GOpN) (hwf : ∀ op ∈ ops, op.WF) :
    ∃ p t rs, newParser .OSAP (ofOSAP cfg) = some p ∧ ofOSAPs s0 = p ∧
      runN extra grow fuel ce s0 ops = Res.ok (t, rs) ∧ BCOKO p.buf.cfg ∧
      p.buf.cfg.bufferSize + B + 5 ≤ fuel ∧ SimO p.buf.cfg B p t (runOps (p, Ghost.init) (ops.map GOpN.abs)) ∧
      ghostRunN Ghost.init ops rs = (runOps (p, Ghost.init) (ops.map GOpN.abs)).2 ∧
      ResultsAgreeN (p, Ghost.init) ops rs := by
  obtain ⟨p, hp, h2, hbc, hS, hf⟩ := init_sim B cfg s0 hinit h32 fuel hfuel
  rw [runN_eq, ghostRunN_eq, resultsAgreeN_eq]
  obtain ⟨t, rs, k1, k2, k4, k5⟩ :=
    GenHist.run_sim (stepN_sim hbc ce hCE extra grow fuel hf (ofOSAP cfg) p hp) ops s0 _ hS hwf
  exact ⟨p, t, rs, hp, h2, k1, hbc, hf, k2, k4, k5⟩

/-- **the simulation from `optSuffixArrayParser.init`** for histories of Write / ReadFrom / Parse(&blk) / Parse(nil) /
    Shrink / Reset, every operation a translated function (`ReadFrom` against the scripted reader; `computeEdges` under
    `CESpec B ce`): no panic, no fuel exhaustion, `ParseOKO B` in the state reached, the model state after the abstracted
    history (`Parse(nil)` ↦ `POp.parseNil`), every returned value the model's. -/
theorem gen_osap_history_nil (B : Nat) (cfg : Gen.OSAPConfig) (s0 : Gen.optSuffixArrayParser)
    (hinit : optSuffixArrayParser_init default cfg = Res.ok (s0, Gen.Err.ok))
    (h32 : s0.OSAPConfig.MinMatchLen < 4294967296) (ce : CEFun) (hCE : CESpec B ce)
    (extra : Nat) (grow : Nat → Nat → Nat) (fuel : Nat)
    (hfuel : s0.ParserBuffer.BufConfig.BufferSize.toNat + B + 5 ≤ fuel)
    (ops : List GOpN) (hwf : ∀ op ∈ ops, op.WF) :
    ∃ p t rs, newParser .OSAP (ofOSAP cfg) = some p ∧ ofOSAPs s0 = p ∧
      runN extra grow fuel ce s0 ops = Res.ok (t, rs) ∧ ParseOKO B t ∧
      ofOSAPs t = (runOps (p, Ghost.init) (ops.map GOpN.abs)).1 ∧
      ghostRunN Ghost.init ops rs = (runOps (p, Ghost.init) (ops.map GOpN.abs)).2 ∧
      ResultsAgreeN (p, Ghost.init) ops rs := by
  obtain ⟨p, t, rs, hp, h2, k1, -, -, ⟨⟨k2, k3⟩, -⟩, k4, k5⟩ :=
    gen_osap_history_nil_inv B cfg s0 hinit h32 ce hCE extra grow fuel hfuel ops hwf
  exact ⟨p, t, rs, hp, h2, k1, k2.pok, k3, k4, k5⟩

/-! ## the frame of the translated `Parse(&blk, flags)` on `ParserBuffer` -/

/-! ## model level: `parseNil` against `parse` for OSAP -/

/-- `Parse(nil)` and `Parse(&blk, flags)` without `NoTrailingLiterals` of an OSAP state: the same `n`, the same error -/
theorem C14_same_n_osap (s : Parser) (o : OsapD) (hd : s.dict = .osap o) (flags : Nat) (hf : flags % 2 = 0) :
    s.parseNil.2.1 = (s.parse flags).2.1 ∧ s.parseNil.2.2 = (s.parse flags).2.2.1 := by
  by_cases hn : s.blockN = 0
  · rw [Parser.parseNil_empty s hn, Parser.parse_empty s flags hn]
    exact ⟨rfl, rfl⟩
  · obtain ⟨s1, h1, -⟩ := Parser.parseNil_ok s hn
    obtain ⟨p1, p2⟩ := Sap.parse_osap_n s o hd flags hn hf
    rw [h1, p1, p2]
    exact ⟨rfl, rfl⟩

/-! ## the property theorems -/

/-- **C01 about the Go text of OSAP, histories WITH `Parse(nil)`.**  Run any history of `Write`, `ReadFrom`,
    `Parse(&blk, flags)`, `Parse(nil, flags)`, `Shrink`, `Reset` on the translated functions (`computeEdges` under
    `CESpec B ce`).  No call panics or runs out of fuel, and the reference decoder, applied to what the calls produced
    since the last successful `Reset` — the blocks of `Parse(&blk)` and, for every `Parse(nil)` that returned `n > 0`, the
    next `n` bytes of the stream VERBATIM (`Event.skip`) —, yields exactly the first `consumed` bytes fed, `consumed` = the
    sum of all returned `n`. -/
theorem C01_go_text_osap_nil (B : Nat) (cfg : Gen.OSAPConfig) (s0 : Gen.optSuffixArrayParser)
    (hinit : optSuffixArrayParser_init default cfg = Res.ok (s0, Gen.Err.ok))
    (h32 : s0.OSAPConfig.MinMatchLen < 4294967296) (ce : CEFun) (hCE : CESpec B ce)
    (extra : Nat) (grow : Nat → Nat → Nat) (fuel : Nat)
    (hfuel : s0.ParserBuffer.BufConfig.BufferSize.toNat + B + 5 ≤ fuel)
    (ops : List GOpN) (hwf : ∀ op ∈ ops, op.WF) :
    ∃ t rs, runN extra grow fuel ce s0 ops = Res.ok (t, rs) ∧
      decode [] (ghostRunN Ghost.init ops rs).log =
        some ((ghostRunN Ghost.init ops rs).fed.take (ghostRunN Ghost.init ops rs).consumed) := by
  obtain ⟨p, t, rs, hp, -, h1, -, -, h4, -⟩ :=
    gen_osap_history_nil B cfg s0 hinit h32 ce hCE extra grow fuel hfuel ops hwf
  exact ⟨t, rs, h1, GenHist.C01_ghost hp (histHyp_osap p) h4⟩

/-- **C03 about the Go text of OSAP, histories WITH `Parse(nil)`**: blocks and skipped segments tile the consumed
    stream. -/
theorem C03_go_text_osap_nil (B : Nat) (cfg : Gen.OSAPConfig) (s0 : Gen.optSuffixArrayParser)
    (hinit : optSuffixArrayParser_init default cfg = Res.ok (s0, Gen.Err.ok))
    (h32 : s0.OSAPConfig.MinMatchLen < 4294967296) (ce : CEFun) (hCE : CESpec B ce)
    (extra : Nat) (grow : Nat → Nat → Nat) (fuel : Nat)
    (hfuel : s0.ParserBuffer.BufConfig.BufferSize.toNat + B + 5 ≤ fuel)
    (ops : List GOpN) (hwf : ∀ op ∈ ops, op.WF) :
    ∃ t rs, runN extra grow fuel ce s0 ops = Res.ok (t, rs) ∧
      let g := ghostRunN Ghost.init ops rs
      LogAll (fun pos e => 1 ≤ e.n ∧ e.n ≤ s0.ParserBuffer.BufConfig.BlockSize.toNat ∧
        pos + e.n ≤ g.fed.length ∧
        ∀ n fl blk, e = .block n fl blk →
          blk.len = n ∧ expand (g.fed.take pos) blk = some (g.fed.take (pos + n)) ∧
          (fl % 2 = 1 → blk.seqs ≠ [] → blk.lits.length = litSum blk.seqs ∧ n = seqsSpan blk.seqs)) 0 g.log ∧
      logSpan g.log = g.consumed ∧ g.consumed ≤ g.fed.length := by
  obtain ⟨p, t, rs, hp, h0, h1, -, -, h4, -⟩ :=
    gen_osap_history_nil B cfg s0 hinit h32 ce hCE extra grow fuel hfuel ops hwf
  subst h0
  exact ⟨t, rs, h1, GenHist.C03_ghost hp (histHyp_osap _) h4⟩

/-- **C14 (skipped bytes verbatim) about the Go text of OSAP**: every skip entry of the log is a non-empty segment of at
    most `BlockSize` bytes and IS the segment of the fed stream at its position. -/
theorem C14_skip_go_text_osap (B : Nat) (cfg : Gen.OSAPConfig) (s0 : Gen.optSuffixArrayParser)
    (hinit : optSuffixArrayParser_init default cfg = Res.ok (s0, Gen.Err.ok))
    (h32 : s0.OSAPConfig.MinMatchLen < 4294967296) (ce : CEFun) (hCE : CESpec B ce)
    (extra : Nat) (grow : Nat → Nat → Nat) (fuel : Nat)
    (hfuel : s0.ParserBuffer.BufConfig.BufferSize.toNat + B + 5 ≤ fuel)
    (ops : List GOpN) (hwf : ∀ op ∈ ops, op.WF) :
    ∃ t rs, runN extra grow fuel ce s0 ops = Res.ok (t, rs) ∧
      let g := ghostRunN Ghost.init ops rs
      LogAll (fun pos e => ∀ b, e = .skip b →
        1 ≤ b.length ∧ b.length ≤ s0.ParserBuffer.BufConfig.BlockSize.toNat ∧
        b = (g.fed.drop pos).take b.length) 0 g.log := by
  obtain ⟨p, t, rs, hp, h0, h1, -, -, h4, -⟩ :=
    gen_osap_history_nil B cfg s0 hinit h32 ce hCE extra grow fuel hfuel ops hwf
  subst h0
  exact ⟨t, rs, h1, GenHist.C14_skip_ghost hp (histHyp_osap _) h4⟩

/-- the two calls of C14 from a state with `HistOKO` whose model state is reachable (shared by `C14_go_text_osap` and its
    `…_ce_go` form) -/
theorem c14_core {bc : BufCfg} {B : Nat} (hbc : BCOKO bc) (grow : Nat → Nat → Nat) (fuel : Nat) (ce : CEFun)
    (hCE : CESpec B ce) (raw : Cfg) (p0 : Parser) (h0 : newParser .OSAP raw = some p0)
    (t : Gen.optSuffixArrayParser) (sg : Parser × Ghost) (hS : SimO bc B p0 t sg) (hfuel : bc.bufferSize + B + 5 ≤ fuel)
    (ghost blk : Gen.Block') (flags : Int) :
    ∃ t1 t2 blk' n e,
      optSuffixArrayParser_Parse_nilable grow fuel ce t true ghost flags = Res.ok (t1, ghost, n, e) ∧
      optSuffixArrayParser_Parse grow fuel ce t blk 0 = Res.ok (t2, blk', n, e) ∧
      t1.ParserBuffer.Data = t2.ParserBuffer.Data ∧
      t1.ParserBuffer.W = t2.ParserBuffer.W ∧
      t1.ParserBuffer.Data = t.ParserBuffer.Data ∧
      t1.ParserBuffer.W = t.ParserBuffer.W + n ∧
      n = Min.min t.OSAPConfig.BlockSize ((t.ParserBuffer.Data.len : Int) - t.ParserBuffer.W) ∧
      (n = 0 → e = Gen.ErrEmptyBuffer ∧ t1 = t) ∧ (n ≠ 0 → e = Gen.Err.ok) ∧
      t1 = { t with ParserBuffer := { t.ParserBuffer with W := t.ParserBuffer.W + n } } := by
  obtain ⟨⟨hH, hab⟩, hR⟩ := hS
  obtain ⟨mops, hreach⟩ := hR.fst
  rw [← hab] at hreach
  have hlen := hH.len
  obtain ⟨t1, e1, hH1, m1, -, ht1⟩ := hist_parseNil grow fuel ce t hH ghost flags
  obtain ⟨t2, blk', e2, -, -, -, -, -, pb2⟩ := gen_osap_parse_model_ex B grow fuel ce hCE t blk 0 hH.pok (Int.le_refl 0)
    (by omega) raw p0 h0 mops hreach
  obtain ⟨c1, c2⟩ := C14_same_n_osap (ofOSAPs t) (ofOD t) rfl 0 rfl
  have hz : (0 : Int).toNat = 0 := rfl
  rw [hz] at e2 pb2
  rw [← c1] at pb2
  rw [← c1, ← c2] at e2
  have ht1pb : t1.ParserBuffer =
      { t.ParserBuffer with W := t.ParserBuffer.W + (((ofOSAPs t).parseNil.2.1 : Nat) : Int) } := by rw [ht1]
  have hpb12 : t1.ParserBuffer = t2.ParserBuffer := by rw [ht1pb, pb2]
  have hn : (((ofOSAPs t).parseNil.2.1 : Nat) : Int) =
      Min.min t.OSAPConfig.BlockSize ((t.ParserBuffer.Data.len : Int) - t.ParserBuffer.W) :=
    parseNil_n_go (ofOSAPs t) _ _ _ hH.dataLen rfl hH.pok.cbs.symm hH.pok.pb.w hH.pok.w hH.pok.bs0
  obtain ⟨z1, z2⟩ := parseNil_err_go (ofOSAPs t)
  refine ⟨t1, t2, blk', _, _, e1, e2, by rw [hpb12], by rw [hpb12], by rw [ht1pb], by rw [ht1pb], hn,
    fun hn0 => ⟨(z1 (by omega)).1, ?_⟩, fun hn0 => z2 (by omega), ht1⟩
  rw [ht1, hn0, Int.add_zero]

/-- **C14 about the Go text of OSAP.**  After ANY history of the translated `Write`, `ReadFrom`, `Parse(&blk)`,
    `Parse(nil)`, `Shrink`, `Reset` from `optSuffixArrayParser.init`, let `t` be the Go state reached.  For every `flags`,
    every ghost value and every block `blk` of the caller: the translated `Parse(nil, flags)` and the translated
    `Parse(&blk, 0)`, both run from `t`, return THE SAME `n` and THE SAME error, and leave THE SAME buffer `Data` and THE
    SAME `W`; `n = min(BlockSize, len(Data) - W)`; the error is `ErrEmptyBuffer` if `n = 0` (the state is then unchanged)
    and `nil` otherwise; `Parse(nil)` hands the ghost block back unchanged (it writes nothing), leaves `Data` as it was,
    and changes NOTHING of the parser but `W` (the edge table, `start`, `nEdges` stay: `computeEdges` is not called). -/
theorem C14_go_text_osap (B : Nat) (cfg : Gen.OSAPConfig) (s0 : Gen.optSuffixArrayParser)
    (hinit : optSuffixArrayParser_init default cfg = Res.ok (s0, Gen.Err.ok))
    (h32 : s0.OSAPConfig.MinMatchLen < 4294967296) (ce : CEFun) (hCE : CESpec B ce)
    (extra : Nat) (grow : Nat → Nat → Nat) (fuel : Nat)
    (hfuel : s0.ParserBuffer.BufConfig.BufferSize.toNat + B + 5 ≤ fuel)
    (ops : List GOpN) (hwf : ∀ op ∈ ops, op.WF) (ghost blk : Gen.Block') (flags : Int) :
    ∃ t rs, runN extra grow fuel ce s0 ops = Res.ok (t, rs) ∧
      ∃ t1 t2 blk' n e,
        optSuffixArrayParser_Parse_nilable grow fuel ce t true ghost flags = Res.ok (t1, ghost, n, e) ∧
        optSuffixArrayParser_Parse grow fuel ce t blk 0 = Res.ok (t2, blk', n, e) ∧
        t1.ParserBuffer.Data = t2.ParserBuffer.Data ∧
        t1.ParserBuffer.W = t2.ParserBuffer.W ∧
        t1.ParserBuffer.Data = t.ParserBuffer.Data ∧
        t1.ParserBuffer.W = t.ParserBuffer.W + n ∧
        n = Min.min t.OSAPConfig.BlockSize ((t.ParserBuffer.Data.len : Int) - t.ParserBuffer.W) ∧
        (n = 0 → e = Gen.ErrEmptyBuffer ∧ t1 = t) ∧ (n ≠ 0 → e = Gen.Err.ok) ∧
        t1 = { t with ParserBuffer := { t.ParserBuffer with W := t.ParserBuffer.W + n } } := by
  obtain ⟨p, t, rs, hp, h2, k1, hbc, hf, hS, -⟩ :=
    gen_osap_history_nil_inv B cfg s0 hinit h32 ce hCE extra grow fuel hfuel ops hwf
  exact ⟨t, rs, k1, c14_core hbc grow fuel ce hCE (ofOSAP cfg) p hp t _ hS hf ghost blk flags⟩

end LZ.GenOSAPHist

#print axioms LZ.GenOSAPHist.hist_parseNil
#print axioms LZ.GenOSAPHist.stepN_sim
#print axioms LZ.GenOSAPHist.gen_osap_history_nil_inv
#print axioms LZ.GenOSAPHist.gen_osap_history_nil
#print axioms LZ.GenOSAPHist.C14_same_n_osap
#print axioms LZ.GenOSAPHist.C01_go_text_osap_nil
#print axioms LZ.GenOSAPHist.C03_go_text_osap_nil
#print axioms LZ.GenOSAPHist.C14_skip_go_text_osap
#print axioms LZ.GenOSAPHist.c14_core
#print axioms LZ.GenOSAPHist.C14_go_text_osap
