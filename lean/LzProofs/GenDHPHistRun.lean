/-
  Histories of translated operations of the double hash parser DHP, as LzProofs/GenHPHistRun.lean for HP
  (`doubleHashParser.init`, `Parse`; promoted `Write`, `Reset`, `Shrink`), the simulation theorem
  `gen_dhp_history`, `gen_dhp_history_states`, and C01/C02/C03 about the translation of the Go text
  (`C01_go_text_dhp`, `C02_go_text_dhp`, `C03_go_text_dhp`).  Nothing is opaque in the translation of dhp.go.
  Fuel `2·BufferSize + 3` (see `gen_dhp_parse`).
  The operation type `GOp`, the results `GRes`, `GOp.WF`, `GOp.abs`, `resAgree`, `ResultsAgree`, `ghostStep`, `ghostRun`
  are those of GenHPHistRun (they do not mention the parser state).  The statements of `C01/C02/C03_go_text_dhp` mention
  the translated functions, the reference decoder `decode` / `expand`, the record `Ghost` and `ofBlock`; no `Parser`,
  `runOps`, `POp`.
-/
import LzProofs.GenHPHistRun
import LzProofs.GenDHPHist

set_option linter.unusedSimpArgs false
set_option linter.unusedVariables false

namespace LZ.GenDHPHist
open LZ LZ.Gen LZ.GenBuf LZ.GenHash LZ.GenHPParse LZ.GenDHPParse LZ.GenProps
open LZ.GenHPHist (BCOK GOp GRes GOp.WF GOp.abs resAgree ResultsAgree ghostStep ghostRun calls ghostRun_eq resultsAgree_eq
  stepRel_G)

/-- one call, on the translated functions -/
def stepG (grow : Nat → Nat → Nat) (fuel : Nat) (s : Gen.doubleHashParser) : GOp → Res (Gen.doubleHashParser × GRes)
  | .write p => Res.bind (dhp_Write grow s p) fun r => Res.ok (r.1, .write r.2.1 r.2.2)
  | .parse blk flags =>
    Res.bind (doubleHashParser_Parse grow fuel s blk flags) fun r => Res.ok (r.1, .parse r.2.1 r.2.2.1 r.2.2.2)
  | .shrink => Res.bind (dhp_Shrink s) fun r => Res.ok (r.1, .shrink r.2)
  | .reset data => Res.bind (dhp_Reset s data) fun r => Res.ok (r.1, .reset r.2)

/-- a history of calls; the results in order -/
def runG (grow : Nat → Nat → Nat) (fuel : Nat) : Gen.doubleHashParser → List GOp → Res (Gen.doubleHashParser × List GRes)
  | s, [] => Res.ok (s, [])
  | s, op :: ops =>
    Res.bind (stepG grow fuel s op) fun r =>
    Res.bind (runG grow fuel r.1 ops) fun q => Res.ok (q.1, r.2 :: q.2)

/-! ## histories -/

theorem runG_eq (grow : Nat → Nat → Nat) (fuel : Nat) :
    runG grow fuel = GenHist.run (stepG grow fuel) :=
  GenHist.run_unique (fun _ => rfl) (fun _ _ _ => rfl)

theorem stepG_sim {bc : BufCfg} (hbc : BCOK bc) (grow : Nat → Nat → Nat) (fuel : Nat)
    (hfuel : 2 * bc.bufferSize + 3 ≤ fuel) :
    GenHist.StepSim calls (stepG grow fuel) (GenHist.FInv (HistOKD bc) ofDHPs) :=
  stepRel_G (fun _ _ _ => trivial) (fun _ _ => trivial) (hist_write hbc grow) (hist_parse hbc grow fuel hfuel) (hist_shrink hbc) (hist_reset hbc)
    (fun _ _ => rfl) (fun _ _ _ => rfl) (fun _ => rfl) (fun _ _ => rfl)

theorem runG_sim {bc : BufCfg} (hbc : BCOK bc) (grow : Nat → Nat → Nat) (fuel : Nat)
    (hfuel : 2 * bc.bufferSize + 3 ≤ fuel) (ops : List GOp) (t : Gen.doubleHashParser) (sg : Parser × Ghost)
    (h : GenHist.FInv (HistOKD bc) ofDHPs t sg) (hwf : ∀ op ∈ ops, op.WF) :
    ∃ t' rs, runG grow fuel t ops = Res.ok (t', rs) ∧
      GenHist.FInv (HistOKD bc) ofDHPs t' (runOps sg (ops.map GOp.abs)) ∧
      ghostRun sg.2 ops rs = (runOps sg (ops.map GOp.abs)).2 ∧ ResultsAgree sg ops rs := by
  rw [runG_eq, ghostRun_eq, resultsAgree_eq]
  exact GenHist.run_sim (stepG_sim hbc grow fuel hfuel) ops t sg h hwf

/-- what `init` establishes, with the fuel bound in the model's terms -/
theorem init_inv (cfg : Gen.DHPConfig) (s0 : Gen.doubleHashParser)
    (hinit : doubleHashParser_init default cfg = Res.ok (s0, Gen.Err.ok)) (fuel : Nat)
    (hfuel : 2 * s0.doubleHashDictionary.ParserBuffer.BufConfig.BufferSize.toNat + 3 ≤ fuel) :
    ∃ p, newParser .DHP (ofDHP cfg) = some p ∧ BCOK p.buf.cfg ∧ 2 * p.buf.cfg.bufferSize + 3 ≤ fuel ∧
      GenHist.FInv (HistOKD p.buf.cfg) ofDHPs s0 (p, Ghost.init) := by
  obtain ⟨p, hp, h2, hbc, hH⟩ := hist_init cfg s0 hinit
  exact ⟨p, hp, hbc, by rw [← hH.cfg]; exact hfuel, ⟨hH, h2⟩, trivial⟩

/-- `doubleHashParser.init(cfg)` on `new(doubleHashParser)` returned `nil`; then for every history of
    well-formed calls the translated functions never panic and never run out of fuel, the state reached satisfies
    `ParseOKD`, abstracts to the state the model reaches from `NewParser` with the abstracted history, and every
    returned value — `n`, the error, the block — is the model's. -/
theorem gen_dhp_history (cfg : Gen.DHPConfig) (s0 : Gen.doubleHashParser)
    (hinit : doubleHashParser_init default cfg = Res.ok (s0, Gen.Err.ok))
    (grow : Nat → Nat → Nat) (fuel : Nat)
    (hfuel : 2 * s0.doubleHashDictionary.ParserBuffer.BufConfig.BufferSize.toNat + 3 ≤ fuel)
    (ops : List GOp) (hwf : ∀ op ∈ ops, op.WF) :
    ∃ p t rs, newParser .DHP (ofDHP cfg) = some p ∧ ofDHPs s0 = p ∧
      runG grow fuel s0 ops = Res.ok (t, rs) ∧ ParseOKD t ∧
      ofDHPs t = (runOps (p, Ghost.init) (ops.map GOp.abs)).1 ∧
      ghostRun Ghost.init ops rs = (runOps (p, Ghost.init) (ops.map GOp.abs)).2 ∧
      ResultsAgree (p, Ghost.init) ops rs := by
  obtain ⟨p, hp, hbc, hf, h0⟩ := init_inv cfg s0 hinit fuel hfuel
  obtain ⟨t, rs, k1, ⟨⟨k2, k3⟩, -⟩, k4, k5⟩ := runG_sim hbc grow fuel hf ops s0 _ h0 hwf
  exact ⟨p, t, rs, hp, h0.1.2, k1, k2.pok, k3, k4, k5⟩

/-- … and `ParseOKD` holds in EVERY state the history passes through: after every prefix `ops.take k` the run is
    `Res.ok` with a state satisfying `ParseOKD`, and the whole run continues from that state. -/
theorem gen_dhp_history_states (cfg : Gen.DHPConfig) (s0 : Gen.doubleHashParser)
    (hinit : doubleHashParser_init default cfg = Res.ok (s0, Gen.Err.ok))
    (grow : Nat → Nat → Nat) (fuel : Nat)
    (hfuel : 2 * s0.doubleHashDictionary.ParserBuffer.BufConfig.BufferSize.toNat + 3 ≤ fuel)
    (ops : List GOp) (hwf : ∀ op ∈ ops, op.WF) (k : Nat) :
    ∃ tk rk t rs', runG grow fuel s0 (ops.take k) = Res.ok (tk, rk) ∧ ParseOKD tk ∧
      runG grow fuel tk (ops.drop k) = Res.ok (t, rs') ∧ runG grow fuel s0 ops = Res.ok (t, rk ++ rs') := by
  obtain ⟨p, -, hbc, hf, h0⟩ := init_inv cfg s0 hinit fuel hfuel
  rw [runG_eq]
  obtain ⟨tk, rk, t, rs', k1, k2, j1, j2⟩ := GenHist.run_states (stepG_sim hbc grow fuel hf) ops s0 _ h0 hwf k
  exact ⟨tk, rk, t, rs', k1, k2.1.1.pok, j1, j2⟩

/-! ## the property theorems about the translation -/

/-- C01 about the Go text of DHP.  `cfg` is any configuration for which the translated `doubleHashParser.init`, called
    on the zero value, returns `nil`.  Run any history of `Write(p)`, `Parse(&blk, flags)`, `Shrink()`, `Reset(data)`
    (slices with `len ≤ cap`, `flags ≥ 0`) on the TRANSLATED functions, with any capacity policy for `append` and any
    `fuel ≥ 2·BufferSize + 3`.  Then no call panics or runs out of fuel, and the reference decoder, applied to the blocks
    the translated `Parse` returned since the last successful `Reset`, yields exactly the first `consumed` bytes of
    what the translated `Write` / `Reset` accepted since then, `consumed` = the sum of the returned `n`. -/
theorem C01_go_text_dhp (cfg : Gen.DHPConfig) (s0 : Gen.doubleHashParser)
    (hinit : doubleHashParser_init default cfg = Res.ok (s0, Gen.Err.ok))
    (grow : Nat → Nat → Nat) (fuel : Nat)
    (hfuel : 2 * s0.doubleHashDictionary.ParserBuffer.BufConfig.BufferSize.toNat + 3 ≤ fuel)
    (ops : List GOp) (hwf : ∀ op ∈ ops, op.WF) :
    ∃ t rs, runG grow fuel s0 ops = Res.ok (t, rs) ∧
      decode [] (ghostRun Ghost.init ops rs).log =
        some ((ghostRun Ghost.init ops rs).fed.take (ghostRun Ghost.init ops rs).consumed) := by
  obtain ⟨p, t, rs, hp, -, h1, -, -, h4, -⟩ := gen_dhp_history cfg s0 hinit grow fuel hfuel ops hwf
  exact ⟨t, rs, h1, GenHist.C01_ghost hp (histHyp_of_ne .DHP p (by decide)) h4⟩

/-- C02 about the Go text of DHP: every sequence of every block the translated `Parse` returned has
    `1 ≤ Offset ≤ WindowSize`, `Offset ≤` the stream bytes before its match, `MatchLen ≥ min(3, InputLen1)`, `Aux = 0`,
    and the `LitLen`s of a block do not exceed its literals. -/
theorem C02_go_text_dhp (cfg : Gen.DHPConfig) (s0 : Gen.doubleHashParser)
    (hinit : doubleHashParser_init default cfg = Res.ok (s0, Gen.Err.ok))
    (grow : Nat → Nat → Nat) (fuel : Nat)
    (hfuel : 2 * s0.doubleHashDictionary.ParserBuffer.BufConfig.BufferSize.toNat + 3 ≤ fuel)
    (ops : List GOp) (hwf : ∀ op ∈ ops, op.WF) :
    ∃ t rs, runG grow fuel s0 ops = Res.ok (t, rs) ∧
      LogAll (fun pos e => ∀ n fl blk, e = .block n fl blk →
        SeqsAll (SeqWF s0.doubleHashDictionary.ParserBuffer.BufConfig.WindowSize.toNat
          (Min.min 3 s0.DHPConfig.InputLen1.toNat)) pos blk.seqs ∧
        litSum blk.seqs ≤ blk.lits.length) 0 (ghostRun Ghost.init ops rs).log := by
  obtain ⟨p, t, rs, hp, h0, h1, -, -, h4, -⟩ := gen_dhp_history cfg s0 hinit grow fuel hfuel ops hwf
  subst h0
  exact ⟨t, rs, h1, GenHist.C02_ghost hp (histHyp_of_ne .DHP _ (by decide)) h4⟩

/-- C03 about the Go text of DHP: the blocks tile the consumed stream — each has `1 ≤ n ≤ BlockSize`, represents
    exactly `n` bytes (`Block.Len`), expands the stream up to its start to the stream up to its end; the `n` add up
    to `consumed`, which never exceeds what was fed. -/
theorem C03_go_text_dhp (cfg : Gen.DHPConfig) (s0 : Gen.doubleHashParser)
    (hinit : doubleHashParser_init default cfg = Res.ok (s0, Gen.Err.ok))
    (grow : Nat → Nat → Nat) (fuel : Nat)
    (hfuel : 2 * s0.doubleHashDictionary.ParserBuffer.BufConfig.BufferSize.toNat + 3 ≤ fuel)
    (ops : List GOp) (hwf : ∀ op ∈ ops, op.WF) :
    ∃ t rs, runG grow fuel s0 ops = Res.ok (t, rs) ∧
      let g := ghostRun Ghost.init ops rs
      LogAll (fun pos e => 1 ≤ e.n ∧ e.n ≤ s0.doubleHashDictionary.ParserBuffer.BufConfig.BlockSize.toNat ∧
        pos + e.n ≤ g.fed.length ∧
        ∀ n fl blk, e = .block n fl blk →
          blk.len = n ∧ expand (g.fed.take pos) blk = some (g.fed.take (pos + n)) ∧
          (fl % 2 = 1 → blk.seqs ≠ [] → blk.lits.length = litSum blk.seqs ∧ n = seqsSpan blk.seqs)) 0 g.log ∧
      logSpan g.log = g.consumed ∧ g.consumed ≤ g.fed.length := by
  obtain ⟨p, t, rs, hp, h0, h1, -, -, h4, -⟩ := gen_dhp_history cfg s0 hinit grow fuel hfuel ops hwf
  subst h0
  exact ⟨t, rs, h1, GenHist.C03_ghost hp (histHyp_of_ne .DHP _ (by decide)) h4⟩

end LZ.GenDHPHist

#print axioms LZ.GenDHPHist.stepG_sim
#print axioms LZ.GenDHPHist.runG_sim
#print axioms LZ.GenDHPHist.gen_dhp_history
#print axioms LZ.GenDHPHist.gen_dhp_history_states
#print axioms LZ.GenDHPHist.C01_go_text_dhp
#print axioms LZ.GenDHPHist.C02_go_text_dhp
#print axioms LZ.GenDHPHist.C03_go_text_dhp
