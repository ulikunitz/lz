/-
  LzProofs.GenBDHPParseLoop — one iteration of the two greedy loops of bdhp.go `Parse` (first loop: both tables,
  `i < e2`; second loop: the table of the short hash only, `e2 ≤ i < e1`) versus one step of
  `ProbeW.greedyLoopW (ProbeW.dhpProbeW … true …)`, and the two loops (instances of `GenParse.greedy_generic`).

  Shape independence: no generated loop function is named (see the header of GenBDHPParseLemmas); the two greedy loops
  are `callee_loop% bdhp_Parse_nilable 0/1`; the step lemmas compute the generated side in a hypothesis `hG : … = G`
  ("continuation style"), every `if` is decided from facts in the spelling of the model (`decide_if`, `decide_val`),
  the inner loops, the joins and the extension blocks are taken from `hG` by unification, extracted helpers are unfolded
  generically (`unfold_helpers`), the final call of the loop is compared up to integer arithmetic (`loop_congr`).
  Each tail of the text is run once: where the translator repeats a continuation (after the choice of the candidate)
  or a case split leaves the same text (the guarded re-indexing loop), the cases are merged at once in a statement
  `∃ x, … ∧ _ = G` whose `_` is that text as a function of `x`, found by unification in the first case; the value of a
  join (the backward extension) is computed in a hypothesis of its own (`join_at`).
-/
import LzProofs.GenBDHPParseLemmas

set_option linter.unusedSimpArgs false
set_option linter.unusedVariables false

namespace LZ.GenBDHPParse
open LZ LZ.Gen LZ.GenBuf LZ.GenHash LZ.GenHPParse LZ.GenParse LZ.GenDHPParse LZ.GenBHPParse

/-- the dictionary of the model a Go `bdhp` stands for -/
def absB (s : Gen.bdhp) : Hash2 :=
  ⟨ofHash s.doubleHashDictionary.h1, ofHash s.doubleHashDictionary.h2⟩

/-! The clamp of the first-word match length, the window test and the value test of the generated text are decided
    from facts in the spelling of the MODEL (`first_word`, `j < i ∧ i - j ≤ ws`, `val_ne_iff`) by omega / by the iff,
    whatever their spelling in the generated text. -/

/-- decide a value test `v ≠ e`, `v = e`, `e ≠ v`, `¬ v = e`, … at the head of `h` from `hv : v ≠ e` or `hv : ¬ v ≠ e` -/
macro "decide_val" hv:ident " at " h:ident : tactic =>
  `(tactic| first
    | rw [if_pos $hv] at $h:ident
    | rw [if_neg $hv] at $h:ident
    | rw [if_pos (fun hc => $hv hc.symm)] at $h:ident
    | rw [if_neg (fun hc => $hv hc.symm)] at $h:ident
    | rw [if_pos (fun hc => $hv (fun hd => hd hc))] at $h:ident
    | rw [if_neg (fun hc => $hv (fun hd => hd hc))] at $h:ident
    | rw [if_pos (Decidable.not_not.mp $hv)] at $h:ident
    | rw [if_pos (Decidable.not_not.mp $hv).symm] at $h:ident
    | rw [if_neg (fun hc => absurd (Decidable.not_not.mp $hv) hc)] at $h:ident
    | rw [if_neg (fun hc => absurd (Decidable.not_not.mp $hv).symm hc)] at $h:ident)

/-- one iteration of the SECOND greedy loop (`for ; i < e1; i++`, entered with `e2 ≤ i`) -/
theorem loop5_step (grow : Nat → Nat → Nat) (lcs : Slice → Slice → Int) (hlcs : LcsSpec lcs) (e1I mm : Int) (A : List UInt8) (L E1 E2 mmN ws : Nat)
    (fuel i li : Nat) (ia lia : Int) (s : Gen.bdhp) (blk : Block')
    (w1 : HOK s.doubleHashDictionary.h1)
    (hia : ia = (i : Int)) (hlia : lia = (li : Int)) (hE1 : e1I = (E1 : Int)) (hmm : mm = (mmN : Int))
    (hi : i < E1) (hi2 : ¬ i < E2) (hEL : E1 ≤ L) (hLA : L ≤ A.length) (hEA : E1 + 7 ≤ A.length)
    (hsm : E1 + 7 < 4294967296 + 8) (hli : li ≤ i)
    (hws : ws = s.BDHPConfig.WindowSize.toNat) (hmm1 : 1 ≤ mmN)
    (hfuel : L ≤ fuel + i) (hfuelE : E1 < fuel) :
    ∃ r, ProbeW.dhpProbeW ws mmN E1 E2 true (A.drop L) (absB s) (A.take L) i li = some r ∧
      ∃ t1', TOK s.doubleHashDictionary.h1.shift t1' ∧
        r.1 = ⟨ofHashT s.doubleHashDictionary.h1 t1', ofHash s.doubleHashDictionary.h2⟩ ∧
        (callee_loop% bdhp_Parse_nilable 1) grow lcs e1I { arr := A, len := E1 + 7 } { arr := A, len := L } mm (fuel + 1) ia s blk lia =
          (match r.2 with
          | none =>
            (callee_loop% bdhp_Parse_nilable 1) grow lcs e1I { arr := A, len := E1 + 7 } { arr := A, len := L } mm fuel (ia + 1)
              (setTB s t1' s.doubleHashDictionary.h2.table) blk lia
          | some (st, k, o) =>
            (callee_loop% bdhp_Parse_nilable 1) grow lcs e1I { arr := A, len := E1 + 7 } { arr := A, len := L } mm fuel
              ((st + k : Nat) : Int) (setTB s t1' s.doubleHashDictionary.h2.table)
              { Sequences := blk.Sequences ++ [seqRep { litLen := st - li, matchLen := k, offset := o }],
                Literals := Slice.append grow blk.Literals ((A.drop li).take (st - li)) }
              ((st + k : Nat) : Int)) ∧
        (∀ st k o, r.2 = some (st, k, o) → li ≤ st ∧ st ≤ i ∧ i < st + k ∧ st + k ≤ L) := by
  have hmem := BytesW.sliceTo_take_drop A L (E1 + 7) hEA
  have hpd : ({ arr := A, len := E1 + 7 } : Slice).data = A.take (E1 + 7) := rfl
  have hpl : (A.take L).length = L := by rw [List.length_take]; omega
  have hswf : SWF ({ arr := A, len := E1 + 7 } : Slice) := hEA
  have c1 := w1.ctx { arr := A, len := E1 + 7 } hswf hsm
  -- the load at i, the table access
  obtain ⟨y, hy, hF⟩ := gen_load_ok { arr := A, len := E1 + 7 } hswf ia i hia (by show i + 8 ≤ E1 + 7; omega)
  rw [hpd] at hy
  obtain ⟨ent, t1, hidx, hset, ht1, hget, hofs⟩ := table_probe s.doubleHashDictionary.h1 s.doubleHashDictionary.h1.table
    w1.tok w1.sh1 w1.sh2 y ia i hia (by omega)
  -- the generated side: `G`, computed step by step in `hG`
  generalize hG : (callee_loop% bdhp_Parse_nilable 1) grow lcs e1I { arr := A, len := E1 + 7 } { arr := A, len := L } mm (fuel + 1) ia s blk lia = G
  unfold_head at hG
  unfold_helpers at hG
  decide_if at hG
  rw [hF] at hG
  try dsimp only at hG
  rw [hidx, bind_ok, hset, bind_ok] at hG
  have hnf := ProbeW.dhpProbeW_nf2 ws mmN E1 E2 true (A.drop L) (absB s) (A.take L) i li (A.take (E1 + 7)) y hi2 hmem hy
    (y &&& s.doubleHashDictionary.h1.mask) (by rw [w1.mask]; rfl) (ofEntry ent) hget
    (ofHashT s.doubleHashDictionary.h1 t1) hofs
  -- A: the stored value differs
  by_cases hv : (y &&& s.doubleHashDictionary.h1.mask).toUInt32 ≠ ent.value
  · decide_val hv at hG
    exact ⟨(⟨ofHashT s.doubleHashDictionary.h1 t1, ofHash s.doubleHashDictionary.h2⟩, none),
      by rw [hnf, if_pos ((val_ne_iff _ _).mp hv)]; rfl, t1, ht1, rfl, hG.symm, by intro st k o h; cases h⟩
  decide_val hv at hG
  rw [if_neg (fun hc => hv ((val_ne_iff _ _).mpr hc))] at hnf
  unfold ProbeW.dhpTail2 ProbeW.candTail at hnf
  simp only [if_true, Option.bind_some] at hnf
  -- B: the candidate is outside the window
  have hj1 : (ofEntry ent).1 = ent.pos.toNat := rfl
  rw [hj1] at hnf
  generalize ent.pos.toNat = j at hnf hG
  try dsimp only at hG
  by_cases hw : j < i ∧ i - j ≤ ws
  case neg =>
    decide_if at hG
    exact ⟨(⟨ofHashT s.doubleHashDictionary.h1 t1, ofHash s.doubleHashDictionary.h2⟩, none), by rw [hnf, if_pos hw]; rfl,
      t1, ht1, rfl, hG.symm, by intro st k o h; cases h⟩
  decide_if at hG
  rw [if_neg (not_not_intro hw)] at hnf
  obtain ⟨hji, -⟩ := hw
  -- C: the first word of the candidate
  obtain ⟨z, hz, hF2⟩ := gen_load_ok { arr := A, len := E1 + 7 } hswf (Int.ofNat j) j rfl (by show j + 8 ≤ E1 + 7; omega)
  rw [hpd] at hz
  rw [hF2] at hG
  rw [tz_shr] at hG
  simp only [Int.ofNat_eq_natCast] at hG
  obtain ⟨k8, hk8le, hk8, hfw⟩ := first_word A L E1 mmN i j y z ia hia hy hz hji hi hEL hLA hEA
  -- the clamp `k8 = min (tz >>> 3) (len(p) - i)`, whatever its spelling
  rw [clamp_val (v := ((k8 : Nat) : Int)) (by omegaI)] at hG
  clear hk8 -- an `if`: every later omega would split on it
  rcases hfw with ⟨hC1, hml⟩ | ⟨hC1, kk, hme, hml, hkk1, hkk2⟩
  · decide_if at hG
    exact ⟨(⟨ofHashT s.doubleHashDictionary.h1 t1, ofHash s.doubleHashDictionary.h2⟩, none), by rw [hnf, hml]; rfl,
      t1, ht1, rfl, hG.symm, by intro st k o h; cases h⟩
  decide_if at hG
  clear hC1 hsm hmem hy hz hF hF2
  -- the forward extension (`F` = whatever loop function the text calls)
  have hG := extBlock_at (first_loop% hG 4) _ _ fuel A L i j k8 ia hG (loop2_of_eqn _ (fun fuel k r q => by unfold_head; rfl)) kk hia hji
    hk8le hLA (by omega) hme
  try dsimp only at hG
  -- the backward extension: the value of the join is `(i - m, k + m)` with `m = backExt …` (`0` when `litIndex = i`)
  rw [hml, Option.bind_some] at hnf
  dsimp only at hnf
  rw [ProbeW.backExtW_eq (A.take L) (A.drop L) i li j (by omega) (by rw [hpl]; omega), Option.bind_some] at hnf
  obtain ⟨hmi, hmj⟩ := backExt_le (A.take L) i li j
  have hG := join_at hG fun M hM => by
    by_cases hb : li < i
    · decide_if at hM
      try simp only [resBind_assoc, bind_ok] at hM
      obtain ⟨s1, s2, hls, hM⟩ := backLcs_at lcs hlcs A L i li j _ ia _ _ hM (by omegaI) hia hb hji (by omega) hLA
      rw [hls] at hM
      exact hM.symm
    · decide_if at hM
      rw [← hM, backExt_zero _ i li j hb]
      simp only [Int.natCast_zero, Int.sub_zero, Int.add_zero]
  -- `st = i - m`, the start of the match: a variable from here on
  have hst : i - backExt (A.take L) i li j + backExt (A.take L) i li j = i := by omega
  have hlst : li ≤ i - backExt (A.take L) i li j := by omega
  clear hmi
  generalize backExt (A.take L) i li j = m at *
  generalize i - m = st at *
  try dsimp only at hG
  -- q := p[litIndex:i]
  rw [slice_okI _ _ _ li st (by omegaI) (by omegaI) (by omega) (by show st ≤ A.length; omega), bind_ok] at hG
  try dsimp only at hG
  -- the re-indexing loop (it starts at the match position j)
  have hq := loopH1_at _ _ _ _ _ _ _ _ hG (by intros; unfold_head; rfl)
  obtain ⟨t2, ht2, hr7, hG⟩ := hq j (Min.min (st + (kk + m)) E1) (by omega) (by omegaI) (by omegaI) (by omega)
    (by show _ ∨ _ ≤ E1 + 7; omega) c1 ht1
  rw [hpd] at hr7
  have hr7' : ProbeW.insertRangeW (ofHashT s.doubleHashDictionary.h1 t1) (List.take (E1 + 7) A) j
      (Min.min (st + (kk + m)) E1 - j) = some (ofHashT s.doubleHashDictionary.h1 t2) := hr7
  refine ⟨(⟨ofHashT s.doubleHashDictionary.h1 t2, ofHash s.doubleHashDictionary.h2⟩, some (st, kk + m, i - j)), ?_,
    t2, ht2, rfl, ?_, ?_⟩
  · rw [hnf, hr7']; rfl
  · rw [← hG]
    try dsimp only
    exact loop_congr _ (by omegaI) rfl (blk_eq (seq_eq (by omegaI) (by omegaI) (by omegaI)) rfl) (by omegaI)
  · intro st k o h
    cases h
    omega

/-- one iteration of the FIRST loop (`for ; i < e2; i++`: both tables are probed and updated) -/
theorem loop1_step (grow : Nat → Nat → Nat) (lcs : Slice → Slice → Int) (hlcs : LcsSpec lcs) (e2I mm e1I : Int) (A : List UInt8) (L E1 E2 mmN ws : Nat)
    (fuel i li : Nat) (ia lia : Int) (s : Gen.bdhp) (blk : Block')
    (w1 : HOK s.doubleHashDictionary.h1) (w2 : HOK s.doubleHashDictionary.h2)
    (hia : ia = (i : Int)) (hlia : lia = (li : Int)) (hE1 : e1I = (E1 : Int)) (hE2 : e2I = (E2 : Int))
    (hmm : mm = (mmN : Int))
    (hi : i < E2) (hE21 : E2 ≤ E1) (hEL : E1 ≤ L) (hLA : L ≤ A.length) (hEA : E1 + 7 ≤ A.length)
    (hsm : E1 + 7 < 4294967296 + 8) (hli : li ≤ i)
    (hws : ws = s.BDHPConfig.WindowSize.toNat) (hmm1 : 1 ≤ mmN)
    (hfuel : L ≤ fuel + i) (hfuelE : E1 < fuel) :
    ∃ r, ProbeW.dhpProbeW ws mmN E1 E2 true (A.drop L) (absB s) (A.take L) i li = some r ∧
      ∃ t1' t2', TOK s.doubleHashDictionary.h1.shift t1' ∧ TOK s.doubleHashDictionary.h2.shift t2' ∧
        r.1 = ⟨ofHashT s.doubleHashDictionary.h1 t1', ofHashT s.doubleHashDictionary.h2 t2'⟩ ∧
        (callee_loop% bdhp_Parse_nilable 0) grow lcs e2I { arr := A, len := E1 + 7 } { arr := A, len := L } mm e1I (fuel + 1) ia s blk lia =
          (match r.2 with
          | none =>
            (callee_loop% bdhp_Parse_nilable 0) grow lcs e2I { arr := A, len := E1 + 7 } { arr := A, len := L } mm e1I fuel (ia + 1)
              (setTB s t1' t2') blk lia
          | some (st, k, o) =>
            (callee_loop% bdhp_Parse_nilable 0) grow lcs e2I { arr := A, len := E1 + 7 } { arr := A, len := L } mm e1I fuel
              ((st + k : Nat) : Int) (setTB s t1' t2')
              { Sequences := blk.Sequences ++ [seqRep { litLen := st - li, matchLen := k, offset := o }],
                Literals := Slice.append grow blk.Literals ((A.drop li).take (st - li)) }
              ((st + k : Nat) : Int)) ∧
        (∀ st k o, r.2 = some (st, k, o) → li ≤ st ∧ st ≤ i ∧ i < st + k ∧ st + k ≤ L) := by
  have hmem := BytesW.sliceTo_take_drop A L (E1 + 7) hEA
  have hpd : ({ arr := A, len := E1 + 7 } : Slice).data = A.take (E1 + 7) := rfl
  have hpl : (A.take L).length = L := by rw [List.length_take]; omega
  have hswf : SWF ({ arr := A, len := E1 + 7 } : Slice) := hEA
  have c1 := w1.ctx { arr := A, len := E1 + 7 } hswf hsm
  -- the load at i, the two table accesses
  obtain ⟨y, hy, hF⟩ := gen_load_ok { arr := A, len := E1 + 7 } hswf ia i hia (by show i + 8 ≤ E1 + 7; omega)
  rw [hpd] at hy
  obtain ⟨ent2, u1, hidx2, hset2, hu1, hget2, hofs2⟩ := table_probe s.doubleHashDictionary.h2 s.doubleHashDictionary.h2.table
    w2.tok w2.sh1 w2.sh2 y ia i hia (by omega)
  obtain ⟨ent1, t1, hidx1, hset1, ht1, hget1, hofs1⟩ := table_probe s.doubleHashDictionary.h1 s.doubleHashDictionary.h1.table
    w1.tok w1.sh1 w1.sh2 y ia i hia (by omega)
  -- the generated side: `G`, computed step by step in `hG`
  generalize hG : (callee_loop% bdhp_Parse_nilable 0) grow lcs e2I { arr := A, len := E1 + 7 } { arr := A, len := L } mm e1I (fuel + 1) ia s blk lia = G
  unfold_head at hG
  unfold_helpers at hG
  decide_if at hG
  rw [hF] at hG
  dsimp only at hG
  -- the two probes, in whatever order the text makes them
  first
    | rw [hidx2, bind_ok, hset2, bind_ok] at hG
      try dsimp only at hG
      rw [hidx1, bind_ok, hset1, bind_ok] at hG
    | rw [hidx1, bind_ok, hset1, bind_ok] at hG
      try dsimp only at hG
      rw [hidx2, bind_ok, hset2, bind_ok] at hG
  try dsimp only at hG
  have hnf := ProbeW.dhpProbeW_nf1 ws mmN E1 E2 true (A.drop L) (absB s) (A.take L) i li (A.take (E1 + 7)) y hi hmem hy
    (y &&& s.doubleHashDictionary.h2.mask) (by rw [w2.mask]; rfl) (ofEntry ent2) hget2
    (ofHashT s.doubleHashDictionary.h2 u1) hofs2
    (y &&& s.doubleHashDictionary.h1.mask) (by rw [w1.mask]; rfl) (ofEntry ent1) hget1
    (ofHashT s.doubleHashDictionary.h1 t1) hofs1
  -- neither table has the value: `continue`
  by_cases hcont : (y &&& s.doubleHashDictionary.h2.mask).toUInt32 ≠ ent2.value ∧
      (y &&& s.doubleHashDictionary.h1.mask).toUInt32 ≠ ent1.value
  · obtain ⟨hv2, hv1⟩ := hcont
    decide_val hv2 at hG
    decide_val hv1 at hG
    exact ⟨(⟨ofHashT s.doubleHashDictionary.h1 t1, ofHashT s.doubleHashDictionary.h2 u1⟩, none),
      by rw [hnf, if_pos ((val_ne_iff _ _).mp hv2), if_pos ((val_ne_iff _ _).mp hv1)],
      t1, u1, ht1, hu1, rfl, hG.symm, by intro st k o h; cases h⟩
  -- the candidate `ent`: the entry of h1 when the value of h2 differs, else that of h2; the text that is left is the
  -- same function of `ent` in both cases (the `_`, found by unification in the first case)
  obtain ⟨ent, hnfE, hG⟩ : ∃ ent, ProbeW.dhpProbeW ws mmN E1 E2 true (A.drop L) (absB s) (A.take L) i li =
      ProbeW.dhpTail1 ws mmN E1 E2 true (A.drop L) (A.take L) (A.take (E1 + 7)) i li
        (ofHashT s.doubleHashDictionary.h1 t1) (ofHashT s.doubleHashDictionary.h2 u1) (ofEntry ent) ∧ _ = G := by
    by_cases hv2 : (y &&& s.doubleHashDictionary.h2.mask).toUInt32 ≠ ent2.value
    · have hv1 : ¬ (y &&& s.doubleHashDictionary.h1.mask).toUInt32 ≠ ent1.value := fun h => hcont ⟨hv2, h⟩
      decide_val hv2 at hG
      decide_val hv1 at hG
      obtain ⟨ent, hent⟩ : ∃ ent, ent = ent1 := ⟨_, rfl⟩
      rw [← hent] at hG
      exact ⟨ent, by rw [hent, hnf, if_pos ((val_ne_iff _ _).mp hv2), if_neg (fun hc => hv1 ((val_ne_iff _ _).mpr hc))], hG⟩
    · decide_val hv2 at hG
      obtain ⟨ent, hent⟩ : ∃ ent, ent = ent2 := ⟨_, rfl⟩
      rw [← hent] at hG
      exact ⟨ent, by rw [hent, hnf, if_neg (fun hc => hv2 ((val_ne_iff _ _).mpr hc))], hG⟩
  try dsimp only at hG -- the `_` may come back as a λ applied to `ent`
  clear hnf hcont hidx1 hidx2 hset1 hset2 hget1 hget2 hofs1 hofs2
  unfold ProbeW.dhpTail1 ProbeW.candTail at hnfE
  simp only [if_true, Option.bind_some] at hnfE
  -- B: the candidate is outside the window
  have hj1 : (ofEntry ent).1 = ent.pos.toNat := rfl
  rw [hj1] at hnfE
  generalize ent.pos.toNat = j at hnfE hG
  try dsimp only at hG
  by_cases hw : j < i ∧ i - j ≤ ws
  case neg =>
    decide_if at hG
    exact ⟨(⟨ofHashT s.doubleHashDictionary.h1 t1, ofHashT s.doubleHashDictionary.h2 u1⟩, none),
      by rw [hnfE, if_pos hw], t1, u1, ht1, hu1, rfl, hG.symm, by intro st k o h; cases h⟩
  decide_if at hG
  rw [if_neg (not_not_intro hw)] at hnfE
  obtain ⟨hji, -⟩ := hw
  -- C: the first word of the candidate
  obtain ⟨z, hz, hF2⟩ := gen_load_ok { arr := A, len := E1 + 7 } hswf (Int.ofNat j) j rfl (by show j + 8 ≤ E1 + 7; omega)
  rw [hpd] at hz
  rw [hF2] at hG
  rw [tz_shr] at hG
  simp only [Int.ofNat_eq_natCast] at hG
  obtain ⟨k8, hk8le, hk8, hfw⟩ := first_word A L E1 mmN i j y z ia hia hy hz hji (by omega) hEL hLA hEA
  -- the clamp `k8 = min (tz >>> 3) (len(p) - i)`, whatever its spelling
  rw [clamp_val (v := ((k8 : Nat) : Int)) (by omegaI)] at hG
  clear hk8 -- an `if`: every later omega would split on it
  rcases hfw with ⟨hC1, hml⟩ | ⟨hC1, kk, hme, hml, hkk1, hkk2⟩
  · decide_if at hG
    exact ⟨(⟨ofHashT s.doubleHashDictionary.h1 t1, ofHashT s.doubleHashDictionary.h2 u1⟩, none),
      by rw [hnfE, hml]; rfl, t1, u1, ht1, hu1, rfl, hG.symm, by intro st k o h; cases h⟩
  decide_if at hG
  clear hC1 hsm hmem hy hz hF hF2
  -- the forward extension (`F` = whatever loop function the text calls)
  have hG := extBlock_at (first_loop% hG 4) _ _ fuel A L i j k8 ia hG
    (loop2_of_eqn _ (fun fuel k r q => by unfold_head; rfl)) kk hia hji hk8le hLA (by omega) hme
  try dsimp only at hG
  -- the backward extension: the value of the join is `(i - m, k + m)` with `m = backExt …` (`0` when `litIndex = i`)
  rw [hml, Option.bind_some] at hnfE
  dsimp only at hnfE
  rw [ProbeW.backExtW_eq (A.take L) (A.drop L) i li j (by omega) (by rw [hpl]; omega), Option.bind_some] at hnfE
  obtain ⟨hmi, hmj⟩ := backExt_le (A.take L) i li j
  have hG := join_at hG fun M hM => by
    by_cases hb : li < i
    · decide_if at hM
      try simp only [resBind_assoc, bind_ok] at hM
      obtain ⟨s1, s2, hls, hM⟩ := backLcs_at lcs hlcs A L i li j _ ia _ _ hM (by omegaI) hia hb hji (by omega) hLA
      rw [hls] at hM
      exact hM.symm
    · decide_if at hM
      rw [← hM, backExt_zero _ i li j hb]
      simp only [Int.natCast_zero, Int.sub_zero, Int.add_zero]
  -- `st = i - m`, the start of the match: a variable from here on
  have hst : i - backExt (A.take L) i li j + backExt (A.take L) i li j = i := by omega
  have hlst : li ≤ i - backExt (A.take L) i li j := by omega
  clear hmi
  generalize backExt (A.take L) i li j = m at *
  generalize i - m = st at *
  try dsimp only at hG
  -- q := p[litIndex:i]
  rw [slice_okI _ _ _ li st (by omegaI) (by omegaI) (by omega) (by show st ≤ A.length; omega), bind_ok] at hG
  try dsimp only at hG
  -- the re-indexing loops (the table of h1 only): [i-m+1, min(i+k, e2)), then [.., min(i+k, e1))
  have hq := loopXH_at _ _ _ _ _ _ _ _ _ _ hG (by intros; unfold_head; rfl)
  obtain ⟨t1a, x', h', ht1a, hr1, hG⟩ := hq (st + 1) (Min.min (st + (kk + m)) E2) (by omega) (by omegaI) (by omegaI)
    (by omega) (by show _ ∨ _ ≤ E1 + 7; omega) c1 ht1
  rw [hpd] at hr1
  try dsimp only at hG
  -- the second one is guarded by `j < litIndex`: in both cases h1 is re-indexed up to `min(i+k, e1)` and the text that
  -- is left is the same function of the table (the `_`)
  obtain ⟨t1b, ht1b, hmodel, hG⟩ : ∃ t1b, TOK s.doubleHashDictionary.h1.shift t1b ∧
      ProbeW.insertRangeW (ofHashT s.doubleHashDictionary.h1 t1) (List.take (E1 + 7) A) (st + 1)
        (Min.min (st + (kk + m)) E1 - (st + 1)) = some (ofHashT s.doubleHashDictionary.h1 t1b) ∧ _ = G := by
    by_cases hlong : E2 < st + (kk + m)
    · decide_if at hG
      simp only [resBind_assoc, bind_ok] at hG
      have hq := loopH1_at _ _ _ _ _ _ _ _ hG (by intros; unfold_head; rfl)
      obtain ⟨t1b, ht1b, hr4, hG⟩ := hq (Min.min (st + (kk + m)) E2) (Min.min (st + (kk + m)) E1) (by omega)
        (by omegaI) (by omegaI) (by omega) (by show _ ∨ _ ≤ E1 + 7; omega) c1 ht1a
      rw [hpd] at hr4
      try dsimp only at hG
      exact ⟨t1b, ht1b, ProbeW.insertRangeW_trans (by omega) (by omega) hr1 hr4, hG⟩
    · decide_if at hG
      rw [bind_ok] at hG
      try dsimp only at hG
      exact ⟨t1a, ht1a, by rw [show Min.min (st + (kk + m)) E1 = Min.min (st + (kk + m)) E2 by omega]; exact hr1, hG⟩
  refine ⟨(⟨ofHashT s.doubleHashDictionary.h1 t1b, ofHashT s.doubleHashDictionary.h2 u1⟩,
      some (st, kk + m, i - j)), ?_, t1b, u1, ht1b, hu1, rfl, ?_, ?_⟩
  · rw [hnfE, hmodel]; rfl
  · rw [← hG]
    try dsimp only
    exact loop_congr _ (by omegaI) rfl (blk_eq (seq_eq (by omegaI) (by omegaI) (by omegaI)) rfl) (by omegaI)
  · intro st k o h
    cases h
    omega

def InvB (s0 s : Gen.bdhp) : Prop :=
  ∃ t1 t2, s = setTB s0 t1 t2 ∧ TOK s0.doubleHashDictionary.h1.shift t1 ∧ TOK s0.doubleHashDictionary.h2.shift t2

/-- **The two greedy loops of `Parse`** (loop_1 up to `e2`, then loop_5 up to `e1`) are ONE run of
    `ProbeW.greedyLoopW` with the finder `ProbeW.dhpProbeW` up to `e1`: no panic, same final position, `litIndex`,
    sequences, literals; the final tables abstract to the model's.  `e1 = len(p) - inputLen1 + 1 > 0`,
    `e2 = len(p) - inputLen2 + 1 ≤ e1` (any sign).  Fuel `2·len(p) + 3`: the re-indexing loop of the second loop
    starts at the MATCH position `j < i`. -/
theorem loops_eq (grow : Nat → Nat → Nat) (lcs : Slice → Slice → Int) (hlcs : LcsSpec lcs) (e1I e2I mm : Int) (A : List UInt8) (L E1 mmN ws : Nat)
    (hE1 : e1I = (E1 : Int)) (he21 : e2I ≤ e1I) (hmm : mm = (mmN : Int))
    (hEL : E1 ≤ L) (hLA : L ≤ A.length) (hEA : E1 + 7 ≤ A.length) (hsm : E1 + 7 < 4294967296 + 8)
    (hmm1 : 1 ≤ mmN)
    (fuel W : Nat) (s : Gen.bdhp) (blk : Block')
    (w1 : HOK s.doubleHashDictionary.h1) (w2 : HOK s.doubleHashDictionary.h2)
    (hws : ws = s.BDHPConfig.WindowSize.toNat) (hW : W ≤ L) (hfuel : 2 * L + 3 ≤ fuel)
    (hsq : blk.Sequences = []) (hlt : blk.Literals.data = []) (hswf : SWF blk.Literals) :
    ∃ (st1 st' : LoopSt Hash2) (s1 : Gen.bdhp) (blk1 : Block') (t1 t2 : GSlice hashEntry) (blk' : Block'),
      ProbeW.greedyLoopW (ProbeW.dhpProbeW ws mmN E1 e2I.toNat true (A.drop L)) (A.take L) E1
        { dict := absB s, i := W, litIndex := W, seqs := [], lits := [] } = some st' ∧
      (callee_loop% bdhp_Parse_nilable 0) grow lcs e2I { arr := A, len := E1 + 7 } { arr := A, len := L } mm e1I fuel (W : Int) s blk (W : Int) =
        Res.ok ((st1.i : Int), s1, blk1, (st1.litIndex : Int)) ∧
      (callee_loop% bdhp_Parse_nilable 1) grow lcs e1I { arr := A, len := E1 + 7 } { arr := A, len := L } mm fuel (st1.i : Int) s1 blk1
        (st1.litIndex : Int) = Res.ok ((st'.i : Int), setTB s t1 t2, blk', (st'.litIndex : Int)) ∧
      TOK s.doubleHashDictionary.h1.shift t1 ∧ TOK s.doubleHashDictionary.h2.shift t2 ∧
      st'.dict = ⟨ofHashT s.doubleHashDictionary.h1 t1, ofHashT s.doubleHashDictionary.h2 t2⟩ ∧
      blk'.Sequences = st'.seqs.map seqRep ∧ blk'.Literals.data = st'.lits ∧ SWF blk'.Literals ∧
      W ≤ st'.litIndex ∧ st'.litIndex ≤ L := by
  have hE2 : e2I.toNat ≤ E1 := by omega
  have hokOf : ∀ t1 t2, TOK s.doubleHashDictionary.h1.shift t1 → TOK s.doubleHashDictionary.h2.shift t2 →
      HOK (setTB s t1 t2).doubleHashDictionary.h1 ∧ HOK (setTB s t1 t2).doubleHashDictionary.h2 :=
    fun t1 t2 h1 h2 => ⟨⟨w1.il0, w1.mask, w1.sh1, w1.sh2, h1⟩, ⟨w2.il0, w2.mask, w2.sh1, w2.sh2, h2⟩⟩
  obtain ⟨st1, st', s1, _, blk1, blk', hgl, hl1, hl5, ⟨v1, v2, rfl, hv1, hv2⟩, hd', hsq', hlt', hswf', h1, h2⟩ :=
    greedy_two_phase (ProbeW.dhpProbeW ws mmN E1 e2I.toNat true (A.drop L))
      ((callee_loop% bdhp_Parse_nilable 0) grow lcs e2I { arr := A, len := E1 + 7 } { arr := A, len := L } mm e1I)
      ((callee_loop% bdhp_Parse_nilable 1) grow lcs e1I { arr := A, len := E1 + 7 } { arr := A, len := L } mm) absB (InvB s)
      grow A L E1 e2I.toNat (E1 + 1) hE2 hEL hLA
      (fun fuel ia s blk lia h => by unfold_head; rw [if_neg (by omega)])
      (fun fuel ia s blk lia h => by unfold_head; rw [if_neg (by omega)])
      (fun fuel i li ia lia s' blk hinv hia hlia hlo hi hli hf => by
        obtain ⟨t1, t2, rfl, ht1, ht2⟩ := hinv
        obtain ⟨w1', w2'⟩ := hokOf t1 t2 ht1 ht2
        obtain ⟨r, hr, t1', t2', ht1', ht2', hr1, hstp, hb⟩ := loop1_step grow lcs hlcs e2I mm e1I A L E1 e2I.toNat mmN ws
          fuel i li ia lia (setTB s t1 t2) blk w1' w2' hia hlia hE1 (by omega) hmm hi hE2 hEL hLA hEA hsm hli hws
          hmm1 (by omega) (by omega)
        exact ⟨r, hr, setTB s t1' t2', ⟨t1', t2', rfl, ht1', ht2'⟩, hr1, hstp, hb⟩)
      (fun fuel i li ia lia s' blk hinv hia hlia hlo hi hli hf => by
        obtain ⟨t1, t2, rfl, ht1, ht2⟩ := hinv
        obtain ⟨w1'', w2''⟩ := hokOf t1 t2 ht1 ht2
        obtain ⟨r, hr, t1', ht1', hr1, hstp, hb⟩ := loop5_step grow lcs hlcs e1I mm A L E1 e2I.toNat mmN ws
          fuel i li ia lia (setTB s t1 t2) blk w1'' hia hlia hE1 hmm hi (by omega) hEL hLA hEA hsm hli hws
          hmm1 (by omega) (by omega)
        exact ⟨r, hr, setTB s t1' t2, ⟨t1', t2, rfl, ht1', ht2⟩, hr1, hstp, hb⟩)
      fuel W s blk hW (by omega) ⟨_, _, rfl, w1.tok, w2.tok⟩ hsq hlt hswf
  exact ⟨st1, st', s1, blk1, v1, v2, blk', hgl, hl1, hl5, hv1, hv2, hd', hsq', hlt', hswf', h1, h2⟩

end LZ.GenBDHPParse

#print axioms LZ.GenBDHPParse.loop5_step
#print axioms LZ.GenBDHPParse.loop1_step
#print axioms LZ.GenBDHPParse.loops_eq
