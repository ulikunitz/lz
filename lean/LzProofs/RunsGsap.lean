/-
  LzProofs.RunsGsap — property C19, last sentence (the "run clause"), for GSAP:

    "A block of at least 32 bytes that lies inside a run of one repeated byte carries … at most
     MinMatchLen literal bytes for GSAP and OSAP."

  Proved here for GSAP with `BufferSize ≤ WindowSize`, for every state reachable from `NewParser`
  by ANY history of `Write`, `ReadFrom`, `Parse` (any flags), `Parse(nil)`, `Shrink`, `Reset`
  (histories with `Parse(nil)` included — the C12 theorems exclude them).

  The invariant (`GsapW`): the suffix array is absent (`sa.size = 0`: fresh parser, after
  `Reset` / `Shrink` / a truncated block) or it is the sorted suffix array (with inverse) of a
  prefix `t` of the buffer, and the rank set `bits` marks ONLY ranks of positions in front of `W`
  (`BitsSub`; `Parse(nil)` moves `W` without marking anything, so "exactly" (`Sap.BitsOK`) is
  lost, "only" survives).  Inside the block the loop itself marks every position it passes, so
  for every probed position `i > W` the position `i - 1` is in the rank set; in a run it offers a
  match up to the block end and the rank neighbours are at least as good (`Sap.neighbour_max`).

  With `BufferSize > WindowSize` the clause is false for the real code and for the model (a far
  rank neighbour shadows `i - 1` and is filtered by the window afterwards):
  `gsap_run_counterexample` in LzProofs/RunsGsapCex.lean (kernel-checked reachable state, a run block
  of 32 literals with MinMatchLen 3).  The same file shows that the two bounds are attained
  (`gsap_two_literals`, `gsap_minMatch_literals`).
-/
import LzProofs.Runs
import LzProofs.GlueLemmas
import LzProofs.Reach
namespace LZ
open Parser

/-! ## the weak rank-set invariant -/

/-- `bits` marks only ranks of positions `< i` (not necessarily all of them) -/
structure BitsSub (sa : Array Nat) (bits : Array Bool) (N i : Nat) : Prop where
  size : bits.size = N
  mark : ∀ r, bits.getD r false = true → r < N ∧ sa.getD r 0 < i

theorem BitsSub.of_ok {sa : Array Nat} {bits : Array Bool} {N i : Nat} (h : Sap.BitsOK sa bits N i) :
    BitsSub sa bits N i :=
  ⟨h.size, fun r hr => (h.mark r).1 hr⟩

theorem BitsSub.mono {sa : Array Nat} {bits : Array Bool} {N i j : Nat} (h : BitsSub sa bits N i)
    (hij : i ≤ j) : BitsSub sa bits N j :=
  ⟨h.size, fun r hr => ⟨(h.mark r hr).1, by have := (h.mark r hr).2; omega⟩⟩

section Probe
variable {t : List Byte} {sa isa : Array Nat} {bits : Array Bool} {i : Nat}

theorem set_marked_mono (j r : Nat) (h : bits.getD r false = true) :
    (bits.setIfInBounds j true).getD r false = true := by
  rw [Sap.getD_setIfInBounds_bool]
  split
  · rfl
  · exact h

/-- the invariant after the ranks of the next `c` positions were inserted -/
theorem BitsSub.insertRanks {c : Nat} (hs : Sap.SAOK t sa isa) (hb : BitsSub sa bits t.length i)
    (hic : i + c ≤ t.length) : BitsSub sa (insertRanks isa bits i c) t.length (i + c) := by
  refine ⟨by rw [Sap.insertRanks_size]; exact hb.size, fun r hr => ?_⟩
  rw [Sap.insertRanks_spec, hb.size] at hr
  rcases hr with h | ⟨a, x, hx, hrx⟩
  · exact ⟨(hb.mark r h).1, by have := (hb.mark r h).2; omega⟩
  · refine ⟨a, ?_⟩
    have := (hs.sa_isa (i + x) (by omega)).2
    rw [hrx] at this
    omega

theorem bitsSub_clause : Sap.BitsClause BitsSub :=
  ⟨fun data w hw hs => BitsSub.of_ok (Sap.gsapSort_bitsOK data w hw hs), fun hs hb h => hb.insertRanks hs h⟩

/-- the rank set the probe at `i` consults (the rank of `i` inserted) marks only positions `≤ i` -/
theorem bitsSub_set_le (hs : Sap.SAOK t sa isa) (hb : BitsSub sa bits t.length i) (hi : i < t.length)
    (r : Nat) (hr : (bits.setIfInBounds (isa.getD i 0) true).getD r false = true) :
    r < t.length ∧ sa.getD r 0 ≤ i := by
  obtain ⟨a, b⟩ := (hb.insertRanks (c := 1) hs hi).mark r hr
  exact ⟨a, Nat.le_of_lt_succ b⟩

end Probe

/-! ## the probe under the weak invariant -/

section ProbeW
variable {t : List Byte} {g : GsapD} {i e : Nat} (ws mm li : Nat)

theorem gsapCand_run (hs : Sap.SAOK t g.sa g.isa) (hb : BitsSub g.sa g.bits t.length i)
    (hi : i < e) (he : e ≤ t.length) (b : Byte) (hi1 : 1 ≤ i)
    (hrun : ∀ q, i - 1 ≤ q → q < e → (t.take e)[q]? = some b)
    (hmark : g.bits.getD (g.isa.getD (i - 1) 0) false = true) :
    (Sap.gsapCand g.sa (g.bits.setIfInBounds (g.isa.getD i 0) true) (t.take e) i (g.isa.getD i 0)).1 < i ∧
    (Sap.gsapCand g.sa (g.bits.setIfInBounds (g.isa.getD i 0) true) (t.take e) i (g.isa.getD i 0)).2 =
      e - i := by
  have hit : i < t.length := by omega
  have hlen : (t.take e).length = e := by simp only [List.length_take]; omega
  have hm := bitsSub_set_le hs hb hit
  have hat := Sap.cand_att_marked hs hm (t.take e)
  have hge := Sap.cand_ge_marked (e := e) (f := i - 1) hs hit hm (by omega) (set_marked_mono _ _ hmark)
  have hle := Sap.gsapCand_snd_le g.sa (g.bits.setIfInBounds (g.isa.getD i 0) true) (t.take e) i
    (g.isa.getD i 0)
  rw [lcpLen_run (t.take e) b (i - 1) i (by omega) (by omega) (fun q h1 h2 => hrun q h1 (by omega)),
    hlen] at hge
  rw [hlen] at hle
  generalize Sap.gsapCand g.sa (g.bits.setIfInBounds (g.isa.getD i 0) true) (t.take e) i (g.isa.getD i 0) = c
    at hat hge hle
  rcases hat with ⟨a, -⟩ | ⟨-, -, b'⟩
  · exact ⟨a, by omega⟩
  · rw [b'] at hge; simp only at hge; omega

/-- the probe at a position `i` behind a marked `i - 1` inside a run that reaches the block end `e`:
    a reported match ends at `e`, and nothing is reported only if fewer than `mm` bytes are left -/
theorem gsapProbe_run (hs : Sap.SAOK t g.sa g.isa) (hb : BitsSub g.sa g.bits t.length i)
    (hi : i < e) (he : e ≤ t.length) (hws : i < ws) (b : Byte) (hi1 : 1 ≤ i)
    (hrun : ∀ q, i - 1 ≤ q → q < e → (t.take e)[q]? = some b)
    (hmark : g.bits.getD (g.isa.getD (i - 1) 0) false = true) :
    match (gsapProbe ws mm g (t.take e) i li).2 with
    | none => e - i < mm
    | some (_, k, _) => i + k = e := by
  obtain ⟨c1, c2⟩ := gsapCand_run hs hb hi he b hi1 hrun hmark
  rw [Sap.gsapProbe_snd]
  simp only
  generalize Sap.gsapCand g.sa (g.bits.setIfInBounds (g.isa.getD i 0) true) (t.take e) i (g.isa.getD i 0) = c
    at c1 c2
  by_cases hc : mm ≤ c.2 ∧ c.1 < i ∧ i - c.1 < ws
  · rw [if_pos hc]; show i + c.2 = e; omega
  · rw [if_neg hc]; show e - i < mm; omega

end ProbeW

/-! ## the weak invariant along the loop -/

section Loop
variable {t : List Byte} {g : GsapD} {w e : Nat} {st : LoopSt GsapD}

/-- started with only positions in front of `w` marked, the loop has marked only positions in front
    of `i` (`Sap.GD`: it has marked exactly the positions `w … i-1` in addition) … -/
theorem _root_.LZ.Sap.GD.bitsSub (hs : Sap.SAOK t g.sa g.isa) (hb : BitsSub g.sa g.bits t.length w)
    (he : e ≤ t.length) (hJ : Sap.GD g w e st) : BitsSub st.dict.sa st.dict.bits t.length st.i :=
  hJ.clause bitsSub_clause hs hb he

/-- … among them the position just passed -/
theorem _root_.LZ.Sap.GD.prev (hs : Sap.SAOK t g.sa g.isa) (hb : g.bits.size = t.length) (he : e ≤ t.length)
    (hJ : Sap.GD g w e st) (hwi : w < st.i) :
    st.dict.bits.getD (st.dict.isa.getD (st.i - 1) 0) false = true := by
  have hi := hJ.i_le
  rw [hJ.dict]
  show (insertRanks g.isa g.bits w (st.i - w)).getD (g.isa.getD (st.i - 1) 0) false = true
  exact (Sap.insertRanks_spec _ _ _ _ _).2
    (Or.inr ⟨by rw [hb]; exact (hs.sa_isa _ (by omega)).1, st.i - 1 - w, by omega, by congr 1; omega⟩)

end Loop

/-! ## the loop on a run block -/

section RunLoop
variable (t : List Byte) (g : GsapD) (e w ws mm : Nat)

/-- invariant of the GSAP loop on a run block `[w, e)`, in terms of `T = lits + pending literals`:
    the literals emitted fit between `w` and `litIndex`, and if `mm` is smaller than the block, `T`
    exceeds one only inside the last `mm - 1` bytes -/
structure GR (st : LoopSt GsapD) : Prop where
  gd : Sap.GD g w e st
  lits_le : st.lits.length + w ≤ st.litIndex
  sharp : w + mm < e →
    st.lits.length + (st.i - st.litIndex) = 0 ∨
    st.lits.length + (st.i - st.litIndex) + e + 1 ≤ st.i + mm ∨
    (st.lits.length + (st.i - st.litIndex) ≤ 1 ∧ (st.i ≤ w + 1 ∨ st.i = e))

theorem gsap_run_loop (hs : Sap.SAOK t g.sa g.isa) (hb : BitsSub g.sa g.bits t.length w)
    (he : e ≤ t.length) (hmm : 1 ≤ mm) (hws : e ≤ ws)
    (b : Byte) (hrun : ∀ q, w ≤ q → q < e → (t.take e)[q]? = some b)
    (st : LoopSt GsapD) (hJ : GR g e w mm st) :
    GR g e w mm (greedyLoop ⟨gsapProbe ws mm⟩ (t.take e) e st) ∧
    (greedyLoop ⟨gsapProbe ws mm⟩ (t.take e) e st).i = e := by
  have hlen : (t.take e).length = e := by simp only [List.length_take]; omega
  have key := greedyLoop_invariant ⟨gsapProbe ws mm⟩ (t.take e) e (GR g e w mm) ?_ ?_ st hJ
  · exact ⟨key.1, by have := key.1.gd.i_le; have := key.2; omega⟩
  · -- a literal: behind `w` only when fewer than `mm` bytes are left
    intro st d hi hJ hp
    have hli := hJ.gd.li_le
    have c1 := hJ.lits_le
    have hshort : w < st.i → e - st.i < mm := fun hwi => by
      have := gsapProbe_run ws mm st.litIndex (hJ.gd.saok hs) (hJ.gd.bitsSub hs hb he) hi he (by omega) b
        (by omega) (fun q h1 h2 => hrun q (by omega) h2) (hJ.gd.prev hs hb.size he hwi)
      rwa [show gsapProbe ws mm st.dict (t.take e) st.i st.litIndex = (d, none) from hp] at this
    refine ⟨hJ.gd.none hi hp, c1, fun hmn => ?_⟩
    have c3 := hJ.sharp hmn
    dsimp only
    by_cases hwi : w < st.i
    · have := hshort hwi
      omega
    · omega
  · -- a match: behind `w` it reaches the block end
    intro st d s k o hi hJ hp
    have hp : gsapProbe ws mm st.dict (t.take e) st.i st.litIndex = (d, some (s, k, o)) := hp
    obtain ⟨rfl, hk, hke, g1⟩ := hJ.gd.some hmm hlen hp
    have hli := hJ.gd.li_le
    have c1 := hJ.lits_le
    have hend : w < st.i → st.i + k = e := fun hwi => by
      have := gsapProbe_run ws mm st.litIndex (hJ.gd.saok hs) (hJ.gd.bitsSub hs hb he) hi he (by omega) b
        (by omega) (fun q h1 h2 => hrun q (by omega) h2) (hJ.gd.prev hs hb.size he hwi)
      rwa [hp] at this
    have hq : (st.lits ++ ((t.take e).drop st.litIndex).take (st.i - st.litIndex)).length =
        st.lits.length + (st.i - st.litIndex) := by
      simp only [List.length_append, List.length_take, List.length_drop, hlen]
      omega
    refine ⟨by omega, g1 _ _, ?_, fun hmn => ?_⟩
    · dsimp only
      rw [hq]; omega
    · have c3 := hJ.sharp hmn
      dsimp only
      rw [hq, Nat.sub_self, Nat.add_zero]
      by_cases hwi : w < st.i
      · have := hend hwi
        omega
      · omega

/-- block level, GSAP: `runGreedy` on a run block `[w, e)` that lies inside the window, from a
    rank set that marks only positions in front of `w`, without `NoTrailingLiterals`, emits at most
    `mm` (`MinMatchLen`) literals; at most `max 1 (mm - 1)` if `mm` is smaller than the block -/
theorem gsap_run_block (hs : Sap.SAOK t g.sa g.isa) (he : e ≤ t.length) (hmm : 1 ≤ mm) (hws : e ≤ ws)
    (hw : w ≤ e) (b : Byte) (hrun : ∀ q, w ≤ q → q < e → (t.take e)[q]? = some b)
    (hb : BitsSub g.sa g.bits t.length w) (flags : Nat) (hf : flags % 2 = 0) :
    (Parser.runGreedy ⟨gsapProbe ws mm⟩ g (t.take e) w e flags).2.2.1.lits.length ≤ mm ∧
    (mm < e - w →
      (Parser.runGreedy ⟨gsapProbe ws mm⟩ g (t.take e) w e flags).2.2.1.lits.length ≤ max 1 (mm - 1)) := by
  have hlen : (t.take e).length = e := by simp only [List.length_take]; omega
  have h0 : GR g e w mm { dict := g, i := w, litIndex := w, seqs := [], lits := [] } :=
    ⟨Sap.GD.init g hw, by simp, fun _ => Or.inl (by simp)⟩
  obtain ⟨hJ, hi⟩ := gsap_run_loop t g e w ws mm hs hb he hmm hws b hrun _ h0
  unfold Parser.runGreedy
  simp only []
  unfold finishBlock
  rw [if_neg (by omega)]
  simp only [List.length_append, List.length_drop, hlen]
  have c1 := hJ.lits_le
  have c3 := hJ.sharp
  have hli := hJ.gd.li_le
  rw [hi] at c3 hli
  by_cases hmn : w + mm < e
  · have := c3 hmn
    exact ⟨by omega, fun _ => by omega⟩
  · exact ⟨by omega, fun h => by omega⟩

end RunLoop

/-! ## the state invariant -/

/-- The weak GSAP invariant: the suffix array is absent, or it is the sorted suffix array (with its
    inverse) of a prefix `t` of the buffer and `bits` marks only ranks of positions `< W`. -/
def GsapW (s : Parser) (g : GsapD) : Prop := Sap.GsapSt BitsSub s g

/-- the state is a GSAP state satisfying `GsapW` -/
def GsapWS (s : Parser) : Prop := ∃ g, s.dict = .gsap g ∧ GsapW s g

theorem blockPrefix_of_prefix (s : Parser) (t : List Byte) (h1 : t <+: s.buf.data)
    (h2 : s.buf.w + s.blockN ≤ t.length) : s.blockPrefix = t.take (s.buf.w + s.blockN) := by
  obtain ⟨r, hr⟩ := h1
  unfold blockPrefix
  rw [← hr, List.take_append_of_le_length h2]

/-- what the `.gsap` branch of `Parse` runs on a state satisfying `GsapW`: the greedy loop over
    the block `t.take e`, `e = W + n`, from the dictionary `Sap.gsapG s g` (re-sorted if the block is not
    covered), which holds the suffix array of `t` and marks only ranks of positions `< W`
    (`Sap.GsapSt.block`) -/
theorem parse_gsapW (s : Parser) (g : GsapD) (flags : Nat) (hd : s.dict = .gsap g)
    (hn : s.blockN ≠ 0) (hw : s.buf.w ≤ s.buf.data.length) (hW : GsapW s g) :
    ∃ t g1, g1 = Sap.gsapG s g ∧
      s.buf.w + s.blockN ≤ t.length ∧ Sap.SAOK t g1.sa g1.isa ∧
      BitsSub g1.sa g1.bits t.length s.buf.w ∧ s.blockPrefix = t.take (s.buf.w + s.blockN) ∧
      s.parse flags =
        (let e := s.buf.w + s.blockN
         let r := Parser.runGreedy ⟨gsapProbe s.buf.cfg.windowSize s.minMatch⟩ g1 (t.take e) s.buf.w e flags
         let g' := if flags % 2 = 1 ∧ r.2.2.1.seqs ≠ [] ∧ r.2.2.2 < e then { r.1 with sa := #[] } else r.1
         ({ s with buf := { s.buf with w := r.2.1 }, dict := .gsap g' }, r.2.1 - s.buf.w, .ok, r.2.2.1)) := by
  obtain ⟨t, h1, h2, h3, h4⟩ := Sap.GsapSt.block bitsSub_clause hn hW Sap.saok_gsapSort
  have hpre := blockPrefix_of_prefix s t h1 h2
  refine ⟨t, _, rfl, h2, h3, h4, hpre, ?_⟩
  rw [Parser.parse_gsap s flags g hd hn]
  simp only []
  rw [s.blockPrefix_length hw, hpre]
  rfl

/-! ## one `Parse` call -/

/-- both bounds of one `Parse` call (see `C19_run_gsap`, `C19_run_gsap_sharp`) -/
theorem C19_run_gsap_both (s : Parser) (hF : GsapWS s) (hw : s.buf.w ≤ s.buf.data.length)
    (hbuf : s.buf.data.length ≤ s.buf.cfg.bufferSize)
    (hbw : s.buf.cfg.bufferSize ≤ s.buf.cfg.windowSize) (hmm : 1 ≤ s.minMatch)
    (flags : Nat) (s' : Parser) (n : Nat) (blk : Block) (b : Byte)
    (hp : s.parse flags = (s', n, .ok, blk)) (hf : flags % 2 = 0) (hn : 32 ≤ n)
    (hrun : ∀ t, t < n → s.buf.data[s.buf.w + t]? = some b) :
    blk.lits.length ≤ s.minMatch ∧ (s.minMatch < n → blk.lits.length ≤ max 1 (s.minMatch - 1)) := by
  obtain ⟨g, hd, hW⟩ := hF
  obtain ⟨hR, hN, rfl⟩ := run_call _ _ _ hw hp hf hn hrun
    (fun hn0 _ => ⟨_, _, parse_gsap s flags g hd hn0⟩)
  have hl := s.blockPrefix_length hw
  obtain ⟨t, h1, h2, h3, h4⟩ := Sap.GsapSt.block bitsSub_clause (by omega) hW Sap.saok_gsapSort
  have hpre := blockPrefix_of_prefix s t h1 h2
  rw [hl, hpre]
  have key := gsap_run_block t _ (s.buf.w + s.blockN) s.buf.w s.buf.cfg.windowSize s.minMatch h3 h2 hmm
    (by have := s.blockN_le; omega) (Nat.le_add_right _ _) b ?_ h4 flags hf
  · exact ⟨key.1, fun hlt => key.2 (by omega)⟩
  intro q hq1 hq2
  rw [← hpre]
  exact hR.at q hq1 (by rw [hl]; exact hq2)

/-- C19, run clause, GSAP, one call.  `s` is a GSAP state satisfying the invariant `GsapWS`
    (every reachable GSAP state does, `reachable_gsapWS`), with at most `BufferSize` bytes buffered,
    `BufferSize ≤ WindowSize` and `MinMatchLen ≥ 1`.  If `Parse(&blk, flags)` without
    `NoTrailingLiterals` returns a block of `n ≥ 32` bytes that all equal `b`, the block has at most
    `MinMatchLen` literals. -/
theorem C19_run_gsap (s : Parser) (hF : GsapWS s) (hw : s.buf.w ≤ s.buf.data.length)
    (hbuf : s.buf.data.length ≤ s.buf.cfg.bufferSize)
    (hbw : s.buf.cfg.bufferSize ≤ s.buf.cfg.windowSize) (hmm : 1 ≤ s.minMatch)
    (flags : Nat) (s' : Parser) (n : Nat) (blk : Block) (b : Byte)
    (hp : s.parse flags = (s', n, .ok, blk)) (hf : flags % 2 = 0) (hn : 32 ≤ n)
    (hrun : ∀ t, t < n → s.buf.data[s.buf.w + t]? = some b) :
    blk.lits.length ≤ s.minMatch :=
  (C19_run_gsap_both s hF hw hbuf hbw hmm flags s' n blk b hp hf hn hrun).1

/-- The sharper bound when `MinMatchLen` is smaller than the block (`MinMatchLen < n`, e.g.
    `MinMatchLen ≤ 31`): at most `max 1 (MinMatchLen - 1)` literals — either one literal at the
    block start, or the fewer than `MinMatchLen` bytes behind a first match that ends short of the
    block end.  (For `MinMatchLen = n = 32` a block of 32 literals = `MinMatchLen` is possible.) -/
theorem C19_run_gsap_sharp (s : Parser) (hF : GsapWS s) (hw : s.buf.w ≤ s.buf.data.length)
    (hbuf : s.buf.data.length ≤ s.buf.cfg.bufferSize)
    (hbw : s.buf.cfg.bufferSize ≤ s.buf.cfg.windowSize) (hmm : 1 ≤ s.minMatch)
    (flags : Nat) (s' : Parser) (n : Nat) (blk : Block) (b : Byte)
    (hp : s.parse flags = (s', n, .ok, blk)) (hf : flags % 2 = 0) (hn : 32 ≤ n)
    (hrun : ∀ t, t < n → s.buf.data[s.buf.w + t]? = some b) (hlt : s.minMatch < n) :
    blk.lits.length ≤ max 1 (s.minMatch - 1) :=
  (C19_run_gsap_both s hF hw hbuf hbw hmm flags s' n blk b hp hf hn hrun).2 hlt

/-! ## every operation keeps the invariant -/

/-- `Parse(nil)` moves `W` without marking anything, and "only positions in front of `W`" survives
    that; `Parse(&blk, flags)` marks only positions it has passed, and a truncated block drops the
    suffix array -/
theorem gsapWS_step {s s' : Parser} (hs : Parser.Step s s') (hmm : 1 ≤ s.minMatch) (h : GsapWS s) :
    GsapWS s' := by
  obtain ⟨g, hd, hW⟩ := h
  cases hs.sa (.inl ⟨g, hd⟩) with
  | grow _ e _ _ _ hw hp => exact ⟨g, e.trans hd, Sap.GsapSt.extend hW (fun h => hw ▸ h) hp⟩
  | skip _ =>
    exact ⟨g, hd, Sap.GsapSt.extend hW (fun h => h.mono (Nat.le_add_right _ _)) (List.prefix_refl _)⟩
  | clear _ e _ _ _ => exact ⟨_, by rw [e, Parser.clearDict, hd], Sap.GsapSt.empty _ _⟩
  | parse f hn => exact Sap.GsapSt.parse bitsSub_clause hd f hn hmm hW Sap.saok_gsapSort

/-! ## history level -/

theorem newParser_gsapWS {raw : Cfg} {s0 : Parser} (h0 : newParser .GSAP raw = some s0) : GsapWS s0 :=
  ⟨GsapD.empty, Sap.newParser_gsap_dict raw s0 h0, Or.inl rfl⟩

/-- every state of a GSAP history (ANY operations, `Parse(nil)` included) satisfies the hypotheses
    of `C19_run_gsap` except `BufferSize ≤ WindowSize`, which is a property of the configuration -/
theorem reachable_gsapWS (raw : Cfg) (s0 : Parser) (h0 : newParser .GSAP raw = some s0)
    (ops : List POp) :
    let s := (runOps (s0, Ghost.init) ops).1
    GsapWS s ∧ s.buf.w ≤ s.buf.data.length ∧ s.buf.data.length ≤ s.buf.cfg.bufferSize ∧
      s.buf.cfg = s0.buf.cfg ∧ 1 ≤ s.minMatch := by
  intro s
  have hr := reachable_runOps s0 ops
  have hB := hr.base h0
  exact ⟨hr.keeps h0 GsapWS (newParser_gsapWS h0) fun s op hb h => gsapWS_step (stepP_step s op) hb.mm h,
    hB.hw, hB.room.1, hB.bcfg, hB.mm⟩

/-- C19, run clause, history level, GSAP with `BufferSize ≤ WindowSize`.  For every accepted
    GSAP configuration whose (defaults-completed) `BufferSize` does not exceed its `WindowSize`,
    every history of `Write`, `ReadFrom`, `Parse` (any flags), `Parse(nil)`, `Shrink`, `Reset`: if
    the next `Parse(&blk, flags)` without `NoTrailingLiterals` returns a block of `n ≥ 32` bytes, all
    equal to one byte `b`, the block carries at most `MinMatchLen` literal bytes. -/
theorem C19_run_gsap_reachable (raw : Cfg) (s0 : Parser) (h0 : newParser .GSAP raw = some s0)
    (hbw : s0.buf.cfg.bufferSize ≤ s0.buf.cfg.windowSize) (ops : List POp)
    (flags : Nat) (s' : Parser) (n : Nat) (blk : Block) (b : Byte) :
    let s := (runOps (s0, Ghost.init) ops).1
    s.parse flags = (s', n, .ok, blk) → flags % 2 = 0 → 32 ≤ n →
    (∀ t, t < n → s.buf.data[s.buf.w + t]? = some b) →
    blk.lits.length ≤ s.minMatch := by
  intro s hp hf hn hrun
  obtain ⟨a1, a2, a3, a4, a5⟩ := reachable_gsapWS raw s0 h0 ops
  exact C19_run_gsap s a1 a2 a3 (by rw [a4]; exact hbw) a5 flags s' n blk b hp hf hn hrun

/-- `C19_run_gsap_sharp` at history level: with `MinMatchLen < n` at most `max 1 (MinMatchLen - 1)`
    literal bytes -/
theorem C19_run_gsap_sharp_reachable (raw : Cfg) (s0 : Parser) (h0 : newParser .GSAP raw = some s0)
    (hbw : s0.buf.cfg.bufferSize ≤ s0.buf.cfg.windowSize) (ops : List POp)
    (flags : Nat) (s' : Parser) (n : Nat) (blk : Block) (b : Byte) :
    let s := (runOps (s0, Ghost.init) ops).1
    s.parse flags = (s', n, .ok, blk) → flags % 2 = 0 → 32 ≤ n →
    (∀ t, t < n → s.buf.data[s.buf.w + t]? = some b) → s.minMatch < n →
    blk.lits.length ≤ max 1 (s.minMatch - 1) := by
  intro s hp hf hn hrun hlt
  obtain ⟨a1, a2, a3, a4, a5⟩ := reachable_gsapWS raw s0 h0 ops
  exact C19_run_gsap_sharp s a1 a2 a3 (by rw [a4]; exact hbw) a5 flags s' n blk b hp hf hn hrun hlt

/-- `MinMatchLen` as configured: the bound of `C19_run_gsap_reachable` is the `MinMatchLen` field of
    the configuration `ParserConfig()` reports -/
theorem reachable_gsap_minMatch (raw : Cfg) (s0 : Parser) (h0 : newParser .GSAP raw = some s0)
    (ops : List POp) : (runOps (s0, Ghost.init) ops).1.minMatch = s0.cfg.minMatchLen.toNat := by
  have hB := (reachable_runOps s0 ops).base h0
  unfold Parser.minMatch
  rw [hB.kind, hB.cfg]

/-! ## non-vacuity -/

section Examples

/-- a history WITH `Parse(nil)`: `Write("bbbbbbbb")`, `Parse(nil)`, `Write` of 40 bytes `a` -/
def gsapOpsEx : List POp := [.write (List.replicate 8 98), .parseNil, .write (List.replicate 40 97)]

/-- all hypotheses of `C19_run_gsap_reachable` are satisfiable (configuration `runCfg`:
    WindowSize 64 = BufferSize, BlockSize 32, MinMatchLen 3 by default): after the history
    `gsapOpsEx` the next `Parse` returns the block `[8, 40)` of 32 bytes `a` -/
example : ∃ s' blk,
    let s := (runOps (runS0 .GSAP, Ghost.init) gsapOpsEx).1
    newParser .GSAP runCfg = some (runS0 .GSAP) ∧
    (runS0 .GSAP).buf.cfg.bufferSize ≤ (runS0 .GSAP).buf.cfg.windowSize ∧
    s.parse 0 = (s', 32, .ok, blk) ∧ (∀ t, t < 32 → s.buf.data[s.buf.w + t]? = some 97) ∧
    blk.lits.length ≤ s.minMatch ∧ s.minMatch = 3 := by
  have hv : verify .GSAP (setDefaults .GSAP (runCfg.restrict .GSAP)) = true := by decide
  have hdata : (runOps (runS0 .GSAP, Ghost.init) gsapOpsEx).1.buf.data =
      List.replicate 8 98 ++ List.replicate 40 97 := by decide
  have hw : (runOps (runS0 .GSAP, Ghost.init) gsapOpsEx).1.buf.w = 8 := by decide
  obtain ⟨s', blk, hp⟩ := parse_full_block (runS0_new .GSAP hv) (by decide) gsapOpsEx 32 (by decide)
    (by rw [hdata, hw]; decide) (by decide)
  have hrun : ∀ t, t < 32 → (runOps (runS0 .GSAP, Ghost.init) gsapOpsEx).1.buf.data[
      (runOps (runS0 .GSAP, Ghost.init) gsapOpsEx).1.buf.w + t]? = some 97 := by
    intro t ht
    rw [hdata, hw, List.getElem?_append_right (by simp), List.getElem?_replicate,
      if_pos (by simp; omega)]
  have hbw : (runS0 .GSAP).buf.cfg.bufferSize ≤ (runS0 .GSAP).buf.cfg.windowSize := by decide
  refine ⟨s', blk, runS0_new .GSAP hv, hbw, hp, hrun,
    C19_run_gsap_reachable runCfg _ (runS0_new .GSAP hv) hbw gsapOpsEx 0 s' 32 blk 97 hp rfl
      (Nat.le_refl _) hrun, ?_⟩
  rw [reachable_gsap_minMatch runCfg _ (runS0_new .GSAP hv)]
  decide

end Examples

end LZ

