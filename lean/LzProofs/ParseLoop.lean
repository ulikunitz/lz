/-
  LzProofs.ParseLoop — the greedy loop shared by HP, BHP, DHP, BDHP, BUP and GSAP:
  its induction rule (`greedyLoop_invariant`), the loop invariant of the verifying finders
  (`greedyLoop_inv`) and the block-level facts about `runGreedy`
  (C01 round trip, C02 well-formedness, C03 accounting, C19 lifted to sequences).
-/
import LzProofs.ParseProbe
import LzProofs.ConfigLemmas
namespace LZ

/-! ## sequences with positions -/

/-- number of stream bytes the sequences cover -/
def seqsSpan (ss : List Seq) : Nat := (ss.map fun s => s.litLen + s.matchLen).sum

def litSum (ss : List Seq) : Nat := (ss.map (·.litLen)).sum

def matchSum (ss : List Seq) : Nat := (ss.map (·.matchLen)).sum

/-- `P pos s` holds for every sequence `s`, where `pos` is the position of the first byte
    the sequence covers (its match starts at `pos + s.litLen`) when the first sequence
    starts at the given position -/
def SeqsAll (P : Nat → Seq → Prop) : Nat → List Seq → Prop
  | _, [] => True
  | pos, s :: ss => P pos s ∧ SeqsAll P (pos + s.litLen + s.matchLen) ss

@[simp] theorem seqsSpan_nil : seqsSpan [] = 0 := rfl
@[simp] theorem litSum_nil : litSum [] = 0 := rfl
@[simp] theorem matchSum_nil : matchSum [] = 0 := rfl
@[simp] theorem seqsSpan_cons (s : Seq) (ss : List Seq) :
    seqsSpan (s :: ss) = s.litLen + s.matchLen + seqsSpan ss := by simp [seqsSpan]
@[simp] theorem litSum_cons (s : Seq) (ss : List Seq) :
    litSum (s :: ss) = s.litLen + litSum ss := by simp [litSum]
@[simp] theorem matchSum_cons (s : Seq) (ss : List Seq) :
    matchSum (s :: ss) = s.matchLen + matchSum ss := by simp [matchSum]
@[simp] theorem seqsSpan_append (a b : List Seq) : seqsSpan (a ++ b) = seqsSpan a + seqsSpan b := by
  simp [seqsSpan]
@[simp] theorem litSum_append (a b : List Seq) : litSum (a ++ b) = litSum a + litSum b := by
  simp [litSum]
@[simp] theorem matchSum_append (a b : List Seq) : matchSum (a ++ b) = matchSum a + matchSum b := by
  simp [matchSum]

theorem seqsSpan_eq (ss : List Seq) : seqsSpan ss = litSum ss + matchSum ss := by
  induction ss with
  | nil => rfl
  | cons s ss ih => simp [ih]; omega

theorem SeqsAll_append (P : Nat → Seq → Prop) (pos : Nat) (a b : List Seq) :
    SeqsAll P pos (a ++ b) ↔ SeqsAll P pos a ∧ SeqsAll P (pos + seqsSpan a) b := by
  induction a generalizing pos with
  | nil => simp [SeqsAll]
  | cons s ss ih =>
    simp only [List.cons_append, SeqsAll, ih, seqsSpan_cons]
    have e : pos + s.litLen + s.matchLen + seqsSpan ss = pos + (s.litLen + s.matchLen + seqsSpan ss) := by
      omega
    rw [e, and_assoc]

theorem SeqsAll.mono {P Q : Nat → Seq → Prop} (h : ∀ pos s, P pos s → Q pos s) :
    ∀ (pos : Nat) (ss : List Seq), SeqsAll P pos ss → SeqsAll Q pos ss := by
  intro pos ss
  induction ss generalizing pos with
  | nil => intro _; trivial
  | cons s ss ih => intro ⟨a, b⟩; exact ⟨h _ _ a, ih _ b⟩

theorem SeqsAll.and {P Q : Nat → Seq → Prop} :
    ∀ (pos : Nat) (ss : List Seq), SeqsAll P pos ss → SeqsAll Q pos ss →
      SeqsAll (fun pos s => P pos s ∧ Q pos s) pos ss := by
  intro pos ss
  induction ss generalizing pos with
  | nil => intro _ _; trivial
  | cons s ss ih => intro ⟨a, b⟩ ⟨c, d⟩; exact ⟨⟨a, c⟩, ih _ b d⟩

theorem SeqsAll_iff (P : Nat → Seq → Prop) (pos : Nat) (ss : List Seq) :
    SeqsAll P pos ss ↔ ∀ i (h : i < ss.length), P (pos + seqsSpan (ss.take i)) ss[i] := by
  induction ss generalizing pos with
  | nil => simp [SeqsAll]
  | cons s ss ih =>
    simp only [SeqsAll, ih]
    have e : ∀ x, pos + (s.litLen + s.matchLen + x) = pos + s.litLen + s.matchLen + x := by omega
    constructor
    · rintro ⟨h0, h1⟩ (_ | i) hi
      · exact h0
      · simpa only [List.take_succ_cons, seqsSpan_cons, List.getElem_cons_succ, e] using h1 i (Nat.lt_of_succ_lt_succ hi)
    · intro h
      refine ⟨h 0 (Nat.zero_lt_succ _), fun i hi => ?_⟩
      simpa only [List.take_succ_cons, seqsSpan_cons, List.getElem_cons_succ, e] using h (i + 1) (Nat.succ_lt_succ hi)

theorem mem_le_sum : ∀ (l : List Nat) (a : Nat), a ∈ l → a ≤ l.sum := by
  intro l
  induction l with
  | nil => intro a h; cases h
  | cons x xs ih =>
    intro a h
    simp only [List.sum_cons]
    rcases List.mem_cons.mp h with rfl | h
    · omega
    · have := ih a h; omega

theorem seqsAll_mem {P : Nat → LZ.Seq → Prop} : ∀ (ss : List LZ.Seq) (pos : Nat), SeqsAll P pos ss →
    ∀ q ∈ ss, ∃ pos', P pos' q := by
  intro ss
  induction ss with
  | nil => intro pos _ q hq; cases hq
  | cons s ss ih =>
    intro pos ⟨a, b⟩ q hq
    rcases List.mem_cons.mp hq with rfl | hq
    · exact ⟨pos, a⟩
    · exact ih _ b q hq

/-! ## the loop invariant -/

/-- what a finder guarantees about the sequence built from each of its matches
    (`pos` = first uncovered byte = start of the sequence's literals) -/
def ProbeSeq {δ} (F : Finder δ) (p : List Byte) (Q : Nat → Seq → Prop) : Prop :=
  ∀ d i li d' s k o, li ≤ i → F.probe d p i li = (d', some (s, k, o)) →
    Q li { litLen := s - li, matchLen := k, offset := o }

/-- Invariant of the greedy loop on the block prefix `p` started at `w`:
    the sequences and literals collected so far expand (on top of `p.take w`) to exactly
    `p.take litIndex` with no literal left over, they cover `[w, litIndex)`, and every
    sequence satisfies `Q` at its position. -/
structure LoopInv {δ} (p : List Byte) (w : Nat) (Q : Nat → Seq → Prop) (st : LoopSt δ) : Prop where
  w_le : w ≤ st.litIndex
  li_le_i : st.litIndex ≤ st.i
  li_le_len : st.litIndex ≤ p.length
  exp : expandSeqs (p.take w) st.lits st.seqs = some (p.take st.litIndex, [])
  span : w + seqsSpan st.seqs = st.litIndex
  lits : litSum st.seqs = st.lits.length
  all : SeqsAll Q w st.seqs
  prog : st.seqs ≠ [] → w < st.litIndex

theorem LoopInv.init {δ} (p : List Byte) (w : Nat) (Q : Nat → Seq → Prop) (d : δ) (hw : w ≤ p.length) :
    LoopInv p w Q ({ dict := d, i := w, litIndex := w, seqs := [], lits := [] } : LoopSt δ) :=
  ⟨Nat.le_refl _, Nat.le_refl _, hw, by simp [expandSeqs], by simp, by simp, trivial, by simp⟩

theorem LoopInv.snoc {δ ε} {p : List Byte} {w : Nat} {Q : Nat → Seq → Prop} {st : LoopSt δ}
    (h : LoopInv p w Q st) (d : ε) {s k o : Nat} (hls : st.litIndex ≤ s) (hk : st.litIndex < s + k)
    (hm : MatchOK p s k o) (hQ : Q st.litIndex { litLen := s - st.litIndex, matchLen := k, offset := o }) :
    LoopInv p w Q
      ({ dict := d, i := s + k, litIndex := s + k,
         seqs := st.seqs ++ [{ litLen := ((p.drop st.litIndex).take (s - st.litIndex)).length,
                               matchLen := k, offset := o }],
         lits := st.lits ++ (p.drop st.litIndex).take (s - st.litIndex) } : LoopSt ε) := by
  have hq : ((p.drop st.litIndex).take (s - st.litIndex)).length = s - st.litIndex := by
    have := hm.2.2.1
    simp only [List.length_take, List.length_drop]; omega
  have hw := h.w_le
  have hspan := h.span
  have hlits := h.lits
  refine ⟨by simp only; omega, Nat.le_refl _, hm.2.2.1, ?_, ?_, ?_, ?_, fun _ => by simp only; omega⟩
  · simp only
    rw [expandSeqs_snoc _ _ _ _ _ _ h.exp]
    exact expandSeqs_step p st.litIndex s k o hls hm
  · simp only [seqsSpan_append, seqsSpan_cons, seqsSpan_nil]; omega
  · simp only [litSum_append, litSum_cons, litSum_nil, List.length_append]; omega
  · simp only
    rw [SeqsAll_append, hspan, hq]
    exact ⟨h.all, hQ, trivial⟩

/-! ## the equations of `greedyLoop` -/

theorem greedyLoop_done {δ} (F : Finder δ) (p : List Byte) (stop : Nat) (st : LoopSt δ)
    (h : ¬ st.i < stop) : greedyLoop F p stop st = st := by
  rw [greedyLoop, dif_neg h]

theorem greedyLoop_none {δ} (F : Finder δ) (p : List Byte) (stop : Nat) (st : LoopSt δ) (d : δ)
    (h : st.i < stop) (hp : F.probe st.dict p st.i st.litIndex = (d, none)) :
    greedyLoop F p stop st = greedyLoop F p stop { st with dict := d, i := st.i + 1 } := by
  rw [greedyLoop, dif_pos h]
  split
  · rename_i d2 heq
    cases hp.symm.trans heq; rfl
  · rename_i heq
    cases hp.symm.trans heq

theorem greedyLoop_some {δ} (F : Finder δ) (p : List Byte) (stop : Nat) (st : LoopSt δ) (d : δ)
    (s k o : Nat) (h : st.i < stop) (hp : F.probe st.dict p st.i st.litIndex = (d, some (s, k, o)))
    (hk : s + k > st.i) :
    greedyLoop F p stop st = greedyLoop F p stop
      { dict := d, i := s + k, litIndex := s + k,
        seqs := st.seqs ++ [{ litLen := ((p.drop st.litIndex).take (s - st.litIndex)).length,
                              matchLen := k, offset := o }],
        lits := st.lits ++ (p.drop st.litIndex).take (s - st.litIndex) } := by
  rw [greedyLoop, dif_pos h]
  split
  · rename_i heq
    cases hp.symm.trans heq
  · rename_i heq
    cases hp.symm.trans heq
    exact dif_pos hk

/-- a finder that reports a match ending at or before the probe position ends the loop -/
theorem greedyLoop_bad {δ} (F : Finder δ) (p : List Byte) (stop : Nat) (st : LoopSt δ) (d : δ)
    (s k o : Nat) (h : st.i < stop) (hp : F.probe st.dict p st.i st.litIndex = (d, some (s, k, o)))
    (hk : ¬ s + k > st.i) :
    greedyLoop F p stop st = { st with dict := d, i := stop } := by
  rw [greedyLoop, dif_pos h]
  split
  · rename_i heq
    cases hp.symm.trans heq
  · rename_i heq
    cases hp.symm.trans heq
    exact dif_neg hk

/-- The induction rule of the greedy loop: a property of the loop state that every probe keeps —
    where a probe that reports a match must report one that ends behind the probed position — holds
    at the end, and the loop ends at or behind `stop`. -/
theorem greedyLoop_invariant {δ} (F : Finder δ) (p : List Byte) (stop : Nat) (J : LoopSt δ → Prop)
    (hnone : ∀ (st : LoopSt δ) d, st.i < stop → J st →
      F.probe st.dict p st.i st.litIndex = (d, none) → J { st with dict := d, i := st.i + 1 })
    (hsome : ∀ (st : LoopSt δ) d s k o, st.i < stop → J st →
      F.probe st.dict p st.i st.litIndex = (d, some (s, k, o)) →
      s + k > st.i ∧
      J { dict := d, i := s + k, litIndex := s + k,
          seqs := st.seqs ++ [{ litLen := ((p.drop st.litIndex).take (s - st.litIndex)).length,
                                matchLen := k, offset := o }],
          lits := st.lits ++ (p.drop st.litIndex).take (s - st.litIndex) }) :
    ∀ st : LoopSt δ, J st → J (greedyLoop F p stop st) ∧ ¬ (greedyLoop F p stop st).i < stop := by
  intro st
  induction st using greedyLoop.induct F p stop with
  | case1 st h d hp ih => rw [greedyLoop_none F p stop st d h hp]; exact fun hJ => ih (hnone st d h hJ hp)
  | case2 st h d s k o hp hk q ih =>
    rw [greedyLoop_some F p stop st d s k o h hp hk]; exact fun hJ => ih (hsome st d s k o h hJ hp).2
  | case3 st h d s k o hp hk => exact fun hJ => absurd (hsome st d s k o h hJ hp).1 hk
  | case4 st h => rw [greedyLoop_done F p stop st h]; exact fun hJ => ⟨hJ, h⟩

theorem greedyLoop_inv {δ} (F : Finder δ) (p : List Byte) (ws mm w stop : Nat)
    (Q : Nat → Seq → Prop) (hF : ProbeOK F p ws mm) (hQ : ProbeSeq F p Q) :
    ∀ st : LoopSt δ, LoopInv p w Q st → LoopInv p w Q (greedyLoop F p stop st) := by
  refine fun st h => (greedyLoop_invariant F p stop (LoopInv p w Q) ?_ ?_ st h).1
  · intro st d _ hinv _
    exact { hinv with li_le_i := Nat.le_succ_of_le hinv.li_le_i }
  · intro st d s k o _ hinv hp
    obtain ⟨p1, p2, p3, hm, -⟩ := hF _ _ _ _ _ _ _ hinv.li_le_i hp
    exact ⟨p3, hinv.snoc d p1 (by omega) hm (hQ _ _ _ _ _ _ _ hinv.li_le_i hp)⟩

/-! ## per-sequence properties -/

/-- C02: a sequence whose literals start at (buffer) position `pos` is well-formed for
    window size `ws` and minimum match length `mm` -/
def SeqWF (ws mm : Nat) (pos : Nat) (s : Seq) : Prop :=
  1 ≤ s.offset ∧ s.offset ≤ ws ∧ s.offset ≤ pos + s.litLen ∧ mm ≤ s.matchLen ∧ s.aux = 0

def SeqGenuine (p : List Byte) (pos : Nat) (s : Seq) : Prop :=
  MatchOK p (pos + s.litLen) s.matchLen s.offset

/-- C19: the match cannot be extended to the right inside `p` -/
def SeqRightMax (p : List Byte) (pos : Nat) (s : Seq) : Prop :=
  pos + s.litLen + s.matchLen = p.length ∨
    p[pos + s.litLen + s.matchLen]? ≠ p[pos + s.litLen + s.matchLen - s.offset]?

/-- C19 (BHP, BDHP): no literal is left directly in front of the match when it equals the
    byte `offset` before it and that byte is buffered: either the sequence has no literal,
    or the match source starts at the buffer start, or the two bytes differ -/
def SeqLeftMax (p : List Byte) (pos : Nat) (s : Seq) : Prop :=
  s.litLen = 0 ∨ s.offset = pos + s.litLen ∨
    p[pos + s.litLen - 1]? ≠ p[pos + s.litLen - 1 - s.offset]?

/-- everything the greedy parsers guarantee about a sequence -/
def SeqGood (p : List Byte) (ws mm : Nat) (back : Bool) (pos : Nat) (s : Seq) : Prop :=
  SeqWF ws mm pos s ∧ SeqGenuine p pos s ∧ SeqRightMax p pos s ∧ (back = true → SeqLeftMax p pos s)

theorem ProbeOK.probeSeq {δ} {F : Finder δ} {p : List Byte} {ws mm : Nat} (h : ProbeOK F p ws mm) :
    ProbeSeq F p (fun pos s => SeqWF ws mm pos s ∧ SeqGenuine p pos s) := by
  intro d i li d' s k o hli hp
  obtain ⟨h1, -, -, h4, h5, h6⟩ := h d i li d' s k o hli hp
  have e := Nat.add_sub_cancel' h1
  exact ⟨⟨h4.1, h5, by simp only [e]; exact h4.2.1, h6, rfl⟩, by simp only [SeqGenuine, e]; exact h4⟩

theorem Verifying.probeSeq {δ} {F : Finder δ} {p : List Byte} {ws mm : Nat} {back : Bool}
    (h : Verifying F p ws mm back) (hmm : 1 ≤ mm) : ProbeSeq F p (SeqGood p ws mm back) := by
  intro d i li d' s k o hli hp
  obtain ⟨⟨h1, -⟩, hr, hl⟩ := (h d i li d' s k o hp).ok hmm hli
  obtain ⟨hwf, hgen⟩ := (h.probeOK hmm).probeSeq d i li d' s k o hli hp
  refine ⟨hwf, hgen, ?_, fun hb => ?_⟩
  · simp only [SeqRightMax, Nat.add_sub_cancel' h1]; exact hr
  · simp only [SeqLeftMax, Nat.add_sub_cancel' h1]
    exact (hl hb).imp (by omega) (Or.imp_left Eq.symm)

/-! ## block level -/

/-- What every parser guarantees about one emitted block: `p` is the buffer up to the block
    end, `w` the old and `w'` the new parse position, `Q` a per-sequence property. -/
structure BlockOK (p : List Byte) (w flags : Nat) (Q : Nat → Seq → Prop) (w' : Nat) (blk : Block) :
    Prop where
  /-- C01: the reference expander reproduces exactly the covered bytes -/
  roundtrip : expand (p.take w) blk = some (p.take w')
  le : w ≤ w'
  le_len : w' ≤ p.length
  /-- C03: progress -/
  prog : w < p.length → w < w'
  /-- C03: `n = w' - w` is the number of bytes the block represents -/
  len : w + blk.len = w'
  /-- C02 / C19: every sequence satisfies `Q` at its position -/
  all : SeqsAll Q w blk.seqs
  /-- C02: the sequences never claim more literals than the block carries -/
  lits : litSum blk.seqs ≤ blk.lits.length
  /-- C03: without `NoTrailingLiterals` (or without any match) the block reaches the block end -/
  full : flags % 2 = 0 ∨ blk.seqs = [] → w' = p.length
  /-- C03: with `NoTrailingLiterals` and a match the block ends with its last match -/
  trunc : flags % 2 = 1 → blk.seqs ≠ [] →
    blk.lits.length = litSum blk.seqs ∧ w' = w + seqsSpan blk.seqs

theorem Block.len_eq (b : Block) : b.len = b.lits.length + matchSum b.seqs := rfl

theorem finishBlock_ok {δ} (p : List Byte) (w flags : Nat) (Q : Nat → Seq → Prop) (st : LoopSt δ)
    (h : LoopInv p w Q st) :
    BlockOK p w flags Q (finishBlock p flags st).1 (finishBlock p flags st).2 := by
  have hspan := h.span
  have hlits := h.lits
  have hse := seqsSpan_eq st.seqs
  unfold finishBlock
  split
  · rename_i hc
    refine ⟨?_, h.w_le, h.li_le_len, fun _ => h.prog hc.2, ?_, h.all, by simp [hlits], ?_, ?_⟩
    · simp only [expand, h.exp]; simp
    · simp only [Block.len_eq]; omega
    · intro hh; rcases hh with hh | hh
      · omega
      · exact absurd hh hc.2
    · intro _ _; simp only; omega
  · rename_i hc
    have hli := h.li_le_len
    refine ⟨?_, by simp only; omega, by simp, fun hw => by simp only; omega, ?_, h.all,
      by simp; omega, fun _ => rfl, ?_⟩
    · simp only [expand, expandSeqs_append_lits _ _ _ _ _ _ h.exp]
      simp
    · simp only [Block.len_eq, List.length_append, List.length_drop]; omega
    · intro h1 h2; exact absurd ⟨h1, h2⟩ hc

theorem finishBlock_seqs {δ} (p : List Byte) (flags : Nat) (st : LoopSt δ) :
    (finishBlock p flags st).2.seqs = st.seqs := by
  unfold finishBlock; split <;> rfl

/-- the block ends at the end of `p` unless it is cut at a last match that ends before it -/
theorem finishBlock_fst {δ} (p : List Byte) (flags : Nat) (st : LoopSt δ) (hli : st.litIndex ≤ p.length)
    (h : ¬ (flags % 2 = 1 ∧ st.seqs ≠ [] ∧ st.litIndex < p.length)) :
    (finishBlock p flags st).1 = p.length := by
  unfold finishBlock
  split
  · rename_i h2
    exact Nat.le_antisymm hli (Nat.le_of_not_lt fun hlt => h ⟨h2.1, h2.2, hlt⟩)
  · rfl

/-- Block-level theorem for all greedy parsers: `runGreedy` with a finder that satisfies the
    probe contract produces a correct block, whatever the dictionary `d` contains. -/
theorem runGreedy_ok {δ} (F : Finder δ) (d : δ) (p : List Byte) (ws mm w stop flags : Nat)
    (Q : Nat → Seq → Prop) (hF : ProbeOK F p ws mm) (hQ : ProbeSeq F p Q) (hw : w ≤ p.length) :
    BlockOK p w flags Q (Parser.runGreedy F d p w stop flags).2.1 (Parser.runGreedy F d p w stop flags).2.2.1 := by
  have := greedyLoop_inv F p ws mm w stop Q hF hQ _ (LoopInv.init p w Q d hw)
  exact finishBlock_ok p w flags Q _ this

/-! ## the new `W` of a block -/

namespace Parser

theorem runGreedy_w {δ} (F : Finder δ) (d : δ) (p : List Byte) (w stop flags : Nat) :
    (runGreedy F d p w stop flags).2.1 =
      (finishBlock p flags (greedyLoop F p stop { dict := d, i := w, litIndex := w, seqs := [], lits := [] })).1 :=
  rfl

theorem runGreedy_w_even {δ} (F : Finder δ) (d : δ) (p : List Byte) (w stop flags : Nat)
    (hf : flags % 2 = 0) : (runGreedy F d p w stop flags).2.1 = p.length := by
  rw [runGreedy_w]; unfold finishBlock; rw [if_neg (by omega)]

theorem runGreedy_w_le {δ} {F : Finder δ} {p : List Byte} {ws mm : Nat} {back : Bool}
    (hv : Verifying F p ws mm back) (hmm : 1 ≤ mm) (d : δ) (w stop flags : Nat) (hw : w ≤ p.length) :
    (runGreedy F d p w stop flags).2.1 ≤ p.length :=
  (runGreedy_ok F d p ws mm w stop flags _ (hv.probeOK hmm) (hv.probeSeq hmm) hw).le_len

end Parser

end LZ
