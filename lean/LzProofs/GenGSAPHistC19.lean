/-
  C19 (right-maximality of every emitted match w.r.t. the bytes fed) stated about the
  translation of the Go text of the greedy suffix-array parser GSAP, as LzProofs/GenC19Hist.lean `C19_go_text_hp`,
  `C19_right_go_text_hp`, through `gen_gsap_history` (LzProofs/GenGSAPHistRun.lean).  The model-level theorem is
  `C19_maximal_reachable_log .GSAP` (LzProofs/C19Hist.lean; every kind except OSAP, no hypothesis beyond
  `newParser … = some s0`).  Under the three specification hypotheses `GsapSpecs lcp SS BI`.
-/
import LzProofs.GenGSAPHistRun
import LzProofs.GenC19Hist

set_option linter.unusedSimpArgs false
set_option linter.unusedVariables false

namespace LZ.GenGSAPHist
open LZ LZ.Gen LZ.GenBuf LZ.GenHash LZ.GenHPParse LZ.GenProps LZ.GenGSAP
open LZ.GenHPHist (GOpR GOpR.abs ghostRunR)
open LZ.GenC19Hist (EventRightMax eventMax_right)

variable {lcp : Slice → Slice → Int} {SS : Slice → GSlice Int32 → Res (GSlice Int32)}
  {BI : Gen.bitset → List Int → Res Gen.bitset}

/-- C19 about the Go text of GSAP (right-maximality w.r.t. the bytes fed; `EventMax … false`) -/
theorem C19_go_text_gsap (cfg : Gen.GSAPConfig) (s0 : Gen.gsap)
    (hinit : gsap_init default cfg = Res.ok (s0, Gen.Err.ok)) (sp : GsapSpecs lcp SS BI)
    (extra : Nat) (grow : Nat → Nat → Nat) (fuel : Nat)
    (hfuel : 2 * s0.ParserBuffer.BufConfig.BufferSize.toNat + 5 ≤ fuel)
    (ops : List GOpR) (hwf : ∀ op ∈ ops, op.WF) :
    ∃ t rs, runG extra grow fuel lcp SS BI s0 ops = Res.ok (t, rs) ∧
      let g := ghostRunR Ghost.init ops rs
      LogAll (EventMax g.fed false s0.ParserBuffer.BufConfig.BlockSize.toNat) 0 g.log := by
  obtain ⟨p, t, rs, g, hp, h0, h1, -, -, -, h4, -⟩ := gen_gsap_history cfg s0 hinit sp extra grow fuel hfuel ops hwf
  subst h0
  refine ⟨t, rs, h1, ?_⟩
  intro gg
  have hg : gg = (runOps (ofGSAPs s0 GsapD.empty, Ghost.init) (ops.map GOpR.abs)).2 := h4
  rw [hg]
  exact C19_maximal_reachable_log .GSAP (by decide) (ofGSAP cfg) _ hp false (by simp) (ops.map GOpR.abs)

theorem C19_right_go_text_gsap (cfg : Gen.GSAPConfig) (s0 : Gen.gsap)
    (hinit : gsap_init default cfg = Res.ok (s0, Gen.Err.ok)) (sp : GsapSpecs lcp SS BI)
    (extra : Nat) (grow : Nat → Nat → Nat) (fuel : Nat)
    (hfuel : 2 * s0.ParserBuffer.BufConfig.BufferSize.toNat + 5 ≤ fuel)
    (ops : List GOpR) (hwf : ∀ op ∈ ops, op.WF) :
    ∃ t rs, runG extra grow fuel lcp SS BI s0 ops = Res.ok (t, rs) ∧
      let g := ghostRunR Ghost.init ops rs
      LogAll (EventRightMax g.fed s0.ParserBuffer.BufConfig.BlockSize.toNat) 0 g.log := by
  obtain ⟨t, rs, h1, h2⟩ := C19_go_text_gsap cfg s0 hinit sp extra grow fuel hfuel ops hwf
  exact ⟨t, rs, h1, LogAll.mono (fun pos e he => eventMax_right he) _ _ h2⟩

end LZ.GenGSAPHist

#print axioms LZ.GenGSAPHist.C19_go_text_gsap
#print axioms LZ.GenGSAPHist.C19_right_go_text_gsap
