/-
  The parser configuration BUPConfig: `SetDefaults` / `Verify` through the reflective helpers, which appear in the
  generated code as the field copies the extractor read from their source.  `ofBUP` reads the generated struct as the
  model's union record `Cfg` (fields the kind does not have are zero), `toBUP` is the inverse on `Cfg.restrict .BUP`.
  Go `int`/`int64` are unbounded `Int` on both sides (overflow is out of scope), `uint32`/`uint64` wrap around.  The
  proofs do not depend on the shape of the generated term (see GenPropsBase).
-/
import LzModel.Generated.CodeCfgBUP
import LzProofs.GenPropsCfgBuf
import LzProofs.GenPropsCfgBucket

set_option linter.unusedSimpArgs false

namespace LZ.GenProps
open LZ

def ofBUP (c : Gen.BUPConfig) : Cfg :=
  { shrinkSize := c.ShrinkSize, bufferSize := c.BufferSize, windowSize := c.WindowSize,
    blockSize := c.BlockSize,
    inputLen := c.InputLen, hashBits := c.HashBits, bucketSize := c.BucketSize }

def toBUP (c : Cfg) : Gen.BUPConfig :=
  { ShrinkSize := c.shrinkSize, BufferSize := c.bufferSize, WindowSize := c.windowSize,
    BlockSize := c.blockSize,
    InputLen := c.inputLen, HashBits := c.hashBits, BucketSize := c.bucketSize }

theorem ofBUP_toBUP (c : Cfg) : ofBUP (toBUP c) = c.restrict .BUP := by
  simp [ofBUP, toBUP, Cfg.restrict, Kind.fields]

theorem toBUP_ofBUP (c : Gen.BUPConfig) : toBUP (ofBUP c) = c := rfl

theorem gen_setDefaults_BUP (c : Gen.BUPConfig) :
    ofBUP (Gen.BUPConfig_SetDefaults c) = setDefaults .BUP (ofBUP c) := by
  simp only [Gen.BUPConfig_SetDefaults, gen_helper, gen_bufDefaults', gen_bucketDefaults]
  rfl

theorem gen_verify_BUP (c : Gen.BUPConfig) :
    Gen.BUPConfig_Verify c = .ok ↔ verify .BUP (ofBUP c) = true := by
  -- the model's `verify` kind by kind (`verify_bup`), and what the two helper checks of the generated code mean
  have hb : Gen.BufConfig_Verify ⟨c.ShrinkSize, c.BufferSize, c.WindowSize, c.BlockSize⟩ = .ok ↔ bufVerify (ofBUP c) = true := gen_bufVerify _
  have hk := gen_bucketVerify ⟨c.InputLen, c.HashBits, c.BucketSize⟩
  rw [verify_bup, ← hb]
  dsimp only [ofBUP] at hk ⊢
  rw [← hk]
  -- the rest is propositional in the two results, whatever the shape of the generated function
  dsimp only [Gen.BUPConfig_Verify, gen_helper]
  generalize Gen.BufConfig_Verify _ = e1
  generalize Gen.bucketConfig_Verify _ = e2
  cases e1 <;> cases e2 <;> gen_ifs

theorem tieBUP : CfgTie .BUP ofBUP toBUP Gen.BUPConfig_SetDefaults Gen.BUPConfig_Verify :=
  ⟨ofBUP_toBUP, gen_setDefaults_BUP, gen_verify_BUP⟩

theorem gen_accepted_BUP (c : Cfg) :
    accepted .BUP c = true ↔ Gen.BUPConfig_Verify (Gen.BUPConfig_SetDefaults (toBUP c)) = .ok :=
  tieBUP.accepted c

end LZ.GenProps
