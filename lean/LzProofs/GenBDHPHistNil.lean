/-
  LzProofs.GenBDHPHistNil — histories of the translated operations of BDHP (bdhp.go) WITH `Parse(nil, flags)`, and
  property C14 about the Go text, built like LzProofs/GenHPHistNil.lean on the per-operation lemmas of GenBDHPHist /
  GenBDHPHistRun / GenBDHPHistRF; the additional operation is `bdhp_Parse_nilable … true ghost flags`
  (LzProofs/GenBDHPParseNil.lean), model operation `.parseNil`, ghost log entry `Event.skip`.  `lcs` stays the opaque
  parameter of the translation of bdhp.go under `LcsSpec` (the nil path itself does not call it); fuel
  `2·BufferSize + 3` as in GenBDHPHistRun.
-/
import LzProofs.GenBDHPParseNil
import LzProofs.GenBDHPHistRF
import LzProofs.GenHPHistNil

set_option linter.unusedSimpArgs false
set_option linter.unusedVariables false

namespace LZ.GenBDHPHist
open LZ LZ.Gen LZ.GenBuf LZ.GenHash LZ.GenHPParse LZ.GenBHPParse LZ.GenDHPParse LZ.GenBDHPParse LZ.GenProps LZ.GenNil
open LZ.GenHPHist (BCOK parseErr_ok_iff RFun RFSpec rfGo rfGo_spec GOpR GResR GOpR.WF GOpR.abs resAgreeR ghostStepR C14_go)

theorem hist_parseNil {bc : BufCfg} (grow : Nat → Nat → Nat) (fuel : Nat) (lcs : Slice → Slice → Int)
    (t : Gen.bdhp) (h : HistOKBD bc t) (ghost : Gen.Block') (flags : Int)
    (hfuel : t.doubleHashDictionary.ParserBuffer.Data.len + 2 ≤ fuel) :
    ∃ t', bdhp_Parse_nilable grow fuel lcs t true ghost flags =
        Res.ok (t', ghost, (((ofBDHPs t).parseNil).2.1 : Int), parseErr ((ofBDHPs t).parseNil).2.2) ∧
      HistOKBD bc t' ∧ ofBDHPs t' = ((ofBDHPs t).parseNil).1 ∧
      t'.doubleHashDictionary.ParserBuffer.Data = t.doubleHashDictionary.ParserBuffer.Data := by
  obtain ⟨t', h1, h2, h3, h4, t01, t02, h5⟩ := gen_bdhp_parseNil_model grow fuel lcs t ghost flags h.pok hfuel h.cap h.dictOK.1
  subst h5
  exact ⟨_, h1, ⟨h4, h.cfg, h.len, h.cap, h.il8⟩, h2, rfl⟩

/-! ## histories with `Parse(nil)` -/

inductive GOpN where
  | r (op : GOpR)
  /-- `Parse(nil, flags)`; `ghost` is the value that accompanies the nil flag (never looked at) -/
  | parseNil (ghost : Gen.Block') (flags : Int)

inductive GResN where
  | r (res : GResR)
  /-- the block value handed back (the ghost), `n`, the error -/
  | parseNil (blk : Gen.Block') (n : Int) (err : Gen.Err)

def GOpN.WF : GOpN → Prop
  | .r op => op.WF
  | .parseNil _ _ => True

def GOpN.abs : GOpN → POp
  | .r op => op.abs
  | .parseNil _ _ => .parseNil

def stepN (RF : RFun) (grow : Nat → Nat → Nat) (fuel : Nat) (lcs : Slice → Slice → Int) (s : Gen.bdhp) : GOpN → Res (Gen.bdhp × GResN)
  | .r op => Res.bind (stepGR RF grow fuel lcs s op) fun x => Res.ok (x.1, .r x.2)
  | .parseNil ghost flags =>
    Res.bind (bdhp_Parse_nilable grow fuel lcs s true ghost flags) fun x => Res.ok (x.1, .parseNil x.2.1 x.2.2.1 x.2.2.2)

def runN (RF : RFun) (grow : Nat → Nat → Nat) (fuel : Nat) (lcs : Slice → Slice → Int) :
    Gen.bdhp → List GOpN → Res (Gen.bdhp × List GResN)
  | s, [] => Res.ok (s, [])
  | s, op :: ops =>
    Res.bind (stepN RF grow fuel lcs s op) fun x =>
    Res.bind (runN RF grow fuel lcs x.1 ops) fun q => Res.ok (q.1, x.2 :: q.2)

def resAgreeN (m : Parser) : GOpN → GResN → Prop
  | .r op, .r res => resAgreeR m op res
  | .parseNil ghost _, .parseNil blk' n e =>
    n = ((m.parseNil).2.1 : Int) ∧ e = parseErr (m.parseNil).2.2 ∧ blk' = ghost
  | _, _ => False

def ResultsAgreeN : Parser × Ghost → List GOpN → List GResN → Prop
  | _, [], [] => True
  | sg, op :: ops, r :: rs => resAgreeN sg.1 op r ∧ ResultsAgreeN (step sg op.abs) ops rs
  | _, _, _ => False

/-- the C01 / C14 bookkeeping from the Go calls and results alone: a successful `Parse(nil)` hands the next `n` bytes of
    the stream to the decoder verbatim -/
def ghostStepN (g : Ghost) : GOpN → GResN → Ghost
  | .r op, .r res => ghostStepR g op res
  | .parseNil _ _, .parseNil _ n e =>
    if e = Gen.Err.ok then
      { g with consumed := g.consumed + n.toNat, log := g.log ++ [.skip ((g.fed.drop g.consumed).take n.toNat)] }
    else g
  | _, _ => g

def ghostRunN : Ghost → List GOpN → List GResN → Ghost
  | g, op :: ops, r :: rs => ghostRunN (ghostStepN g op r) ops rs
  | g, _, _ => g

/-- `GOpN` / `GResN` read on the model -/
def callsN : GenHist.Calls GOpN GResN := ⟨GOpN.WF, GOpN.abs, ghostStepN, resAgreeN⟩

theorem ghostRunN_eq : ghostRunN = callsN.ghostRun :=
  GenHist.ghostRun_unique (fun _ _ _ _ _ => rfl) (fun _ _ => rfl) (fun _ _ _ => rfl)

theorem resultsAgreeN_eq : ResultsAgreeN = callsN.ResultsAgree :=
  GenHist.resultsAgree_unique (fun _ _ _ _ _ => rfl) (fun _ => rfl) (fun _ _ _ => rfl) (fun _ _ _ => rfl)

theorem stepN_sim {bc : BufCfg} (hbc : BCOK bc) (RF : RFun) (hRF : RFSpec RF) (grow : Nat → Nat → Nat) (fuel : Nat) (lcs : Slice → Slice → Int) (hlcs : LcsSpec lcs)
    (hfuel : 2 * bc.bufferSize + 3 ≤ fuel) :
    GenHist.StepSim callsN (stepN RF grow fuel lcs) (GenHist.FInv (HistOKBD bc) ofBDHPs) := by
  intro t sg op h hop
  cases op with
  | r op =>
    obtain ⟨t', r, h1, h2, h3, h4⟩ := stepGR_sim hbc RF hRF grow fuel lcs hlcs hfuel t sg op h hop
    exact ⟨t', .r r, by simp only [stepN, h1]; rfl, h2, h3, h4⟩
  | parseNil ghost flags =>
    obtain ⟨m, g⟩ := sg
    obtain ⟨⟨h, rfl⟩, -⟩ := h
    obtain ⟨t', h1, h2, h3, -⟩ := hist_parseNil grow fuel lcs t h ghost flags (by have := h.len; omega)
    refine ⟨t', .parseNil ghost _ _, by simp only [stepN, h1]; rfl,
      ⟨⟨h2, h3.trans (step_parseNil_fst (ofBDHPs t, g)).symm⟩, trivial⟩, ?_, rfl, rfl, rfl⟩
    simp only [callsN, ghostStepN, step, GOpN.abs, parseErr_ok_iff _ (Parser.parseNil_err _), Int.toNat_natCast]
    split <;> rfl

theorem runN_eq (RF : RFun) (grow : Nat → Nat → Nat) (fuel : Nat) (lcs : Slice → Slice → Int) :
    runN RF grow fuel lcs = GenHist.run (stepN RF grow fuel lcs) :=
  GenHist.run_unique (fun _ => rfl) (fun _ _ _ => rfl)

/-- the simulation from `bdhp.init` for histories of Write / ReadFrom / Parse(&blk) / Parse(nil) / Shrink / Reset,
    every operation a translated function (`ReadFrom` against the scripted reader) -/
theorem gen_bdhp_history_nil (cfg : Gen.BDHPConfig) (s0 : Gen.bdhp)
    (hinit : bdhp_init default cfg = Res.ok (s0, Gen.Err.ok))
    (extra : Nat) (grow : Nat → Nat → Nat) (fuel : Nat) (lcs : Slice → Slice → Int) (hlcs : LcsSpec lcs)
    (hfuel : 2 * s0.doubleHashDictionary.ParserBuffer.BufConfig.BufferSize.toNat + 3 ≤ fuel)
    (ops : List GOpN) (hwf : ∀ op ∈ ops, op.WF) :
    ∃ p t rs, newParser .BDHP (ofBDHP cfg) = some p ∧ ofBDHPs s0 = p ∧
      runN (rfGo extra) grow fuel lcs s0 ops = Res.ok (t, rs) ∧ HistOKBD p.buf.cfg t ∧ BCOK p.buf.cfg ∧
      2 * p.buf.cfg.bufferSize + 3 ≤ fuel ∧
      ofBDHPs t = (runOps (p, Ghost.init) (ops.map GOpN.abs)).1 ∧
      ghostRunN Ghost.init ops rs = (runOps (p, Ghost.init) (ops.map GOpN.abs)).2 ∧
      ResultsAgreeN (p, Ghost.init) ops rs := by
  obtain ⟨p, hp, hbc, hf, h0⟩ := init_inv cfg s0 hinit fuel hfuel
  rw [runN_eq, ghostRunN_eq, resultsAgreeN_eq]
  obtain ⟨t, rs, k1, ⟨⟨k2, k3⟩, -⟩, k4, k5⟩ :=
    GenHist.run_sim (stepN_sim hbc (rfGo extra) (rfGo_spec extra) grow fuel lcs hlcs hf) ops s0 _ h0 hwf
  exact ⟨p, t, rs, hp, h0.1.2, k1, k2, hbc, hf, k3, k4, k5⟩

/-! ## the property theorems -/

/-- C01 about the Go text of BDHP, histories WITH `Parse(nil)`.  Run any history of `Write`, `ReadFrom`,
    `Parse(&blk, flags)`, `Parse(nil, flags)`, `Shrink`, `Reset` on the translated functions.  No call panics or runs out
    of fuel, and the reference decoder, applied to what the calls produced since the last successful `Reset` — the blocks
    of `Parse(&blk)` and, for every `Parse(nil)` that returned `n > 0`, the next `n` bytes of the stream VERBATIM
    (`Event.skip`) —, yields exactly the first `consumed` bytes fed, `consumed` = the sum of all returned `n`.  So blocks
    parsed after a skipped segment are correct for a decoder that received the skipped bytes verbatim (they may
    reference them as match sources). -/
theorem C01_go_text_bdhp_nil (cfg : Gen.BDHPConfig) (s0 : Gen.bdhp)
    (hinit : bdhp_init default cfg = Res.ok (s0, Gen.Err.ok))
    (extra : Nat) (grow : Nat → Nat → Nat) (fuel : Nat) (lcs : Slice → Slice → Int) (hlcs : LcsSpec lcs)
    (hfuel : 2 * s0.doubleHashDictionary.ParserBuffer.BufConfig.BufferSize.toNat + 3 ≤ fuel)
    (ops : List GOpN) (hwf : ∀ op ∈ ops, op.WF) :
    ∃ t rs, runN (rfGo extra) grow fuel lcs s0 ops = Res.ok (t, rs) ∧
      decode [] (ghostRunN Ghost.init ops rs).log =
        some ((ghostRunN Ghost.init ops rs).fed.take (ghostRunN Ghost.init ops rs).consumed) := by
  obtain ⟨p, t, rs, hp, -, h1, -, -, -, -, h4, -⟩ := gen_bdhp_history_nil cfg s0 hinit extra grow fuel lcs hlcs hfuel ops hwf
  exact ⟨t, rs, h1, GenHist.C01_ghost hp (histHyp_of_ne .BDHP p (by decide)) h4⟩

/-- C03 about the Go text of BDHP, histories WITH `Parse(nil)`: blocks and skipped segments tile the consumed stream. -/
theorem C03_go_text_bdhp_nil (cfg : Gen.BDHPConfig) (s0 : Gen.bdhp)
    (hinit : bdhp_init default cfg = Res.ok (s0, Gen.Err.ok))
    (extra : Nat) (grow : Nat → Nat → Nat) (fuel : Nat) (lcs : Slice → Slice → Int) (hlcs : LcsSpec lcs)
    (hfuel : 2 * s0.doubleHashDictionary.ParserBuffer.BufConfig.BufferSize.toNat + 3 ≤ fuel)
    (ops : List GOpN) (hwf : ∀ op ∈ ops, op.WF) :
    ∃ t rs, runN (rfGo extra) grow fuel lcs s0 ops = Res.ok (t, rs) ∧
      let g := ghostRunN Ghost.init ops rs
      LogAll (fun pos e => 1 ≤ e.n ∧ e.n ≤ s0.doubleHashDictionary.ParserBuffer.BufConfig.BlockSize.toNat ∧
        pos + e.n ≤ g.fed.length ∧
        ∀ n fl blk, e = .block n fl blk →
          blk.len = n ∧ expand (g.fed.take pos) blk = some (g.fed.take (pos + n)) ∧
          (fl % 2 = 1 → blk.seqs ≠ [] → blk.lits.length = litSum blk.seqs ∧ n = seqsSpan blk.seqs)) 0 g.log ∧
      logSpan g.log = g.consumed ∧ g.consumed ≤ g.fed.length := by
  obtain ⟨p, t, rs, hp, h0, h1, -, -, -, -, h4, -⟩ := gen_bdhp_history_nil cfg s0 hinit extra grow fuel lcs hlcs hfuel ops hwf
  subst h0
  exact ⟨t, rs, h1, GenHist.C03_ghost hp (histHyp_of_ne .BDHP _ (by decide)) h4⟩

/-- C14 (skipped bytes verbatim) about the Go text of BDHP: every skip entry of the log is a non-empty segment of at
    most `BlockSize` bytes and IS the segment of the fed stream at its position. -/
theorem C14_skip_go_text_bdhp (cfg : Gen.BDHPConfig) (s0 : Gen.bdhp)
    (hinit : bdhp_init default cfg = Res.ok (s0, Gen.Err.ok))
    (extra : Nat) (grow : Nat → Nat → Nat) (fuel : Nat) (lcs : Slice → Slice → Int) (hlcs : LcsSpec lcs)
    (hfuel : 2 * s0.doubleHashDictionary.ParserBuffer.BufConfig.BufferSize.toNat + 3 ≤ fuel)
    (ops : List GOpN) (hwf : ∀ op ∈ ops, op.WF) :
    ∃ t rs, runN (rfGo extra) grow fuel lcs s0 ops = Res.ok (t, rs) ∧
      let g := ghostRunN Ghost.init ops rs
      LogAll (fun pos e => ∀ b, e = .skip b →
        1 ≤ b.length ∧ b.length ≤ s0.doubleHashDictionary.ParserBuffer.BufConfig.BlockSize.toNat ∧
        b = (g.fed.drop pos).take b.length) 0 g.log := by
  obtain ⟨p, t, rs, hp, h0, h1, -, -, -, -, h4, -⟩ := gen_bdhp_history_nil cfg s0 hinit extra grow fuel lcs hlcs hfuel ops hwf
  subst h0
  exact ⟨t, rs, h1, GenHist.C14_skip_ghost hp (histHyp_of_ne .BDHP _ (by decide)) h4⟩

/-- C14 about the Go text of BDHP.  After ANY history of the translated `Write`, `ReadFrom`, `Parse(&blk)`,
    `Parse(nil)`, `Shrink`, `Reset` from `bdhp.init`, let `t` be the Go state reached.  For every `flags`, every
    ghost value and every block `blk` of the caller: the translated `Parse(nil, flags)` and the translated
    `Parse(&blk, 0)`, both run from `t`, return THE SAME `n` and THE SAME error, and leave THE SAME buffer `Data` and THE
    SAME `W`; `n = min(BlockSize, len(Data) - W)`; the error is `ErrEmptyBuffer` if `n = 0` and `nil` otherwise;
    `Parse(nil)` hands the ghost block back unchanged (it writes nothing) and leaves `Data` as it was.  (That repeated
    calls drain the buffer follows: each call with `n > 0` advances `W` by `n`; see also `C14_drains`.) -/
theorem C14_go_text_bdhp (cfg : Gen.BDHPConfig) (s0 : Gen.bdhp)
    (hinit : bdhp_init default cfg = Res.ok (s0, Gen.Err.ok))
    (extra : Nat) (grow : Nat → Nat → Nat) (fuel : Nat) (lcs : Slice → Slice → Int) (hlcs : LcsSpec lcs)
    (hfuel : 2 * s0.doubleHashDictionary.ParserBuffer.BufConfig.BufferSize.toNat + 3 ≤ fuel)
    (ops : List GOpN) (hwf : ∀ op ∈ ops, op.WF) (ghost blk : Gen.Block') (flags : Int) :
    ∃ t rs, runN (rfGo extra) grow fuel lcs s0 ops = Res.ok (t, rs) ∧
      ∃ t1 t2 blk' n e,
        bdhp_Parse_nilable grow fuel lcs t true ghost flags = Res.ok (t1, ghost, n, e) ∧
        bdhp_Parse grow fuel lcs t blk 0 = Res.ok (t2, blk', n, e) ∧
        t1.doubleHashDictionary.ParserBuffer.Data = t2.doubleHashDictionary.ParserBuffer.Data ∧
        t1.doubleHashDictionary.ParserBuffer.W = t2.doubleHashDictionary.ParserBuffer.W ∧
        t1.doubleHashDictionary.ParserBuffer.Data = t.doubleHashDictionary.ParserBuffer.Data ∧
        t1.doubleHashDictionary.ParserBuffer.W = t.doubleHashDictionary.ParserBuffer.W + n ∧
        n = Min.min t.BDHPConfig.BlockSize ((t.doubleHashDictionary.ParserBuffer.Data.len : Int) - t.doubleHashDictionary.ParserBuffer.W) ∧
        (n = 0 → e = Gen.ErrEmptyBuffer ∧ t1 = t) ∧ (n ≠ 0 → e = Gen.Err.ok) := by
  obtain ⟨p, t, rs, hp, h0, h1, hH, hbc, hf, h3, -, -⟩ :=
    gen_bdhp_history_nil cfg s0 hinit extra grow fuel lcs hlcs hfuel ops hwf
  refine ⟨t, rs, h1, ?_⟩
  have hlen := hH.len
  obtain ⟨t1, e1, hH1, m1, d1⟩ := hist_parseNil grow fuel lcs t hH ghost flags (by omega)
  obtain ⟨t2, blk', e2, m2, st2, -, -, -, pk2⟩ := gen_bdhp_parse_model grow fuel lcs hlcs t blk 0 hH.pok (Int.le_refl 0) (by omega)
    (ofBDHP cfg) p hp (ops.map GOpN.abs) h3
  have hM := C14_same_n_greedy_reachable .BDHP (by decide) (ofBDHP cfg) p hp (ops.map GOpN.abs) 0 rfl
  rw [← h3] at hM
  exact C14_go (bufHost hbc) (fun t => t.BDHPConfig.BlockSize)
    (pn := fun t g f => bdhp_Parse_nilable grow fuel lcs t true g f)
    (pa := bdhp_Parse grow fuel lcs) t hH hH.pok.bs0 hH.pok.cbs ghost blk flags ⟨t1, e1, hH1, m1, d1⟩
    ⟨t2, blk', e2, m2, rfl, pk2.wf.1, st2⟩ hM
    (gen_bdhp_parseNil_empty grow fuel lcs t ghost flags)

end LZ.GenBDHPHist

#print axioms LZ.GenBDHPHist.hist_parseNil
#print axioms LZ.GenBDHPHist.gen_bdhp_history_nil
#print axioms LZ.GenBDHPHist.C01_go_text_bdhp_nil
#print axioms LZ.GenBDHPHist.C03_go_text_bdhp_nil
#print axioms LZ.GenBDHPHist.C14_skip_go_text_bdhp
#print axioms LZ.GenBDHPHist.C14_go_text_bdhp
