/-
  LzProofs.Lex — `lexLe` (LzModel/Suffix.lean) is a total order on byte lists; for
  `a ≤ b ≤ c` the common prefix of `a` and `c` is the shorter of the two inner ones (the sandwich
  lemma behind the rank-neighbour arguments of the suffix-array parsers); and `lcpLen`: its
  characterisation `le_lcpLen_iff`, of which the bounds, `take_lcpLen`, `lcpLen_getElem?`,
  `lcpLen_comm`, `lcpLen_self` and `lcpLen_take` are readings, and the facts about what follows the
  common prefix (`lcpLen_append`, `lcpLen_next_ne`, `lcpLen_drop`, `lexLe_drop_one`), which are
  inductions over the two lists.  (Positions of one buffer, `MatchOK`, `lcsLen`: ParseLemmas.lean.)
-/
import LzModel.Suffix
namespace LZ

theorem lexLe_cons_cons (x y : Byte) (xs ys : List Byte) :
    lexLe (x :: xs) (y :: ys) = true ↔ x < y ∨ (x = y ∧ lexLe xs ys = true) := by
  simp only [lexLe, Bool.or_eq_true, Bool.and_eq_true, decide_eq_true_eq, beq_iff_eq]

theorem lcpLen_cons_cons (x y : Byte) (xs ys : List Byte) :
    lcpLen (x :: xs) (y :: ys) = if x = y then lcpLen xs ys + 1 else 0 := rfl

@[simp] theorem lcpLen_nil_left (b : List Byte) : lcpLen [] b = 0 := rfl
@[simp] theorem lcpLen_nil_right (a : List Byte) : lcpLen a [] = 0 := by cases a <;> rfl

/-! ### `lexLe` is a total order on byte strings -/

theorem lexLe_refl : ∀ a : List Byte, lexLe a a = true
  | [] => rfl
  | x :: xs => (lexLe_cons_cons x x xs xs).2 (Or.inr ⟨rfl, lexLe_refl xs⟩)

theorem lexLe_total : ∀ a b : List Byte, lexLe a b = true ∨ lexLe b a = true
  | [], _ => Or.inl rfl
  | _ :: _, [] => Or.inr rfl
  | x :: xs, y :: ys => by
    rw [lexLe_cons_cons, lexLe_cons_cons]
    by_cases hxy : x = y
    · subst hxy
      exact (lexLe_total xs ys).imp (fun h => Or.inr ⟨rfl, h⟩) (fun h => Or.inr ⟨rfl, h⟩)
    · exact (UInt8.lt_or_lt_of_ne hxy).imp Or.inl Or.inl

theorem lexLe_trans : ∀ a b c : List Byte, lexLe a b = true → lexLe b c = true → lexLe a c = true
  | [], _, _ => fun _ _ => rfl
  | _ :: _, [], _ => fun h => nomatch h
  | _ :: _, _ :: _, [] => fun _ h => nomatch h
  | x :: xs, y :: ys, z :: zs => by
    rw [lexLe_cons_cons, lexLe_cons_cons, lexLe_cons_cons]
    rintro (h1 | ⟨rfl, h1⟩) (h2 | ⟨rfl, h2⟩)
    · exact Or.inl (UInt8.lt_trans h1 h2)
    · exact Or.inl h1
    · exact Or.inl h2
    · exact Or.inr ⟨rfl, lexLe_trans xs ys zs h1 h2⟩

theorem lexLe_antisymm : ∀ a b : List Byte, lexLe a b = true → lexLe b a = true → a = b
  | [], [] => fun _ _ => rfl
  | [], _ :: _ => fun _ h => nomatch h
  | _ :: _, [] => fun h => nomatch h
  | x :: xs, y :: ys => by
    rw [lexLe_cons_cons, lexLe_cons_cons]
    rintro (h1 | ⟨rfl, h1⟩) (h2 | ⟨e, h2⟩)
    · exact absurd (UInt8.lt_trans h1 h2) (UInt8.lt_irrefl _)
    · exact absurd (e ▸ h1) (UInt8.lt_irrefl _)
    · exact absurd h2 (UInt8.lt_irrefl _)
    · rw [lexLe_antisymm xs ys h1 h2]

/-- totality in the form core's `mergeSort` lemmas want it -/
theorem lexLe_total' (a b : List Byte) : (lexLe a b || lexLe b a) = true :=
  Bool.or_eq_true_iff.2 (lexLe_total a b)

theorem not_lexLe_of_lexLe_ne {a b : List Byte} (h : lexLe a b = true) (hne : a ≠ b) :
    lexLe b a = false :=
  Bool.eq_false_iff.2 fun hb => hne (lexLe_antisymm a b h hb)

/-! ### sandwich lemma: for `a ≤ b ≤ c` the outer common prefix is the minimum of the inner ones -/

theorem lcpLen_sandwich_eq : ∀ a b c : List Byte, lexLe a b = true → lexLe b c = true →
    lcpLen a c = min (lcpLen a b) (lcpLen b c)
  | [], _, _ => fun _ _ => by simp
  | _ :: _, [], _ => fun h => nomatch h
  | _ :: _, _ :: _, [] => fun _ h => nomatch h
  | x :: xs, y :: ys, z :: zs => by
    rw [lexLe_cons_cons, lexLe_cons_cons, lcpLen_cons_cons, lcpLen_cons_cons, lcpLen_cons_cons]
    rintro (h1 | ⟨rfl, h1⟩) (h2 | ⟨rfl, h2⟩)
    · simp only [UInt8.ne_of_lt h1, UInt8.ne_of_lt (UInt8.lt_trans h1 h2), if_false, Nat.zero_min]
    · simp only [UInt8.ne_of_lt h1, if_false, Nat.zero_min]
    · simp only [UInt8.ne_of_lt h2, if_false, Nat.min_zero]
    · simp only [if_true, lcpLen_sandwich_eq xs ys zs h1 h2]
      omega

theorem sandwich : ∀ (a b c : List Byte), lexLe a b = true → lexLe b c = true →
    lcpLen a c ≤ lcpLen a b ∧ lcpLen a c ≤ lcpLen b c := by
  intro a b c hab hbc
  have := lcpLen_sandwich_eq a b c hab hbc
  omega

/-! ### `lcpLen` facts -/

/-- what `lcpLen` is: the greatest `j` such that both lists have `j` elements and agree on them -/
theorem le_lcpLen_iff : ∀ (j : Nat) (a b : List Byte),
    j ≤ lcpLen a b ↔ j ≤ a.length ∧ j ≤ b.length ∧ a.take j = b.take j
  | 0, a, b => by simp
  | j + 1, [], b => by simp [lcpLen_nil_left]
  | j + 1, _ :: _, [] => by simp [lcpLen_nil_right]
  | j + 1, x :: a, y :: b => by
    rw [lcpLen_cons_cons]
    by_cases h : x = y
    · subst h
      simp only [if_true, Nat.add_le_add_iff_right, List.length_cons, List.take_succ_cons,
        List.cons.injEq, true_and]
      exact le_lcpLen_iff j a b
    · simp [h]

theorem lcpLen_le_left (a b : List Byte) : lcpLen a b ≤ a.length :=
  ((le_lcpLen_iff _ a b).1 (Nat.le_refl _)).1

theorem lcpLen_le_right (a b : List Byte) : lcpLen a b ≤ b.length :=
  ((le_lcpLen_iff _ a b).1 (Nat.le_refl _)).2.1

theorem take_lcpLen (a b : List Byte) : a.take (lcpLen a b) = b.take (lcpLen a b) :=
  ((le_lcpLen_iff _ a b).1 (Nat.le_refl _)).2.2

theorem lcpLen_getElem? (a b : List Byte) : ∀ t, t < lcpLen a b → a[t]? = b[t]? := by
  intro t ht
  have := congrArg (·[t]?) (take_lcpLen a b)
  simpa only [List.getElem?_take, if_pos ht] using this

theorem lcpLen_comm (a b : List Byte) : lcpLen a b = lcpLen b a := by
  have key : ∀ a b : List Byte, lcpLen a b ≤ lcpLen b a := fun a b =>
    (le_lcpLen_iff _ b a).2 ⟨lcpLen_le_right a b, lcpLen_le_left a b, (take_lcpLen a b).symm⟩
  exact Nat.le_antisymm (key a b) (key b a)

theorem lcpLen_self (a : List Byte) : lcpLen a a = a.length :=
  Nat.le_antisymm (lcpLen_le_left a a) ((le_lcpLen_iff _ a a).2 ⟨Nat.le_refl _, Nat.le_refl _, rfl⟩)

theorem eq_of_le_iff {m n : Nat} (h : ∀ j, j ≤ m ↔ j ≤ n) : m = n := by
  have h1 := (h m).1 (Nat.le_refl _)
  have h2 := (h n).2 (Nat.le_refl _)
  omega

theorem lcpLen_take (a b : List Byte) (x y : Nat) :
    lcpLen (a.take x) (b.take y) = min (lcpLen a b) (min x y) := by
  apply eq_of_le_iff
  intro j
  rw [le_lcpLen_iff, Nat.le_min, Nat.le_min, le_lcpLen_iff]
  simp only [List.length_take, List.take_take, Nat.le_min]
  constructor
  · rintro ⟨⟨h1, h2⟩, ⟨h3, h4⟩, h5⟩
    rw [Nat.min_eq_left h1, Nat.min_eq_left h3] at h5
    exact ⟨⟨h2, h4, h5⟩, h1, h3⟩
  · rintro ⟨⟨h2, h4, h5⟩, h1, h3⟩
    rw [Nat.min_eq_left h1, Nat.min_eq_left h3]
    exact ⟨⟨h1, h2⟩, ⟨h3, h4⟩, h5⟩

/-- the common prefix up to `m` depends only on the first `m` bytes -/
theorem lcpLen_take_congr {m : Nat} {a a' b b' : List Byte} (ha : a.take m = a'.take m)
    (hb : b.take m = b'.take m) : min m (lcpLen a b) = min m (lcpLen a' b') := by
  have h1 := lcpLen_take a b m m
  rw [ha, hb, lcpLen_take] at h1
  omega

/-! what follows the common prefix -/

theorem lcpLen_append (a b p q : List Byte) (h : a.length = b.length) :
    lcpLen (a ++ p) (b ++ q) =
      if lcpLen a b < a.length then lcpLen a b else a.length + lcpLen p q := by
  induction a generalizing b with
  | nil =>
    cases b with
    | nil => simp
    | cons _ _ => simp at h
  | cons x a ih =>
    cases b with
    | nil => simp at h
    | cons y b =>
      simp only [List.length_cons, Nat.add_right_cancel_iff] at h
      simp only [List.cons_append, lcpLen_cons_cons, List.length_cons]
      by_cases e : x = y
      · subst e
        simp only [if_true, ih b h, Nat.add_lt_add_iff_right]
        split <;> omega
      · simp [e]

theorem lcpLen_next_ne : ∀ (a b : List Byte) (h1 : lcpLen a b < a.length) (h2 : lcpLen a b < b.length),
    a[lcpLen a b] ≠ b[lcpLen a b]
  | [], _, h1, _ => nomatch h1
  | _ :: _, [], _, h2 => by simp at h2
  | x :: xs, y :: ys, h1, h2 => by
    by_cases h : x = y
    · have e : lcpLen (x :: xs) (y :: ys) = lcpLen xs ys + 1 := by rw [lcpLen_cons_cons, if_pos h]
      simp only [e, List.getElem_cons_succ]
      simp only [e, List.length_cons] at h1 h2
      exact lcpLen_next_ne xs ys (by omega) (by omega)
    · have e : lcpLen (x :: xs) (y :: ys) = 0 := by rw [lcpLen_cons_cons, if_neg h]
      simp only [e, List.getElem_cons_zero]
      exact h

/-- the same without bounds: the common prefix ends with one of the lists or at a differing byte -/
theorem lcpLen_maximal (a b : List Byte) :
    lcpLen a b = a.length ∨ lcpLen a b = b.length ∨ a[lcpLen a b]? ≠ b[lcpLen a b]? := by
  have h1 := lcpLen_le_left a b
  have h2 := lcpLen_le_right a b
  by_cases ha : lcpLen a b = a.length
  · exact Or.inl ha
  by_cases hb : lcpLen a b = b.length
  · exact Or.inr (Or.inl hb)
  refine Or.inr (Or.inr ?_)
  rw [List.getElem?_eq_getElem (by omega), List.getElem?_eq_getElem (by omega)]
  exact fun e => lcpLen_next_ne a b (by omega) (by omega) (Option.some.inj e)

theorem lcpLen_drop : ∀ (l : Nat) (a b : List Byte), l ≤ lcpLen a b →
    lcpLen a b = l + lcpLen (a.drop l) (b.drop l)
  | 0, _, _, _ => by simp
  | l+1, [], _, h => by simp at h
  | l+1, _ :: _, [], h => by simp at h
  | l+1, x :: xs, y :: ys, h => by
    rw [lcpLen_cons_cons] at h ⊢
    split at h
    · rw [if_pos ‹_›, List.drop_succ_cons, List.drop_succ_cons, lcpLen_drop l xs ys (by omega)]
      omega
    · omega

theorem lcpLen_drop_one (a b : List Byte) : lcpLen a b - 1 ≤ lcpLen (a.drop 1) (b.drop 1) := by
  by_cases h : 1 ≤ lcpLen a b
  · have := lcpLen_drop 1 a b h; omega
  · omega

theorem lexLe_drop_one : ∀ (a b : List Byte), lexLe a b = true → 1 ≤ lcpLen a b →
    lexLe (a.drop 1) (b.drop 1) = true
  | [], _, _, h => by simp at h
  | _ :: _, [], _, h => by simp at h
  | x :: xs, y :: ys, hle, h => by
    rw [lcpLen_cons_cons] at h
    rw [lexLe_cons_cons] at hle
    split at h
    · rcases hle with h' | ⟨_, h'⟩
      · exact absurd h' (‹x = y› ▸ UInt8.lt_irrefl _)
      · exact h'
    · omega

theorem drop_injective_of_le {t : List Byte} {i j : Nat} (hi : i ≤ t.length) (hj : j ≤ t.length)
    (h : t.drop i = t.drop j) : i = j := by
  have := congrArg List.length h
  simp only [List.length_drop] at this
  omega

end LZ
