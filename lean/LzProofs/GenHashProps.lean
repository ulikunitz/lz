/-
  LzProofs.GenHashProps — the hash table of the hash parsers: the executable model
  (`LZ.HashT`, LzModel/Hash.lean) equals the mechanical translation of hash.go
  (`LZ.Gen.hash_init`, `hash_reset`, `hash_shiftOffsets`; LzModel/Generated/CodeHashTab.lean,
  regenerated from the repository on every check).

  Abstraction (from the Go state to the model state):
      ofHash g = { tbl      := the `len` elements of g.table as pairs (pos, value) of naturals,
                   inputLen := g.inputLen,
                   hashBits := 64 - g.shift }
  Invariant `HashWF g`: len(table) ≤ cap(table), 0 ≤ inputLen, mask = 1<<(8·inputLen) - 1
  (`maskOf`, the mask the model computes from inputLen where the Go code stores it), shift ≤ 64,
  len(table) = 2^hashBits.

      H01 gen_hash_init          init on valid arguments: ofHash = HashT.new inputLen hashBits, HashWF
          gen_hash_init_err      init on invalid arguments: state unchanged, error = the error
                                 hashConfig.Verify reports for the same values
      H02 gen_hash_reset         ofHash (reset g) = (ofHash g).clear
      H03 gen_hash_shiftOffsets  ofHash (shiftOffsets g δ) = (ofHash g).shiftOffsets δ

  None of the functions panics on a state satisfying the invariant (the result is `Res.ok`).
  The zeroing loops / `clear` calls of `init` and `reset` arrive as `GSlice.clear` (lemmas
  `gclear_*`, GenHashPropsBase); `shift_loop_eq` states what the translated `range` loop of
  `shiftOffsets` computes (`mapLoop`, GenHashPropsBase) and is the only lemma that follows the text
  of a generated definition.
-/
import LzModel.Generated.CodeHashTab
import LzModel.Generated.CodeCfgHash
import LzModel.Hash
import LzProofs.GenHashPropsBase
import LzProofs.GenPropsInts

set_option linter.unusedSimpArgs false
set_option linter.unusedVariables false

namespace LZ.GenHash
open LZ LZ.Gen LZ.GenBuf

def zeroE : hashEntry := { pos := 0, value := 0 }

def ofEntry (e : hashEntry) : Nat × Nat := (e.pos.toNat, e.value.toNat)

/-- the model state a Go `hash` value stands for -/
def ofHash (g : Gen.hash) : HashT :=
  { tbl := (g.table.data.map ofEntry).toArray, inputLen := g.inputLen.toNat, hashBits := 64 - g.shift.toNat }

/-- representation invariant of a Go `hash` value (established by `init`) -/
def HashWF (g : Gen.hash) : Prop :=
  GWF g.table ∧ 0 ≤ g.inputLen ∧ g.mask = maskOf g.inputLen.toNat ∧ g.shift.toNat ≤ 64 ∧
    g.table.len = 2 ^ (64 - g.shift.toNat)

@[simp] theorem ofEntry_zero : ofEntry zeroE = (0, 0) := rfl

/-- the same with the zero value written as the translator writes it -/
theorem ofEntry_zero' : ofEntry { pos := 0, value := 0 } = (0, 0) := rfl

theorem hashT_ext (a b : HashT) (h1 : a.tbl.toList = b.tbl.toList) (h2 : a.inputLen = b.inputLen)
    (h3 : a.hashBits = b.hashBits) : a = b := by
  cases a; cases b
  simp only [HashT.mk.injEq]
  exact ⟨Array.toList_inj.mp h1, h2, h3⟩

/-! ## the loops -/

/-- what `shiftOffsets` does to one entry -/
def shiftF (delta : UInt32) (e : hashEntry) : hashEntry :=
  if e.pos < delta then zeroE else { e with pos := e.pos - delta }

/-- the model's per-entry function of `HashT.shiftOffsets` -/
def shiftM (delta : Nat) (e : Nat × Nat) : Nat × Nat :=
  if e.1 < delta then (0, 0) else (e.1 - delta, e.2)

theorem ofEntry_shiftF (delta : UInt32) (e : hashEntry) : ofEntry (shiftF delta e) = shiftM delta.toNat (ofEntry e) := by
  unfold shiftF shiftM ofEntry
  by_cases h : e.pos < delta
  · have h' : e.pos.toNat < delta.toNat := UInt32.lt_iff_toNat_lt.mp h
    simp only [h, h', if_true]; rfl
  · have h' : ¬ e.pos.toNat < delta.toNat := fun c => h (UInt32.lt_iff_toNat_lt.mpr c)
    have hle : delta ≤ e.pos := UInt32.le_iff_toNat_le.mpr (by omega)
    simp only [h, h', if_false, UInt32.toNat_sub_of_le _ _ hle]

theorem shift_loop_eq (delta : UInt32) (n : Nat) : ∀ (i : Nat) (k : Int) (g : Gen.hash), k = (i : Int) →
    i + n ≤ g.table.len →
    hash_shiftOffsets_loop_1 delta n k g =
      Res.ok { g with table := { g.table with arr := mapLoop (shiftF delta) zeroE n i g.table.arr } } := by
  induction n with
  | zero => intro i k g _ _; rfl
  | succ n ih =>
    intro i k g hk hlen
    simp only [hash_shiftOffsets_loop_1]
    rw [gindex_ok _ _ _ i hk (by omega)]
    simp only [bind_ok]
    -- both ways of writing the test (`e.pos < delta` / `e.pos >= delta` with swapped arms) are decided;
    -- then whatever reads and writes of `h.table[i]` the taken arm consists of are executed
    by_cases hc : ((g.table.arr[i]?).getD { pos := 0, value := 0 }).pos < delta <;>
    · simp only [hc, ge_iff_le, ← UInt32.not_lt, not_true_eq_false, not_false_eq_true, if_true, if_false]
      repeat (first | rw [gindex_ok _ _ _ i hk (by omega)] | rw [gset_ok _ _ i hk (by omega)] | simp only [bind_ok])
      rw [ih (i + 1) (k + 1) _ (by omega) (by show i + 1 + n ≤ g.table.len; omega)]
      simp only [mapLoop, shiftF, zeroE, hc, if_true, if_false]

/-! ## H02 reset -/

/-- H02 `reset` -/
theorem gen_hash_reset (g : Gen.hash) (h : HashWF g) :
    ∃ g', hash_reset g = Res.ok g' ∧ ofHash g' = (ofHash g).clear ∧ HashWF g' := by
  obtain ⟨hw, hil, hm, hs, hl⟩ := h
  unfold hash_reset
  (try simp only [gen_helper, bind_ok])
  refine ⟨_, rfl, ?_, ?_⟩
  · apply hashT_ext
    · simp only [ofHash, HashT.clear, gclear_data _ _ hw, List.map_replicate, ofEntry_zero', Array.toList_replicate,
        List.size_toArray, List.length_map, gdata_length hw]
    · rfl
    · rfl
  · exact ⟨gclear_wf _ _ hw, hil, hm, hs, hl⟩

/-! ## H03 shiftOffsets -/

/-- H03 `shiftOffsets` -/
theorem gen_hash_shiftOffsets (g : Gen.hash) (delta : UInt32) (h : HashWF g) :
    ∃ g', hash_shiftOffsets g delta = Res.ok g' ∧ ofHash g' = (ofHash g).shiftOffsets delta.toNat ∧ HashWF g' := by
  obtain ⟨hw, hil, hm, hs, hl⟩ := h
  unfold hash_shiftOffsets HashT.shiftOffsets
  by_cases hd : delta = 0
  · subst hd
    simp only [if_true]
    exact ⟨g, rfl, rfl, hw, hil, hm, hs, hl⟩
  · have hd' : ¬ delta.toNat = 0 := fun c => hd (UInt32.toNat_inj.mp c)
    simp only [hd, hd', if_false]
    rw [shift_loop_eq delta g.table.len 0 0 g rfl (by omega)]
    simp only [bind_ok]
    refine ⟨_, rfl, ?_, ?_⟩
    · apply hashT_ext
      · simp only [ofHash, gdata_mapLoop _ _ hw, List.map_map, Array.toList_map]
        apply List.map_congr_left
        intro e _
        exact ofEntry_shiftF delta e
      · rfl
      · rfl
    · exact ⟨by simpa [GWF, mapLoop_length] using hw, hil, hm, hs, hl⟩

/-! ## H01 init -/

/-- the arguments `init` accepts -/
def InitOK (il hb : Int) : Prop := 2 ≤ il ∧ il ≤ 8 ∧ 0 ≤ hb ∧ hb ≤ 24 ∧ hb ≤ 8 * il

theorem mask_eq (il : Int) (h1 : 2 ≤ il) (h2 : il ≤ 8) :
    (shlU64 (1 : UInt64) ((UInt64.ofInt il) * 8).toNat) - 1 = maskOf il.toNat := by
  have key : ∀ k : Fin 9, 2 ≤ k.val →
      (shlU64 (1 : UInt64) ((UInt64.ofInt (k.val : Int)) * 8).toNat) - 1 = maskOf k.val := by decide
  have := key ⟨il.toNat, by omega⟩ (by show 2 ≤ il.toNat; omega)
  have e : ((il.toNat : Nat) : Int) = il := by omega
  simpa only [e] using this

theorem shift_toNat (hb : Int) (h1 : 0 ≤ hb) (h2 : hb ≤ 24) : (64 - (UInt64.ofInt hb)).toNat = 64 - hb.toNat := by
  have key : ∀ k : Fin 25, (64 - (UInt64.ofInt (k.val : Int))).toNat = 64 - k.val := by decide
  have := key ⟨hb.toNat, by omega⟩
  have e : ((hb.toNat : Nat) : Int) = hb := by omega
  simpa only [e] using this

theorem pow_cast (k : Nat) : (1 : Int) * (2 : Int) ^ k = ((2 ^ k : Nat) : Int) := by
  rw [Int.natCast_pow]; simp

/-- H01 `init` on arguments it rejects: the receiver is unchanged, the error is the one
    `hashConfig.Verify` reports for the same values (`gen_hashVerify`, GenPropsCfgHash, relates
    that to the model's `hashVerify`) -/
theorem gen_hash_init_err (g : Gen.hash) (il hb : Int) (h : ¬ InitOK il hb) :
    hash_init g il hb = Res.ok (g, hashConfig_Verify { InputLen := il, HashBits := hb }) ∧
      hashConfig_Verify { InputLen := il, HashBits := hb } ≠ Gen.Err.ok := by
  unfold InitOK at h
  unfold hash_init hashConfig_Verify
  simp only [gen_helper, LZ.GenProps.gen_min]
  -- every combination of outcomes of the range checks (however they are written) of the two
  -- functions: contradictory, or both report the same error
  (repeat' split) <;> first
    | (exfalso; omega)
    | (refine ⟨?_, ?_⟩ <;> first | rfl | trivial | decide)

/-- H01 `init` on valid arguments; `cap(table)` decides whether the old array is re-used and
    cleared or a new one is made — the abstract state is the same -/
theorem gen_hash_init (g : Gen.hash) (il hb : Int) (hw : GWF g.table) (h : InitOK il hb) :
    ∃ g', hash_init g il hb = Res.ok (g', Gen.Err.ok) ∧ ofHash g' = HashT.new il.toNat hb.toNat ∧ HashWF g' := by
  obtain ⟨h1, h2, h3, h4, h5⟩ := h
  unfold hash_init
  simp only [gen_helper, LZ.GenProps.gen_min]
  -- the two range checks pass, however they are written
  rw [if_neg]
  case hnc => (repeat' split) <;> omega
  rw [if_neg]
  case hnc => (repeat' split) <;> omega
  rw [shiftCount_ok hb h3]
  simp only [bind_ok, pow_cast]
  have hsh := shift_toNat hb h3 h4
  have hmk := mask_eq il h1 h2
  have hbits : 64 - (64 - hb.toNat) = hb.toNat := by omega
  have hpos : (0 : Int) ≤ ((2 ^ hb.toNat : Nat) : Int) := Int.natCast_nonneg _
  -- the test `n ≤ cap(table)` (or its negation with the arms swapped); in each arm: either the
  -- `make` arm or the re-slice-and-clear arm
  split
  all_goals first
    | -- `make([]hashEntry, n)` or with any capacity ≥ n
      rw [gmake_eq _ _ _ (by omega)]
      simp only [bind_ok, Int.toNat_natCast]
      refine ⟨_, rfl, ?_, ?_⟩
      · apply hashT_ext
        · simp only [ofHash, HashT.new, GSlice.data, List.take_replicate, List.map_replicate,
            Array.toList_replicate]
          congr 1
          omega
        · rfl
        · simp only [ofHash, HashT.new, hsh, hbits]
      · refine ⟨?_, (by show 0 ≤ il; omega), ?_, ?_, ?_⟩
        · exact gwf_make _ (by omega)
        · simpa using hmk
        · simp only [hsh]; omega
        · simp only [hsh, hbits]
    | -- `table[:n]`, cleared
      rename_i hcap
      have hc' : 2 ^ hb.toNat ≤ g.table.arr.length := by
        simp only [GSlice.cap, Int.ofNat_eq_natCast] at hcap
        omega
      rw [gslice_ok g.table 0 _ 0 (2 ^ hb.toNat) rfl rfl (Nat.zero_le _) hc']
      simp only [bind_ok, List.drop_zero, Nat.sub_zero]
      have hw' : GWF ({ arr := g.table.arr, len := 2 ^ hb.toNat } : GSlice hashEntry) := hc'
      refine ⟨_, rfl, ?_, ?_⟩
      · apply hashT_ext
        · simp only [ofHash, HashT.new, gclear_data _ _ hw', List.map_replicate, ofEntry_zero',
            Array.toList_replicate]
        · rfl
        · simp only [ofHash, HashT.new, hsh, hbits]
      · refine ⟨gclear_wf _ _ hw', (by show 0 ≤ il; omega), ?_, ?_, ?_⟩
        · simpa using hmk
        · simp only [hsh]; omega
        · simp only [hsh, hbits, gclear_len]

end LZ.GenHash

#print axioms LZ.GenHash.gen_hash_init
#print axioms LZ.GenHash.gen_hash_init_err
#print axioms LZ.GenHash.gen_hash_reset
#print axioms LZ.GenHash.gen_hash_shiftOffsets
