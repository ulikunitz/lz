/-
  LzProofs.GenPropsCfgBuf — lz.go: BufConfig.
    G08 gen_bufDefaults   G09 gen_bufVerify (+ gen_bufVerify_error1..4)
  The hand-written model equals the code that `tools/extract -code` regenerates from the Go
  source; this file imports only the topic it talks about, so a Go function the translator
  refuses takes down this file and nothing else.  Every theorem quantifies over all inputs; Go
  `int`/`int64` are unbounded `Int` on both sides (overflow is out of scope), `uint32`/`uint64`
  wrap around.  The proofs do not depend on the shape of the generated term (see GenPropsBase).
-/
import LzModel.Generated.CodeCfgBuf
import LzProofs.GenPropsBase

set_option linter.unusedSimpArgs false

namespace LZ.GenProps
open LZ

def ofBuf (c : Gen.BufConfig) : Cfg :=
  { shrinkSize := c.ShrinkSize, bufferSize := c.BufferSize, windowSize := c.WindowSize,
    blockSize := c.BlockSize }

/-- G08 `(*BufConfig).SetDefaults` -/
theorem gen_bufDefaults (c : Gen.BufConfig) :
    ofBuf (Gen.BufConfig_SetDefaults c) = bufDefaults (ofBuf c) := by
  obtain ⟨ss, bs, ws, bl⟩ := c
  dsimp only [Gen.BufConfig_SetDefaults, gen_helper, ofBuf, bufDefaults, Facts.defWindowSize,
    Facts.shrinkSmallLimit, Facts.defShrinkSize, Facts.defBlockSize]
  simp only [Cfg.mk.injEq, and_true, true_and,
    apply_ite Gen.BufConfig.ShrinkSize, apply_ite Gen.BufConfig.BufferSize,
    apply_ite Gen.BufConfig.WindowSize, apply_ite Gen.BufConfig.BlockSize, ite_self, shiftRight_ite]
    <;> omega

theorem gen_bufDefaults' (b : Gen.BufConfig) : Gen.BufConfig_SetDefaults b =
    ⟨(bufDefaults (ofBuf b)).shrinkSize, (bufDefaults (ofBuf b)).bufferSize,
     (bufDefaults (ofBuf b)).windowSize, (bufDefaults (ofBuf b)).blockSize⟩ := by
  rw [← gen_bufDefaults]; rfl

theorem bufDefaults_idem (c : Gen.BufConfig) :
    Gen.BufConfig_SetDefaults (Gen.BufConfig_SetDefaults c) = Gen.BufConfig_SetDefaults c := by
  rw [gen_bufDefaults' (Gen.BufConfig_SetDefaults c), gen_bufDefaults, bufDefaults_bufDefaults, ← gen_bufDefaults']

/-- G09 `(*BufConfig).Verify` -/
theorem gen_bufVerify (c : Gen.BufConfig) :
    Gen.BufConfig_Verify c = .ok ↔ bufVerify (ofBuf c) = true := by
  rw [bufVerify_iff]
  dsimp only [Gen.BufConfig_Verify, gen_helper, ofBuf]
  gen_ifs

/-- G09 which check fails: the k-th `fmt.Errorf` is returned iff the first k-1 range checks
    pass and the k-th does not -/
theorem gen_bufVerify_error1 (c : Gen.BufConfig) :
    Gen.BufConfig_Verify c = .error 1 ↔ ¬(1 ≤ c.BufferSize ∧ c.BufferSize ≤ 4294967288) := by
  dsimp only [Gen.BufConfig_Verify, gen_helper]
  gen_ifs

theorem gen_bufVerify_error2 (c : Gen.BufConfig) :
    Gen.BufConfig_Verify c = .error 2 ↔
      (1 ≤ c.BufferSize ∧ c.BufferSize ≤ 4294967288) ∧ ¬(0 ≤ c.ShrinkSize ∧ c.ShrinkSize < c.BufferSize) := by
  dsimp only [Gen.BufConfig_Verify, gen_helper]
  gen_ifs

theorem gen_bufVerify_error3 (c : Gen.BufConfig) :
    Gen.BufConfig_Verify c = .error 3 ↔
      (1 ≤ c.BufferSize ∧ c.BufferSize ≤ 4294967288) ∧ (0 ≤ c.ShrinkSize ∧ c.ShrinkSize < c.BufferSize) ∧
      ¬(0 ≤ c.WindowSize ∧ c.WindowSize ≤ 4294967288) := by
  dsimp only [Gen.BufConfig_Verify, gen_helper]
  gen_ifs

theorem gen_bufVerify_error4 (c : Gen.BufConfig) :
    Gen.BufConfig_Verify c = .error 4 ↔
      (1 ≤ c.BufferSize ∧ c.BufferSize ≤ 4294967288) ∧ (0 ≤ c.ShrinkSize ∧ c.ShrinkSize < c.BufferSize) ∧
      (0 ≤ c.WindowSize ∧ c.WindowSize ≤ 4294967288) ∧ ¬(1 ≤ c.BlockSize ∧ c.BlockSize ≤ 4294967288) := by
  dsimp only [Gen.BufConfig_Verify, gen_helper]
  gen_ifs

end LZ.GenProps
