/-
  The calls of the lambda-lifted closure of `computeEdges` over the log of `suffix.Segments`
  (`optSuffixArrayParser_computeEdges_f_calls`, generated by tools/extract code_cblift.go: the slice argument of a call
  is the current contents of the window of `sa`, and the sorted window is written back) against the model's fold
  `cbs.foldl (Sap.edgeStep saL ws woff)` over the sorted segments of the original suffix array.

  The two agree because the windows of the log are laminar in the order of the log (an earlier window is disjoint from a
  later one or contained in it: `Sap.SegHyps.nested` / `.order`), so when a window is handed to the closure it holds a
  permutation of what the original array held there, and sorting does not see the difference (`sorted_unique`).
-/
import LzProofs.GenOSAPEdgesCB
import LzProofs.GenSuffixPropsSeg

set_option linter.unusedSimpArgs false
set_option linter.unusedVariables false

namespace LZ.GenOSAP
open LZ LZ.Gen LZ.GenBuf LZ.GenHash LZ.GenSuffix

section Win
variable {α : Type}

/-- `l[lo:hi]` -/
def win (l : List α) (lo hi : Nat) : List α := (l.drop lo).take (hi - lo)

theorem win_split (l : List α) (lo hi : Nat) (h1 : lo ≤ hi) :
    l = l.take lo ++ win l lo hi ++ l.drop hi := by
  unfold win
  have : l.drop hi = (l.drop lo).drop (hi - lo) := by rw [List.drop_drop]; congr 1; omega
  rw [this, List.append_assoc, List.take_append_drop, List.take_append_drop]

theorem win_length (l : List α) (lo hi : Nat) (h : hi ≤ l.length) : (win l lo hi).length = hi - lo := by
  unfold win
  simp only [List.length_take, List.length_drop]
  omega

theorem win_left (A M M' C : List α) (lo2 hi2 : Nat) (h : hi2 ≤ A.length) :
    win (A ++ M' ++ C) lo2 hi2 = win (A ++ M ++ C) lo2 hi2 := by
  unfold win
  apply List.ext_getElem?
  intro i
  simp only [List.getElem?_take, List.getElem?_drop]
  split
  · rw [List.append_assoc, List.append_assoc, List.getElem?_append_left (by omega), List.getElem?_append_left (by omega)]
  · rfl

theorem win_right (A M M' C : List α) (hM : M'.length = M.length) (lo2 hi2 : Nat) (h : A.length + M.length ≤ lo2) :
    win (A ++ M' ++ C) lo2 hi2 = win (A ++ M ++ C) lo2 hi2 := by
  unfold win
  apply List.ext_getElem?
  intro i
  simp only [List.getElem?_take, List.getElem?_drop]
  split
  · rw [List.getElem?_append_right (by simp only [List.length_append]; omega),
      List.getElem?_append_right (by simp only [List.length_append]; omega)]
    simp only [List.length_append, hM]
  · rfl

theorem win_contains (A M C : List α) (lo2 hi2 : Nat) (h1 : lo2 ≤ A.length) (h2 : A.length + M.length ≤ hi2) :
    win (A ++ M ++ C) lo2 hi2 = A.drop lo2 ++ M ++ C.take (hi2 - A.length - M.length) := by
  unfold win
  rw [List.append_assoc, List.drop_append_of_le_length h1, List.take_append]
  rw [List.take_of_length_le (by simp only [List.length_drop]; omega)]
  rw [List.take_append, List.take_of_length_le (by simp only [List.length_drop]; omega)]
  simp only [List.length_drop, List.append_assoc]
  congr 3
  omega

/-- replacing a sub-range by a permutation of it: every window that is disjoint from the range or contains it holds a
    permutation of what it held -/
theorem win_splice (l : List α) (lo hi : Nat) (h1 : lo ≤ hi) (h2 : hi ≤ l.length) (M' : List α)
    (hp : M'.Perm (win l lo hi)) (lo2 hi2 : Nat)
    (hlam : (hi2 ≤ lo ∨ hi ≤ lo2) ∨ (lo2 ≤ lo ∧ hi ≤ hi2)) :
    (win (l.take lo ++ M' ++ l.drop hi) lo2 hi2).Perm (win l lo2 hi2) := by
  have hl := win_split l lo hi h1
  have hA : (l.take lo).length = lo := by rw [List.length_take]; omega
  have hM : (win l lo hi).length = hi - lo := win_length l lo hi h2
  have hM' : M'.length = (win l lo hi).length := hp.length_eq
  rcases hlam with (h | h) | ⟨h3, h4⟩
  · rw [win_left (l.take lo) (win l lo hi) M' (l.drop hi) lo2 hi2 (by omega), ← hl]
  · rw [win_right (l.take lo) (win l lo hi) M' (l.drop hi) hM' lo2 hi2 (by omega), ← hl]
  · rw [win_contains (l.take lo) M' (l.drop hi) lo2 hi2 (by omega) (by omega)]
    conv => rhs; rw [hl, win_contains (l.take lo) (win l lo hi) (l.drop hi) lo2 hi2 (by omega) (by omega)]
    rw [hM']
    exact (List.Perm.append_left _ hp).append_right _

end Win

/-- the windows of a list of callbacks are laminar in the order of the list: an earlier one is disjoint from a later one or
    contained in it -/
def Lam (cbs : List Callback) : Prop :=
  cbs.Pairwise (fun c1 c2 => (c1.2.2 ≤ c2.2.1 ∨ c2.2.2 ≤ c1.2.1) ∨ (c2.2.1 ≤ c1.2.1 ∧ c1.2.2 ≤ c2.2.2))

section Fold
variable (grow : Nat → Nat → Nat) (fuel : Nat) (slices_Sort : GSlice Int32 → Res (GSlice Int32))

theorem calls_eq (hS : SliceSortSpec slices_Sort) (saL : List Nat) (h31 : ∀ x ∈ saL, x < 2147483648) (hnd : saL.Nodup)
    (sa0 : GSlice Int32) (w : Int32) (woff : Int) (hw : w.toInt = woff) (hwr : -2147483648 < woff ∧ woff ≤ 0)
    (hfuel : saL.length + 1 ≤ fuel) :
    ∀ (todo : List Callback) (s : Gen.optSuffixArrayParser) (a : GSlice Int32),
      (∀ c ∈ todo, c.2.1 < c.2.2 ∧ c.2.2 ≤ saL.length ∧ c.1 < 4294967296) → Lam todo →
      a.len = saL.length → a.len ≤ a.arr.length → a.arr.length = sa0.arr.length →
      (∀ c ∈ todo, (win a.arr c.2.1 c.2.2).Perm (win (saL.map o32) c.2.1 c.2.2)) →
      GWF s.edges → (∀ q ∈ s.edges.data, GWF q) → 0 ≤ s.nEdges → 0 ≤ s.OSAPConfig.WindowSize →
      s.OSAPConfig.WindowSize < 4294967296 → (∀ x ∈ saL, (x : Int) + woff < (s.edges.len : Int)) →
      ∃ s' a', optSuffixArrayParser_computeEdges_f_calls grow fuel slices_Sort w (todo.map (LZ.GenSuffix.cbOf sa0)) s a = Res.ok (s', a') ∧
        (edgesAbs s'.edges, s'.nEdges.toNat) =
          todo.foldl (Sap.edgeStep saL s.OSAPConfig.WindowSize.toNat woff) (edgesAbs s.edges, s.nEdges.toNat) ∧
        0 ≤ s'.nEdges ∧ GWF s'.edges ∧ (∀ q ∈ s'.edges.data, GWF q) ∧ s'.edges.len = s.edges.len ∧ EdgesFrame s s' := by
  intro todo
  induction todo with
  | nil =>
    intro s a _ _ _ _ _ _ hE hq hn _ _ _
    exact ⟨s, a, rfl, rfl, hn, hE, hq, rfl, EdgesFrame.refl s⟩
  | cons c rest ih =>
    intro s a hc hlam hlen hcap hA hinv hE hq hn hws0 hws32 hb
    obtain ⟨m, lo, hi⟩ := c
    obtain ⟨c1, c2, c3⟩ := hc (m, lo, hi) List.mem_cons_self
    simp only at c1 c2 c3
    have hlamc := List.pairwise_cons.1 hlam
    -- the window handed to the closure
    have hoff : a.arr.length - (sa0.arr.drop lo).length = lo := by
      rw [List.length_drop, ← hA]; omega
    have hsegw : GWF ({ arr := a.arr.drop lo, len := hi - lo } : GSlice Int32) := by
      unfold GWF; simp only [List.length_drop]; omega
    have hsegd : ({ arr := a.arr.drop lo, len := hi - lo } : GSlice Int32).data = win a.arr lo hi := rfl
    have hys : win (saL.map o32) lo hi = (win saL lo hi).map o32 := by
      unfold win; rw [List.map_take, List.map_drop]
    have hsub : ∀ y ∈ win saL lo hi, y ∈ saL := fun y hy => List.mem_of_mem_drop (List.mem_of_mem_take hy)
    have hperm := hinv (m, lo, hi) List.mem_cons_self
    simp only at hperm
    rw [hys] at hperm
    obtain ⟨s1, seg', k1, k2, k3, k4, k5, k6, k7, k8, k9⟩ := gen_osap_edgeCB grow fuel slices_Sort hS s w (m : Int)
      { arr := a.arr.drop lo, len := hi - lo } (win saL lo hi) hsegw (by rw [hsegd]; exact hperm)
      (fun y hy => h31 y (hsub y hy)) ((List.Nodup.sublist ((List.take_sublist _ _).trans (List.drop_sublist _ _)) hnd))
      woff hw hwr ⟨by omega, by omega⟩ (by show hi - lo + 1 ≤ fuel; omega) hE hq hn hws0 hws32
      (fun y hy => hb y (hsub y hy))
    simp only at k8 k9
    have hcfg : s1.OSAPConfig = s.OSAPConfig := by rw [k7]
    -- the array after the write-back
    have harr : a.arr.take lo ++ seg'.arr =
        a.arr.take lo ++ ((win saL lo hi).mergeSort (fun a b => decide (a ≤ b))).map o32 ++ a.arr.drop hi := by
      rw [k9, List.drop_drop, List.append_assoc]
      congr 3
      omega
    have hMp : (((win saL lo hi).mergeSort (fun a b => decide (a ≤ b))).map o32).Perm (win a.arr lo hi) :=
      ((List.mergeSort_perm _ _).map o32).trans hperm.symm
    -- the write-back keeps the length of the array
    have hal : (a.arr.take lo ++ seg'.arr).length = a.arr.length := by
      rw [harr]
      simp only [List.length_append, List.length_take, List.length_map, List.length_drop,
        (List.mergeSort_perm _ _).length_eq, win_length saL lo hi c2]
      omega
    obtain ⟨s', a', j1, j2, j3, j4, j5, j6, j7⟩ := ih s1
      { arr := a.arr.take lo ++ seg'.arr, len := a.len }
      (fun c hc' => hc c (List.mem_cons_of_mem _ hc')) hlamc.2 hlen (hal.symm ▸ hcap) (hal.trans hA)
      (by
        intro c hc'
        show (win (a.arr.take lo ++ seg'.arr) c.2.1 c.2.2).Perm _
        rw [harr]
        have hl2 : (c.2.2 ≤ lo ∨ hi ≤ c.2.1) ∨ (c.2.1 ≤ lo ∧ hi ≤ c.2.2) := by
          rcases hlamc.1 c hc' with (h | h) | h
          · exact Or.inl (Or.inr h)
          · exact Or.inl (Or.inl h)
          · exact Or.inr h
        exact (win_splice a.arr lo hi (by omega) (by omega) _ hMp c.2.1 c.2.2 hl2).trans
          (hinv c (List.mem_cons_of_mem _ hc')))
      k4 k5 k3 (by rw [hcfg]; exact hws0) (by rw [hcfg]; exact hws32) (by rw [k6]; exact hb)
    refine ⟨s', a', ?_, ?_, j3, j4, j5, by rw [j6, k6], k7.trans j7⟩
    · show optSuffixArrayParser_computeEdges_f_calls grow fuel slices_Sort w (LZ.GenSuffix.cbOf sa0 (m, lo, hi) :: rest.map (LZ.GenSuffix.cbOf sa0)) s a = _
      unfold optSuffixArrayParser_computeEdges_f_calls
      simp only [LZ.GenSuffix.cbOf]
      rw [hoff, k1, bind_ok]
      exact j1
    · rw [j2, hcfg, k2]
      simp only [List.foldl_cons, Int.toNat_natCast]
      rfl

end Fold

end LZ.GenOSAP

#print axioms LZ.GenOSAP.win_splice
#print axioms LZ.GenOSAP.calls_eq
