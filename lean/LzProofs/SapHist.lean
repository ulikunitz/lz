/-
  LzProofs.SapHist — the state invariants `OsapHist` / `GsapHist` hold along every history of
  parser operations, so C11 and C12 hold for every block of a stream.  Histories here are lists of
  `Sap.POp` run by `Sap.runOps` on the bare `Parser` (no ghost state; `POp.apply_step` ties them to
  `Parser.Step`).
-/
import LzProofs.SapProps
import LzProofs.ParserStep
namespace LZ.Sap

theorem minMatch_congr {s s' : Parser} (hk : s'.kind = s.kind) (hc : s'.cfg = s.cfg) :
    s'.minMatch = s.minMatch := by unfold Parser.minMatch; rw [hk, hc]

theorem OsapHist.extend {s s' : Parser} {o : OsapD} (h : OsapHist s o)
    (hcfg : s'.buf.cfg = s.buf.cfg) (hk : s'.kind = s.kind) (hc : s'.cfg = s.cfg)
    (hw : s.buf.w ≤ s'.buf.w) (hd : s.buf.data <+: s'.buf.data) : OsapHist s' o := by
  have hmm := minMatch_congr hk hc
  rcases h with h | ⟨data0, w0, e, hce, h1, h2⟩
  · exact Or.inl h
  · exact Or.inr ⟨data0, w0, by rw [hcfg, hmm, hc]; exact e, by rw [hcfg, hmm, hc]; exact hce,
      Nat.le_trans h1 hw, h2.trans hd⟩

theorem GsapSt.extend {B} {s s' : Parser} {g : GsapD} (h : GsapSt B s g)
    (hw : ∀ {sa bits N}, B sa bits N s.buf.w → B sa bits N s'.buf.w) (hd : s.buf.data <+: s'.buf.data) :
    GsapSt B s' g := by
  rcases h with h | ⟨t, h1, h2, h3⟩
  · exact Or.inl h
  · exact Or.inr ⟨t, h1.trans hd, h2, hw h3⟩

theorem OsapHist.empty (s : Parser) : OsapHist s OsapD.empty := Or.inl ⟨rfl, rfl⟩
theorem GsapSt.empty (B) (s : Parser) : GsapSt B s GsapD.empty := Or.inl rfl
theorem GsapHist.empty (s : Parser) : GsapHist s GsapD.empty := GsapSt.empty _ s

/-! ## histories -/

inductive POp where
  | write (p : List Byte)
  | readFrom (r : Reader)
  | parse (flags : Nat)
  | parseNil
  | shrink
  | reset (data : List Byte) (capExtra : Nat)

def POp.apply (s : Parser) : POp → Parser
  | .write p => (s.write p).1
  | .readFrom r => (s.readFrom r).1
  | .parse f => (s.parse f).1
  | .parseNil => s.parseNil.1
  | .shrink => s.shrink.1
  | .reset d c => (s.reset d c).1

def runOps (s : Parser) (ops : List POp) : Parser := ops.foldl POp.apply s

theorem POp.apply_step (s : Parser) (op : POp) : Parser.Step s (op.apply s) := by
  cases op with
  | write p => exact .of_write s p
  | readFrom r => exact .of_readFrom s r
  | parse f => exact .of_parse s f
  | parseNil => exact .of_parseNil s
  | shrink => exact .of_shrink s
  | reset d c => exact .of_reset s d c

theorem OsapHist.step {s s' : Parser} (hs : Parser.Step s s') {o : OsapD} (hd : s.dict = .osap o)
    (h : OsapHist s o)
    (hce : CEHyps s.buf.data s.buf.w s.buf.cfg.windowSize s.minMatch s.cfg.maxMatchLen.toNat) :
    ∃ o', s'.dict = .osap o' ∧ OsapHist s' o' := by
  cases hs.sa (.inr ⟨o, hd⟩) with
  | grow _ e hk hc hb hw hp => exact ⟨o, e.trans hd, h.extend hb hk hc (Nat.le_of_eq hw.symm) hp⟩
  | skip _ => exact ⟨o, hd, h.extend rfl rfl rfl (Nat.le_add_right _ _) (List.prefix_refl _)⟩
  | clear _ e _ _ _ => exact ⟨_, by rw [e, Parser.clearDict, hd], OsapHist.empty _⟩
  | parse f hn => exact ⟨_, parse_osap_hist s o hd f hn h hce⟩

/-- the suffix-array facts hold for the buffer of a state -/
def CEAt (s : Parser) : Prop :=
  CEHyps s.buf.data s.buf.w s.buf.cfg.windowSize s.minMatch s.cfg.maxMatchLen.toNat

theorem osap_run (ops : List POp) : ∀ (s : Parser) {o : OsapD}, s.dict = .osap o → OsapHist s o →
    (∀ k, k < ops.length → CEAt (runOps s (ops.take k))) →
    ∃ o', (runOps s ops).dict = .osap o' ∧ OsapHist (runOps s ops) o' := by
  induction ops with
  | nil => intro s o hd h _; exact ⟨o, hd, h⟩
  | cons op ops ih =>
    intro s o hd h hce
    obtain ⟨o', hd', h'⟩ := OsapHist.step (op.apply_step s) hd h (hce 0 (by simp))
    apply ih (op.apply s) hd' h'
    intro k hk
    have := hce (k + 1) (by simp; omega)
    simpa [runOps] using this

/-- C11 for every block of every history.  Start from a new OSAP parser, apply any sequence of
    `Write`, `ReadFrom`, `Parse(&blk, flags)`, `Parse(nil)`, `Shrink`, `Reset`; the next block
    emitted with flags 0 is an LZ77 parse of its bytes of minimum cost.  The only hypothesis is
    `CEAt` — the suffix-array facts C09/C10 — for the buffers that occur along the history. -/
theorem C11_all_histories (raw : Cfg) (s0 : Parser) (h0 : newParser .OSAP raw = some s0)
    (ops : List POp) (flags : Nat) (hf : flags % 2 = 0)
    (hn : (runOps s0 ops).blockN ≠ 0)
    (hce : ∀ k, k ≤ ops.length → CEAt (runOps s0 (ops.take k))) :
    let s := runOps s0 ops
    ∃ o, s.dict = .osap o ∧
      LzParse (s.buf.data.take (s.buf.w + s.blockN)) s.buf.w s.buf.cfg.windowSize
        s.minMatch s.cfg.maxMatchLen.toNat s.blockN (osapPath s o) ∧
      ∀ π, LzParse (s.buf.data.take (s.buf.w + s.blockN)) s.buf.w s.buf.cfg.windowSize
          s.minMatch s.cfg.maxMatchLen.toNat s.blockN π →
        blockCost (s.parse flags).2.2.2 ≤ pathCost π := by
  intro s
  have hd0 : s0.dict = .osap OsapD.empty := by rw [(newParser_eq_some h0).2]; rfl
  obtain ⟨o, hd, h⟩ := osap_run ops s0 hd0 (OsapHist.empty s0) (fun k hk => hce k (by omega))
  have hlast : CEAt s := by
    have := hce ops.length (Nat.le_refl _)
    simpa using this
  exact ⟨o, hd, C11_optimal_hist s o hd flags hn hf h hlast⟩

/-! ### GSAP: histories without `Parse(nil)` -/

def POp.notNil : POp → Prop
  | .parseNil => False
  | _ => True

/-- every operation keeps the GSAP state invariant, for any clause `B` about the rank set; `Parse(nil)`
    moves `W` without marking anything, so it needs a clause that survives a larger `W` -/
theorem GsapSt.apply {B} (hB : BitsClause B) (s : Parser) (op : POp) {g : GsapD} (hd : s.dict = .gsap g)
    (h : GsapSt B s g) (hmm : 1 ≤ s.minMatch)
    (hnil : op.notNil ∨ ∀ {sa bits N i j}, i ≤ j → B sa bits N i → B sa bits N j)
    (hsa : ∀ data w, SAOK data (gsapSort data w).sa (gsapSort data w).isa) :
    ∃ g', (op.apply s).dict = .gsap g' ∧ GsapSt B (op.apply s) g' := by
  cases op with
  | write p =>
    have a := PBuf.write_appended s.buf p
    exact ⟨g, hd, h.extend (s' := (s.write p).1) (fun h => a.w ▸ h) (a.data ▸ List.prefix_append _ _)⟩
  | readFrom r =>
    have a := PBuf.readFrom_appended s.buf r
    exact ⟨g, hd, h.extend (s' := (s.readFrom r).1) (fun h => a.w ▸ h) (a.data ▸ List.prefix_append _ _)⟩
  | parse f =>
    simp only [POp.apply]
    by_cases hn : s.blockN = 0
    · rw [Parser.parse_empty s f hn]; exact ⟨g, hd, h⟩
    · exact GsapSt.parse hB hd f hn hmm h hsa
  | parseNil =>
    rcases hnil with hop | hmono
    · exact hop.elim
    · simp only [POp.apply]
      by_cases hn : s.blockN = 0
      · rw [Parser.parseNil_empty s hn]; exact ⟨g, hd, h⟩
      · rw [Parser.parseNil_pos hn]
        exact ⟨g, by simp only [Parser.skipDict, hd],
          h.extend (hmono (Nat.le_add_right _ _)) (List.prefix_refl _)⟩
  | shrink =>
    simp only [POp.apply]
    by_cases hz : s.buf.shrink.2 = 0
    · rw [Parser.shrink_zero hz]; exact ⟨g, hd, h⟩
    · rw [Parser.shrink_pos hz]
      exact ⟨_, by simp only [Parser.shiftDict, hd], GsapSt.empty _ _⟩
  | reset d c =>
    simp only [POp.apply]
    by_cases he : (s.buf.reset d c).2 = .ok
    · rw [Parser.reset_ok he]
      exact ⟨_, by simp only [Parser.clearDict, hd], GsapSt.empty _ _⟩
    · rw [Parser.reset_err he]; exact ⟨g, hd, h⟩

theorem gsap_run (ops : List POp) (hops : ∀ op ∈ ops, op.notNil) :
    ∀ (s : Parser) {g : GsapD}, s.dict = .gsap g → GsapHist s g → 1 ≤ s.minMatch →
    (∀ data w, SAOK data (gsapSort data w).sa (gsapSort data w).isa) →
    ∃ g', (runOps s ops).dict = .gsap g' ∧ GsapHist (runOps s ops) g' ∧ 1 ≤ (runOps s ops).minMatch := by
  induction ops with
  | nil => intro s g hd h hmm _; exact ⟨g, hd, h, hmm⟩
  | cons op ops ih =>
    intro s g hd h hmm hsa
    obtain ⟨g', hd', h'⟩ :=
      GsapSt.apply bitsOK_clause s op hd h hmm (Or.inl (hops op (by simp))) hsa
    obtain ⟨hk, hc⟩ := (op.apply_step s).kind_cfg
    exact ih (fun op' ho => hops op' (by simp [ho])) (op.apply s) hd' h'
      (by rw [minMatch_congr hk hc]; exact hmm) hsa

theorem newParser_gsap_minMatch (raw : Cfg) (s0 : Parser) (h0 : newParser .GSAP raw = some s0) :
    2 ≤ s0.minMatch := by
  obtain ⟨hv, rfl⟩ := newParser_eq_some h0
  exact Parser.minMatch_ge_two hv

/-- C12 for every block of every history without `Parse(nil)`.  Start from a new GSAP parser,
    apply any sequence of `Write`, `ReadFrom`, `Parse(&blk, flags)`, `Shrink`,
    `Reset`; in the next block every emitted match is real, inside the window, at least
    `MinMatchLen` long and exactly as long as the longest match any earlier buffered position
    offers (clipped at the block end); and if the block ends inside the window, every literal
    position had no earlier position offering `MinMatchLen` bytes.  The only hypothesis is `SAOK`
    for `gsapSort` — the suffix-array facts C09. -/
theorem C12_all_histories (raw : Cfg) (s0 : Parser) (h0 : newParser .GSAP raw = some s0)
    (ops : List POp) (hops : ∀ op ∈ ops, op.notNil) (flags : Nat)
    (hn : (runOps s0 ops).blockN ≠ 0)
    (hsa : ∀ data w, SAOK data (gsapSort data w).sa (gsapSort data w).isa) :
    let s := runOps s0 ops
    GreedySpec (s.buf.data.take (s.buf.w + s.blockN)) s.buf.cfg.windowSize s.minMatch
      (s.buf.w + s.blockN ≤ s.buf.cfg.windowSize) s.buf.w (s.parse flags).2.2.2.seqs ∧
    (s.buf.w + s.blockN ≤ s.buf.cfg.windowSize →
      ∀ q, endPos s.buf.w (s.parse flags).2.2.2.seqs ≤ q → q < s.buf.w + s.blockN →
        lpm (s.buf.data.take (s.buf.w + s.blockN)) q < s.minMatch) := by
  intro s
  have hmm : 1 ≤ s0.minMatch := by have := newParser_gsap_minMatch raw s0 h0; omega
  have hd0 : s0.dict = .gsap GsapD.empty := by rw [(newParser_eq_some h0).2]; rfl
  obtain ⟨g, hd, h, hmm'⟩ := gsap_run ops hops s0 hd0 (GsapHist.empty s0) hmm hsa
  exact C12_longest_hist s g hd flags hn hmm' h hsa

#print axioms OsapHist.step
#print axioms osap_run
#print axioms C11_all_histories
#print axioms gsap_run
#print axioms C12_all_histories

end LZ.Sap
