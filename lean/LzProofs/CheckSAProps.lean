/-
  LzProofs.CheckSAProps — the linear-time suffix array checker `checkSALin`
  (LzModel/CheckSA.lean, the transliteration of the harness function `checkSALinear`) accepts
  exactly the suffix arrays (`checkSALin_iff`, `checkSALin_eq_saSpec`).

  Soundness (accepted ⇒ sorted).  The first loop (`fillRank_spec`: it keeps `RankInv` or gives
  up at an entry out of range or repeated) establishes that `sa` is a permutation of
  `0 … n-1` and that `R p := rank[p]` is its inverse (shifted by 2), with `R n = 1` below all
  other ranks.  The second loop checks for ADJACENT ranks the strict order of the keys
  `(t[p], R (p+1))` (`KeyLt`); this order is transitive, hence it holds for all pairs of ranks
  (`pairwise_of_adjacent`).  `lexLe_of_rank` then shows `R p < R q → t.drop p ≤ t.drop q` by
  induction on `n - p` (the length of the suffix at `p`): the first bytes decide, or they are
  equal and the induction hypothesis applies to `p+1`, `q+1`.

  Completeness (sorted ⇒ accepted) uses that in a suffix array the order of two suffixes
  decides the order of their ranks (`IsSuffixArray.rank_le_of_lexLe`).
-/
import LzModel.CheckSA
import LzProofs.ArrayLemmas
import LzProofs.SuffixProps
namespace LZ

/-! ### array access -/

theorem getD_set_self {r : Array Nat} {p v : Nat} (h : p < r.size) :
    (r.setIfInBounds p v).getD p 0 = v := by
  rw [getD_setIfInBounds, if_pos ⟨rfl, h⟩]

theorem getD_set_ne {r : Array Nat} {p q v : Nat} (h : p ≠ q) :
    (r.setIfInBounds p v).getD q 0 = r.getD q 0 := by
  rw [getD_setIfInBounds, if_neg fun h' => h h'.1.symm]

/-! ### first loop: `rank` becomes the inverse permutation -/

/-- invariant of the first loop after `i` iterations: the first `i` entries of `sa` are in range,
    `rank` holds `j + 2` at `sa[j]` for `j < i` (`0` = unset, LzModel/CheckSA.lean) and is set nowhere
    else; hence these entries are distinct (`RankInv.inj`) -/
structure RankInv (n : Nat) (sa : Array Nat) (i : Nat) (rank : Array Nat) : Prop where
  size : rank.size = n + 1
  lt : ∀ j, j < i → sa.getD j 0 < n
  val : ∀ j, j < i → rank.getD (sa.getD j 0) 0 = j + 2
  zero : ∀ p, rank.getD p 0 ≠ 0 → ∃ j, j < i ∧ sa.getD j 0 = p

theorem RankInv.init (n : Nat) (sa : Array Nat) : RankInv n sa 0 (Array.replicate (n+1) 0) := by
  refine ⟨by simp, fun j hj => by omega, fun j hj => by omega, fun p hp => ?_⟩
  exfalso; apply hp
  simp only [Array.getD_eq_getD_getElem?, Array.getElem?_replicate]
  split <;> rfl

theorem RankInv.inj {n : Nat} {sa : Array Nat} {i : Nat} {rank : Array Nat}
    (h : RankInv n sa i rank) {j k : Nat} (hj : j < i) (hk : k < i)
    (e : sa.getD j 0 = sa.getD k 0) : j = k := by
  have h1 := h.val j hj
  have h2 := h.val k hk
  rw [e] at h1
  omega

theorem RankInv.step {n : Nat} {sa : Array Nat} {i : Nat} {rank : Array Nat}
    (h : RankInv n sa i rank) (hp : sa.getD i 0 < n) (hz : rank.getD (sa.getD i 0) 0 = 0) :
    RankInv n sa (i+1) (rank.setIfInBounds (sa.getD i 0) (i+2)) := by
  refine ⟨by simp [h.size], fun j hj => ?_, fun j hj => ?_, fun p hp' => ?_⟩
  · by_cases e : j = i
    · subst e; exact hp
    · exact h.lt j (by omega)
  · by_cases e : j = i
    · subst e; exact getD_set_self (by rw [h.size]; omega)
    · have hj' : j < i := by omega
      have hne : sa.getD i 0 ≠ sa.getD j 0 := by
        intro e'
        have := h.val j hj'
        rw [← e', hz] at this
        omega
      rw [getD_set_ne hne]
      exact h.val j hj'
  · by_cases e : sa.getD i 0 = p
    · exact ⟨i, by omega, e⟩
    · rw [getD_set_ne e] at hp'
      obtain ⟨j, hj, ej⟩ := h.zero p hp'
      exact ⟨j, by omega, ej⟩

theorem fillRank_succ (n : Nat) (sa : Array Nat) (fuel i : Nat) (rank : Array Nat) :
    fillRank n sa (fuel+1) i rank =
      if sa.getD i 0 < n ∧ rank.getD (sa.getD i 0) 0 = 0 then
        fillRank n sa fuel (i+1) (rank.setIfInBounds (sa.getD i 0) (i+2))
      else none := by
  simp only [fillRank, Bool.and_eq_true, decide_eq_true_eq, beq_iff_eq]

/-- What the first loop does from a state satisfying the invariant: it goes through, keeping the
    invariant, unless some entry is out of range or has occurred before; there it gives up. -/
theorem fillRank_spec {n : Nat} {sa : Array Nat} : ∀ (fuel i : Nat) (rank : Array Nat),
    RankInv n sa i rank →
    (∃ r, fillRank n sa fuel i rank = some r ∧ RankInv n sa (i + fuel) r) ∨
    (fillRank n sa fuel i rank = none ∧
      ∃ k, k < i + fuel ∧ (n ≤ sa.getD k 0 ∨ ∃ j, j < k ∧ sa.getD j 0 = sa.getD k 0))
  | 0, _, rank, h => Or.inl ⟨rank, rfl, h⟩
  | fuel+1, i, rank, h => by
    rw [show i + (fuel + 1) = i + 1 + fuel by omega, fillRank_succ]
    by_cases hc : sa.getD i 0 < n ∧ rank.getD (sa.getD i 0) 0 = 0
    · rw [if_pos hc]
      exact fillRank_spec fuel (i+1) _ (h.step hc.1 hc.2)
    · rw [if_neg hc]
      refine Or.inr ⟨rfl, i, by omega, ?_⟩
      by_cases hp : sa.getD i 0 < n
      · exact Or.inr (h.zero _ fun hz => hc ⟨hp, hz⟩)
      · exact Or.inl (by omega)

/-! ### second loop: adjacent keys `(t[p], rank[p+1])` are strictly increasing -/

/-- strict order of the keys `(t[a], R (a+1))` -/
def KeyLt (t : Array Byte) (R : Nat → Nat) (a b : Nat) : Prop :=
  t.getD a 0 < t.getD b 0 ∨ (t.getD a 0 = t.getD b 0 ∧ R (a+1) < R (b+1))

theorem KeyLt.trans {t : Array Byte} {R : Nat → Nat} (a b c : Nat)
    (h1 : KeyLt t R a b) (h2 : KeyLt t R b c) : KeyLt t R a c := by
  unfold KeyLt at *
  rcases h1 with h1 | ⟨e1, r1⟩
  · rcases h2 with h2 | ⟨e2, _⟩
    · exact Or.inl (UInt8.lt_trans h1 h2)
    · exact Or.inl (e2 ▸ h1)
  · rcases h2 with h2 | ⟨e2, r2⟩
    · exact Or.inl (e1 ▸ h2)
    · exact Or.inr ⟨e1.trans e2, Nat.lt_trans r1 r2⟩

theorem adjOK_iff (t : Array Byte) (sa rank : Array Nat) (i : Nat) :
    adjOK t sa rank i = true ↔
      KeyLt t (fun p => rank.getD p 0) (sa.getD (i-1) 0) (sa.getD i 0) := by
  unfold adjOK KeyLt
  simp only
  generalize t.getD (sa.getD (i-1) 0) 0 = ta
  generalize t.getD (sa.getD i 0) 0 = tb
  generalize rank.getD (sa.getD (i-1) 0 + 1) 0 = ra
  generalize rank.getD (sa.getD i 0 + 1) 0 = rb
  by_cases e : ta = tb
  · subst e; simp [UInt8.lt_irrefl]
  · rcases UInt8.lt_or_lt_of_ne e with h | h <;> simp [h, UInt8.lt_asymm h, e]

theorem checkAdj_iff (t : Array Byte) (sa rank : Array Nat) : ∀ (fuel i : Nat),
    checkAdj t sa rank fuel i = true ↔ ∀ k, i ≤ k → k < i + fuel → adjOK t sa rank k = true
  | 0, i => by
    simp only [checkAdj, true_iff]
    intro k h1 h2; omega
  | fuel+1, i => by
    simp only [checkAdj]
    constructor
    · intro h
      split at h
      · rename_i hi
        intro k h1 h2
        by_cases e : k = i
        · subst e; exact hi
        · exact (checkAdj_iff t sa rank fuel (i+1)).1 h k (by omega) (by omega)
      · exact absurd h (by simp)
    · intro h
      rw [if_pos (h i (Nat.le_refl _) (by omega))]
      exact (checkAdj_iff t sa rank fuel (i+1)).2 (fun k h1 h2 => h k (by omega) (by omega))

/-! ### rank order is lexicographic order -/

theorem getD_toArray {α : Type} {l : List α} {i : Nat} {d : α} (h : i < l.length) :
    l.toArray.getD i d = l[i] := by simp [h]

/-- the heart of the soundness proof: if `R` ranks the end position `n` below all positions and
    the order of the ranks of two positions implies the order of their keys
    `(t[p], R (p+1))`, then the order of the ranks implies the order of the suffixes -/
theorem lexLe_of_rank {t : List Byte} {R : Nat → Nat} (hRn : R t.length = 1)
    (hR2 : ∀ p, p < t.length → 2 ≤ R p)
    (hkey : ∀ p q, p < t.length → q < t.length → R p < R q → KeyLt t.toArray R p q) :
    ∀ (d p q : Nat), t.length - p = d → p ≤ t.length → q ≤ t.length → R p < R q →
      lexLe (t.drop p) (t.drop q) = true := by
  intro d
  induction d with
  | zero =>
    intro p q hd hp _ _
    rw [List.drop_of_length_le (by omega)]
    simp [lexLe]
  | succ d ih =>
    intro p q hd hp hq hlt
    have hp' : p < t.length := by omega
    have hq' : q < t.length := by
      rcases Nat.lt_or_ge q t.length with h | h
      · exact h
      · have : q = t.length := by omega
        subst this
        have := hR2 p hp'
        omega
    have hk := hkey p q hp' hq' hlt
    unfold KeyLt at hk
    rw [getD_toArray hp', getD_toArray hq'] at hk
    rw [List.drop_eq_getElem_cons hp', List.drop_eq_getElem_cons hq', lexLe_cons_cons]
    exact hk.imp_right fun ⟨h, hr⟩ => ⟨h, ih (p+1) (q+1) (by omega) (by omega) (by omega) hr⟩

/-! ### what an accepting run of the first loop provides -/

theorem rankInv_of_fillRank {n : Nat} {sa : List Nat} {rank : Array Nat} (hlen : sa.length = n)
    (hfill : fillRank n sa.toArray n 0 (Array.replicate (n+1) 0) = some rank) :
    RankInv n sa.toArray sa.length rank := by
  subst hlen
  rcases fillRank_spec sa.length 0 _ (RankInv.init _ sa.toArray) with ⟨r, e, inv⟩ | ⟨e, _⟩
  · cases hfill.symm.trans e
    rwa [Nat.zero_add] at inv
  · cases hfill.symm.trans e

/-- the table the second loop reads (`rank[n] = 1` stored) -/
theorem rank_final {n : Nat} {sa : List Nat} {rank : Array Nat}
    (inv : RankInv n sa.toArray sa.length rank) :
    (rank.setIfInBounds n 1).getD n 0 = 1 ∧
    ∀ i (hi : i < sa.length), sa[i] < n ∧ (rank.setIfInBounds n 1).getD sa[i] 0 = i + 2 := by
  refine ⟨getD_set_self (by rw [inv.size]; omega), fun i hi => ?_⟩
  have h1 := inv.lt i hi
  have h2 := inv.val i hi
  rw [getD_toArray hi] at h1 h2
  exact ⟨h1, by rw [getD_set_ne (by omega)]; exact h2⟩

theorem perm_of_rankInv {n : Nat} {sa : List Nat} {rank : Array Nat} (hlen : sa.length = n)
    (inv : RankInv n sa.toArray sa.length rank) : sa.Perm (List.range n) := by
  apply perm_of_nodup_subset_length
  · apply List.pairwise_iff_getElem.2
    intro i j hi hj hij e
    have := inv.inj hi hj (by rw [getD_toArray hi, getD_toArray hj]; exact e)
    omega
  · intro x hx
    obtain ⟨k, hk, e⟩ := List.getElem_of_mem hx
    have := inv.lt k hk
    rw [getD_toArray hk, e] at this
    exact List.mem_range.2 this
  · simp [hlen]

theorem exists_rank {n : Nat} {sa : List Nat} (hperm : sa.Perm (List.range n)) {p : Nat} (hp : p < n) :
    ∃ i, ∃ hi : i < sa.length, sa[i] = p :=
  List.getElem_of_mem (hperm.mem_iff.2 (List.mem_range.2 hp))

/-! ### soundness -/

/-- Soundness: an array accepted by the linear checker is the suffix array. -/
theorem checkSALin_sound {t : List Byte} {sa : List Nat}
    (h : checkSALin t.toArray sa.toArray = true) : IsSuffixArray t sa := by
  unfold checkSALin at h
  simp only [List.size_toArray] at h
  split at h
  · exact absurd h (by simp)
  rename_i hlen
  have hlen : sa.length = t.length := by simpa using hlen
  split at h
  · exact absurd h (by simp)
  rename_i rank hfill
  have inv := rankInv_of_fillRank hlen hfill
  obtain ⟨hRn, hRsa⟩ := rank_final inv
  have hperm : sa.Perm (List.range t.length) := perm_of_rankInv hlen inv
  refine ⟨hperm, ?_⟩
  generalize hR : (fun p => (rank.setIfInBounds t.length 1).getD p 0) = R at *
  have hRn : R t.length = 1 := by rw [← hR]; exact hRn
  have hRsa : ∀ i (hi : i < sa.length), sa[i] < t.length ∧ R sa[i] = i + 2 := by
    intro i hi; rw [← hR]; exact hRsa i hi
  -- the second loop: adjacent keys increase
  have hadj := (checkAdj_iff _ _ _ _ _).1 h
  have hpw : sa.Pairwise (KeyLt t.toArray R) := by
    apply pairwise_of_adjacent KeyLt.trans
    intro k hk
    have := (adjOK_iff _ _ _ _).1 (hadj (k+1) (by omega) (by omega))
    rw [hR, Nat.add_sub_cancel, getD_toArray (by omega), getD_toArray hk] at this
    exact this
  have hR2 : ∀ p, p < t.length → 2 ≤ R p := by
    intro p hp
    obtain ⟨i, hi, rfl⟩ := exists_rank hperm hp
    have := (hRsa i hi).2
    omega
  have hkey : ∀ p q, p < t.length → q < t.length → R p < R q → KeyLt t.toArray R p q := by
    intro p q hp hq hlt
    obtain ⟨i, hi, rfl⟩ := exists_rank hperm hp
    obtain ⟨j, hj, rfl⟩ := exists_rank hperm hq
    rw [(hRsa i hi).2, (hRsa j hj).2] at hlt
    exact List.pairwise_iff_getElem.1 hpw i j hi hj (by omega)
  apply List.pairwise_iff_getElem.2
  intro i j hi hj hij
  have h1 := hRsa i hi
  have h2 := hRsa j hj
  exact lexLe_of_rank hRn hR2 hkey _ _ _ rfl (Nat.le_of_lt h1.1) (Nat.le_of_lt h2.1)
    (by rw [h1.2, h2.2]; omega)

/-! ### completeness -/

theorem rank_lt_of_lexLe {t : List Byte} {sa : List Nat} (h : IsSuffixArray t sa) {R : Nat → Nat}
    (hRn : R t.length = 1) (hRsa : ∀ i (hi : i < sa.length), R sa[i] = i + 2)
    {p q : Nat} (hp : p ≤ t.length) (hq : q ≤ t.length) (hne : p ≠ q)
    (hle : lexLe (t.drop p) (t.drop q) = true) : R p < R q := by
  rcases Nat.lt_or_ge q t.length with hq' | hq'
  · obtain ⟨j, hj, rfl⟩ := exists_rank h.1 hq'
    rcases Nat.lt_or_ge p t.length with hp' | hp'
    · obtain ⟨i, hi, rfl⟩ := exists_rank h.1 hp'
      have hij : i ≤ j := h.rank_le_of_lexLe hi hj hle
      have : i ≠ j := fun e => hne (by subst e; rfl)
      rw [hRsa i hi, hRsa j hj]
      omega
    · have := hRsa j hj
      have : p = t.length := by omega
      subst this
      omega
  · have hq'' : q = t.length := by omega
    subst hq''
    have hp' : p < t.length := by omega
    rw [List.drop_eq_getElem_cons hp', List.drop_of_length_le (Nat.le_refl _)] at hle
    exact nomatch hle

/-- Completeness: the linear checker accepts the suffix array. -/
theorem checkSALin_complete {t : List Byte} {sa : List Nat} (h : IsSuffixArray t sa) :
    checkSALin t.toArray sa.toArray = true := by
  have hlen := h.length_eq
  -- the first loop goes through: an entry out of range or a repeated one would contradict `h`
  obtain ⟨rank, hfill⟩ : ∃ rank, fillRank t.length sa.toArray t.length 0
      (Array.replicate (t.length+1) 0) = some rank := by
    rcases fillRank_spec t.length 0 _ (RankInv.init t.length sa.toArray) with ⟨r, e, _⟩ | ⟨_, k, hk, hbad⟩
    · exact ⟨r, e⟩
    · have hk' : k < sa.length := by omega
      rcases hbad with hge | ⟨j, hj, e⟩
      · rw [getD_toArray hk'] at hge
        have := h.getElem_lt k hk'
        omega
      · have hj' : j < sa.length := by omega
        rw [getD_toArray hj', getD_toArray hk'] at e
        have := h.getElem_inj hj' hk' e
        omega
  obtain ⟨hRn, hRsa⟩ := rank_final (rankInv_of_fillRank hlen hfill)
  unfold checkSALin
  simp only [List.size_toArray, hlen, bne_self_eq_false, Bool.false_eq_true, if_false, hfill]
  apply (checkAdj_iff _ _ _ _ _).2
  intro k hk1 hk2
  apply (adjOK_iff _ _ _ _).2
  have hkl : k < sa.length := by omega
  have hkl' : k - 1 < sa.length := by omega
  rw [getD_toArray hkl, getD_toArray hkl']
  have ha := h.getElem_lt (k-1) hkl'
  have hb := h.getElem_lt k hkl
  have hne : sa[k-1] ≠ sa[k] := by
    intro e
    have := h.getElem_inj hkl' hkl e
    omega
  have hle := h.mono (a := k-1) (b := k) (by omega) hkl
  rw [List.drop_eq_getElem_cons ha, List.drop_eq_getElem_cons hb, lexLe_cons_cons] at hle
  unfold KeyLt
  rw [getD_toArray ha, getD_toArray hb]
  exact hle.imp_right fun ⟨h1, h2⟩ => ⟨h1, rank_lt_of_lexLe h
    (R := fun p => (rank.setIfInBounds t.length 1).getD p 0) hRn
    (fun i hi => (hRsa i hi).2) (by omega) (by omega) (by omega) h2⟩

/-! ### the certification theorems -/

/-- The linear-time checker certifies exactly the suffix arrays. -/
theorem checkSALin_iff (t : List Byte) (sa : List Nat) :
    checkSALin t.toArray sa.toArray = true ↔ IsSuffixArray t sa :=
  ⟨checkSALin_sound, checkSALin_complete⟩

/-- Per-input certification of `suffix.Sort` for large inputs: the output is accepted by the
    linear checker iff it is `saSpec t`, the model of `suffix.Sort`. -/
theorem checkSALin_eq_saSpec (t : List Byte) (sa : List Nat) :
    checkSALin t.toArray sa.toArray = true ↔ sa = saSpec t :=
  (checkSALin_iff t sa).trans isSuffixArray_iff_eq_saSpec

/-- the linear checker and the quadratic checker `checkSA` agree -/
theorem checkSALin_eq_checkSA (t : List Byte) (sa : List Nat) :
    checkSALin t.toArray sa.toArray = checkSA t sa := by
  rw [Bool.eq_iff_iff, checkSALin_iff, checkSA_iff]

/-! ### non-vacuity -/

-- "abab"
example : checkSALin #[97,98,97,98] #[2,0,3,1] = true := by decide
example : checkSALin #[97,98,97,98] #[0,2,3,1] = false := by decide   -- suffixes out of order
example : checkSALin #[97,98,97,98] #[2,0,1,3] = false := by decide   -- suffixes out of order
example : checkSALin #[97,98,97,98] #[2,0,3,3] = false := by decide   -- not a permutation
example : checkSALin #[97,98,97,98] #[2,0,3,4] = false := by decide   -- out of range
example : checkSALin #[97,98,97,98] #[2,0,3] = false := by decide     -- length
example : checkSALin #[] #[] = true := by decide
-- "banana"
example : checkSALin #[98,97,110,97,110,97] #[5,3,1,0,4,2] = true := by decide
example : checkSALin #[98,97,110,97,110,97] #[5,1,3,0,4,2] = false := by decide
example : IsSuffixArray [97,98,97,98] [2,0,3,1] := (checkSALin_iff _ _).1 (by decide)
example : saSpec [98,97,110,97,110,97] = [5,3,1,0,4,2] :=
  ((checkSALin_eq_saSpec _ _).1 (by decide)).symm

#print axioms fillRank_spec
#print axioms checkSALin_sound
#print axioms checkSALin_complete
#print axioms checkSALin_iff
#print axioms checkSALin_eq_saSpec
#print axioms checkSALin_eq_checkSA

end LZ
