/-
  Lemmas shared by the proofs "translated `Parse` = `ProbeW.parseW`" of the hash parsers (HP, BHP, DHP, BDHP, BUP) that
  do not mention a particular generated loop function: the frame of `Parse` around its loop, the match extension loop
  and block, the model's insertion of a range into two tables, one table access, the first word of a candidate, and
  the induction over the iterations of a greedy loop (any finder, any state; the Go loop bound may be smaller than
  the model's, so that two consecutive Go loops are one model loop).  The re-indexing loops themselves are
  `insert_loop` (GenInsertLoop) and its instance for one table, `reindex_loop` (GenHPParseLemmas).

  The match extension loop enters either through what one call does (`loop2_of_steps`) or through its defining equation
  against the body `extLoopBody` written here once (`loop2_of_eqn`; the instantiation is `by rw [P_loop_k]; rfl`).
-/
import LzProofs.GenHPParseLemmas

set_option linter.unusedSimpArgs false
set_option linter.unusedVariables false

namespace LZ.GenParse
open LZ LZ.Gen LZ.GenBuf LZ.GenHash LZ.GenHPParse

/-! ## the frame of `Parse`

What the translated `Parse` of every parser that holds a `ParserBuffer` does around its loop, stated about the
buffer record and the natural numbers behind its Go integers: the clamp `n = min(len(s.Data) - s.W, s.BlockSize)`,
`p := s.Data[:s.W+n]` and what lies behind it, the `NoTrailingLiterals` test of the epilogue. -/

/-- the bytes between `len` and `cap` of a slice are what `ProbeW.Backing` asks of the `stale` argument -/
theorem stale_length (d : Slice) (h : SWF d) : d.data.length + (d.arr.drop d.len).length = d.cap := by
  unfold SWF at h
  unfold Slice.data Slice.cap
  rw [List.length_take, List.length_drop]
  omega

/-- `p` is a model parser over the Go buffer `pb`; `bs` is the parser's own copy of `BlockSize` (in Go a field of the
    parser's configuration; the model reads the buffer's) -/
structure Frame (p : Parser) (pb : Gen.ParserBuffer) (bs : Int) : Prop where
  buf : p.buf = ofPB pb
  wf : PBWF pb
  cbs : bs.toNat = pb.BufConfig.BlockSize.toNat
  bs0 : 0 ≤ bs
  w : pb.W ≤ pb.Data.len

namespace Frame
variable {p : Parser} {pb : Gen.ParserBuffer} {bs : Int} (h : Frame p pb bs)
include h

theorem w_eq : p.buf.w = pb.W.toNat := by rw [h.buf]; rfl

theorem w_cast : ((p.buf.w : Nat) : Int) = pb.W := by rw [h.w_eq]; exact Int.toNat_of_nonneg h.wf.w

theorem blockN_eq : p.blockN = Min.min (pb.Data.len - pb.W.toNat) bs.toNat := by
  unfold Parser.blockN
  rw [h.buf, h.cbs]
  show Min.min (pb.Data.data.length - _) _ = _
  rw [data_length h.wf.data]
  rfl

theorem blockN_le : p.buf.w + p.blockN ≤ pb.Data.len := by
  have h1 := h.w
  rw [h.blockN_eq, h.w_eq]
  omega

/-- `n` of `Parse`, the clamp read as a minimum, is the model's `blockN` -/
theorem clamp : Min.min bs ((pb.Data.len : Int) - pb.W) = ((p.blockN : Nat) : Int) := by
  have h1 := h.wf.w
  have h2 := h.bs0
  have h3 := h.w
  rw [h.blockN_eq]
  omega

theorem clamp' : Min.min ((pb.Data.len : Int) - pb.W) bs = ((p.blockN : Nat) : Int) := by
  rw [Int.min_comm]; exact h.clamp

/-- `p = s.Data[:L]` and what lies behind it in the backing array, as the model and the Go text see them -/
theorem take_data (L : Nat) (hL : L ≤ pb.Data.len) : p.buf.data.take L = pb.Data.arr.take L := by
  rw [h.buf]
  show (pb.Data.arr.take _).take _ = _
  rw [List.take_take, Nat.min_eq_left hL]

theorem behind (L : Nat) (hL : L ≤ pb.Data.len) :
    p.buf.data.drop L ++ pb.Data.arr.drop pb.Data.len = pb.Data.arr.drop L := by
  rw [h.buf]; exact behind_eq _ _ _ hL

/-- `Parse` moves `W` inside the data: the buffer stays well-formed -/
theorem wf_w (w : Nat) : PBWF { pb with W := (w : Int) } :=
  ⟨h.wf.data, Int.natCast_nonneg w, h.wf.off, h.wf.ss, h.wf.bs⟩

end Frame

/-- the `NoTrailingLiterals` test of the epilogue (`flags&NoTrailingLiterals != 0 && len(blk.Sequences) > 0`): the
    model's test, and the two atoms of the Go test as facts from which `omega` decides it in any spelling -/
theorem noTrailing_cases (flags : Int) (hfl : 0 ≤ flags) {α β : Type} (seqs : List α) (sq : List β)
    (hlen : sq.length = seqs.length) :
    ((flags.toNat % 2 = 1 ∧ seqs ≠ []) ∧ iand flags 1 ≠ 0 ∧ sq.length ≠ 0) ∨
    (¬ (flags.toNat % 2 = 1 ∧ seqs ≠ []) ∧ (iand flags 1 = 0 ∨ sq.length = 0)) := by
  have hnil : sq.length = 0 ↔ seqs = [] := by rw [hlen]; exact List.length_eq_zero_iff
  have hone := iand_one flags hfl
  by_cases h1 : iand flags 1 = 0
  · exact Or.inr ⟨fun hc => hone.mpr hc.1 h1, Or.inl h1⟩
  by_cases h2 : sq.length = 0
  · exact Or.inr ⟨fun hc => hc.2 (hnil.mp h2), Or.inr h2⟩
  · exact Or.inl ⟨⟨hone.mp h1, fun hc => h2 (hnil.mpr hc)⟩, h1, h2⟩

/-! ## the match extension loop -/

/-- what the proofs use of a translated loop `for len(q) >= 8 { … }` (exit code 1 = `goto match`) -/
def Loop2Spec (F : Nat → Int → Slice → Slice → Res (Nat × Int × Slice × Slice)) : Prop :=
  ∀ (m fuel kN : Nat) (k : Int) (r q : Slice), q.len < 8 * m → m ≤ fuel → k = (kN : Int) →
    SWF r → SWF q → q.len ≤ r.len →
    ∃ (e kN' : Nat) (r' q' : Slice),
      F fuel k r q = Res.ok (e, (kN' : Int), r', q') ∧ SWF r' ∧ SWF q' ∧
      ((e = 1 ∧ BytesW.matchExtLoop r.data q.data kN = some kN') ∨
       (e ≠ 1 ∧ BytesW.matchExtLoop r.data q.data kN = some (BytesW.matchExtTail r'.data q'.data kN')))

/-- the body of the translated loop (the text the extractor produces for all hash parsers) -/
def extLoopBody (rec : Int → Slice → Slice → Res (Nat × Int × Slice × Slice)) (k : Int) (r q : Slice) :
    Res (Nat × Int × Slice × Slice) :=
  if (Int.ofNat q.len) ≥ 8 then
    Res.bind (LZ.Gen._getLE64 r) fun r_1 =>
    Res.bind (LZ.Gen._getLE64 q) fun r_2 =>
    let x_1 : UInt64 := r_1 ^^^ r_2
    let b : Int := (trailingZeros64 x_1) >>> (3 : Nat)
    let k : Int := k + b
    if b < 8 then
      Res.ok (1, k, r, q)
    else
    Res.bind (Slice.slice r (8 : Int) (Int.ofNat r.len)) fun t_3 =>
    let r : Slice := t_3
    Res.bind (Slice.slice q (8 : Int) (Int.ofNat q.len)) fun t_4 =>
    let q : Slice := t_4
    rec k r q
  else
    Res.ok (0, k, r, q)

/-- `Loop2Spec` from what one call of the loop function does: it stops when fewer than 8 bytes are left of `q`, and
    otherwise compares one word (`b` = the number of equal bytes) and leaves with `goto match` or goes on -/
theorem loop2_of_steps (F : Nat → Int → Slice → Slice → Res (Nat × Int × Slice × Slice))
    (hstop : ∀ fuel k r q, q.len < 8 → F (fuel + 1) k r q = Res.ok (0, k, r, q))
    (hword : ∀ fuel k r q (b : Nat), SWF r → SWF q → 8 ≤ q.len → q.len ≤ r.len →
      b = BytesW.tz64 (BytesW.getLE64 r.data ^^^ BytesW.getLE64 q.data) >>> 3 →
      F (fuel + 1) k r q =
        if b < 8 then Res.ok (1, k + (b : Int), r, q)
        else F fuel (k + (b : Int)) { arr := r.arr.drop 8, len := r.len - 8 } { arr := q.arr.drop 8, len := q.len - 8 }) :
    Loop2Spec F := by
  intro m
  induction m with
  | zero => intro fuel kN k r q h; omega
  | succ m ih =>
    intro fuel kN k r q hm hf hk hr hq hqr
    obtain ⟨f, rfl⟩ : ∃ f, fuel = f + 1 := ⟨fuel - 1, by omega⟩
    have hrl : r.data.length = r.len := data_length hr
    have hql : q.data.length = q.len := data_length hq
    have hr' : r.len ≤ r.arr.length := hr
    have hq' : q.len ≤ q.arr.length := hq
    by_cases h8 : 8 ≤ q.len
    · rw [hword f k r q _ hr hq h8 hqr rfl, BytesW.matchExtLoop_ge _ _ _ (by omega) (by omega)]
      generalize BytesW.tz64 (BytesW.getLE64 r.data ^^^ BytesW.getLE64 q.data) >>> 3 = b
      by_cases hb : b < 8
      · rw [if_pos hb, if_pos hb]
        exact ⟨1, kN + b, r, q, by rw [hk]; rfl, hr, hq, Or.inl ⟨rfl, rfl⟩⟩
      · rw [if_neg hb, if_neg hb]
        obtain ⟨e, kN', r', q', hl, h1, h2, h3⟩ := ih f (kN + b) (k + (b : Int))
          { arr := r.arr.drop 8, len := r.len - 8 } { arr := q.arr.drop 8, len := q.len - 8 }
          (by show q.len - 8 < _; omega) (by omega) (by rw [hk]; rfl) (swf_drop _ _ _ hr') (swf_drop _ _ _ hq')
          (by show q.len - 8 ≤ r.len - 8; omega)
        rw [data_drop', data_drop'] at h3
        exact ⟨e, kN', r', q', hl, h1, h2, h3⟩
    · rw [hstop f k r q (by omega), BytesW.matchExtLoop_lt _ _ _ (by omega)]
      exact ⟨0, kN, r, q, by rw [hk], hr, hq, Or.inr ⟨by decide, rfl⟩⟩

theorem loop2_of_eqn (F : Nat → Int → Slice → Slice → Res (Nat × Int × Slice × Slice))
    (heq : ∀ fuel k r q, F (fuel + 1) k r q = extLoopBody (F fuel) k r q) : Loop2Spec F :=
  loop2_of_steps F
    (fun fuel k r q h => by
      rw [heq]; unfold extLoopBody
      rw [if_neg (by show ¬ (q.len : Int) ≥ 8; omega)])
    (fun fuel k r q b hr hq h8 hqr hb => by
      have hrl : r.data.length = r.len := data_length hr
      have hql : q.data.length = q.len := data_length hq
      have hr' : r.len ≤ r.arr.length := hr
      have hq' : q.len ≤ q.arr.length := hq
      rw [heq]; unfold extLoopBody
      rw [if_pos (by show (q.len : Int) ≥ 8; omega), gen_le64 r hr, gen_le64 q hq,
        BytesW.le64_eq_some _ (by omega), BytesW.le64_eq_some _ (by omega)]
      simp only [ofOpt, bind_ok, tz_shr, ← hb]
      by_cases hb8 : b < 8
      · rw [if_pos (by omega), if_pos hb8]
      · rw [if_neg (by omega), if_neg hb8,
          slice_okI r 8 (Int.ofNat r.len) 8 r.len rfl rfl (by omega) hr', bind_ok,
          slice_okI q 8 (Int.ofNat q.len) 8 q.len rfl rfl (by omega) hq', bind_ok])

/-- the block `if k == 8 { r := p[j+8:]; q := p[i+8:]; for len(q) >= 8 {…}; if len(q) > 0 {…}; match: }` as the
    extractor translates it (a join; `F` = the translated inner loop) -/
def extBlock (F : Nat → Int → Slice → Slice → Res (Nat × Int × Slice × Slice)) (fuel : Nat) (p : Slice)
    (i j k : Int) : Res Int :=
  if k = 8 then
    Res.bind (Slice.slice p (j + 8) (Int.ofNat p.len)) fun t_9 =>
    let r : Slice := t_9
    Res.bind (Slice.slice p (i + 8) (Int.ofNat p.len)) fun t_10 =>
    let q : Slice := t_10
    Res.bind (F fuel k r q) fun r_11 =>
    let k : Int := r_11.2.1
    let r : Slice := r_11.2.2.1
    let q : Slice := r_11.2.2.2
    if r_11.1 = 1 then
      Res.ok k
    else
    Res.bind (
      if (Int.ofNat q.len) > 0 then
        Res.bind (LZ.Gen.getLE64 r) fun r_12 =>
        Res.bind (LZ.Gen.getLE64 q) fun r_13 =>
        let x_2 : UInt64 := r_12 ^^^ r_13
        let b : Int := (trailingZeros64 x_2) >>> (3 : Nat)
        let b : Int :=
          if b > (Int.ofNat q.len) then
            let b : Int := Int.ofNat q.len
            b
          else
            b
        let k : Int := k + b
        Res.ok k
      else
        Res.ok k) fun join_14 =>
    let k : Int := join_14
    Res.ok k
  else
    Res.ok k

/-- the extension of a full first word: the translated loop run on `p[j+8:]`, `p[i+8:]`, and what its exit says
    about the value `kk` of `BytesW.matchExt` (`goto match`: the count so far; otherwise the tail is still to add) -/
theorem ext_loop_run (F : Nat → Int → Slice → Slice → Res (Nat × Int × Slice × Slice)) (hF : Loop2Spec F)
    (fuel : Nat) (A : List UInt8) (L i j kk : Nat) (hj : j < i) (h8 : i + 8 ≤ L) (hLA : L ≤ A.length)
    (hfuel : L - i ≤ fuel) (hme : BytesW.matchExt (A.take L) i j 8 = some kk) :
    ∃ (e kN' : Nat) (r' q' : Slice),
      F fuel ((8 : Nat) : Int) { arr := A.drop (j + 8), len := L - (j + 8) } { arr := A.drop (i + 8), len := L - (i + 8) } =
        Res.ok (e, (kN' : Int), r', q') ∧ SWF r' ∧ SWF q' ∧
      (e = 1 → kk = kN') ∧ (e ≠ 1 → kk = BytesW.matchExtTail r'.data q'.data kN') := by
  have hpl : (A.take L).length = L := by rw [List.length_take]; omega
  rw [BytesW.matchExt_eight, BytesW.sliceFrom_eq_some _ _ (by rw [hpl]; omega),
    BytesW.sliceFrom_eq_some _ _ (by rw [hpl]; omega)] at hme
  simp only [Option.bind_some] at hme
  obtain ⟨e, kN', r', q', hl2, hr', hq', hdisj⟩ := hF (L - i) fuel 8 ((8 : Nat) : Int)
    { arr := A.drop (j + 8), len := L - (j + 8) } { arr := A.drop (i + 8), len := L - (i + 8) }
    (by show L - (i + 8) < 8 * (L - i); omega) hfuel rfl (swf_drop _ _ _ hLA) (swf_drop _ _ _ hLA)
    (by show L - (i + 8) ≤ L - (j + 8); omega)
  rw [data_drop, data_drop, hme] at hdisj
  refine ⟨e, kN', r', q', hl2, hr', hq', ?_, ?_⟩
  · intro he
    rcases hdisj with ⟨_, hm⟩ | ⟨hne, _⟩
    · exact Option.some.inj hm
    · exact absurd he hne
  · intro he
    rcases hdisj with ⟨h1, _⟩ | ⟨_, hm⟩
    · exact absurd h1 he
    · exact Option.some.inj hm

theorem extBlock_eq (F : Nat → Int → Slice → Slice → Res (Nat × Int × Slice × Slice)) (hF : Loop2Spec F)
    (fuel : Nat) (A : List UInt8) (L i j k8 kk : Nat) (ia : Int) (hia : ia = (i : Int))
    (hj : j < i) (hk8 : k8 ≤ L - i) (hLA : L ≤ A.length) (hfuel : L - i ≤ fuel)
    (hme : BytesW.matchExt (A.take L) i j k8 = some kk) :
    extBlock F fuel { arr := A, len := L } ia (Int.ofNat j) ((k8 : Nat) : Int) = Res.ok ((kk : Nat) : Int) := by
  unfold extBlock
  by_cases h8 : k8 = 8
  · subst h8
    rw [if_pos (by omega)]
    obtain ⟨e, kN', r', q', hl2, hr', hq', he1, he0⟩ := ext_loop_run F hF fuel A L i j kk hj (by omega) hLA hfuel hme
    refine bind_trans (slice_okI _ (Int.ofNat j + 8) (Int.ofNat L) (j + 8) L (by show (j : Int) + 8 = _; omega) rfl
      (by omega) hLA) ?_
    refine bind_trans (slice_okI _ (ia + 8) (Int.ofNat L) (i + 8) L (by omega) rfl (by omega) hLA) ?_
    refine bind_trans hl2 ?_
    dsimp only
    by_cases he : e = 1
    · rw [if_pos he, he1 he]
    · rw [if_neg he, he0 he]
      by_cases hq0 : q'.len > 0
      · rw [if_pos (by show (q'.len : Int) > 0; omega), gen_getLE64 r' hr', bind_ok, gen_getLE64 q' hq', bind_ok,
          bind_ok]
        rw [BytesW.matchExtTail_min r'.data q'.data kN' (by rw [data_length hq']; exact hq0), data_length hq']
        simp only [tz_shr, Int.ofNat_eq_natCast]
        exact congrArg Res.ok (by split <;> omega)
      · rw [if_neg (by show ¬ (q'.len : Int) > 0; omega), bind_ok,
          BytesW.matchExtTail_zero _ _ _ (by rw [data_length hq']; omega)]
  · rw [if_neg (by omega), Option.some.inj ((BytesW.matchExt_of_ne _ i j h8).symm.trans hme)]

/-! ## re-indexing: one store, a range in two tables -/

/-- `x := _getLE64(_p[j:]) & h.mask; h.table[hashValue(x, h.shift)] = hashEntry{pos: uint32(j), value: uint32(x)}`
    as a function of the table -/
def storeKey (g : Gen.hash) (t : GSlice hashEntry) (y : UInt64) (j : Int) : Res (GSlice hashEntry) :=
  GSlice.set t (Int.ofNat (LZ.Gen.hashValue (y &&& g.mask) g.shift).toNat)
    ({ pos := UInt32.ofInt j, value := (y &&& g.mask).toUInt32 } : hashEntry)

/-- the positions `j, …, j + n - 1` inserted into two tables -/
def insertRange2W (_p : List Byte) (d : HashT × HashT) (j n : Nat) : Option (HashT × HashT) :=
  (ProbeW.insertRangeW d.1 _p j n).bind fun a => (ProbeW.insertRangeW d.2 _p j n).bind fun b => some (a, b)

theorem insertRange2W_succ (_p : List Byte) (d : HashT × HashT) (j n : Nat) :
    insertRange2W _p d j (n + 1) =
      ((ProbeW.insertW d.1 _p j).bind fun a => (ProbeW.insertW d.2 _p j).bind fun b => some (a, b)).bind fun d' =>
        insertRange2W _p d' (j + 1) n := by
  unfold insertRange2W
  rw [ProbeW.insertRangeW_succ, ProbeW.insertRangeW_succ]
  cases ProbeW.insertW d.1 _p j with
  | none => rfl
  | some a =>
    cases ProbeW.insertW d.2 _p j with
    | none => rw [Option.bind_some]; cases ProbeW.insertRangeW a _p (j + 1) n <;> rfl
    | some b => rfl

theorem insertRange2W_eq_some {_p : List Byte} {d r : HashT × HashT} {j n : Nat} (h : insertRange2W _p d j n = some r) :
    ProbeW.insertRangeW d.1 _p j n = some r.1 ∧ ProbeW.insertRangeW d.2 _p j n = some r.2 := by
  unfold insertRange2W at h
  cases h1 : ProbeW.insertRangeW d.1 _p j n with
  | none => rw [h1] at h; cases h
  | some a =>
    cases h2 : ProbeW.insertRangeW d.2 _p j n with
    | none => rw [h1, h2] at h; cases h
    | some b => rw [h1, h2] at h; cases h; exact ⟨rfl, rfl⟩

/-! ## one table access of the greedy loop -/

/-- `entry := h.table[idx]; h.table[idx] = hashEntry{pos: uint32(i), value: uint32(x)}` with
    `x = y & h.mask`, `idx = hashValue(x, h.shift)`: no panic; the model's `getD` / `setIfInBounds` -/
theorem table_probe (g : Gen.hash) (t : GSlice hashEntry) (ht : TOK g.shift t)
    (sh1 : 32 ≤ g.shift.toNat) (sh2 : g.shift.toNat ≤ 64) (y : UInt64) (ia : Int) (i : Nat) (hia : ia = (i : Int))
    (hi : i < 4294967296) :
    ∃ (ent : hashEntry) (t1 : GSlice hashEntry),
      GSlice.index ({ pos := 0, value := 0 } : hashEntry) t (Int.ofNat (Gen.hashValue (y &&& g.mask) g.shift).toNat)
        = Res.ok ent ∧
      GSlice.set t (Int.ofNat (Gen.hashValue (y &&& g.mask) g.shift).toNat)
        ({ pos := UInt32.ofInt ia, value := (y &&& g.mask).toUInt32 } : hashEntry) = Res.ok t1 ∧
      TOK g.shift t1 ∧
      ofEntry ent = (ofHashT g t).tbl.getD (LZ.hashValue (y &&& g.mask) (ofHashT g t).hashBits) (0, 0) ∧
      ofHashT g t1 = { ofHashT g t with tbl := (ofHashT g t).tbl.setIfInBounds (LZ.hashValue (y &&& g.mask) (ofHashT g t).hashBits) (i, lo32 (y &&& g.mask)) } := by
  obtain ⟨hv, hlt⟩ := gen_hashValue_shift (y &&& g.mask) g.shift sh1 sh2
  have hidx : (Gen.hashValue (y &&& g.mask) g.shift).toNat < t.len := by rw [hv, ht.2]; exact hlt
  refine ⟨_, _, gindex_ok _ _ (Int.ofNat _) _ rfl hidx, gset_ok _ (Int.ofNat _) _ rfl hidx _,
    ⟨gwf_set _ ht.1 _ _, ht.2⟩, ?_, ?_⟩
  · have hget := ofHashT_get g t ht.1 _ hidx
    unfold zeroE at hget
    rw [ofHashT_hashBits, ← hv]
    exact hget.symm
  · have hset := ofHashT_set g t (Gen.hashValue (y &&& g.mask) g.shift).toNat
      { pos := UInt32.ofInt ia, value := (y &&& g.mask).toUInt32 }
    simp only [ofEntry, lo32_eq, toNat_ofInt32 i ia hia hi] at hset
    rw [ofHashT_hashBits, ← hv]
    exact hset

/-! ## the first word of a candidate -/

/-- `k := bits.TrailingZeros64(_getLE64(_p[j:])^y) >> 3; if k > len(p)-i { k = len(p)-i }; if k < minMatchLen {…}`:
    the clamped value `k8`, and what `BytesW.matchLenInline` returns in the two cases -/
theorem first_word (A : List UInt8) (L E mmN i j : Nat) (y z : UInt64) (ia : Int) (hia : ia = (i : Int))
    (hy : (BytesW.sliceFrom (A.take (E + 7)) i).bind BytesW.le64 = some y)
    (hz : (BytesW.sliceFrom (A.take (E + 7)) j).bind BytesW.le64 = some z)
    (hj : j < i) (hi : i < E) (hEL : E ≤ L) (hLA : L ≤ A.length) (hEA : E + 7 ≤ A.length) :
    ∃ k8 : Nat, k8 ≤ L - i ∧
      (if ((BytesW.tz64 (z ^^^ y) >>> 3 : Nat) : Int) > Int.ofNat L - ia then Int.ofNat L - ia
        else ((BytesW.tz64 (z ^^^ y) >>> 3 : Nat) : Int)) = ((k8 : Nat) : Int) ∧
      ((k8 < mmN ∧ BytesW.matchLenInline (A.take L) (A.drop L) E mmN i j = some none) ∨
       (¬ k8 < mmN ∧ ∃ kk, BytesW.matchExt (A.take L) i j k8 = some kk ∧
          BytesW.matchLenInline (A.take L) (A.drop L) E mmN i j = some (some kk) ∧ mmN ≤ kk ∧ kk ≤ L - i)) := by
  have hmem := BytesW.sliceTo_take_drop A L (E + 7) hEA
  have hpl : (A.take L).length = L := by rw [List.length_take]; omega
  have hml := BytesW.matchLenInline_nf (A.take L) (A.drop L) (A.take (E + 7)) E mmN i j y z hmem hy hz
  rw [hpl] at hml
  have hk8 : (if ((BytesW.tz64 (z ^^^ y) >>> 3 : Nat) : Int) > Int.ofNat L - ia then Int.ofNat L - ia
      else ((BytesW.tz64 (z ^^^ y) >>> 3 : Nat) : Int)) =
      (((if BytesW.tz64 (z ^^^ y) >>> 3 > L - i then L - i else BytesW.tz64 (z ^^^ y) >>> 3 : Nat)) : Int) := by
    rw [hia]; show (if _ > (L : Int) - _ then (L : Int) - _ else _) = _
    split <;> split <;> omega
  have hk8le : (if BytesW.tz64 (z ^^^ y) >>> 3 > L - i then L - i else BytesW.tz64 (z ^^^ y) >>> 3) ≤ L - i := by
    split <;> omega
  refine ⟨_, hk8le, hk8, ?_⟩
  generalize (if BytesW.tz64 (z ^^^ y) >>> 3 > L - i then L - i else BytesW.tz64 (z ^^^ y) >>> 3) = k8
    at hml hk8le ⊢
  by_cases hC1 : k8 < mmN
  · rw [if_pos hC1] at hml
    exact Or.inl ⟨hC1, hml⟩
  rw [if_neg hC1] at hml
  refine Or.inr ⟨hC1, ?_⟩
  have hsem := BytesW.matchLenInline_eq (A.take L) (A.drop L) E mmN i j hj hi (by rw [hpl]; exact hEL)
    (by rw [List.take_append_drop]; exact hEA)
  have hLcle : lcpLen ((A.take L).drop j) ((A.take L).drop i) ≤ L - i := by
    have := BytesW.lcpLen_le_right ((A.take L).drop j) ((A.take L).drop i)
    rw [List.length_drop, hpl] at this; exact this
  generalize lcpLen ((A.take L).drop j) ((A.take L).drop i) = Lc at hsem hLcle
  rw [hml] at hsem
  cases hme : BytesW.matchExt (A.take L) i j k8 with
  | none => rw [hme] at hsem; cases hsem
  | some kk =>
    rw [hme, Option.map_some] at hsem
    have hkk : ¬ Min.min 8 Lc < mmN ∧ kk = Lc := by
      by_cases hh : Min.min 8 Lc < mmN
      · rw [if_pos hh] at hsem; cases hsem
      · rw [if_neg hh] at hsem; injection hsem with h1; injection h1 with h2; exact ⟨hh, h2⟩
    obtain ⟨hmin, hkkLc⟩ := hkk
    subst hkkLc
    rw [hme, Option.map_some] at hml
    exact ⟨kk, rfl, hml, by omega, hLcle⟩

/-! ## small steps every walk through a generated loop uses -/

/-- `rw [clamp_val (v := v) (by omega)]`: the first integer-valued `if` of the goal (a clamp `if x > e { x = e }`, in
    any spelling) is `v` -/
theorem clamp_val {c : Prop} [Decidable c] {a b v : Int} (h : (if c then a else b) = v) : (if c then a else b) = v := h

/-- the test `uint32(x) != entry.value` of the text is the model's test on `lo32 x` -/
theorem val_ne_iff (x : UInt64) (ent : hashEntry) : x.toUInt32 ≠ ent.value ↔ lo32 x ≠ (ofEntry ent).2 := by
  constructor
  · intro h hc; apply h; apply UInt32.toNat_inj.mp; rw [lo32_eq]; exact hc
  · intro h hc; apply h; rw [← lo32_eq, hc]; rfl

/-! The end of an iteration: the next call of the greedy loop, the emitted sequence and the block, up to integer
    arithmetic. -/

theorem loop_congr {σ α : Type} (F : Int → σ → Block' → Int → α) {i i' : Int} {s s' : σ} {b b' : Block'}
    {l l' : Int} (hi : i = i') (hs : s = s') (hb : b = b') (hl : l = l') : F i s b l = F i' s' b' l' := by
  rw [hi, hs, hb, hl]

theorem blk_eq {S : List Gen.Seq} {q q' : Gen.Seq} {l l' : Slice} (hq : q = q') (hl : l = l') :
    ({ Sequences := S ++ [q], Literals := l } : Block') = { Sequences := S ++ [q'], Literals := l' } := by
  rw [hq, hl]

theorem seq_eq {a b c : Int} {n1 n2 n3 : Nat} (ha : a = (n1 : Int)) (hb : b = (n2 : Int)) (hc : c = (n3 : Int)) :
    ({ LitLen := UInt32.ofInt a, MatchLen := UInt32.ofInt b, Offset := UInt32.ofInt c, Aux := 0 } : Gen.Seq) =
      seqRep { litLen := n1, matchLen := n2, offset := n3 } := by
  rw [ha, hb, hc]; rfl

/-! ## the induction over the iterations of a greedy loop -/

/-- One iteration of a translated loop `for ; i < hi; i++ { … }` with state `(i, s, blk, litIndex)` at a position
    `lo ≤ i < hi` is one step of the word-level finder `f`: the finder does not panic, and the call of `loopF` is the
    call for the next position — behind `i`, or behind the match, with the sequence and its literals appended to the
    block.  `c` = the fuel an iteration may need for its inner loops beyond `L - i`. -/
@[reducible] def GreedyStep {δ σ : Type} (f : δ → List Byte → Nat → Nat → Option (δ × Option (Nat × Nat × Nat)))
    (loopF : Nat → Int → σ → Block' → Int → Res (Int × σ × Block' × Int)) (abs : σ → δ) (Inv : σ → Prop)
    (grow : Nat → Nat → Nat) (A : List UInt8) (L c lo hi : Nat) : Prop :=
  ∀ (fuel i li : Nat) (ia lia : Int) (s : σ) (blk : Block'), Inv s → ia = (i : Int) → lia = (li : Int) →
    lo ≤ i → i < hi → li ≤ i → L + c ≤ fuel + i →
    ∃ r, f (abs s) (A.take L) i li = some r ∧
      ∃ s', Inv s' ∧ r.1 = abs s' ∧
        loopF (fuel + 1) ia s blk lia =
          (match r.2 with
          | none => loopF fuel (ia + 1) s' blk lia
          | some (st, k, o) =>
            loopF fuel ((st + k : Nat) : Int) s'
              { Sequences := blk.Sequences ++ [seqRep { litLen := st - li, matchLen := k, offset := o }],
                Literals := Slice.append grow blk.Literals ((A.drop li).take (st - li)) }
              ((st + k : Nat) : Int)) ∧
        (∀ st k o, r.2 = some (st, k, o) → li ≤ st ∧ st ≤ i ∧ i < st + k ∧ st + k ≤ L)

/-- The greedy loop, generically.  `loopF` = a translated loop `for ; i < E'; i++ { … }` with state
    `(i, s, blk, litIndex)`; `f` = the word-level finder of the model, whose loop runs to `E ≥ E'`; `abs` = the
    dictionary the Go state stands for; `Inv` = the invariant of the Go state.  If one iteration of `loopF` at a
    position `lo ≤ i < E'` is one step of the finder (`hstep`; `c` = the fuel an iteration may need for its inner
    loops beyond `L - i`), then the Go loop run from `(i, s, blk, li)` ends in a state `(i', s', blk', li')` with
    `E' ≤ i'`, and the model loop from the corresponding state continues from the corresponding state. -/
theorem greedy_generic {δ σ : Type} (f : δ → List Byte → Nat → Nat → Option (δ × Option (Nat × Nat × Nat)))
    (loopF : Nat → Int → σ → Block' → Int → Res (Int × σ × Block' × Int)) (abs : σ → δ) (Inv : σ → Prop)
    (grow : Nat → Nat → Nat) (A : List UInt8) (L E E' c lo : Nat) (hE : E' ≤ E) (hEL : E ≤ L) (hLA : L ≤ A.length)
    (hdone : ∀ fuel (ia : Int) s blk lia, ¬ ia < (E' : Int) → loopF (fuel + 1) ia s blk lia = Res.ok (ia, s, blk, lia))
    (hstep : GreedyStep f loopF abs Inv grow A L c lo E') :
    ∀ (n fuel i li : Nat) (ia lia : Int) (s : σ) (blk : Block') (sq : List LZ.Seq) (lt : List Byte),
      E' ≤ i + n → lo ≤ i → i ≤ L → li ≤ i → ia = (i : Int) → lia = (li : Int) → L + c + 1 ≤ fuel + i → Inv s →
      blk.Sequences = sq.map seqRep → blk.Literals.data = lt → SWF blk.Literals →
      ∃ (st' : LoopSt δ) (s' : σ) (blk' : Block'),
        ProbeW.greedyLoopW f (A.take L) E { dict := abs s, i := i, litIndex := li, seqs := sq, lits := lt } =
          ProbeW.greedyLoopW f (A.take L) E st' ∧
        loopF fuel ia s blk lia = Res.ok ((st'.i : Int), s', blk', (st'.litIndex : Int)) ∧
        Inv s' ∧ st'.dict = abs s' ∧ E' ≤ st'.i ∧ st'.i ≤ L ∧ st'.litIndex ≤ st'.i ∧
        blk'.Sequences = st'.seqs.map seqRep ∧ blk'.Literals.data = st'.lits ∧ SWF blk'.Literals ∧
        li ≤ st'.litIndex := by
  intro n
  induction n with
  | zero =>
    intro fuel i li ia lia s blk sq lt hn hlo hiL hli hia hlia hfuel hinv hsq hlt hswf
    obtain ⟨fu, rfl⟩ : ∃ fu, fuel = fu + 1 := ⟨fuel - 1, by omega⟩
    refine ⟨{ dict := abs s, i := i, litIndex := li, seqs := sq, lits := lt }, s, blk, rfl, ?_, hinv, rfl,
      by show E' ≤ i; omega, hiL, hli, hsq, hlt, hswf, Nat.le_refl _⟩
    rw [hdone _ _ _ _ _ (by omega), hia, hlia]
  | succ n ih =>
    intro fuel i li ia lia s blk sq lt hn hlo hiL hli hia hlia hfuel hinv hsq hlt hswf
    by_cases hi : i < E'
    · obtain ⟨fu, rfl⟩ : ∃ fu, fuel = fu + 1 := ⟨fuel - 1, by omega⟩
      obtain ⟨r, hr, s1, hinv1, hr1, hstp, hb⟩ := hstep fu i li ia lia s blk hinv hia hlia hlo hi hli (by omega)
      obtain ⟨d, m⟩ := r
      simp only [] at hr1 hstp hb
      subst hr1
      cases m with
      | none =>
        simp only [] at hstp
        obtain ⟨st', s', blk', h1, h2, h3, h4, h5, h6, h7, h9, h10, h11, h12⟩ :=
          ih fu (i + 1) li (ia + 1) lia s1 blk sq lt
          (by omega) (by omega) (by omega) (by omega) (by omega) hlia (by omega) hinv1 hsq hlt hswf
        refine ⟨st', s', blk', ?_, ?_, h3, h4, h5, h6, h7, h9, h10, h11, h12⟩
        · rw [ProbeW.greedyLoopW_none _ _ _ _ _ (by show i < E; omega) hr]; exact h1
        · rw [hstp]; exact h2
      | some m =>
        obtain ⟨st0, k, o⟩ := m
        obtain ⟨hlist, hsti, hik, hkL⟩ := hb st0 k o rfl
        simp only [] at hstp
        have hql : (((A.take L).drop li).take (st0 - li)).length = st0 - li := by
          rw [lits_eq A L li st0 (by omega), List.length_take, List.length_drop]; omega
        obtain ⟨st', s', blk', h1, h2, h3, h4, h5, h6, h7, h9, h10, h11, h12⟩ :=
          ih fu (st0 + k) (st0 + k) ((st0 + k : Nat) : Int) ((st0 + k : Nat) : Int) s1
          { Sequences := blk.Sequences ++ [seqRep { litLen := st0 - li, matchLen := k, offset := o }],
            Literals := Slice.append grow blk.Literals ((A.drop li).take (st0 - li)) }
          (sq ++ [{ litLen := (((A.take L).drop li).take (st0 - li)).length, matchLen := k, offset := o }])
          (lt ++ ((A.take L).drop li).take (st0 - li))
          (by omega) (by omega) hkL (Nat.le_refl _) rfl rfl (by omega) hinv1
          (by rw [List.map_append, hsq, hql]; rfl)
          (by rw [(append_spec grow blk.Literals hswf _).1, hlt, lits_eq A L li st0 (by omega)])
          (swf_append grow _ hswf _)
        refine ⟨st', s', blk', ?_, ?_, h3, h4, h5, h6, h7, h9, h10, h11, by omega⟩
        · rw [ProbeW.greedyLoopW_some _ _ _ _ _ _ _ _ (by show i < E; omega) hr (by show st0 + k > i; omega)]; exact h1
        · rw [hstp]; exact h2
    · obtain ⟨fu, rfl⟩ : ∃ fu, fuel = fu + 1 := ⟨fuel - 1, by omega⟩
      refine ⟨{ dict := abs s, i := i, litIndex := li, seqs := sq, lits := lt }, s, blk, rfl, ?_, hinv, rfl,
        by show E' ≤ i; omega, hiL, hli, hsq, hlt, hswf, Nat.le_refl _⟩
      rw [hdone _ _ _ _ _ (by omega), hia, hlia]

/-- the greedy loop run to its end: `greedy_generic` with the Go bound equal to the model's, where the model
    loop stops as well -/
theorem greedy_run {δ σ : Type} (f : δ → List Byte → Nat → Nat → Option (δ × Option (Nat × Nat × Nat)))
    (loopF : Nat → Int → σ → Block' → Int → Res (Int × σ × Block' × Int)) (abs : σ → δ) (Inv : σ → Prop)
    (grow : Nat → Nat → Nat) (A : List UInt8) (L E c : Nat) (hEL : E ≤ L) (hLA : L ≤ A.length)
    (hdone : ∀ fuel (ia : Int) s blk lia, ¬ ia < (E : Int) → loopF (fuel + 1) ia s blk lia = Res.ok (ia, s, blk, lia))
    (hstep : GreedyStep f loopF abs Inv grow A L c 0 E)
    (fuel i li : Nat) (ia lia : Int) (s : σ) (blk : Block') (sq : List LZ.Seq) (lt : List Byte)
    (hiL : i ≤ L) (hli : li ≤ i) (hia : ia = (i : Int)) (hlia : lia = (li : Int)) (hfuel : L + c + 1 ≤ fuel + i)
    (hinv : Inv s) (hsq : blk.Sequences = sq.map seqRep) (hlt : blk.Literals.data = lt) (hswf : SWF blk.Literals) :
    ∃ (st' : LoopSt δ) (s' : σ) (blk' : Block'),
      ProbeW.greedyLoopW f (A.take L) E { dict := abs s, i := i, litIndex := li, seqs := sq, lits := lt } = some st' ∧
      loopF fuel ia s blk lia = Res.ok ((st'.i : Int), s', blk', (st'.litIndex : Int)) ∧
      Inv s' ∧ st'.dict = abs s' ∧ st'.i ≤ L ∧ st'.litIndex ≤ st'.i ∧
      blk'.Sequences = st'.seqs.map seqRep ∧ blk'.Literals.data = st'.lits ∧ SWF blk'.Literals ∧
      li ≤ st'.litIndex := by
  obtain ⟨st', s', blk', h1, h2, h3, h4, h5, h6⟩ := greedy_generic f loopF abs Inv grow A L E E c 0 (Nat.le_refl _)
    hEL hLA hdone hstep (E - i) fuel i li ia lia s blk sq lt (by omega) (Nat.zero_le _) hiL hli hia hlia hfuel hinv
    hsq hlt hswf
  exact ⟨st', s', blk', by rw [h1]; exact ProbeW.greedyLoopW_done _ _ _ _ (by omega), h2, h3, h4, h6⟩

/-- Two consecutive greedy loops (`loopA` up to `E2`, `loopB` from where it stopped up to `E1`) are one run of the
    model's loop up to `E1`. -/
theorem greedy_two_phase {δ σ : Type} (f : δ → List Byte → Nat → Nat → Option (δ × Option (Nat × Nat × Nat)))
    (loopA loopB : Nat → Int → σ → Block' → Int → Res (Int × σ × Block' × Int)) (abs : σ → δ) (Inv : σ → Prop)
    (grow : Nat → Nat → Nat) (A : List UInt8) (L E1 E2 c : Nat) (hE : E2 ≤ E1) (hEL : E1 ≤ L) (hLA : L ≤ A.length)
    (hdoneA : ∀ fuel (ia : Int) s blk lia, ¬ ia < (E2 : Int) → loopA (fuel + 1) ia s blk lia = Res.ok (ia, s, blk, lia))
    (hdoneB : ∀ fuel (ia : Int) s blk lia, ¬ ia < (E1 : Int) → loopB (fuel + 1) ia s blk lia = Res.ok (ia, s, blk, lia))
    (hstepA : GreedyStep f loopA abs Inv grow A L c 0 E2) (hstepB : GreedyStep f loopB abs Inv grow A L c E2 E1)
    (fuel W : Nat) (s : σ) (blk : Block') (hW : W ≤ L) (hfuel : L + c + 1 ≤ fuel + W) (hinv : Inv s)
    (hsq : blk.Sequences = []) (hlt : blk.Literals.data = []) (hswf : SWF blk.Literals) :
    ∃ (st1 st' : LoopSt δ) (s1 s' : σ) (blk1 blk' : Block'),
      ProbeW.greedyLoopW f (A.take L) E1 { dict := abs s, i := W, litIndex := W, seqs := [], lits := [] } = some st' ∧
      loopA fuel (W : Int) s blk (W : Int) = Res.ok ((st1.i : Int), s1, blk1, (st1.litIndex : Int)) ∧
      loopB fuel (st1.i : Int) s1 blk1 (st1.litIndex : Int) = Res.ok ((st'.i : Int), s', blk', (st'.litIndex : Int)) ∧
      Inv s' ∧ st'.dict = abs s' ∧
      blk'.Sequences = st'.seqs.map seqRep ∧ blk'.Literals.data = st'.lits ∧ SWF blk'.Literals ∧
      W ≤ st'.litIndex ∧ st'.litIndex ≤ L := by
  obtain ⟨st1, s1, blk1, hg1, hl1, hinv1, hd1, hE2i, hiL1, hli1, hsq1, hlt1, hswf1, hW1⟩ :=
    greedy_generic f loopA abs Inv grow A L E1 E2 c 0 hE hEL hLA hdoneA hstepA
      (E2 - W) fuel W W (W : Int) (W : Int) s blk [] [] (by omega) (Nat.zero_le _) hW (Nat.le_refl _) rfl rfl
      hfuel hinv (by rw [hsq]; rfl) hlt hswf
  obtain ⟨st2, s2, blk2, hg2, hl2, hinv2, hd2, hE1i, hiL2, hli2, hsq2, hlt2, hswf2, hW2⟩ :=
    greedy_generic f loopB abs Inv grow A L E1 E1 c E2 (Nat.le_refl _) hEL hLA hdoneB hstepB
      (E1 - st1.i) fuel st1.i st1.litIndex (st1.i : Int) (st1.litIndex : Int) s1 blk1 st1.seqs st1.lits
      (by omega) hE2i hiL1 hli1 rfl rfl (by omega) hinv1 hsq1 hlt1 hswf1
  refine ⟨st1, st2, s1, s2, blk1, blk2, ?_, hl1, hl2, hinv2, hd2, hsq2, hlt2, hswf2, by omega, by omega⟩
  rw [hg1]
  have : st1 = { dict := abs s1, i := st1.i, litIndex := st1.litIndex, seqs := st1.seqs, lits := st1.lits } := by
    rw [← hd1]
  rw [this, hg2]
  exact ProbeW.greedyLoopW_done _ _ _ _ (by omega)

end LZ.GenParse

#print axioms LZ.GenParse.loop2_of_eqn
#print axioms LZ.GenParse.extBlock_eq
#print axioms LZ.GenParse.table_probe
#print axioms LZ.GenParse.first_word
#print axioms LZ.GenParse.greedy_generic
#print axioms LZ.GenParse.greedy_run
#print axioms LZ.GenParse.greedy_two_phase
