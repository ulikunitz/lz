/-
  The ParserBuffer methods (B01–B08): the hand-written model `PBuf` (LzModel/PBuf.lean) equals the code that
  `tools/extract -code` regenerates from parser_buffer.go (LzModel/Generated/CodePBuf.lean: byte slices as values
  `Gen.Slice`, panics and loop fuel as `Gen.Res`, error variables).

  Abstraction map `ofPB : Gen.ParserBuffer → PBuf` (Go ints ↦ naturals by `Int.toNat`, `Data ↦ Data.data =
  arr.take len`, `cap = arr.length`); `errOf : Gen.Err → Option LZ.Err` reads the package-level error variables
  (`none` for any other value).  Representation invariant (an explicit hypothesis, shown to be preserved): `PBWF b`,
  i.e. `SWF b.Data : len ≤ arr.length` and the int fields the model stores as naturals are ≥ 0.  Every theorem
  quantifies over ALL states and inputs satisfying the stated hypotheses and every growth function `g`.

    B01 gen_pbuf_shrink (+ gen_pbuf_shrink_panic)   B02 gen_pbuf_byteAt    B03 gen_pbuf_peekAt
    B04 gen_pbuf_readAt   B05 gen_pbuf_reset   B06 gen_pbuf_grow   B07 gen_pbuf_write   B08 gen_pbuf_init

  Every proof unfolds the generated function and the model's, follows the case split of the MODEL, and in each
  case decides every `if` of the Go text by linear arithmetic from the case facts (`decide_ite`: whatever the
  spelling of the test, whichever arm is taken, in the order in which the tests come), so that
  behaviour-preserving rewrites of parser_buffer.go (swapped arms, early returns, De Morgan, hoisted locals,
  reordered independent assignments) do not break them.  The slice expressions are evaluated by `slice_ok_and`,
  `make_ok`, `shift_ok`, `copy_full` (LzProofs/GenBufPropsBase.lean), whose side conditions are linear arithmetic
  again.
-/
import LzModel.Generated.CodePBuf
import LzProofs.GenBufPropsBase
import LzProofs.GenPropsCfgBuf
import LzProofs.ParseBuf

set_option linter.unusedSimpArgs false
set_option linter.unusedVariables false

namespace LZ.GenBuf
open LZ LZ.Gen

/-! ## ParserBuffer -/

/-- representation invariant of the generated `ParserBuffer` state under which the abstraction
    `ofPB` (Go ints ↦ naturals) loses nothing the functions below look at -/
structure PBWF (b : ParserBuffer) : Prop where
  data : SWF b.Data
  w : 0 ≤ b.W
  off : 0 ≤ b.Off
  ss : 0 ≤ b.BufConfig.ShrinkSize
  bs : 0 ≤ b.BufConfig.BufferSize

def ofCfg (c : Gen.BufConfig) : BufCfg :=
  { shrinkSize := c.ShrinkSize.toNat, bufferSize := c.BufferSize.toNat,
    windowSize := c.WindowSize.toNat, blockSize := c.BlockSize.toNat }

/-- abstraction map: generated state record ↦ model state -/
def ofPB (b : ParserBuffer) : PBuf :=
  { data := b.Data.data, w := b.W.toNat, off := b.Off.toNat, cap := b.Data.cap, cfg := ofCfg b.BufConfig }

/-- under `PBWF` the natural numbers of the model are the Go ints: the facts from which `omega` decides a test
    of the Go text in a case of the model, and the side conditions of the slice expressions -/
theorem PBWF.casts {b : ParserBuffer} (h : PBWF b) :
    ((ofPB b).w : Int) = b.W ∧ ((ofPB b).off : Int) = b.Off ∧
    ((ofPB b).cfg.shrinkSize : Int) = b.BufConfig.ShrinkSize ∧
    ((ofPB b).cfg.bufferSize : Int) = b.BufConfig.BufferSize ∧
    (ofPB b).data.length = b.Data.len ∧ (ofPB b).cap = b.Data.cap ∧
    b.Data.cap = b.Data.arr.length ∧ b.Data.len ≤ b.Data.arr.length :=
  ⟨Int.toNat_of_nonneg h.w, Int.toNat_of_nonneg h.off, Int.toNat_of_nonneg h.ss, Int.toNat_of_nonneg h.bs,
    data_length h.data, rfl, rfl, h.data⟩

/-- B01 `Shrink` -/
theorem gen_pbuf_shrink (b : ParserBuffer) (h : PBWF b) (hw : b.W - b.BufConfig.ShrinkSize ≤ b.Data.len) :
    ∃ b', ParserBuffer_Shrink b = Res.ok (b', ((PBuf.shrink (ofPB b)).2 : Int))
      ∧ ofPB b' = (PBuf.shrink (ofPB b)).1 ∧ PBWF b' := by
  obtain ⟨cw, co, cs, cb, cl, cc, ca, hd⟩ := h.casts
  unfold ParserBuffer_Shrink PBuf.shrink
  simp only [Int.ofNat_eq_natCast]
  by_cases hle : (ofPB b).w ≤ (ofPB b).cfg.shrinkSize
  · repeat decide_ite
    exact ⟨b, rfl, rfl, h⟩
  · repeat decide_ite
    have hdelta : b.W - b.BufConfig.ShrinkSize = (((ofPB b).w - (ofPB b).cfg.shrinkSize : Nat) : Int) := by omega
    generalize (ofPB b).w - (ofPB b).cfg.shrinkSize = d at hdelta ⊢
    rw [hdelta, slice_ok_and _ _ _ (by omega)]
    simp only [bind_ok, Int.toNat_natCast]
    rw [shift_ok _ h.data]
    obtain ⟨sd, sc, sl⟩ := shifted_spec b.Data h.data d (by omega)
    refine ⟨_, rfl, ?_, ⟨?_, h.ss, ?_, h.ss, h.bs⟩⟩
    · simp only [ofPB, sd, Slice.cap, sc, ofCfg]
      congr 1 <;> omega
    · show (shifted b.Data d).len ≤ (shifted b.Data d).arr.length; omega
    · show 0 ≤ b.Off + (d : Int); omega

/-- B01' where the model is total but the Go code panics: `W - ShrinkSize > len(Data)` -/
theorem gen_pbuf_shrink_panic (b : ParserBuffer) (h : PBWF b) (hw : b.W - b.BufConfig.ShrinkSize > b.Data.len) :
    ParserBuffer_Shrink b = Res.panic := by
  unfold ParserBuffer_Shrink
  simp only [Int.ofNat_eq_natCast]
  repeat decide_ite
  rw [slice_panic _ _ _ (by omega)]
  rfl

/-- B02 `ByteAt` -/
theorem gen_pbuf_byteAt (b : ParserBuffer) (h : PBWF b) (off : Int) :
    ∃ c e, ParserBuffer_ByteAt b off = Res.ok (c, e) ∧ c = (PBuf.byteAt (ofPB b) off).1 ∧
      errOf e = some (PBuf.byteAt (ofPB b) off).2 := by
  obtain ⟨-, co, -, -, cl, -, -, -⟩ := h.casts
  unfold ParserBuffer_ByteAt PBuf.byteAt
  simp only [Int.ofNat_eq_natCast, cl, co]
  by_cases hin : 0 ≤ off - b.Off ∧ off - b.Off < (b.Data.len : Int)
  · repeat decide_ite
    obtain ⟨i, hi⟩ : ∃ i : Nat, off - b.Off = (i : Int) := ⟨(off - b.Off).toNat, by omega⟩
    rw [hi, index_spec _ i (by omega)]
    exact ⟨_, _, rfl, rfl, errOf_ok⟩
  · by_cases he : off - b.Off = (b.Data.len : Int)
    · repeat decide_ite
      exact ⟨_, _, rfl, rfl, errOf_eob⟩
    · repeat decide_ite
      exact ⟨_, _, rfl, rfl, errOf_oob⟩

/-- B03 `PeekAt` (for every `n`, also negative: the model is called with `n.toNat`) -/
theorem gen_pbuf_peekAt (b : ParserBuffer) (h : PBWF b) (n off : Int) :
    ∃ p e, ParserBuffer_PeekAt b n off = Res.ok (p, e) ∧ p.data = (PBuf.peekAt (ofPB b) n.toNat off).1 ∧
      errOf e = some (PBuf.peekAt (ofPB b) n.toNat off).2 ∧ SWF p := by
  obtain ⟨-, co, -, -, cl, -, -, hd⟩ := h.casts
  unfold ParserBuffer_PeekAt PBuf.peekAt
  simp only [Int.ofNat_eq_natCast, cl, co, List.length_drop]
  by_cases hin : 0 ≤ off - b.Off ∧ off - b.Off < (b.Data.len : Int)
  · repeat decide_ite
    rw [slice_ok_and _ _ _ (by omega)]
    simp only [bind_ok, Int.toNat_natCast]
    refine ⟨_, _, rfl, ?_, ?_, ?_⟩
    · simp only [Slice.data, ofPB, List.drop_take]
    · -- the test `len(p) < n` of the Go text and the model's agree
      split <;> decide_ite <;> first | exact errOf_eob | exact errOf_ok
    · show _ ≤ (List.drop _ _).length
      simp only [List.length_drop]; omega
  · repeat decide_ite
    exact ⟨_, _, rfl, rfl, errOf_oob, Nat.le_refl _⟩

/-- B04 `ReadAt(p, off)`: the bytes the model reports as copied are the new head of `p`, the tail
    of `p` is unchanged, the count and the error agree -/
theorem gen_pbuf_readAt (b : ParserBuffer) (h : PBWF b) (p : Slice) (hp : SWF p) (off : Int) :
    ∃ p' n e, ParserBuffer_ReadAt b p off = Res.ok (p', n, e) ∧
      p'.data = (PBuf.readAt (ofPB b) p.len off).1 ++ p.data.drop (PBuf.readAt (ofPB b) p.len off).1.length ∧
      n = ((PBuf.readAt (ofPB b) p.len off).1.length : Int) ∧
      errOf e = some (PBuf.readAt (ofPB b) p.len off).2 ∧
      p'.len = p.len ∧ p'.arr.length = p.arr.length := by
  obtain ⟨q, e, hq, hqd, hqe, hqw⟩ := gen_pbuf_peekAt b h (Int.ofNat p.len) off
  rw [show (Int.ofNat p.len).toNat = p.len from rfl] at hqd hqe
  unfold ParserBuffer_ReadAt PBuf.readAt
  simp only [hq, bind_ok]
  obtain ⟨hc2, hcd, hcl, hca⟩ := copy_spec p q hp hqw
  refine ⟨_, _, _, rfl, ?_, ?_, hqe, hcl, hca⟩
  · rw [hcd, hqd]
    simp only [List.length_take]
    congr 2
    rw [← hqd, data_length hqw]
  · rw [hc2]
    simp only [List.length_take, ← hqd, data_length hqw]

/-- B06 `grow(t)` for `t ≥ 0` -/
theorem gen_pbuf_grow (b : ParserBuffer) (h : PBWF b) (t : Nat) :
    match PBuf.grow (ofPB b) t with
    | some m => ∃ b', ParserBuffer_grow b t = Res.ok b' ∧ ofPB b' = m ∧ PBWF b'
    | none => ParserBuffer_grow b t = Res.panic := by
  obtain ⟨-, -, -, cb, cl, cc, ca, hd⟩ := h.casts
  rw [PBuf.grow_eq]
  unfold ParserBuffer_grow
  simp only [Int.ofNat_eq_natCast, Facts.margin, cl, cc]
  by_cases h1 : t + 7 ≤ b.Data.cap
  · repeat decide_ite
    exact ⟨b, rfl, rfl, h⟩
  repeat decide_ite
  -- the new capacity, however the Go text spells the two clamps
  generalize hC : (@ite Int _ (_) _ _) = C
  have hCN : C = (PBuf.growCap (ofPB b) t : Int) := by
    rw [← hC, PBuf.growCap_eq_min]
    clear hC h1 hd ca cc cl
    repeat' split
    all_goals omega
  subst hCN
  clear hC
  generalize PBuf.growCap (ofPB b) t = G
  by_cases h2 : b.Data.len ≤ G
  · repeat decide_ite
    rw [make_ok _ _ (by omega)]
    simp only [bind_ok, Int.toNat_natCast]
    obtain ⟨hcd, hcw, hca⟩ := copy_full { arr := List.replicate G 0, len := b.Data.len }
      b.Data (by show _ ≤ (List.replicate _ _).length; rw [List.length_replicate]; exact h2) h.data rfl
    refine ⟨_, rfl, ?_, ⟨hcw, h.w, h.off, h.ss, h.bs⟩⟩
    simp only [ofPB, Slice.cap, hca, hcd, List.length_replicate]
  · repeat decide_ite
    rw [make_panic _ _ (by omega)]
    rfl

/-- the `grow` idiom of `Write` and `ReadFrom`, `if t+7 > cap(b.Data) { b.grow(t) }`, as ANY term `x` that is `b.grow(t)`
    when `t + 7 > cap` and `b` otherwise (the caller shows the two implications from the Go text by deciding its test) -/
theorem gen_ensure (b : ParserBuffer) (h : PBWF b) (T : Nat) (t : Int) (x : Res ParserBuffer)
    (hpos : T + 7 > b.Data.cap → x = ParserBuffer_grow b t)
    (hneg : ¬ T + 7 > b.Data.cap → x = Res.ok b) (ht : t = T) :
    match (if T + Facts.margin > (ofPB b).cap then (ofPB b).grow T else some (ofPB b)) with
    | some m => ∃ b', x = Res.ok b' ∧ ofPB b' = m ∧ PBWF b' ∧ m.data = (ofPB b).data ∧
        (T ≤ (ofPB b).cfg.bufferSize → T + 7 ≤ m.cap)
    | none => x = Res.panic := by
  subst ht
  by_cases hc : T + 7 > b.Data.cap
  · rw [if_pos (show T + Facts.margin > (ofPB b).cap from hc), hpos hc]
    have hg := gen_pbuf_grow b h T
    split at hg
    · rename_i m hm
      obtain ⟨b', h1, h2, h3⟩ := hg
      obtain ⟨f1, -, -, -, f5⟩ := PBuf.grow_frame _ _ _ hm
      exact ⟨b', h1, h2, h3, f1, fun ht => (f5 ht).2⟩
    · exact hg
  · rw [if_neg (show ¬ T + Facts.margin > (ofPB b).cap from hc)]
    exact ⟨b, hneg hc, rfl, h, rfl, fun _ => by show T + 7 ≤ b.Data.cap; omega⟩

/-- agreement of a generated result `(state, n, err)` with the model's; a model `.panic` stands for a Go panic -/
def PBAgree (r : Res (ParserBuffer × Int × Gen.Err)) (m : PBuf × Nat × LZ.Err) : Prop :=
  match r with
  | .ok (b', n, e) => m.2.2 ≠ .panic ∧ ofPB b' = m.1 ∧ n = (m.2.1 : Int) ∧ errOf e = some m.2.2 ∧ PBWF b'
  | .panic => m.2.2 = .panic
  | .fuel => False

/-- the part of `Write` after `p` has been cut to the available space: `x` is the `grow` idiom (see `gen_ensure`) -/
theorem write_tail (g : Nat → Nat → Nat) (b : ParserBuffer) (h : PBWF b) (p : Slice) (hp : SWF p)
    (e : Gen.Err) (me : LZ.Err) (hme : errOf e = some me) (hnp : me ≠ .panic)
    (hfit : b.Data.len + p.len ≤ (ofPB b).cfg.bufferSize) (t : Int)
    (x : Res ParserBuffer) (hpos : b.Data.len + p.len + 7 > b.Data.cap → x = ParserBuffer_grow b t)
    (hneg : ¬ b.Data.len + p.len + 7 > b.Data.cap → x = Res.ok b) (ht : t = (b.Data.len + p.len : Nat)) :
    PBAgree
      (Res.bind x fun j => Res.ok ({ j with Data := Slice.append g j.Data p.data }, (p.len : Int), e))
      (match (if (ofPB b).data.length + p.data.length + Facts.margin > (ofPB b).cap
              then PBuf.grow (ofPB b) ((ofPB b).data.length + p.data.length) else some (ofPB b)) with
       | none => (ofPB b, 0, .panic)
       | some b' =>
         let cap' := if (ofPB b).data.length + p.data.length ≤ b'.cap then b'.cap
                     else (ofPB b).data.length + p.data.length
         ({ b' with data := b'.data ++ p.data, cap := cap' }, p.data.length, me)) := by
  have hlen : (ofPB b).data.length = b.Data.len := data_length h.data
  rw [hlen, data_length hp]
  have hE := gen_ensure b h (b.Data.len + p.len) t x hpos hneg ht
  split at hE
  · rename_i m hm
    rw [hm]
    obtain ⟨b', rfl, rfl, hwf', hmd, hmcap⟩ := hE
    have hmcap := hmcap hfit
    have hl' : b'.Data.len = b.Data.len := by rw [← data_length hwf'.data, ← hlen, ← hmd]; rfl
    obtain ⟨had, hal, haa⟩ := append_spec g b'.Data hwf'.data p.data
    have hin : b'.Data.len + p.data.length ≤ b'.Data.arr.length := by
      rw [data_length hp]; show _ ≤ b'.Data.cap; have : (ofPB b').cap = b'.Data.cap := rfl; omega
    rw [if_pos hin] at haa
    have hc : b.Data.len + p.len ≤ (ofPB b').cap := by omega
    simp only [bind_ok, if_pos hc]
    refine ⟨hnp, ?_, rfl, hme, ⟨?_, hwf'.w, hwf'.off, hwf'.ss, hwf'.bs⟩⟩
    · simp only [ofPB, had, Slice.cap, haa]
    · show (Slice.append g b'.Data p.data).len ≤ (Slice.append g b'.Data p.data).arr.length
      rw [hal, haa]; exact hin
  · rename_i hm
    rw [hm, hE]
    rfl

/-- B07 `Write(p)`, for every growth function -/
theorem gen_pbuf_write (g : Nat → Nat → Nat) (b : ParserBuffer) (h : PBWF b) (p : Slice) (hp : SWF p) :
    PBAgree (ParserBuffer_Write g b p) (PBuf.write (ofPB b) p.data) := by
  obtain ⟨-, -, -, cb, cl, -, ca, hd⟩ := h.casts
  have hp' : p.len ≤ p.arr.length := hp
  have hpl : p.data.length = p.len := data_length hp
  unfold ParserBuffer_Write PBuf.write
  simp only [Int.ofNat_eq_natCast]
  by_cases h1 : (ofPB b).cfg.bufferSize < (ofPB b).data.length
  · -- `p[:available]` with `available < 0`
    repeat decide_ite
    rw [slice_panic _ _ _ (by omega)]
    rfl
  by_cases h2 : (ofPB b).cfg.bufferSize - (ofPB b).data.length < p.data.length
  · -- `p` is cut to `q = p[:available]`
    obtain ⟨q, hsl, hqw, hqd, hql⟩ : ∃ q : Slice,
        (∀ a : Int, a = (((ofPB b).cfg.bufferSize - b.Data.len : Nat) : Int) → Slice.slice p 0 a = Res.ok q) ∧
        SWF q ∧ q.data = p.data.take ((ofPB b).cfg.bufferSize - (ofPB b).data.length) ∧
        q.len = (ofPB b).cfg.bufferSize - b.Data.len :=
      ⟨{ arr := p.arr, len := (ofPB b).cfg.bufferSize - b.Data.len },
        fun a ha => by rw [ha]; exact slice_ok p 0 _ (Nat.zero_le _) (by omega),
        by show (ofPB b).cfg.bufferSize - b.Data.len ≤ p.arr.length; omega, by rw [cl, take_data_eq _ _ (by omega)]; rfl, rfl⟩
    repeat decide_ite
    rw [hsl _ (by omega)]
    simp only [bind_ok, h2, if_true]
    rw [← hqd]
    generalize hx : (@ite (Res ParserBuffer) _ (_) _ _) = x
    exact write_tail g b h q hqw _ _ errOf_full (by decide) (by omega) _ x
      (fun hc => by rw [← hx]; decide_ite; rw [bind_ok_right])
      (fun hc => by rw [← hx]; decide_ite) (by omega)
  · repeat decide_ite
    simp only [bind_ok, h2, if_false]
    generalize hx : (@ite (Res ParserBuffer) _ (_) _ _) = x
    exact write_tail g b h p hp _ _ errOf_ok (by decide) (by omega) _ x
      (fun hc => by rw [← hx]; decide_ite; rw [bind_ok_right])
      (fun hc => by rw [← hx]; decide_ite) (by omega)

/-- the error of `Reset`: its only `fmt.Errorf` is the model's `oversize` -/
def errOfReset (e : Gen.Err) : Option LZ.Err :=
  if e = Gen.Err.ok then some .ok else if e = Gen.Err.error 1 then some .oversize else none

/-- B05 `Reset(data)`; `cap(data) - len(data)` is the model's `capExtra` -/
theorem gen_pbuf_reset (b : ParserBuffer) (h : PBWF b) (data : Slice) (hdat : SWF data) :
    ∃ b' e, ParserBuffer_Reset b data = Res.ok (b', e) ∧
      ofPB b' = (PBuf.reset (ofPB b) data.data (data.cap - data.len)).1 ∧
      errOfReset e = some (PBuf.reset (ofPB b) data.data (data.cap - data.len)).2 ∧ PBWF b' := by
  obtain ⟨-, -, -, cb, -, cc, ca, hd⟩ := h.casts
  have hdat' : data.len ≤ data.cap := hdat
  unfold ParserBuffer_Reset PBuf.reset
  simp only [data_length hdat, Facts.margin, cc, Int.ofNat_eq_natCast]
  by_cases h1 : data.len > (ofPB b).cfg.bufferSize
  · repeat decide_ite
    exact ⟨_, _, rfl, rfl, rfl, h⟩
  by_cases h2 : data.len = 0
  · repeat decide_ite
    rw [slice_ok_and _ _ _ (by omega)]
    refine ⟨_, _, rfl, ?_, rfl, ⟨Nat.zero_le _, Int.le_refl _, Int.le_refl _, h.ss, h.bs⟩⟩
    simp [ofPB, Slice.data, Slice.cap, h2]
  by_cases h3 : data.len + 7 ≤ data.cap
  · repeat decide_ite
    refine ⟨_, _, rfl, ?_, rfl, ⟨hdat, Int.le_refl _, Int.le_refl _, h.ss, h.bs⟩⟩
    simp only [ofPB, Int.toNat_zero]
    congr 1; omega
  -- `data` is copied: into the old array if that is large enough, else into a new one
  have copied : ∀ (z : Slice) (c : Nat), z.len = data.len → z.cap = c → data.len ≤ c →
      ∃ b' e, Res.ok (({ b with W := 0, Off := 0, Data := (Slice.copy z data).1 } : ParserBuffer), Gen.Err.ok)
          = Res.ok (b', e) ∧
        ofPB b' = { data := data.data, w := 0, off := 0, cap := c, cfg := (ofPB b).cfg } ∧
        errOfReset e = some .ok ∧ PBWF b' := by
    intro z c hzl hzc hc
    obtain ⟨hcd, hcw, hca⟩ := copy_full z data (by show z.len ≤ z.cap; omega) hdat hzl
    exact ⟨_, _, rfl, by simp only [ofPB, Slice.cap, hca, hcd, Int.toNat_zero, ← hzc], rfl,
      ⟨hcw, Int.le_refl _, Int.le_refl _, h.ss, h.bs⟩⟩
  by_cases h4 : data.len + 7 ≤ b.Data.cap
  · repeat decide_ite
    rw [slice_ok_and _ _ _ (by omega)]
    exact copied _ _ rfl rfl (by omega)
  · repeat decide_ite
    rw [make_ok _ _ (by omega)]
    exact copied _ _ rfl (List.length_replicate ..) (by omega)

/-- B08 `Init(cfg)`: the configuration error is passed on and the buffer left alone; otherwise the
    buffer is the model's initial state, except that the capacity of the old `Data` is kept
    (`b.Data[:0]`; the model's `init` describes a zero `ParserBuffer`, capacity 0) -/
theorem gen_pbuf_init (b : ParserBuffer) (cfg : Gen.BufConfig) :
    (BufConfig_Verify (BufConfig_SetDefaults cfg) ≠ Gen.Err.ok →
      ParserBuffer_Init b cfg = Res.ok (b, BufConfig_Verify (BufConfig_SetDefaults cfg))) ∧
    (BufConfig_Verify (BufConfig_SetDefaults cfg) = Gen.Err.ok →
      ∃ b', ParserBuffer_Init b cfg = Res.ok (b', Gen.Err.ok) ∧
        ofPB b' = { PBuf.init (ofCfg (BufConfig_SetDefaults cfg)) with cap := b.Data.cap } ∧ PBWF b') := by
  unfold ParserBuffer_Init
  refine ⟨fun hne => ?_, fun hok => ?_⟩
  · simp only [hne, ne_eq, not_false_eq_true, if_true]
  · -- on this path the source may return the (nil) `err` of `Verify` or `nil` itself
    simp only [hok, ne_eq, not_true_eq_false, if_false]
    rw [slice_ok_and _ _ _ (by omega)]
    obtain ⟨hv, hss, -⟩ := (GenProps.bufVerify_iff _).mp ((GenProps.gen_bufVerify _).mp hok)
    refine ⟨_, rfl, ?_, ⟨Nat.zero_le _, Int.le_refl _, Int.le_refl _, hss.1, Int.le_trans (by decide) hv.1⟩⟩
    simp [ofPB, PBuf.init, Slice.data, Slice.cap]

end LZ.GenBuf

/-! ### axiom audit (printed on every build) -/
#print axioms LZ.GenBuf.gen_pbuf_shrink
#print axioms LZ.GenBuf.gen_pbuf_shrink_panic
#print axioms LZ.GenBuf.gen_pbuf_byteAt
#print axioms LZ.GenBuf.gen_pbuf_peekAt
#print axioms LZ.GenBuf.gen_pbuf_readAt
#print axioms LZ.GenBuf.gen_pbuf_reset
#print axioms LZ.GenBuf.gen_pbuf_grow
#print axioms LZ.GenBuf.gen_pbuf_write
#print axioms LZ.GenBuf.gen_pbuf_init
