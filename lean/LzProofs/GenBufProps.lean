/-
  Umbrella of GenBufPropsBase (slices, error variables), GenBufPropsP (ParserBuffer, B01–B08), GenBufPropsD
  (DecoderBuffer, D01–D07) and GenBufPropsDCopy (WriteMatch / WriteBlock, D08–D10): the hand-written models of
  `ParserBuffer` (LzModel/PBuf.lean) and `DecoderBuffer` (LzModel/DecBuf.lean) equal the code that
  `tools/extract -code` regenerates from parser_buffer.go / decoder_buffer.go.
-/
import LzProofs.GenBufPropsP
import LzProofs.GenBufPropsD
import LzProofs.GenBufPropsDCopy
