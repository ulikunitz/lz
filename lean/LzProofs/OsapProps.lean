/-
  LzProofs.OsapProps — C11: from the path of `shortestPath` to the emitted block
  (`pathToSeqs`, the `.osap` branch of `Parser.parse`) and from stored edges to the LZ77
  parses of the block bytes.
-/
import LzProofs.DpProps
namespace LZ.Sap

/-! ## cost of a block -/

/-- `Σ XZCost(MatchLen, Offset)` over the sequences -/
def seqsCost (seqs : List Seq) : Nat := (seqs.map fun s => xzCost s.matchLen s.offset).sum

/-- cost of a block: `XZCost` per match and 9 bits per literal byte -/
def blockCost (b : Block) : Nat := seqsCost b.seqs + 9 * b.lits.length

@[simp] theorem seqsCost_nil : seqsCost [] = 0 := rfl
theorem seqsCost_append (a b : List Seq) : seqsCost (a ++ b) = seqsCost a + seqsCost b := by
  simp [seqsCost]

theorem pathToSeqs_lit (p : List Byte) (m : Nat) (r : List Edge) (i li : Nat) (seqs : List Seq)
    (lits : List Byte) :
    pathToSeqs p ((m, 0) :: r) i li seqs lits = pathToSeqs p r (i + m) li seqs lits := by
  simp only [pathToSeqs, if_true]

theorem pathToSeqs_match (p : List Byte) (m : Nat) {o : Nat} (ho : o ≠ 0) (r : List Edge) (i li : Nat)
    (seqs : List Seq) (lits : List Byte) :
    pathToSeqs p ((m, o) :: r) i li seqs lits =
      pathToSeqs p r (i + m) (i + m)
        (seqs ++ [{ litLen := ((p.drop li).take (i - li)).length, matchLen := m, offset := o }])
        (lits ++ (p.drop li).take (i - li)) := by
  simp only [pathToSeqs, ho, if_false]

/-- number of literal bytes of a path: the sum of `m` over the edges with offset 0 -/
def litBytes : List Edge → Nat
  | [] => 0
  | (m, o) :: r => (if o = 0 then m else 0) + litBytes r

/-- `pathToSeqs` covers the path, never moves `litIndex` back or beyond the position reached, and
    conserves cost and literal count: sequences, collected literals and the literal bytes still
    pending (`i - li`) together cost what the path costs, and hold its literal bytes. -/
theorem pathToSeqs_spec (p : List Byte) : ∀ (π : List Edge) (i li : Nat) (seqs : List Seq) (lits : List Byte),
    li ≤ i → i + pathLen π ≤ p.length →
    (pathToSeqs p π i li seqs lits).2.2.1 = i + pathLen π ∧
    li ≤ (pathToSeqs p π i li seqs lits).2.2.2 ∧
    (pathToSeqs p π i li seqs lits).2.2.2 ≤ i + pathLen π ∧
    seqsCost (pathToSeqs p π i li seqs lits).1 + 9 * (pathToSeqs p π i li seqs lits).2.1.length
        + 9 * (i + pathLen π - (pathToSeqs p π i li seqs lits).2.2.2)
      = seqsCost seqs + 9 * lits.length + 9 * (i - li) + pathCost π ∧
    (pathToSeqs p π i li seqs lits).2.1.length + (i + pathLen π - (pathToSeqs p π i li seqs lits).2.2.2)
      = lits.length + (i - li) + litBytes π := by
  intro π
  induction π with
  | nil =>
    intro i li seqs lits h1 h2
    exact ⟨rfl, Nat.le_refl _, h1, rfl, rfl⟩
  | cons e r ih =>
    intro i li seqs lits h1 h2
    obtain ⟨m, o⟩ := e
    simp only [pathLen_cons, pathCost_cons, litBytes, ← Nat.add_assoc] at h2 ⊢
    by_cases ho : o = 0
    · subst ho
      rw [pathToSeqs_lit, xzCost_zero_offset, if_pos rfl]
      obtain ⟨a, b0, b, c, d⟩ := ih (i + m) li seqs lits (by omega) h2
      exact ⟨a, b0, b, by clear d; omega, by clear c; omega⟩
    · rw [pathToSeqs_match p m ho, if_neg ho]
      obtain ⟨a, b0, b, c, d⟩ := ih (i + m) (i + m) _ _ (Nat.le_refl _) h2
      refine ⟨a, by omega, b, ?_, ?_⟩
      · rw [c, seqsCost_append, List.length_append, length_take_drop_sub p (by omega)]
        simp only [seqsCost, List.map_cons, List.map_nil, List.sum_cons, List.sum_nil]
        clear c d; omega
      · rw [d, List.length_append, length_take_drop_sub p (by omega)]
        clear c d; omega

theorem cost_pathToSeqs (p : List Byte) : ∀ (π : List Edge) (i li : Nat) (seqs : List Seq) (lits : List Byte),
    li ≤ i → i + pathLen π ≤ p.length →
    (pathToSeqs p π i li seqs lits).2.2.1 = i + pathLen π ∧
    (pathToSeqs p π i li seqs lits).2.2.2 ≤ i + pathLen π ∧
    seqsCost (pathToSeqs p π i li seqs lits).1 + 9 * (pathToSeqs p π i li seqs lits).2.1.length
        + 9 * (i + pathLen π - (pathToSeqs p π i li seqs lits).2.2.2)
      = seqsCost seqs + 9 * lits.length + 9 * (i - li) + pathCost π :=
  fun π i li seqs lits h1 h2 =>
    have h := pathToSeqs_spec p π i li seqs lits h1 h2
    ⟨h.1, h.2.2.1, h.2.2.2.1⟩

/-! ## the `.osap` branch of `Parser.parse` -/

/-- the edges the `.osap` branch works with: recomputed if the block is not covered by the
    stored ones -/
def osapEdges (s : Parser) (o : OsapD) : OsapD :=
  if s.buf.w + s.blockN > o.start + o.edges.size then
    computeEdges s.buf.data s.buf.w s.buf.cfg.windowSize s.minMatch s.cfg.maxMatchLen.toNat
  else o

/-- the path the `.osap` branch emits -/
def osapPath (s : Parser) (o : OsapD) : List Edge :=
  shortestPath s.minMatch s.blockN (osapEdges s o).edges (s.buf.w - (osapEdges s o).start)

/-- sequences, literals, end position and `litIndex` the `.osap` branch gets from its path -/
def osapSeqs (s : Parser) (o : OsapD) : List Seq × List Byte × Nat × Nat :=
  pathToSeqs (s.buf.data.take (s.buf.w + s.blockN)) (osapPath s o) s.buf.w s.buf.w [] []

theorem parse_osap_eq (s : Parser) (o : OsapD) (hd : s.dict = .osap o) (flags : Nat)
    (hn : s.blockN ≠ 0) :
    s.parse flags =
      (if (osapEdges s o).nEdges = 0 then
        ({ s with buf := { s.buf with w := s.buf.w + s.blockN }, dict := .osap (osapEdges s o) }, s.blockN, .ok,
          ⟨[], (s.buf.data.drop s.buf.w).take s.blockN⟩)
      else
        let p := s.buf.data.take (s.buf.w + s.blockN)
        let r := pathToSeqs p (osapPath s o) s.buf.w s.buf.w [] []
        let wb : Nat × Block := if flags % 2 = 1 ∧ r.1 ≠ [] then (r.2.2.2, ⟨r.1, r.2.1⟩)
          else (p.length, ⟨r.1, r.2.1 ++ p.drop r.2.2.2⟩)
        ({ s with buf := { s.buf with w := wb.1 }, dict := .osap (osapEdges s o) }, wb.1 - s.buf.w, .ok, wb.2)) := by
  unfold Parser.parse
  simp only [hn, if_false, hd, ne_eq, not_true_eq_false, false_and]
  rfl

theorem parse_osap_block (s : Parser) (o : OsapD) (hd : s.dict = .osap o) (flags : Nat)
    (hn : s.blockN ≠ 0) (hf : flags % 2 = 0) :
    (s.parse flags).2.2.2 =
      if (osapEdges s o).nEdges = 0 then ⟨[], (s.buf.data.drop s.buf.w).take s.blockN⟩
      else ⟨(osapSeqs s o).1,
        (osapSeqs s o).2.1 ++ (s.buf.data.take (s.buf.w + s.blockN)).drop (osapSeqs s o).2.2.2⟩ := by
  have hf' : ¬ (flags % 2 = 1) := by omega
  rw [parse_osap_eq s o hd flags hn]
  split
  · rfl
  · simp only [hf', false_and, if_false]
    rfl

/-- `pathToSeqs_spec` for the path of the `.osap` branch, which covers exactly the block -/
theorem osapSeqs_spec (s : Parser) (o : OsapD) (hn : s.blockN ≠ 0) :
    s.buf.w ≤ (osapSeqs s o).2.2.2 ∧ (osapSeqs s o).2.2.2 ≤ s.buf.w + s.blockN ∧
    seqsCost (osapSeqs s o).1 + 9 * (osapSeqs s o).2.1.length
      + 9 * (s.buf.w + s.blockN - (osapSeqs s o).2.2.2) = pathCost (osapPath s o) ∧
    (osapSeqs s o).2.1.length + (s.buf.w + s.blockN - (osapSeqs s o).2.2.2) = litBytes (osapPath s o) := by
  have hlen : pathLen (osapPath s o) = s.blockN := shortestPath_len _ _ _ _
  obtain ⟨-, a, b, c, d⟩ := pathToSeqs_spec (s.buf.data.take (s.buf.w + s.blockN)) (osapPath s o)
    s.buf.w s.buf.w [] [] (Nat.le_refl _)
    (by rw [hlen, List.length_take_of_le (blockN_le s hn)]; exact Nat.le_refl _)
  rw [hlen] at b c d
  simp only [seqsCost_nil, List.length_nil, Nat.sub_self, Nat.mul_zero, Nat.add_zero, Nat.zero_add] at c d
  exact ⟨a, b, c, d⟩

/-- The block emitted with flags 0 costs what the path costs (or `9 n` when
    there is no edge at all and the block is emitted as literals). -/
theorem osap_block_cost (s : Parser) (o : OsapD) (hd : s.dict = .osap o) (flags : Nat)
    (hn : s.blockN ≠ 0) (hf : flags % 2 = 0) :
    blockCost (s.parse flags).2.2.2 =
      if (osapEdges s o).nEdges = 0 then 9 * s.blockN else pathCost (osapPath s o) := by
  rw [parse_osap_block s o hd flags hn hf]
  have hle := blockN_le s hn
  split
  · simp only [blockCost, seqsCost_nil, List.length_take, List.length_drop]; omega
  · obtain ⟨-, b, c, -⟩ := osapSeqs_spec s o hn
    simp only [blockCost, List.length_append, List.length_drop, List.length_take_of_le hle]
    omega

/-! ## LZ77 parses of the block bytes -/

section Lz
variable (p : List Byte) (w ws minM maxM n : Nat)

/-- a step of an LZ77 parse of the block `p[w .. w+n)` at block position `i`: a literal, or a
    genuine match of the buffered bytes with `minM ≤ m ≤ maxM`, `1 ≤ o ≤ ws`, source inside the
    buffer (`o ≤ w + i`, part of `MatchOK`) that stays inside the block -/
def LzStep (i m o : Nat) : Prop :=
  (m = 1 ∧ o = 0 ∧ i < n) ∨
  (1 ≤ m ∧ minM ≤ m ∧ m ≤ maxM ∧ 1 ≤ o ∧ o ≤ ws ∧ i + m ≤ n ∧ MatchOK p (w + i) m o)

def LzPathOK : Nat → Nat → List Edge → Prop
  | a, b, [] => a = b
  | a, b, (m, o) :: r => LzStep p w ws minM maxM n a m o ∧ LzPathOK (a + m) b r

/-- an LZ77 parse of the whole block -/
def LzParse (π : List Edge) : Prop := LzPathOK p w ws minM maxM n 0 n π

variable (edges : Array (List Edge)) (k0 : Nat)

/-- every stored edge of a block position is a genuine match for all lengths it is used with -/
def EdgesSound : Prop :=
  ∀ i mx o, i < n → (mx, o) ∈ edges.getD (k0 + i) [] →
    1 ≤ o ∧ o ≤ ws ∧ mx ≤ maxM ∧ ∀ m, m ≤ mx → i + m ≤ n → MatchOK p (w + i) m o

/-- every genuine match at a block position is dominated by a stored edge: at least as long,
    offset no larger -/
def EdgesComplete : Prop :=
  ∀ i m o, i < n → 1 ≤ m → minM ≤ m → m ≤ maxM → 1 ≤ o → o ≤ ws → i + m ≤ n → MatchOK p (w + i) m o →
    ∃ mx o', (mx, o') ∈ edges.getD (k0 + i) [] ∧ m ≤ mx ∧ 1 ≤ o' ∧ o' ≤ o

theorem adm_to_lz (hs : EdgesSound p w ws maxM n edges k0) :
    ∀ (π : List Edge) (a b : Nat), PathOK minM n edges k0 a b π → LzPathOK p w ws minM maxM n a b π := by
  intro π
  induction π with
  | nil => intro a b h; exact h
  | cons e r ih =>
    intro a b h
    obtain ⟨m, o⟩ := e
    obtain ⟨h1, h2⟩ := h
    refine ⟨?_, ih _ _ h2⟩
    rcases h1 with hl | ⟨mx, hmem, hm1, hmin, hmx, hn⟩
    · exact Or.inl hl
    · obtain ⟨s1, s2, s3, s4⟩ := hs a mx o (by omega) hmem
      exact Or.inr ⟨hm1, hmin, Nat.le_trans hmx s3, s1, s2, hn, s4 m hmx hn⟩

/-- every LZ77 parse is matched by a parse over the stored edges that is not more expensive -/
theorem lz_to_adm (hc : EdgesComplete p w ws minM maxM n edges k0) :
    ∀ (π : List Edge) (a b : Nat), LzPathOK p w ws minM maxM n a b π →
      ∃ π', PathOK minM n edges k0 a b π' ∧ pathCost π' ≤ pathCost π := by
  intro π
  induction π with
  | nil => intro a b h; exact ⟨[], h, Nat.le_refl _⟩
  | cons e r ih =>
    intro a b h
    obtain ⟨m, o⟩ := e
    obtain ⟨h1, h2⟩ := h
    obtain ⟨r', hr1, hr2⟩ := ih _ _ h2
    rcases h1 with hl | ⟨hm1, hmin, hmax, ho1, hows, hn, hmatch⟩
    · exact ⟨(m, o) :: r', ⟨Or.inl hl, hr1⟩, by simp only [pathCost_cons]; omega⟩
    · obtain ⟨mx, o', hmem, hmx, ho'1, ho'⟩ := hc a m o (by omega) hm1 hmin hmax ho1 hows hn hmatch
      refine ⟨(m, o') :: r', ⟨Or.inr ⟨mx, hmem, hm1, hmin, hmx, hn⟩, hr1⟩, ?_⟩
      have := xzCost_mono_offset m ho'1 ho'
      simp only [pathCost_cons]; omega

/-- C11 over genuine matches: with sound and complete edges the path of `shortestPath` is an
    LZ77 parse of the block and no LZ77 parse of the block is cheaper. -/
theorem dp_optimal_lz (hs : EdgesSound p w ws maxM n edges k0)
    (hc : EdgesComplete p w ws minM maxM n edges k0) :
    LzParse p w ws minM maxM n (shortestPath minM n edges k0) ∧
    ∀ π, LzParse p w ws minM maxM n π → pathCost (shortestPath minM n edges k0) ≤ pathCost π := by
  obtain ⟨h1, h2⟩ := dp_optimal minM n edges k0
  refine ⟨adm_to_lz p w ws minM maxM n edges k0 hs _ _ _ h1, ?_⟩
  intro π hπ
  obtain ⟨π', a, b⟩ := lz_to_adm p w ws minM maxM n edges k0 hc π 0 n hπ
  exact Nat.le_trans (h2 π' a) b

theorem pathCost_no_edges (he : ∀ k, edges.getD k [] = []) :
    ∀ (π : List Edge) (a b : Nat), PathOK minM n edges k0 a b π → pathCost π + 9 * a = 9 * b := by
  intro π
  induction π with
  | nil => intro a b h; have : a = b := h; subst this; simp
  | cons e r ih =>
    intro a b h
    obtain ⟨m, o⟩ := e
    obtain ⟨h1, h2⟩ := h
    have := ih _ _ h2
    rcases h1 with ⟨rfl, rfl, _⟩ | ⟨mx, hmem, _⟩
    · simp only [pathCost_cons, xzCost_one_zero]; omega
    · rw [he] at hmem; simp at hmem

end Lz

/-- `nEdges` counts the stored edges: if it is 0 there is none -/
def CountOK (o : OsapD) : Prop := o.nEdges = 0 → ∀ k, o.edges.getD k [] = []

/-- C11, the emitted block (hypotheses on the edges named):
    a block emitted by OSAP with flags 0 costs no more than any LZ77 parse of the block bytes
    with lengths in `[MinMatchLen, MaxMatchLen]`, offsets `≤ WindowSize`, sources in the buffer. -/
theorem C11_optimal_partial (s : Parser) (o : OsapD) (hd : s.dict = .osap o) (flags : Nat)
    (hn : s.blockN ≠ 0) (hf : flags % 2 = 0)
    (hcount : CountOK (osapEdges s o))
    (hcomplete : EdgesComplete (s.buf.data.take (s.buf.w + s.blockN)) s.buf.w s.buf.cfg.windowSize
      s.minMatch s.cfg.maxMatchLen.toNat s.blockN (osapEdges s o).edges (s.buf.w - (osapEdges s o).start)) :
    ∀ π, LzParse (s.buf.data.take (s.buf.w + s.blockN)) s.buf.w s.buf.cfg.windowSize
        s.minMatch s.cfg.maxMatchLen.toNat s.blockN π →
      blockCost (s.parse flags).2.2.2 ≤ pathCost π := by
  intro π hπ
  rw [osap_block_cost s o hd flags hn hf]
  obtain ⟨π', a, b⟩ := lz_to_adm _ _ _ _ _ _ _ _ hcomplete π 0 _ hπ
  split
  · rename_i h0
    have := pathCost_no_edges s.minMatch s.blockN _ _ (hcount h0) π' 0 _ a
    omega
  · exact Nat.le_trans ((dp_optimal _ _ _ _).2 π' a) b

/-- … and the emitted path is itself such an LZ77 parse when the edges are sound -/
theorem C11_emitted_is_parse (s : Parser) (o : OsapD)
    (hsound : EdgesSound (s.buf.data.take (s.buf.w + s.blockN)) s.buf.w s.buf.cfg.windowSize
      s.cfg.maxMatchLen.toNat s.blockN (osapEdges s o).edges (s.buf.w - (osapEdges s o).start)) :
    LzParse (s.buf.data.take (s.buf.w + s.blockN)) s.buf.w s.buf.cfg.windowSize
        s.minMatch s.cfg.maxMatchLen.toNat s.blockN (osapPath s o) :=
  adm_to_lz _ _ _ _ _ _ _ _ hsound _ _ _ (dp_optimal _ _ _ _).1

end LZ.Sap
