/-
  LzProofs.GenBDHPParseNil — the NIL PATH of the mechanical translation of bdhp.go `(*bdhp).Parse`:
  `bdhp_Parse_nilable grow fuel lcs s true blk flags` (LzModel/Generated/CodeBDHPParse.lean; the pointer parameter
  `blk` is modelled by a flag plus a value, tools/extract/code_nil.go) is the call `Parse(nil, flags)`.
  The nil path does not call `lcs` (no `LcsSpec` hypothesis) and ignores `flags`.
  No sorry, no axioms of its own.

    gen_bdhp_parse_nonnil   `bdhp_Parse … blk …` IS `bdhp_Parse_nilable … false blk …` (the generated wrapper)
    gen_bdhp_parseNil_empty the straight-line prefix (`n = 0`), every fuel
    gen_bdhp_parseNil       for every Go state with `ParseOKBD s`, every `blk` (a ghost), every `flags`, every `lcs`,
                            `fuel ≥ len + 2`:
                            `parseNilW (ofBDHPs s) (staleOfBD s) = none` ⇒ the translated `Parse(nil)` is `Res.panic`
                            `… = some (s', n, e)` ⇒ it is `Res.ok (t, blk, n, parseErr e)` — THE SAME `blk`: nothing is
                            written — with `ofBDHPs t = s'`, `staleOfBD t = staleOfBD s`, `ParseOKBD t`, and only `W` and
                            the two tables of the Go state change (`∃ t1' t2', t = withWTBD s … t1' t2'`)
    gen_bdhp_parseNil_model with `CapOK` and `HashDictOK` (as along every history): the list-level `Parser.parseNil`, no panic
-/
import LzProofs.GenBDHPParse

set_option linter.unusedSimpArgs false
set_option linter.unusedVariables false

namespace LZ.GenBDHPParse
open LZ LZ.Gen LZ.GenBuf LZ.GenHash LZ.GenProps LZ.GenHPParse LZ.GenParse LZ.GenDHPParse LZ.GenBHPParse

theorem gen_bdhp_parse_nonnil (grow : Nat → Nat → Nat) (fuel : Nat) (lcs : Slice → Slice → Int) (s : Gen.bdhp)
    (blk : Gen.Block') (flags : Int) :
    bdhp_Parse grow fuel lcs s blk flags = bdhp_Parse_nilable grow fuel lcs s false blk flags := rfl

/-- the straight-line prefix of the nil path: nothing buffered ⇒ `(0, ErrEmptyBuffer)`, the parser and the ghost block
    unchanged; for every `grow`, `fuel`, `lcs`, `flags` -/
theorem gen_bdhp_parseNil_empty (grow : Nat → Nat → Nat) (fuel : Nat) (lcs : Slice → Slice → Int) (s : Gen.bdhp)
    (blk : Gen.Block') (flags : Int) (h : Min.min s.BDHPConfig.BlockSize
      ((s.doubleHashDictionary.ParserBuffer.Data.len : Int) - s.doubleHashDictionary.ParserBuffer.W) = 0) :
    bdhp_Parse_nilable grow fuel lcs s true blk flags = Res.ok (s, blk, (0 : Int), ErrEmptyBuffer) := by
  unfold bdhp_Parse_nilable
  simp only [if_true, gt_iff_lt, ge_iff_le, ite_lt_min, ite_le_min]
  split
  all_goals first
    | rfl
    | (exfalso; int_omega)

theorem gen_bdhp_parseNil (grow : Nat → Nat → Nat) (fuel : Nat) (lcs : Slice → Slice → Int) (s : Gen.bdhp)
    (blk : Gen.Block') (flags : Int)
    (h : ParseOKBD s) (hfuel : s.doubleHashDictionary.ParserBuffer.Data.len + 2 ≤ fuel) :
    match ProbeW.parseNilW (ofBDHPs s) (staleOfBD s) with
    | none => bdhp_Parse_nilable grow fuel lcs s true blk flags = Res.panic
    | some (s', n, e) =>
      ∃ t, bdhp_Parse_nilable grow fuel lcs s true blk flags = Res.ok (t, blk, (n : Int), parseErr e) ∧
        ofBDHPs t = s' ∧ staleOfBD t = staleOfBD s ∧ (e = .ok ∨ e = .empty) ∧ ParseOKBD t ∧
        ∃ t1' t2', t = withWTBD s ((s'.buf.w : Nat) : Int) t1' t2' := by
  have hD : SWF s.doubleHashDictionary.ParserBuffer.Data := h.wf.1.data
  have bind_ok : ∀ {α β : Type} (a : α) (f : α → Res β), Res.bind (Res.ok a) f = f a := fun _ _ => rfl
  generalize hG : bdhp_Parse_nilable grow fuel lcs s true blk flags = G
  unfold bdhp_Parse_nilable at hG
  simp only [if_true, gt_iff_lt, ge_iff_le, ite_lt_min, ite_le_min, ite_lt_max, ite_le_max, Int.ofNat_eq_natCast, h.frame.clamp, h.frame.clamp'] at hG
  by_cases hn : (ofBDHPs s).blockN = 0
  · rw [ProbeW.parseNilW_empty _ _ hn]
    rw [hn, if_pos (by rfl)] at hG
    refine ⟨s, hG.symm, rfl, rfl, Or.inr rfl, h, s.doubleHashDictionary.h1.table, s.doubleHashDictionary.h2.table, ?_⟩
    rw [h.frame.w_cast]
  rw [ProbeW.parseNilW_double_nf (ofBDHPs s) (staleOfBD s)
    ⟨ofHash s.doubleHashDictionary.h1, ofHash s.doubleHashDictionary.h2⟩ rfl hn]
  rw [if_neg (by omega)] at hG
  have hwt : (((ofBDHPs s).buf.w + (ofBDHPs s).blockN : Nat) : Int) =
      s.doubleHashDictionary.ParserBuffer.W + (((ofBDHPs s).blockN : Nat) : Int) := by rw [Int.natCast_add, h.frame.w_cast]
  generalize hp1 : ProbeW.processSegment2W _ _ _ _ _ _ = r
  have hps := gen_processSegment2_at fuel s.doubleHashDictionary hD h.hok1 h.hok2 h.il12 h.small (by omega) hp1
    ((s.doubleHashDictionary.ParserBuffer.W - s.doubleHashDictionary.h2.inputLen) + 1)
    (s.doubleHashDictionary.ParserBuffer.W + (((ofBDHPs s).blockN : Nat) : Int)) rfl rfl
    (by rw [h.frame.w_cast]; show _ - ((s.doubleHashDictionary.h2.inputLen.toNat : Nat) : Int) + 1 = _
        rw [Int.toNat_of_nonneg h.hok2.il0])
    hwt
  cases r with
  | none =>
    rw [(hps :)] at hG
    exact hG.symm
  | some hh =>
    obtain ⟨t01, t02, ht01, ht02, rfl, hps⟩ := hps
    rw [hps, bind_ok] at hG
    rw [Option.bind_some]
    dsimp only at hG ⊢
    refine ⟨withWTBD s (((ofBDHPs s).buf.w + (ofBDHPs s).blockN : Nat) : Int) t01 t02, hG.symm.trans ?_, ?_, rfl,
      Or.inl rfl, h.update _ h.frame.blockN_le ht01 ht02, t01, t02, rfl⟩
    · rw [hwt]; rfl
    · show ofBDHPs (withWTBD s _ t01 t02) = _
      unfold ofBDHPs ofDDict ofPB
      simp only [Int.toNat_natCast]
      rfl

/-- **Go text → list-level model**, nil path: where the buffer is within its capacity and the two `inputLen` within the
    model's bounds (`ProbeW.parseNilW_eq`; both hold along every history) no panic, the result of `Parser.parseNil`. -/
theorem gen_bdhp_parseNil_model (grow : Nat → Nat → Nat) (fuel : Nat) (lcs : Slice → Slice → Int) (s : Gen.bdhp)
    (blk : Gen.Block') (flags : Int)
    (h : ParseOKBD s) (hfuel : s.doubleHashDictionary.ParserBuffer.Data.len + 2 ≤ fuel)
    (hcap : (ofBDHPs s).buf.CapOK) (hd : ProbeW.HashDictOK (ofBDHPs s).dict) :
    ∃ t, bdhp_Parse_nilable grow fuel lcs s true blk flags =
        Res.ok (t, blk, (((ofBDHPs s).parseNil).2.1 : Int), parseErr ((ofBDHPs s).parseNil).2.2) ∧
      ofBDHPs t = ((ofBDHPs s).parseNil).1 ∧ staleOfBD t = staleOfBD s ∧ ParseOKBD t ∧
      ∃ t1' t2', t = withWTBD s ((((ofBDHPs s).parseNil).1.buf.w : Nat) : Int) t1' t2' := by
  have hW := ProbeW.parseNilW_eq (ofBDHPs s) (staleOfBD s) h.backing hcap hd
  have hm := gen_bdhp_parseNil grow fuel lcs s blk flags h hfuel
  rw [hW] at hm
  obtain ⟨t, h1, h2, h3, _, h5, h6⟩ := hm
  exact ⟨t, h1, h2, h3, h5, h6⟩

end LZ.GenBDHPParse

#print axioms LZ.GenBDHPParse.gen_bdhp_parse_nonnil
#print axioms LZ.GenBDHPParse.gen_bdhp_parseNil_empty
#print axioms LZ.GenBDHPParse.gen_bdhp_parseNil
#print axioms LZ.GenBDHPParse.gen_bdhp_parseNil_model
