/-
  LzProofs.GenGSAPParse — the translated `(*gsap).Parse` of gsap.go (topic GSAPParse of tools/extract, code_opq.go;
  LzModel/Generated/CodeGSAPParse.lean) equals the word-level model `GsapBits.gsapParseW` (the Go bitset in place of
  the rank array): same `n`, error, sequences, literals, new state — incl. the truncation `s.sa = s.sa[:0]` after a
  NoTrailingLiterals block —; explicit fuel `2·len(Data) + 5`; the invariant bundle `ParseOKG` is preserved.

  Translated: `Parse`, `sort` (GenGSAPLemmas.gen_gsap_sort), `bitset.clear / memberBefore / memberAfter` (topic Bitset).
  OPAQUE state-passing callees: `suffix.Sort` under `SortSpec`, `bitset.insert` under
  `InsertSpec`; opaque pure callee `lcp` under `LcpSpec` (GenGSAPLemmas).  Topic assumption `blk != nil`.

  `gsapParseW` reads `sa` / `isa` with total accessors (`getD`) and its bitset `insert` never fails on a well-formed
  bitset; the Go text panics on an index out of range.  The bundle `ParseOKG` therefore carries, besides the
  representation invariants, the INDEX invariant `SaIdx` ("no suffix array, or `sa`, `isa` are mutually inverse arrays
  of `len(sa) ≤ len(Data)` entries, and the bitset holds only ranks `r < len(sa)` of positions `sa[r] < W`, in a word
  span of at most `len(sa)/64 + 1` words").  Under it `gsapParseW` is never `none` and the Go text never panics; the
  `none ↦ panic` arm of the statement is vacuous.  OUTSIDE `SaIdx` the two differ (e.g. `isa` shorter than the block:
  Go panics at `s.isa[i]`, the model reads 0) — unreachable: `sort` establishes `SaIdx`, `Parse` keeps it or drops `sa`.

    gen_gsap_parse        translated Parse = gsapParseW
    gen_gsap_parse_model(_ex)  … = the list-level `Parser.parse` on reachable states (with `gsapParse_sim_reachable`);
                          `_ex`: and of the Go `ParserBuffer` only `W` changes, by `n`
    gen_gsap_parse_empty  nothing to parse ⇒ (0, ErrEmptyBuffer), every fuel
  No sorry, no axioms of its own.
-/
import LzProofs.GenGSAPLoop
import LzProofs.GenPropsCfgGSAP

set_option linter.unusedSimpArgs false
set_option linter.unusedVariables false

namespace LZ.GenGSAP
open LZ LZ.Gen LZ.GenBuf LZ.GenHash LZ.GenSuffix LZ.GenBitset LZ.GsapBits LZ.GenHPParse LZ.GenParse LZ.GenBUPParse
  LZ.GenProps

/-- the model parser state a Go `gsap` stands for, with the rank-array dictionary `g` (which `gsapParseW` ignores) -/
def ofGSAPs (s : Gen.gsap) (g : GsapD) : Parser :=
  { kind := .GSAP, cfg := ofGSAP s.GSAPConfig, buf := ofPB s.ParserBuffer, dict := .gsap g }

/-- `n` of `Parse`: `min (len(s.Data) - s.W) s.BlockSize` in Go `int` arithmetic -/
def blockNG (s : Gen.gsap) : Int :=
  if (Int.ofNat s.ParserBuffer.Data.len) - s.ParserBuffer.W > s.GSAPConfig.BlockSize then s.GSAPConfig.BlockSize
  else (Int.ofNat s.ParserBuffer.Data.len) - s.ParserBuffer.W

theorem min_blockNG (s : Gen.gsap) :
    Min.min s.GSAPConfig.BlockSize ((Int.ofNat s.ParserBuffer.Data.len) - s.ParserBuffer.W) = blockNG s := by
  unfold blockNG; rw [← ite_lt_min]

theorem min_blockNG' (s : Gen.gsap) :
    Min.min ((Int.ofNat s.ParserBuffer.Data.len) - s.ParserBuffer.W) s.GSAPConfig.BlockSize = blockNG s := by
  rw [Int.min_comm]; exact min_blockNG s

/-- nothing to parse ⇒ `(0, ErrEmptyBuffer)`, the block is emptied, the parser is unchanged; every `grow`, `fuel` -/
theorem gen_gsap_parse_empty (grow : Nat → Nat → Nat) (fuel : Nat) (lcp : Slice → Slice → Int)
    (SS : Slice → GSlice Int32 → Res (GSlice Int32)) (BI : Gen.bitset → List Int → Res Gen.bitset)
    (s : Gen.gsap) (blk : Gen.Block') (flags : Int) (h : blockNG s = 0) :
    gsap_Parse grow fuel lcp SS BI s blk flags = Res.ok (s, resetBlk blk, (0 : Int), ErrEmptyBuffer) := by
  -- the clamp in any spelling is a minimum; the test `n == 0` is evaluated as it comes
  unfold gsap_Parse gsap_Parse_nilable; simp only [Bool.false_eq_true]
  simp only [if_false, gt_iff_lt, ge_iff_le, ite_lt_min, ite_le_min, min_blockNG, min_blockNG', h, slice_zero, bind_ok, resetBlk]
  try (first | rfl | simp)

/-- the index invariant of a state with a suffix array -/
structure SaIdx (s : Gen.gsap) : Prop where
  lisa : s.isa.len = s.sa.len
  le : s.sa.len ≤ s.ParserBuffer.Data.len
  nsa : NonNeg s.sa
  nisa : NonNeg s.isa
  rk : ∀ i, i < s.sa.len →
    (absI32 s.isa).getD i 0 < s.sa.len ∧ (absI32 s.sa).getD ((absI32 s.isa).getD i 0) 0 = i
  mark : ∀ r, BitsetW.mem (ofBS s.bits) r → r < s.sa.len ∧ (absI32 s.sa).getD r 0 < s.ParserBuffer.W.toNat
  span : (ofBS s.bits).len = 0 ∨ (ofBS s.bits).off + (ofBS s.bits).len ≤ s.sa.len / 64 + 1

/-- the hypotheses of `gen_gsap_parse` on the Go state: the representation invariants (`PBWF`, `GWF`, `BSWF`), the
    fields `GSAPConfig` duplicates agree with the copies the model reads, `0 ≤ BlockSize`, `0 ≤ WindowSize`,
    `1 ≤ MinMatchLen` (`Verify`: `≥ 2`), `W ≤ len(Data) ≤ MaxInt32` (`Verify`: `BufferSize ≤ MaxInt32`), and the index
    invariant `SaIdx` unless there is no suffix array.  `Parse` preserves the bundle. -/
structure ParseOKG (s : Gen.gsap) : Prop where
  pb : PBWF s.ParserBuffer
  wsa : GWF s.sa
  wisa : GWF s.isa
  wbits : BSWF s.bits
  cws : s.GSAPConfig.WindowSize.toNat = s.ParserBuffer.BufConfig.WindowSize.toNat
  cbs : s.GSAPConfig.BlockSize.toNat = s.ParserBuffer.BufConfig.BlockSize.toNat
  bs0 : 0 ≤ s.GSAPConfig.BlockSize
  ws0 : 0 ≤ s.GSAPConfig.WindowSize
  mm1 : 1 ≤ s.GSAPConfig.MinMatchLen
  w : s.ParserBuffer.W ≤ s.ParserBuffer.Data.len
  small : s.ParserBuffer.Data.len ≤ 2147483647
  idx : s.sa.len = 0 ∨ SaIdx s

/-- `SaIdx` reads `sa`, `isa`, `bits`, `W`, `len(Data)` only, and `W` only in `mark : sa[r] < W`, which is monotone in
    `W`: the index invariant survives when `W` does not decrease and `len(Data)` does not decrease -/
theorem saIdx_advance {t t' : Gen.gsap} (h : t.sa.len = 0 ∨ SaIdx t) (hsa : t'.sa = t.sa) (hisa : t'.isa = t.isa)
    (hbits : t'.bits = t.bits) (hW : t.ParserBuffer.W.toNat ≤ t'.ParserBuffer.W.toNat)
    (hl : t.ParserBuffer.Data.len ≤ t'.ParserBuffer.Data.len) : t'.sa.len = 0 ∨ SaIdx t' := by
  obtain ⟨pb', sa', isa', bits', cfg'⟩ := t'
  simp only at hsa hisa hbits hW hl
  subst hsa hisa hbits
  rcases h with h | h
  · exact Or.inl h
  · right
    refine ⟨h.lisa, Nat.le_trans h.le hl, h.nsa, h.nisa, h.rk, ?_, h.span⟩
    intro r hr
    have := h.mark r hr
    exact ⟨this.1, Nat.lt_of_lt_of_le this.2 hW⟩

@[reducible] def withWG (s : Gen.gsap) (w : Int) (sa : GSlice Int32) (bits : Gen.bitset) : Gen.gsap :=
  { ParserBuffer := { s.ParserBuffer with W := w }, sa := sa, isa := s.isa, bits := bits, GSAPConfig := s.GSAPConfig }

theorem marks_clear (N e : Nat) (saN : Array Nat) (w : BitsetW) : Marks N e saN w.clear := by
  refine ⟨Nat.zero_le _, ?_, Or.inl rfl⟩
  intro r hr
  exact absurd hr.2.1 (by show ¬ _ < 0; omega)

/-- what the loop needs of the state after `if i+n > len(s.sa) { s.sort() }` -/
structure Prep (s s1 : Gen.gsap) (e mm ws : Nat) : Prop where
  pb : s1.ParserBuffer = s.ParserBuffer
  cfg : s1.GSAPConfig = s.GSAPConfig
  wbits : BSWF s1.bits
  fix : LoopFix s1.ParserBuffer s1.sa s1.isa s1.GSAPConfig s1.sa.len e mm ws
  marks : Marks s1.sa.len e (absI32 s1.sa) (ofBS s1.bits)
  le : s1.sa.len ≤ s.ParserBuffer.Data.len

/-- **`if i+n > len(s.sa) { s.sort() }`** on both sides -/
theorem parse_prep (fuel : Nat) (SS : Slice → GSlice Int32 → Res (GSlice Int32)) (hSS : SortSpec SS)
    (BI : Gen.bitset → List Int → Res Gen.bitset) (hBI : InsertSpec BI) (s : Gen.gsap) (h : ParseOKG s)
    (Wn nN mm ws : Nat) (hW : s.ParserBuffer.W = (Wn : Int)) (hn : nN ≠ 0) (hle : Wn + nN ≤ s.ParserBuffer.Data.len)
    (hmm : s.GSAPConfig.MinMatchLen = (mm : Int)) (hws : ws = s.GSAPConfig.WindowSize.toNat) (hf : Wn + 1 ≤ fuel) :
    ∃ s1 g1, (Wn + nN > s.sa.len → gsap_sort fuel SS BI s = Res.ok s1) ∧ (¬ Wn + nN > s.sa.len → s1 = s) ∧
      (if Wn + nN > (ofGW s).sa.size then gsapSortW (ofGW s) s.ParserBuffer.Data.data Wn else some (ofGW s)) = some g1 ∧
      ofGW s1 = g1 ∧ Prep s s1 (Wn + nN) mm ws := by
  have hsz : (ofGW s).sa.size = s.sa.len := absI32_size h.wsa
  rw [hsz]
  have hmm1 : 1 ≤ mm := by have := h.mm1; omega
  by_cases hre : Wn + nN > s.sa.len
  · rw [if_pos hre]
    obtain ⟨sa', isa', bits', gw', r1, r2, r3, w1, w2, w3, n1, n2, l1, l2⟩ :=
      gen_gsap_sort fuel SS hSS BI hBI s h.pb.data h.wbits Wn hW (by omega) h.small hf
    refine ⟨_, gw', fun _ => r1, fun hc => absurd hre hc, r2, r3, ?_⟩
    have hdl : s.ParserBuffer.Data.data.length = s.ParserBuffer.Data.len := data_length h.pb.data
    -- what `gsapSortW` returns
    have hok := Sap.saok_saSpec s.ParserBuffer.Data.data
    obtain ⟨w'', k1, k2⟩ := marks_insertRanks (N := s.ParserBuffer.Data.len) (e := Wn + nN)
      (saN := (saSpec s.ParserBuffer.Data.data).toArray) (isaN := invertSA (saSpec s.ParserBuffer.Data.data).toArray)
      (fun i hi => by have := hok.sa_isa i (by omega); rw [hdl] at this; exact this) Wn 0 (ofBS s.bits).clear
      (marks_clear _ _ _ _) (by omega)
    have hgw : gw' = ⟨(saSpec s.ParserBuffer.Data.data).toArray, invertSA (saSpec s.ParserBuffer.Data.data).toArray, w''⟩ := by
      unfold gsapSortW at r2
      simp only [ofGW] at r2
      rw [k1] at r2
      exact (Option.some.inj r2).symm
    subst hgw
    have hsa : absI32 sa' = (saSpec s.ParserBuffer.Data.data).toArray := congrArg GsapDW.sa r3
    have hisa : absI32 isa' = invertSA (saSpec s.ParserBuffer.Data.data).toArray := congrArg GsapDW.isa r3
    have hbits : ofBS bits' = w'' := congrArg GsapDW.bits r3
    refine ⟨rfl, rfl, w3, ⟨w1, w2, n1, n2, rfl, by show isa'.len = sa'.len; rw [l1, l2], by show Wn + nN ≤ sa'.len; omega,
      ?_, hmm, hmm1, hws, h.ws0⟩, ?_, by show sa'.len ≤ _; omega⟩
    · intro i hi
      show (absI32 isa').getD i 0 < sa'.len ∧ (absI32 sa').getD ((absI32 isa').getD i 0) 0 = i
      rw [hsa, hisa, l1, ← hdl]
      exact hok.sa_isa i (by rw [hdl, ← l1]; exact hi)
    · show Marks sa'.len (Wn + nN) (absI32 sa') (ofBS bits')
      rw [hsa, hbits, l1]; exact k2
  · rw [if_neg hre]
    obtain h0 | hI := h.idx
    · omega
    have hWn : s.ParserBuffer.W.toNat = Wn := by omega
    exact ⟨s, ofGW s, fun hc => absurd hc hre, fun _ => rfl, rfl, rfl, rfl, rfl, h.wbits,
      ⟨h.wsa, h.wisa, hI.nsa, hI.nisa, rfl, hI.lisa, by omega, hI.rk, hmm, hmm1, hws, h.ws0⟩,
      ⟨winv_of_bswf h.wbits, fun r hr => by have := hI.mark r hr; rw [hWn] at this; omega, hI.span⟩, hI.le⟩

theorem ParseOKG.frame {s : Gen.gsap} (h : ParseOKG s) (g : GsapD) :
    Frame (ofGSAPs s g) s.ParserBuffer s.GSAPConfig.BlockSize := ⟨rfl, h.pb, h.cbs, h.bs0, h.w⟩

/-- the clamp of the Go text is the model's `blockN` -/
theorem blockNG_eq {s : Gen.gsap} (h : ParseOKG s) (g : GsapD) :
    blockNG s = (((ofGSAPs s g).blockN : Nat) : Int) ∧
      (ofGSAPs s g).buf.w + (ofGSAPs s g).blockN ≤ s.ParserBuffer.Data.len :=
  ⟨(min_blockNG s).symm.trans (h.frame g).clamp, (h.frame g).blockN_le⟩

/-- `ParseOKG` reads the buffer and the configuration of a state only through what `Parse` leaves alone and `W` -/
theorem ParseOKG.update {s t : Gen.gsap} (h : ParseOKG s) (w' : Nat) (hw' : w' ≤ s.ParserBuffer.Data.len)
    (hpb : t.ParserBuffer = { s.ParserBuffer with W := (w' : Int) }) (hcfg : t.GSAPConfig = s.GSAPConfig)
    (hsa : GWF t.sa) (hisa : GWF t.isa) (hbits : BSWF t.bits) (hidx : t.sa.len = 0 ∨ SaIdx t) : ParseOKG t := by
  obtain ⟨pb, sa, isa, bits, cfg⟩ := t
  simp only at hpb hcfg
  subst hpb hcfg
  exact ⟨⟨h.pb.data, Int.natCast_nonneg w', h.pb.off, h.pb.ss, h.pb.bs⟩, hsa, hisa, hbits, h.cws, h.cbs, h.bs0, h.ws0,
    h.mm1, Int.ofNat_le.mpr hw', h.small, hidx⟩

/-- the index invariant from the invariants of the loop, at the end of the block -/
theorem saIdx_of_marks {PB : Gen.ParserBuffer} {SA ISA : GSlice Int32} {CFG : Gen.GSAPConfig} {N e mm ws : Nat}
    (hfix : LoopFix PB SA ISA CFG N e mm ws) {t : Gen.gsap} (hsa : t.sa = SA) (hisa : t.isa = ISA)
    (hmk : Marks N e (absI32 SA) (ofBS t.bits)) (hW : t.ParserBuffer.W.toNat = e)
    (hle : N ≤ t.ParserBuffer.Data.len) : SaIdx t := by
  obtain ⟨pb, sa, isa, bits, cfg⟩ := t
  simp only at hsa hisa hmk hW hle
  subst hsa hisa
  refine ⟨hfix.lisa.trans hfix.lsa.symm, ?_, hfix.nsa, hfix.nisa, ?_, ?_, ?_⟩
  all_goals simp only [hfix.lsa, hW]
  · exact hle
  · exact hfix.rk
  · exact hmk.mark
  · exact hmk.span

/-- the Go text of `Parse` on a non-empty block, given what `sort` (if called) and the loop return.  No generated test
    is spelled out: every `if` of the text is decided by `decide_ite` in whatever spelling / arm order it comes, the clamp
    is any spelling of a minimum. -/
theorem parse_go (grow : Nat → Nat → Nat) (fuel : Nat) (lcp : Slice → Slice → Int)
    (SS : Slice → GSlice Int32 → Res (GSlice Int32)) (BI : Gen.bitset → List Int → Res Gen.bitset)
    (s s1 s2 : Gen.gsap) (blk blk2 : Gen.Block') (flags : Int) (Wn nN li : Nat)
    (hW : s.ParserBuffer.W = (Wn : Int)) (hn : blockNG s = (nN : Int)) (hn0 : nN ≠ 0)
    (hle : Wn + nN ≤ s.ParserBuffer.Data.arr.length)
    (hsort : Wn + nN > s.sa.len → gsap_sort fuel SS BI s = Res.ok s1) (hkeep : ¬ Wn + nN > s.sa.len → s1 = s)
    (hpb1 : s1.ParserBuffer = s.ParserBuffer)
    (hloop : (gcall% gsap_Parse_loop_1 [grow := grow, lcp := lcp, suffix_Sort := SS, bitset_insert := BI,
        p := ({ arr := s.ParserBuffer.Data.arr, len := Wn + nN } : Slice), fuel := fuel, s := s1,
        blk := { Sequences := [], Literals := { arr := blk.Literals.arr, len := 0 } },
        i := (Wn : Int), litIndex := (Wn : Int)]) =
      Res.ok (gstate% gsap_Parse_loop_1 [s := s2, blk := blk2, i := ((Wn + nN : Nat) : Int), litIndex := (li : Int)]))
    (hW2 : s2.ParserBuffer.W = (Wn : Int)) (hli : li ≤ Wn + nN) (hli1 : Wn ≤ li) :
    gsap_Parse grow fuel lcp SS BI s blk flags = Res.ok
      (if iand flags 1 ≠ 0 ∧ Int.ofNat blk2.Sequences.length > 0 then
        (withWG s2 (li : Int) (if li < Wn + nN then { arr := s2.sa.arr, len := 0 } else s2.sa) s2.bits,
          blk2, ((li - Wn : Nat) : Int), Gen.Err.ok)
      else
        (withWG s2 ((Wn + nN : Nat) : Int) s2.sa s2.bits,
          { Sequences := blk2.Sequences,
            Literals := Slice.append grow blk2.Literals ((s.ParserBuffer.Data.arr.drop li).take (Wn + nN - li)) },
          ((Wn + nN - Wn : Nat) : Int), Gen.Err.ok)) := by
  have hc1 : (li : Int) - (Wn : Int) = ((li - Wn : Nat) : Int) := by omega
  have hc2 : ((Wn + nN : Nat) : Int) - (Wn : Int) = ((Wn + nN - Wn : Nat) : Int) := by omega
  unfold gsap_Parse gsap_Parse_nilable; simp only [Bool.false_eq_true]
  simp only [if_false]
  simp only [gt_iff_lt, ge_iff_le, ite_lt_min, ite_le_min, min_blockNG, min_blockNG', hn]
  rw [slice_zero, bind_ok]
  try dsimp only
  decide_ite
  rw [hW]
  refine bind_trans (v := s1) ?_ ?_
  · by_cases hre : Wn + nN > s.sa.len
    · decide_ite; rw [hsort hre, bind_ok]
    · decide_ite; rw [hkeep hre]
  try dsimp only
  rw [hpb1, slice_okI s.ParserBuffer.Data 0 _ 0 (Wn + nN) rfl (by omega) (Nat.zero_le _) hle, bind_ok]
  simp only [List.drop_zero, Nat.sub_zero]
  rw [hloop, bind_ok]
  try dsimp only
  by_cases hcnd : iand flags 1 ≠ 0 ∧ Int.ofNat blk2.Sequences.length > 0
  · decide_ite
    by_cases hlt : li < Wn + nN
    · decide_ite
      simp only [gtrunc0_eq, bind_ok, hW2, hc1]
      rw [if_pos hcnd, if_pos hlt]
    · decide_ite
      simp only [bind_ok, hW2, hc1]
      rw [if_pos hcnd, if_neg hlt]
  · decide_ite
    rw [slice_okI { arr := s.ParserBuffer.Data.arr, len := Wn + nN } _ (Int.ofNat (Wn + nN)) li (Wn + nN) rfl rfl hli
      hle]
    simp only [bind_ok, hW2]
    rw [if_neg hcnd, ← hc2]
    rfl

/-- **`Parse` = `gsapParseW`** (existence form: under `ParseOKG` neither side fails). -/
theorem gen_gsap_parse_ex (grow : Nat → Nat → Nat) (fuel : Nat) (lcp : Slice → Slice → Int) (hlcp : LcpSpec lcp)
    (SS : Slice → GSlice Int32 → Res (GSlice Int32)) (hSS : SortSpec SS)
    (BI : Gen.bitset → List Int → Res Gen.bitset) (hBI : InsertSpec BI)
    (s : Gen.gsap) (blk : Gen.Block') (flags : Int) (g : GsapD)
    (h : ParseOKG s) (hfl : 0 ≤ flags) (hfuel : 2 * s.ParserBuffer.Data.len + 5 ≤ fuel) :
    ∃ gw' n e b, gsapParseW (ofGSAPs s g) (ofGW s) flags.toNat = some (gw', n, e, b) ∧
      ∃ t blk', gsap_Parse grow fuel lcp SS BI s blk flags = Res.ok (t, blk', (n : Int), parseErr e) ∧
        ofGW t = gw' ∧ t.ParserBuffer = { s.ParserBuffer with W := s.ParserBuffer.W + (n : Int) } ∧
        t.GSAPConfig = s.GSAPConfig ∧ (e = .ok ∨ e = .empty) ∧
        blk'.Sequences = b.seqs.map seqRep ∧ blk'.Literals.data = b.lits ∧ SWF blk'.Literals ∧ ParseOKG t := by
  have hD : s.ParserBuffer.Data.len ≤ s.ParserBuffer.Data.arr.length := h.pb.data
  obtain ⟨hnG, hNle⟩ := blockNG_eq h g
  by_cases hn : (ofGSAPs s g).blockN = 0
  · refine ⟨ofGW s, 0, .empty, ⟨[], []⟩, by unfold gsapParseW; rw [if_pos hn], s, resetBlk blk,
      gen_gsap_parse_empty grow fuel lcp SS BI s blk flags (by rw [hnG, hn]; rfl), rfl, ?_, rfl, Or.inr rfl, rfl, rfl,
      Nat.zero_le _, h⟩
    show s.ParserBuffer = { s.ParserBuffer with W := s.ParserBuffer.W + 0 }
    rw [Int.add_zero]
  obtain ⟨Wn, hWn⟩ : ∃ Wn : Nat, s.ParserBuffer.W = (Wn : Int) := ⟨_, (Int.toNat_of_nonneg h.pb.w).symm⟩
  have hw0 : (ofGSAPs s g).buf.w = Wn := by show s.ParserBuffer.W.toNat = Wn; rw [hWn]; rfl
  rw [hw0] at hNle
  generalize hnN : (ofGSAPs s g).blockN = nN at hn hnG hNle
  obtain ⟨mm, hmm⟩ : ∃ mm : Nat, s.GSAPConfig.MinMatchLen = (mm : Int) :=
    ⟨_, (Int.toNat_of_nonneg (Int.le_trans (by decide) h.mm1)).symm⟩
  -- `sort` if the block is not covered, then the loop
  obtain ⟨s1, g1, hs1a, hs1b, hg1, hog1, hprep⟩ := parse_prep fuel SS hSS BI hBI s h Wn nN mm s.GSAPConfig.WindowSize.toNat
    hWn hn hNle hmm rfl (by omega)
  have hfix := hprep.fix
  rw [hprep.pb, hprep.cfg] at hfix
  have hN1 := hprep.le
  obtain ⟨st', s2, blk2, hgl, hl1, ⟨hpb2, hsa2, hisa2, hcfg2, hbs2, hmk2⟩, hd2, hi2, hli2, hli1, hseq2, hlit2, hswf2⟩ :=
    loops_eq grow lcp hlcp SS BI hBI s.ParserBuffer s1.sa s1.isa s.GSAPConfig s1.sa.len (Wn + nN) mm
      s.GSAPConfig.WindowSize.toNat hfix s.ParserBuffer.Data.arr (by omega) fuel Wn s1
      { Sequences := [], Literals := { arr := blk.Literals.arr, len := 0 } }
      ⟨hprep.pb, rfl, rfl, hprep.cfg, hprep.wbits, hprep.marks⟩ (by omega)
      (by have := Nat.div_le_self s1.sa.len 64; omega) rfl rfl (Nat.zero_le _)
  obtain ⟨pb2, sa2, isa2, bits2, cfg2⟩ := s2
  simp only at hpb2 hsa2 hisa2 hcfg2 hbs2 hmk2
  subst hpb2 hsa2 hisa2 hcfg2
  rw [parse_go grow fuel lcp SS BI s s1 _ blk blk2 flags Wn nN st'.litIndex hWn hnG hn (by omega) hs1a hs1b hprep.pb hl1
    hWn hli2 hli1]
  have hpre : (ofGSAPs s g).blockPrefix = s.ParserBuffer.Data.arr.take (Wn + nN) := by
    unfold Parser.blockPrefix
    rw [hnN, hw0]
    exact (h.frame g).take_data _ hNle
  have hpl : (s.ParserBuffer.Data.arr.take (Wn + nN)).length = Wn + nN :=
    List.length_take_of_le (Nat.le_trans hNle hD)
  have hwsM : (ofGSAPs s g).buf.cfg.windowSize = s.GSAPConfig.WindowSize.toNat := by rw [h.cws]; rfl
  have hmmM : (ofGSAPs s g).minMatch = mm := by
    show s.GSAPConfig.MinMatchLen.toNat = mm; rw [hmm]; rfl
  have hdata : (ofGSAPs s g).buf.data = s.ParserBuffer.Data.data := rfl
  unfold gsapParseW
  rw [if_neg (by rw [hnN]; exact hn)]
  simp only []
  rw [hnN, hw0, hpre, hpl, hwsM, hmmM, hdata, hg1]
  simp only []
  have hlift : greedyLoop ⟨probeW s.GSAPConfig.WindowSize.toNat mm⟩ (s.ParserBuffer.Data.arr.take (Wn + nN)) (Wn + nN)
      { dict := some (ofGW s1), i := Wn, litIndex := Wn, seqs := [], lits := [] } = liftSt st' :=
    greedyLoopW_lift s.GSAPConfig.WindowSize.toNat mm (s.ParserBuffer.Data.arr.take (Wn + nN)) (Wn + nN)
      (Wn + nN) _ st' (by show Wn + nN - Wn ≤ Wn + nN; omega) hgl
  rw [← hog1]
  unfold Parser.runGreedy
  simp only [hlift, liftSt]
  unfold finishBlock
  have hPB : ∀ w' : Nat, Wn ≤ w' → ({ s.ParserBuffer with W := (w' : Int) } : Gen.ParserBuffer) =
      { s.ParserBuffer with W := s.ParserBuffer.W + ((w' - Wn : Nat) : Int) } := by
    intro w' hw'
    rw [hWn, show (Wn : Int) + ((w' - Wn : Nat) : Int) = (w' : Int) by omega]
  have hPt : ∀ (w' : Nat) (sa' : GSlice Int32), w' ≤ Wn + nN → GWF sa' →
      (sa'.len = 0 ∨ (sa' = s1.sa ∧ w' = Wn + nN)) →
      ParseOKG (withWG ⟨s.ParserBuffer, s1.sa, s1.isa, bits2, s.GSAPConfig⟩ (w' : Int) sa' bits2) := by
    intro w' sa' hw' hwsa' hcase
    refine ParseOKG.update h w' (by omega) rfl rfl hwsa' hfix.wisa hbs2 (hcase.imp id fun ⟨hs, hw⟩ => ?_)
    subst hs hw
    exact saIdx_of_marks hfix rfl rfl hmk2 (Int.toNat_natCast _) hN1
  have hcnd : (iand flags 1 ≠ 0 ∧ Int.ofNat blk2.Sequences.length > 0) ↔ (flags.toNat % 2 = 1 ∧ st'.seqs ≠ []) := by
    rw [iand_one flags hfl, hseq2]
    cases st'.seqs <;> simp
  simp only [hcnd]
  by_cases hfin : flags.toNat % 2 = 1 ∧ st'.seqs ≠ []
  · simp only [if_pos hfin]
    refine ⟨_, _, _, _, rfl, _, _, rfl, ?_, hPB _ hli1, rfl, Or.inl rfl, hseq2, hlit2, hswf2, ?_⟩
    · rw [hd2]
      by_cases hlt : st'.litIndex < Wn + nN
      · rw [if_pos hlt, if_pos (show _ ∧ _ ∧ _ from ⟨hfin.1, hfin.2, hlt⟩)]
        show ({ sa := absI32 { arr := s1.sa.arr, len := 0 }, isa := absI32 s1.isa, bits := ofBS bits2 } : GsapDW) = _
        rw [trunc0_abs]
        rfl
      · rw [if_neg hlt, if_neg (fun hc => hlt hc.2.2)]; rfl
    · by_cases hlt : st'.litIndex < Wn + nN
      · rw [if_pos hlt]
        exact hPt _ _ hli2 (gtrunc0_wf _) (Or.inl rfl)
      · rw [if_neg hlt]
        exact hPt _ _ hli2 hfix.wsa (Or.inr ⟨rfl, by omega⟩)
  · simp only [if_neg hfin]
    rw [if_neg (fun hc => hfin ⟨hc.1, hc.2.1⟩), hpl]
    refine ⟨_, _, _, _, rfl, _, _, rfl, by rw [hd2]; rfl, hPB _ (by omega), rfl, Or.inl rfl, hseq2, ?_,
      swf_append grow _ hswf2 _, hPt _ _ (Nat.le_refl _) hfix.wsa (Or.inr ⟨rfl, rfl⟩)⟩
    rw [(append_spec grow blk2.Literals hswf2 _).1, hlit2]
    show _ ++ (s.ParserBuffer.Data.arr.drop st'.litIndex).take (Wn + nN - st'.litIndex) =
      _ ++ (s.ParserBuffer.Data.arr.take (Wn + nN)).drop st'.litIndex
    rw [List.drop_take]

/-- **`Parse` = `gsapParseW`**, in the form of the other parsers (`gen_bup_parse`): panic iff `none` (vacuous under
    `ParseOKG`), otherwise the representation of the result.  `g` is the rank-array dictionary of the model state, which
    `gsapParseW` ignores (`gsapParseW_dict`). -/
theorem gen_gsap_parse (grow : Nat → Nat → Nat) (fuel : Nat) (lcp : Slice → Slice → Int) (hlcp : LcpSpec lcp)
    (SS : Slice → GSlice Int32 → Res (GSlice Int32)) (hSS : SortSpec SS)
    (BI : Gen.bitset → List Int → Res Gen.bitset) (hBI : InsertSpec BI)
    (s : Gen.gsap) (blk : Gen.Block') (flags : Int) (g : GsapD)
    (h : ParseOKG s) (hfl : 0 ≤ flags) (hfuel : 2 * s.ParserBuffer.Data.len + 5 ≤ fuel) :
    match gsapParseW (ofGSAPs s g) (ofGW s) flags.toNat with
    | none => gsap_Parse grow fuel lcp SS BI s blk flags = Res.panic
    | some (gw', n, e, b) =>
      ∃ t blk', gsap_Parse grow fuel lcp SS BI s blk flags = Res.ok (t, blk', (n : Int), parseErr e) ∧
        ofGW t = gw' ∧ t.ParserBuffer = { s.ParserBuffer with W := s.ParserBuffer.W + (n : Int) } ∧
        t.GSAPConfig = s.GSAPConfig ∧ (e = .ok ∨ e = .empty) ∧
        blk'.Sequences = b.seqs.map seqRep ∧ blk'.Literals.data = b.lits ∧ SWF blk'.Literals ∧ ParseOKG t := by
  obtain ⟨gw', n, e, b, h1, h2⟩ := gen_gsap_parse_ex grow fuel lcp hlcp SS hSS BI hBI s blk flags g h hfl hfuel
  rw [h1]
  exact h2

/-- **Go text → list-level model.**  For a Go state whose abstraction — with ANY rank array `g` standing for the same
    set as the Go bitset (`GSim`) — is reachable through the API, the translated `Parse` does not panic and returns the
    representation of the LIST-LEVEL model `Parser.parse` (the function on which C01/C02/C03/C12 are proved); the new
    Go state represents the new model state (buffer: only `W` moves; dictionary related by `GSim` again).  `_ex` also says
    what the Go `ParserBuffer` is afterwards (the history's C14 compares it with that of `Parse(nil)`). -/
theorem gen_gsap_parse_model_ex (grow : Nat → Nat → Nat) (fuel : Nat) (lcp : Slice → Slice → Int) (hlcp : LcpSpec lcp)
    (SS : Slice → GSlice Int32 → Res (GSlice Int32)) (hSS : SortSpec SS)
    (BI : Gen.bitset → List Int → Res Gen.bitset) (hBI : InsertSpec BI)
    (s : Gen.gsap) (blk : Gen.Block') (flags : Int) (g : GsapD)
    (h : ParseOKG s) (hfl : 0 ≤ flags) (hfuel : 2 * s.ParserBuffer.Data.len + 5 ≤ fuel)
    (hG : GSim g (ofGW s))
    (raw : Cfg) (s0 : Parser) (h0 : newParser .GSAP raw = some s0) (ops : List POp)
    (hreach : ofGSAPs s g = (runOps (s0, Ghost.init) ops).1) :
    ∃ t blk' g', gsap_Parse grow fuel lcp SS BI s blk flags =
        Res.ok (t, blk', (((ofGSAPs s g).parse flags.toNat).2.1 : Int), parseErr ((ofGSAPs s g).parse flags.toNat).2.2.1) ∧
      ((ofGSAPs s g).parse flags.toNat).1 = ofGSAPs t g' ∧ GSim g' (ofGW t) ∧
      blk'.Sequences = ((ofGSAPs s g).parse flags.toNat).2.2.2.seqs.map seqRep ∧
      blk'.Literals.data = ((ofGSAPs s g).parse flags.toNat).2.2.2.lits ∧ SWF blk'.Literals ∧ ParseOKG t ∧
      t.ParserBuffer = { s.ParserBuffer with W := s.ParserBuffer.W + (((ofGSAPs s g).parse flags.toNat).2.1 : Int) } := by
  have hsim := gsapParse_sim_reachable raw s0 h0 ops flags.toNat g (ofGW s)
  rw [← hreach] at hsim
  obtain ⟨g', gw', hd', hpw, hG'⟩ := hsim rfl hG
  obtain ⟨gw2, n, e, b, h1, t, blk', h2, h3, h4, h5, h6, h7, h8, h9, h10⟩ :=
    gen_gsap_parse_ex grow fuel lcp hlcp SS hSS BI hBI s blk flags g h hfl hfuel
  rw [hpw] at h1
  obtain ⟨rfl, e2⟩ := Prod.mk.inj (Option.some.inj h1)
  have en : ((ofGSAPs s g).parse flags.toNat).2.1 = n := by rw [e2]
  rw [e2]
  refine ⟨t, blk', g', h2, ?_, by rw [h3]; exact hG', h7, h8, h9, h10, h4⟩
  -- the model state after `parse`
  have hR := reachable_gsapWS raw s0 h0 ops
  rw [← hreach] at hR
  obtain ⟨_, hwle, _, _, hmm1⟩ := hR
  have hfr : ((ofGSAPs s g).parse flags.toNat).1.kind = (ofGSAPs s g).kind ∧
      ((ofGSAPs s g).parse flags.toNat).1.cfg = (ofGSAPs s g).cfg ∧
      ((ofGSAPs s g).parse flags.toNat).1.buf = { (ofGSAPs s g).buf with w := (ofGSAPs s g).buf.w + n } := by
    by_cases hn : (ofGSAPs s g).blockN = 0
    · have := Parser.parse_empty (ofGSAPs s g) flags.toNat hn
      rw [this] at en
      rw [this, ← en]
      exact ⟨rfl, rfl, rfl⟩
    · obtain ⟨s', n', blk0, hp, hok, _⟩ := Parser.parse_greedy_ok (ofGSAPs s g) flags.toNat hwle hn hmm1
        (by unfold Parser.MarginOK Parser.dictInputLen; simp [ofGSAPs]) (by intro o ho; cases ho)
      rw [hp] at en
      rw [hp, ← en]
      exact ⟨hok.kind, hok.cfg, hok.buf⟩
  obtain ⟨hk1, hk2, hbuf⟩ := hfr
  have ext : ∀ (a b : Parser), a.kind = b.kind → a.cfg = b.cfg → a.buf = b.buf → a.dict = b.dict → a = b := by
    intro a b h1 h2 h3 h4
    cases a; cases b
    simp only at h1 h2 h3 h4
    subst h1 h2 h3 h4
    rfl
  apply ext
  · rw [hk1]; rfl
  · rw [hk2]; show ofGSAP s.GSAPConfig = ofGSAP t.GSAPConfig; rw [h5]
  · rw [hbuf]
    show _ = ofPB t.ParserBuffer
    rw [h4]
    unfold ofPB
    have hw0 := h.pb.w
    simp only [ofGSAPs, PBuf.mk.injEq, true_and, and_true]
    refine ⟨rfl, ?_, rfl, rfl, rfl⟩
    show s.ParserBuffer.W.toNat + n = (s.ParserBuffer.W + (n : Int)).toNat
    omega
  · rw [hd']; rfl


theorem gen_gsap_parse_model (grow : Nat → Nat → Nat) (fuel : Nat) (lcp : Slice → Slice → Int) (hlcp : LcpSpec lcp)
    (SS : Slice → GSlice Int32 → Res (GSlice Int32)) (hSS : SortSpec SS)
    (BI : Gen.bitset → List Int → Res Gen.bitset) (hBI : InsertSpec BI)
    (s : Gen.gsap) (blk : Gen.Block') (flags : Int) (g : GsapD)
    (h : ParseOKG s) (hfl : 0 ≤ flags) (hfuel : 2 * s.ParserBuffer.Data.len + 5 ≤ fuel)
    (hG : GSim g (ofGW s))
    (raw : Cfg) (s0 : Parser) (h0 : newParser .GSAP raw = some s0) (ops : List POp)
    (hreach : ofGSAPs s g = (runOps (s0, Ghost.init) ops).1) :
    ∃ t blk' g', gsap_Parse grow fuel lcp SS BI s blk flags =
        Res.ok (t, blk', (((ofGSAPs s g).parse flags.toNat).2.1 : Int), parseErr ((ofGSAPs s g).parse flags.toNat).2.2.1) ∧
      ((ofGSAPs s g).parse flags.toNat).1 = ofGSAPs t g' ∧ GSim g' (ofGW t) ∧
      blk'.Sequences = ((ofGSAPs s g).parse flags.toNat).2.2.2.seqs.map seqRep ∧
      blk'.Literals.data = ((ofGSAPs s g).parse flags.toNat).2.2.2.lits ∧ SWF blk'.Literals ∧ ParseOKG t :=
  let ⟨t, blk', g', a, b, c, d, e, f, h', _⟩ :=
    gen_gsap_parse_model_ex grow fuel lcp hlcp SS hSS BI hBI s blk flags g h hfl hfuel hG raw s0 h0 ops hreach
  ⟨t, blk', g', a, b, c, d, e, f, h'⟩

end LZ.GenGSAP

#print axioms LZ.GenGSAP.gen_gsap_parse_empty
#print axioms LZ.GenGSAP.saIdx_advance
#print axioms LZ.GenGSAP.parse_prep
#print axioms LZ.GenGSAP.gen_gsap_parse_ex
#print axioms LZ.GenGSAP.gen_gsap_parse
#print axioms LZ.GenGSAP.gen_gsap_parse_model_ex
#print axioms LZ.GenGSAP.gen_gsap_parse_model
