/-
  osap.go: XZCost.  The hand-written model equals the code that `tools/extract -code` regenerates from the Go source
  (LzModel/Generated/Code<Topic>.lean, one file per topic).  Every theorem quantifies over all inputs; Go `int`/`int64`
  are unbounded `Int` on both sides (overflow is out of scope), `uint32`/`uint64` wrap around.
-/
import LzModel.Generated.CodeCost
import LzModel.Basic
import LzModel.Sap

set_option linter.unusedSimpArgs false

namespace LZ.GenProps
open LZ

/-! ## osap.go: XZCost -/

theorem toNat_ofInt_small (n : Nat) (h : n < 2 ^ 64) : (UInt64.ofInt (Int.ofNat n)).toNat = n := by
  unfold UInt64.ofInt
  simp only [UInt64.toNat_ofNat', Int.ofNat_eq_natCast, Nat.reducePow, Int.reducePow] at *
  omega

theorem bitsLen32_eq (d : UInt32) (h : d.toNat ≠ 0) :
    Gen.bitsLen32 d = Int.ofNat (Nat.log2 d.toNat + 1) ∧ Nat.log2 d.toNat + 1 ≤ 32 := by
  unfold Gen.bitsLen32
  have hd : d ≠ 0 := by intro e; apply h; rw [e]; rfl
  have hl : Nat.log2 d.toNat < 32 := (Nat.log2_lt h).mpr (UInt32.toNat_lt d)
  simp only [hd, if_false, true_and]
  omega

/-- for all `m o : uint32` — the model's `(m + 2^32 - 2) % 2^32` is exactly the
    wrap-around of `m -= 2`, so no precondition `2 ≤ m` is needed -/
theorem gen_xzCost (m o : UInt32) : (Gen.XZCost m o).toNat = xzCost m.toNat o.toNat := by
  unfold Gen.XZCost xzCost
  have hm := UInt32.toNat_lt m
  have ho := UInt32.toNat_lt o
  by_cases h0 : o = 0
  · subst h0
    simp only [if_true, UInt32.toNat_zero, UInt64.toNat_mul, UInt64.toNat_add, UInt32.toNat_toUInt64,
      UInt64.toNat_ofNat, Nat.reducePow, Nat.reduceMod] at *
    omega
  · have ho0 : o.toNat ≠ 0 := by intro e; apply h0; apply UInt32.toNat_inj.mp; rw [e]; rfl
    have hm2 : (m - 2).toNat = (m.toNat + 4294967296 - 2) % 4294967296 := by
      rw [UInt32.toNat_sub]; simp only [UInt32.toNat_ofNat, Nat.reducePow, Nat.reduceMod]; omega
    have hd : (o - 1).toNat = o.toNat - 1 := by
      rw [UInt32.toNat_sub]; simp only [UInt32.toNat_ofNat, Nat.reducePow, Nat.reduceMod] at *; omega
    simp only [h0, ho0, if_false, UInt32.lt_iff_toNat_lt, hm2, hd, UInt32.toNat_ofNat, Nat.reducePow, Nat.reduceMod]
    generalize (m.toNat + 4294967296 - 2) % 4294967296 = m2
    by_cases hd4 : o.toNat - 1 < 4
    · simp only [hd4, if_true]
      repeat' split
      all_goals rfl
    · have hdn : (o - 1).toNat ≠ 0 := by omega
      obtain ⟨hb, hl⟩ := bitsLen32_eq (o - 1) hdn
      rw [hd] at hb hl
      simp only [hd4, if_false, hb]
      have hof := toNat_ofInt_small ((o.toNat - 1).log2 + 1) (by omega)
      generalize UInt64.ofInt (Int.ofNat ((o.toNat - 1).log2 + 1)) = w at hof
      generalize (o.toNat - 1).log2 = lg at *
      repeat' split
      all_goals simp only [UInt64.toNat_add, UInt64.toNat_ofNat, hof, Nat.reducePow, Nat.reduceMod]
      all_goals omega

end LZ.GenProps
