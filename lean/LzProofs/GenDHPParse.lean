/-
  The mechanical translation of dhp.go `(*doubleHashParser).Parse`
  (LzModel/Generated/CodeDHPParse.lean, topic DHPParse of tools/extract/code_parse.go; with
  `doubleHashDictionary.processSegment` — its local pointer aliases `h1, h2 := &f.h1, &f.h2` eliminated at source
  level, tools/extract/code_ptralias.go —, `_getLE64`, `_getLE32`, `getLE64`: nothing opaque) versus the word-level
  model `LZ.ProbeW.parseW` for kind `.DHP` (LzProofs/ProbeW.lean: `processSegment2W`, `dhpProbeW`) and, through
  `ProbeW.parseW_reachable`, the LIST-LEVEL model `Parser.parse`.

  Abstraction: `ofDHPs s : Parser` (`ofDDict`, GenHashPropsDict2), `staleOfD s` = the bytes of the backing array
  behind `len(s.Data)`, `seqRep`, `parseErr` (GenHPParse).

    gen_dhp_parse        for every Go state with `ParseOKD s`, every `blk`, `flags ≥ 0`, `grow`, and
                         `fuel ≥ 2·len(s.Data) + 3`: `parseW (ofDHPs s) (staleOfD s) flags = none` ⇒ `Res.panic`;
                         `= some (s', n, e, b)` ⇒ `Res.ok (t, blk', n, parseErr e)` with `ofDHPs t = s'`, same
                         stale bytes, sequences, literals, and `ParseOKD t`.
    gen_dhp_parse_model  on reachable states: no panic, the result of the list-level `Parser.parse`.

  `ParseOKD s`: `DDictWF`; the values `DHPConfig` duplicates agree with the copies the model reads; `0 ≤ BlockSize`;
  `W ≤ len(Data)`; `1 ≤ inputLen1 ≤ inputLen2` (`Verify` demands `<`; with `inputLen1 > inputLen2` the loads of the
  first loop leave `_p = s.Data[:e1+7]`: ProbeW.lean, subtlety 3); `hashBits ≤ 32` for both tables;
  `len(Data) < 2^32`.  The two Go loops (`i < e2`: both tables; `e2 ≤ i < e1`: the table of the short hash, whose
  re-indexing loop starts at the MATCH position `j`, not at `i + 1` — dhp.go:318 `for ; j < b; j++`, modelled as such
  in `dhpProbeW`) are ONE `greedyLoopW` of the model (`loops_eq`).
  `ParseOKD` is what the translated `doubleHashParser.init` establishes: `gen_dhp_init_parseOK` (LzProofs/GenDHPInit.lean).
  `ParseOKD.frame`, `.backing`, `.update`, `.hok1`, `.hok2` are the names of GenHPParse (see its header).  The clamp
  of `n`: `gen_dhp_parse` rewrites every spelling of the text to `blockND s` (`blockND_lt`, `blockND_le`, `blockND_lt'`,
  `blockND_le'`, which stand among the results of this file) and then to the model's value by `ParseOKD.blockN_eq`;
  the other four parsers go through `Min.min` and `h.frame.clamp`, as does `gen_dhp_parseNil_empty`.
-/
import LzProofs.GenDHPParseLoop
import LzProofs.GenHPParse

set_option linter.unusedSimpArgs false
set_option linter.unusedVariables false

namespace LZ.GenDHPParse
open LZ LZ.Gen LZ.GenBuf LZ.GenHash LZ.GenProps LZ.GenHPParse LZ.GenParse

/-- the model parser state a Go `doubleHashParser` stands for -/
def ofDHPs (s : Gen.doubleHashParser) : Parser := ofDDict .DHP (ofDHP s.DHPConfig) s.doubleHashDictionary

/-- `n` of `Parse`: `min (len(s.Data) - s.W) s.BlockSize` in Go `int` arithmetic -/
def blockND (s : Gen.doubleHashParser) : Int :=
  if s.DHPConfig.BlockSize < (Int.ofNat s.doubleHashDictionary.ParserBuffer.Data.len) - s.doubleHashDictionary.ParserBuffer.W then
    s.DHPConfig.BlockSize
  else
    (Int.ofNat s.doubleHashDictionary.ParserBuffer.Data.len) - s.doubleHashDictionary.ParserBuffer.W

/-- the bytes between `len(s.Data)` and `cap(s.Data)`: the `stale` argument of `ProbeW.parseW` -/
def staleOfD (s : Gen.doubleHashParser) : List UInt8 :=
  s.doubleHashDictionary.ParserBuffer.Data.arr.drop s.doubleHashDictionary.ParserBuffer.Data.len

/-! the clamp `n = min(len(s.Data) - s.W, s.BlockSize)` in its spellings (after `gt_iff_lt`, `ge_iff_le`, `Int.not_lt`,
    `Int.not_le`, `gen_min`, `Int.min_def`): every one is `blockND s` -/

theorem blockND_lt (s : Gen.doubleHashParser) :
    (if s.DHPConfig.BlockSize < (Int.ofNat s.doubleHashDictionary.ParserBuffer.Data.len) - s.doubleHashDictionary.ParserBuffer.W
      then s.DHPConfig.BlockSize
      else (Int.ofNat s.doubleHashDictionary.ParserBuffer.Data.len) - s.doubleHashDictionary.ParserBuffer.W) = blockND s := rfl

theorem blockND_le (s : Gen.doubleHashParser) :
    (if s.DHPConfig.BlockSize ≤ (Int.ofNat s.doubleHashDictionary.ParserBuffer.Data.len) - s.doubleHashDictionary.ParserBuffer.W
      then s.DHPConfig.BlockSize
      else (Int.ofNat s.doubleHashDictionary.ParserBuffer.Data.len) - s.doubleHashDictionary.ParserBuffer.W) = blockND s :=
  (ite_le_min _ _).trans (ite_lt_min _ _).symm

theorem blockND_lt' (s : Gen.doubleHashParser) :
    (if (Int.ofNat s.doubleHashDictionary.ParserBuffer.Data.len) - s.doubleHashDictionary.ParserBuffer.W < s.DHPConfig.BlockSize
      then (Int.ofNat s.doubleHashDictionary.ParserBuffer.Data.len) - s.doubleHashDictionary.ParserBuffer.W
      else s.DHPConfig.BlockSize) = blockND s :=
  (ite_lt_min _ _).trans ((Int.min_comm _ _).trans (ite_lt_min _ _).symm)

theorem blockND_le' (s : Gen.doubleHashParser) :
    (if (Int.ofNat s.doubleHashDictionary.ParserBuffer.Data.len) - s.doubleHashDictionary.ParserBuffer.W ≤ s.DHPConfig.BlockSize
      then (Int.ofNat s.doubleHashDictionary.ParserBuffer.Data.len) - s.doubleHashDictionary.ParserBuffer.W
      else s.DHPConfig.BlockSize) = blockND s :=
  (ite_le_min _ _).trans ((Int.min_comm _ _).trans (ite_lt_min _ _).symm)

/-! ## the whole `Parse` -/

/-- the hypotheses of `gen_dhp_parse` on the Go state (see the header) -/
structure ParseOKD (s : Gen.doubleHashParser) : Prop where
  wf : DDictWF s.doubleHashDictionary
  cws : s.DHPConfig.WindowSize.toNat = s.doubleHashDictionary.ParserBuffer.BufConfig.WindowSize.toNat
  cbs : s.DHPConfig.BlockSize.toNat = s.doubleHashDictionary.ParserBuffer.BufConfig.BlockSize.toNat
  cil : s.DHPConfig.InputLen1.toNat = s.doubleHashDictionary.h1.inputLen.toNat
  bs0 : 0 ≤ s.DHPConfig.BlockSize
  w : s.doubleHashDictionary.ParserBuffer.W ≤ s.doubleHashDictionary.ParserBuffer.Data.len
  il1 : 1 ≤ s.doubleHashDictionary.h1.inputLen
  il12 : s.doubleHashDictionary.h1.inputLen ≤ s.doubleHashDictionary.h2.inputLen
  sh1 : 32 ≤ s.doubleHashDictionary.h1.shift.toNat
  sh2 : 32 ≤ s.doubleHashDictionary.h2.shift.toNat
  small : s.doubleHashDictionary.ParserBuffer.Data.len < 4294967296

/-- `staleOfD` is what `ProbeW.Backing` asks for: data ++ stale is the whole backing array -/
theorem ParseOKD.backing {s : Gen.doubleHashParser} (h : ParseOKD s) :
    ProbeW.Backing (ofDHPs s) (staleOfD s) :=
  stale_length _ h.wf.1.data

theorem ParseOKD.hok1 {s : Gen.doubleHashParser} (h : ParseOKD s) : HOK s.doubleHashDictionary.h1 :=
  ⟨h.wf.2.1.2.1, h.wf.2.1.2.2.1, h.sh1, h.wf.2.1.2.2.2.1, h.wf.2.1.1, h.wf.2.1.2.2.2.2⟩

theorem ParseOKD.hok2 {s : Gen.doubleHashParser} (h : ParseOKD s) : HOK s.doubleHashDictionary.h2 :=
  ⟨h.wf.2.2.2.1, h.wf.2.2.2.2.1, h.sh2, h.wf.2.2.2.2.2.1, h.wf.2.2.1, h.wf.2.2.2.2.2.2⟩

theorem ParseOKD.frame {s : Gen.doubleHashParser} (h : ParseOKD s) :
    Frame (ofDHPs s) s.doubleHashDictionary.ParserBuffer s.DHPConfig.BlockSize :=
  ⟨rfl, h.wf.1, h.cbs, h.bs0, h.w⟩

/-- the clamp: `blockND s` (every spelling of the Go text is rewritten to it, see `blockND_lt` …) is the model's
    `blockN` -/
theorem ParseOKD.blockN_eq {s : Gen.doubleHashParser} (h : ParseOKD s) :
    blockND s = (((ofDHPs s).blockN : Nat) : Int) :=
  (ite_lt_min _ _).trans h.frame.clamp

@[reducible] def withWTD (s : Gen.doubleHashParser) (w : Int) (t1 t2 : GSlice hashEntry) : Gen.doubleHashParser :=
  { doubleHashDictionary :=
      { ParserBuffer := { s.doubleHashDictionary.ParserBuffer with W := w },
        h1 := { s.doubleHashDictionary.h1 with table := t1 },
        h2 := { s.doubleHashDictionary.h2 with table := t2 } },
    DHPConfig := s.DHPConfig }

/-- `Parse` and `Parse(nil)` move `W` (inside the data) and replace the tables: the invariant stays -/
theorem ParseOKD.update {s : Gen.doubleHashParser} (h : ParseOKD s) (w : Nat)
    (hw : w ≤ s.doubleHashDictionary.ParserBuffer.Data.len) {t1 t2 : GSlice hashEntry}
    (ht1 : TOK s.doubleHashDictionary.h1.shift t1) (ht2 : TOK s.doubleHashDictionary.h2.shift t2) :
    ParseOKD (withWTD s (w : Int) t1 t2) :=
  ⟨⟨h.frame.wf_w w,
      ⟨ht1.1, h.hok1.il0, h.hok1.mask, h.hok1.sh2, ht1.2⟩, ⟨ht2.1, h.hok2.il0, h.hok2.mask, h.hok2.sh2, ht2.2⟩⟩,
    h.cws, h.cbs, h.cil, h.bs0, Int.ofNat_le.mpr hw, h.il1, h.il12, h.sh1, h.sh2, h.small⟩

theorem gen_dhp_parse (grow : Nat → Nat → Nat) (fuel : Nat) (s : Gen.doubleHashParser) (blk : Gen.Block') (flags : Int)
    (h : ParseOKD s) (hfl : 0 ≤ flags) (hfuel : 2 * s.doubleHashDictionary.ParserBuffer.Data.len + 3 ≤ fuel) :
    match ProbeW.parseW (ofDHPs s) (staleOfD s) flags.toNat with
    | none => doubleHashParser_Parse grow fuel s blk flags = Res.panic
    | some (s', n, e, b) =>
      ∃ t blk', doubleHashParser_Parse grow fuel s blk flags = Res.ok (t, blk', (n : Int), parseErr e) ∧
        ofDHPs t = s' ∧ staleOfD t = staleOfD s ∧ (e = .ok ∨ e = .empty) ∧
        blk'.Sequences = b.seqs.map seqRep ∧ blk'.Literals.data = b.lits ∧ SWF blk'.Literals ∧ ParseOKD t := by
  have w1 := h.hok1
  have w2 := h.hok2
  have hnG := h.blockN_eq
  have hNle := h.frame.blockN_le
  have hD : SWF s.doubleHashDictionary.ParserBuffer.Data := h.wf.1.data
  have hD' : s.doubleHashDictionary.ParserBuffer.Data.len ≤ s.doubleHashDictionary.ParserBuffer.Data.arr.length := hD
  have hW0 := h.wf.1.w
  have hil1 := h.il1
  have hil12 := h.il12
  have hsmall := h.small
  -- the Go side up to the test `n == 0`
  generalize hG : doubleHashParser_Parse grow fuel s blk flags = G
  unfold doubleHashParser_Parse doubleHashParser_Parse_nilable at hG; simp only [Bool.false_eq_true] at hG
  simp only [if_false] at hG
  simp only [gen_min, Int.min_def, gt_iff_lt, ge_iff_le, Int.not_lt, Int.not_le,
    blockND_lt, blockND_le, blockND_lt', blockND_le', hnG] at hG
  rw [slice_zero, bind_ok] at hG
  by_cases hn : (ofDHPs s).blockN = 0
  · rw [hn] at hG
    first | rw [if_pos (by omega)] at hG | rw [if_neg (by omega)] at hG
    rw [ProbeW.parseW_empty _ _ _ hn]
    exact ⟨s, resetBlk blk, hG.symm, rfl, rfl, Or.inr rfl, rfl, rfl, Nat.zero_le _, h⟩
  first | rw [if_neg (by omega)] at hG | rw [if_pos (by omega)] at hG
  -- the model side, without `do`
  rw [show staleOfD s = s.doubleHashDictionary.ParserBuffer.Data.arr.drop s.doubleHashDictionary.ParserBuffer.Data.len
      from rfl,
    ProbeW.parseW_double (ofDHPs s) _ _ ⟨ofHash s.doubleHashDictionary.h1, ofHash s.doubleHashDictionary.h2⟩ rfl,
    frameW_nf h.frame hn _ _ _ _ _ _ rfl]
  generalize hp1 : ProbeW.processSegment2W _ _ _ _ _ _ = r
  have hps := gen_processSegment2_at fuel s.doubleHashDictionary hD w1 w2 hil12 hsmall (by omega) hp1
    ((s.doubleHashDictionary.ParserBuffer.W - s.doubleHashDictionary.h2.inputLen) + 1)
    s.doubleHashDictionary.ParserBuffer.W rfl rfl
    (by rw [h.frame.w_cast]; show _ - ((s.doubleHashDictionary.h2.inputLen.toNat : Nat) : Int) + 1 = _
        rw [Int.toNat_of_nonneg w2.il0])
    h.frame.w_cast
  cases r with
  | none =>
    rw [(hps :)] at hG
    exact hG.symm
  | some hh =>
    obtain ⟨t01, t02, ht01, ht02, rfl, hps⟩ := hps
    rw [hps, bind_ok] at hG
    rw [Option.map_some, Option.bind_some]
    dsimp only at hG
    -- names for the natural numbers
    obtain ⟨Wn, hWn⟩ : ∃ Wn : Nat, s.doubleHashDictionary.ParserBuffer.W = (Wn : Int) :=
      ⟨_, (Int.toNat_of_nonneg hW0).symm⟩
    have hwn : (ofDHPs s).buf.w = Wn := by
      show s.doubleHashDictionary.ParserBuffer.W.toNat = Wn; omega
    generalize hnN : (ofDHPs s).blockN = nN at hG hn hNle ⊢
    rw [hwn] at hNle ⊢
    have hLlen : Wn + nN ≤ s.doubleHashDictionary.ParserBuffer.Data.len := hNle
    have hws : (ofDHPs s).buf.cfg.windowSize = s.DHPConfig.WindowSize.toNat := by rw [h.cws]; rfl
    have hmmM : (ofDHPs s).minMatch = Min.min 3 s.doubleHashDictionary.h1.inputLen.toNat := by
      show Min.min 3 s.DHPConfig.InputLen1.toNat = _; rw [h.cil]
    have hkind : ((ofDHPs s).kind == Kind.BDHP) = false := rfl
    have hpl : (s.doubleHashDictionary.ParserBuffer.Data.arr.take (Wn + nN)).length = Wn + nN := by
      rw [List.length_take]; omega
    rw [hws, hmmM, hkind]
    clear hws hmmM hkind
    simp only [ofHashT_inputLen]
    -- p := s.Data[:s.W+n]
    rw [hWn, slice_okI s.doubleHashDictionary.ParserBuffer.Data 0 ((Wn : Int) + (nN : Int)) 0 (Wn + nN) rfl (by omega)
      (Nat.zero_le _) (by omega), bind_ok] at hG
    simp only [List.drop_zero, Nat.sub_zero] at hG
    generalize hA : s.doubleHashDictionary.ParserBuffer.Data.arr = A at hG hD' hpl ⊢
    obtain ⟨il1, hil1n⟩ : ∃ il1 : Nat, s.doubleHashDictionary.h1.inputLen = (il1 : Int) :=
      ⟨_, (Int.toNat_of_nonneg w1.il0).symm⟩
    obtain ⟨il2, hil2n⟩ : ∃ il2 : Nat, s.doubleHashDictionary.h2.inputLen = (il2 : Int) :=
      ⟨_, (Int.toNat_of_nonneg w2.il0).symm⟩
    have hil1' : s.doubleHashDictionary.h1.inputLen.toNat = il1 := by omega
    have hil2' : s.doubleHashDictionary.h2.inputLen.toNat = il2 := by omega
    simp only [hil1', hil2'] at *
    rw [hil1n, hil2n] at hG
    -- the margin reslice `_p := s.Data[:e1+7]`
    by_cases hmar : ((Wn + nN : Nat) : Int) - (il1 : Int) + 1 + 7 < 0 ∨
        (A.length : Int) < ((Wn + nN : Nat) : Int) - (il1 : Int) + 1 + 7
    · rw [if_pos hmar]
      rw [slice_panic _ _ _ (by
        rw [hA]; show _ ∨ ((Wn + nN : Nat) : Int) - _ + 1 + 7 < 0 ∨ (A.length : Int) < ((Wn + nN : Nat) : Int) - _ + 1 + 7
        omega)] at hG
      exact hG.symm
    rw [if_neg hmar, Option.bind_some]
    have hcapE : ((Int.ofNat (Wn + nN) - (il1 : Int) + 1 + 7).toNat) ≤ s.doubleHashDictionary.ParserBuffer.Data.arr.length := by
      rw [hA]; show (((Wn + nN : Nat) : Int) - _ + 1 + 7).toNat ≤ _; omega
    rw [slice_okI s.doubleHashDictionary.ParserBuffer.Data 0 (Int.ofNat (Wn + nN) - (il1 : Int) + 1 + 7) 0
      ((Int.ofNat (Wn + nN) - (il1 : Int) + 1 + 7).toNat) rfl
      (by show ((Wn + nN : Nat) : Int) - _ + 1 + 7 = (((((Wn + nN : Nat) : Int) - _ + 1 + 7).toNat : Nat) : Int); omega)
      (Nat.zero_le _) hcapE, bind_ok] at hG
    simp only [List.drop_zero, Nat.sub_zero] at hG
    rw [hA] at hG
    -- the two greedy loops
    have hE2N : Wn + nN + 1 - il2 = (Int.ofNat (Wn + nN) - (il2 : Int) + 1).toNat := by
      show _ = (((Wn + nN : Nat) : Int) - _ + 1).toNat; omega
    rw [hE2N]
    obtain ⟨st1, st', s1, blk1, t1', t2', blk', hgl, hl1, hl5, ht1', ht2', hdict', hseq', hlit', hswf', hli1, hli2⟩ :=
      loops_eq grow (Int.ofNat (Wn + nN) - (il1 : Int) + 1) (Int.ofNat (Wn + nN) - (il2 : Int) + 1)
        (if (il1 : Int) < 3 then (il1 : Int) else 3) A (Wn + nN) (Wn + nN + 1 - il1)
        (Int.ofNat (Wn + nN) - (il1 : Int) + 1 + 7).toNat (Min.min 3 il1) s.DHPConfig.WindowSize.toNat
        (by show _ = (((Wn + nN : Nat) : Int) - _ + 1).toNat; omega)
        (by show ((Wn + nN : Nat) : Int) - _ + 1 ≤ ((Wn + nN : Nat) : Int) - _ + 1; omega)
        (by split <;> omega) (by omega) (by omega) (by omega) (by omega) fuel Wn
        (by show _ → (((Wn + nN : Nat) : Int) - _ + 1 + 7).toNat = _ ∧ _; omega)
        (setTT s t01 t02) { Sequences := [], Literals := { arr := blk.Literals.arr, len := 0 } }
        ⟨w1.il0, w1.mask, w1.sh1, w1.sh2, ht01⟩ ⟨w2.il0, w2.mask, w2.sh1, w2.sh2, ht02⟩ rfl (by omega) (by omega)
        rfl rfl (Nat.zero_le _)
    replace hgl : ProbeW.greedyLoopW _ _ _
        { dict := ⟨ofHashT s.doubleHashDictionary.h1 t01, ofHashT s.doubleHashDictionary.h2 t02⟩, i := Wn,
          litIndex := Wn, seqs := [], lits := [] } = some st' := hgl
    rw [hl1, bind_ok] at hG
    dsimp only at hG
    rw [hl5, bind_ok] at hG
    dsimp only at hG
    rw [ProbeW.runGreedyW_of_loop hgl, Option.bind_some]
    dsimp only
    have hPt : ∀ w' : Nat, w' ≤ Wn + nN → ParseOKD (withWTD s (w' : Int) t1' t2') :=
      fun w' hw' => h.update w' (by omega) ht1' ht2'
    unfold finishBlock
    simp only [Int.ofNat_eq_natCast] at hG
    rcases noTrailing_cases flags hfl st'.seqs blk'.Sequences (by rw [hseq', List.length_map]) with
      ⟨hfin, hf1, hf2⟩ | ⟨hfin, hf⟩
    · rw [if_pos hfin]
      first | rw [if_pos (by omega)] at hG | rw [if_neg (by omega)] at hG
      rw [bind_ok] at hG
      dsimp only at hG
      refine ⟨withWTD s (st'.litIndex : Int) t1' t2', blk', hG.symm.trans ?_, ?_, by rw [← hA]; rfl, Or.inl rfl, hseq', hlit', hswf',
        hPt _ hli2⟩
      · rw [hWn, show ((st'.litIndex : Nat) : Int) - (Wn : Int) = ((st'.litIndex - Wn : Nat) : Int) by omega]
        rfl
      · rw [hdict']; rfl
    · rw [if_neg hfin]
      first | rw [if_neg (by omega)] at hG | rw [if_pos (by omega)] at hG
      rw [slice_okI _ _ ((Wn + nN : Nat) : Int) st'.litIndex (Wn + nN) rfl rfl hli2
        (by show Wn + nN ≤ A.length; omega), bind_ok, bind_ok] at hG
      dsimp only at hG
      refine ⟨withWTD s ((Wn + nN : Nat) : Int) t1' t2',
        { Sequences := blk'.Sequences,
          Literals := Slice.append grow blk'.Literals ((A.drop st'.litIndex).take (Wn + nN - st'.litIndex)) },
        hG.symm.trans ?_, ?_, by rw [← hA]; rfl, Or.inl rfl, hseq', ?_,
        swf_append grow _ hswf' _, hPt _ (Nat.le_refl _)⟩
      · rw [hWn, hpl, show ((Wn + nN : Nat) : Int) - (Wn : Int) = ((Wn + nN - Wn : Nat) : Int) by omega]
        rfl
      · rw [hdict', hpl]; rfl
      · rw [(append_spec grow blk'.Literals hswf' _).1, hlit']
        show _ ++ (A.drop st'.litIndex).take (Wn + nN - st'.litIndex) = _ ++ (A.take (Wn + nN)).drop st'.litIndex
        rw [List.drop_take]

/-- Go text → list-level model (reachable states: `NewParser`, then any history of `Write`, `ReadFrom`, `Parse`,
    `Parse(nil)`, `Shrink`, `Reset`): no panic, the result of `Parser.parse`. -/
theorem gen_dhp_parse_model (grow : Nat → Nat → Nat) (fuel : Nat) (s : Gen.doubleHashParser) (blk : Gen.Block') (flags : Int)
    (h : ParseOKD s) (hfl : 0 ≤ flags) (hfuel : 2 * s.doubleHashDictionary.ParserBuffer.Data.len + 3 ≤ fuel)
    (raw : Cfg) (s0 : Parser) (h0 : newParser .DHP raw = some s0) (ops : List POp)
    (hreach : ofDHPs s = (runOps (s0, Ghost.init) ops).1) :
    ∃ t blk', doubleHashParser_Parse grow fuel s blk flags =
        Res.ok (t, blk', (((ofDHPs s).parse flags.toNat).2.1 : Int), parseErr ((ofDHPs s).parse flags.toNat).2.2.1) ∧
      ofDHPs t = ((ofDHPs s).parse flags.toNat).1 ∧ staleOfD t = staleOfD s ∧
      blk'.Sequences = ((ofDHPs s).parse flags.toNat).2.2.2.seqs.map seqRep ∧
      blk'.Literals.data = ((ofDHPs s).parse flags.toNat).2.2.2.lits ∧ SWF blk'.Literals ∧ ParseOKD t := by
  exact parse_model_of (p := ofDHPs s) (stale := staleOfD s) (Or.inr (Or.inr (Or.inl rfl))) h.backing raw s0 h0 ops hreach ofDHPs staleOfD ParseOKD
    (gen_dhp_parse grow fuel s blk flags h hfl hfuel)

end LZ.GenDHPParse

#print axioms LZ.GenDHPParse.gen_dhp_parse
#print axioms LZ.GenDHPParse.gen_dhp_parse_model
