/-
  LzProofs.FactsProps — side conditions of the property theorems discharged against the
  facts regenerated from the Go source (`LzModel/Generated/Facts.lean`).  If a change to
  the code falsifies one of them, this file stops compiling at a *named* theorem.
-/
import LzModel.Config
import LzModel.Json
namespace LZ

/-- `Facts.shapeOK`: the named constants of the configuration functions and of the ParserBuffer
    methods are derived by RUNNING the Go functions (tools/extract/facts_sem.go), not from the
    position of their literals, so nothing depends on the order or length of the `L_*` lists
    — except for (a) the functions the interpreter does not cover (`ParserBuffer.ReadFrom`:
    `chunkSize`, and its uses of the margin), (b) constants that fell back to the positional value
    (`-- positional fallback: …` in Facts.lean; `shapeOK` then contains the length / content check
    of the list the position refers to), and (c) consistency of the derived constants with each
    other (bucket and hash configuration accept the same InputLen range). -/
theorem facts_shape_ok : Facts.shapeOK = true := by decide

/-- the field list of every configuration type in the model is the Go struct's field list -/
theorem schema_matches_model :
    ∀ k ∈ Kind.all, (Facts.cfgStructs.lookup (k.name ++ "Config")).map (·.map (·.1)) = some k.fields := by
  decide

/-- Go types of the configuration fields: everything is `int` except `Cost : string` -/
theorem schema_types :
    ∀ k ∈ Kind.all, ∀ f ∈ (Facts.cfgStructs.lookup (k.name ++ "Config")).getD [],
      f.2 = (if f.1 = "Cost" then "string" else "int") := by
  decide

/-- `parserConfigUnion` in the model is the Go struct: same fields, same order, same types -/
theorem union_matches_model :
    Facts.unionStruct.map (fun f => (f.1, decide (f.2.1 = "string"))) = unionFields := by
  decide

/-- every union field except `Type` carries `omitempty`, `Type` carries no tag -/
theorem union_tags :
    ∀ f ∈ Facts.unionStruct, f.2.2 = (if f.1 = "Type" then "" else "json:\",omitempty\"") := by
  decide

/-- the union covers every field of every configuration type with the same Go type -/
theorem union_covers_fields :
    ∀ k ∈ Kind.all, ∀ f ∈ (Facts.cfgStructs.lookup (k.name ++ "Config")).getD [],
      (f.1, f.2, "json:\",omitempty\"") ∈ Facts.unionStruct := by
  decide

/-- MarshalJSON and UnmarshalJSON of every configuration type pass the type's own tag -/
theorem type_tags_match :
    Facts.typeTags = Kind.all.map (fun k => (k.name ++ "Config", k.name, k.name)) := by
  decide

/-- the `switch` of ParseJSON maps every tag to its own configuration type, and only those -/
theorem parseJSON_switch_matches :
    Facts.parseJSONSwitch = Kind.all.map (fun k => (k.name, k.name ++ "Config")) := by
  decide

/-- the type tags are pairwise different -/
theorem kind_names_nodup : (Kind.all.map Kind.name).Nodup := by decide

/-! ### no shared mutable state (the schedules clause of C13) -/

/-- every package-level variable of `lz` and `suffix` is an `errors.New` value -/
theorem package_vars_are_errors :
    (Facts.lzPackageVars ++ Facts.suffixPackageVars).all (fun v => v.2 == "call:errors.New") = true := by
  decide

/-- neither package has an `init` function -/
theorem no_init_functions : Facts.lzHasInit = false ∧ Facts.suffixHasInit = false := by decide

/-- neither package imports a package that provides shared mutable state or clocks -/
theorem no_stateful_imports :
    ∀ p ∈ ["sync", "sync/atomic", "unsafe", "math/rand", "time", "os", "runtime"],
      p ∉ Facts.lzImports ∧ p ∉ Facts.suffixImports := by
  decide

/-- every dictionary type declares its own `Reset` and `Shrink` (none is merely promoted
    from `ParserBuffer`, which would leave the search structure untouched) -/
theorem dict_methods_declared : Facts.dictMethods.all (fun d => d.2.1 && d.2.2) = true := by decide

/-! ### constants -/

theorem prime_odd : Facts.prime % 2 = 1 := by decide
theorem margin_is_seven : Facts.margin = 7 := by decide
theorem defaults_nonzero :
    Facts.defWindowSize ≠ 0 ∧ Facts.defShrinkSize ≠ 0 ∧ Facts.defBlockSize ≠ 0 ∧ Facts.defInputLen ≠ 0 ∧
    Facts.defHashBits ≠ 0 ∧ Facts.defInputLen2Small ≠ 0 ∧ Facts.defInputLen2Large ≠ 0 ∧
    Facts.defBucketInputLen ≠ 0 ∧ Facts.defBucketHashBits ≠ 0 ∧ Facts.defBucketSize ≠ 0 ∧
    Facts.defMinMatchLen ≠ 0 ∧ Facts.defOsapMinMatchLen ≠ 0 ∧ Facts.defMaxMatchLen ≠ 0 ∧
    Facts.defCost ≠ "" ∧ Facts.decDefWindowSize ≠ 0 := by decide
theorem bounds_ordered :
    Facts.minInputLen ≤ Facts.maxInputLen ∧ 0 < Facts.maxHashBits ∧ Facts.maxBucketHashBits ≤ Facts.maxHashBits ∧
    Facts.minBucketSize ≤ Facts.maxBucketSize ∧ (Facts.margin : Int) < Facts.maxUint32 := by decide

end LZ
