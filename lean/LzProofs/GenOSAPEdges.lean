/-
  The translated `(*optSuffixArrayParser).computeEdges` of osap.go (topic OSAPEdges of tools/extract;
  LzModel/Generated/CodeOSAPEdges.lean) against the model `LZ.computeEdges` (LzModel/Sap.lean) / the range-checked
  `Idx.computeEdgesChk` (LzProofs/IdxOsap.lean).  Opaque callees and their specification hypotheses:
      suffix.Sort(t, sa)              SortSpec        (LzProofs/GenGSAPLemmas.lean: `sa` becomes `saSpec t`)
      suffix.LCP(t, sa, nil, lcp)     LCPSpec         (`lcp` becomes the table `lcpKasai t sa (invertSA sa)` of the model)
      slices.Sort(seg)                SliceSortSpec   (LzProofs/GenOSAPEdgesCB.lean: a sorted permutation)
      suffix.Segments(sa, lcp, …, f)  SegSpec         the parameter that returns the log of the callback calls: it is what the
                                                      translation of `suffix.Segments` returns (`gen_segments`, LzProofs/
                                                      GenSuffixPropsSeg.lean) — `segSpec_go`: the hypothesis holds for it
-/
import LzProofs.GenOSAPEdgesFold
import LzProofs.GenGSAPLemmas
import LzProofs.GlueSuffix
import LzProofs.GenPropsInts

set_option linter.unusedSimpArgs false
set_option linter.unusedVariables false

namespace LZ.GenOSAP
open LZ LZ.Gen LZ.GenBuf LZ.GenHash LZ.GenSuffix LZ.GenProps
open LZ.GenGSAP (SortSpec)
open LZ.GenHPParse (data_drop swf_drop)

/-! ## the specifications of the opaque callees -/

/-- the specification assumed for `suffix.LCP(t, sa, nil, lcp)` when `sa` is the suffix array of `t` (so it is not
    recomputed) and `sainv` is missing (computed in a local array): `lcp` becomes the LCP table of the model -/
def LCPSpec (suffix_LCP : Slice → GSlice Int32 → GSlice Int32 → GSlice Int32 → Res (GSlice Int32)) : Prop :=
  ∀ (t : Slice) (sa lcp : GSlice Int32), SWF t → t.len ≤ 2147483647 → GWF sa → sa.len = t.len →
    sa.data = (saSpec t.data).map (fun (k : Nat) => Int32.ofInt (k : Int)) → GWF lcp → lcp.len = t.len →
    ∃ lcp', suffix_LCP t sa GSlice.nil lcp = Res.ok lcp' ∧ GWF lcp' ∧ lcp'.len = t.len ∧ NonNeg lcp' ∧
      absI32 lcp' = lcpKasai t.data (saSpec t.data).toArray (invertSA (saSpec t.data).toArray)

/-- the parameter `suffix_Segments` returns the log of the callback calls of `suffix.Segments`: the statement of
    `gen_segments` about the translation of segments.go -/
def SegSpec (suffix_Segments : GSlice Int32 → GSlice Int32 → Int → Int → Res (List (Int × GSlice Int32))) : Prop :=
  ∀ (sa lcp : GSlice Int32) (minLen maxLen : Int), GWF sa → GWF lcp → NonNeg lcp → lcp.len ≤ 2147483647 →
    suffix_Segments sa lcp minLen maxLen =
      match segments sa.len (absI32 lcp) minLen maxLen with
      | none => Res.panic
      | some cbs => Res.ok (cbs.map (LZ.GenSuffix.cbOf sa))

/-- `SegSpec` holds for the translation of `suffix.Segments` (topic SuffixSegments), with fuel for every table of at most
    `MaxInt32` entries -/
theorem segSpec_go (grow : Nat → Nat → Nat) (fuel : Nat) (hf : 2 * 2147483647 + 3 ≤ fuel) :
    SegSpec (fun sa lcp a b => suffix_Segments grow fuel sa lcp a b) := by
  intro sa lcp a b hsa hl hnn h31
  exact gen_segments grow fuel sa lcp a b hsa hl hnn h31 (by omega)

/-! ## the window loop -/

section Loops
variable (grow : Nat → Nat → Nat) (fuel : Nat)
  (suffix_Sort : Slice → GSlice Int32 → Res (GSlice Int32))
  (suffix_LCP : Slice → GSlice Int32 → GSlice Int32 → GSlice Int32 → Res (GSlice Int32))
  (suffix_Segments : GSlice Int32 → GSlice Int32 → Int → Int → Res (List (Int × GSlice Int32)))
  (slices_Sort : GSlice Int32 → Res (GSlice Int32))

def EmptyFrom (es : GSlice (GSlice Gen.edge)) (i0 i1 : Nat) : Prop :=
  ∀ idx, i0 ≤ idx → idx < i1 → ((es.arr[idx]?).getD GSlice.nil).len = 0

/-- `for i := range s.edges { k := i * 4; s.edges[i] = s.edgeBuf[k : k : k+4] }` -/
theorem window_loop (k : Int) : ∀ (rest i : Nat) (s : Gen.optSuffixArrayParser), i + rest = s.edges.len →
    s.edges.len ≤ s.edges.arr.length → 4 * s.edges.len ≤ s.edgeBuf.arr.length → EmptyFrom s.edges 0 i →
    ∃ s', optSuffixArrayParser_computeEdges_loop_1 grow fuel suffix_Sort suffix_LCP suffix_Segments slices_Sort k rest (i : Int) s =
        Res.ok s' ∧ s' = { s with edges := s'.edges } ∧ s'.edges.len = s.edges.len ∧
      s'.edges.arr.length = s.edges.arr.length ∧ EmptyFrom s'.edges 0 s.edges.len := by
  intro rest
  induction rest with
  | zero =>
    intro i s hi hE hB hem
    refine ⟨s, ?_, rfl, rfl, rfl, ?_⟩
    · unfold optSuffixArrayParser_computeEdges_loop_1; rfl
    · have : i = s.edges.len := by omega
      rw [← this]; exact hem
  | succ rest ih =>
    intro i s hi hE hB hem
    have hil : i < s.edges.len := by omega
    unfold optSuffixArrayParser_computeEdges_loop_1
    simp only []
    have hc : (0 : Int) ≤ (i : Int) * 4 ∧ (i : Int) * 4 ≤ (i : Int) * 4 + 4 ∧
        (i : Int) * 4 + 4 ≤ (Int.ofNat s.edgeBuf.arr.length) := by
      simp only [Int.ofNat_eq_natCast]; omega
    rw [if_pos hc, bind_ok, gset_ok s.edges (i : Int) i rfl hil, bind_ok]
    have hnext : ((i : Int) + 1) = ((i + 1 : Nat) : Int) := by omega
    rw [hnext]
    generalize hwv : ({ arr := (s.edgeBuf.arr.drop ((i : Int) * 4).toNat).take ((i : Int) * 4 + 4 - (i : Int) * 4).toNat, len := 0 } : GSlice Gen.edge) = wv
    have hwl : wv.len = 0 := by rw [← hwv]
    obtain ⟨s', h1, h2, h3, h4, h5⟩ := ih (i + 1) { s with edges := { s.edges with arr := s.edges.arr.set i wv } }
      (by show i + 1 + rest = s.edges.len; omega)
      (by show s.edges.len ≤ (s.edges.arr.set i _).length; rw [List.length_set]; exact hE)
      hB
      (by
        intro idx h0 h1
        show (((s.edges.arr.set i _)[idx]?).getD GSlice.nil).len = 0
        by_cases he : idx = i
        · subst he
          rw [List.getElem?_set_self (by omega)]; exact hwl
        · rw [List.getElem?_set_ne (fun hc => he hc.symm)]
          exact hem idx h0 (by omega))
    refine ⟨s', h1, ?_, h3, ?_, h5⟩
    · rw [h2]
    · rw [h4]; show (s.edges.arr.set i _).length = _; rw [List.length_set]

theorem edgesAbs_empty (es : GSlice (GSlice Gen.edge)) (hE : GWF es) (h : EmptyFrom es 0 es.len) :
    edgesAbs es = Array.replicate es.len [] ∧ ∀ q ∈ es.data, GWF q := by
  constructor
  · apply Array.ext_getElem?
    intro i
    by_cases hi : i < es.len
    · rw [edgesAbs_getElem? hE i hi, Array.getElem?_replicate, if_pos hi]
      have := h i (Nat.zero_le _) hi
      have hd : ((es.arr[i]?).getD GSlice.nil).data = [] := by unfold GSlice.data; rw [this]; rfl
      rw [hd]; rfl
    · rw [Array.getElem?_replicate, if_neg hi]
      exact gabs_getElem?_none _ es i hi
  · intro q hq
    obtain ⟨i, hi, rfl⟩ := List.mem_iff_getElem.1 hq
    have hil : i < es.len := by rw [gdata_length hE] at hi; exact hi
    have h1 : es.data[i]? = some (es.data[i]) := List.getElem?_eq_getElem hi
    rw [gdata_getElem?, if_pos hil] at h1
    have := h i (Nat.zero_le _) hil
    rw [h1] at this
    simp only [Option.getD_some] at this
    unfold GWF; rw [this]; exact Nat.zero_le _

/-! ## the maximum of the LCP table -/

theorem foldl_max_i32n (l : List Int32) (hnn : ∀ x ∈ l, 0 ≤ x.toInt) : ∀ (acc : Nat), acc < 2147483648 →
    (l.map i32n).foldl max acc < 2147483648 := by
  induction l with
  | nil => intro acc h; exact h
  | cons x r ih =>
    intro acc h
    simp only [List.map_cons, List.foldl_cons]
    apply ih (fun y hy => hnn y (List.mem_cons_of_mem _ hy))
    have := i32_range x
    have := hnn x List.mem_cons_self
    unfold i32n
    omega

/-- `for _, n := range lcp { if n > maxLen { maxLen = n } }` -/
theorem maxscan (lcp : GSlice Int32) (hl : GWF lcp) (hnn : NonNeg lcp) : ∀ (rest i : Nat) (acc : Int32), i + rest = lcp.len →
    0 ≤ acc.toInt →
    ∃ r, optSuffixArrayParser_computeEdges_loop_2 grow fuel suffix_Sort suffix_LCP suffix_Segments slices_Sort lcp rest (i : Int) acc =
        Res.ok r ∧ 0 ≤ r.toInt ∧ r.toInt.toNat = ((lcp.data.drop i).map i32n).foldl max acc.toInt.toNat := by
  intro rest
  induction rest with
  | zero =>
    intro i acc hi ha
    refine ⟨acc, ?_, ha, ?_⟩
    · unfold optSuffixArrayParser_computeEdges_loop_2; rfl
    · have : lcp.data.drop i = [] := List.drop_eq_nil_of_le (by rw [gdata_length hl]; omega)
      rw [this]; rfl
  | succ rest ih =>
    intro i acc hi ha
    have hil : i < lcp.len := by omega
    unfold optSuffixArrayParser_computeEdges_loop_2
    rw [gindex_ok (0 : Int32) lcp (i : Int) i rfl hil, bind_ok]
    simp only []
    have hnext : ((i : Int) + 1) = ((i + 1 : Nat) : Int) := by omega
    rw [hnext]
    have hx := hnn i hil
    generalize hxe : (lcp.arr[i]?).getD (0 : Int32) = x at hx
    have hdrop : lcp.data.drop i = x :: lcp.data.drop (i + 1) := by
      have hdi : i < lcp.data.length := by rw [gdata_length hl]; exact hil
      rw [List.drop_eq_getElem_cons hdi]
      congr 1
      have h1 : lcp.data[i]? = some (lcp.data[i]) := List.getElem?_eq_getElem hdi
      rw [gdata_getElem?, if_pos hil] at h1
      rw [← hxe, h1]; rfl
    rw [hdrop]
    simp only [List.map_cons, List.foldl_cons]
    -- the new maximum, whichever arm is taken
    have hacc : 0 ≤ (if x > acc then x else acc).toInt ∧
        (if x > acc then x else acc).toInt.toNat = max acc.toInt.toNat (i32n x) := by
      unfold i32n
      split
      · rename_i hgt
        have := (i32_lt_iff _ _).1 hgt
        omega
      · rename_i hgt
        have : ¬ acc.toInt < x.toInt := fun hc => hgt ((i32_lt_iff _ _).2 hc)
        omega
    obtain ⟨r, h1, h2, h3⟩ := ih (i + 1) _ (by omega) hacc.1
    exact ⟨r, h1, h2, by rw [h3, hacc.2]⟩

end Loops

/-! ## laminarity -/

theorem lam_of_segHyps {t : List Byte} {saL : List Nat} {minLen maxLen : Nat} {cbs : List Callback}
    (H : Sap.SegHyps t saL minLen maxLen cbs) : Lam cbs := by
  unfold Lam
  refine List.Pairwise.imp_of_mem ?_ H.order
  intro c1 c2 h1 h2 hord
  obtain ⟨m1, lo1, hi1⟩ := c1
  obtain ⟨m2, lo2, hi2⟩ := c2
  simp only at hord ⊢
  obtain ⟨-, -, a3, -⟩ := H.sound _ _ _ h1
  obtain ⟨-, -, b3, -⟩ := H.sound _ _ _ h2
  by_cases hsh : Nat.max lo1 lo2 < Nat.min hi1 hi2
  · right
    have hr1 : lo1 ≤ Nat.max lo1 lo2 := Nat.le_max_left _ _
    have hr2 : lo2 ≤ Nat.max lo1 lo2 := Nat.le_max_right _ _
    have hr3 : Nat.min hi1 hi2 ≤ hi1 := Nat.min_le_left _ _
    have hr4 : Nat.min hi1 hi2 ≤ hi2 := Nat.min_le_right _ _
    have hm := hord (Nat.max lo1 lo2) hr1 (by omega) hr2 (by omega)
    exact H.nested h1 h2 hr1 (by omega) hr2 (by omega) (by omega)
  · left
    have : Nat.max lo1 lo2 = lo1 ∨ Nat.max lo1 lo2 = lo2 := by
      rcases Nat.le_total lo1 lo2 with h | h
      · right; exact Nat.max_eq_right h
      · left; exact Nat.max_eq_left h
    have : Nat.min hi1 hi2 = hi1 ∨ Nat.min hi1 hi2 = hi2 := by
      rcases Nat.le_total hi1 hi2 with h | h
      · left; exact Nat.min_eq_left h
      · right; exact Nat.min_eq_right h
    omega

/-! ## `computeEdges` -/

/-- only `edgeBuf`, `edges`, `start`, `nEdges` differ -/
def CEFrame (s s' : Gen.optSuffixArrayParser) : Prop :=
  s' = { s with edgeBuf := s'.edgeBuf, edges := s'.edges, start := s'.start, nEdges := s'.nEdges }

/-- the calls of the closure over the log of `Segments` on the text `t` (`SegHyps`), when `sa` holds the suffix array
    of `t` and every position `x + woff` of the text lies in the edge table: `calls_eq` with its hypotheses on the log
    discharged from `SegHyps` -/
theorem calls_of_segHyps (grow : Nat → Nat → Nat) (fuel : Nat) (SRT : GSlice Int32 → Res (GSlice Int32))
    (hR : SliceSortSpec SRT) (t : List Byte) (mm mx : Nat) (cbs : List Callback)
    (H : Sap.SegHyps t (saSpec t) mm mx cbs) (ht31 : t.length ≤ 2147483647) (hmx : mx < 4294967296)
    (sa : GSlice Int32) (hsa : GWF sa) (hsl : sa.len = t.length) (hsd : sa.data = (saSpec t).map o32)
    (w : Int32) (woff : Int) (hw : w.toInt = woff) (hwr : -2147483648 < woff ∧ woff ≤ 0) (hfuel : t.length + 1 ≤ fuel)
    (s : Gen.optSuffixArrayParser) (hE : GWF s.edges) (hq : ∀ q ∈ s.edges.data, GWF q) (hn : 0 ≤ s.nEdges)
    (hws0 : 0 ≤ s.OSAPConfig.WindowSize) (hws32 : s.OSAPConfig.WindowSize < 4294967296)
    (hlen : (t.length : Int) + woff ≤ (s.edges.len : Int)) :
    ∃ s' sa', optSuffixArrayParser_computeEdges_f_calls grow fuel SRT w (cbs.map (LZ.GenSuffix.cbOf sa)) s sa = Res.ok (s', sa') ∧
      (edgesAbs s'.edges, s'.nEdges.toNat) =
        cbs.foldl (Sap.edgeStep (saSpec t) s.OSAPConfig.WindowSize.toNat woff) (edgesAbs s.edges, s.nEdges.toNat) ∧
      0 ≤ s'.nEdges ∧ GWF s'.edges ∧ (∀ q ∈ s'.edges.data, GWF q) ∧ s'.edges.len = s.edges.len ∧ EdgesFrame s s' := by
  have hsaL : (saSpec t).length = t.length := H.sa_length
  have hmem : ∀ x ∈ saSpec t, x < t.length := fun x hx => List.mem_range.1 ((H.perm.mem_iff).1 hx)
  refine calls_eq grow fuel SRT hR (saSpec t) (fun x hx => by have := hmem x hx; omega) H.sa_nodup sa w woff hw hwr
    (by omega) cbs s sa ?_ (lam_of_segHyps H) (by omega) hsa rfl ?_ hE hq hn hws0 hws32
    (fun x hx => by have := hmem x hx; omega)
  · intro ⟨m, lo, hi⟩ hc
    obtain ⟨-, b2, b3, b4, -⟩ := H.sound m lo hi hc
    exact ⟨b3, b4, by show m < 4294967296; omega⟩
  · intro ⟨m, lo, hi⟩ hc
    obtain ⟨-, -, -, b4, -⟩ := H.sound m lo hi hc
    show (win sa.arr lo hi).Perm (win ((saSpec t).map o32) lo hi)
    rw [← hsd]
    unfold win GSlice.data
    rw [List.drop_take, List.take_take, Nat.min_eq_left (by omega)]

/-- `computeEdges` = the model `LZ.computeEdges`.  For a state whose buffer satisfies `W ≤ len(Data) ≤ MaxInt32`, with
    `0 ≤ WindowSize < 2^32` and `0 ≤ MinMatchLen ≤ MaxMatchLen`, under the specifications of the four opaque callees, the
    translated Go text does not panic (fuel `len(Data) + 1`), the edge table it leaves abstracts to the model's, and only
    `edgeBuf`, `edges`, `start`, `nEdges` change. -/
theorem gen_osap_computeEdges (grow : Nat → Nat → Nat) (fuel : Nat)
    (SS : Slice → GSlice Int32 → Res (GSlice Int32))
    (LCP : Slice → GSlice Int32 → GSlice Int32 → GSlice Int32 → Res (GSlice Int32))
    (SEG : GSlice Int32 → GSlice Int32 → Int → Int → Res (List (Int × GSlice Int32)))
    (SRT : GSlice Int32 → Res (GSlice Int32))
    (hSS : SortSpec SS) (hL : LCPSpec LCP) (hG : SegSpec SEG) (hR : SliceSortSpec SRT)
    (s : Gen.optSuffixArrayParser) (hpb : PBWF s.ParserBuffer)
    (hw : s.ParserBuffer.W ≤ s.ParserBuffer.Data.len) (hsmall : s.ParserBuffer.Data.len ≤ 2147483647)
    (hws0 : 0 ≤ s.OSAPConfig.WindowSize) (hws32 : s.OSAPConfig.WindowSize < 4294967296)
    (hmm0 : 0 ≤ s.OSAPConfig.MinMatchLen) (hmmx : s.OSAPConfig.MinMatchLen ≤ s.OSAPConfig.MaxMatchLen)
    (hfuel : s.ParserBuffer.Data.len + 1 ≤ fuel) :
    ∃ s', optSuffixArrayParser_computeEdges grow fuel SS LCP SEG SRT s = Res.ok s' ∧
      (⟨edgesAbs s'.edges, s'.start.toNat, s'.nEdges.toNat⟩ : OsapD) =
        computeEdges s.ParserBuffer.Data.data s.ParserBuffer.W.toNat s.OSAPConfig.WindowSize.toNat
          s.OSAPConfig.MinMatchLen.toNat s.OSAPConfig.MaxMatchLen.toNat ∧
      CEFrame s s' ∧ 0 ≤ s'.start ∧ 0 ≤ s'.nEdges ∧ GWF s'.edges ∧ (∀ q ∈ s'.edges.data, GWF q) := by
  have hW0 : 0 ≤ s.ParserBuffer.W := hpb.w
  have hD : s.ParserBuffer.Data.len ≤ s.ParserBuffer.Data.arr.length := hpb.data
  have hdl : s.ParserBuffer.Data.data.length = s.ParserBuffer.Data.len := data_length hpb.data
  -- the configuration and the write position as naturals
  obtain ⟨Wn, hWn⟩ : ∃ Wn : Nat, s.ParserBuffer.W = (Wn : Int) := ⟨s.ParserBuffer.W.toNat, by omega⟩
  obtain ⟨WSn, hWSn⟩ : ∃ WSn : Nat, s.OSAPConfig.WindowSize = (WSn : Int) := ⟨s.OSAPConfig.WindowSize.toNat, by omega⟩
  obtain ⟨Mx, hMx⟩ : ∃ Mx : Nat, s.OSAPConfig.MaxMatchLen = (Mx : Int) := ⟨s.OSAPConfig.MaxMatchLen.toNat, by omega⟩
  obtain ⟨Mm, hMm⟩ : ∃ Mm : Nat, s.OSAPConfig.MinMatchLen = (Mm : Int) := ⟨s.OSAPConfig.MinMatchLen.toNat, by omega⟩
  rw [hWn, hWSn, hMx, hMm, Int.toNat_natCast, Int.toNat_natCast, Int.toNat_natCast, Int.toNat_natCast]
  generalize hn : s.ParserBuffer.Data.len = n at hw hsmall hfuel hdl hD
  have hWle : Wn ≤ n := by omega
  have hK : Int.ofNat s.ParserBuffer.Data.len - s.ParserBuffer.W = ((n - Wn : Nat) : Int) := by
    simp only [Int.ofNat_eq_natCast, hn]; omega
  have hK4 : ((n - Wn : Nat) : Int) * 4 = ((4 * (n - Wn) : Nat) : Int) := by omega
  unfold optSuffixArrayParser_computeEdges
  simp only []
  rw [if_neg (by simp only [Int.ofNat_eq_natCast, hn]; omega), hK, hK4]
  clear hK hK4 hw
  -- `s.edges` and `s.edgeBuf` are cut or made to `len(data) - s.start` and four times as many elements
  obtain ⟨E0, hE0w, hE0l, hE0⟩ := resize_ok (GSlice.nil : GSlice Gen.edge) s.edges (n - Wn)
    (((n - Wn : Nat) : Int) < Int.ofNat s.edges.cap) fun h => Nat.le_of_lt (Int.ofNat_lt.mp h)
  obtain ⟨B0, hB0w, hB0l, hB0⟩ := resize_ok ({ m := 0, o := 0 } : Gen.edge) s.edgeBuf (4 * (n - Wn))
    (((4 * (n - Wn) : Nat) : Int) < Int.ofNat s.edgeBuf.cap) fun h => Nat.le_of_lt (Int.ofNat_lt.mp h)
  rw [hE0, bind_ok]
  simp only []
  rw [hB0, bind_ok]
  simp only []
  clear hE0 hB0
  -- the window loop
  obtain ⟨s3, h31, h32, h33, h34, h35⟩ := window_loop grow fuel SS LCP SEG SRT ((4 * (n - Wn) : Nat) : Int) E0.len 0
    { s with edges := E0, start := s.ParserBuffer.W, edgeBuf := B0 } (Nat.zero_add _) hE0w
    (by show 4 * E0.len ≤ B0.arr.length; rw [hE0l, ← hB0l]; exact hB0w) (by intro idx _ h; omega)
  rw [show optSuffixArrayParser_computeEdges_loop_1 grow fuel SS LCP SEG SRT ((4 * (n - Wn) : Nat) : Int) E0.len 0
      { s with edges := E0, start := s.ParserBuffer.W, edgeBuf := B0 } = Res.ok s3 from h31, bind_ok]
  clear h31
  simp only at h33 h34 h35
  generalize s3.edges = E1 at h32 h33 h34 h35
  subst h32
  simp only []
  have hE1w : GWF E1 := by unfold GWF at hE0w ⊢; omega
  obtain ⟨hab, hqw⟩ := edgesAbs_empty E1 hE1w (by rw [h33]; exact h35)
  rw [h33, hE0l] at hab
  have hE1l : E1.len = n - Wn := by rw [h33, hE0l]
  clear h33 h34 h35 hE0l hE0w hB0w hB0l
  by_cases hn0 : n = 0
  · -- nothing buffered
    rw [if_pos (by simp only [Int.ofNat_eq_natCast, hn]; omega)]
    refine ⟨_, rfl, ?_, rfl, hW0, Int.le_refl _, hE1w, hqw⟩
    rw [Sap.computeEdges_none _ _ _ _ _ (Or.inl (by omega))]
    simp only [hab, hdl, hWn, Int.toNat_zero, Int.toNat_natCast]
  rw [if_neg (by simp only [Int.ofNat_eq_natCast, hn]; omega)]
  -- the text `t := data[winStart:]`
  have hdz : doz s.ParserBuffer.W s.OSAPConfig.WindowSize = ((Wn - WSn : Nat) : Int) := by
    rw [gen_doz_toNat, hWn, hWSn]; omega
  rw [hdz]
  clear hdz
  generalize ha : Wn - WSn = a
  have haW : a ≤ Wn := by omega
  rw [slice_okI s.ParserBuffer.Data (a : Int) (Int.ofNat s.ParserBuffer.Data.len) a n rfl
    (by simp only [Int.ofNat_eq_natCast, hn]) (by omega) hD, bind_ok]
  simp only []
  generalize htd : ({ arr := s.ParserBuffer.Data.arr.drop a, len := n - a } : Slice) = t
  have htl : t.len = n - a := by rw [← htd]
  have htw : SWF t := by rw [← htd]; exact swf_drop _ _ _ (by omega)
  have htdata : t.data = Sap.ceT s.ParserBuffer.Data.data Wn WSn := by
    rw [← htd, data_drop]
    show (s.ParserBuffer.Data.arr.take n).drop a = (s.ParserBuffer.Data.arr.take s.ParserBuffer.Data.len).drop (Wn - WSn)
    rw [hn, ha]
  have htdl : t.data.length = n - a := by rw [data_length htw, htl]
  rw [gmake_ok (0 : Int32) (Int.ofNat (n - a)) (Int.ofNat (n - a)) (n - a) (n - a) rfl rfl (Nat.le_refl _), bind_ok]
  -- suffix.Sort
  obtain ⟨sa, hs1, hs2, hs3, hs4⟩ := hSS t { arr := List.replicate (n - a) (0 : Int32), len := n - a } htw
    (gwf_make _ (Nat.le_refl _)) htl.symm (by omega)
  rw [hs1, bind_ok]
  simp only at hs3
  rw [gmake_ok (0 : Int32) (Int.ofNat sa.len) (Int.ofNat sa.len) (n - a) (n - a)
    (by rw [hs3]; rfl) (by rw [hs3]; rfl) (Nat.le_refl _), bind_ok]
  -- suffix.LCP
  obtain ⟨lcp, hl1, hl2, hl3, hl4, hl5⟩ := hL t sa { arr := List.replicate (n - a) (0 : Int32), len := n - a } htw
    (by omega) hs2 (by rw [hs3, htl]) hs4 (gwf_make _ (Nat.le_refl _)) htl.symm
  rw [hl1, bind_ok]
  -- the maximum of the table
  obtain ⟨r13, hm1, hm2, hm3⟩ := maxscan grow fuel SS LCP SEG SRT lcp hl2 hl4 lcp.len 0 0 (Nat.zero_add _) (by decide)
  rw [show optSuffixArrayParser_computeEdges_loop_2 grow fuel SS LCP SEG SRT lcp lcp.len 0 0 = Res.ok r13 from hm1, bind_ok]
  clear hm1
  have hlcpE : absI32 lcp = Sap.ceLcp s.ParserBuffer.Data.data Wn WSn := by
    rw [hl5, htdata]; rfl
  have hmax : r13.toInt = ((Sap.ceMaxLcp s.ParserBuffer.Data.data Wn WSn : Nat) : Int) := by
    have : r13.toInt.toNat = Sap.ceMaxLcp s.ParserBuffer.Data.data Wn WSn := by
      rw [hm3]
      unfold Sap.ceMaxLcp
      rw [← hlcpE]
      unfold absI32
      rw [← Array.foldl_toList]
      simp only [List.drop_zero]
      rfl
    omega
  clear hm2 hm3
  -- the clamp to `MaxMatchLen`, in any spelling of its test that is linear arithmetic
  have hcl := Sap.ceMaxLen_le_length s.ParserBuffer.Data.data Wn WSn Mx
  rw [hdl] at hcl
  first
    | (obtain ⟨mlen, hmlen⟩ : ∃ x : Int32, (if r13.toInt > s.OSAPConfig.MaxMatchLen then Int32.ofInt s.OSAPConfig.MaxMatchLen else r13) = x := ⟨_, rfl⟩
       rw [hmlen])
    | (obtain ⟨mlen, hmlen⟩ : ∃ x : Int32, (if r13.toInt ≥ s.OSAPConfig.MaxMatchLen then Int32.ofInt s.OSAPConfig.MaxMatchLen else r13) = x := ⟨_, rfl⟩
       rw [hmlen])
    | (obtain ⟨mlen, hmlen⟩ : ∃ x : Int32, (if s.OSAPConfig.MaxMatchLen < r13.toInt then Int32.ofInt s.OSAPConfig.MaxMatchLen else r13) = x := ⟨_, rfl⟩
       rw [hmlen])
    | (obtain ⟨mlen, hmlen⟩ : ∃ x : Int32, (if s.OSAPConfig.MaxMatchLen ≤ r13.toInt then Int32.ofInt s.OSAPConfig.MaxMatchLen else r13) = x := ⟨_, rfl⟩
       rw [hmlen])
  have hml : mlen.toInt = ((Sap.ceMaxLen s.ParserBuffer.Data.data Wn WSn Mx : Nat) : Int) := by
    unfold Sap.ceMaxLen at hcl ⊢
    rw [← hmlen]
    split
    · rw [i32_ofInt _ (by omega) (by omega)]; omega
    · omega
  clear hmlen hmax
  by_cases hearly : mlen.toInt < s.OSAPConfig.MinMatchLen
  · -- no repeat reaches MinMatchLen
    rw [if_pos hearly]
    refine ⟨_, rfl, ?_, rfl, hW0, Int.le_refl _, hE1w, hqw⟩
    cases hseg : Sap.ceSegs s.ParserBuffer.Data.data Wn WSn Mm Mx with
    | none =>
      rw [Sap.computeEdges_none _ _ _ _ _ (Or.inr hseg)]
      simp only [hab, hdl, hWn, Int.toNat_zero, Int.toNat_natCast]
    | some cbs =>
      have : cbs = [] := Sap.ceSegs_lt (by omega) hseg
      subst this
      rw [Sap.computeEdges_some _ _ _ _ _ (by omega) hseg]
      simp only [hab, hdl, hWn, Int.toNat_zero, Int.toNat_natCast, List.foldl_nil]
  rw [if_neg hearly]
  -- the callbacks of `Segments`
  have hC := Sap.ceHyps_holds s.ParserBuffer.Data.data Wn WSn Mm Mx (by omega)
  obtain ⟨cbs, hseg, H⟩ := hC.segs (by omega)
  rw [← htdata] at H
  have hsegm : segments sa.len (absI32 lcp) s.OSAPConfig.MinMatchLen mlen.toInt = some cbs := by
    unfold Sap.ceSegs at hseg
    rw [segments32_eq _ _ _ _ (by omega)] at hseg
    rw [hlcpE, hml, hMm, hs3, ← htdl, ← H.sa_length, htdata]
    exact hseg
  rw [hG sa lcp s.OSAPConfig.MinMatchLen mlen.toInt hs2 hl2 hl4 (by omega), hsegm]
  simp only []
  rw [bind_ok]
  obtain ⟨s', sa', j1, j2, j3, j4, j5, j6, j7⟩ := calls_of_segHyps grow fuel SRT hR t.data Mm _ cbs H (by omega) (by omega)
    sa hs2 (by rw [hs3, htdl]) hs4 (Int32.ofInt ((a : Int) - s.ParserBuffer.W)) ((a : Int) - (Wn : Int))
    (by rw [hWn, i32_ofInt _ (by omega) (by omega)]) (by omega) (by omega)
    { s with edges := E1, start := s.ParserBuffer.W, edgeBuf := B0, nEdges := 0 } hE1w hqw (Int.le_refl _)
    (by rw [hWSn]; omega) hws32 (by show (t.data.length : Int) + _ ≤ (E1.len : Int); omega)
  rw [j1, bind_ok]
  have hst : s'.start = s.ParserBuffer.W := by rw [j7]
  refine ⟨s', rfl, ?_, ?_, by rw [hst, hWn]; omega, j3, j4, j5⟩
  · rw [Sap.computeEdges_some _ _ _ _ _ (by omega) hseg, ← htdata, ha, hdl, ← hab, hst, hWn, Int.toNat_natCast]
    have e := j2
    simp only [hWSn, Int.toNat_natCast, Int.toNat_zero] at e
    rw [← e]
  · unfold CEFrame
    unfold EdgesFrame at j7
    rw [j7]

end LZ.GenOSAP

#print axioms LZ.GenOSAP.segSpec_go
#print axioms LZ.GenOSAP.window_loop
#print axioms LZ.GenOSAP.maxscan
#print axioms LZ.GenOSAP.lam_of_segHyps
#print axioms LZ.GenOSAP.gen_osap_computeEdges
