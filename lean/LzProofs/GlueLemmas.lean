/-
  The glue between the suffix-array proofs (C09/C10, namespace `LZ`) and the
  OSAP/GSAP proofs (C11/C12, namespace `LZ.Sap`): the named hypotheses `SAOK` (for `gsapSort`)
  and `CEHyps` (for `computeEdges`) of the latter are instantiated from the former.

  This file holds what needs C09 only (suffix array, inverse, Kasai) and does not import
  `Scan.lean` / `Segments.lean`; the C10 theorems about `Segments` meet `computeEdges` in
  GlueSuffix.lean (`CEHyps`, C11).

  Then: the histories `Sap.runOps` end in reachable states (`reachable_sapRunOps`), the `int32` condition
  `Int32OK` of D18 and that `NewParser` enforces it, C12 without hypotheses (`C12_longest_unconditional`) and its
  literal clause for `BufferSize ≤ WindowSize` (`LitPos`, `C12_literal_only_if_buffer`); accepted example
  configurations and histories (`glueOsap0`, `glueGsap0`, …) that the later modules reuse.
-/
import LzProofs.SapHist
import LzProofs.Kasai
import LzProofs.ResetProps
namespace LZ.Sap

/-! ## `SAOK` for `gsapSort` (C09 ⇒ hypothesis of C12) -/

theorem saok_saSpec (t : List Byte) : SAOK t (saSpec t).toArray (invertSA (saSpec t).toArray) := by
  have h := LZ.isSuffixArray_saSpec t
  have hp := h.isPermOfRange
  exact SAOK_of_list t (saSpec t) h.1 h.2
    (fun j hj => invertSA_sa hp (List.getElem?_eq_getElem hj))
    (fun i hi => sa_invertSA hp hi)

/-- `SAOK` holds for `gsap.sort()` on every buffer — the named hypothesis of `C12_longest_*`. -/
theorem saok_gsapSort (data : List Byte) (w : Nat) :
    SAOK data (gsapSort data w).sa (gsapSort data w).isa :=
  saok_saSpec data

/-! ## the LCP table `computeEdges` works with -/

theorem lcpKasai_saSpec (t : List Byte) :
    lcpKasai t (saSpec t).toArray (invertSA (saSpec t).toArray) = (lcpSpec t (saSpec t)).toArray :=
  LZ.lcpKasai_eq (LZ.isSuffixArray_saSpec t)

/-! ## the `maxLen` argument `computeEdges` passes to `Segments` -/

theorem foldl_max_le : ∀ (l : List Nat) (init B : Nat), init ≤ B → (∀ v ∈ l, v ≤ B) →
    l.foldl max init ≤ B
  | [], init, B, h, _ => h
  | x :: l, init, B, h, hl => by
    simp only [List.foldl_cons]
    apply foldl_max_le l _ B
    · have := hl x (by simp); omega
    · intro v hv; exact hl v (by simp [hv])

/-- every entry of the LCP table, hence its maximum, is at most the length of the text -/
theorem ceMaxLcp_le (data : List Byte) (w ws : Nat) : ceMaxLcp data w ws ≤ data.length := by
  unfold ceMaxLcp ceLcp
  rw [lcpKasai_saSpec, ← Array.foldl_toList]
  apply foldl_max_le _ _ _ (Nat.zero_le _)
  intro v hv
  rw [lcpSpec_eq] at hv
  obtain ⟨k, _, e⟩ := List.mem_map.1 hv
  rw [← e]
  refine Nat.le_trans (specAt_le _ _ k) ?_
  unfold ceT; simp

theorem ceMaxLen_le_length (data : List Byte) (w ws maxM : Nat) :
    ceMaxLen data w ws maxM ≤ data.length := by
  unfold ceMaxLen; have := ceMaxLcp_le data w ws; omega

theorem ceMaxLen_le_maxM (data : List Byte) (w ws maxM : Nat) :
    ceMaxLen data w ws maxM ≤ maxM := by
  unfold ceMaxLen; omega

/-! ## the histories of this topic end in reachable states -/

theorem reachable_sapRunOps (s0 : Parser) (ops : List POp) : Reachable s0 (runOps s0 ops) := by
  suffices h : ∀ s, Reachable s0 s → Reachable s0 (runOps s ops) from h s0 (.refl s0)
  induction ops with
  | nil => exact fun _ h => h
  | cons op ops ih =>
    intro s h
    refine ih _ ?_
    cases op with
    | write p => exact h.stepOut (.write p)
    | readFrom r => exact h.stepOut (.readFrom r)
    | parse f => exact h.stepOut (.parse f)
    | parseNil => exact h.stepOut .parseNil
    | shrink => exact h.stepOut .shrink
    | reset d c => exact h.stepOut (.reset d c)

/-! ## the D18 bound -/

/-- the `int32` condition of D18 for a parser state: the buffer can never hold more than
    `MaxInt32` bytes, or matches are never longer than `MaxInt32` -/
def Int32OK (s : Parser) : Prop :=
  s.buf.cfg.bufferSize ≤ 2147483647 ∨ s.cfg.maxMatchLen.toNat ≤ 2147483647

/-- the D18 bound holds for every accepted OSAP configuration: `Verify` rejects
    `BufferSize > MaxInt32` -/
theorem int32OK_of_newParser (raw : Cfg) (s0 : Parser) (h0 : newParser .OSAP raw = some s0) :
    Int32OK s0 := by
  obtain ⟨hv, rfl⟩ := newParser_eq_some h0
  have : (setDefaults .OSAP (raw.restrict .OSAP)).bufferSize ≤ 2147483647 := (verify_osap.mp hv).2.2.2.2
  exact Or.inl (by simp only [PBuf.init, Cfg.bufCfg]; omega)

/-! ## C12 for every history, with `SAOK` discharged -/

/-- C12 for every block of every history without `Parse(nil)`, unconditionally.  Start from a
    new GSAP parser, apply any sequence of `Write`, `ReadFrom`, `Parse(&blk, flags)`, `Shrink`,
    `Reset`; in the next block every emitted match is real, inside the window, at least
    `MinMatchLen` long and exactly as long as the longest match any earlier buffered position
    offers (clipped at the block end); and if the block ends inside the window, every literal
    position had no earlier position offering `MinMatchLen` bytes. -/
theorem C12_longest_unconditional (raw : Cfg) (s0 : Parser) (h0 : newParser .GSAP raw = some s0)
    (ops : List POp) (hops : ∀ op ∈ ops, op.notNil) (flags : Nat)
    (hn : (runOps s0 ops).blockN ≠ 0) :
    let s := runOps s0 ops
    GreedySpec (s.buf.data.take (s.buf.w + s.blockN)) s.buf.cfg.windowSize s.minMatch
      (s.buf.w + s.blockN ≤ s.buf.cfg.windowSize) s.buf.w (s.parse flags).2.2.2.seqs ∧
    (s.buf.w + s.blockN ≤ s.buf.cfg.windowSize →
      ∀ q, endPos s.buf.w (s.parse flags).2.2.2.seqs ≤ q → q < s.buf.w + s.blockN →
        lpm (s.buf.data.take (s.buf.w + s.blockN)) q < s.minMatch) :=
  C12_all_histories raw s0 h0 ops hops flags hn saok_gsapSort

theorem newParser_gsap_dict (raw : Cfg) (s0 : Parser) (h0 : newParser .GSAP raw = some s0) :
    s0.dict = .gsap GsapD.empty :=
  (newParser_rinv .GSAP raw s0 h0).2.1

/-- position `q` is emitted as a literal by a block that starts at `a` with the sequences `ss`:
    it lies in the literal run in front of some match, or behind the last match -/
def LitPos : Nat → List Seq → Nat → Prop
  | a, [], q => a ≤ q
  | a, s :: r, q => (a ≤ q ∧ q < a + s.litLen) ∨ LitPos (a + s.litLen + s.matchLen) r q

theorem litPos_no_match {p : List Byte} {ws mm e : Nat} :
    ∀ (ss : List Seq) (a : Nat), GreedySpec p ws mm True a ss →
      (∀ q, endPos a ss ≤ q → q < e → lpm p q < mm) →
      ∀ q, q < e → LitPos a ss q → lpm p q < mm
  | [], a, _, ht, q, hq, hp => ht q hp hq
  | s :: r, a, ⟨h1, _, _, _, h5⟩, ht, q, hq, hp => by
    rcases hp with ⟨ha, hb⟩ | hp
    · exact h1 trivial q ha hb
    · exact litPos_no_match r _ h5 ht q hq hp

/-- C12, literal clause from `BufferSize ≤ WindowSize`.  "When the buffer is no larger than
    the window, a byte is emitted as a literal only if no earlier buffered position offers a match
    of at least `MinMatchLen` there": for a GSAP parser with `BufferSize ≤ WindowSize`, after any
    history without `Parse(nil)`, in the next block
    * the sequences satisfy `GreedySpec` with the literal clause switched on (`lit := True`), and
    * for every block position `q` that is emitted as a literal (in a literal run in front of a
      match, or behind the last match) and every earlier buffered position `f < q`, the common
      prefix of the block-clipped suffixes at `f` and `q` is shorter than `MinMatchLen`. -/
theorem C12_literal_only_if_buffer (raw : Cfg) (s0 : Parser) (h0 : newParser .GSAP raw = some s0)
    (hbw : s0.buf.cfg.bufferSize ≤ s0.buf.cfg.windowSize)
    (ops : List POp) (hops : ∀ op ∈ ops, op.notNil) (flags : Nat)
    (hn : (runOps s0 ops).blockN ≠ 0) :
    let s := runOps s0 ops
    let p := s.buf.data.take (s.buf.w + s.blockN)
    GreedySpec p s.buf.cfg.windowSize s.minMatch True s.buf.w (s.parse flags).2.2.2.seqs ∧
    ∀ q, q < s.buf.w + s.blockN → LitPos s.buf.w (s.parse flags).2.2.2.seqs q →
      ∀ f, f < q → lcpLen (p.drop f) (p.drop q) < s.minMatch := by
  intro s p
  have hmm : 1 ≤ s0.minMatch := by have := newParser_gsap_minMatch raw s0 h0; omega
  obtain ⟨g, hd, h, hmm'⟩ := gsap_run ops hops s0 (newParser_gsap_dict raw s0 h0)
    (GsapHist.empty s0) hmm saok_gsapSort
  have h00 := (newParser_rinv .GSAP raw s0 h0).1
  have hR := reachable_rinv .GSAP raw s0 h0 s (reachable_sapRunOps s0 ops)
  have hin : s.buf.w + s.blockN ≤ s.buf.cfg.windowSize := by
    have h1 := blockN_le s hn
    have h2 : s.buf.data.length ≤ s.buf.cfg.bufferSize := hR.buf.1
    have h3 : s.buf.cfg = s0.buf.cfg := hR.bcfg.trans h00.bcfg.symm
    rw [h3] at h2 ⊢
    omega
  obtain ⟨c1, c2⟩ := C12_longest_hist s g hd flags hn hmm' h saok_gsapSort
  have c1' := GreedySpec.of_lit hin _ _ c1
  refine ⟨c1', ?_⟩
  intro q hq hp f hf
  exact ((lpm_lt_iff _ _ _).1 (litPos_no_match _ _ c1' (c2 hin) q hq hp)).2 f hf

/-- `Int32OK` in terms of the (defaults-completed) configuration `ParserConfig()` reports -/
theorem int32OK_of_cfg (raw : Cfg) (s0 : Parser) (h0 : newParser .OSAP raw = some s0)
    (h : s0.cfg.bufferSize ≤ 2147483647 ∨ s0.cfg.maxMatchLen ≤ 2147483647) : Int32OK s0 := by
  obtain ⟨-, rfl⟩ := newParser_eq_some h0
  unfold Int32OK
  simp only [PBuf.init, Cfg.bufCfg] at h ⊢
  omega

/-- the default `MaxMatchLen` (273) satisfies the D18 bound: a configuration that leaves
    `MaxMatchLen` unset is covered whatever its `BufferSize` -/
theorem int32OK_default (raw : Cfg) (s0 : Parser) (h0 : newParser .OSAP raw = some s0)
    (h : raw.maxMatchLen = 0) : Int32OK s0 := by
  apply int32OK_of_cfg raw s0 h0
  right
  obtain ⟨-, rfl⟩ := newParser_eq_some h0
  simp only [setDefaults, Cfg.restrict, h, bufDefaults, ite_self, if_true]
  decide

/-! ## non-vacuity: concrete configurations and histories meeting the hypotheses -/

theorem eq_some_getD {α} {o : Option α} (h : o.isSome = true) (d : α) : o = some (o.getD d) := by
  cases o with
  | none => cases h
  | some x => rfl

/-- an OSAP configuration `NewParser` accepts -/
def glueOsapCfg : Cfg :=
  { windowSize := 64, bufferSize := 64, blockSize := 32, shrinkSize := 16,
    minMatchLen := 2, maxMatchLen := 20 }

def glueOsap0 : Parser := (newParser .OSAP glueOsapCfg).getD default
theorem glueOsap0_new : newParser .OSAP glueOsapCfg = some glueOsap0 := eq_some_getD (by decide +kernel) _
theorem glueOsap0_int32 : Int32OK glueOsap0 := by unfold Int32OK; decide +kernel

/-- a history: `Write("ababab")`, `Parse(nil)`, `Shrink`, `Write("abab")` -/
def glueOps : List POp :=
  [.write [97, 98, 97, 98, 97, 98], .parseNil, .shrink, .write [97, 98, 97, 98]]
theorem glueOps_blockN : (runOps glueOsap0 glueOps).blockN ≠ 0 := by decide +kernel

/-- a GSAP configuration with `BufferSize ≤ WindowSize` that `NewParser` accepts -/
def glueGsapCfg : Cfg :=
  { windowSize := 64, bufferSize := 48, blockSize := 32, shrinkSize := 16, minMatchLen := 3 }

def glueGsap0 : Parser := (newParser .GSAP glueGsapCfg).getD default
theorem glueGsap0_new : newParser .GSAP glueGsapCfg = some glueGsap0 := eq_some_getD (by decide +kernel) _
theorem glueGsap0_bw : glueGsap0.buf.cfg.bufferSize ≤ glueGsap0.buf.cfg.windowSize := by decide +kernel

def glueOpsG : List POp :=
  [.write [97, 98, 97, 98, 97, 98], .shrink, .write [97, 98, 97, 98]]
theorem glueOpsG_notNil : ∀ op ∈ glueOpsG, op.notNil := by
  intro op h
  simp only [glueOpsG, List.mem_cons, List.not_mem_nil, or_false] at h
  rcases h with rfl | rfl | rfl <;> exact trivial
theorem glueOpsG_blockN : (runOps glueGsap0 glueOpsG).blockN ≠ 0 := by decide +kernel

/-- the hypotheses of `C12_longest_unconditional` and `C12_literal_only_if_buffer` are met -/
example := C12_longest_unconditional glueGsapCfg glueGsap0 glueGsap0_new glueOpsG glueOpsG_notNil 0
  glueOpsG_blockN
example := C12_literal_only_if_buffer glueGsapCfg glueGsap0 glueGsap0_new glueGsap0_bw glueOpsG
  glueOpsG_notNil 0 glueOpsG_blockN

/-- `SAOK` for the suffix array of `"abab"` (computed: `[2,0,3,1]`, inverse `[1,3,0,2]`) -/
example : SAOK exData (gsapSort exData 0).sa (gsapSort exData 0).isa := saok_gsapSort _ _

/-- `LitPos`: in a block starting at 4 with the sequences `(litLen 2, matchLen 3)`, `(1, 4)` the
    literal positions are 4, 5, 9 and everything from 14 on -/
example : LitPos 4 [⟨2, 3, 1, 0⟩, ⟨1, 4, 2, 0⟩] 5 ∧ LitPos 4 [⟨2, 3, 1, 0⟩, ⟨1, 4, 2, 0⟩] 9 ∧
    ¬ LitPos 4 [⟨2, 3, 1, 0⟩, ⟨1, 4, 2, 0⟩] 7 ∧ LitPos 4 [⟨2, 3, 1, 0⟩, ⟨1, 4, 2, 0⟩] 14 := by
  simp [LitPos]

#print axioms saok_gsapSort
#print axioms C12_longest_unconditional
#print axioms C12_literal_only_if_buffer
#print axioms int32OK_of_newParser
#print axioms int32OK_of_cfg
#print axioms int32OK_default

end LZ.Sap
