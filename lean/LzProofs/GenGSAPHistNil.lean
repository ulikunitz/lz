/-
  Histories of the translated operations of GSAP WITH `Parse(nil, flags)`, and property C14
  about the Go text.  Continues GenGSAPHist / GenGSAPHistRun (whose per-operation lemmas are used as they are); the new
  operation is `gsap_Parse_nilable … true ghost flags` (LzProofs/GenGSAPParseNil.lean).  The operation / result types
  `GOpN`, `GResN`, `GOpN.WF`, `GOpN.abs`, `resAgreeN`, `ResultsAgreeN`, `ghostStepN`, `ghostRunN` are those of
  LzProofs/GenHPHistNil.lean (they do not mention the parser).  The three opaque callees enter under `GsapSpecs lcp SS BI`
  (needed by `Parse(&blk)` only: the nil path calls none of them).
-/
import LzProofs.GenGSAPParseNil
import LzProofs.GenGSAPHistRun
import LzProofs.GenHPHistNil

set_option linter.unusedSimpArgs false
set_option linter.unusedVariables false

namespace LZ.GenGSAPHist
open LZ LZ.Gen LZ.GenBuf LZ.GenHash LZ.GenSuffix LZ.GenBitset LZ.GsapBits LZ.GenHPParse LZ.GenParse LZ.GenBUPParse
  LZ.GenProps LZ.GenGSAP LZ.GenNil
open LZ.GenHPHist (GOpN GResN GOpN.WF GOpN.abs resAgreeN ResultsAgreeN ghostStepN ghostRunN callsN ghostRunN_eq resultsAgreeN_eq
  stepRel_N)

section
variable {lcp : Slice → Slice → Int} {SS : Slice → GSlice Int32 → Res (GSlice Int32)}
  {BI : Gen.bitset → List Int → Res Gen.bitset}

/-- one `Parse(nil, flags)` on a Go state with `HistOKG`: no hypothesis on `fuel`, `flags`, `lcp`, `SS`, `BI` -/
theorem hist_parseNil {bc : BufCfg} (grow : Nat → Nat → Nat) (fuel : Nat)
    (lcp : Slice → Slice → Int) (SS : Slice → GSlice Int32 → Res (GSlice Int32))
    (BI : Gen.bitset → List Int → Res Gen.bitset)
    (t : Gen.gsap) (h : HistOKG bc t) (g : GsapD) (ghost : Gen.Block') (flags : Int) :
    ∃ t', gsap_Parse_nilable grow fuel lcp SS BI t true ghost flags =
        Res.ok (t', ghost, (((ofGSAPs t g).parseNil).2.1 : Int), parseErr ((ofGSAPs t g).parseNil).2.2) ∧
      HistOKG bc t' ∧ ofGSAPs t' g = ((ofGSAPs t g).parseNil).1 ∧ ofGW t' = ofGW t ∧
      t' = withW t (t.ParserBuffer.W + (((ofGSAPs t g).parseNil).2.1 : Int)) := by
  obtain ⟨t', h1, h2, h3, -, h5, h7⟩ := gen_gsap_parseNil grow fuel lcp SS BI t ghost flags g h.pok
  subst h5
  exact ⟨_, h1, ⟨h7, h.cfg, h.len, h.cap⟩, h2, h3, rfl⟩

/-! ## histories with `Parse(nil)` -/

/-- one call, on the translated functions -/
def stepN (extra : Nat) (grow : Nat → Nat → Nat) (fuel : Nat) (lcp : Slice → Slice → Int)
    (SS : Slice → GSlice Int32 → Res (GSlice Int32)) (BI : Gen.bitset → List Int → Res Gen.bitset) (s : Gen.gsap) :
    GOpN → Res (Gen.gsap × GResN)
  | .r op => Res.bind (stepG extra grow fuel lcp SS BI s op) fun x => Res.ok (x.1, .r x.2)
  | .parseNil ghost flags =>
    Res.bind (gsap_Parse_nilable grow fuel lcp SS BI s true ghost flags) fun x =>
      Res.ok (x.1, .parseNil x.2.1 x.2.2.1 x.2.2.2)

/-- a history of calls; the results in order -/
def runN (extra : Nat) (grow : Nat → Nat → Nat) (fuel : Nat) (lcp : Slice → Slice → Int)
    (SS : Slice → GSlice Int32 → Res (GSlice Int32)) (BI : Gen.bitset → List Int → Res Gen.bitset) :
    Gen.gsap → List GOpN → Res (Gen.gsap × List GResN)
  | s, [] => Res.ok (s, [])
  | s, op :: ops =>
    Res.bind (stepN extra grow fuel lcp SS BI s op) fun x =>
    Res.bind (runN extra grow fuel lcp SS BI x.1 ops) fun q => Res.ok (q.1, x.2 :: q.2)

theorem runN_eq (extra : Nat) (grow : Nat → Nat → Nat) (fuel : Nat) (lcp : Slice → Slice → Int)
    (SS : Slice → GSlice Int32 → Res (GSlice Int32)) (BI : Gen.bitset → List Int → Res Gen.bitset) :
    runN extra grow fuel lcp SS BI = GenHist.run (stepN extra grow fuel lcp SS BI) :=
  GenHist.run_unique (fun _ => rfl) (fun _ _ _ => rfl)

theorem stepN_sim {bc : BufCfg} (hbc : BCOKG bc) (sp : GsapSpecs lcp SS BI) (extra : Nat) (grow : Nat → Nat → Nat)
    (fuel : Nat) (hfuel : 2 * bc.bufferSize + 5 ≤ fuel)
    (raw : Cfg) (p0 : Parser) (h0 : newParser .GSAP raw = some p0) :
    GenHist.StepSim callsN (stepN extra grow fuel lcp SS BI) (SimG bc p0) :=
  stepRel_N (fun _ op h => h.step op) (stepG_sim hbc sp extra grow fuel hfuel raw p0 h0)
    (by
      rintro t _ ghost flags ⟨h, g, hG, rfl⟩
      obtain ⟨t', h1, h2, h3, h4, -⟩ := hist_parseNil grow fuel lcp SS BI t h g ghost flags
      exact ⟨t', h1, h2, g, h4 ▸ hG, h3⟩)
    (fun _ _ => rfl) (fun _ _ _ => rfl)

/-- the simulation from `gsap.init` for histories of Write / ReadFrom / Parse(&blk) / Parse(nil) / Shrink / Reset, every
    operation a translated function (`ReadFrom` against the scripted reader) -/
theorem gen_gsap_history_nil (cfg : Gen.GSAPConfig) (s0 : Gen.gsap)
    (hinit : gsap_init default cfg = Res.ok (s0, Gen.Err.ok)) (sp : GsapSpecs lcp SS BI)
    (extra : Nat) (grow : Nat → Nat → Nat) (fuel : Nat)
    (hfuel : 2 * s0.ParserBuffer.BufConfig.BufferSize.toNat + 5 ≤ fuel)
    (ops : List GOpN) (hwf : ∀ op ∈ ops, op.WF) :
    ∃ p t rs, newParser .GSAP (ofGSAP cfg) = some p ∧ ofGSAPs s0 GsapD.empty = p ∧
      runN extra grow fuel lcp SS BI s0 ops = Res.ok (t, rs) ∧ BCOKG p.buf.cfg ∧
      2 * p.buf.cfg.bufferSize + 5 ≤ fuel ∧ SimG p.buf.cfg p t (runOps (p, Ghost.init) (ops.map GOpN.abs)) ∧
      ghostRunN Ghost.init ops rs = (runOps (p, Ghost.init) (ops.map GOpN.abs)).2 ∧
      ResultsAgreeN (p, Ghost.init) ops rs := by
  obtain ⟨p, hp, h2, hbc, hS, hf⟩ := init_sim cfg s0 hinit fuel hfuel
  rw [runN_eq, ghostRunN_eq, resultsAgreeN_eq]
  obtain ⟨t, rs, k1, k2, k4, k5⟩ :=
    GenHist.run_sim (stepN_sim hbc sp extra grow fuel hf (ofGSAP cfg) p hp) ops s0 _ hS hwf
  exact ⟨p, t, rs, hp, h2, k1, hbc, hf, k2, k4, k5⟩

/-! ## the property theorems -/

/-- C01 about the Go text of GSAP, histories WITH `Parse(nil)`.  Run any history of `Write`, `ReadFrom`,
    `Parse(&blk, flags)`, `Parse(nil, flags)`, `Shrink`, `Reset` on the translated functions (`lcp`, `suffix.Sort`,
    `bitset.insert` under `GsapSpecs`).  No call panics or runs out of fuel, and the reference decoder, applied to what
    the calls produced since the last successful `Reset` — the blocks of `Parse(&blk)` and, for every `Parse(nil)` that
    returned `n > 0`, the next `n` bytes of the stream VERBATIM (`Event.skip`) —, yields exactly the first `consumed`
    bytes fed, `consumed` = the sum of all returned `n`. -/
theorem C01_go_text_gsap_nil (cfg : Gen.GSAPConfig) (s0 : Gen.gsap)
    (hinit : gsap_init default cfg = Res.ok (s0, Gen.Err.ok)) (sp : GsapSpecs lcp SS BI)
    (extra : Nat) (grow : Nat → Nat → Nat) (fuel : Nat)
    (hfuel : 2 * s0.ParserBuffer.BufConfig.BufferSize.toNat + 5 ≤ fuel)
    (ops : List GOpN) (hwf : ∀ op ∈ ops, op.WF) :
    ∃ t rs, runN extra grow fuel lcp SS BI s0 ops = Res.ok (t, rs) ∧
      decode [] (ghostRunN Ghost.init ops rs).log =
        some ((ghostRunN Ghost.init ops rs).fed.take (ghostRunN Ghost.init ops rs).consumed) := by
  obtain ⟨p, t, rs, hp, -, h1, -, -, -, h4, -⟩ :=
    gen_gsap_history_nil cfg s0 hinit sp extra grow fuel hfuel ops hwf
  exact ⟨t, rs, h1, GenHist.C01_ghost hp (histHyp_of_ne .GSAP p (by decide)) h4⟩

/-- C03 about the Go text of GSAP, histories WITH `Parse(nil)`: blocks and skipped segments tile the consumed
    stream. -/
theorem C03_go_text_gsap_nil (cfg : Gen.GSAPConfig) (s0 : Gen.gsap)
    (hinit : gsap_init default cfg = Res.ok (s0, Gen.Err.ok)) (sp : GsapSpecs lcp SS BI)
    (extra : Nat) (grow : Nat → Nat → Nat) (fuel : Nat)
    (hfuel : 2 * s0.ParserBuffer.BufConfig.BufferSize.toNat + 5 ≤ fuel)
    (ops : List GOpN) (hwf : ∀ op ∈ ops, op.WF) :
    ∃ t rs, runN extra grow fuel lcp SS BI s0 ops = Res.ok (t, rs) ∧
      let g := ghostRunN Ghost.init ops rs
      LogAll (fun pos e => 1 ≤ e.n ∧ e.n ≤ s0.ParserBuffer.BufConfig.BlockSize.toNat ∧
        pos + e.n ≤ g.fed.length ∧
        ∀ n fl blk, e = .block n fl blk →
          blk.len = n ∧ expand (g.fed.take pos) blk = some (g.fed.take (pos + n)) ∧
          (fl % 2 = 1 → blk.seqs ≠ [] → blk.lits.length = litSum blk.seqs ∧ n = seqsSpan blk.seqs)) 0 g.log ∧
      logSpan g.log = g.consumed ∧ g.consumed ≤ g.fed.length := by
  obtain ⟨p, t, rs, hp, h0, h1, -, -, -, h4, -⟩ :=
    gen_gsap_history_nil cfg s0 hinit sp extra grow fuel hfuel ops hwf
  subst h0
  exact ⟨t, rs, h1, GenHist.C03_ghost hp (histHyp_of_ne .GSAP _ (by decide)) h4⟩

/-- C14 (skipped bytes verbatim) about the Go text of GSAP: every skip entry of the log is a non-empty segment of at
    most `BlockSize` bytes and IS the segment of the fed stream at its position. -/
theorem C14_skip_go_text_gsap (cfg : Gen.GSAPConfig) (s0 : Gen.gsap)
    (hinit : gsap_init default cfg = Res.ok (s0, Gen.Err.ok)) (sp : GsapSpecs lcp SS BI)
    (extra : Nat) (grow : Nat → Nat → Nat) (fuel : Nat)
    (hfuel : 2 * s0.ParserBuffer.BufConfig.BufferSize.toNat + 5 ≤ fuel)
    (ops : List GOpN) (hwf : ∀ op ∈ ops, op.WF) :
    ∃ t rs, runN extra grow fuel lcp SS BI s0 ops = Res.ok (t, rs) ∧
      let g := ghostRunN Ghost.init ops rs
      LogAll (fun pos e => ∀ b, e = .skip b →
        1 ≤ b.length ∧ b.length ≤ s0.ParserBuffer.BufConfig.BlockSize.toNat ∧
        b = (g.fed.drop pos).take b.length) 0 g.log := by
  obtain ⟨p, t, rs, hp, h0, h1, -, -, -, h4, -⟩ :=
    gen_gsap_history_nil cfg s0 hinit sp extra grow fuel hfuel ops hwf
  subst h0
  exact ⟨t, rs, h1, GenHist.C14_skip_ghost hp (histHyp_of_ne .GSAP _ (by decide)) h4⟩

/-- C14 about the Go text of GSAP.  After ANY history of the translated `Write`, `ReadFrom`, `Parse(&blk)`,
    `Parse(nil)`, `Shrink`, `Reset` from `gsap.init`, let `t` be the Go state reached.  For every `flags`, every ghost
    value and every block `blk` of the caller: the translated `Parse(nil, flags)` and the translated `Parse(&blk, 0)`,
    both run from `t`, return THE SAME `n` and THE SAME error, and leave THE SAME buffer `Data` and THE SAME `W`;
    `n = min(BlockSize, len(Data) - W)`; the error is `ErrEmptyBuffer` if `n = 0` and `nil` otherwise; `Parse(nil)` hands
    the ghost block back unchanged (it writes nothing), leaves `Data` as it was, and changes NOTHING of the parser but
    `W` (`sa`, `isa`, the bitset stay: the skipped positions are not entered into the bitset). -/
theorem C14_go_text_gsap (cfg : Gen.GSAPConfig) (s0 : Gen.gsap)
    (hinit : gsap_init default cfg = Res.ok (s0, Gen.Err.ok)) (sp : GsapSpecs lcp SS BI)
    (extra : Nat) (grow : Nat → Nat → Nat) (fuel : Nat)
    (hfuel : 2 * s0.ParserBuffer.BufConfig.BufferSize.toNat + 5 ≤ fuel)
    (ops : List GOpN) (hwf : ∀ op ∈ ops, op.WF) (ghost blk : Gen.Block') (flags : Int) :
    ∃ t rs, runN extra grow fuel lcp SS BI s0 ops = Res.ok (t, rs) ∧
      ∃ t1 t2 blk' n e,
        gsap_Parse_nilable grow fuel lcp SS BI t true ghost flags = Res.ok (t1, ghost, n, e) ∧
        gsap_Parse grow fuel lcp SS BI t blk 0 = Res.ok (t2, blk', n, e) ∧
        t1.ParserBuffer.Data = t2.ParserBuffer.Data ∧
        t1.ParserBuffer.W = t2.ParserBuffer.W ∧
        t1.ParserBuffer.Data = t.ParserBuffer.Data ∧
        t1.ParserBuffer.W = t.ParserBuffer.W + n ∧
        n = Min.min t.GSAPConfig.BlockSize ((t.ParserBuffer.Data.len : Int) - t.ParserBuffer.W) ∧
        (n = 0 → e = Gen.ErrEmptyBuffer ∧ t1 = t) ∧ (n ≠ 0 → e = Gen.Err.ok) ∧
        t1 = { t with ParserBuffer := { t.ParserBuffer with W := t.ParserBuffer.W + n } } := by
  obtain ⟨p, t, rs, hp, h0, h1, hbc, hf, ⟨⟨hH, g, hG, h3⟩, -⟩, -⟩ :=
    gen_gsap_history_nil cfg s0 hinit sp extra grow fuel hfuel ops hwf
  refine ⟨t, rs, h1, ?_⟩
  have hlen := hH.len
  obtain ⟨t1, e1, hH1, m1, -, ht1⟩ := hist_parseNil grow fuel lcp SS BI t hH g ghost flags
  obtain ⟨t2, blk', -, e2, -, -, -, -, -, -, pb2⟩ := gen_gsap_parse_model_ex grow fuel lcp sp.lcp SS sp.sort BI sp.ins t blk 0
    g hH.pok (Int.le_refl 0) (by omega) hG (ofGSAP cfg) p hp (ops.map GOpN.abs) h3
  have hM := C14_same_n_greedy_reachable .GSAP (by decide) (ofGSAP cfg) p hp (ops.map GOpN.abs) 0 rfl
  simp only at hM
  rw [← h3] at hM
  obtain ⟨c1, c2, -, -⟩ := hM
  have hz : (0 : Int).toNat = 0 := rfl
  rw [hz] at e2 pb2
  rw [← c1, ← c2] at e2
  rw [← c1] at pb2
  have ht1pb : t1.ParserBuffer =
      { t.ParserBuffer with W := t.ParserBuffer.W + (((ofGSAPs t g).parseNil.2.1 : Nat) : Int) } := by rw [ht1]
  have hpb12 : t1.ParserBuffer = t2.ParserBuffer := by rw [ht1pb, pb2]
  have hn : (((ofGSAPs t g).parseNil.2.1 : Nat) : Int) =
      Min.min t.GSAPConfig.BlockSize ((t.ParserBuffer.Data.len : Int) - t.ParserBuffer.W) :=
    GenHPHist.parseNil_n_go (ofGSAPs t g) _ _ _ hH.dataLen rfl hH.pok.cbs.symm hH.pok.pb.w hH.pok.w hH.pok.bs0
  obtain ⟨z1, z2⟩ := GenHPHist.parseNil_err_go (ofGSAPs t g)
  refine ⟨t1, t2, blk', _, _, e1, e2, by rw [hpb12], by rw [hpb12], by rw [ht1pb], by rw [ht1pb], hn,
    fun hn0 => ⟨(z1 (by omega)).1, ?_⟩, fun hn0 => z2 (by omega), ht1⟩
  rw [ht1, hn0, Int.add_zero]

end

end LZ.GenGSAPHist

#print axioms LZ.GenGSAPHist.hist_parseNil
#print axioms LZ.GenGSAPHist.stepN_sim
#print axioms LZ.GenGSAPHist.gen_gsap_history_nil
#print axioms LZ.GenGSAPHist.C01_go_text_gsap_nil
#print axioms LZ.GenGSAPHist.C03_go_text_gsap_nil
#print axioms LZ.GenGSAPHist.C14_skip_go_text_gsap
#print axioms LZ.GenGSAPHist.C14_go_text_gsap
