/-
  LzProofs.ParseEval — a fuel-based (structurally recursive) copy of the greedy loop, proved
  equal to the model's well-founded `greedyLoop`, so that concrete parses can be evaluated
  inside the kernel (`decide`) for the non-vacuity examples.
-/
import LzProofs.ParseParser
namespace LZ

def greedyLoopF {δ} (F : Finder δ) (p : List Byte) (stop : Nat) : Nat → LoopSt δ → LoopSt δ
  | 0, st => st
  | fuel+1, st =>
    if st.i < stop then
      match F.probe st.dict p st.i st.litIndex with
      | (d, none) => greedyLoopF F p stop fuel { st with dict := d, i := st.i + 1 }
      | (d, some (s, k, o)) =>
        if s + k > st.i then
          let q := (p.drop st.litIndex).take (s - st.litIndex)
          greedyLoopF F p stop fuel
            { dict := d, i := s + k, litIndex := s + k,
              seqs := st.seqs ++ [{ litLen := q.length, matchLen := k, offset := o }],
              lits := st.lits ++ q }
        else { st with dict := d, i := stop }
    else st

theorem greedyLoop_eq_fuel {δ} (F : Finder δ) (p : List Byte) (stop : Nat) :
    ∀ (st : LoopSt δ) (fuel : Nat), stop - st.i ≤ fuel →
      greedyLoop F p stop st = greedyLoopF F p stop fuel st := by
  intro st
  induction st using greedyLoop.induct F p stop with
  | case1 st h d hp ih =>
    rintro (_ | fuel) hf
    · omega
    · rw [greedyLoop_none F p stop st d h hp, greedyLoopF, if_pos h, hp]
      exact ih fuel (by simp only; omega)
  | case2 st h d s k o hp hk q ih =>
    rintro (_ | fuel) hf
    · omega
    · rw [greedyLoop_some F p stop st d s k o h hp hk, greedyLoopF, if_pos h, hp]
      simp only [if_pos hk]
      exact ih fuel (by simp only; omega)
  | case3 st h d s k o hp hk =>
    rintro (_ | fuel) hf
    · omega
    · rw [greedyLoop_bad F p stop st d s k o h hp hk, greedyLoopF, if_pos h, hp]
      simp only [if_neg hk]
  | case4 st h =>
    rintro (_ | fuel) hf
    · exact greedyLoop_done F p stop st h
    · rw [greedyLoop_done F p stop st h, greedyLoopF, if_neg h]

namespace Parser

/-- `runGreedy` with the fuel-based loop -/
def runGreedyF {δ} (F : Finder δ) (d : δ) (p : List Byte) (w stop flags : Nat) : δ × Nat × Block × Nat :=
  let st := greedyLoopF F p stop (stop - w) { dict := d, i := w, litIndex := w, seqs := [], lits := [] }
  let (w', blk) := finishBlock p flags st
  (st.dict, w', blk, st.litIndex)

theorem runGreedy_eq_F {δ} (F : Finder δ) (d : δ) (p : List Byte) (w stop flags : Nat) :
    runGreedy F d p w stop flags = runGreedyF F d p w stop flags := by
  unfold runGreedy runGreedyF
  rw [greedyLoop_eq_fuel F p stop _ (stop - w) (Nat.le_refl _)]

end Parser

end LZ
