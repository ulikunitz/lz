/-
  LzProofs.DecoderLemmas — the hand model of `Decoder` (decoder_buffer.go), for C06 (the loops never spin), C18
  (exactly-once delivery to a faulting writer) and C07 (what is accepted).
  Buffer level (namespace `DecBuf`, no writer): what one write operation does to the stream — `Ext`, the structure
  `Step`, and `write_run`, `writeByte_run` ("a `Step` and the outcome"), `writeBlock_run` (the structure `BlockStep`: a
  `Step`, the counts, and `Expands` for the part of the block written).  Decoder level:
  * what `WriteTo` does (`Flushed`);
  * the retry loops of `Decoder` under the invariant: one induction rule per loop (`writeByte_ind`, `write_ind`,
    `writeBlock_ind`; the spinning branches do not occur), also used for the translated loops (GenDecoderProps.lean);
  * what every call does, whatever the loop: `Reach` (composes always) and `Run` (one call and its error), with the
    postconditions of the three loops and of the caller's retry protocols stated through them;
  * the decoder invariant `Good` (the buffer represents the log), kept by both steps of the loops.
-/
import LzProofs.DecBufLemmas
namespace LZ
namespace DecBuf

/-! # buffer level: one write operation as a step on the stream -/

/-- the structural invariant of a `DecoderBuffer` -/
def Inv (b : DecBuf) : Prop := b.r ≤ b.data.length ∧ b.ws < b.bs ∧ b.data.length ≤ b.bs

/-- the bytes not yet handed to the writer -/
def pending (b : DecBuf) : List Byte := b.data.drop b.r

/-- `b'` is `b` with the bytes `x` appended, after the window has possibly been slid forward
    by `δ ≤ b.r` bytes (only bytes already handed to the writer are dropped) -/
def Ext (b b' : DecBuf) (x : List Byte) : Prop :=
  ∃ δ, δ ≤ b.r ∧ b'.r + δ = b.r ∧ b'.data = (b.data ++ x).drop δ ∧ b'.ws = b.ws ∧ b.bs ≤ b'.bs

theorem Ext.refl (b : DecBuf) : Ext b b [] := ⟨0, by simp⟩

theorem Ext.trans {b b' b'' : DecBuf} {x y : List Byte} (hr : b.r ≤ b.data.length)
    (h1 : Ext b b' x) (h2 : Ext b' b'' y) : Ext b b'' (x ++ y) := by
  obtain ⟨δ1, a1, a2, a3, a4, a5⟩ := h1
  obtain ⟨δ2, c1, c2, c3, c4, c5⟩ := h2
  refine ⟨δ1 + δ2, by omega, by omega, ?_, by omega, by omega⟩
  rw [c3, a3, ← List.drop_drop, ← List.append_assoc]
  congr 1
  rw [List.drop_append_of_le_length (by omega), List.drop_append_of_le_length (by simp; omega),
    List.drop_append_of_le_length (by omega)]

theorem Ext.ws {b b' : DecBuf} {x : List Byte} (h : Ext b b' x) : b'.ws = b.ws := by
  obtain ⟨_, _, _, _, a4, _⟩ := h; exact a4

theorem Ext.bs_le {b b' : DecBuf} {x : List Byte} (h : Ext b b' x) : b.bs ≤ b'.bs := by
  obtain ⟨_, _, _, _, _, a5⟩ := h; exact a5

theorem Ext.r_le {b b' : DecBuf} {x : List Byte} (hr : b.r ≤ b.data.length) (h : Ext b b' x) :
    b'.r ≤ b'.data.length := by
  obtain ⟨δ, a1, a2, a3, _⟩ := h
  rw [a3]; simp; omega

theorem Ext.length {b b' : DecBuf} {x : List Byte} (hr : b.r ≤ b.data.length) (h : Ext b b' x) :
    b'.data.length - b'.r = b.data.length - b.r + x.length := by
  obtain ⟨δ, a1, a2, a3, _⟩ := h
  rw [a3]; simp; omega

theorem Ext.pending {b b' : DecBuf} {x : List Byte} (hr : b.r ≤ b.data.length) (h : Ext b b' x) :
    b'.pending = b.pending ++ x := by
  obtain ⟨δ, a1, a2, a3, _⟩ := h
  unfold DecBuf.pending
  rw [a3, List.drop_drop, ← List.drop_append_of_le_length hr]
  congr 1; omega

theorem Ext.hist {b b' : DecBuf} {x got pre : List Byte} (hr : b.r ≤ b.data.length) (h : Ext b b' x)
    (hg : got = pre ++ b.data.take b.r) : ∃ pre', got = pre' ++ b'.data.take b'.r := by
  obtain ⟨δ, a1, a2, a3, _⟩ := h
  refine ⟨pre ++ b.data.take δ, ?_⟩
  rw [hg, a3, List.append_assoc]
  congr 1
  have : b.r = δ + b'.r := by omega
  rw [this, List.take_add]
  congr 1
  rw [List.drop_append_of_le_length (by omega), List.take_append_of_le_length (by simp; omega)]

/-- One write operation of the buffer, from `b` to `b'`: it appended `x`, counted it in `Off`, kept the invariant and
    the window. -/
structure Step (b b' : DecBuf) (x : List Byte) : Prop where
  inv : Inv b'
  ext : Ext b b' x
  off : b'.off = b.off + x.length
  win : min (b.data.length + x.length) b.ws ≤ b'.data.length

theorem append_ext (g : Grow) (b : DecBuf) (p : List Byte) (o : Nat) :
    Ext b { (b.append g p) with off := o } p :=
  ⟨0, by simp [append]⟩

theorem Inv.append {b : DecBuf} (h : Inv b) (g : Grow) {p : List Byte} (o : Nat)
    (hfit : p.length ≤ b.bs - b.data.length) : Inv { (b.append g p) with off := o } := by
  unfold Inv DecBuf.append at *
  simp only [List.length_append]
  omega

/-! ## shrink, and the "make room" step all writes share -/

theorem Inv.shrink {b : DecBuf} (h : Inv b) (n : Nat) : Inv (b.shrink n).1 := by
  obtain ⟨h1, h2, h3⟩ := h
  have hk := shrink_keeps b n
  have := shrink_bs_ge b n
  unfold Inv
  rw [shrink_r, shrink_ws]
  omega

theorem shrink_ext (b : DecBuf) (n : Nat) : Ext b (b.shrink n).1 [] := by
  have hk := (shrink_keeps b n).2.1
  exact ⟨(b.shrink n).2, hk, by rw [shrink_r]; omega, by rw [shrink_data, List.append_nil], shrink_ws b n,
    shrink_bs_ge b n⟩

theorem room_spec (b : DecBuf) (need : Nat) (h : Inv b) : Inv (b.room need).1 ∧ Ext b (b.room need).1 [] :=
  room_keeps_of (P := fun b' => Inv b' ∧ Ext b b' []) b need (fun g => ⟨h.shrink g, shrink_ext b g⟩) ⟨h, Ext.refl b⟩

theorem room_full {b : DecBuf} {need : Nat} (hr : b.r = b.data.length)
    (hf : ¬ need ≤ (b.room need).1.bs - (b.room need).1.data.length) : need > (b.room need).1.bs - b.ws := by
  have := (room_flushed b need hr).resolve_left (mt (room_fits b need).mp hf)
  omega

/-! ## `Write` and `WriteByte`: make room, append if it fits -/

/-- `Write(p)` either appends all of `p` or reports `ErrFullBuffer` and appends nothing; the latter
    not if everything was delivered and `p` is at most `BufferSize - WindowSize` long. -/
theorem write_run (g : Grow) {b : DecBuf} (h : Inv b) (p : List Byte) {b' : DecBuf} {k : Nat} {e : Err}
    (hr : b.write g p = (b', k, e)) :
    (e = .ok ∧ k = p.length ∧ Step b b' p) ∨
    (e = .full ∧ k = 0 ∧ Step b b' [] ∧ ¬ (b.r = b.data.length ∧ p.length ≤ b.bs - b.ws)) := by
  obtain ⟨m1, m2⟩ := room_spec b p.length h
  have m3 := room_off b p.length
  have m4 := room_keeps b p.length
  rw [write_def, roomFor_eq_room h.2.2] at hr
  dsimp only at hr
  split at hr
  · rename_i hn
    cases hr
    refine Or.inr ⟨rfl, rfl, ⟨m1, m2, m3, m4⟩, fun hc => ?_⟩
    have := m1.2.2
    have := room_full (need := p.length) hc.1 (by omega)
    have := m2.bs_le
    omega
  · rename_i hn
    cases hr
    refine Or.inl ⟨rfl, rfl, m1.append g _ (by omega), Ext.trans h.1 m2 (append_ext g _ p _), by rw [← m3], ?_⟩
    simp only [append_data, List.length_append]; omega

/-- `WriteByte(c)` is `Write` of one byte; on a buffer with everything delivered it always fits. -/
theorem writeByte_run (g : Grow) {b : DecBuf} (h : Inv b) (c : Byte) {b' : DecBuf} {e : Err}
    (hr : b.writeByte g c = (b', e)) :
    (e = .ok ∧ Step b b' [c]) ∨ (e = .full ∧ Step b b' [] ∧ b.r ≠ b.data.length) := by
  rw [writeByte_eq_write, Prod.mk.injEq] at hr
  rcases write_run g h [c] (k := (b.write g [c]).2.1) (b' := b') (e := e) (by rw [← hr.1, ← hr.2]) with
    ⟨e1, -, hs⟩ | ⟨e1, -, hs, e4⟩
  · exact Or.inl ⟨e1, hs⟩
  · refine Or.inr ⟨e1, hs, fun hc => e4 ⟨hc, ?_⟩⟩
    unfold Inv at h; simp only [List.length_singleton]; omega

/-! ## from the abstraction to an append-only log (`AbsD`) back to `Ext` -/

theorem Abs.inv {b : DecBuf} {w : List Byte} {d : Nat} (h : Abs b w d) : Inv b :=
  ⟨h.r_le, h.ws_lt, h.len_bs⟩

theorem AbsD.self {b : DecBuf} (h : Inv b) : AbsD b b.data b.r :=
  ⟨List.suffix_refl _, h.1, by omega, Nat.min_le_right _ _, h.2.1, h.2.2⟩

/-- a buffer for the log `b.data ++ x`, with `Off` set to count `x`, is reached from `b` by a step -/
theorem AbsD.step {b b' : DecBuf} {x : List Byte} (ha : AbsD b' (b.data ++ x) b.r) (h : Inv b)
    (hws : b'.ws = b.ws) (hbs : b.bs ≤ b'.bs) {o : Nat} (ho : o = b.off + x.length) :
    Step b { b' with off := o } x := by
  have hdl := ha.deliv
  have hw := ha.win
  rw [hws, List.length_append, Nat.min_comm] at hw
  have := h.1
  have := ha.len_le
  refine ⟨⟨ha.r_le, ha.ws_lt, ha.len_bs⟩, ⟨(b.data ++ x).length - b'.data.length, by omega, ?_, ha.data_eq,
    hws, hbs⟩, ho, hw⟩
  show b'.r + _ = b.r
  omega

end DecBuf

/-! ## reference expansion of a part of a block -/

/-- `out` is the reference expansion (`expandSeqs`) over the history `hist` of the first `k`
    sequences of the block `(seqs, lits)`, followed by `t` further literal bytes such that `l`
    literal bytes are consumed in total; literals beyond those of the `k` sequences are only
    allowed once all sequences are done (they are then the trailing literals of the block). -/
def Expands (hist lits : List Byte) (seqs : List Seq) (k l : Nat) (out : List Byte) : Prop :=
  k ≤ seqs.length ∧ ∃ out1 rest t, expandSeqs hist lits (seqs.take k) = some (out1, rest) ∧
    l = (lits.length - rest.length) + t ∧ t ≤ rest.length ∧ (t = 0 ∨ k = seqs.length) ∧
    out = out1 ++ rest.take t

theorem Expands.zero (hist lits : List Byte) (seqs : List Seq) : Expands hist lits seqs 0 0 hist :=
  ⟨Nat.zero_le _, hist, lits, 0, by simp [expandSeqs], by simp, by simp, Or.inl rfl, by simp⟩

theorem Expands.full {hist lits : List Byte} {seqs : List Seq} {out : List Byte}
    (h : Expands hist lits seqs seqs.length lits.length out) : expand hist ⟨seqs, lits⟩ = some out := by
  obtain ⟨_, out1, rest, t, h1, h2, h3, _, h5⟩ := h
  rw [List.take_length] at h1
  obtain ⟨hr, ht0, -⟩ := expandSeqs_counts h1
  have : t = rest.length := by rw [hr, List.length_drop] at h2 ⊢; omega
  unfold expand
  simp only [h1, h5, this, List.take_length]

theorem Expands.length_le {hist lits : List Byte} {seqs : List Seq} {k l : Nat} {out : List Byte}
    (h : Expands hist lits seqs k l out) : l ≤ lits.length := by
  obtain ⟨_, out1, rest, t, h1, h2, h3, _, h5⟩ := h
  obtain ⟨hr, ht0, -⟩ := expandSeqs_counts h1
  rw [hr, List.length_drop] at h2 h3; omega

theorem Expands.trans {hist lits mid out : List Byte} {seqs : List Seq} {k1 l1 k2 l2 : Nat}
    (h1 : Expands hist lits seqs k1 l1 mid)
    (h2 : Expands mid (lits.drop l1) (seqs.drop k1) k2 l2 out) :
    Expands hist lits seqs (k1 + k2) (l1 + l2) out := by
  obtain ⟨a0, o1, r1, t1, a1, a2, a3, a4, a5⟩ := h1
  obtain ⟨c0, o2, r2, t2, c1, c2, c3, c4, c5⟩ := h2
  obtain ⟨hr1, hu1, -⟩ := expandSeqs_counts a1
  obtain ⟨hr2, hu2, -⟩ := expandSeqs_counts c1
  generalize sumLit (seqs.take k1) = u1 at hr1 hu1
  generalize sumLit ((seqs.drop k1).take k2) = u2 at hr2 hu2
  -- the lengths, as sums: `u` literals went into the sequences, `t` are trailing ones
  have e1 : r1.length + u1 = lits.length := by rw [hr1, List.length_drop]; omega
  have hl1 : l1 = u1 + t1 := by omega
  have e2 : (lits.drop l1).length + l1 = lits.length := by rw [List.length_drop]; omega
  have e3 : r2.length + u2 = (lits.drop l1).length := by rw [hr2, List.length_drop]; omega
  have hl2 : l2 = u2 + t2 := by omega
  have e4 : (seqs.drop k1).length + k1 = seqs.length := by rw [List.length_drop]; omega
  have hdrop : lits.drop l1 = r1.drop t1 := by rw [hr1, List.drop_drop, hl1]
  clear a2 c2 hu1 hu2 hr2
  refine ⟨by omega, ?_⟩
  rcases a4 with a4 | a4
  · -- no trailing literals were consumed in the first part
    subst a4
    rw [List.take_zero, List.append_nil] at a5
    subst a5
    rw [List.drop_zero] at hdrop
    refine ⟨o2, r2, t2, ?_, by omega, c3, by omega, c5⟩
    rw [List.take_add, expandSeqs_append, a1, ← hdrop]
    exact c1
  · -- all sequences were done in the first part
    have hk2 : k2 = 0 := by omega
    subst hk2
    simp only [List.take_zero, expandSeqs, Option.some.injEq, Prod.mk.injEq] at c1
    obtain ⟨rfl, rfl⟩ := c1
    refine ⟨o1, r1, t1 + t2, by simpa using a1, by omega, by omega, Or.inr (by omega), ?_⟩
    rw [c5, a5, hdrop, List.take_add, List.append_assoc]

theorem Expands.of_expand {hist lits out : List Byte} {seqs : List Seq}
    (h : expand hist ⟨seqs, lits⟩ = some out) : Expands hist lits seqs seqs.length lits.length out := by
  unfold expand at h
  dsimp only at h
  split at h
  · rename_i o r hes
    obtain ⟨hr0, ht0, -⟩ := expandSeqs_counts hes
    refine ⟨Nat.le_refl _, o, r, r.length, by rw [List.take_length]; exact hes, ?_, Nat.le_refl _,
      Or.inr rfl, ?_⟩
    · rw [hr0, List.length_drop]; omega
    · rw [List.take_length]; simpa using h.symm
  · simp at h


theorem Expands.prefix {hist lits out : List Byte} {seqs : List Seq} {k l : Nat} (pre : List Byte)
    (h : Expands hist lits seqs k l out) : Expands (pre ++ hist) lits seqs k l (pre ++ out) := by
  obtain ⟨a0, o1, r1, t1, a1, a2, a3, a4, a5⟩ := h
  exact ⟨a0, pre ++ o1, r1, t1, expandSeqs_append_left pre a1, a2, a3, a4,
    by rw [a5, List.append_assoc]⟩

theorem Expands.lits_only (mid lits : List Byte) (m : Nat) (h : m ≤ lits.length) :
    Expands mid lits [] 0 m (mid ++ lits.take m) :=
  ⟨Nat.le_refl _, mid, lits, m, by simp [expandSeqs], by simp, h, Or.inr rfl, rfl⟩


theorem Expands.prefix_full {hist lits out full : List Byte} {seqs : List Seq} {k l : Nat}
    (h : Expands hist lits seqs k l out) (hf : expand hist ⟨seqs, lits⟩ = some full) :
    ∃ t, out ++ t = full := by
  obtain ⟨a0, o1, r1, t1, a1, a2, a3, a4, a5⟩ := h
  unfold expand at hf
  dsimp only at hf
  split at hf
  · rename_i o r hes
    have hfull : full = o ++ r := by simpa using hf.symm
    rw [← List.take_append_drop k seqs, expandSeqs_append, a1] at hes
    dsimp only at hes
    rcases a4 with a4 | a4
    · subst a4
      obtain ⟨x, hx⟩ := expandSeqs_prefix hes
      exact ⟨x ++ r, by rw [a5, hfull, ← hx]; simp⟩
    · subst a4
      rw [List.drop_length] at hes
      simp only [expandSeqs, Option.some.injEq, Prod.mk.injEq] at hes
      obtain ⟨h1, h2⟩ := hes
      subst h1 h2
      exact ⟨r1.drop t1, by rw [a5, hfull, List.append_assoc, List.take_append_drop]⟩
  · simp at hf


namespace DecBuf

/-! ## `WriteBlock` of the buffer -/

/-- errors a `DecoderBuffer` operation can produce -/
def BufErr (e : Err) : Prop :=
  e = .ok ∨ e = .full ∨ e = .litLen ∨ e = .offset ∨ e = .matchLen

theorem SeqFail.bufErr {b' : DecBuf} {w' lits' : List Byte} {s : Seq} {e : Err}
    (h : SeqFail b' w' lits' s e) : BufErr e := by
  rcases h with ⟨rfl, _⟩ | ⟨rfl, _⟩ | ⟨rfl, _⟩ | ⟨rfl, _⟩ <;> simp [BufErr]

/-- `WriteBlock(blk)` from `b` to `b'` with the results `n`, `k`, `l`, `e`: a step that appends `x`, `n = len(x)` bytes;
    `x` is the reference expansion over the window of the `k` sequences and `l` literal bytes reported. -/
structure BlockStep (b : DecBuf) (blk : Block) (b' : DecBuf) (n : Int) (k l : Nat) (e : Err) (x : List Byte) :
    Prop where
  step : Step b b' x
  n_eq : n = (x.length : Int)
  expands : Expands b.data blk.lits blk.seqs k l (b.data ++ x)
  err : BufErr e
  k_le : k ≤ blk.seqs.length
  l_le : l ≤ blk.lits.length
  all : e = .ok → k = blk.seqs.length ∧ l = blk.lits.length
  /-- `ErrFullBuffer` on a buffer with everything delivered: only after a sequence was consumed, or for the
      trailing literals -/
  progress : e = .full → b.r = b.data.length → 0 < k ∨ k = blk.seqs.length
  nil : e ≠ .ok → k = 0 → x = []

theorem writeBlock_run (g : Grow) {b : DecBuf} (h : Inv b) (blk : Block) {b' : DecBuf} {n : Int}
    {k l : Nat} {e : Err} (hr : b.writeBlock g blk = (b', n, k, l, e)) : ∃ x, BlockStep b blk b' n k l e x := by
  have hws : b'.ws = b.ws := by have := writeBlock_ws g b blk; rwa [hr] at this
  have hbs : b.bs ≤ b'.bs := by have := (stable_bs_ge g b.bs).writeBlock b blk (Nat.le_refl _); rwa [hr] at this
  generalize hsl : seqLoop g b blk.seqs blk.lits 0 0 = sl
  obtain ⟨b1, k1, lits1, dl1, e1⟩ := sl
  obtain ⟨j, w', hj, e2, e3, e4, e5, -, e7, e8, e9, e10, -⟩ :=
    seqLoop_spec g blk.seqs b b.data b.r blk.lits 0 0 _ _ _ _ _ (AbsD.self h) hsl
  rw [Nat.zero_add] at hj; subst hj
  obtain ⟨x, rfl⟩ := expandSeqs_prefix e3
  have hl1 : lits1.length ≤ blk.lits.length := by rw [(expandSeqs_counts e3).1, List.length_drop]; omega
  have hx0 : k1 = 0 → x = [] := fun hk0 => by
    rw [hk0, List.take_zero, expandSeqs, Option.some.injEq, Prod.mk.injEq] at e3
    exact List.self_eq_append_right.mp e3.1
  rw [List.length_append] at e7
  rw [writeBlock_def g b blk hsl] at hr
  by_cases he : e1 = .ok
  · subst he
    rw [if_neg (not_not_intro rfl)] at hr
    have hk := e8 rfl
    have hs := e4.roomFor lits1.length
    have hso := roomFor_off b1 lits1.length
    have hlen := roomFor_len b1 lits1.length
    split at hr
    · -- the trailing literals do not fit
      cases hr
      exact ⟨x, hs.step h hws hbs (by omega), by omega,
        ⟨e2, _, lits1, 0, e3, by omega, Nat.zero_le _, Or.inl rfl, by simp⟩,
        Or.inr (Or.inl rfl), e2, by omega, nofun, fun _ _ => Or.inr hk, fun _ => hx0⟩
    · rename_i hn
      cases hr
      have hap := hs.append g lits1 (by omega)
      rw [List.append_assoc] at hap
      refine ⟨x ++ lits1, hap.step h hws hbs ?_, ?_,
        ⟨e2, _, lits1, lits1.length, e3, by simp only [List.length_nil]; omega, Nat.le_refl _, Or.inr hk,
          by rw [List.take_length, List.append_assoc]⟩,
        Or.inl rfl, e2, by omega, fun _ => ⟨hk, by simp⟩, nofun, fun hh => absurd rfl hh⟩
      · simp only [append_data, append_off, List.length_append]; omega
      · rw [append_data, List.length_append, List.length_append]; omega
  · -- the sequence loop stopped with an error
    rw [if_pos he] at hr
    cases hr
    obtain ⟨hj, hsf⟩ := e9 he
    exact ⟨x, e4.step h hws hbs (by omega), by omega,
      ⟨e2, _, lits1, 0, e3, by omega, Nat.zero_le _, Or.inl rfl, by simp⟩,
      hsf.bufErr, e2, by omega, fun hh => absurd hh he, fun hf hfl => Or.inl (e10 hf hfl), fun _ => hx0⟩

end DecBuf

open DecBuf

/-! # decoder level: buffer and writer -/

/-- errors that stem from the destination writer -/
def WErr (e : Err) : Prop := e = .shortWrite ∨ ∃ c, e = .writer c

theorem hangErr_not_BufErr {e : Err} (h : BufErr e) : e ≠ hangErr := by
  unfold BufErr at h; unfold hangErr
  rcases h with h | h | h | h | h <;> simp [h]

theorem hangErr_not_WErr {e : Err} (h : WErr e) : e ≠ hangErr := by
  unfold WErr at h; unfold hangErr
  rcases h with h | ⟨c, h⟩ <;> simp [h]

/-- `used` are the scripted responses consumed between two writer states; every error code
    among them is the error `e` that the operation returned -/
def Surfaced (rs rs' : List (Nat × Nat)) (e : Err) : Prop :=
  ∃ used, rs = used ++ rs' ∧ ∀ r ∈ used, r.2 ≠ 0 → e = .writer r.2

theorem Surfaced.refl (rs : List (Nat × Nat)) (e : Err) : Surfaced rs rs e :=
  ⟨[], by simp, by simp⟩

theorem Surfaced.trans {rs rs' rs'' : List (Nat × Nat)} {e : Err}
    (h1 : Surfaced rs rs' .ok) (h2 : Surfaced rs' rs'' e) : Surfaced rs rs'' e := by
  obtain ⟨u1, a1, b1⟩ := h1
  obtain ⟨u2, a2, b2⟩ := h2
  refine ⟨u1 ++ u2, by rw [a1, a2, List.append_assoc], ?_⟩
  intro r hr hne
  rcases List.mem_append.mp hr with hr | hr
  · have := b1 r hr hne; simp at this
  · exact b2 r hr hne


theorem Surfaced.length_le {rs rs' : List (Nat × Nat)} {e : Err} (h : Surfaced rs rs' e) :
    rs'.length ≤ rs.length := by
  obtain ⟨u, hu, _⟩ := h
  rw [hu, List.length_append]; omega

theorem BufErr.not_WErr {e : Err} (h : BufErr e) : ¬ WErr e := by
  unfold BufErr at h; unfold WErr
  rcases h with h | h | h | h | h <;> simp [h]

theorem WErr.ne_ok {e : Err} (h : WErr e) : e ≠ .ok := by
  unfold WErr at h
  rcases h with h | ⟨c, h⟩ <;> simp [h]

namespace Decoder

/-- everything the decoder has taken responsibility for: what the writer accepted plus what is
    still waiting in the buffer -/
def log (d : Decoder) : List Byte := d.w.got ++ d.buf.pending

theorem writer_write_spec (w : Writer) (p : List Byte) :
    (w.write p).2.1 ≤ p.length ∧
    (w.write p).1.got = w.got ++ p.take (w.write p).2.1 ∧
    ((w.write p).2.2 = .ok ∨ ∃ c, (w.write p).2.2 = .writer c) ∧
    Surfaced w.resps (w.write p).1.resps (w.write p).2.2 ∧
    (w.write p).1.resps.length ≤ w.resps.length ∧
    (((w.write p).2.2 ≠ .ok ∨ (w.write p).2.1 < p.length) →
       (w.write p).1.resps.length < w.resps.length) := by
  unfold Writer.write
  split
  · rename_i hr
    simp [hr, Surfaced.refl]
  · rename_i mx e rest hr
    simp only [hr]
    refine ⟨Nat.min_le_right _ _, trivial, ?_, ⟨[(mx, e)], by simp, ?_⟩, by simp, by simp⟩
    · by_cases he : e = 0 <;> simp [he]
    · intro r hr hne
      simp at hr
      subst hr
      simp at hne
      simp [hne]

/-- `WriteTo` from `d` to `d2`: the writer took `k` of the pending bytes and returned `e`; also when it fails or writes
    short the bytes it took are exactly those by which `R` advances -/
structure Flushed (d d2 : Decoder) (k : Nat) (e : Err) : Prop where
  inv : DecBuf.Inv d2.buf
  ws : d2.buf.ws = d.buf.ws
  bs : d2.buf.bs = d.buf.bs
  k_le : k ≤ d.buf.pending.length
  r : d2.buf.r = d.buf.r + k
  data : d2.buf.data = d.buf.data
  got : d2.w.got = d.w.got ++ d.buf.pending.take k
  pending : d2.buf.pending = d.buf.pending.drop k
  err : e = .ok ∨ WErr e
  all : e = .ok → k = d.buf.pending.length
  surfaced : Surfaced d.w.resps d2.w.resps e
  fault : e ≠ .ok → d2.w.resps.length < d.w.resps.length

theorem flushed {d d2 : Decoder} {k : Nat} {e : Err} (h : DecBuf.Inv d.buf) (hw : d.writeTo = (d2, k, e)) :
    Flushed d d2 k e := by
  obtain ⟨w1, w2, w3, w4, w5, w6⟩ := writer_write_spec d.w (d.buf.data.drop d.buf.r)
  generalize hres : d.w.write (List.drop d.buf.r d.buf.data) = res at w1 w2 w3 w4 w5 w6
  obtain ⟨w', k', e'⟩ := res
  simp only [writeTo, hres, Prod.mk.injEq] at w1 w2 w3 w4 w5 w6 hw
  obtain ⟨rfl, rfl, rfl⟩ := hw
  have hk : k' ≤ d.buf.data.length - d.buf.r := by simpa using w1
  have hinv : DecBuf.Inv { d.buf with r := d.buf.r + k' } := by unfold DecBuf.Inv at *; simp only; omega
  -- a short write without error code is reported as `io.ErrShortWrite`
  by_cases hc : e' = .ok ∧ k' < (List.drop d.buf.r d.buf.data).length
  · rw [if_pos hc]
    obtain ⟨u, a, b⟩ := w4
    exact ⟨hinv, rfl, rfl, w1, rfl, rfl, w2, List.drop_drop.symm, Or.inr (Or.inl rfl), nofun,
      ⟨u, a, fun r hr hne => by have := b r hr hne; simp [hc.1] at this⟩, fun _ => w6 (Or.inr hc.2)⟩
  · rw [if_neg hc]
    refine ⟨hinv, rfl, rfl, w1, rfl, rfl, w2, List.drop_drop.symm,
      w3.imp id fun ⟨c, h⟩ => Or.inr ⟨c, h⟩, fun he => ?_, w4, fun he => w6 (Or.inl he)⟩
    simp only [he, true_and] at hc
    show k' = (List.drop d.buf.r d.buf.data).length
    omega

theorem writeTo_flushed (d : Decoder) (h : Inv d.buf) : Flushed d d.writeTo.1 d.writeTo.2.1 d.writeTo.2.2 :=
  flushed h rfl

theorem Flushed.log {d d2 : Decoder} {k : Nat} {e : Err} (h : Flushed d d2 k e) : d2.log = d.log := by
  unfold Decoder.log
  rw [h.got, h.pending, List.append_assoc, List.take_append_drop]

/-- a `WriteTo` that returns `nil` leaves nothing pending -/
theorem Flushed.pending_nil {d d2 : Decoder} {k : Nat} {e : Err} (h : Flushed d d2 k e) (he : e = .ok) :
    d2.buf.pending = [] := by
  rw [h.pending, h.all he, List.drop_length]

theorem Flushed.ok_flushed {d d2 : Decoder} {k : Nat} (h : Flushed d d2 k .ok) : d2.buf.r = d2.buf.data.length := by
  have : (d2.buf.data.drop d2.buf.r).length = 0 := congrArg List.length (h.pending_nil rfl)
  rw [List.length_drop] at this
  have := h.inv.1
  omega

theorem unflushed_eq (d : Decoder) : d.unflushed = d.buf.pending.length := by
  simp [unflushed, pending]

theorem log_ext {d : Decoder} {b' : DecBuf} {x : List Byte} (hr : d.buf.r ≤ d.buf.data.length)
    (he : Ext d.buf b' x) : ({ d with buf := b' } : Decoder).log = d.log ++ x := by
  simp only [log, he.pending hr, List.append_assoc]

/-- A successful flush of a buffer that had undelivered bytes makes progress: the branch in which
    the Go loops would spin is not taken. -/
theorem flush_progress {d d1 d2 : Decoder} {f : Nat} (h : DecBuf.Inv d.buf) (h1 : DecBuf.Inv d1.buf)
    (hp : d1.buf.pending = d.buf.pending) (hr : d.buf.r ≠ d.buf.data.length)
    (hw : d1.writeTo = (d2, f, .ok)) : f > 0 ∧ d2.unflushed < d.unflushed := by
  have t := flushed h1 hw
  have hf := t.all rfl
  have t8 := t.pending
  have hpl : d.buf.pending.length ≠ 0 := by
    unfold pending; rw [List.length_drop]; unfold DecBuf.Inv at h; omega
  rw [unflushed_eq, unflushed_eq, t8, List.length_drop, hf, hp]
  omega

/-! ## the retry loops -/

/-- a buffer operation inside a loop: from `d.buf` to `b'`, appending `x`, counting it in `Off` and keeping
    the window -/
def BufStep (d : Decoder) (b' : DecBuf) (x : List Byte) : Prop := DecBuf.Step d.buf b' x

/-- Induction along the loop of `Decoder.WriteByte` from a state satisfying the invariant: the byte
    fits; or the buffer is full and the flush fails; or the flush succeeds and the loop starts
    again.  The spinning branch does not occur. -/
theorem writeByte_ind (g : Grow) (c : Byte) {motive : Decoder → Decoder × Err → Prop}
    (fits : ∀ d b', DecBuf.Inv d.buf → d.buf.writeByte g c = (b', .ok) → BufStep d b' [c] →
      motive d ({ d with buf := b' }, .ok))
    (fault : ∀ d b' d2 f e2, DecBuf.Inv d.buf → d.buf.writeByte g c = (b', .full) → BufStep d b' [] →
      ({ d with buf := b' } : Decoder).writeTo = (d2, f, e2) → e2 ≠ .ok → motive d (d2, e2))
    (retry : ∀ d b' d2 f r, DecBuf.Inv d.buf → d.buf.writeByte g c = (b', .full) → BufStep d b' [] →
      ({ d with buf := b' } : Decoder).writeTo = (d2, f, .ok) → d2.unflushed < d.unflushed →
      motive d2 r → motive d r)
    (d : Decoder) (h : DecBuf.Inv d.buf) : motive d (d.writeByte g c) := by
  fun_induction Decoder.writeByte g d c with
  | case1 d b e hb d1 hne =>
    rcases writeByte_run g h c hb with ⟨rfl, hs⟩ | ⟨rfl, _⟩
    · exact fits d b h hb hs
    · exact absurd rfl hne
  | case2 d b e hb d1 hfull d2 k e2 hw hne =>
    cases Decidable.not_not.mp hfull
    obtain ⟨-, hs, -⟩ := (writeByte_run g h c hb).resolve_left fun h0 => nomatch h0.1
    exact fault d b d2 k e2 h hb hs hw hne
  | case3 d b e hb d1 hfull d2 k e2 hw hok hprog ih =>
    cases Decidable.not_not.mp hfull
    cases Decidable.not_not.mp hok
    obtain ⟨-, hs, -⟩ := (writeByte_run g h c hb).resolve_left fun h0 => nomatch h0.1
    exact retry d b d2 k _ h hb hs hw hprog.2 (ih (flushed hs.inv hw).inv)
  | case4 d b e hb d1 hfull d2 k e2 hw hok hprog =>
    cases Decidable.not_not.mp hfull
    cases Decidable.not_not.mp hok
    obtain ⟨-, hs, hr⟩ := (writeByte_run g h c hb).resolve_left fun h0 => nomatch h0.1
    exact absurd (flush_progress h hs.inv (by simpa using hs.ext.pending h.1) hr hw) hprog

theorem take_chunk (p : List Byte) (m : Nat) : (if p.length > m then p.take m else p) = p.take m := by
  split
  · rfl
  · rw [List.take_of_length_le (by omega)]

/-- Induction along the loop of `Decoder.Write` from a state satisfying the invariant.  Each turn
    offers the chunk `q = p[:BufferSize-WindowSize]` to the buffer: it is taken whole and the loop
    goes on with the rest; or the buffer is full (then not everything was delivered) and the flush
    fails; or the flush succeeds and the same `p` is tried again.  The two spinning branches do not
    occur. -/
theorem write_ind (g : Grow) {motive : Decoder → List Byte → Nat → Decoder × Nat × Err → Prop}
    (done : ∀ d acc, DecBuf.Inv d.buf → motive d [] acc (d, acc, .ok))
    (chunk : ∀ d p acc q b' r, DecBuf.Inv d.buf → q = p.take (d.buf.bs - d.buf.ws) → q ≠ [] →
      d.buf.write g q = (b', q.length, .ok) → BufStep d b' q →
      motive { d with buf := b' } (p.drop q.length) (acc + q.length) r → motive d p acc r)
    (fault : ∀ d p acc q b' d2 f e2, DecBuf.Inv d.buf → p ≠ [] → q = p.take (d.buf.bs - d.buf.ws) →
      d.buf.write g q = (b', 0, .full) → BufStep d b' [] → d.buf.r ≠ d.buf.data.length →
      ({ d with buf := b' } : Decoder).writeTo = (d2, f, e2) → e2 ≠ .ok → motive d p acc (d2, acc, e2))
    (retry : ∀ d p acc q b' d2 f r, DecBuf.Inv d.buf → p ≠ [] → q = p.take (d.buf.bs - d.buf.ws) →
      d.buf.write g q = (b', 0, .full) → BufStep d b' [] → d.buf.r ≠ d.buf.data.length →
      ({ d with buf := b' } : Decoder).writeTo = (d2, f, .ok) → motive d2 p acc r → motive d p acc r)
    (d : Decoder) (p : List Byte) (acc : Nat) (h : DecBuf.Inv d.buf) :
    motive d p acc (d.write g p acc) := by
  -- a chunk refused by a buffer with everything delivered would be longer than `bs - ws`
  have full : ∀ {d : Decoder} {p q : List Byte} {b' : DecBuf} {k : Nat}, DecBuf.Inv d.buf →
      q = p.take (d.buf.bs - d.buf.ws) → d.buf.write g q = (b', k, .full) →
      k = 0 ∧ BufStep d b' [] ∧ d.buf.r ≠ d.buf.data.length := by
    intro d p q b' k h hq hb
    obtain ⟨-, rfl, hs, he⟩ := (write_run g h _ hb).resolve_left fun h0 => nomatch h0.1
    exact ⟨rfl, hs, fun hr => he ⟨hr, by rw [hq, List.length_take]; exact Nat.min_le_left _ _⟩⟩
  fun_induction Decoder.write g d p acc with
  | case1 d p acc hp =>
    cases List.eq_nil_of_length_eq_zero hp
    exact done d acc h
  | case2 d p acc hp m q b k d1 hk hb ih =>
    obtain ⟨-, rfl, hs⟩ := (write_run g h _ hb).resolve_right fun h0 => nomatch h0.1
    exact chunk d p acc q b _ h (take_chunk p m) (List.ne_nil_of_length_pos hk.1) hb hs (ih hs.inv)
  | case3 d p acc hp m q b k d1 hk hb =>
    obtain ⟨-, he, -⟩ := (write_run g h _ hb).resolve_right fun h0 => nomatch h0.1
    have hq : q = p.take m := take_chunk p m
    have hk' : k = min m p.length := by rw [he, hq, List.length_take]
    have hm : 0 < m := Nat.sub_pos_of_lt h.2.1
    exact absurd ⟨by omega, by omega⟩ hk
  | case4 d p acc hp m q b k e hb d1 hne hnf =>
    rcases write_run g h _ hb with ⟨rfl, _⟩ | ⟨rfl, _⟩
    · exact absurd rfl hne
    · exact absurd rfl hnf
  | case5 d p acc hp m q b k e hb d1 hne hfull d2 f e2 hw hne2 =>
    cases Decidable.not_not.mp hfull
    obtain ⟨rfl, hs, hr⟩ := full h (take_chunk p m) hb
    exact fault d p acc q b d2 f e2 h (by intro h0; simp [h0] at hp) (take_chunk p m) hb hs hr hw hne2
  | case6 d p acc hp m q b k e hb d1 hne hfull d2 f e2 hw hok hprog ih =>
    cases Decidable.not_not.mp hfull
    cases Decidable.not_not.mp hok
    obtain ⟨rfl, hs, hr⟩ := full h (take_chunk p m) hb
    simp only [List.drop_zero, Nat.add_zero] at ih
    exact retry d p acc q b d2 f _ h (by intro h0; simp [h0] at hp) (take_chunk p m) hb hs hr hw
      (ih (flushed hs.inv hw).inv)
  | case7 d p acc hp m q b k e hb d1 hne hfull d2 f e2 hw hok hprog =>
    cases Decidable.not_not.mp hfull
    cases Decidable.not_not.mp hok
    obtain ⟨rfl, hs, hr⟩ := full h (take_chunk p m) hb
    exact absurd (flush_progress h hs.inv (by simpa using hs.ext.pending h.1) hr hw) hprog

/-! ## what every loop keeps -/

/-- `P` is kept by the two steps the loops of `Decoder` are made of: a buffer operation and
    `WriteTo`. -/
def StepClosed (P : Decoder → Prop) : Prop :=
  (∀ d b' x, DecBuf.Inv d.buf → BufStep d b' x → P d → P { d with buf := b' }) ∧
  (∀ d, DecBuf.Inv d.buf → P d → P d.writeTo.1)

/-! ## what every call does -/

/-- `d'` is reached from `d` by buffer operations and `WriteTo`s that appended `z` to the log: the invariant and the
    geometry are kept, the writer only receives more, and every step-closed property is carried over. -/
structure Reach (d d' : Decoder) (z : List Byte) : Prop where
  inv : DecBuf.Inv d'.buf
  ws : d'.buf.ws = d.buf.ws
  bs : d.buf.bs ≤ d'.buf.bs
  log : d'.log = d.log ++ z
  got : ∃ y, d'.w.got = d.w.got ++ y
  closed : ∀ P, StepClosed P → P d → P d'

theorem Reach.refl {d : Decoder} (h : DecBuf.Inv d.buf) : Reach d d [] :=
  ⟨h, rfl, Nat.le_refl _, (List.append_nil _).symm, ⟨[], (List.append_nil _).symm⟩, fun _ _ hd => hd⟩

theorem Reach.trans {d d1 d2 : Decoder} {x y z : List Byte} (h1 : Reach d d1 x) (h2 : Reach d1 d2 y)
    (hz : z = x ++ y) : Reach d d2 z := by
  obtain ⟨y1, hy1⟩ := h1.got
  obtain ⟨y2, hy2⟩ := h2.got
  exact ⟨h2.inv, h2.ws.trans h1.ws, Nat.le_trans h1.bs h2.bs, by rw [h2.log, h1.log, hz, List.append_assoc],
    ⟨y1 ++ y2, by rw [hy2, hy1, List.append_assoc]⟩, fun P hP hd => h2.closed P hP (h1.closed P hP hd)⟩

/-- a run does not lower the bound `BufferSize - WindowSize` -/
theorem Reach.room_le {d d' : Decoder} {z : List Byte} (r : Reach d d' z) :
    d.buf.bs - d.buf.ws ≤ d'.buf.bs - d'.buf.ws := by
  rw [r.ws]; exact Nat.sub_le_sub_right r.bs _

/-- One call, returning `e`: every error code among the writer's responses it used up is `e`, and a writer fault has
    used up a response. -/
structure Run (d d' : Decoder) (z : List Byte) (e : Err) : Prop extends Reach d d' z where
  surfaced : Surfaced d.w.resps d'.w.resps e
  fault : WErr e → d'.w.resps.length < d.w.resps.length

theorem Run.resps_le {d d' : Decoder} {z : List Byte} {e : Err} (h : Run d d' z e) :
    d'.w.resps.length ≤ d.w.resps.length := h.surfaced.length_le

theorem ok_not_WErr : ¬ WErr .ok := fun h => h.ne_ok rfl

/-- with a writer that has no scripted response left (it accepts everything) a call that is not refused returns `nil`:
    a writer error would have used up a response -/
theorem Run.ok_of_resps_nil {d d' : Decoder} {z : List Byte} {e : Err} (r : Run d d' z e) (hr : d.w.resps = [])
    (he : e = .ok ∨ WErr e) : e = .ok :=
  he.elim id fun hw => by
    have := r.fault hw
    rw [hr] at this
    simp at this

/-- a writer with no scripted response left (it accepts everything) stays one -/
theorem resps_nil_of_le {d d' : Decoder} (hr : d.w.resps = []) (h : d'.w.resps.length ≤ d.w.resps.length) :
    d'.w.resps = [] :=
  List.eq_nil_of_length_eq_zero (by rw [hr] at h; simpa using h)

theorem Run.refl {d : Decoder} {e : Err} (h : DecBuf.Inv d.buf) (he : ¬ WErr e) : Run d d [] e :=
  ⟨Reach.refl h, Surfaced.refl _ _, fun hw => absurd hw he⟩

theorem Run.buf {d : Decoder} {b' : DecBuf} {x : List Byte} {e : Err} (h : DecBuf.Inv d.buf) (hs : BufStep d b' x)
    (he : ¬ WErr e) : Run d { d with buf := b' } x e :=
  ⟨⟨hs.inv, hs.ext.ws, hs.ext.bs_le, log_ext h.1 hs.ext, ⟨[], (List.append_nil _).symm⟩, fun _ hP => hP.1 d b' x h hs⟩,
    Surfaced.refl _ _, fun hw => absurd hw he⟩

theorem Run.flush {d d2 : Decoder} {f : Nat} {e : Err} (h : DecBuf.Inv d.buf) (hw : d.writeTo = (d2, f, e)) :
    Run d d2 [] e := by
  have t := flushed h hw
  refine ⟨⟨t.inv, t.ws, Nat.le_of_eq t.bs.symm, by rw [t.log, List.append_nil], ⟨_, t.got⟩, fun _ hP hd => ?_⟩,
    t.surfaced, fun he => t.fault he.ne_ok⟩
  have := hP.2 d h hd
  rwa [hw] at this

theorem Run.trans {d d1 d2 : Decoder} {x y z : List Byte} {e : Err} (h1 : Run d d1 x .ok) (h2 : Run d1 d2 y e)
    (hz : z = x ++ y) : Run d d2 z e :=
  ⟨h1.toReach.trans h2.toReach hz, h1.surfaced.trans h2.surfaced,
    fun he => Nat.lt_of_lt_of_le (h2.fault he) h1.resps_le⟩

/-- a buffer operation that reported `ErrFullBuffer`, then `WriteTo`: the step all three loops retry on -/
theorem Run.bufFlush {d d2 : Decoder} {b' : DecBuf} {x : List Byte} {f : Nat} {e : Err} (h : DecBuf.Inv d.buf)
    (hs : BufStep d b' x) (hw : ({ d with buf := b' } : Decoder).writeTo = (d2, f, e)) : Run d d2 x e :=
  (Run.buf h hs ok_not_WErr).trans (Run.flush hs.inv hw) (List.append_nil x).symm

theorem writeTo_err {d d2 : Decoder} {f : Nat} {e : Err} (h : DecBuf.Inv d.buf) (hw : d.writeTo = (d2, f, e))
    (hne : e ≠ .ok) : WErr e := (flushed h hw).err.resolve_left hne

/-! ## postconditions of `WriteByte` and `Write` -/

/-- postcondition of `Decoder.WriteByte` (result `R`) -/
def WriteBytePost (c : Byte) (d : Decoder) (R : Decoder × Err) : Prop :=
  Run d R.1 (if R.2 = .ok then [c] else []) R.2 ∧ (R.2 = .ok ∨ WErr R.2)

theorem writeByte_spec (g : Grow) (d : Decoder) (c : Byte) (h : DecBuf.Inv d.buf) :
    WriteBytePost c d (d.writeByte g c) := by
  refine writeByte_ind g c (motive := WriteBytePost c) ?_ ?_ ?_ d h
  · intro d b' h _ hs
    exact ⟨Run.buf h hs ok_not_WErr, Or.inl rfl⟩
  · intro d b' d2 f e2 h _ hs hw hne
    refine ⟨?_, Or.inr (writeTo_err hs.inv hw hne)⟩
    show Run d d2 (if e2 = .ok then [c] else []) e2
    rw [if_neg hne]
    exact Run.bufFlush h hs hw
  · intro d b' d2 f r h _ hs hw _ ih
    exact ⟨(Run.bufFlush h hs hw).trans ih.1 (List.nil_append _).symm, ih.2⟩

theorem take_chunk_append (p : List Byte) (m n : Nat) :
    p.take m ++ (p.drop (p.take m).length).take n = p.take ((p.take m).length + n) := by
  rw [List.take_add, List.length_take]
  congr 1
  rcases Nat.le_total m p.length with hm | hm
  · rw [Nat.min_eq_left hm]
  · rw [Nat.min_eq_right hm, List.take_of_length_le hm, List.take_length]

/-- postcondition of `Decoder.Write` (result `R`, accumulator `acc`): `n` more bytes of `p` are in the log -/
def WritePost (d : Decoder) (p : List Byte) (acc : Nat) (R : Decoder × Nat × Err) : Prop :=
  (R.2.2 = .ok ∨ WErr R.2.2) ∧
  ∃ n, R.2.1 = acc + n ∧ n ≤ p.length ∧ Run d R.1 (p.take n) R.2.2 ∧ (R.2.2 = .ok → n = p.length)

theorem WritePost.run {d : Decoder} {p : List Byte} {acc : Nat} {R : Decoder × Nat × Err} (h : WritePost d p acc R) :
    ∃ z, Run d R.1 z R.2.2 := let ⟨_, _, _, _, r, _⟩ := h; ⟨_, r⟩

theorem write_spec (g : Grow) (d : Decoder) (p : List Byte) (acc : Nat) (h : DecBuf.Inv d.buf) :
    WritePost d p acc (d.write g p acc) := by
  refine write_ind g (motive := WritePost) ?_ ?_ ?_ ?_ d p acc h
  · intro d acc h
    exact ⟨Or.inl rfl, 0, rfl, Nat.le_refl _, Run.refl h ok_not_WErr, fun _ => rfl⟩
  · intro d p acc q b' r h hq _ _ hs ⟨i1, n, i2, i3, i4, i5⟩
    rw [List.length_drop] at i3 i5
    have hql : q.length ≤ p.length := by rw [hq, List.length_take]; exact Nat.min_le_right _ _
    refine ⟨i1, q.length + n, by omega, by omega, (Run.buf h hs ok_not_WErr).trans i4 ?_,
      fun he => by have := i5 he; omega⟩
    subst hq
    exact (take_chunk_append p _ n).symm
  · intro d p acc q b' d2 f e2 h _ _ _ hs _ hw hne2
    exact ⟨Or.inr (writeTo_err hs.inv hw hne2), 0, rfl, Nat.zero_le _, Run.bufFlush h hs hw,
      fun h0 => absurd h0 hne2⟩
  · intro d p acc q b' d2 f r h _ _ _ hs _ hw ⟨j1, n, j2, j3, j4, j5⟩
    exact ⟨j1, n, j2, j3, (Run.bufFlush h hs hw).trans j4 (List.nil_append _).symm, j5⟩

/-- the buffer content up to `R` is the tail of what the writer has received, i.e. the window
    `Data` is a suffix of the stream `log` -/
def Hist (d : Decoder) : Prop := ∃ pre, d.w.got = pre ++ d.buf.data.take d.buf.r

theorem Hist.log {d : Decoder} (h : Hist d) :
    ∃ pre, d.log = pre ++ d.buf.data := by
  obtain ⟨pre, hp⟩ := h
  exact ⟨pre, by rw [Decoder.log, hp, DecBuf.pending, List.append_assoc, List.take_append_drop]⟩

theorem Hist.ext {d : Decoder} {b' : DecBuf} {x : List Byte} (hr : d.buf.r ≤ d.buf.data.length)
    (he : Ext d.buf b' x) (h : Hist d) : Hist { buf := b', w := d.w } := by
  obtain ⟨pre, hp⟩ := h
  exact Ext.hist hr he hp

theorem Hist.writeTo {d : Decoder} (hi : DecBuf.Inv d.buf) (h : Hist d) : Hist d.writeTo.1 := by
  obtain ⟨pre, hp⟩ := h
  have t := writeTo_flushed d hi
  refine ⟨pre, ?_⟩
  rw [t.got, t.r, t.data, hp, List.take_add, List.append_assoc]
  rfl

theorem Hist.stepClosed : StepClosed Hist :=
  ⟨fun _ _ _ h hs hh => Hist.ext h.1 hs.ext hh, fun _ h hh => Hist.writeTo h hh⟩

/-! ## the retry loop of `WriteBlock` -/

/-- Induction along the loop of `Decoder.WriteBlock` from a state satisfying the invariant.  The
    buffer's `WriteBlock` (a `BlockStep` appending some `x`) does not report `ErrFullBuffer`: its result is
    returned; or all sequences are consumed and `Write` takes over the trailing literals; or the
    flush fails; or the flush succeeds and the loop goes on with the unconsumed rest of the block.
    The spinning branch does not occur. -/
theorem writeBlock_ind (g : Grow)
    {motive : Decoder → List Seq → List Byte → Int → Nat → Nat → Decoder × Int × Nat × Nat × Err → Prop}
    (direct : ∀ d seqs lits n k l b' nn kk ll e x, DecBuf.Inv d.buf →
      d.buf.writeBlock g ⟨seqs, lits⟩ = (b', nn, kk, ll, e) → BlockStep d.buf ⟨seqs, lits⟩ b' nn kk ll e x → e ≠ .full →
      motive d seqs lits n k l ({ d with buf := b' }, n + nn, k + kk, l + ll, e))
    (tail : ∀ d seqs lits n k l b' nn kk ll x d2 m e2, DecBuf.Inv d.buf →
      d.buf.writeBlock g ⟨seqs, lits⟩ = (b', nn, kk, ll, .full) → BlockStep d.buf ⟨seqs, lits⟩ b' nn kk ll .full x →
      kk = seqs.length →
      ({ d with buf := b' } : Decoder).write g (lits.drop ll) 0 = (d2, m, e2) →
      motive d seqs lits n k l (d2, n + nn + m, k + kk, l + ll + m, e2))
    (fault : ∀ d seqs lits n k l b' nn kk ll x d2 f e2, DecBuf.Inv d.buf →
      d.buf.writeBlock g ⟨seqs, lits⟩ = (b', nn, kk, ll, .full) → BlockStep d.buf ⟨seqs, lits⟩ b' nn kk ll .full x →
      kk < seqs.length →
      ({ d with buf := b' } : Decoder).writeTo = (d2, f, e2) → e2 ≠ .ok →
      motive d seqs lits n k l (d2, n + nn, k + kk, l + ll, e2))
    (retry : ∀ d seqs lits n k l b' nn kk ll x d2 f r, DecBuf.Inv d.buf →
      d.buf.writeBlock g ⟨seqs, lits⟩ = (b', nn, kk, ll, .full) → BlockStep d.buf ⟨seqs, lits⟩ b' nn kk ll .full x →
      kk < seqs.length →
      ({ d with buf := b' } : Decoder).writeTo = (d2, f, .ok) →
      motive d2 (seqs.drop kk) (lits.drop ll) (n + nn) (k + kk) (l + ll) r → motive d seqs lits n k l r)
    (d : Decoder) (seqs : List Seq) (lits : List Byte) (n : Int) (k l : Nat) (h : DecBuf.Inv d.buf) :
    motive d seqs lits n k l (d.writeBlock g seqs lits n k l) := by
  refine Decoder.writeBlock.induct g (motive := fun d seqs lits n k l =>
    DecBuf.Inv d.buf → motive d seqs lits n k l (d.writeBlock g seqs lits n k l))
    ?_ ?_ ?_ ?_ ?_ ?_ d seqs lits n k l h
  · intro d seqs lits n k l b nn kk ll e hb hne h
    rw [writeBlock]
    simp only [hb]
    rw [if_pos hne]
    obtain ⟨x, hs⟩ := writeBlock_run g h _ hb
    exact direct d seqs lits n k l b nn kk ll e x h hb hs hne
  · intro d seqs lits n k l b nn kk ll e hb d1 hfull seqs' lits' hs d2 m e2 hw h
    rw [writeBlock]
    simp only [hb]
    rw [if_neg hfull, dif_pos hs]
    cases Decidable.not_not.mp hfull
    obtain ⟨x, hst⟩ := writeBlock_run g h _ hb
    have hk : kk ≤ seqs.length := hst.k_le
    simp only [seqs', List.length_drop] at hs
    have hw' : ({ buf := b, w := d.w } : Decoder).write g (lits.drop ll) 0 = (d2, m, e2) := hw
    simp only [hw']
    exact tail d seqs lits n k l b nn kk ll x d2 m e2 h hb hst (by omega) hw
  · intro d seqs lits n k l b nn kk ll e hb d1 hfull seqs' hs d2 f e2 hw hne2 h
    rw [writeBlock]
    simp only [hb]
    rw [if_neg hfull, dif_neg hs]
    have hw' : ({ buf := b, w := d.w } : Decoder).writeTo = (d2, f, e2) := hw
    simp only [hw']
    rw [if_pos hne2]
    cases Decidable.not_not.mp hfull
    simp only [seqs', List.length_drop] at hs
    obtain ⟨x, hst⟩ := writeBlock_run g h _ hb
    exact fault d seqs lits n k l b nn kk ll x d2 f e2 h hb hst (by omega) hw hne2
  · intro d seqs lits n k l b nn kk ll e hb d1 n1 k1 l1 hfull seqs' lits' hs d2 f e2 hw hok hk ih h
    rw [writeBlock]
    simp only [hb]
    rw [if_neg hfull, dif_neg hs]
    have hw' : ({ buf := b, w := d.w } : Decoder).writeTo = (d2, f, e2) := hw
    simp only [hw']
    rw [if_neg hok, dif_pos hk]
    cases Decidable.not_not.mp hfull
    cases Decidable.not_not.mp hok
    simp only [seqs', List.length_drop] at hs
    obtain ⟨x, hst⟩ := writeBlock_run g h _ hb
    exact retry d seqs lits n k l b nn kk ll x d2 f _ h hb hst (by omega) hw
      (ih (flushed hst.step.inv hw).inv)
  · intro d seqs lits n k l b nn kk ll e hb d1 n1 k1 l1 hfull seqs' lits' hs d2 f e2 hw hok hk hf ih h
    rw [writeBlock]
    simp only [hb]
    rw [if_neg hfull, dif_neg hs]
    have hw' : ({ buf := b, w := d.w } : Decoder).writeTo = (d2, f, e2) := hw
    simp only [hw']
    rw [if_neg hok, dif_neg hk, dif_pos hf]
    cases Decidable.not_not.mp hfull
    cases Decidable.not_not.mp hok
    simp only [seqs', List.length_drop] at hs
    obtain ⟨x, hst⟩ := writeBlock_run g h _ hb
    exact retry d seqs lits n k l b nn kk ll x d2 f _ h hb hst (by omega) hw
      (ih (flushed hst.step.inv hw).inv)
  · intro d seqs lits n k l b nn kk ll e hb d1 hfull seqs' hs d2 f e2 hw hok hk hf h
    exfalso
    cases Decidable.not_not.mp hfull
    cases Decidable.not_not.mp hok
    simp only [seqs', List.length_drop] at hs
    obtain ⟨x, sx⟩ := writeBlock_run g h _ hb
    have hx : x = [] := sx.nil (by simp) (by omega)
    subst hx
    have hr : d.buf.r ≠ d.buf.data.length := fun hr => by
      have : 0 < kk ∨ kk = seqs.length := sx.progress rfl hr
      omega
    exact absurd (flush_progress h sx.step.inv (by simpa using sx.step.ext.pending h.1) hr hw) hf

/-- postcondition of `Decoder.WriteBlock` (result `R`, accumulators `n k l`): the error is a block error of the buffer
    (never its `ErrFullBuffer`) or the writer's; `kk` more sequences and `ll` more literal bytes are consumed, their
    reference expansion `z` is in the log -/
def WBPost (d : Decoder) (seqs : List Seq) (lits : List Byte) (n : Int) (k l : Nat)
    (R : Decoder × Int × Nat × Nat × Err) : Prop :=
  ((BufErr R.2.2.2.2 ∧ R.2.2.2.2 ≠ .full) ∨ WErr R.2.2.2.2) ∧
  ∃ kk ll z, Run d R.1 z R.2.2.2.2 ∧ R.2.2.1 = k + kk ∧ R.2.2.2.1 = l + ll ∧ R.2.1 = n + (z.length : Int) ∧
    kk ≤ seqs.length ∧ ll ≤ lits.length ∧
    (R.2.2.2.2 = .ok → kk = seqs.length ∧ ll = lits.length) ∧
    (Hist d → Expands d.log lits seqs kk ll (d.log ++ z))

theorem WBPost.run {d : Decoder} {seqs : List Seq} {lits : List Byte} {n : Int} {k l : Nat}
    {R : Decoder × Int × Nat × Nat × Err} (h : WBPost d seqs lits n k l R) : ∃ z, Run d R.1 z R.2.2.2.2 :=
  let ⟨_, _, _, _, r, _⟩ := h; ⟨_, r⟩

/-- the bytes a `WriteBlock` of the buffer appends, seen on the log -/
theorem expands_log {d : Decoder} (hh : Hist d) {seqs : List Seq} {lits x : List Byte} {b' : DecBuf} {nn : Int}
    {kk ll : Nat} {e : Err} (hs : BlockStep d.buf ⟨seqs, lits⟩ b' nn kk ll e x) :
    Expands d.log lits seqs kk ll (d.log ++ x) := by
  obtain ⟨pre, hp⟩ := Hist.log hh
  rw [hp, List.append_assoc]
  exact hs.expands.prefix pre

theorem writeBlock_post (g : Grow) (d : Decoder) (seqs : List Seq) (lits : List Byte)
    (n : Int) (k l : Nat) (h : DecBuf.Inv d.buf) :
    WBPost d seqs lits n k l (d.writeBlock g seqs lits n k l) := by
  refine writeBlock_ind g (motive := WBPost) ?_ ?_ ?_ ?_ d seqs lits n k l h
  · intro d seqs lits n k l b' nn kk ll e x h _ hs hne
    exact ⟨Or.inl ⟨hs.err, hne⟩, kk, ll, x, Run.buf h hs.step (BufErr.not_WErr hs.err), rfl, rfl, by rw [hs.n_eq], hs.k_le,
      hs.l_le, hs.all, fun hh => expands_log hh hs⟩
  · -- only the trailing literals remain: `Decoder.Write` takes over
    intro d seqs lits n k l b' nn kk ll x d2 m e2 h _ hs hkk hw
    have s6 : ll ≤ lits.length := hs.l_le
    have hsp := write_spec g { d with buf := b' } (lits.drop ll) 0 hs.step.inv
    rw [hw] at hsp
    obtain ⟨w1, m', w2, w3, w4, w5⟩ := hsp
    dsimp only at w1 w2 w4 w5
    rw [List.length_drop] at w3 w5
    rw [Nat.zero_add] at w2
    cases (w2 : m = m')
    unfold WBPost
    dsimp only
    refine ⟨w1.imp (fun h0 => ⟨Or.inl h0, by rw [h0]; nofun⟩) id, kk, ll + m, x ++ (lits.drop ll).take m,
      (Run.buf h hs.step ok_not_WErr).trans w4 rfl, rfl, by omega, ?_, Nat.le_of_eq hkk, by omega,
      fun he => ⟨hkk, by have := w5 he; omega⟩, fun hh => ?_⟩
    · rw [hs.n_eq, List.length_append, List.length_take, List.length_drop, Nat.min_eq_left w3]
      omega
    · have e2' : Expands (d.log ++ x) (lits.drop ll) (seqs.drop kk) 0 m
          (d.log ++ x ++ (lits.drop ll).take m) := by
        rw [hkk, List.drop_length]
        exact Expands.lits_only _ _ _ (by rw [List.length_drop]; exact w3)
      have := Expands.trans (expands_log hh hs) e2'
      rwa [Nat.add_zero, List.append_assoc] at this
  · -- the writer failed
    intro d seqs lits n k l b' nn kk ll x d2 f e2 h _ hs _ hw hne2
    exact ⟨Or.inr (writeTo_err hs.step.inv hw hne2), kk, ll, x, Run.bufFlush h hs.step hw, rfl, rfl, by rw [hs.n_eq],
      hs.k_le, hs.l_le, fun he => absurd he hne2, fun hh => expands_log hh hs⟩
  · -- flushed: the rest of the block is retried
    intro d seqs lits n k l b' nn kk ll x d2 f r h _ hs _ hw ⟨i1, kk2, ll2, z2, j0, j1, j2, j3, j4, j5, j6, j8⟩
    have s5 : kk ≤ seqs.length := hs.k_le
    have s6 : ll ≤ lits.length := hs.l_le
    have hrun := Run.bufFlush h hs.step hw
    simp only [List.length_drop] at j4 j5 j6
    refine ⟨i1, kk + kk2, ll + ll2, x ++ z2, hrun.trans j0 rfl, by omega, by omega, ?_, by omega, by omega,
      fun he => by have := j6 he; omega, fun hh => ?_⟩
    · rw [j3, hs.n_eq, List.length_append]; omega
    · have e2' := j8 (hrun.closed _ Hist.stepClosed hh)
      rw [hrun.log] at e2'
      have := Expands.trans (expands_log hh hs) e2'
      rwa [List.append_assoc] at this

/-- Each of the four calls is a `Run`: what holds after every run holds after `WriteByte`, `Write`, `WriteBlock` and
    `Flush`. -/
theorem every_call (g : Grow) {d : Decoder} (h : DecBuf.Inv d.buf) {Q : Decoder → Err → Prop}
    (hQ : ∀ {d' z e}, Run d d' z e → Q d' e) :
    (∀ c, Q (d.writeByte g c).1 (d.writeByte g c).2) ∧ (∀ p, Q (d.write g p 0).1 (d.write g p 0).2.2) ∧
    (∀ seqs lits, Q (d.writeBlock g seqs lits 0 0 0).1 (d.writeBlock g seqs lits 0 0 0).2.2.2.2) ∧
    Q d.flush.1 d.flush.2 :=
  ⟨fun c => hQ (writeByte_spec g d c h).1, fun p => (write_spec g d p 0 h).run.elim fun _ => hQ,
   fun seqs lits => (writeBlock_post g d seqs lits 0 0 0 h).run.elim fun _ => hQ, hQ (Run.flush h rfl)⟩

/-! ## the caller's retry protocols -/

/-- the caller's retry protocol for `Write`: submit `p`; after a writer fault re-submit the
    unconsumed remainder `p[n:]`; when everything is accepted, `Flush` until it succeeds.
    `fuel` bounds the number of attempts. -/
def retryWrite (g : Grow) : Nat → Decoder → List Byte → Option Decoder
  | 0, _, _ => none
  | fuel + 1, d, p =>
    let r := d.write g p 0
    if r.2.2 ≠ .ok then retryWrite g fuel r.1 (p.drop r.2.1)
    else
      let f := r.1.flush
      if f.2 = .ok then some f.1 else retryWrite g fuel f.1 []

theorem retryWrite_spec (g : Grow) : ∀ (fuel : Nat) (d : Decoder) (p : List Byte),
    DecBuf.Inv d.buf → d.w.resps.length < fuel →
    ∃ d', retryWrite g fuel d p = some d' ∧ Reach d d' p ∧ d'.buf.pending = [] := by
  intro fuel
  induction fuel with
  | zero => intro d p _ h; omega
  | succ fuel ih =>
    intro d p h hf
    obtain ⟨w1, m, w2, w3, w4, w5⟩ := write_spec g d p 0 h
    rw [retryWrite]
    generalize d.write g p 0 = W at *
    obtain ⟨d1, n, e⟩ := W
    simp only at w1 w2 w3 w4 w5 ⊢
    rw [Nat.zero_add] at w2
    subst w2
    have hle := w4.resps_le
    split
    · rename_i hne
      have := w4.fault (w1.resolve_left hne)
      obtain ⟨d', i1, i2, i3⟩ := ih d1 (p.drop n) w4.inv (by omega)
      exact ⟨d', i1, w4.toReach.trans i2 (List.take_append_drop n p).symm, i3⟩
    · rename_i hok
      have hm := w5 (Decidable.not_not.mp hok)
      subst hm
      rw [List.take_length] at w4
      unfold flush
      rcases hF : d1.writeTo with ⟨d2, f, e2⟩
      have t := Run.flush w4.inv hF
      simp only
      split
      · rename_i hok2
        exact ⟨d2, rfl, w4.toReach.trans t.toReach (List.append_nil p).symm, (flushed w4.inv hF).pending_nil hok2⟩
      · rename_i hne2
        have := t.fault (writeTo_err w4.inv hF hne2)
        obtain ⟨d', i1, i2, i3⟩ := ih d2 [] t.inv (by omega)
        exact ⟨d', i1, (w4.toReach.trans t.toReach (List.append_nil p).symm).trans i2 (List.append_nil p).symm, i3⟩

/-- errors caused by the destination writer (`io.ErrShortWrite` or the writer's own error) -/
def isWriterFault : Err → Bool
  | .shortWrite => true
  | .writer _ => true
  | _ => false

theorem isWriterFault_iff (e : Err) : isWriterFault e = true ↔ WErr e := by
  unfold WErr
  cases e <;> simp [isWriterFault]

/-- the caller's retry protocol for `WriteBlock`: after a writer fault re-submit the unconsumed
    remainder `(seqs[k:], lits[l:])`; after success `Flush` until it succeeds (`retryWrite … []`);
    any other error is fatal and returned.  `none` = out of fuel. -/
def retryBlock (g : Grow) : Nat → Decoder → List Seq → List Byte → Option (Decoder × Err)
  | 0, _, _, _ => none
  | fuel + 1, d, seqs, lits =>
    let r := d.writeBlock g seqs lits 0 0 0
    if r.2.2.2.2 = .ok then (retryWrite g (r.1.w.resps.length + 1) r.1 []).map (·, Err.ok)
    else if isWriterFault r.2.2.2.2 then
      retryBlock g fuel r.1 (seqs.drop r.2.2.1) (lits.drop r.2.2.2.1)
    else some (r.1, r.2.2.2.2)

/-- The protocol always finishes: with one unit of fuel per scripted writer response (plus one) it ends in success or
    with an error of the buffer (bad block), never out of fuel.  On success nothing is pending and the log has grown by
    the reference expansion of the block. -/
theorem retryBlock_spec (g : Grow) : ∀ (fuel : Nat) (d : Decoder) (seqs : List Seq) (lits : List Byte),
    DecBuf.Inv d.buf → d.w.resps.length < fuel →
    ∃ d' e z, retryBlock g fuel d seqs lits = some (d', e) ∧ BufErr e ∧ Reach d d' z ∧
      (e = .ok → d'.buf.pending = [] ∧ (Hist d → expand d.log ⟨seqs, lits⟩ = some (d.log ++ z))) := by
  intro fuel
  induction fuel with
  | zero => intro d seqs lits _ h; omega
  | succ fuel ih =>
    intro d seqs lits h hf
    rw [retryBlock]
    obtain ⟨p4, kk, ll, z, q0, q1, q2, -, q4, q5, q6, q8⟩ := writeBlock_post g d seqs lits 0 0 0 h
    generalize d.writeBlock g seqs lits 0 0 0 = R at *
    obtain ⟨d1, n, k, l, e⟩ := R
    simp only at p4 q0 q1 q2 q6 ⊢
    rw [Nat.zero_add] at q1 q2
    subst q1 q2
    split
    · rename_i hok
      obtain ⟨d'', i1, i2, i3⟩ := retryWrite_spec g (d1.w.resps.length + 1) d1 [] q0.inv (by omega)
      refine ⟨d'', .ok, z, by rw [i1]; rfl, Or.inl rfl, q0.toReach.trans i2 (List.append_nil z).symm,
        fun _ => ⟨i3, fun hh => ?_⟩⟩
      obtain ⟨hk, hl⟩ := q6 hok
      subst hk hl
      exact (q8 hh).full
    · split
      · rename_i hne hw
        have := q0.fault ((isWriterFault_iff e).mp hw)
        obtain ⟨d', e', z', j1, j2, j3, j4⟩ := ih d1 (seqs.drop k) (lits.drop l) q0.inv (by omega)
        refine ⟨d', e', z ++ z', j1, j2, q0.toReach.trans j3 rfl, fun he => ⟨(j4 he).1, fun hh => ?_⟩⟩
        -- the remainder expands `d1.log`; compose with the first part
        have hsecond := Expands.of_expand ((j4 he).2 (q0.closed _ Hist.stepClosed hh))
        rw [q0.log] at hsecond
        have htot := Expands.trans (q8 hh) hsecond
        simp only [List.length_drop] at htot
        rw [show k + (seqs.length - k) = seqs.length by omega,
          show l + (lits.length - l) = lits.length by omega, List.append_assoc] at htot
        exact htot.full
      · rename_i hne hw
        refine ⟨d1, e, z, rfl, ?_, q0.toReach, fun he => absurd he hne⟩
        exact (p4.resolve_right fun p4 => hw ((isWriterFault_iff e).mpr p4)).1

end Decoder

/-! ## the decoder invariant -/

namespace Decoder

/-- The buffer represents (`DecBuf.Abs`) the decoder's log, of which exactly the bytes handed to the writer are
    delivered.  Established by `Init`/`Reset` with a fresh writer, kept by both steps of the loops. -/
def Good (d : Decoder) : Prop := Abs d.buf d.log d.w.got.length

theorem Good.inv {d : Decoder} (h : Good d) : DecBuf.Inv d.buf := Abs.inv h

/-- `Good` spelled out: the invariant `Inv` of C06, the history invariant `Hist` of C18, the
    window is kept (`min WindowSize |log| ≤ len(Data)`) and `Off` counts the log. -/
theorem good_iff (d : Decoder) :
    Good d ↔ DecBuf.Inv d.buf ∧ Hist d ∧ min d.buf.ws d.log.length ≤ d.buf.data.length ∧
      d.buf.off = d.log.length := by
  constructor
  · intro h
    refine ⟨h.inv, ?_, h.win, h.off⟩
    obtain ⟨t, ht⟩ := h.suffix
    have hdl := h.deliv
    have hle := h.toAbsD.len_le
    have hlog : d.log = d.w.got ++ d.buf.data.drop d.buf.r := rfl
    -- log = t ++ data = got ++ data.drop r, |got| = |t| + r
    have htl : t.length + d.buf.data.length = d.log.length := by rw [← ht]; simp
    refine ⟨t, ?_⟩
    have e1 : d.log.take d.w.got.length = d.w.got := by rw [hlog, List.take_left]
    rw [← e1, ← ht, List.take_append]
    have e2 : d.w.got.length - t.length = d.buf.r := by omega
    rw [e2, List.take_of_length_le (by omega)]
  · intro ⟨hi, ⟨pre, hp⟩, hw, ho⟩
    have hlog : d.log = pre ++ d.buf.data := by
      show d.w.got ++ d.buf.data.drop d.buf.r = _
      rw [hp, List.append_assoc, List.take_append_drop]
    have hgl : d.w.got.length = pre.length + d.buf.r := by
      rw [hp, List.length_append, List.length_take, Nat.min_eq_left hi.1]
    refine ⟨⟨⟨pre, hlog.symm⟩, hi.1, ?_, hw, hi.2.1, hi.2.2⟩, ho⟩
    rw [hlog, hgl, List.length_append]; omega

theorem good_nil {b : DecBuf} (ha : Abs b [] 0) (wr : Writer) (hw : wr.got = []) :
    Good { buf := b, w := wr } ∧ ({ buf := b, w := wr } : Decoder).log = [] := by
  have hl : ({ buf := b, w := wr } : Decoder).log = [] := by
    show wr.got ++ b.data.drop b.r = []
    rw [hw, List.suffix_nil.mp ha.suffix, List.drop_nil, List.append_nil]
  refine ⟨?_, hl⟩
  unfold Good
  rw [hl, hw]
  exact ha

theorem good_init {ws bs : Int} {precap : Nat} {b : DecBuf} (h : DecBuf.init ws bs precap = some b)
    (wr : Writer) (hw : wr.got = []) : Good { buf := b, w := wr } ∧ ({ buf := b, w := wr } : Decoder).log = [] :=
  good_nil (init_abs h) wr hw

theorem good_reset {d : Decoder} (h : Good d) (wr : Writer) (hw : wr.got = []) :
    Good (d.reset wr) ∧ (d.reset wr).log = [] :=
  good_nil (reset_abs h.toAbsD) wr hw

theorem Good.stepClosed : StepClosed Good := by
  refine ⟨fun d b' x h hs hg => ?_, fun d h hg => ?_⟩
  · obtain ⟨-, hh, hw, ho⟩ := (good_iff d).mp hg
    have hle := hg.toAbsD.len_le
    obtain ⟨i1, hx, hoff, hwin⟩ := hs
    have hlog := log_ext h.1 hx
    refine (good_iff _).mpr ⟨i1, Hist.ext h.1 hx hh, ?_, by rw [hoff, hlog, List.length_append, ho]⟩
    show min b'.ws ({ d with buf := b' } : Decoder).log.length ≤ b'.data.length
    rw [hlog, List.length_append, hx.ws]
    omega
  · obtain ⟨-, hh, hw, ho⟩ := (good_iff d).mp hg
    have t := writeTo_flushed d h
    refine (good_iff _).mpr ⟨t.inv, Hist.writeTo h hh, ?_, ?_⟩
    · rw [t.log, t.ws, t.data]; exact hw
    · rw [t.log]; exact ho

theorem good_flush {d : Decoder} (h : Good d) : Good d.flush.1 := Good.stepClosed.2 d h.inv h

theorem good_write (g : Grow) (d : Decoder) (p : List Byte) (acc : Nat) (h : Good d) :
    Good (d.write g p acc).1 := (write_spec g d p acc h.inv).run.elim fun _ r => r.closed _ Good.stepClosed h

end Decoder

/-! ## work bound of `Write` -/

/-- number of chunks of size `m` needed for `L` bytes: `⌈L / m⌉` -/
def chunks (m L : Nat) : Nat := (L + (m - 1)) / m

theorem chunks_zero {m : Nat} (hm : 0 < m) : chunks m 0 = 0 := by
  unfold chunks; exact Nat.div_eq_of_lt (by omega)

theorem chunks_pos {m L : Nat} (hm : 0 < m) (hL : 0 < L) : 1 ≤ chunks m L := by
  unfold chunks; exact Nat.div_pos (by omega) hm

theorem chunks_mono {m L1 L2 : Nat} (h : L1 ≤ L2) : chunks m L1 ≤ chunks m L2 := by
  unfold chunks; exact Nat.div_le_div_right (by omega)

theorem chunks_step {m L k : Nat} (hm : 0 < m) (hk : m ≤ k) (hkL : k ≤ L) :
    chunks m (L - k) + 1 ≤ chunks m L := by
  unfold chunks
  rw [← Nat.add_div_right _ hm]
  exact Nat.div_le_div_right (by omega)

namespace Decoder

theorem writeTo_resps (d : Decoder) : d.w.resps.length ≤ d.writeTo.1.w.resps.length + 1 := by
  unfold writeTo Writer.write
  split <;> simp_all


/-- work bound for `Decoder.Write`: the number of scripted writer responses consumed (= writer
    calls) is at most `⌈len(p) / m₀⌉` for every `0 < m₀ ≤ BufferSize - WindowSize`; one less if the
    buffer was completely flushed at the start -/
theorem write_calls (g : Grow) (d : Decoder) (p : List Byte) (acc : Nat) (h : DecBuf.Inv d.buf) :
    ∀ m0, 0 < m0 → m0 ≤ d.buf.bs - d.buf.ws →
      d.w.resps.length - (d.write g p acc).1.w.resps.length ≤ chunks m0 p.length ∧
      (d.buf.r = d.buf.data.length → p ≠ [] →
        d.w.resps.length - (d.write g p acc).1.w.resps.length + 1 ≤ chunks m0 p.length) := by
  refine write_ind g (motive := fun d p _ r => ∀ m0, 0 < m0 → m0 ≤ d.buf.bs - d.buf.ws →
      d.w.resps.length - r.1.w.resps.length ≤ chunks m0 p.length ∧
      (d.buf.r = d.buf.data.length → p ≠ [] →
        d.w.resps.length - r.1.w.resps.length + 1 ≤ chunks m0 p.length)) ?_ ?_ ?_ ?_ d p acc h
  · intro d acc _ m0 _ _
    exact ⟨by simp, fun _ hne => absurd rfl hne⟩
  · -- a chunk of `k = min (bs - ws) len(p)` bytes costs no writer call
    intro d p acc q b' r h hq hne _ ⟨_, hx, _, _⟩ ih m0 h0 hm
    have hql : q.length = min (d.buf.bs - d.buf.ws) p.length := by rw [hq, List.length_take]
    have hqp : 0 < q.length := List.length_pos_iff.mpr hne
    obtain ⟨i1, _⟩ := ih m0 h0 (by show m0 ≤ b'.bs - b'.ws; have := hx.ws; have := hx.bs_le; omega)
    rw [List.length_drop] at i1
    refine ⟨Nat.le_trans i1 (chunks_mono (Nat.sub_le _ _)), fun _ _ => ?_⟩
    have i1' : d.w.resps.length - r.1.w.resps.length ≤ chunks m0 (p.length - q.length) := i1
    by_cases hkm : m0 ≤ q.length
    · have := chunks_step h0 hkm (by omega : q.length ≤ p.length)
      omega
    · have hkL : q.length = p.length := by omega
      rw [hkL, Nat.sub_self, chunks_zero h0] at i1'
      have := chunks_pos h0 (show 0 < p.length by omega)
      omega
  · -- a failed flush is one writer call; it is not needed on a flushed buffer
    intro d p acc q b' d2 f e2 h hne _ _ _ hr' hw _ m0 h0 _
    have hr := writeTo_resps { d with buf := b' }
    rw [hw] at hr
    have := chunks_pos h0 (List.length_pos_iff.mpr hne)
    refine ⟨by show d.w.resps.length - d2.w.resps.length ≤ _; have : d.w.resps.length ≤ d2.w.resps.length + 1 := hr; omega,
      fun hr0 _ => absurd hr0 hr'⟩
  · -- a successful flush is one writer call, and leaves the buffer flushed
    intro d p acc q b' d2 f r h hne _ _ ⟨i1, hx, _, _⟩ hr' hw ih m0 h0 hm
    have t2 := (flushed i1 hw).ws
    have t3 := (flushed i1 hw).bs
    have hr : d.w.resps.length ≤ d2.w.resps.length + 1 := by
      have := writeTo_resps { d with buf := b' }
      rwa [hw] at this
    have t2' : d2.buf.ws = b'.ws := t2
    have t3' : d2.buf.bs = b'.bs := t3
    have := (ih m0 h0 (by have := hx.ws; have := hx.bs_le; omega)).2 (flushed i1 hw).ok_flushed hne
    exact ⟨by omega, fun hr0 _ => absurd hr0 hr'⟩

end Decoder
end LZ
