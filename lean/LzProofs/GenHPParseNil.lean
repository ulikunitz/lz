/-
  The NIL PATH of the mechanical translation of hp.go `(*hashParser).Parse`:
  `hashParser_Parse_nilable grow fuel s true blk flags` (LzModel/Generated/CodeHPParse.lean; the pointer parameter
  `blk` is modelled by a flag plus a value, tools/extract/code_nil.go) is the call `Parse(nil, flags)`.

    gen_hp_parse_nonnil   `hashParser_Parse … blk …` IS `hashParser_Parse_nilable … false blk …` (the generated wrapper)
    gen_hp_parseNil       for every Go state with `ParseOK s`, every `blk` (a ghost), every `flags`, `fuel ≥ len + 2`:
                            `parseNilW (ofHPs s) (staleOf s) = none` ⇒ the translated `Parse(nil)` is `Res.panic`
                            `… = some (s', n, e)` ⇒ it is `Res.ok (t, blk, n, parseErr e)` — THE SAME `blk`: nothing is
                            written — with `ofHPs t = s'`, `staleOf t = staleOf s`, `ParseOK t`, and only `W` and the
                            table of the Go state change (`∃ t', t = withWT s … t'`)
    gen_hp_parseNil_model with `CapOK` and `HashDictOK` (as along every history): the list-level `Parser.parseNil`, no panic
-/
import LzProofs.GenHPParse

set_option linter.unusedSimpArgs false
set_option linter.unusedVariables false

namespace LZ.GenHPParse
open LZ LZ.Gen LZ.GenBuf LZ.GenHash

theorem gen_hp_parse_nonnil (grow : Nat → Nat → Nat) (fuel : Nat) (s : Gen.hashParser) (blk : Gen.Block') (flags : Int) :
    hashParser_Parse grow fuel s blk flags = hashParser_Parse_nilable grow fuel s false blk flags := rfl

/-- the straight-line prefix of the nil path: nothing buffered ⇒ `(0, ErrEmptyBuffer)`, the parser and the ghost block
    unchanged; for every `grow`, `fuel`, `flags` -/
theorem gen_hp_parseNil_empty (grow : Nat → Nat → Nat) (fuel : Nat) (s : Gen.hashParser) (blk : Gen.Block')
    (flags : Int) (h : Min.min s.HPConfig.BlockSize
      ((s.hashDictionary.ParserBuffer.Data.len : Int) - s.hashDictionary.ParserBuffer.W) = 0) :
    hashParser_Parse_nilable grow fuel s true blk flags = Res.ok (s, blk, (0 : Int), ErrEmptyBuffer) := by
  unfold hashParser_Parse_nilable
  simp only [if_true, gt_iff_lt, ge_iff_le, ite_lt_min, ite_le_min]
  split
  all_goals first
    | rfl
    | (exfalso; int_omega)

theorem gen_hp_parseNil (grow : Nat → Nat → Nat) (fuel : Nat) (s : Gen.hashParser) (blk : Gen.Block') (flags : Int)
    (h : ParseOK s) (hfuel : s.hashDictionary.ParserBuffer.Data.len + 2 ≤ fuel) :
    match ProbeW.parseNilW (ofHPs s) (staleOf s) with
    | none => hashParser_Parse_nilable grow fuel s true blk flags = Res.panic
    | some (s', n, e) =>
      ∃ t, hashParser_Parse_nilable grow fuel s true blk flags = Res.ok (t, blk, (n : Int), parseErr e) ∧
        ofHPs t = s' ∧ staleOf t = staleOf s ∧ (e = .ok ∨ e = .empty) ∧ ParseOK t ∧
        ∃ t', t = withWT s ((s'.buf.w : Nat) : Int) t' := by
  obtain ⟨Wn, iln, hWn, hiln, hil1, (hLlen : Wn + (ofHPs s).blockN ≤ _),
      (hnG : Min.min _ _ = (((ofHPs s).blockN : Nat) : Int))⟩ :=
    blockN_nats h.frame h.il1
  have hnG' := (Int.min_comm _ _).trans hnG
  have hwn : (ofHPs s).buf.w = Wn := by show s.hashDictionary.ParserBuffer.W.toNat = Wn; omega
  generalize hG : hashParser_Parse_nilable grow fuel s true blk flags = G
  unfold hashParser_Parse_nilable at hG
  simp only [if_true] at hG
  simp only [ite_lt_min, ite_le_min, ite_lt_max, ite_le_max] at hG
  simp only [hnG, hnG'] at hG
  clear hnG hnG'
  by_cases hn : (ofHPs s).blockN = 0
  · rw [ProbeW.parseNilW_empty _ _ hn]
    rw [hn] at hG
    first | rw [if_pos (by omega)] at hG | rw [if_neg (by omega)] at hG
    refine ⟨s, hG.symm, rfl, rfl, Or.inr rfl, h, s.hashDictionary.hash.table, ?_⟩
    rw [hwn, ← hWn]
  rw [ProbeW.parseNilW_single_nf (ofHPs s) (staleOf s) (ofHash s.hashDictionary.hash) rfl hn]
  rw [if_neg (by omega)] at hG
  generalize hp1 : ProbeW.processSegment1W _ _ _ _ _ = r
  have hps := gen_processSegment_at fuel s.hashDictionary h.wf h.sh h.small (by omega) hp1
    ((s.hashDictionary.ParserBuffer.W - s.hashDictionary.hash.inputLen) + 1)
    (s.hashDictionary.ParserBuffer.W + (((ofHPs s).blockN : Nat) : Int)) rfl rfl
    (by rw [hwn, hWn]; show _ - ((s.hashDictionary.hash.inputLen.toNat : Nat) : Int) + 1 = _; omega)
    (by rw [hwn, hWn]; omega)
  cases r with
  | none =>
    rw [(hps :)] at hG
    exact hG.symm
  | some h' =>
    obtain ⟨t0, ht0, rfl, hps⟩ := hps
    rw [hps, bind_ok] at hG
    rw [Option.bind_some]
    dsimp only at hG ⊢
    have hwt : s.hashDictionary.ParserBuffer.W + (((ofHPs s).blockN : Nat) : Int) =
        (((ofHPs s).buf.w + (ofHPs s).blockN : Nat) : Int) := by rw [hwn]; omega
    refine ⟨withWT s (((ofHPs s).buf.w + (ofHPs s).blockN : Nat) : Int) t0, hG.symm.trans ?_, ?_, rfl, Or.inl rfl, ?_, t0, rfl⟩
    · rw [hwt]; rfl
    · show ofHPs (withWT s _ t0) = _
      unfold ofHPs ofDict ofPB
      simp only [Int.toNat_natCast]
      rfl
    · exact h.update _ (by rw [hwn]; exact hLlen) ht0

/-- Go text → list-level model, nil path: where the buffer is within its capacity and `inputLen` within the model's
    bounds (`ProbeW.parseNilW_eq`; both hold along every history) no panic, the result of `Parser.parseNil`. -/
theorem gen_hp_parseNil_model (grow : Nat → Nat → Nat) (fuel : Nat) (s : Gen.hashParser) (blk : Gen.Block') (flags : Int)
    (h : ParseOK s) (hfuel : s.hashDictionary.ParserBuffer.Data.len + 2 ≤ fuel)
    (hcap : (ofHPs s).buf.CapOK) (hd : ProbeW.HashDictOK (ofHPs s).dict) :
    ∃ t, hashParser_Parse_nilable grow fuel s true blk flags =
        Res.ok (t, blk, (((ofHPs s).parseNil).2.1 : Int), parseErr ((ofHPs s).parseNil).2.2) ∧
      ofHPs t = ((ofHPs s).parseNil).1 ∧ staleOf t = staleOf s ∧ ParseOK t ∧
      ∃ t', t = withWT s ((((ofHPs s).parseNil).1.buf.w : Nat) : Int) t' := by
  have hW := ProbeW.parseNilW_eq (ofHPs s) (staleOf s) h.backing hcap hd
  have hm := gen_hp_parseNil grow fuel s blk flags h hfuel
  rw [hW] at hm
  obtain ⟨t, h1, h2, h3, _, h5, h6⟩ := hm
  exact ⟨t, h1, h2, h3, h5, h6⟩

end LZ.GenHPParse

#print axioms LZ.GenHPParse.gen_hp_parse_nonnil
#print axioms LZ.GenHPParse.gen_hp_parseNil_empty
#print axioms LZ.GenHPParse.gen_hp_parseNil
#print axioms LZ.GenHPParse.gen_hp_parseNil_model
