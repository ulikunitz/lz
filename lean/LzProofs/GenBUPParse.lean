/-
  LzProofs.GenBUPParse — the translated `(*bucketParser).Parse` of bup.go (topic BUPParse of tools/extract,
  code_lend.go; LzModel/Generated/CodeBUPParse.lean) equals the word-level model `ProbeW.parseW` for kind BUP
  (`processSegmentBW`, `bupProbeW`, `bupScanW`): panic iff `parseW = none`; same `n`, error, sequences, literals,
  new state; stale bytes unchanged; explicit fuel `len(Data) + 3`; the invariant bundle `ParseOKU` is preserved.

  Translated: `Parse` with `bucketDictionary.processSegment`, `bucketHash.add` (pointer alias eliminated at source
  level), `bucketHash.bucket` as a block-scoped READ-ONLY VIEW inlined at its range statement, `_getLE64`, `hashValue`.
  OPAQUE: `lcp` (bytes.go) under `LcpSpec lcp := ∀ p q, lcp p q = lcpLen p.data q.data` (what `BytesW.lcpW?_eq` proves
  of the word-level `lcp`) — as `lcs` for BHP / BDHP.  Topic assumption `blk != nil`.
  `ParseOKU.frame`, `.backing`, `.update` are the names of GenHPParse (see its header); `.il_cast`, `.pseg` besides.
-/
import LzProofs.GenBUPParseLoop
import LzProofs.GenHPParse
import LzProofs.GenPropsCfgBUP

set_option linter.unusedSimpArgs false
set_option linter.unusedVariables false

namespace LZ.GenBUPParse
open LZ LZ.Gen LZ.GenBuf LZ.GenHash LZ.GenHPParse LZ.GenParse LZ.GenProps

/-- the model parser state a Go `bucketParser` stands for -/
def ofBUPs (s : Gen.bucketParser) : Parser := ofBDict (ofBUP s.BUPConfig) s.bucketDictionary

/-- the bytes between `len(s.Data)` and `cap(s.Data)`: the `stale` argument of `ProbeW.parseW` -/
def staleOfU (s : Gen.bucketParser) : List UInt8 :=
  s.bucketDictionary.ParserBuffer.Data.arr.drop s.bucketDictionary.ParserBuffer.Data.len

/-- the hypotheses of `gen_bup_parse` on the Go state: the representation invariant `BDictWF`, the table invariant
    `BOK` (lengths `2^hashBits`, `2^hashBits·bucketSize`, ring indexes `< bucketSize`, `1 ≤ bucketSize ≤ 256`), the
    fields `BUPConfig` duplicates agree with the copies the model reads, `0 ≤ BlockSize`, `0 ≤ WindowSize`,
    `W ≤ len(Data)`, `1 ≤ inputLen`, the mask, `32 ≤ shift ≤ 64` (`hashBits ≤ 32`) and `len(Data) < 2^32`.  All hold
    after every API history (`Verify`: `2 ≤ InputLen ≤ 8`, `HashBits ≤ 23`, `1 ≤ BucketSize ≤ 128`,
    `BufferSize ≤ 2^32 - 8`); `Parse` preserves the bundle. -/
structure ParseOKU (s : Gen.bucketParser) : Prop where
  wf : BDictWF s.bucketDictionary
  bok : BOK s.bucketDictionary.bucketHash
  cws : s.BUPConfig.WindowSize.toNat = s.bucketDictionary.ParserBuffer.BufConfig.WindowSize.toNat
  cbs : s.BUPConfig.BlockSize.toNat = s.bucketDictionary.ParserBuffer.BufConfig.BlockSize.toNat
  cil : s.BUPConfig.InputLen.toNat = s.bucketDictionary.bucketHash.inputLen.toNat
  bs0 : 0 ≤ s.BUPConfig.BlockSize
  ws0 : 0 ≤ s.BUPConfig.WindowSize
  w : s.bucketDictionary.ParserBuffer.W ≤ s.bucketDictionary.ParserBuffer.Data.len
  il1 : 1 ≤ s.bucketDictionary.bucketHash.inputLen
  mask : s.bucketDictionary.bucketHash.mask = maskOf s.bucketDictionary.bucketHash.inputLen.toNat
  sh : 32 ≤ s.bucketDictionary.bucketHash.shift.toNat
  sh2 : s.bucketDictionary.bucketHash.shift.toNat ≤ 64
  small : s.bucketDictionary.ParserBuffer.Data.len < 4294967296

/-- `staleOfU` is what `ProbeW.Backing` asks for: data ++ stale is the whole backing array -/
theorem ParseOKU.backing {s : Gen.bucketParser} (h : ParseOKU s) :
    ProbeW.Backing (ofBUPs s) (staleOfU s) :=
  stale_length _ h.wf.1.data

/-- the Go state after `Parse`: new `W`, new table -/
@[reducible] def withWB (s : Gen.bucketParser) (w : Int) (g : Gen.bucketHash) : Gen.bucketParser :=
  { bucketDictionary :=
      { ParserBuffer := { s.bucketDictionary.ParserBuffer with W := w }, bucketHash := g },
    BUPConfig := s.BUPConfig }

namespace ParseOKU
variable {s : Gen.bucketParser} (h : ParseOKU s)
include h

theorem frame : Frame (ofBUPs s) s.bucketDictionary.ParserBuffer s.BUPConfig.BlockSize :=
  ⟨rfl, h.wf.1, h.cbs, h.bs0, h.w⟩

theorem il_cast :
    (((ofBucket s.bucketDictionary.bucketHash).inputLen : Nat) : Int) = s.bucketDictionary.bucketHash.inputLen :=
  Int.toNat_of_nonneg (Int.le_trans (by decide) h.il1)

/-- `Parse` and `Parse(nil)` move `W` (inside the data) and replace the table: the invariant stays -/
theorem update (w : Nat) (hw : w ≤ s.bucketDictionary.ParserBuffer.Data.len) {g : Gen.bucketHash} (hb : BOK g)
    (hsc : SameCfg s.bucketDictionary.bucketHash g) : ParseOKU (withWB s (w : Int) g) := by
  obtain ⟨hm, hsh, hil, -⟩ := hsc
  exact ⟨⟨h.frame.wf_w w, hb.gwf, hb.swf⟩, hb, h.cws, h.cbs,
    by show _ = g.inputLen.toNat; rw [hil]; exact h.cil, h.bs0, h.ws0, Int.ofNat_le.mpr hw,
    by show 1 ≤ g.inputLen; rw [hil]; exact h.il1,
    by show g.mask = maskOf g.inputLen.toNat; rw [hm, hil]; exact h.mask,
    by show 32 ≤ g.shift.toNat; rw [hsh]; exact h.sh, by show g.shift.toNat ≤ 64; rw [hsh]; exact h.sh2, h.small⟩

/-- `f.processSegment(s.W - inputLen + 1, b)` on the dictionary of a parser state -/
theorem pseg (fuel : Nat) (hfuel : s.bucketDictionary.ParserBuffer.Data.len + 2 ≤ fuel) (b : Int) :
    match ProbeW.processSegmentBW (ofBucket s.bucketDictionary.bucketHash) (ofBUPs s).buf.data (staleOfU s)
        ((s.bucketDictionary.ParserBuffer.W - s.bucketDictionary.bucketHash.inputLen) + 1) b with
    | none => bucketDictionary_processSegment fuel s.bucketDictionary
        ((s.bucketDictionary.ParserBuffer.W - s.bucketDictionary.bucketHash.inputLen) + 1) b = Res.panic
    | some bk' => ∃ g', BOK g' ∧ SameCfg s.bucketDictionary.bucketHash g' ∧ bk' = ofBucket g' ∧
        bucketDictionary_processSegment fuel s.bucketDictionary
          ((s.bucketDictionary.ParserBuffer.W - s.bucketDictionary.bucketHash.inputLen) + 1) b =
            Res.ok { s.bucketDictionary with bucketHash := g' } :=
  gen_processSegmentB fuel s.bucketDictionary _ b h.wf.1.data (Int.le_trans (by decide) h.il1) h.mask h.sh h.sh2 h.bok
    h.small hfuel

end ParseOKU

theorem gen_bup_parse (grow : Nat → Nat → Nat) (fuel : Nat) (lcp : Slice → Slice → Int) (hlcp : LcpSpec lcp)
    (s : Gen.bucketParser) (blk : Gen.Block') (flags : Int)
    (h : ParseOKU s) (hfl : 0 ≤ flags) (hfuel : s.bucketDictionary.ParserBuffer.Data.len + 3 ≤ fuel) :
    match ProbeW.parseW (ofBUPs s) (staleOfU s) flags.toNat with
    | none => bucketParser_Parse grow fuel lcp s blk flags = Res.panic
    | some (s', n, e, b) =>
      ∃ t blk', bucketParser_Parse grow fuel lcp s blk flags = Res.ok (t, blk', (n : Int), parseErr e) ∧
        ofBUPs t = s' ∧ staleOfU t = staleOfU s ∧ (e = .ok ∨ e = .empty) ∧
        blk'.Sequences = b.seqs.map seqRep ∧ blk'.Literals.data = b.lits ∧ SWF blk'.Literals ∧ ParseOKU t := by
  -- the Go side up to the test `n == 0`; the clamp of `n` in any spelling is a minimum
  generalize hG : bucketParser_Parse grow fuel lcp s blk flags = G
  unfold bucketParser_Parse bucketParser_Parse_nilable at hG
  simp only [Bool.false_eq_true, if_false, Int.ofNat_eq_natCast, gt_iff_lt, ge_iff_le, ite_lt_min, ite_le_min, h.frame.clamp,
    h.frame.clamp'] at hG
  rw [slice_zero, bind_ok] at hG
  by_cases hn : (ofBUPs s).blockN = 0
  · rw [hn] at hG
    first | rw [if_pos (by omega)] at hG | rw [if_neg (by omega)] at hG
    rw [ProbeW.parseW_empty _ _ _ hn]
    exact ⟨s, resetBlk blk, hG.symm, rfl, rfl, Or.inr rfl, rfl, rfl, Nat.zero_le _, h⟩
  first | rw [if_neg (by omega)] at hG | rw [if_pos (by omega)] at hG
  -- the model side, without `do`, its arguments in the spelling of the Go text
  rw [ProbeW.parseW_bucket (ofBUPs s) _ _ (ofBucket s.bucketDictionary.bucketHash) rfl,
    show ProbeW.frameW (ofBUPs s) (staleOfU s) _ _ _ _ _ = _ from frameW_nf h.frame hn _ _ _ _ _ _ rfl,
    h.frame.w_cast, h.il_cast]
  have hps := h.pseg fuel (by omega) s.bucketDictionary.ParserBuffer.W
  split at hps
  · rename_i hp1
    rw [hp1]
    rw [hps] at hG
    exact hG.symm
  rename_i bk' hp1
  obtain ⟨g0, hb0, hsc0, rfl, hps⟩ := hps
  rw [hp1, Option.bind_some]
  rw [hps, bind_ok] at hG
  dsimp only at hG
  -- the natural numbers of the model: `W`, `n`, `inputLen`
  have hW := h.frame.w_cast
  have hil : (((ofBucket g0).inputLen : Nat) : Int) = g0.inputLen := by
    show ((g0.inputLen.toNat : Nat) : Int) = _; rw [hsc0.2.2.1]; exact h.il_cast
  have hil1 : 1 ≤ (ofBucket g0).inputLen := by have := h.il1; rw [← hsc0.2.2.1, ← hil] at this; omega
  have hmm : (ofBUPs s).minMatch = Min.min 3 (ofBucket g0).inputLen := by
    show Min.min 3 s.BUPConfig.InputLen.toNat = Min.min 3 g0.inputLen.toNat; rw [h.cil, hsc0.2.2.1]
  have hLlen := h.frame.blockN_le
  have hD' : s.bucketDictionary.ParserBuffer.Data.len ≤ s.bucketDictionary.ParserBuffer.Data.arr.length := h.wf.1.data
  have hsmall := h.small
  rw [← hW, ← hil] at hG
  generalize (ofBUPs s).buf.w = Wn at hG hLlen hW ⊢
  generalize (ofBUPs s).blockN = nN at hG hLlen hn ⊢
  generalize (ofBucket g0).inputLen = iln at hG hil hil1 hmm ⊢
  -- `minMatchLen` and the window size as the Go state holds them
  rw [hmm, show (ofBUPs s).buf.cfg.windowSize = s.BUPConfig.WindowSize.toNat from h.cws.symm]
  rw [slice_okI s.bucketDictionary.ParserBuffer.Data 0 ((Wn : Int) + (nN : Int)) 0 (Wn + nN) rfl (by omega)
    (Nat.zero_le _) (by omega), bind_ok] at hG
  simp only [List.drop_zero, Nat.sub_zero] at hG
  -- the margin reslice `_p := s.Data[:inputEnd+7]`
  by_cases hmar : ((Wn + nN : Nat) : Int) - (iln : Int) + 1 + 7 < 0 ∨
      (s.bucketDictionary.ParserBuffer.Data.arr.length : Int) < ((Wn + nN : Nat) : Int) - (iln : Int) + 1 + 7
  · rw [if_pos hmar]
    rw [slice_panic _ _ _ (Or.inr hmar)] at hG
    exact hG.symm
  rw [if_neg hmar, Option.bind_some]
  rw [slice_okI s.bucketDictionary.ParserBuffer.Data 0 (((Wn + nN : Nat) : Int) - (iln : Int) + 1 + 7) 0
    ((((Wn + nN : Nat) : Int) - (iln : Int) + 1 + 7).toNat) rfl (by omega) (Nat.zero_le _) (by omega), bind_ok] at hG
  simp only [List.drop_zero, Nat.sub_zero] at hG
  generalize s.bucketDictionary.ParserBuffer.Data.arr = A at hG hD' hmar ⊢
  -- the greedy loop; `minMatchLen`, the clamp in any spelling, is `min 3 inputLen`
  have hmA : Min.min (iln : Int) 3 = ((Min.min 3 iln : Nat) : Int) := by omega
  have hmB : Min.min 3 (iln : Int) = ((Min.min 3 iln : Nat) : Int) := by omega
  simp only [hmA, hmB] at hG
  obtain ⟨st', g', blk', hgl, hl1, hb', hsc', hdict', hseq', hlit', hswf', hli1, hli2⟩ :=
    loops_eq grow lcp hlcp (((Wn + nN : Nat) : Int) - (iln : Int) + 1) _ A (Wn + nN) (Wn + nN + 1 - iln)
      (((Wn + nN : Nat) : Int) - (iln : Int) + 1 + 7).toNat (Min.min 3 iln) s.BUPConfig.WindowSize.toNat
      (by omega) rfl (by omega) (by omega) (by omega) fuel Wn (by omega)
      { bucketDictionary := { ParserBuffer := s.bucketDictionary.ParserBuffer, bucketHash := g0 },
        BUPConfig := s.BUPConfig }
      { Sequences := [], Literals := { arr := blk.Literals.arr, len := 0 } }
      ⟨by show (((Wn + nN : Nat) : Int) - _ + 1 + 7).toNat ≤ A.length; omega, by rw [← hil]; omega,
        by rw [hsc0.1, hsc0.2.2.1]; exact h.mask, by rw [hsc0.2.1]; exact h.sh, by rw [hsc0.2.1]; exact h.sh2,
        by show (((Wn + nN : Nat) : Int) - _ + 1 + 7).toNat < _; omega⟩
      hb0 rfl h.ws0 (by omega) (by omega) rfl rfl (Nat.zero_le _)
  rw [hl1, bind_ok] at hG
  dsimp only at hG
  rw [ProbeW.runGreedyW_of_loop hgl, Option.bind_some]
  dsimp only
  have hPt : ∀ w' : Nat, w' ≤ Wn + nN → ParseOKU (withWB s (w' : Int) g') := fun w' hw' =>
    h.update w' (Nat.le_trans hw' hLlen) hb' (hsc0.trans hsc')
  unfold finishBlock
  rcases noTrailing_cases flags hfl st'.seqs blk'.Sequences (by rw [hseq', List.length_map]) with
    ⟨hfin, hf1, hf2⟩ | ⟨hfin, hf⟩
  · rw [if_pos hfin]
    -- the test of the epilogue in any spelling (De Morgan with swapped arms, `== 0` / `<= 0` for `> 0`)
    first | rw [if_pos (by omega)] at hG | rw [if_neg (by omega)] at hG
    rw [bind_ok] at hG
    dsimp only at hG
    refine ⟨withWB s (st'.litIndex : Int) g', blk', hG.symm.trans ?_, ?_, rfl, Or.inl rfl, hseq', hlit', hswf', hPt _ hli2⟩
    · rw [← hW, ← Int.ofNat_sub hli1]; rfl
    · rw [hdict']; rfl
  · rw [if_neg hfin]
    first | rw [if_neg (by omega)] at hG | rw [if_pos (by omega)] at hG
    rw [slice_okI _ _ ((Wn + nN : Nat) : Int) st'.litIndex (Wn + nN) rfl rfl hli2 (by show Wn + nN ≤ A.length; omega),
      bind_ok, bind_ok] at hG
    dsimp only at hG
    refine ⟨withWB s ((Wn + nN : Nat) : Int) g',
      { Sequences := blk'.Sequences,
        Literals := Slice.append grow blk'.Literals ((A.drop st'.litIndex).take (Wn + nN - st'.litIndex)) },
      hG.symm.trans ?_, ?_, rfl, Or.inl rfl, hseq', ?_, swf_append grow _ hswf' _, hPt _ (Nat.le_refl _)⟩
    · rw [← hW, List.length_take, Nat.min_eq_left (by omega), ← Int.ofNat_sub (Nat.le_add_right _ _)]; rfl
    · rw [hdict', List.length_take, Nat.min_eq_left (by omega)]; rfl
    · rw [(append_spec grow blk'.Literals hswf' _).1, hlit']
      show _ ++ (A.drop st'.litIndex).take (Wn + nN - st'.litIndex) = _ ++ (A.take (Wn + nN)).drop st'.litIndex
      rw [List.drop_take]

/-- Go text → list-level model.  For a Go state that abstracts to a state reachable through the API the translated
    `Parse` does not panic and returns the representation of the LIST-LEVEL model `Parser.parse` — the function on
    which C01/C02/C03/C19 are proved. -/
theorem gen_bup_parse_model (grow : Nat → Nat → Nat) (fuel : Nat) (lcp : Slice → Slice → Int) (hlcp : LcpSpec lcp)
    (s : Gen.bucketParser) (blk : Gen.Block') (flags : Int)
    (h : ParseOKU s) (hfl : 0 ≤ flags) (hfuel : s.bucketDictionary.ParserBuffer.Data.len + 3 ≤ fuel)
    (raw : Cfg) (s0 : Parser) (h0 : newParser .BUP raw = some s0) (ops : List POp)
    (hreach : ofBUPs s = (runOps (s0, Ghost.init) ops).1) :
    ∃ t blk', bucketParser_Parse grow fuel lcp s blk flags =
        Res.ok (t, blk', (((ofBUPs s).parse flags.toNat).2.1 : Int), parseErr ((ofBUPs s).parse flags.toNat).2.2.1) ∧
      ofBUPs t = ((ofBUPs s).parse flags.toNat).1 ∧ staleOfU t = staleOfU s ∧
      blk'.Sequences = ((ofBUPs s).parse flags.toNat).2.2.2.seqs.map seqRep ∧
      blk'.Literals.data = ((ofBUPs s).parse flags.toNat).2.2.2.lits ∧ SWF blk'.Literals ∧ ParseOKU t := by
  exact parse_model_of (p := ofBUPs s) (stale := staleOfU s) (Or.inr (Or.inr (Or.inr (Or.inr rfl)))) h.backing raw s0 h0 ops hreach ofBUPs staleOfU ParseOKU
    (gen_bup_parse grow fuel lcp hlcp s blk flags h hfl hfuel)

end LZ.GenBUPParse

#print axioms LZ.GenBUPParse.gen_bup_parse
#print axioms LZ.GenBUPParse.gen_bup_parse_model
