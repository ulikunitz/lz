/-
  LzProofs.AcceptCompose — property C07 (c): parser output fed to the decoder.

  The parser side comes in through LzProofs.AcceptParse, the decoder side through
  LzProofs.AcceptProps; the definitions both speak of are those of LzProofs.AcceptDefs.
-/
import LzProofs.AcceptProps
import LzProofs.AcceptParse
namespace LZ
open Decoder

/-- C07 (c), partial: parser → decoder.
    A parser `s0` created by `NewParser` (any kind, any accepted configuration; OSAP relative to
    `HistHyp`), any history `ops` of Write / ReadFrom / Parse / Parse(nil) / Shrink / Reset.  Let
    `items` be what was emitted since the last Reset (blocks; segments skipped by `Parse(nil)` are
    passed verbatim with `Decoder.Write`).
    A decoder `d` in a `Good` state with empty log (fresh from `Init`/`Reset`, `C07_good_init`),
    a writer that does not fail, a window at least as large as the parser's, any growth function.
    If every emitted sequence has `LitLen + MatchLen ≤ BufferSize - WindowSize` of the decoder
    (`hfit`), then every item is accepted, `Flush` succeeds and the writer has received exactly
    `fed.take consumed`: the original bytes the parser consumed.
    Full statement (FALSE, `C07_counter` + `C07_parser_emits_long_sequence` below): without `hfit`. -/
theorem C07_parser_to_decoder_partial (k : Kind) (raw : Cfg) (s0 : Parser)
    (h0 : newParser k raw = some s0) (hH : HistHyp k s0) (ops : List POp)
    (g : Grow) (d : Decoder) (hd : Good d) (hlog : d.log = []) (hw : d.w.resps = [])
    (hws : s0.buf.cfg.windowSize ≤ d.buf.ws)
    (hfit : EventsFit (d.buf.bs - d.buf.ws) ((runOps (s0, Ghost.init) ops).2.log.map Event.toD)) :
    let gh := (runOps (s0, Ghost.init) ops).2
    let items := gh.log.map Event.toD
    (d.feedAll g items).2 = .ok ∧ (d.feedAll g items).1.flush.2 = .ok ∧
    (d.feedAll g items).1.flush.1.w.got = gh.fed.take gh.consumed := by
  intro gh items
  obtain ⟨p1, _, p3⟩ := parser_log_wellformed k raw s0 h0 hH ops
  have hwf : WellFormedEvents d.buf.ws d.log items := by
    rw [hlog]; exact WellFormedEvents.mono hws _ _ p1
  obtain ⟨a1, a2, a3, _⟩ := C07_events_partial g items d hd hw hwf hfit
  refine ⟨a1, a2, ?_⟩
  rw [hlog] at a3
  have p3' : refDecode [] items = some (gh.fed.take gh.consumed) := p3
  rw [p3'] at a3
  exact (Option.some.inj a3).symm

/-- C07 (c), static form.  Every sequence a parser emits is at most `BlockSize` bytes long, so
    `BlockSize ≤ BufferSize - WindowSize` (decoder) suffices: e.g. the decoder's default
    `BufferSize = 2·WindowSize` with `BlockSize ≤ WindowSize`. -/
theorem C07_parser_to_decoder_blockSize (k : Kind) (raw : Cfg) (s0 : Parser)
    (h0 : newParser k raw = some s0) (hH : HistHyp k s0) (ops : List POp)
    (g : Grow) (d : Decoder) (hd : Good d) (hlog : d.log = []) (hw : d.w.resps = [])
    (hws : s0.buf.cfg.windowSize ≤ d.buf.ws)
    (hbs : s0.buf.cfg.blockSize ≤ d.buf.bs - d.buf.ws) :
    let gh := (runOps (s0, Ghost.init) ops).2
    let items := gh.log.map Event.toD
    (d.feedAll g items).2 = .ok ∧ (d.feedAll g items).1.flush.2 = .ok ∧
    (d.feedAll g items).1.flush.1.w.got = gh.fed.take gh.consumed :=
  C07_parser_to_decoder_partial k raw s0 h0 hH ops g d hd hlog hw hws
    (EventsFit.mono hbs _ (parser_log_wellformed k raw s0 h0 hH ops).2.1)

/-- any writer: no item of parser output is ever refused by the decoder (the result of feeding is
    `nil` or an error of the writer) under the same hypotheses, for every writer script -/
theorem C07_parser_to_decoder_never_refused (k : Kind) (raw : Cfg) (s0 : Parser)
    (h0 : newParser k raw = some s0) (hH : HistHyp k s0) (ops : List POp)
    (g : Grow) (d : Decoder) (hd : Good d) (hlog : d.log = [])
    (hws : s0.buf.cfg.windowSize ≤ d.buf.ws)
    (hbs : s0.buf.cfg.blockSize ≤ d.buf.bs - d.buf.ws) :
    let items := (runOps (s0, Ghost.init) ops).2.log.map Event.toD
    (d.feedAll g items).2 = .ok ∨ WErr (d.feedAll g items).2 := by
  intro items
  obtain ⟨p1, p2, _⟩ := parser_log_wellformed k raw s0 h0 hH ops
  exact (C07_events_never_refused g items d hd
    (by rw [hlog]; exact WellFormedEvents.mono hws _ _ p1) (EventsFit.mono hbs _ p2)).1

/-! ## non-vacuity -/

section Examples

/-- HP with the configuration `exCfg` of ParseProps (WindowSize 64, BlockSize 32) -/
example : ∃ s0, newParser .HP exCfg = some s0 ∧ HistHyp .HP s0 ∧
    s0.buf.cfg.windowSize = 64 ∧ s0.buf.cfg.blockSize = 32 :=
  ⟨_, newParser_of_verify (by decide), histHyp_of_ne _ _ (by decide), rfl, rfl⟩

/-- a decoder for it: WindowSize 64, BufferSize 128 (`DecoderConfig{64, 0}` gives this) -/
example : ∃ b, DecBuf.init 64 0 0 = some b ∧ b.ws = 64 ∧ b.bs = 128 ∧
    Good { buf := b, w := ⟨[], []⟩ } ∧ ({ buf := b, w := ⟨[], []⟩ } : Decoder).log = [] ∧
    32 ≤ b.bs - b.ws := by
  refine ⟨⟨[], 0, 0, 64, 128, 0⟩, by rfl, rfl, rfl, ?_, ?_, by decide⟩
  · exact (C07_good_init (ws := 64) (bs := 0) (precap := 0) (by rfl) ⟨[], []⟩ rfl).1
  · rfl

/-- HP with WindowSize 4 (accepted by `Verify`) -/
def exCfg4 : Cfg := { exCfg with windowSize := 4 }

example : (newParser .HP exCfg4).isSome = true := by decide

/-- the HP state after `Write("abcabcabcab")` on a fresh parser with configuration `exCfg4` -/
def exState4 : Parser :=
  { kind := .HP, cfg := setDefaults .HP (exCfg4.restrict .HP),
    buf := { data := exData, w := 0, off := 0, cap := 71,
             cfg := (setDefaults .HP (exCfg4.restrict .HP)).bufCfg },
    dict := freshDict .HP (setDefaults .HP (exCfg4.restrict .HP)) }

/-- the refusal is reachable with genuine parser output.  The HP parser with WindowSize 4 and
    "abcabcabcab" buffered emits the block `exBlock` (3 literals, one match of length 8 at
    offset 3).  A fresh decoder with the same window, `DecoderConfig{WindowSize: 4, BufferSize: 6}`
    (accepted by `Verify`), refuses this block with `errMatchLen`: `3 + 8 > 6 - 4`. -/
theorem C07_parser_emits_long_sequence :
    (exState4.parse 0).2 = (11, .ok, exBlock) ∧ exState4.buf.cfg.windowSize = 4 ∧
    DecBuf.init 4 6 0 = some ⟨[], 0, 0, 4, 6, 0⟩ ∧
    (Decoder.writeBlock (fun _ n => n) ⟨⟨[], 0, 0, 4, 6, 0⟩, ⟨[], []⟩⟩ exBlock.seqs exBlock.lits 0 0 0).2
      = (0, 0, 0, Err.matchLen) := by
  refine ⟨?_, by decide, by rfl, ?_⟩
  · rw [Parser.parse_single exState4 0 _ rfl (by decide)
      (Parser.marginOK_of_cap _ (Or.inr (by decide)) (by decide))]
    simp only [Parser.runGreedy_eq_F]
    decide
  · simp [Decoder.writeBlock, DecBuf.writeBlock, DecBuf.seqLoop, DecBuf.shrink, exBlock]

end Examples

end LZ

#print axioms LZ.C07_parser_to_decoder_partial
#print axioms LZ.C07_parser_to_decoder_blockSize
#print axioms LZ.C07_parser_to_decoder_never_refused
#print axioms LZ.C07_parser_emits_long_sequence
