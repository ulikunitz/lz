/-
  LzProofs.GenOSAPParseLemmas — definitions and lemmas for LzProofs.GenOSAPParse (the translated
  `(*optSuffixArrayParser).Parse` of osap.go, LzModel/Generated/CodeOSAPParse.lean, against the range-checked model
  `Idx.parseOsapChk` of LzProofs/IdxOsap.lean):

    ofOD, ofOSAPs        abstraction maps (Go state ↦ `OsapD` / `Parser`)
    ParseOKO             representation invariant of the Go state
    CESpec               specification hypothesis of the OPAQUE state-passing callee `computeEdges`;
                         `ParseOKO.computeEdges_eq`: its premises in the model's terms
    parse_loop_eq        the loop `for j := len(sp)-1; j >= 0; j--` = `Idx.pathToSeqsChk` over the reversed slice
  No sorry, no axioms of its own.
-/
import LzModel.Generated.CodeOSAPParse
import LzProofs.GenOSAPLemmas
import LzProofs.IdxOsap
import LzProofs.GenHPParse
import LzProofs.GenPropsCfgOSAP
import LzProofs.GenCallByName

set_option linter.unusedSimpArgs false
set_option linter.unusedVariables false

namespace LZ.GenOSAP
open LZ LZ.Gen LZ.GenBuf LZ.GenHash LZ.GenSuffix LZ.GenHPParse LZ.GenProps

/-! ## abstraction maps -/

/-- the model's edge table a Go `optSuffixArrayParser` stands for -/
def ofOD (s : Gen.optSuffixArrayParser) : OsapD := ⟨edgesAbs s.edges, s.start.toNat, s.nEdges.toNat⟩

/-- the model parser state a Go `optSuffixArrayParser` stands for -/
def ofOSAPs (s : Gen.optSuffixArrayParser) : Parser :=
  ⟨.OSAP, ofOSAP s.OSAPConfig, ofPB s.ParserBuffer, .osap (ofOD s)⟩

/-! ## the invariant of the Go state and the specification hypothesis of `computeEdges` -/

/-- the hypotheses of `gen_osap_parse` on the Go state (`B` = a bound on the number of edges stored per position; it
    only bounds the fuel of the inner loop of `shortestPath`).  `Parse` preserves the bundle.
    * `pb`      representation invariant of the embedded `ParserBuffer` (`len ≤ cap`, `W, Off, ShrinkSize, BufferSize ≥ 0`):
                `ParserBuffer.Init`, kept by `Write / ReadFrom / Shrink / Reset` (GenBufPropsP)
    * `wedges`, `wq`  `s.edges` and every `s.edges[i]` are slice values with `len ≤ cap`: `computeEdges` builds them with
                `make` / reslicing / `append`; `len(s.edges[i]) ≤ B` is the abstract bound
    * `wtmp`    `len(s.tmp) ≤ cap(s.tmp)` (`s.tmp[:0]`; nil after `init`)
    * `cost`    the function field `cost` holds `XZCost` (code 1): `init` stores it for `cfg.Cost == "XZCost"`, the only
                value `Verify` accepts
    * `st0`, `ne0`  `s.start = s.W ≥ 0` and `s.nEdges` counts up from 0 in `computeEdges`; both 0 after `resetEdges`
    * `stw`     `s.start ≤ s.W` (`k := s.W - s.start` is a slice index): `computeEdges` sets `start = W`, `W` only grows
                until `Reset / Shrink`, which call `resetEdges` (`start = 0`) — `Sap.OsapHist` at model level
    * `cbs`     `Parse` reads `s.BlockSize` = `OSAPConfig.BlockSize`, the model the copy in `ParserBuffer.BufConfig`
                (`init`: `bufferConfig(&cfg)`)
    * `bs0`     `0 ≤ BlockSize` (`Verify`: `BlockSize > 0`)
    * `mm0`, `mm32`  `0 ≤ MinMatchLen < 2^32` (`Verify`: `2 ≤ MinMatchLen ≤ MaxMatchLen`; `m := uint32(s.MinMatchLen)`)
    * `w`, `small`  `W ≤ len(Data) ≤ MaxInt32` (`Verify`: `BufferSize ≤ MaxInt32`; `i := uint32(s.W)`, and `computeEdges`
                panics beyond)
    * `cws`, `ws0`, `mmx`  NOT used by the proof of `Parse`; they are part of the precondition of `CESpec`:
                `computeEdges` reads `s.WindowSize` = `OSAPConfig.WindowSize` (the model: the `BufConfig` copy),
                `doz(s.W, s.WindowSize)` is the model's truncated subtraction only for `WindowSize ≥ 0`, `Verify`:
                `MinMatchLen ≤ MaxMatchLen` -/
structure ParseOKO (B : Nat) (s : Gen.optSuffixArrayParser) : Prop where
  pb : PBWF s.ParserBuffer
  wedges : GWF s.edges
  wq : ∀ q ∈ s.edges.data, GWF q ∧ q.len ≤ B
  wtmp : GWF s.tmp
  cost : s.cost = 1
  st0 : 0 ≤ s.start
  ne0 : 0 ≤ s.nEdges
  stw : s.start ≤ s.ParserBuffer.W
  cbs : s.OSAPConfig.BlockSize.toNat = s.ParserBuffer.BufConfig.BlockSize.toNat
  bs0 : 0 ≤ s.OSAPConfig.BlockSize
  mm0 : 0 ≤ s.OSAPConfig.MinMatchLen
  mm32 : s.OSAPConfig.MinMatchLen < 4294967296
  w : s.ParserBuffer.W ≤ s.ParserBuffer.Data.len
  small : s.ParserBuffer.Data.len ≤ 2147483647
  cws : s.OSAPConfig.WindowSize.toNat = s.ParserBuffer.BufConfig.WindowSize.toNat
  ws0 : 0 ≤ s.OSAPConfig.WindowSize
  mmx : s.OSAPConfig.MinMatchLen ≤ s.OSAPConfig.MaxMatchLen

/-- the specification hypothesis of the opaque state-passing callee `computeEdges`: on a state satisfying the
    representation invariant, if the range-checked model `Idx.computeEdgesChk` (arguments as `Idx.parseOsapChk` passes
    them) returns the table `o`, the callee returns a state standing for `o` in which only `edgeBuf`, `edges`, `start`,
    `nEdges` changed, `start` and `nEdges` are non-negative (`s.start = s.W`, `s.nEdges` counts), and the edge table is
    well-formed with at most `B` edges per position. -/
def CESpec (B : Nat) (ce : Gen.optSuffixArrayParser → Res Gen.optSuffixArrayParser) : Prop :=
  ∀ (s : Gen.optSuffixArrayParser) (o : OsapD), ParseOKO B s →
    Idx.computeEdgesChk (ofOSAPs s).buf.data (ofOSAPs s).buf.w (ofOSAPs s).buf.cfg.windowSize (ofOSAPs s).minMatch
      (ofOSAPs s).cfg.maxMatchLen.toNat = some o →
    ∃ s', ce s = Res.ok s' ∧ ofOD s' = o ∧ s'.ParserBuffer = s.ParserBuffer ∧ s'.OSAPConfig = s.OSAPConfig ∧
      s'.cost = s.cost ∧ s'.tmp = s.tmp ∧ 0 ≤ s'.start ∧ 0 ≤ s'.nEdges ∧ GWF s'.edges ∧
      (∀ q ∈ s'.edges.data, GWF q ∧ q.len ≤ B)

/-- the premises of `CESpec` in the model's terms: on a state with `ParseOKO` the range check of `computeEdges` cannot
    fail (`W ≤ len(Data) ≤ MaxInt32`), so the table it returned is the model's -/
theorem ParseOKO.computeEdges_eq {B : Nat} {s : Gen.optSuffixArrayParser} {o : OsapD} (hP : ParseOKO B s)
    (hchk : Idx.computeEdgesChk (ofOSAPs s).buf.data (ofOSAPs s).buf.w (ofOSAPs s).buf.cfg.windowSize (ofOSAPs s).minMatch
      (ofOSAPs s).cfg.maxMatchLen.toNat = some o) :
    (ofOSAPs s).buf.w ≤ (ofOSAPs s).buf.data.length ∧ (ofOSAPs s).buf.data.length ≤ 2147483647 ∧
    o = computeEdges (ofOSAPs s).buf.data (ofOSAPs s).buf.w (ofOSAPs s).buf.cfg.windowSize (ofOSAPs s).minMatch
      (ofOSAPs s).cfg.maxMatchLen.toNat := by
  have hdl : (ofOSAPs s).buf.data.length = s.ParserBuffer.Data.len := data_length hP.pb.data
  have hw : (ofOSAPs s).buf.w ≤ (ofOSAPs s).buf.data.length := by
    rw [hdl]
    show s.ParserBuffer.W.toNat ≤ _
    have := hP.w; have := hP.pb.w; omega
  have hlen : (ofOSAPs s).buf.data.length ≤ 2147483647 := by rw [hdl]; exact hP.small
  rw [Idx.computeEdgesChk_eq _ _ _ _ _ hw hlen] at hchk
  exact ⟨hw, hlen, (Option.some.inj hchk).symm⟩

theorem u32_self (x : UInt32) : UInt32.ofInt ((x.toNat : Nat) : Int) = x := by
  apply UInt32.toNat_inj.mp
  exact toNat_ofInt32 _ _ rfl (by have := UInt32.toNat_lt x; omega)

/-! ## the loop of `Parse` -/

/-- **the loop `for j := len(sp) - 1; j >= 0; j-- { … }`** walks `sp` from the end: it is `Idx.pathToSeqsChk` over the
    reversed elements of `sp[:j+1]`.  No uint32 wrap-around as long as `i + pathLen < 2^32`. -/
theorem parse_loop_eq (grow : Nat → Nat → Nat) (ce : Gen.optSuffixArrayParser → Res Gen.optSuffixArrayParser)
    (sp : GSlice Gen.edge) (hsp : GWF sp) (p : Slice) (hp : SWF p) :
    ∀ (j : Nat) (π : List Edge), j ≤ sp.len → ((sp.data.take j).map edgeAbs).reverse = π →
    ∀ (fuel : Nat) (blk : Block') (i li : UInt32) (jI : Int) (iN liN : Nat) (seqs : List Seq) (lits : List Byte)
      (r : List Seq × List Byte × Nat × Nat),
      jI = (j : Int) - 1 → j + 1 ≤ fuel → i.toNat = iN → li.toNat = liN → iN + Sap.pathLen π < 4294967296 →
      blk.Sequences = seqs.map seqRep → blk.Literals.data = lits → SWF blk.Literals →
      Idx.pathToSeqsChk p.data π iN liN seqs lits = some r →
      -- the loop function applied and its state tuple built BY GO VARIABLE NAME (`gcall%` / `gstate%`,
      -- LzProofs/GenCallByName.lean): declaring `litIndex` before `i` swaps two components of the state
      ∃ blk' i' li' j', (gcall% Gen.optSuffixArrayParser_Parse_loop_1 [grow := grow, optSuffixArrayParser_computeEdges := ce,
          sp := sp, p := p, fuel := fuel, blk := blk, i := i, litIndex := li, j := jI]) =
          Res.ok (gstate% Gen.optSuffixArrayParser_Parse_loop_1 [blk := blk', i := i', litIndex := li', j := j']) ∧
        blk'.Sequences = r.1.map seqRep ∧ blk'.Literals.data = r.2.1 ∧ SWF blk'.Literals ∧
        i'.toNat = r.2.2.1 ∧ li'.toNat = r.2.2.2 := by
  intro j
  induction j with
  | zero =>
    intro π hj hπ fuel blk i li jI iN liN seqs lits r hjI hf hi hli hb hseq hlit hswf hr
    simp only [List.take_zero, List.map_nil, List.reverse_nil] at hπ
    subst hπ
    unfold Idx.pathToSeqsChk at hr
    injection hr with hr
    subst hr
    obtain ⟨f, rfl⟩ : ∃ f, fuel = f + 1 := ⟨fuel - 1, by omega⟩
    refine ⟨blk, i, li, jI, ?_, hseq, hlit, hswf, hi, hli⟩
    unfold Gen.optSuffixArrayParser_Parse_loop_1
    rw [if_neg (by omega)]
  | succ j ih =>
    intro π hj hπ fuel blk i li jI iN liN seqs lits r hjI hf hi hli hb hseq hlit hswf hr
    obtain ⟨f, rfl⟩ : ∃ f, fuel = f + 1 := ⟨fuel - 1, by omega⟩
    have hjl : j < sp.len := by omega
    have hgl : sp.len ≤ sp.arr.length := hsp
    have hel : sp.data[j]? = some ((sp.arr[j]?).getD ({ m := 0, o := 0 } : Gen.edge)) := by
      rw [gdata_getElem?, if_pos hjl, List.getElem?_eq_getElem (by omega)]
      rfl
    generalize he : (sp.arr[j]?).getD ({ m := 0, o := 0 } : Gen.edge) = e at hel
    have hπ' : π = (e.m.toNat, e.o.toNat) :: ((sp.data.take j).map edgeAbs).reverse := by
      rw [← hπ, List.take_add_one, hel]
      simp [edgeAbs]
    subst hπ'
    simp only [Sap.pathLen_cons] at hb
    have hadd : (i + e.m).toNat = iN + e.m.toNat := by rw [u32_add _ _ (by omega), hi]
    unfold Gen.optSuffixArrayParser_Parse_loop_1
    rw [if_pos (by omega), gindex_ok _ sp jI j (by omega) hjl, bind_ok, he]
    unfold Idx.pathToSeqsChk at hr
    by_cases ho : e.o = 0
    · have ho' : e.o.toNat = 0 := by rw [ho]; rfl
      simp only [ho', if_true] at hr
      simp only [ho, if_true]
      exact ih _ (by omega) rfl f blk (i + e.m) li (jI - 1) (iN + e.m.toNat) liN seqs lits r (by omega) (by omega)
        hadd hli (by omega) hseq hlit hswf hr
    · have ho' : ¬ e.o.toNat = 0 := fun hc => ho (UInt32.toNat_inj.mp hc)
      simp only [ho', if_false] at hr
      -- the test `e.o == 0` with the operands either way round
      have ho2 : ¬ ((0 : UInt32) = e.o) := fun hc => ho hc.symm
      simp only [ho, ho2, if_false]
      have hpl : p.data.length = p.len := data_length hp
      have hpa : p.len ≤ p.arr.length := hp
      by_cases hq : liN ≤ iN ∧ iN ≤ p.data.length
      · simp only [Idx.sliceChk, hq, and_self, if_true] at hr
        rw [slice_okI p _ _ liN iN (by rw [← hli]; rfl) (by rw [← hi]; rfl) hq.1 (by omega), bind_ok]
        refine ih _ (by omega) rfl f _ (i + e.m) (i + e.m) (jI - 1) (iN + e.m.toNat) (iN + e.m.toNat) _ _ r
          (by omega) (by omega) hadd hadd (by omega) ?_ ?_ ?_ hr
        · show blk.Sequences ++ [_] = List.map seqRep (seqs ++ [_])
          rw [List.map_append, hseq, List.map_singleton]
          congr 2
          unfold seqRep
          simp only [u32_self]
          congr 2
          show ((iN - liN : Nat) : Int) = _
          rw [List.length_take, List.length_drop]
          omega
        · show (Slice.append grow blk.Literals _).data = _
          rw [(append_spec grow blk.Literals hswf _).1, hlit]
          congr 1
          show (p.arr.drop liN).take (iN - liN) = ((p.arr.take p.len).drop liN).take (iN - liN)
          rw [lits_eq _ _ _ _ (by omega)]
        · exact swf_append grow _ hswf _
      · simp only [Idx.sliceChk, hq, if_false] at hr
        cases hr

end LZ.GenOSAP

#print axioms LZ.GenOSAP.ParseOKO.computeEdges_eq
#print axioms LZ.GenOSAP.parse_loop_eq
