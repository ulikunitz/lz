/-
  decoder_buffer.go: DecoderConfig.  The hand-written model equals the code that `tools/extract -code` regenerates from the Go source
  (LzModel/Generated/Code<Topic>.lean, one file per topic).  Every theorem quantifies over all inputs; Go `int`/`int64`
  are unbounded `Int` on both sides (overflow is out of scope), `uint32`/`uint64` wrap around.  The proofs do not
  depend on the shape of the generated term (see GenPropsBase).
-/
import LzModel.Generated.CodeDec
import LzProofs.GenPropsBase

set_option linter.unusedSimpArgs false

namespace LZ.GenProps
open LZ

/-! ## decoder_buffer.go: DecoderConfig -/

theorem decoderConfig_eq_mk (x : Gen.DecoderConfig) (ws bs : Int) :
    x = ⟨ws, bs⟩ ↔ x.WindowSize = ws ∧ x.BufferSize = bs := by
  cases x; exact Gen.DecoderConfig.mk.injEq .. ▸ Iff.rfl

theorem gen_decDefaults (ws bs : Int) :
    Gen.DecoderConfig_SetDefaults ⟨ws, bs⟩ =
      ⟨if ws = 0 then Facts.decDefWindowSize else ws,
       if bs = 0 then Facts.decBufFactor * (if ws = 0 then Facts.decDefWindowSize else ws) else bs⟩ := by
  dsimp only [Gen.DecoderConfig_SetDefaults, gen_helper, Facts.decDefWindowSize, Facts.decBufFactor]
  simp only [decoderConfig_eq_mk, apply_ite Gen.DecoderConfig.WindowSize,
    apply_ite Gen.DecoderConfig.BufferSize, ite_self, true_and, and_true] <;> omega

theorem gen_decVerify (c : Gen.DecoderConfig) :
    Gen.DecoderConfig_Verify c = .ok ↔
      (1 ≤ c.BufferSize ∧ c.BufferSize ≤ Facts.maxUint32) ∧ (0 ≤ c.WindowSize ∧ c.WindowSize < c.BufferSize) := by
  dsimp only [Gen.DecoderConfig_Verify, gen_helper, Facts.maxUint32]
  gen_ifs

/-- the model's `decCfg` (defaults, then verification) is the generated pair of functions -/
theorem gen_decCfg (ws bs : Int) :
    decCfg ws bs =
      (let c := Gen.DecoderConfig_SetDefaults ⟨ws, bs⟩
       if Gen.DecoderConfig_Verify c = .ok then some (c.WindowSize.toNat, c.BufferSize.toNat) else none) := by
  simp only [gen_decDefaults, gen_decVerify]
  rfl

end LZ.GenProps
