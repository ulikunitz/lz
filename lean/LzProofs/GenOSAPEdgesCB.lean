/-
  The closure `f := func(m int, seg []int32) {…}` of osap.go `(*optSuffixArrayParser).computeEdges`, lambda-lifted by
  tools/extract (code_cblift.go) into the method `computeEdges_f(w int32, m int, seg []int32)` and translated
  (LzModel/Generated/CodeOSAPEdges.lean: `optSuffixArrayParser_computeEdges_f`, `…_f_loop_1`), against the model callback
  `LZ.edgeCallback` (LzModel/Sap.lean).  The opaque callee `slices.Sort(seg)` enters under `SliceSortSpec`: the elements
  up to `len` become a sorted permutation of what they were, everything else (length, capacity, the array behind `len`)
  is untouched.  The loop `for j := len(seg) - 1; j > 0; j--` over a strictly ascending segment is `edgeCallback` over
  the descending list (`cb_loop`): the `k < 0` break, the offset `uint32(i - seg[j-1])`, the window test
  `o > uint32(s.WindowSize)`, the re-use test `(*p)[len(*p)-1].o <= o`, `s.nEdges++`, the `append`.
-/
import LzModel.Generated.CodeOSAPEdges
import LzProofs.GenOSAPLemmas
import LzProofs.EdgesProps

set_option linter.unusedSimpArgs false
set_option linter.unusedVariables false

namespace LZ.GenOSAP
open LZ LZ.Gen LZ.GenBuf LZ.GenHash LZ.GenSuffix

def o32 (k : Nat) : Int32 := Int32.ofInt (k : Int)

theorem o32_toInt (k : Nat) (h : k < 2147483648) : (o32 k).toInt = (k : Int) :=
  i32_ofInt _ (by omega) (by omega)

/-- the specification assumed for `slices.Sort(seg)` on `[]int32` -/
def SliceSortSpec (slices_Sort : GSlice Int32 → Res (GSlice Int32)) : Prop :=
  ∀ (seg : GSlice Int32), GWF seg →
    ∃ seg', slices_Sort seg = Res.ok seg' ∧ seg'.len = seg.len ∧ seg'.arr.length = seg.arr.length ∧
      seg'.arr.drop seg.len = seg.arr.drop seg.len ∧ (seg'.arr.take seg.len).Perm (seg.arr.take seg.len) ∧
      (seg'.arr.take seg.len).Pairwise (fun a b => a.toInt ≤ b.toInt)

/-- only `edges` and `nEdges` differ -/
def EdgesFrame (s s' : Gen.optSuffixArrayParser) : Prop :=
  s' = { s with edges := s'.edges, nEdges := s'.nEdges }

theorem EdgesFrame.refl (s : Gen.optSuffixArrayParser) : EdgesFrame s s := rfl

theorem EdgesFrame.trans {a b c : Gen.optSuffixArrayParser} (h1 : EdgesFrame a b) (h2 : EdgesFrame b c) : EdgesFrame a c := by
  unfold EdgesFrame at *
  rw [h2, h1]

/-- `X[k] = append(X[k], e)` on the abstraction -/
theorem edgesAbs_append (grow : Nat → Nat → Nat) (es : GSlice (GSlice Gen.edge)) (hes : GWF es)
    (hq : ∀ q ∈ es.data, GWF q) (k : Nat) (hk : k < es.len) (e : Gen.edge) :
    let q := (es.arr[k]?).getD GSlice.nil
    let es' : GSlice (GSlice Gen.edge) := { es with arr := es.arr.set k (GSlice.append ({ m := 0, o := 0 } : Gen.edge) grow q [e]) }
    edgesAbs es' = (edgesAbs es).setIfInBounds k ((edgesAbs es).getD k [] ++ [edgeAbs e]) ∧ GWF es' ∧
      (∀ q' ∈ es'.data, GWF q') ∧ es'.len = es.len := by
  intro q es'
  have hqw := hq q (gmem_of_lt hes k hk GSlice.nil)
  obtain ⟨a1, a2⟩ := gappend_data ({ m := 0, o := 0 } : Gen.edge) grow q hqw e
  have hcur : (edgesAbs es).getD k [] = q.data.map edgeAbs := by
    rw [Array.getD_eq_getD_getElem?, edgesAbs_getElem? hes k hk]; rfl
  refine ⟨?_, gset_wf hes k _, ?_, rfl⟩
  · show ((es'.data.map (fun q => q.data.map edgeAbs)).toArray) = _
    rw [gabs_set (fun q => q.data.map edgeAbs) es k _, a1, List.map_append, hcur]
    rfl
  · intro q' hq'
    have : es'.data = es.data.set k _ := gset_data es k _
    rw [this] at hq'
    rcases List.mem_or_eq_of_mem_set hq' with h | h
    · exact hq q' h
    · rw [h]; exact a2

section Loop
variable (grow : Nat → Nat → Nat) (slices_Sort : GSlice Int32 → Res (GSlice Int32))

/-- the loop of the closure over a strictly ascending segment `xs` (as int32 values in `seg`), from index `j` down:
    `edgeCallback` over `xs[j], xs[j-1], …, xs[0]`. -/
theorem cb_loop (seg : GSlice Int32) (xs : List Nat) (hsw : GWF seg) (hsd : seg.data = xs.map o32)
    (hx31 : ∀ x ∈ xs, x < 2147483648) (hasc : xs.Pairwise (fun a b => a < b))
    (w : Int32) (woff : Int) (hw : w.toInt = woff) (hwr : -2147483648 < woff ∧ woff ≤ 0)
    (m : Int) (hm : 0 ≤ m ∧ m < 4294967296) :
    ∀ (j : Nat) (fuel : Nat) (s : Gen.optSuffixArrayParser), j < xs.length → j + 1 ≤ fuel → GWF s.edges →
      (∀ q ∈ s.edges.data, GWF q) → 0 ≤ s.nEdges → 0 ≤ s.OSAPConfig.WindowSize → s.OSAPConfig.WindowSize < 4294967296 →
      (∀ x ∈ xs, (x : Int) + woff < (s.edges.len : Int)) →
      ∃ s' j', optSuffixArrayParser_computeEdges_f_loop_1 grow slices_Sort seg w m fuel s (j : Int) = Res.ok (s', j') ∧
        (edgesAbs s'.edges, s'.nEdges.toNat) =
          edgeCallback s.OSAPConfig.WindowSize.toNat woff m.toNat ((xs.take (j + 1)).reverse)
            (edgesAbs s.edges, s.nEdges.toNat) ∧
        0 ≤ s'.nEdges ∧ GWF s'.edges ∧ (∀ q ∈ s'.edges.data, GWF q) ∧ s'.edges.len = s.edges.len ∧ EdgesFrame s s' := by
  have hlen : seg.len = xs.length := by
    have := gdata_length hsw
    rw [hsd, List.length_map] at this; exact this.symm
  have hget : ∀ i, (hi : i < xs.length) → (seg.arr[i]?).getD (0 : Int32) = o32 xs[i] := by
    intro i hi
    have h1 : seg.data[i]? = some (o32 xs[i]) := by rw [hsd, List.getElem?_map, List.getElem?_eq_getElem hi]; rfl
    rw [gdata_getElem?, if_pos (by omega)] at h1
    rw [h1]; rfl
  intro j
  induction j with
  | zero =>
    intro fuel s hj hf hE hq hn hws0 hws32 hb
    obtain ⟨f, rfl⟩ : ∃ f, fuel = f + 1 := ⟨fuel - 1, by omega⟩
    refine ⟨s, 0, ?_, ?_, hn, hE, hq, rfl, EdgesFrame.refl s⟩
    · unfold optSuffixArrayParser_computeEdges_f_loop_1
      rw [if_neg (by show ¬ ((0 : Nat) : Int) > 0; omega)]
      rfl
    · obtain ⟨x0, rest, hxs⟩ : ∃ x0 rest, xs = x0 :: rest := by
        cases xs with
        | nil => simp at hj
        | cons a b => exact ⟨a, b, rfl⟩
      subst hxs
      simp [edgeCallback]
  | succ j ih =>
    intro fuel s hj hf hE hq hn hws0 hws32 hb
    obtain ⟨f, rfl⟩ : ∃ f, fuel = f + 1 := ⟨fuel - 1, by omega⟩
    have hj0 : j < xs.length := by omega
    have hdesc1 : (xs.take (j + 1)).reverse = xs[j] :: (xs.take j).reverse := by
      rw [List.take_add_one, List.getElem?_eq_getElem hj0]
      simp
    have hdesc : (xs.take (j + 1 + 1)).reverse = xs[j + 1] :: xs[j] :: (xs.take j).reverse := by
      rw [List.take_add_one, List.getElem?_eq_getElem hj, List.reverse_append, hdesc1]
      rfl
    have ih' := fun s0 => ih f s0 hj0 (by omega)
    rw [hdesc1] at ih'
    rw [hdesc]
    unfold optSuffixArrayParser_computeEdges_f_loop_1
    rw [if_pos (by show ((j + 1 : Nat) : Int) > 0; omega),
      gindex_ok (0 : Int32) seg ((j + 1 : Nat) : Int) (j + 1) rfl (by omega), bind_ok, hget (j + 1) hj,
      show ((j + 1 : Nat) : Int) - 1 = (j : Int) by omega]
    simp only []
    -- the two elements `xi = xs[j+1] > xp = xs[j]`, the offset `o = uint32(i - seg[j-1])`
    have hxi := hx31 xs[j + 1] (List.getElem_mem hj)
    have hxp := hx31 xs[j] (List.getElem_mem hj0)
    have hlt : xs[j] < xs[j + 1] := (List.pairwise_iff_getElem.1 hasc) j (j + 1) hj0 hj (by omega)
    have hbi := hb xs[j + 1] (List.getElem_mem hj)
    have hgp := hget j hj0
    generalize xs[j + 1] = xi at hxi hlt hbi ⊢
    generalize xs[j] = xp at hxp hlt hgp ih' ⊢
    -- the rest of the loop from the unchanged state, for the two `continue`s
    have hskip := ih' s hE hq hn hws0 hws32 hb
    have hk : ((o32 xi) + w).toInt = (xi : Int) + woff := by
      rw [i32_add _ _ (by rw [o32_toInt _ hxi, hw]; omega) (by rw [o32_toInt _ hxi, hw]; omega), o32_toInt _ hxi, hw]
    have ho : (UInt32.ofInt ((o32 xi) - (o32 xp)).toInt).toNat = xi - xp := by
      refine toNat_ofInt32 _ _ ?_ (by omega)
      rw [i32_sub _ _ (by rw [o32_toInt _ hxi, o32_toInt _ hxp]; omega) (by rw [o32_toInt _ hxi, o32_toInt _ hxp]; omega),
        o32_toInt _ hxi, o32_toInt _ hxp]
      omega
    have hwsn : (UInt32.ofInt s.OSAPConfig.WindowSize).toNat = s.OSAPConfig.WindowSize.toNat :=
      toNat_ofInt32 _ _ (by omega) (by omega)
    by_cases hneg : (xi : Int) + woff < 0
    · -- break
      rw [if_pos ((i32_lt_iff _ _).2 (by rw [hk, i32_zero]; exact hneg)), Sap.edgeCallback_break _ _ _ _ _ _ _ _ hneg]
      exact ⟨s, _, rfl, rfl, hn, hE, hq, rfl, EdgesFrame.refl s⟩
    rw [if_neg (fun hc => hneg (by have := (i32_lt_iff _ _).1 hc; rw [hk, i32_zero] at this; exact this)),
      gindex_ok (0 : Int32) seg (j : Int) j rfl (by omega), bind_ok, hgp]
    -- the index `k = i + w` into the edge table
    obtain ⟨kN, hkN⟩ : ∃ kN : Nat, (xi : Int) + woff = (kN : Int) := ⟨((xi : Int) + woff).toNat, by omega⟩
    have hkl : kN < s.edges.len := by omega
    rw [hkN] at hk
    rw [hk]
    generalize UInt32.ofInt ((o32 xi) - (o32 xp)).toInt = o at ho ⊢
    clear hk hgp hxi hxp hbi
    by_cases hwin : xi - xp > s.OSAPConfig.WindowSize.toNat
    · -- outside the window
      rw [if_pos (show UInt32.ofInt s.OSAPConfig.WindowSize < o by rw [UInt32.lt_iff_toNat_lt, ho, hwsn]; exact hwin),
        Sap.edgeCallback_skip _ _ _ _ _ _ _ _ hneg (Or.inl hwin)]
      exact hskip
    rw [if_neg (show ¬ UInt32.ofInt s.OSAPConfig.WindowSize < o by rw [UInt32.lt_iff_toNat_lt, ho, hwsn]; exact hwin),
      gindex_ok (GSlice.nil : GSlice Gen.edge) s.edges (kN : Int) kN rfl hkl, bind_ok, bind_ok]
    -- the edge list `q` of position `kN`
    have hktn : ((xi : Int) + woff).toNat = kN := by omega
    have hqw : GWF ((s.edges.arr[kN]?).getD GSlice.nil) := hq _ (gmem_of_lt hE kN hkl GSlice.nil)
    have hcur : (edgesAbs s.edges).getD kN [] = ((s.edges.arr[kN]?).getD GSlice.nil).data.map edgeAbs := by
      rw [Array.getD_eq_getD_getElem?, edgesAbs_getElem? hE kN hkl]; rfl
    -- `s.nEdges++; s.edges[k] = append(s.edges[k], edge{m, o})` and the rest of the loop, when the model adds the edge
    have hadd : (∀ e, ((edgesAbs s.edges).getD kN []).getLast? = some e → ¬ e.2 ≤ xi - xp) →
        ∃ s' j', (Res.bind (GSlice.set s.edges (kN : Int) (GSlice.append ({ m := 0, o := 0 } : Gen.edge) grow
              ((s.edges.arr[kN]?).getD GSlice.nil) [({ m := UInt32.ofInt m, o := o } : Gen.edge)])) fun t_6 =>
            optSuffixArrayParser_computeEdges_f_loop_1 grow slices_Sort seg w m f
              { s with nEdges := s.nEdges + 1, edges := t_6 } (j : Int)) = Res.ok (s', j') ∧
          (edgesAbs s'.edges, s'.nEdges.toNat) =
            edgeCallback s.OSAPConfig.WindowSize.toNat woff m.toNat (xi :: xp :: (xs.take j).reverse)
              (edgesAbs s.edges, s.nEdges.toNat) ∧
          0 ≤ s'.nEdges ∧ GWF s'.edges ∧ (∀ q ∈ s'.edges.data, GWF q) ∧ s'.edges.len = s.edges.len ∧ EdgesFrame s s' := by
      intro hlast
      rw [Sap.edgeCallback_add _ _ _ _ _ _ _ _ hneg hwin (by rw [hktn]; exact hlast), hktn,
        gset_ok s.edges (kN : Int) kN rfl hkl, bind_ok]
      obtain ⟨b1, b2, b3, b4⟩ := edgesAbs_append grow s.edges hE hq kN hkl ({ m := UInt32.ofInt m, o := o } : Gen.edge)
      rw [show edgeAbs ({ m := UInt32.ofInt m, o := o } : Gen.edge) = (m.toNat, xi - xp) by
        unfold edgeAbs; rw [ho, toNat_ofInt32 m.toNat m (by omega) (by omega)]] at b1
      obtain ⟨s', j', h1, h2, h3, h4, h5, h6, h7⟩ := ih'
        { s with nEdges := s.nEdges + 1,
                 edges := { s.edges with arr := s.edges.arr.set kN (GSlice.append ({ m := 0, o := 0 } : Gen.edge) grow
                   ((s.edges.arr[kN]?).getD GSlice.nil) [({ m := UInt32.ofInt m, o := o } : Gen.edge)]) } }
        b2 b3 (by show 0 ≤ s.nEdges + 1; omega) hws0 hws32 hb
      refine ⟨s', j', h1, ?_, h3, h4, h5, h6, ?_⟩
      · rw [h2]
        show edgeCallback _ _ _ _ (edgesAbs _, (s.nEdges + 1).toNat) = _
        rw [b1, show (s.nEdges + 1).toNat = s.nEdges.toNat + 1 by omega]
      · unfold EdgesFrame at h7 ⊢
        rw [h7]
    generalize (s.edges.arr[kN]?).getD (GSlice.nil : GSlice Gen.edge) = q at hqw hcur hadd ⊢
    simp only [bind_ok]
    have hql : q.data.length = q.len := gdata_length hqw
    by_cases hlen0 : q.len > 0
    · -- the re-use test against the last edge stored at `kN`
      rw [if_pos (by simp only [Int.ofNat_eq_natCast]; omega),
        gindex_ok ({ m := 0, o := 0 } : Gen.edge) q ((Int.ofNat q.len) - 1) (q.len - 1)
          (by simp only [Int.ofNat_eq_natCast]; omega) (by omega), bind_ok]
      have hgl : ((edgesAbs s.edges).getD kN []).getLast? =
          some (edgeAbs ((q.arr[q.len - 1]?).getD { m := 0, o := 0 })) := by
        rw [hcur, List.getLast?_eq_getElem?, List.length_map, hql, List.getElem?_map, gdata_getElem?, if_pos (by omega)]
        have hqa : q.len - 1 < q.arr.length := by unfold GWF at hqw; omega
        rw [List.getElem?_eq_getElem hqa]
        rfl
      generalize (q.arr[q.len - 1]?).getD ({ m := 0, o := 0 } : Gen.edge) = el at hgl ⊢
      by_cases hreuse : el.o.toNat ≤ xi - xp
      · rw [if_pos (show el.o ≤ o by rw [UInt32.le_iff_toNat_le, ho]; exact hreuse),
          Sap.edgeCallback_skip _ _ _ _ _ _ _ _ hneg (Or.inr ⟨edgeAbs el, by rw [hktn]; exact hgl, hreuse⟩)]
        exact hskip
      · rw [if_neg (show ¬ el.o ≤ o by rw [UInt32.le_iff_toNat_le, ho]; exact hreuse)]
        refine hadd (fun e he => ?_)
        rw [hgl] at he
        rw [← Option.some.inj he]
        exact hreuse
    · rw [if_neg (by simp only [Int.ofNat_eq_natCast]; omega)]
      refine hadd (fun e he => ?_)
      rw [hcur, List.eq_nil_of_length_eq_zero (by omega : q.data.length = 0)] at he
      cases he

end Loop

/-! ## the whole closure -/

theorem i32n_o32 (y : Nat) (h : y < 2147483648) : i32n (o32 y) = y := by
  unfold i32n
  rw [o32_toInt y h]
  omega

theorem perm_o32 (l : List Int32) (ys : List Nat) (hy : ∀ y ∈ ys, y < 2147483648) (h : l.Perm (ys.map o32)) :
    (l.map i32n).Perm ys ∧ l = (l.map i32n).map o32 := by
  constructor
  · have := h.map i32n
    rw [List.map_map] at this
    have e : ys.map (i32n ∘ o32) = ys := by
      conv => rhs; rw [← List.map_id ys]
      apply List.map_congr_left
      intro y hy'
      exact i32n_o32 y (hy y hy')
    rw [e] at this; exact this
  · rw [List.map_map]
    conv => lhs; rw [← List.map_id l]
    apply List.map_congr_left
    intro a ha
    obtain ⟨y, hy', rfl⟩ := List.mem_map.1 (h.subset ha)
    show o32 y = o32 (i32n (o32 y))
    rw [i32n_o32 y (hy y hy')]

theorem sorted_unique (ys zs : List Nat) (hp : zs.Perm ys) (hs : zs.Pairwise (fun a b => a ≤ b)) :
    zs = ys.mergeSort (fun a b => decide (a ≤ b)) := by
  have h1 : (ys.mergeSort (fun a b => decide (a ≤ b))).Pairwise (fun a b => decide (a ≤ b) = true) :=
    List.pairwise_mergeSort (le := fun a b => decide (a ≤ b))
      (fun a b c hab hbc => by simp only [decide_eq_true_eq] at *; omega)
      (fun a b => by simp only [Bool.or_eq_true, decide_eq_true_eq]; omega) ys
  have h1' : (ys.mergeSort (fun a b => decide (a ≤ b))).Pairwise (fun a b => a ≤ b) :=
    h1.imp (fun h => by simpa using h)
  exact List.Perm.eq_of_pairwise (le := fun a b => a ≤ b) (fun a b _ _ h1 h2 => by omega) hs h1'
    (hp.trans (List.mergeSort_perm ys _).symm)

theorem sorted_strict (ys : List Nat) (hn : ys.Nodup) :
    (ys.mergeSort (fun a b => decide (a ≤ b))).Pairwise (fun a b => a < b) := by
  have h1 : (ys.mergeSort (fun a b => decide (a ≤ b))).Pairwise (fun a b => decide (a ≤ b) = true) :=
    List.pairwise_mergeSort (le := fun a b => decide (a ≤ b))
      (fun a b c hab hbc => by simp only [decide_eq_true_eq] at *; omega)
      (fun a b => by simp only [Bool.or_eq_true, decide_eq_true_eq]; omega) ys
  have hn' : (ys.mergeSort (fun a b => decide (a ≤ b))).Nodup := (List.mergeSort_perm ys _).symm.nodup hn
  have := h1.and hn'
  exact this.imp (fun h => by
    obtain ⟨h1, h2⟩ := h
    simp only [decide_eq_true_eq] at h1
    omega)

/-- the closure of `computeEdges`, lambda-lifted: on a segment that holds a permutation of the distinct naturals `ys`
    (`< 2^31`) it sorts the segment (`slices.Sort`) and leaves what the model callback `edgeCallback` leaves for the model's
    sorted segment walked from the top.  `woff` is the captured `w = int32(winStart - s.start)`. -/
theorem gen_osap_edgeCB (grow : Nat → Nat → Nat) (fuel : Nat) (slices_Sort : GSlice Int32 → Res (GSlice Int32))
    (hS : SliceSortSpec slices_Sort) (s : Gen.optSuffixArrayParser) (w : Int32) (m : Int) (seg : GSlice Int32)
    (ys : List Nat) (hsw : GWF seg) (hsd : seg.data.Perm (ys.map o32)) (hy31 : ∀ y ∈ ys, y < 2147483648) (hnd : ys.Nodup)
    (woff : Int) (hw : w.toInt = woff) (hwr : -2147483648 < woff ∧ woff ≤ 0) (hm : 0 ≤ m ∧ m < 4294967296)
    (hfuel : seg.len + 1 ≤ fuel) (hE : GWF s.edges) (hq : ∀ q ∈ s.edges.data, GWF q) (hn : 0 ≤ s.nEdges)
    (hws0 : 0 ≤ s.OSAPConfig.WindowSize) (hws32 : s.OSAPConfig.WindowSize < 4294967296)
    (hb : ∀ y ∈ ys, (y : Int) + woff < (s.edges.len : Int)) :
    ∃ s' seg', optSuffixArrayParser_computeEdges_f grow fuel slices_Sort s w m seg = Res.ok (s', seg') ∧
      (edgesAbs s'.edges, s'.nEdges.toNat) =
        edgeCallback s.OSAPConfig.WindowSize.toNat woff m.toNat (ys.mergeSort (fun a b => decide (a ≤ b))).reverse
          (edgesAbs s.edges, s.nEdges.toNat) ∧
      0 ≤ s'.nEdges ∧ GWF s'.edges ∧ (∀ q ∈ s'.edges.data, GWF q) ∧ s'.edges.len = s.edges.len ∧ EdgesFrame s s' ∧
      seg'.len = seg.len ∧
      seg'.arr = (ys.mergeSort (fun a b => decide (a ≤ b))).map o32 ++ seg.arr.drop seg.len := by
  obtain ⟨seg', h1, h2, h3, h4, h5, h6⟩ := hS seg hsw
  have hsw' : GWF seg' := by unfold GWF at hsw ⊢; omega
  have hd' : seg'.data = seg'.arr.take seg.len := by unfold GSlice.data; rw [h2]
  have hperm : seg'.data.Perm (ys.map o32) := by rw [hd']; exact h5.trans hsd
  obtain ⟨p1, p2⟩ := perm_o32 seg'.data ys hy31 hperm
  have hsorted : (seg'.data.map i32n).Pairwise (fun a b => a ≤ b) := by
    rw [List.pairwise_map, hd']
    refine List.Pairwise.imp_of_mem ?_ h6
    intro a b ha hb hab
    have ha' : a ∈ ys.map o32 := (h5.trans hsd).subset ha
    have hb' : b ∈ ys.map o32 := (h5.trans hsd).subset hb
    obtain ⟨ya, hya, rfl⟩ := List.mem_map.1 ha'
    obtain ⟨yb, hyb, rfl⟩ := List.mem_map.1 hb'
    rw [i32n_o32 _ (hy31 _ hya), i32n_o32 _ (hy31 _ hyb)]
    rw [o32_toInt _ (hy31 _ hya), o32_toInt _ (hy31 _ hyb)] at hab
    omega
  have hxs := sorted_unique ys (seg'.data.map i32n) p1 hsorted
  generalize hxsd : ys.mergeSort (fun a b => decide (a ≤ b)) = xs at hxs ⊢
  have hsd' : seg'.data = xs.map o32 := by rw [← hxs]; exact p2
  have hxperm : xs.Perm ys := by rw [← hxsd]; exact List.mergeSort_perm ys _
  have hx31 : ∀ x ∈ xs, x < 2147483648 := fun x hx => hy31 x (hxperm.subset hx)
  have hasc : xs.Pairwise (fun a b => a < b) := by rw [← hxsd]; exact sorted_strict ys hnd
  have hlen : seg'.len = xs.length := by
    have := gdata_length hsw'
    rw [hsd', List.length_map] at this; exact this.symm
  have harr : seg'.arr = xs.map o32 ++ seg.arr.drop seg.len := by
    rw [← hsd', ← h4, hd']
    exact (List.take_append_drop seg.len seg'.arr).symm
  unfold optSuffixArrayParser_computeEdges_f
  rw [h1, bind_ok]
  simp only []
  by_cases h0 : xs.length = 0
  · -- an empty segment: the loop is not entered
    have hx0 : xs = [] := List.eq_nil_of_length_eq_zero h0
    obtain ⟨f, rfl⟩ : ∃ f, fuel = f + 1 := ⟨fuel - 1, by omega⟩
    have hl : optSuffixArrayParser_computeEdges_f_loop_1 grow slices_Sort seg' w m (f + 1) s ((Int.ofNat seg'.len) - 1) =
        Res.ok (s, (Int.ofNat seg'.len) - 1) := by
      unfold optSuffixArrayParser_computeEdges_f_loop_1
      rw [if_neg (by simp only [Int.ofNat_eq_natCast]; omega)]
    rw [hl, bind_ok]
    refine ⟨s, seg', rfl, ?_, hn, hE, hq, rfl, EdgesFrame.refl s, h2, harr⟩
    rw [hx0]; simp [edgeCallback]
  · have hj : (Int.ofNat seg'.len) - 1 = ((xs.length - 1 : Nat) : Int) := by simp only [Int.ofNat_eq_natCast]; omega
    obtain ⟨s', j', k1, k2, k3, k4, k5, k6, k7⟩ := cb_loop grow slices_Sort seg' xs hsw' hsd' hx31 hasc w woff hw hwr m hm
      (xs.length - 1) fuel s (by omega) (by omega) hE hq hn hws0 hws32
      (fun x hx => hb x (hxperm.subset hx))
    rw [hj, k1, bind_ok]
    refine ⟨s', seg', rfl, ?_, k3, k4, k5, k6, k7, h2, harr⟩
    rw [k2]
    have : xs.length - 1 + 1 = xs.length := by omega
    rw [this, List.take_length]

end LZ.GenOSAP

#print axioms LZ.GenOSAP.cb_loop
#print axioms LZ.GenOSAP.gen_osap_edgeCB
