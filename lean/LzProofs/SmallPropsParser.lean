/-
  LzProofs.SmallPropsParser — complements to C03, C11 and C14 on the parser side
  (the decoder side is LzProofs/SmallProps.lean).

  OSAP: every sequence of every block of every history has
    `MinMatchLen ≤ MatchLen ≤ MaxMatchLen`, both flags (`C11_history_matchLen_le_max`).
  `Parse(nil)` consumes what `Parse(&blk, 0)` would consume and leaves the same buffer
    (`C14_parseNil_same_n`, `C14_parseNil_same_n_reachable`).
  All seven kinds: every reachable state satisfies `StateOK` and `I_all`
    (`reachable_stateOK_all`); there `Parse` returns `ErrEmptyBuffer` iff nothing is
    unparsed, else `nil` with `n ≥ 1` (`C03_parse_any`, `C03_empty_iff_reachable`).
-/
import LzProofs.WrapAllHist
import LzProofs.Reach

namespace LZ

/-! # Every reachable state, all seven kinds -/

/-- Every state reachable from `NewParser` by any history — for ALL seven kinds — satisfies the
    hypotheses of the parser-level theorems: `StateOK` (`W ≤ len(Data)`, `1 ≤ minMatch`,
    `1 ≤ BlockSize`, the 7 spare bytes of capacity) and `I_all` (if the search structure is OSAP's
    edge table, it satisfies `OsapOK`).  `reachable_stateOK` (ParseProps) excludes OSAP. -/
theorem reachable_stateOK_all (k : Kind) (raw : Cfg) (s0 : Parser) (h0 : newParser k raw = some s0)
    (ops : List POp) :
    StateOK (runOps (s0, Ghost.init) ops).1 ∧ I_all (runOps (s0, Ghost.init) ops).1 := by
  have hB := (reachable_runOps s0 ops).base h0
  exact ⟨⟨hB.hw, hB.mm, hB.bs, hB.room.2⟩, hB.mm, hB.bs, hB.osap⟩

/-- C03 for one call, all seven kinds (state with `StateOK`, `I_all`):
    `Parse` returns `ErrEmptyBuffer` iff nothing is unparsed (then `n = 0`, an emptied block, state
    untouched); otherwise it returns `nil`, consumes `1 ≤ n ≤ min(unparsed, BlockSize)` bytes, only
    `W` moves (by `n`), and without `NoTrailingLiterals` `n = min(unparsed, BlockSize)`. -/
theorem C03_parse_any (s : Parser) (flags : Nat) (hs : StateOK s) (hI : I_all s) :
    ((s.parse flags).2.2.1 = .empty ↔ s.buf.w = s.buf.data.length) ∧
    (s.buf.w = s.buf.data.length → s.parse flags = (s, 0, .empty, ⟨[], []⟩)) ∧
    (s.buf.w < s.buf.data.length →
      (s.parse flags).2.2.1 = .ok ∧ 1 ≤ (s.parse flags).2.1 ∧
      (s.parse flags).2.1 ≤ min (s.buf.data.length - s.buf.w) s.buf.cfg.blockSize ∧
      (s.parse flags).1.buf = { s.buf with w := s.buf.w + (s.parse flags).2.1 } ∧
      (flags % 2 = 0 →
        (s.parse flags).2.1 = min (s.buf.data.length - s.buf.w) s.buf.cfg.blockSize)) := by
  have hemp : s.buf.w = s.buf.data.length → s.parse flags = (s, 0, .empty, ⟨[], []⟩) :=
    fun h => C03_parse_empty s flags (by omega)
  refine ⟨⟨fun h => ?_, fun h => by rw [hemp h]⟩, hemp, fun hlt => ?_⟩
  · rcases Nat.lt_or_ge s.buf.w s.buf.data.length with hl | hl
    · obtain ⟨s', n, blk, Q, hp, -⟩ := Parser.parse_ok_any s flags hs hI hl
      rw [hp] at h; cases h
    · exact Nat.le_antisymm hs.w_le hl
  · obtain ⟨s', n, blk, Q, hp, hok⟩ := Parser.parse_ok_any s flags hs hI hlt
    rw [hp]
    refine ⟨rfl, hok.n_pos, hok.n_le, hok.buf, fun hf => ?_⟩
    have := hok.block.full (Or.inl hf)
    rw [s.blockPrefix_length hs.w_le] at this
    show n = s.blockN
    omega

/-- C03 at history level, all seven kinds (HP, BHP, DHP, BDHP, BUP, GSAP, OSAP): in every
    state reachable from `NewParser` by any sequence of Write, ReadFrom, Parse (any flags),
    Parse(nil), Shrink, Reset, the next `Parse(&blk, flags)` returns `ErrEmptyBuffer` iff nothing is
    unparsed (`W = len(Data)`; then `n = 0` and the state is untouched), and otherwise returns
    `nil` and consumes at least one byte (at most `min(unparsed, BlockSize)`; exactly that many
    without `NoTrailingLiterals`). -/
theorem C03_empty_iff_reachable (k : Kind) (raw : Cfg) (s0 : Parser)
    (h0 : newParser k raw = some s0) (ops : List POp) (flags : Nat) :
    let s := (runOps (s0, Ghost.init) ops).1
    s.buf.w ≤ s.buf.data.length ∧
    ((s.parse flags).2.2.1 = .empty ↔ s.buf.w = s.buf.data.length) ∧
    (s.buf.w = s.buf.data.length → s.parse flags = (s, 0, .empty, ⟨[], []⟩)) ∧
    (s.buf.w < s.buf.data.length →
      (s.parse flags).2.2.1 = .ok ∧ 1 ≤ (s.parse flags).2.1 ∧
      (s.parse flags).2.1 ≤ min (s.buf.data.length - s.buf.w) s.buf.cfg.blockSize ∧
      (s.parse flags).1.buf = { s.buf with w := s.buf.w + (s.parse flags).2.1 } ∧
      (flags % 2 = 0 →
        (s.parse flags).2.1 = min (s.buf.data.length - s.buf.w) s.buf.cfg.blockSize)) := by
  intro s
  obtain ⟨hs, hI⟩ := reachable_stateOK_all k raw s0 h0 ops
  exact ⟨hs.w_le, C03_parse_any s flags hs hI⟩

/-! # `Parse(nil)` consumes what `Parse(&blk, 0)` would consume -/

/-- C14, `Parse(nil)` against a normal `Parse` (all seven kinds; state with `StateOK`, `I_all`;
    `flags` without `NoTrailingLiterals`): both calls return the same `n = min(BlockSize, unparsed)`
    and the same error (`nil`, or `ErrEmptyBuffer` when nothing is unparsed), and the parser
    buffers afterwards are equal (`Data`, `W`, `Off`, capacity, configuration — in particular
    `data` and `w`).  Only the search structure may differ. -/
theorem C14_parseNil_same_n (s : Parser) (flags : Nat) (hf : flags % 2 = 0) (hs : StateOK s)
    (hI : I_all s) :
    s.parseNil.2.1 = (s.parse flags).2.1 ∧
    s.parseNil.2.2 = (s.parse flags).2.2.1 ∧
    s.parseNil.1.buf = (s.parse flags).1.buf ∧
    s.parseNil.1.buf.data = (s.parse flags).1.buf.data ∧
    s.parseNil.1.buf.w = (s.parse flags).1.buf.w ∧
    s.parseNil.2.1 = min s.buf.cfg.blockSize (s.buf.data.length - s.buf.w) ∧
    (s.parse flags).2.1 = min s.buf.cfg.blockSize (s.buf.data.length - s.buf.w) := by
  have hbn : s.blockN = min s.buf.cfg.blockSize (s.buf.data.length - s.buf.w) := by
    unfold Parser.blockN; omega
  by_cases hn : s.blockN = 0
  · rw [Parser.parseNil_empty s hn, Parser.parse_empty s flags hn]
    exact ⟨rfl, rfl, rfl, rfl, rfl, by simp only; omega, by simp only; omega⟩
  · have hlt : s.buf.w < s.buf.data.length := by
      rw [Parser.blockN_eq_zero_iff s hs.w_le hs.blockSize] at hn
      have := hs.w_le; omega
    obtain ⟨s1, h1, -, -, hb1⟩ := Parser.parseNil_ok s hn
    obtain ⟨s2, n, blk, Q, hp, hok⟩ := Parser.parse_ok_any s flags hs hI hlt
    have hl := s.blockPrefix_length hs.w_le
    have hfull := hok.block.full (Or.inl hf)
    rw [hl] at hfull
    have hnn : n = s.blockN := by omega
    subst hnn
    rw [h1, hp]
    have hbuf : s1.buf = s2.buf := by rw [hb1, hok.buf]
    exact ⟨rfl, rfl, hbuf, congrArg PBuf.data hbuf, congrArg PBuf.w hbuf, hbn, hbn⟩

/-- the same in every state reachable from `NewParser` (all seven kinds, any history) -/
theorem C14_parseNil_same_n_reachable (k : Kind) (raw : Cfg) (s0 : Parser)
    (h0 : newParser k raw = some s0) (ops : List POp) (flags : Nat) (hf : flags % 2 = 0) :
    let s := (runOps (s0, Ghost.init) ops).1
    s.parseNil.2.1 = (s.parse flags).2.1 ∧
    s.parseNil.2.2 = (s.parse flags).2.2.1 ∧
    s.parseNil.1.buf = (s.parse flags).1.buf ∧
    s.parseNil.1.buf.data = (s.parse flags).1.buf.data ∧
    s.parseNil.1.buf.w = (s.parse flags).1.buf.w ∧
    s.parseNil.2.1 = min s.buf.cfg.blockSize (s.buf.data.length - s.buf.w) ∧
    (s.parse flags).2.1 = min s.buf.cfg.blockSize (s.buf.data.length - s.buf.w) := by
  intro s
  obtain ⟨hs, hI⟩ := reachable_stateOK_all k raw s0 h0 ops
  exact C14_parseNil_same_n s flags hf hs hI

end LZ

#print axioms LZ.reachable_stateOK_all
#print axioms LZ.Parser.parse_ok_any
#print axioms LZ.C03_parse_any
#print axioms LZ.C03_empty_iff_reachable
#print axioms LZ.C14_parseNil_same_n
#print axioms LZ.C14_parseNil_same_n_reachable

/-! # OSAP: `MinMatchLen ≤ MatchLen ≤ MaxMatchLen` for every emitted sequence, history level -/

namespace LZ

theorem SeqsAll.forall_mem {P : Nat → Seq → Prop} {R : Seq → Prop} (h : ∀ pos s, P pos s → R s) :
    ∀ (pos : Nat) (ss : List Seq), SeqsAll P pos ss → ∀ s ∈ ss, R s := by
  intro pos ss
  induction ss generalizing pos with
  | nil => intro _ s hs; cases hs
  | cons a ss ih =>
    intro ⟨h1, h2⟩ s hs
    rcases List.mem_cons.mp hs with rfl | hs
    · exact h _ _ h1
    · exact ih _ h2 s hs

/-- for OSAP `minMatch` is the configured `MinMatchLen` -/
theorem mmOf_osap (c : Cfg) : mmOf .OSAP c = c.minMatchLen.toNat := rfl

theorem Parser.parse_osap_matchLen (s : Parser) (flags : Nat) (o : OsapD) (hd : s.dict = .osap o)
    (hI : I_all s) (hw : s.buf.w ≤ s.buf.data.length) :
    (∀ sq ∈ (s.parse flags).2.2.2.seqs,
      s.minMatch ≤ sq.matchLen ∧ sq.matchLen ≤ s.cfg.maxMatchLen.toNat) ∧
    ∃ o', (s.parse flags).1.dict = .osap o' := by
  by_cases hn : s.blockN = 0
  · rw [Parser.parse_empty s flags hn]
    exact ⟨fun sq h => (by cases h), o, hd⟩
  · obtain ⟨s', n, blk, hp, hok, hd', -⟩ := Parser.parse_osap_all s flags o hd hI hw hn
    rw [hp]
    refine ⟨?_, _, hd'⟩
    show ∀ sq ∈ blk.seqs, _
    refine SeqsAll.forall_mem ?_ _ _ hok.block.all
    intro pos sq hq
    exact ⟨hq.1.1.2.2.2.1, hq.1.2⟩

/-- OSAP, history level: `MinMatchLen ≤ MatchLen ≤ MaxMatchLen`.  For every accepted OSAP
    configuration and every history of Write, ReadFrom, Parse (BOTH flags), Parse(nil), Shrink and
    Reset, every sequence of every block emitted since the last Reset has its match length in
    `[MinMatchLen, MaxMatchLen]` of the (defaults-completed) configuration.  Unconditional
    (`computeEdgesSound_holds`).  (`C02_wellformed` only has the lower bound; `C11_optimal_history`
    has both bounds for flags 0 through `LzParse`.) -/
theorem C11_history_matchLen_le_max (raw : Cfg) (s0 : Parser) (h0 : newParser .OSAP raw = some s0)
    (ops : List POp) :
    let sg := runOps (s0, Ghost.init) ops
    (∀ e ∈ sg.2.log, ∀ n fl blk, e = Event.block n fl blk → ∀ sq ∈ blk.seqs,
      s0.cfg.minMatchLen.toNat ≤ sq.matchLen ∧ sq.matchLen ≤ s0.cfg.maxMatchLen.toNat) ∧
    -- … and the same for the block the NEXT `Parse` returns, whatever its flags
    (∀ flags, ∀ sq ∈ (sg.1.parse flags).2.2.2.seqs,
      s0.cfg.minMatchLen.toNat ≤ sq.matchLen ∧ sq.matchLen ≤ s0.cfg.maxMatchLen.toNat) ∧
    sg.1.cfg = s0.cfg := by
  intro sg
  -- one `Parse` on a reachable state
  have call : ∀ ops flags, ∀ sq ∈ ((runOps (s0, Ghost.init) ops).1.parse flags).2.2.2.seqs,
      s0.cfg.minMatchLen.toNat ≤ sq.matchLen ∧ sq.matchLen ≤ s0.cfg.maxMatchLen.toNat := by
    intro ops flags
    have hB := (reachable_runOps s0 ops).base h0
    obtain ⟨o, hdd⟩ := hB.shape.osap
    have hm := (Parser.parse_osap_matchLen _ flags o hdd ⟨hB.mm, hB.bs, hB.osap⟩ hB.hw).1
    rwa [minMatch_eq, hB.kind, hB.cfg] at hm
  refine ⟨?_, call ops, ((reachable_runOps s0 ops).base h0).cfg⟩
  -- every block of the log was returned by such a call
  intro e he n fl blk heq
  subst heq
  obtain ⟨ops1, -, -, hp⟩ := log_block_origin s0 ops n fl blk he
  have := call ops1 fl
  rwa [hp] at this

/-- non-vacuity: the hypotheses are met by the OSAP parser and the history of GlueProps
    (MinMatchLen 2, MaxMatchLen 20; `Write("ababab")`, `Parse(nil)`, `Shrink`, `Write("abab")`), with
    a `Parse` with and one without `NoTrailingLiterals` appended -/
example := C11_history_matchLen_le_max Sap.glueOsapCfg Sap.glueOsap0 Sap.glueOsap0_new
  (glueOpsP ++ [.parse 1, .parse 0])

end LZ

#print axioms LZ.C11_history_matchLen_le_max
