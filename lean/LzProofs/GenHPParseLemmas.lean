/-
  LzProofs.GenHPParseLemmas — what the proofs "translated `Parse` = `ProbeW.parseW`" of all hash parsers share below
  the level of a loop: slice expressions and `_getLE64` loads on slice VALUES versus the list-level Go accesses of
  LzModel/BytesW.lean, the table abstraction `ofHashT` under `table[h] = e` / `table[h]`, one table insertion
  (`insert_step`), the re-indexing loop of one table (`reindex_loop`, an instance of `GenParse.insert_loop`),
  `processSegment` of hash.go versus `ProbeW.processSegment1W`, and the Go representation of a block (`seqRep`).
  The do-free forms of the model's match extension and first-word compare are in BytesLemmas.
-/
import LzProofs.GenHPParseLemmasBytes
import LzProofs.ProbeWForms
import LzProofs.GenHashPropsDict
import LzProofs.GenPropsHash
import LzProofs.GenInsertLoop

set_option linter.unusedSimpArgs false
set_option linter.unusedVariables false

namespace LZ.GenHPParse
open LZ LZ.Gen LZ.GenBuf LZ.GenHash

/-- `omega` after normalising the `Int.ofNat n` of the generated text to `↑n` -/
macro "int_omega" : tactic => `(tactic| ((try simp only [Int.ofNat_eq_natCast] at *); omega))

theorem bind_trans {α β : Type} {a : Res α} {v : α} {f : α → Res β} {r : Res β}
    (h1 : a = Res.ok v) (h2 : f v = r) : Res.bind a f = r := by rw [h1]; exact h2

/-! ## clamps: every spelling of `if x ⋚ y then … else …` that computes a minimum or maximum, as `min` / `max`
    (`>`/`≥` are `<`/`≤` with the operands exchanged; simp sees through that) -/

theorem ite_lt_min (x y : Int) : (if x < y then x else y) = Min.min x y := by split <;> omega
theorem ite_le_min (x y : Int) : (if x ≤ y then x else y) = Min.min x y := by split <;> omega
theorem ite_lt_max (x y : Int) : (if x < y then y else x) = Max.max x y := by split <;> omega
theorem ite_le_max (x y : Int) : (if x ≤ y then y else x) = Max.max x y := by split <;> omega

/-! ## slice expressions -/

theorem data_mk (arr : List UInt8) (len : Nat) : ({ arr := arr, len := len } : Slice).data = arr.take len := rfl

theorem data_drop (arr : List UInt8) (len i : Nat) :
    ({ arr := arr.drop i, len := len - i } : Slice).data = (arr.take len).drop i := by
  simp only [Slice.data, List.drop_take]

theorem data_drop' (r : Slice) (i : Nat) :
    ({ arr := r.arr.drop i, len := r.len - i } : Slice).data = r.data.drop i := data_drop r.arr r.len i

theorem swf_drop (arr : List UInt8) (len i : Nat) (h : len ≤ arr.length) :
    SWF { arr := arr.drop i, len := len - i } := by
  unfold SWF; simp only [List.length_drop]; omega

theorem take_append_drop_data (d : Slice) : d.data ++ d.arr.drop d.len = d.arr := by
  unfold Slice.data; exact List.take_append_drop _ _

/-- `_getLE64(_p[a:])` for a position with 8 bytes inside `_p`: no panic; the value is the one of the
    list-level access `le64 (sliceFrom _p a)` -/
theorem gen_load_ok (_p : Slice) (h : SWF _p) (a : Int) (i : Nat) (ha : a = (i : Int)) (hi : i + 8 ≤ _p.len) :
    ∃ y, (BytesW.sliceFrom _p.data i).bind BytesW.le64 = some y ∧
      ∀ {β : Type} (F : UInt64 → Res β),
        Res.bind (Slice.slice _p a (Int.ofNat _p.len)) (fun t => Res.bind (Gen._getLE64 t) F) = F y := by
  have hlen : _p.data.length = _p.len := data_length h
  have h' : _p.len ≤ _p.arr.length := h
  have h8 : 8 ≤ (_p.data.drop i).length := by rw [List.length_drop, hlen]; omega
  refine ⟨BytesW.getLE64 (_p.data.drop i), ?_, ?_⟩
  · rw [BytesW.sliceFrom_eq_some _ _ (by omega)]
    exact BytesW.le64_eq_some _ h8
  · intro β F
    rw [slice_okI _p a (Int.ofNat _p.len) i _p.len ha rfl (by omega) h', bind_ok,
      gen_le64 _ (swf_drop _ _ _ h'), data_drop]
    show Res.bind (ofOpt (BytesW.le64 (_p.data.drop i))) F = _
    rw [BytesW.le64_eq_some _ h8]
    rfl

/-! ## the table -/

/-- the parser state with another table (the only thing the loops of `Parse` change besides `W`) -/
@[reducible] def setT (s : Gen.hashParser) (t : GSlice hashEntry) : Gen.hashParser :=
  { s with hashDictionary := { s.hashDictionary with hash := { s.hashDictionary.hash with table := t } } }

/-- the model table a Go `hash` with table `t` stands for -/
def ofHashT (g : Gen.hash) (t : GSlice hashEntry) : HashT := ofHash { g with table := t }

theorem ofHashT_self (g : Gen.hash) : ofHashT g g.table = ofHash g := rfl

theorem ofHashT_inputLen (g : Gen.hash) (t : GSlice hashEntry) : (ofHashT g t).inputLen = g.inputLen.toNat := rfl
theorem ofHashT_hashBits (g : Gen.hash) (t : GSlice hashEntry) : (ofHashT g t).hashBits = 64 - g.shift.toNat := rfl

/-- `t[idx] = e` on the table value -/
@[reducible] def tset (t : GSlice hashEntry) (idx : Nat) (e : hashEntry) : GSlice hashEntry :=
  { t with arr := t.arr.set idx e }

theorem ofHashT_set (g : Gen.hash) (t : GSlice hashEntry) (idx : Nat) (e : hashEntry) :
    ofHashT g (tset t idx e) =
      { ofHashT g t with tbl := (ofHashT g t).tbl.setIfInBounds idx (ofEntry e) } := by
  unfold ofHashT ofHash
  simp only [GSlice.data, List.take_set, List.map_set, List.setIfInBounds_toArray]

theorem ofHashT_get (g : Gen.hash) (t : GSlice hashEntry) (ht : GWF t) (idx : Nat) (hidx : idx < t.len) :
    (ofHashT g t).tbl.getD idx (0, 0) = ofEntry ((t.arr[idx]?).getD zeroE) := by
  unfold ofHashT ofHash
  have h' : idx < t.arr.length := by unfold GWF at ht; omega
  simp [GSlice.data, List.getElem?_take, hidx, h']

theorem gwf_set (t : GSlice hashEntry) (ht : GWF t) (idx : Nat) (e : hashEntry) :
    GWF ({ t with arr := t.arr.set idx e } : GSlice hashEntry) := by
  unfold GWF at *; simpa using ht

/-- `hashValue(x, shift)` of the translation is the model's `hashValue x hashBits` and lies inside a table
    of `2^hashBits` entries, for `32 ≤ shift ≤ 64` (`hashBits ≤ 32`; `Verify` enforces `≤ 24`) -/
theorem gen_hashValue_shift (x : UInt64) (shift : UInt64) (h1 : 32 ≤ shift.toNat) (h2 : shift.toNat ≤ 64) :
    (Gen.hashValue x shift).toNat = LZ.hashValue x (64 - shift.toNat) ∧
      LZ.hashValue x (64 - shift.toNat) < 2 ^ (64 - shift.toNat) := by
  have e : shift = 64 - UInt64.ofNat (64 - shift.toNat) := by
    rw [GenProps.shift_eq _ (by omega)]
    apply UInt64.toNat_inj.mp
    simp only [UInt64.toNat_ofNat']
    rw [Nat.mod_eq_of_lt (by omega)]; omega
  refine ⟨?_, GenProps.hashValue_lt x _ (by omega)⟩
  conv => lhs; rw [e]
  exact GenProps.gen_hashValue x (64 - shift.toNat) (by omega)

/-! ## one table insertion: `x := _getLE64(_p[j:]) & mask; table[hashValue(x, shift)] = hashEntry{uint32(j), uint32(x)}` -/

/-- what the loops need to know about the fixed part of the Go `hash` value and the resliced buffer `_p`
    (stated over the three scalar fields so that it does not mention the table) -/
structure TCtx (mask shift : UInt64) (inputLen : Int) (_p : Slice) : Prop where
  swf : SWF _p
  mask : mask = maskOf inputLen.toNat
  sh1 : 32 ≤ shift.toNat
  sh2 : shift.toNat ≤ 64
  small : _p.len < 4294967296 + 8

def TOK (shift : UInt64) (t : GSlice hashEntry) : Prop := GWF t ∧ t.len = 2 ^ (64 - shift.toNat)

theorem lo32_eq (x : UInt64) : x.toUInt32.toNat = lo32 x := by
  rw [UInt64.toNat_toUInt32]; rfl

theorem insert_step (g : Gen.hash) (_p : Slice) (c : TCtx g.mask g.shift g.inputLen _p)
    (t : GSlice hashEntry) (ht : TOK g.shift t) (a : Int) (j : Nat) (ha : a = (j : Int)) (hj : j + 8 ≤ _p.len) :
    ∃ y t', (BytesW.sliceFrom _p.data j).bind BytesW.le64 = some y ∧
      (∀ {β : Type} (F : UInt64 → Res β),
        Res.bind (Slice.slice _p a (Int.ofNat _p.len)) (fun u => Res.bind (Gen._getLE64 u) F) = F y) ∧
      GSlice.set t (Int.ofNat (Gen.hashValue (y &&& g.mask) g.shift).toNat)
        ({ pos := UInt32.ofInt a, value := (y &&& g.mask).toUInt32 } : hashEntry) = Res.ok t' ∧
      TOK g.shift t' ∧ ProbeW.insertW (ofHashT g t) _p.data j = some (ofHashT g t') := by
  obtain ⟨y, hy, hF⟩ := gen_load_ok _p c.swf a j ha hj
  obtain ⟨hv, hlt⟩ := gen_hashValue_shift (y &&& g.mask) g.shift c.sh1 c.sh2
  have hs := c.small
  refine ⟨y, _, hy, hF, gset_ok t _ _ rfl (by rw [hv, ht.2]; exact hlt) _, ⟨gwf_set t ht.1 _ _, ht.2⟩, ?_⟩
  unfold ProbeW.insertW ProbeW.loadKey
  simp only [Option.bind_eq_bind, Option.pure_def] at hy ⊢
  cases hsf : BytesW.sliceFrom _p.data j with
  | none => rw [hsf] at hy; cases hy
  | some l =>
    rw [hsf, Option.bind_some] at hy
    simp only [Option.bind_some, hy]
    rw [ofHashT_set, hv]
    simp only [ofHashT_inputLen, ofHashT_hashBits, c.mask, ofEntry, lo32_eq,
      toNat_ofInt32 j a ha (by omega)]

/-! ## the re-indexing loops versus `insertRangeW` -/

/-- A loop `for ; j < b; j++ { x := _getLE64(_p[j:]) & h.mask; h.table[hashValue(x, h.shift)] = hashEntry{j, x} }` on the
    table of the `hash` value `g s` inside a state `s`, given by what ONE call does: past the bound it returns
    (`hend`); below it, once the load and the store are evaluated, it is the call for `j + 1` (`hiter`).  `d` = further
    parameters the loop function carries along, `bnd d` = its bound.  It runs `ProbeW.insertRangeW`. -/
theorem reindex_loop {σ ι : Type} (F : ι → Nat → Int → σ → Res (Int × σ)) (bnd : ι → Int) (_p : Slice)
    (g : σ → Gen.hash) (setTb : σ → GSlice hashEntry → σ)
    (hg : ∀ s t, g (setTb s t) = { g s with table := t }) (hset2 : ∀ s t u, setTb (setTb s t) u = setTb s u)
    (hself : ∀ s, setTb s (g s).table = s)
    (hend : ∀ d fuel (a : Int) s, ¬ a < bnd d → F d (fuel + 1) a s = Res.ok (a, s))
    (hiter : ∀ d fuel (a : Int) s (y : UInt64) t', a < bnd d →
      (∀ {β : Type} (K : UInt64 → Res β),
        Res.bind (Slice.slice _p a (Int.ofNat _p.len)) (fun u => Res.bind (Gen._getLE64 u) K) = K y) →
      GSlice.set (g s).table (Int.ofNat (Gen.hashValue (y &&& (g s).mask) (g s).shift).toNat)
        ({ pos := UInt32.ofInt a, value := (y &&& (g s).mask).toUInt32 } : hashEntry) = Res.ok t' →
      F d (fuel + 1) a s = F d fuel (a + 1) (setTb s t'))
    (n fuel j : Nat) (s : σ) (hf : n < fuel) (hn : n = 0 ∨ j + n + 7 ≤ _p.len)
    (c : TCtx (g s).mask (g s).shift (g s).inputLen _p) (ht : TOK (g s).shift (g s).table) :
    ∃ t', TOK (g s).shift t' ∧
      ProbeW.insertRangeW (ofHash (g s)) _p.data j n = some (ofHashT (g s) t') ∧
      ∀ (d : ι) (a : Int), a = (j : Int) → n = (bnd d - a).toNat →
        F d fuel a s = Res.ok (((j + n : Nat) : Int), setTb s t') := by
  obtain ⟨_, ⟨t', rfl, ht'⟩, hr, hl⟩ := GenParse.insert_loop F bnd (fun s => ofHash (g s))
    (fun h j => ProbeW.insertW h _p.data j) (fun h j n => ProbeW.insertRangeW h _p.data j n) (fun _ _ => rfl)
    (fun _ _ _ => rfl) (fun s' => ∃ t, s' = setTb s t ∧ TOK (g s).shift t) j (j + n) hend
    (fun i s' ⟨t, hs', ht⟩ hlo hhi => by
      subst hs'
      obtain ⟨y, t1, hy, hF, hset, ht1, hins⟩ := insert_step (g s) _p c t ht (i : Int) i rfl (by omega)
      refine ⟨setTb s t1, ⟨t1, rfl, ht1⟩, by rw [hg, hg]; exact hins, fun d fuel hb => ?_⟩
      rw [hiter d fuel _ _ y t1 hb hF (by rw [hg]; exact hset), hset2])
    n fuel j s hf (Nat.le_refl _) (Nat.le_refl _) ⟨(g s).table, (hself s).symm, ht⟩
  exact ⟨t', ht', by rw [hg] at hr; exact hr, hl⟩

@[reducible] def setD (f : Gen.hashDictionary) (t : GSlice hashEntry) : Gen.hashDictionary :=
  { f with hash := { f.hash with table := t } }

/-- the loop of `processSegment` (`for i := a; i < b; i++ { … }`), for every bound `b` with `n = b - a` iterations -/
theorem psegLoop_eq (_p : Slice) (n fuel j : Nat) (f : Gen.hashDictionary) (hf : n < fuel)
    (hn : n = 0 ∨ j + n + 7 ≤ _p.len) (c : TCtx f.hash.mask f.hash.shift f.hash.inputLen _p)
    (ht : TOK f.hash.shift f.hash.table) :
    ∃ t', TOK f.hash.shift t' ∧
      ProbeW.insertRangeW (ofHash f.hash) _p.data j n = some (ofHashT f.hash t') ∧
      ∀ (a b : Int), a = (j : Int) → n = (b - a).toNat →
        hashDictionary_processSegment_loop_1 b _p fuel a f = Res.ok (((j + n : Nat) : Int), setD f t') := by
  obtain ⟨t', ht', hr, hl⟩ := reindex_loop (fun b => hashDictionary_processSegment_loop_1 b _p) id _p
    (fun f => f.hash) setD (fun _ _ => rfl) (fun _ _ _ => rfl) (fun _ => rfl)
    (fun b fuel a f (h : ¬ a < b) => by
      rw [hashDictionary_processSegment_loop_1]
      first | rw [if_neg (by omega)] | rw [if_pos (by omega)])
    (fun b fuel a f y t' (h : a < b) hF hset => by
      rw [hashDictionary_processSegment_loop_1]
      first | rw [if_pos (by omega)] | rw [if_neg (by omega)]
      rw [hF]; dsimp only; rw [hset, bind_ok])
    n fuel j f hf hn c ht
  exact ⟨t', ht', hr, fun a b => hl b a⟩

/-- **`processSegment(a, b)`** of hash.go, translated, versus `ProbeW.processSegment1W` on the elements of
    `f.Data` and the stale bytes behind them: same panic (the reslice `f.Data[:b+7]`), same table -/
theorem gen_processSegment (fuel : Nat) (f : Gen.hashDictionary) (a b : Int)
    (hD : SWF f.ParserBuffer.Data) (hil : 0 ≤ f.hash.inputLen)
    (hmask : f.hash.mask = maskOf f.hash.inputLen.toNat) (sh1 : 32 ≤ f.hash.shift.toNat)
    (sh2 : f.hash.shift.toNat ≤ 64) (ht : TOK f.hash.shift f.hash.table)
    (hsmall : f.ParserBuffer.Data.len < 4294967296) (hfuel : f.ParserBuffer.Data.len + 2 ≤ fuel) :
    match ProbeW.processSegment1W (ofHash f.hash) f.ParserBuffer.Data.data
        (f.ParserBuffer.Data.arr.drop f.ParserBuffer.Data.len) a b with
    | none => hashDictionary_processSegment fuel f a b = Res.panic
    | some h' => ∃ t', TOK f.hash.shift t' ∧ h' = ofHashT f.hash t' ∧
        hashDictionary_processSegment fuel f a b = Res.ok (setD f t') := by
  have hil' : (((ofHash f.hash).inputLen : Nat) : Int) = f.hash.inputLen := by
    show ((f.hash.inputLen.toNat : Nat) : Int) = _; omega
  -- the two clamps as `max` / `min`, on both sides: `a'`, `b'`
  unfold ProbeW.processSegment1W
  simp only [Option.bind_eq_bind]
  rw [data_length hD, hil', ite_lt_max, ite_lt_min]
  generalize hG : hashDictionary_processSegment fuel f a b = G
  unfold hashDictionary_processSegment at hG
  dsimp only at hG
  -- (a clamp written as a swap `c, b = b, c` is a projection of a pair-valued `if`)
  simp only [apply_ite Prod.snd, LZ.GenProps.gen_min, ite_lt_min, ite_le_min, ite_lt_max, ite_le_max, Int.ofNat_eq_natCast] at hG
  obtain ⟨a', ha'⟩ : ∃ a', Max.max a 0 = a' := ⟨_, rfl⟩
  obtain ⟨b', hb'⟩ : ∃ b', Min.min ((f.ParserBuffer.Data.len : Int) - f.hash.inputLen + 1) b = b' := ⟨_, rfl⟩
  simp only [ha', hb', (Int.max_comm _ _).trans ha', (Int.min_comm _ _).trans hb'] at hG ⊢
  by_cases hb0 : b' ≤ 0
  · rw [if_pos hb0]
    first | rw [if_pos (by omega)] at hG | rw [if_neg (by omega)] at hG
    exact ⟨f.hash.table, ht, rfl, hG.symm⟩
  rw [if_neg hb0]
  first | rw [if_neg (by omega)] at hG | rw [if_pos (by omega)] at hG
  unfold BytesW.sliceTo
  rw [take_append_drop_data]
  by_cases hcap : b'.toNat + 7 ≤ f.ParserBuffer.Data.arr.length
  · rw [if_pos hcap, Option.bind_some]
    have c : TCtx f.hash.mask f.hash.shift f.hash.inputLen
        { arr := f.ParserBuffer.Data.arr, len := b'.toNat + 7 } :=
      ⟨hcap, hmask, sh1, sh2, by show b'.toNat + 7 < _; omega⟩
    obtain ⟨t', ht', hr, hl⟩ := psegLoop_eq { arr := f.ParserBuffer.Data.arr, len := b'.toNat + 7 }
      (b'.toNat - a'.toNat) fuel a'.toNat f (by omega)
      (by show _ ∨ _ ≤ b'.toNat + 7; omega) c ht
    rw [data_mk] at hr
    rw [hr]
    rw [slice_okI f.ParserBuffer.Data 0 _ 0 (b'.toNat + 7) rfl (by omega) (by omega) hcap, bind_ok] at hG
    simp only [List.drop_zero, Nat.sub_zero] at hG
    rw [hl _ _ (by omega) (by omega), bind_ok] at hG
    exact ⟨t', ht', rfl, hG.symm⟩
  · rw [if_neg hcap]
    rw [slice_panic _ _ _ (by right; right; omega)] at hG
    exact hG.symm

/-- `gen_processSegment` for the dictionary of a parser state, read against the model's call wherever it occurs:
    `hr` is the model's call as the goal spells it (its arguments are found by unification), `a'`, `b'` are the
    arguments of the Go call -/
theorem gen_processSegment_at (fuel : Nat) (f : Gen.hashDictionary) (hwf : DictWF f)
    (hsh : 32 ≤ f.hash.shift.toNat) (hsmall : f.ParserBuffer.Data.len < 4294967296)
    (hfuel : f.ParserBuffer.Data.len + 2 ≤ fuel) {data stale : List UInt8} {a b : Int} {r : Option HashT}
    (hr : ProbeW.processSegment1W (ofHash f.hash) data stale a b = r) (a' b' : Int)
    (hdata : data = f.ParserBuffer.Data.data)
    (hstale : stale = f.ParserBuffer.Data.arr.drop f.ParserBuffer.Data.len) (ha : a = a') (hb : b = b') :
    match (generalizing := false) r with
    | none => hashDictionary_processSegment fuel f a' b' = Res.panic
    | some h' => ∃ t', TOK f.hash.shift t' ∧ h' = ofHashT f.hash t' ∧
        hashDictionary_processSegment fuel f a' b' = Res.ok (setD f t') := by
  subst hr hdata hstale ha hb
  obtain ⟨hgwf, hil0, hmask, hsh2, htl⟩ := hwf.2
  exact gen_processSegment fuel f a b hwf.1.data hil0 hmask hsh hsh2 ⟨hgwf, htl⟩ hsmall hfuel

/-! ## the block a greedy loop builds -/

/-- the Go `Seq` a model sequence stands for (`uint32(…)` conversions as in hp.go) -/
def seqRep (q : LZ.Seq) : Gen.Seq :=
  { LitLen := UInt32.ofInt (q.litLen : Int), MatchLen := UInt32.ofInt (q.matchLen : Int),
    Offset := UInt32.ofInt (q.offset : Int), Aux := 0 }

theorem lits_eq (A : List UInt8) (L li i : Nat) (hi : i ≤ L) :
    ((A.take L).drop li).take (i - li) = (A.drop li).take (i - li) := by
  rw [List.drop_take, List.take_take, Nat.min_eq_left (by omega)]

theorem swf_append (g : Nat → Nat → Nat) (s : Slice) (h : SWF s) (bs : List UInt8) : SWF (Slice.append g s bs) := by
  obtain ⟨_, h2, h3⟩ := append_spec g s h bs
  unfold SWF at *
  rw [h2, h3]
  split <;> omega

/-- what lies behind position `L` of a slice value `A[:len]`: the rest of its elements, then the rest of the array -/
theorem behind_eq (A : List UInt8) (len L : Nat) (h : L ≤ len) :
    (A.take len).drop L ++ A.drop len = A.drop L := by
  rw [List.drop_take]
  have : A.drop len = (A.drop L).drop (len - L) := by rw [List.drop_drop]; congr 1; omega
  rw [this, List.take_append_drop]

theorem iand_one (flags : Int) (h : 0 ≤ flags) : iand flags 1 ≠ 0 ↔ flags.toNat % 2 = 1 := by
  obtain ⟨m, rfl⟩ : ∃ m : Nat, flags = (m : Int) := ⟨flags.toNat, by omega⟩
  have : iand (m : Int) 1 = ((m % 2 : Nat) : Int) := by
    show Int.ofNat (m &&& 1) = _
    rw [Nat.and_one_is_mod]; rfl
  rw [this, Int.toNat_natCast]
  omega

end LZ.GenHPParse

#print axioms LZ.GenHPParse.gen_load_ok
#print axioms LZ.GenHPParse.insert_step
#print axioms LZ.GenHPParse.reindex_loop
#print axioms LZ.GenHPParse.psegLoop_eq
#print axioms LZ.GenHPParse.gen_processSegment
