/-
  LzProofs.GenBUPShrink — `Shrink` of the bucket parser BUP about the Go text.

  bucket_hash.go `(*bucketDictionary).Shrink` IS translated (LzModel/Generated/CodeBUPShrink.lean, topic BUPShrink of
  tools/extract/code_opq.go); its callee `(*bucketHash).shiftOffsets` is an OPAQUE STATE-PASSING METHOD
  (`bucketHash_shiftOffsets : bucketHash → UInt32 → Res bucketHash`, a parameter of the translated function): it takes
  `b := bh.bucket(h)` and writes through `b` (`copy(b, tmp[:i])`, `p := b[i:]; p[k] = …`) while `bh.buckets` is live, which
  the value model of slices cannot express.  Its specification against the model's `BucketT.shiftOffsets` is the hypothesis
  `ShiftSpec` below — the status `lcs` / `lcp` / `suffix.Sort` / `bitset.insert` have; the tie for `shiftOffsets` itself stays
  by correspondence (hand model `BucketT.shiftOffsets`, LzModel/Hash.lean).  No sorry, no axioms of its own.

    ShiftSpec SO          on tables satisfying `BOK`, for `delta > 0`: `SO g delta` is `Res.ok g'` with
                          `ofBucket g' = (ofBucket g).shiftOffsets delta`, `BOK g'`, scalar fields unchanged
    shiftK, shiftK_spec   the hypothesis is SATISFIABLE (a witness computed from the model)
    gen_bup_shrink        translated `bucketDictionary.Shrink` = `Parser.shrink` (same `delta`, new state; `BOK` kept)
    bup_Shrink            the promoted method `s.Shrink()` for `s *bucketParser`
    hist_shrink           `HistOKU` is preserved; the model's `delta`
-/
import LzModel.Generated.CodeBUPShrink
import LzProofs.GenBUPHist

set_option linter.unusedSimpArgs false
set_option linter.unusedVariables false

namespace LZ.GenBUPHist
open LZ LZ.Gen LZ.GenBuf LZ.GenHash LZ.GenHPParse LZ.GenBUPParse LZ.GenProps
open LZ.GenHPHist (BCOK)
open LZ.GenHist (FRel ShrinkRel)

/-- the type of the opaque `(*bucketHash).shiftOffsets` -/
abbrev SOFun := Gen.bucketHash → UInt32 → Res Gen.bucketHash

/-- **specification of the opaque callee** `(*bucketHash).shiftOffsets(delta)` against the model's
    `BucketT.shiftOffsets`: on a table with the invariant `BOK` (what `init` establishes and `add` / `reset` keep) and
    for `delta > 0` it does not panic, yields the model's table, keeps `BOK` and never writes the scalar fields. -/
def ShiftSpec (SO : SOFun) : Prop :=
  ∀ (g : Gen.bucketHash) (delta : UInt32), BOK g → 0 < delta.toNat →
    ∃ g', SO g delta = Res.ok g' ∧ ofBucket g' = (ofBucket g).shiftOffsets delta.toNat ∧ BOK g' ∧ SameCfg g g'

theorem mshrink_bucket (s : Parser) (bk : BucketT) (hd : s.dict = .bucket bk) :
    s.shrink = if s.buf.shrink.2 = 0 then (s, 0)
      else ({ s with buf := s.buf.shrink.1, dict := .bucket (bk.shiftOffsets s.buf.shrink.2) }, s.buf.shrink.2) := by
  simp only [Parser.shrink, hd]

/-- **translated `bucketDictionary.Shrink` = the model's `Parser.shrink`**, under `ShiftSpec` for the opaque callee -/
theorem gen_bup_shrink (SO : SOFun) (hSO : ShiftSpec SO) (c : Cfg) (f : Gen.bucketDictionary) (h : BDictWF f)
    (hbok : BOK f.bucketHash)
    (hw : f.ParserBuffer.W - f.ParserBuffer.BufConfig.ShrinkSize ≤ f.ParserBuffer.Data.len)
    (hW : f.ParserBuffer.W < 4294967296) :
    ∃ f', bucketDictionary_Shrink SO f = Res.ok (f', ((Parser.shrink (ofBDict c f)).2 : Int)) ∧
      ofBDict c f' = (Parser.shrink (ofBDict c f)).1 ∧ BDictWF f' ∧ BOK f'.bucketHash ∧
      SameCfg f.bucketHash f'.bucketHash := by
  obtain ⟨hpb, hh⟩ := h
  obtain ⟨b', hb, hof, hwf⟩ := gen_pbuf_shrink f.ParserBuffer hpb hw
  unfold bucketDictionary_Shrink
  rw [hb]
  simp only [bind_ok]
  rw [mshrink_bucket (ofBDict c f) (ofBucket f.bucketHash) rfl]
  have hbuf : (ofBDict c f).buf = ofPB f.ParserBuffer := rfl
  rw [hbuf]
  rcases hr : PBuf.shrink (ofPB f.ParserBuffer) with ⟨rb, d⟩
  rw [hr] at hof
  simp only
  have hdlt : d < 2 ^ 32 := by
    have : d = (PBuf.shrink (ofPB f.ParserBuffer)).2 := by rw [hr]
    rw [this]; unfold PBuf.shrink
    have hw0 := hpb.w
    split
    · simp
    · simp only [ofPB]; omega
  by_cases hd : d = 0
  · subst hd
    have hrb : rb = ofPB f.ParserBuffer := by
      have e : rb = (PBuf.shrink (ofPB f.ParserBuffer)).1 := by rw [hr]
      rw [e]
      exact PBuf.shrink_zero _ (by rw [hr])
    simp only [if_true]
    first | rw [if_neg (by omega)] | rw [if_pos (by omega)]
    refine ⟨_, rfl, ?_, ⟨hwf, hh⟩, hbok, SameCfg.refl _⟩
    simp only [ofBDict, hof, hrb]
  · have hdt : (UInt32.ofInt (d : Int)).toNat = d := toNat_ofInt32_small d hdlt
    obtain ⟨g', hg, hofg, hbg, hsc⟩ := hSO f.bucketHash (UInt32.ofInt (d : Int)) hbok (by rw [hdt]; omega)
    simp only [hd, if_false]
    first | rw [if_pos (by omega)] | rw [if_neg (by omega)]
    simp only [hg, bind_ok]
    refine ⟨_, rfl, ?_, ⟨hwf, hbg.gwf, hbg.swf⟩, hbg, hsc⟩
    simp only [ofBDict, hof, hofg, hdt]

/-! ## the promoted method and the history step -/

/-- `s.Shrink()` for `s *bucketParser`: `bucketDictionary.Shrink` on the embedded dictionary -/
def bup_Shrink (SO : SOFun) (s : Gen.bucketParser) : Res (Gen.bucketParser × Int) :=
  Res.bind (bucketDictionary_Shrink SO s.bucketDictionary) fun r =>
  Res.ok ({ s with bucketDictionary := r.1 }, r.2)

theorem hist_shrink {bc : BufCfg} (hbc : BCOK bc) (SO : SOFun) (hSO : ShiftSpec SO) :
    ShrinkRel (FRel (HistOKU bc) ofBUPs) (bup_Shrink SO) := by
  rintro t _ ⟨h, rfl⟩
  have hW := h.pok.w
  have hS := h.pok.small
  have hss := h.pok.wf.1.ss
  obtain ⟨f', hf, hof, hwf, hbok, hsc⟩ := gen_bup_shrink SO hSO (ofBUP t.BUPConfig) t.bucketDictionary h.pok.wf h.pok.bok
    (by omega) (by omega)
  unfold bup_Shrink
  rw [hf]
  refine ⟨_, rfl, ?_, hof⟩
  have hb : GenHist.BufOK bc (ofPB f'.ParserBuffer) := by
    rw [show ofPB f'.ParserBuffer = _ from congrArg Parser.buf hof]; exact h.buf.pshrink
  exact histOKU_update hbc h f' hwf.1 hbok hsc hb.cfg hb.w hb.len hb.cap

end LZ.GenBUPHist

#print axioms LZ.GenBUPHist.gen_bup_shrink
#print axioms LZ.GenBUPHist.hist_shrink
