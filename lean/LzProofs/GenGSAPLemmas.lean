/-
  The translated `(*gsap).sort` of gsap.go (topic GSAPParse of tools/extract, code_opq.go;
  LzModel/Generated/CodeGSAPParse.lean) equals the word-level `GsapBits.gsapSortW`, and the inner loop of `Parse`
  (`for i++; i < litIndex; i++ { s.bits.insert(int(s.isa[i])) }`) equals `GsapBits.insertRanksW`.

  OPAQUE state-passing callees and the hypotheses under which they enter:

    suffix_Sort   : Slice → GSlice Int32 → Res (GSlice Int32)         `suffix.Sort(t, sa)` (DivSufSort, not modelled)
      SortSpec    for a well-formed `t` with `len(t) ≤ MaxInt32` and a well-formed `sa` with `len(sa) = len(t)`: no panic,
                  `len(sa)` unchanged, and the ELEMENTS it leaves in `sa` are `saSpec t` as int32 values
    bitset_insert : bitset → List Int → Res bitset                    `(*bitset).insert(i ...int)` (variadic, `support`)
      InsertSpec  for a well-formed bitset and non-negative arguments `js`: the result is `BitsetW.insert` of the
                  abstraction (`none` ↦ panic; `BitsetProps.insert_members`: never `none` on a well-formed bitset)
    lcp           : Slice → Slice → Int                                `lcp(p, q)` (bytes.go), pure
      LcpSpec     = `lcpLen` of the elements (GenBUPParseLemmas; what `BytesW.lcpW?_eq` proves of the word-level `lcp`)

  Abstraction: `ofGW s : GsapDW` = (`absI32 s.sa`, `absI32 s.isa`, `ofBS s.bits`) — the int32 slices as arrays of naturals
  (elements only), the Go bitset as `BitsetW` (whole backing array, length, offset).

    sort_loop1_invert  `for i, j := range s.sa { s.isa[j] = int32(i) }` is the loop of `suffix.InvertSA` on the fields
                    (`GenSuffix.invert_loop_eq`: `invertSteps` on ANY previous contents of `isa`)
    ranks_loop_eq   a loop `for ; i < b; i++ { s.bits.insert(int(s.isa[i])) }` (through its defining equation) = `insertRanksW`
    gen_gsap_sort   translated `sort` = `gsapSortW`
-/
import LzModel.Generated.CodeGSAPParse
import LzProofs.GsapBits
import LzProofs.GenBitsetProps
import LzProofs.GenSuffixProps
import LzProofs.GenBUPParseLemmas

set_option linter.unusedSimpArgs false
set_option linter.unusedVariables false

namespace LZ.GenGSAP
open LZ LZ.Gen LZ.GenBuf LZ.GenHash LZ.GenSuffix LZ.GenBitset LZ.GsapBits

/-! ## the opaque callees -/

/-- the specification assumed for `suffix.Sort(t, sa)` -/
def SortSpec (suffix_Sort : Slice → GSlice Int32 → Res (GSlice Int32)) : Prop :=
  ∀ (t : Slice) (sa : GSlice Int32), SWF t → GWF sa → sa.len = t.len → t.len ≤ 2147483647 →
    ∃ sa', suffix_Sort t sa = Res.ok sa' ∧ GWF sa' ∧ sa'.len = sa.len ∧
      sa'.data = (saSpec t.data).map (fun (k : Nat) => Int32.ofInt (k : Int))

/-- the specification assumed for `(*bitset).insert(js...)`, `js` non-negative -/
def InsertSpec (bitset_insert : Gen.bitset → List Int → Res Gen.bitset) : Prop :=
  ∀ (b : Gen.bitset) (js : List Nat), BSWF b →
    match (ofBS b).insert js with
    | some w => ∃ b', bitset_insert b (js.map fun (j : Nat) => (j : Int)) = Res.ok b' ∧ ofBS b' = w ∧ BSWF b'
    | none => bitset_insert b (js.map fun (j : Nat) => (j : Int)) = Res.panic

/-- the word-level dictionary a Go `gsap` stands for -/
def ofGW (s : Gen.gsap) : GsapDW := { sa := absI32 s.sa, isa := absI32 s.isa, bits := ofBS s.bits }

theorem winv_of_bswf {b : Gen.bitset} (h : BSWF b) : BitsetW.WInv (ofBS b) := by
  have := h.1
  unfold GWF at this
  simpa [BitsetW.WInv, ofBS] using this

theorem insert_one (BI : Gen.bitset → List Int → Res Gen.bitset) (hBI : InsertSpec BI) (b : Gen.bitset) (h : BSWF b)
    (j : Nat) : ∃ b', BI b [(j : Int)] = Res.ok b' ∧ (ofBS b).insert [j] = some (ofBS b') ∧ BSWF b' := by
  have := hBI b [j] h
  obtain ⟨w', e, _, _⟩ := BitsetW.insert_members (ofBS b) (winv_of_bswf h) [j]
  rw [e] at this
  obtain ⟨b', e1, rfl, e3⟩ := this
  exact ⟨b', e1, e, e3⟩

theorem read_i32 (x : GSlice Int32) (hx : GWF x) (hn : NonNeg x) (i : Nat) (hi : i < x.len) :
    ((x.arr[i]?).getD 0).toInt = (((absI32 x).getD i 0 : Nat) : Int) := by
  rw [absI32_getD hx i hi]
  unfold i32n
  have := hn i hi
  omega

/-! ## `for ; i < b; i++ { s.bits.insert(int(s.isa[i])) }` -/

/-- A translated loop with state `(s, i)` whose body is `s.bits.insert(int(s.isa[i])); i++` and whose guard is
    `i < b` — given through its DEFINING EQUATION (`heq`, instantiated per loop by `fun … => by rw [loop]`) —
    is `insertRanksW` on the abstraction; sa, isa and everything else are untouched. -/
theorem ranks_loop_eq (BI : Gen.bitset → List Int → Res Gen.bitset) (hBI : InsertSpec BI)
    (loopF : Nat → Gen.gsap → Int → Res (Gen.gsap × Int)) (bnd : Gen.gsap → Int)
    (hbnd : ∀ s r, bnd { s with bits := r } = bnd s) (b : Nat)
    (heq : ∀ fuel s i, loopF (fuel + 1) s i =
      if i < bnd s then
        Res.bind (GSlice.index (0 : Int32) s.isa i) fun t_1 =>
        Res.bind (BI s.bits [t_1.toInt]) fun r_2 =>
        loopF fuel { s with bits := r_2 } (i + 1)
      else Res.ok (s, i)) :
    ∀ (n fuel a : Nat) (ia : Int) (s : Gen.gsap), bnd s = (b : Int) → a + n = b → ia = (a : Int) → n + 1 ≤ fuel →
      GWF s.isa → NonNeg s.isa → b ≤ s.isa.len → BSWF s.bits →
      ∃ bits', loopF fuel s ia = Res.ok ({ s with bits := bits' }, ((a + n : Nat) : Int)) ∧
        insertRanksW (absI32 s.isa) (ofBS s.bits) a n = some (ofBS bits') ∧ BSWF bits' := by
  intro n
  induction n with
  | zero =>
    intro fuel a ia s hbs0 hab hia hf hw hnn hb hbs
    obtain ⟨fu, rfl⟩ : ∃ fu, fuel = fu + 1 := ⟨fuel - 1, by omega⟩
    refine ⟨s.bits, ?_, rfl, hbs⟩
    rw [heq, if_neg (by omega), hia]
    rfl
  | succ n ih =>
    intro fuel a ia s hbs0 hab hia hf hw hnn hb hbs
    obtain ⟨fu, rfl⟩ : ∃ fu, fuel = fu + 1 := ⟨fuel - 1, by omega⟩
    have hai : a < s.isa.len := by omega
    rw [heq, if_pos (by omega), gindex_ok (0 : Int32) s.isa ia a hia hai, bind_ok, read_i32 s.isa hw hnn a hai]
    obtain ⟨b1, e1, e2, e4⟩ := insert_one BI hBI s.bits hbs ((absI32 s.isa).getD a 0)
    rw [e1, bind_ok]
    obtain ⟨bits', k1, k2, k4⟩ := ih fu (a + 1) (ia + 1) { s with bits := b1 } (by rw [hbnd]; exact hbs0) (by omega)
      (by omega) (by omega) hw hnn hb e4
    refine ⟨bits', ?_, ?_, k4⟩
    · rw [k1, show a + 1 + n = a + (n + 1) by omega]
    · simp only [insertRanksW, e2]
      exact k2

/-! ## `for i, j := range s.sa { s.isa[j] = int32(i) }` -/

/-- the loop of `sort` is `suffix.InvertSA` written out: the loop of `InvertSA` on the fields `sa`, `isa` -/
theorem sort_loop1_invert (fuel : Nat) (SS : Slice → GSlice Int32 → Res (GSlice Int32))
    (BI : Gen.bitset → List Int → Res Gen.bitset) : ∀ (n : Nat) (i : Int) (s : Gen.gsap),
    gsap_sort_loop_1 fuel SS BI n i s =
      Res.bind (suffix_InvertSA_loop_1 s.sa n i s.isa) fun t => Res.ok { s with isa := t }
  | 0, _, _ => rfl
  | n + 1, i, s => by
    rw [gsap_sort_loop_1, suffix_InvertSA_loop_1]
    simp only [bind_bind, sort_loop1_invert fuel SS BI n]

/-! ## facts about `saSpec` as int32 values -/

/-- what `SortSpec` leaves in `sa`: in range, non-negative, and the abstraction is `saSpec` -/
theorem sorted_facts (t : List Byte) (sa : GSlice Int32) (hl : sa.len = t.length)
    (h31 : t.length ≤ 2147483647) (hd : sa.data = (saSpec t).map (fun (k : Nat) => Int32.ofInt (k : Int))) :
    InRange sa t.length ∧ NonNeg sa ∧ absI32 sa = (saSpec t).toArray := by
  have hget : ∀ i (hi : i < sa.len), (sa.arr[i]?).getD 0 = Int32.ofInt (((saSpec t)[i]'(by rw [(isSuffixArray_saSpec _).length_eq]; omega) : Nat) : Int) := by
    intro i hi
    have h1 : sa.data[i]? = sa.arr[i]? := by rw [gdata_getElem?, if_pos hi]
    rw [← h1, hd, List.getElem?_map, List.getElem?_eq_getElem (by rw [(isSuffixArray_saSpec _).length_eq]; omega)]
    rfl
  have hin : InRange sa t.length := by
    intro i hi
    rw [hget i hi]
    have := (isSuffixArray_saSpec t).getElem_lt i (by rw [(isSuffixArray_saSpec _).length_eq]; omega)
    rw [i32_ofInt _ (by omega) (by omega)]
    omega
  refine ⟨hin, fun i hi => (hin i hi).1, ?_⟩
  unfold absI32
  rw [hd, List.map_map]
  congr 1
  apply List.ext_getElem
  · simp
  · intro i h1 h2
    simp only [List.getElem_map, Function.comp, i32n]
    have := (isSuffixArray_saSpec t).getElem_lt i (by simpa using h1)
    rw [i32_ofInt _ (by omega) (by omega)]
    simp

/-! ## `sort` -/

/-- `sort`: under the specifications of `suffix.Sort` and `bitset.insert`, for a well-formed state with
    `0 ≤ W ≤ len(Data) ≤ MaxInt32`, the translated `sort` does not panic and leaves the representation of
    `gsapSortW` (suffix array `saSpec data`, its inverse, the bitset cleared and the ranks of the positions `< W`
    inserted); buffer and configuration are untouched; fuel `W + 1`. -/
theorem gen_gsap_sort (fuel : Nat) (SS : Slice → GSlice Int32 → Res (GSlice Int32)) (hSS : SortSpec SS)
    (BI : Gen.bitset → List Int → Res Gen.bitset) (hBI : InsertSpec BI) (s : Gen.gsap)
    (hD : SWF s.ParserBuffer.Data) (hbs : BSWF s.bits) (Wn : Nat) (hW : s.ParserBuffer.W = (Wn : Int))
    (hWl : Wn ≤ s.ParserBuffer.Data.len) (h31 : s.ParserBuffer.Data.len ≤ 2147483647) (hf : Wn + 1 ≤ fuel) :
    ∃ sa' isa' bits' gw',
      gsap_sort fuel SS BI s = Res.ok { s with sa := sa', isa := isa', bits := bits' } ∧
      gsapSortW (ofGW s) s.ParserBuffer.Data.data Wn = some gw' ∧
      ofGW { s with sa := sa', isa := isa', bits := bits' } = gw' ∧
      GWF sa' ∧ GWF isa' ∧ BSWF bits' ∧ NonNeg sa' ∧ NonNeg isa' ∧
      sa'.len = s.ParserBuffer.Data.len ∧ isa'.len = s.ParserBuffer.Data.len := by
  have hdl : s.ParserBuffer.Data.data.length = s.ParserBuffer.Data.len := data_length hD
  unfold gsap_sort
  rw [if_neg (by show ¬ ((s.ParserBuffer.Data.len : Nat) : Int) > 2147483647; omega)]
  rw [show (Int.ofNat s.ParserBuffer.Data.len) = ((s.ParserBuffer.Data.len : Nat) : Int) from rfl]
  -- `s.sa` and `s.isa` are cut or made to `len(s.Data)` elements
  obtain ⟨sa1, w1, l1, r1⟩ := resize_ok (0 : Int32) s.sa s.ParserBuffer.Data.len
    ((s.ParserBuffer.Data.len : Int) ≤ Int.ofNat s.sa.cap) Int.ofNat_le.mp
  rw [r1, bind_ok]
  try dsimp only
  obtain ⟨sa2, r2, w2, l2, d2⟩ := hSS s.ParserBuffer.Data sa1 hD w1 l1 h31
  rw [r2, bind_ok]
  try dsimp only
  obtain ⟨isa1, w3, l3, r3⟩ := resize_ok (0 : Int32) s.isa s.ParserBuffer.Data.len
    ((s.ParserBuffer.Data.len : Int) ≤ Int.ofNat s.isa.cap) Int.ofNat_le.mp
  rw [r3, bind_ok]
  try dsimp only
  have hl2 : sa2.len = s.ParserBuffer.Data.data.length := by rw [l2, l1, hdl]
  obtain ⟨hin, hnn, habs⟩ := sorted_facts s.ParserBuffer.Data.data sa2 hl2 (by omega) d2
  obtain ⟨isa2, r4, a4, ⟨w4, l4, _, _⟩, n4⟩ := invert_loop_eq sa2 w2 (by omega) s.ParserBuffer.Data.data.length hin
    sa2.len 0 isa1 (Nat.zero_add _) w3 (by rw [l3, hdl])
  rw [show ((0 : Nat) : Int) = 0 from rfl] at r4
  rw [sort_loop1_invert, r4, bind_ok, bind_ok]
  try dsimp only
  obtain ⟨b1, r5, a5, w5⟩ := gen_bitset_clear s.bits hbs
  rw [r5, bind_ok]
  try dsimp only
  -- the isa computed is `invertSA`
  have hperm : IsPermOfRange (saSpec s.ParserBuffer.Data.data) := (isSuffixArray_saSpec _).isPermOfRange
  have hisa : absI32 isa2 = invertSA (saSpec s.ParserBuffer.Data.data).toArray := by
    rw [a4]
    show invertSteps (absI32 sa2) sa2.len 0 (absI32 isa1) = _
    rw [(absI32_size w2).symm, ← invertFrom_eq_steps, habs]
    apply invertFrom_eq_invertSA
    · rw [absI32_size w3, l3]; simp [(isSuffixArray_saSpec _).length_eq, hdl]
    · intro k hk
      have hk' : k < (saSpec s.ParserBuffer.Data.data).length := by simpa using hk
      obtain ⟨j, j1, j2⟩ := hperm.surj hk'
      exact ⟨j, by simpa using j1, by simp [Array.getD_eq_getD_getElem?, j2]⟩
  -- every entry of isa was written: non-negative
  have hnn2 : NonNeg isa2 := by
    intro k hk
    apply n4 k
    right
    have hk' : k < (saSpec s.ParserBuffer.Data.data).length := by rw [(isSuffixArray_saSpec _).length_eq, hdl, ← l3, ← l4]; exact hk
    obtain ⟨j, j1, j2⟩ := hperm.surj hk'
    have hj' : j < sa2.len := by rw [hl2, ← (isSuffixArray_saSpec _).length_eq]; exact j1
    refine ⟨j, Nat.zero_le _, by omega, ?_⟩
    have := absI32_getD w2 j hj'
    rw [habs] at this
    simp only [Array.getD_eq_getD_getElem?, List.getElem?_toArray, j2, Option.getD_some] at this
    unfold i32n at this
    exact this.symm
  obtain ⟨bits', r6, a6, w6⟩ := ranks_loop_eq BI hBI (gsap_sort_loop_2 SS BI)
    (fun s => s.ParserBuffer.W) (fun _ _ => rfl) Wn (fun fuel s i => by rw [gsap_sort_loop_2])
    Wn fuel 0 0 { s with sa := sa2, isa := isa2, bits := b1 } hW (Nat.zero_add _) rfl hf w4 hnn2
    (by rw [l4, l3]; exact hWl) w5
  have r6' : gsap_sort_loop_2 SS BI fuel { s with sa := sa2, isa := isa2, bits := b1 } 0 =
      Res.ok ({ s with sa := sa2, isa := isa2, bits := bits' }, ((0 + Wn : Nat) : Int)) := r6
  rw [r6', bind_ok]
  refine ⟨sa2, isa2, bits', (⟨(saSpec s.ParserBuffer.Data.data).toArray,
      invertSA (saSpec s.ParserBuffer.Data.data).toArray, ofBS bits'⟩ : GsapDW), rfl, ?_, ?_, w2, w4, w6, hnn, hnn2,
    by rw [l2, l1], by rw [l4]; exact l3⟩
  · unfold gsapSortW
    have : (ofGW s).bits.clear = ofBS b1 := a5.symm
    simp only [this]
    have a6' : insertRanksW (absI32 isa2) (ofBS b1) 0 Wn = some (ofBS bits') := a6
    rw [hisa] at a6'
    rw [a6']
  · show ({ sa := absI32 sa2, isa := absI32 isa2, bits := ofBS bits' } : GsapDW) = _
    rw [habs, hisa]

end LZ.GenGSAP

#print axioms LZ.GenGSAP.ranks_loop_eq
#print axioms LZ.GenGSAP.sort_loop1_invert
#print axioms LZ.GenGSAP.gen_gsap_sort
