/-
  The translated `(*gsap).Reset`, `(*gsap).Shrink` and `(*gsap).init` of gsap.go (topic GSAPInit of
  tools/extract, code_opq.go; LzModel/Generated/CodeGSAPInit.lean) against the buffer model (`PBuf.reset`, `PBuf.shrink`,
  `PBuf.init`: GenBufPropsP) and the word-level dictionary (`GsapDW.reset`: `s.sa = s.sa[:0]; s.isa = s.isa[:0];
  s.bits.clear()` — the backing array of the bitset with its stale contents is kept).  Nothing is opaque here.

    gen_gsap_reset   Reset(data): buffer = PBuf.reset; on success the dictionary is `GsapDW.reset`, on error unchanged
    gen_gsap_shrink  Shrink(): buffer = PBuf.shrink; the dictionary is reset iff delta > 0
    gen_gsap_init    init(cfg): the error paths, and on success buffer = PBuf.init, dictionary reset, config stored
-/
import LzModel.Generated.CodeGSAPInit
import LzProofs.GenGSAPLemmas

set_option linter.unusedSimpArgs false
set_option linter.unusedVariables false

namespace LZ.GenGSAP
open LZ LZ.Gen LZ.GenBuf LZ.GenHash LZ.GenSuffix LZ.GenBitset LZ.GsapBits

/-- the parser after the three statements `s.sa = s.sa[:0]; s.isa = s.isa[:0]; s.bits.clear()` — in whatever order the
    Go text has them (the three fields are independent); `b1` is the cleared bitset -/
@[reducible] def dropped (s : Gen.gsap) (b1 : Gen.bitset) : Gen.gsap :=
  ⟨s.ParserBuffer, { arr := s.sa.arr, len := 0 }, { arr := s.isa.arr, len := 0 }, b1,
    s.GSAPConfig⟩

/-- what is known about `dropped`: the text of the three statements is not mentioned, the proofs below evaluate it as
    it comes (`gtrunc0_eq`, the `clear` equation, `bind_ok`) -/
theorem drop_facts (s : Gen.gsap) (hbs : BSWF s.bits) :
    ∃ b1, bitset_clear s.bits = Res.ok b1 ∧ ofGW (dropped s b1) = (ofGW s).reset ∧
      GWF (dropped s b1).sa ∧ GWF (dropped s b1).isa ∧ BSWF b1 := by
  obtain ⟨b1, r5, a5, w5⟩ := gen_bitset_clear s.bits hbs
  refine ⟨b1, r5, ?_, gtrunc0_wf s.sa, gtrunc0_wf s.isa, w5⟩
  show ({ sa := absI32 _, isa := absI32 _, bits := ofBS b1 } : GsapDW) = _
  rw [trunc0_abs, trunc0_abs, a5]
  rfl

/-- `Reset(data)` -/
theorem gen_gsap_reset (s : Gen.gsap) (hpb : PBWF s.ParserBuffer) (hbs : BSWF s.bits) (data : Slice) (hdat : SWF data) :
    ∃ s' e, gsap_Reset s data = Res.ok (s', e) ∧
      ofPB s'.ParserBuffer = (PBuf.reset (ofPB s.ParserBuffer) data.data (data.cap - data.len)).1 ∧
      errOfReset e = some (PBuf.reset (ofPB s.ParserBuffer) data.data (data.cap - data.len)).2 ∧
      PBWF s'.ParserBuffer ∧ s'.GSAPConfig = s.GSAPConfig ∧ BSWF s'.bits ∧
      (e = Gen.Err.ok → ofGW s' = (ofGW s).reset ∧ s'.sa.len = 0 ∧ s'.isa.len = 0 ∧ GWF s'.sa ∧ GWF s'.isa) ∧
      (e ≠ Gen.Err.ok → s'.sa = s.sa ∧ s'.isa = s.isa ∧ s'.bits = s.bits) := by
  obtain ⟨b', e, hb, hof, herr, hwf⟩ := gen_pbuf_reset s.ParserBuffer hpb data hdat
  -- the test on the error is decided in either spelling (`err != nil`, `nil == err`, `err == nil` with swapped arms)
  by_cases he : e = Gen.Err.ok
  · subst he
    obtain ⟨b1, r5, h4, h7, h8, h9⟩ := drop_facts { s with ParserBuffer := b' } hbs
    have r5' : bitset_clear s.bits = Res.ok b1 := r5
    refine ⟨dropped { s with ParserBuffer := b' } b1, Gen.Err.ok, ?_, hof, herr, hwf, rfl, h9,
      fun _ => ⟨h4, rfl, rfl, h7, h8⟩, fun hc => absurd rfl hc⟩
    unfold gsap_Reset
    rw [hb, bind_ok]
    simp only [ne_eq, eq_self, not_true_eq_false, not_false_eq_true, if_true, if_false, gtrunc0_eq, r5', bind_ok]
    try rfl
  · have he' : ¬ Gen.Err.ok = e := fun h => he h.symm
    refine ⟨{ s with ParserBuffer := b' }, e, ?_, hof, herr, hwf, rfl, hbs, fun hc => absurd hc he,
      fun _ => ⟨rfl, rfl, rfl⟩⟩
    unfold gsap_Reset
    rw [hb, bind_ok]
    simp only [he, he', ne_eq, eq_self, not_true_eq_false, not_false_eq_true, if_true, if_false]
    try rfl

/-- `Shrink()` -/
theorem gen_gsap_shrink (s : Gen.gsap) (hpb : PBWF s.ParserBuffer) (hbs : BSWF s.bits)
    (hw : s.ParserBuffer.W - s.ParserBuffer.BufConfig.ShrinkSize ≤ s.ParserBuffer.Data.len) :
    ∃ s', gsap_Shrink s = Res.ok (s', ((PBuf.shrink (ofPB s.ParserBuffer)).2 : Int)) ∧
      ofPB s'.ParserBuffer = (PBuf.shrink (ofPB s.ParserBuffer)).1 ∧ PBWF s'.ParserBuffer ∧
      s'.GSAPConfig = s.GSAPConfig ∧ BSWF s'.bits ∧
      ((PBuf.shrink (ofPB s.ParserBuffer)).2 > 0 →
        ofGW s' = (ofGW s).reset ∧ s'.sa.len = 0 ∧ s'.isa.len = 0 ∧ GWF s'.sa ∧ GWF s'.isa) ∧
      ((PBuf.shrink (ofPB s.ParserBuffer)).2 = 0 → s'.sa = s.sa ∧ s'.isa = s.isa ∧ s'.bits = s.bits) := by
  obtain ⟨b', hb, hof, hwf⟩ := gen_pbuf_shrink s.ParserBuffer hpb hw
  generalize (PBuf.shrink (ofPB s.ParserBuffer)).2 = d at hb ⊢
  -- the test on `delta` is decided by omega in whatever spelling / arm order (`decide_ite`)
  by_cases hd : d > 0
  · obtain ⟨b1, r5, h4, h7, h8, h9⟩ := drop_facts { s with ParserBuffer := b' } hbs
    have r5' : bitset_clear s.bits = Res.ok b1 := r5
    refine ⟨dropped { s with ParserBuffer := b' } b1, ?_, hof, hwf, rfl, h9, fun _ => ⟨h4, rfl, rfl, h7, h8⟩,
      fun hc => by omega⟩
    unfold gsap_Shrink
    rw [hb, bind_ok]
    try dsimp only
    decide_ite
    simp only [gtrunc0_eq, r5', bind_ok]
    try rfl
  · refine ⟨{ s with ParserBuffer := b' }, ?_, hof, hwf, rfl, hbs, fun hc => absurd hc hd, fun _ => ⟨rfl, rfl, rfl⟩⟩
    unfold gsap_Shrink
    rw [hb, bind_ok]
    try dsimp only
    decide_ite
    try simp only [bind_ok]
    try rfl

/-- `init(cfg)`: the buffer configuration is rejected ⇒ that error, parser unchanged; accepted but the parser
    configuration rejected ⇒ that error, only the buffer initialised; both accepted ⇒ `nil`, the buffer is `PBuf.init`
    of the defaults-completed buffer configuration, the dictionary is reset, the defaults-completed configuration
    is stored. -/
theorem gen_gsap_init (s : Gen.gsap) (hbs : BSWF s.bits) (cfg : Gen.GSAPConfig) :
    let bc : Gen.BufConfig := ⟨cfg.ShrinkSize, cfg.BufferSize, cfg.WindowSize, cfg.BlockSize⟩
    (BufConfig_Verify (BufConfig_SetDefaults bc) ≠ Gen.Err.ok →
      gsap_init s cfg = Res.ok (s, BufConfig_Verify (BufConfig_SetDefaults bc))) ∧
    (BufConfig_Verify (BufConfig_SetDefaults bc) = Gen.Err.ok →
      ∃ b', ofPB b' = { PBuf.init (ofCfg (BufConfig_SetDefaults bc)) with cap := s.ParserBuffer.Data.cap } ∧ PBWF b' ∧
        (GSAPConfig_Verify (GSAPConfig_SetDefaults cfg) ≠ Gen.Err.ok →
          gsap_init s cfg = Res.ok ({ s with ParserBuffer := b' }, GSAPConfig_Verify (GSAPConfig_SetDefaults cfg))) ∧
        (GSAPConfig_Verify (GSAPConfig_SetDefaults cfg) = Gen.Err.ok →
          ∃ s', gsap_init s cfg = Res.ok (s', Gen.Err.ok) ∧ s'.ParserBuffer = b' ∧
            s'.GSAPConfig = GSAPConfig_SetDefaults cfg ∧ ofGW s' = (ofGW s).reset ∧
            s'.sa.len = 0 ∧ s'.isa.len = 0 ∧ GWF s'.sa ∧ GWF s'.isa ∧ BSWF s'.bits)) := by
  intro bc
  obtain ⟨hbad, hgood⟩ := gen_pbuf_init s.ParserBuffer bc
  refine ⟨fun hne => ?_, fun hok => ?_⟩
  · have hne' : ¬ Gen.Err.ok = BufConfig_Verify (BufConfig_SetDefaults bc) := fun h => hne h.symm
    unfold gsap_init
    simp only []
    rw [hbad hne, bind_ok]
    simp only [hne, hne', ne_eq, eq_self, not_true_eq_false, not_false_eq_true, if_true, if_false]
  · obtain ⟨b', hb, hof, hwf⟩ := hgood hok
    refine ⟨b', hof, hwf, fun hne => ?_, fun hok2 => ?_⟩
    · have hne' : ¬ Gen.Err.ok = GSAPConfig_Verify (GSAPConfig_SetDefaults cfg) := fun h => hne h.symm
      unfold gsap_init
      simp only []
      rw [hb, bind_ok]
      simp only [ne_eq, eq_self, not_true_eq_false, not_false_eq_true, if_false, if_true, hne, hne']
    · obtain ⟨b1, r5, h4, h7, h8, h9⟩ := drop_facts { s with ParserBuffer := b' } hbs
      have r5' : bitset_clear s.bits = Res.ok b1 := r5
      refine ⟨{ dropped { s with ParserBuffer := b' } b1 with GSAPConfig := GSAPConfig_SetDefaults cfg }, ?_, rfl, rfl,
        h4, rfl, rfl, h7, h8, h9⟩
      unfold gsap_init
      simp only []
      rw [hb, bind_ok]
      simp only [ne_eq, eq_self, not_true_eq_false, not_false_eq_true, if_false, if_true, hok2, gtrunc0_eq, r5', bind_ok]
      try rfl

end LZ.GenGSAP

#print axioms LZ.GenGSAP.gen_gsap_reset
#print axioms LZ.GenGSAP.gen_gsap_shrink
#print axioms LZ.GenGSAP.gen_gsap_init
