/-
  The parser-independent part of the drain statement C14 ("repeated `Parse(nil)` drains the buffer") about the Go
  text, for ANY simulated machine (LzProofs/GenHistMachine.lean) whose state holds a `ParserBuffer` (`BufHost`,
  LzProofs/GenHistBuf.lean) and whose calls contain `Parse(nil)` (`NilCalls`); then the instance for the call type
  `GOpN` / `GResN` of LZ.GenHPHist (the histories of HP, BHP, GSAP, OSAP are over those types; DHP, BDHP and BUP have
  their own).  The model-level fact is `C14_drains` (ParseProps).
-/
import LzProofs.GenHPHistNil

set_option linter.unusedSimpArgs false
set_option linter.unusedVariables false

namespace LZ.GenDrain
open LZ LZ.Gen LZ.GenBuf LZ.GenHPParse LZ.GenProps LZ.GenNil
open LZ.GenHist (HistInv)

section
variable {Op R : Type}

/-- the calls `Parse(nil, flags)`, one per entry (ghost value, flags) -/
def nilOps (mkOp : Gen.Block' → Int → Op) (fl : List (Gen.Block' × Int)) : List Op := fl.map fun x => mkOp x.1 x.2

/-- what the model returns for the calls `nilOps fl` from `s` -/
def modelNilRes (mk : Gen.Block' → Int → Gen.Err → R) : Parser → List (Gen.Block' × Int) → List R
  | _, [] => []
  | s, x :: xs => mk x.1 ((s.parseNil.2.1 : Nat) : Int) (parseErr s.parseNil.2.2) :: modelNilRes mk s.parseNil.1 xs

/-- the results of draining: call number `k` (counted from the state with `u` unparsed bytes) returns
    `n = min(bs, u − k·bs)` and `nil`, or `ErrEmptyBuffer` from call `⌈u / bs⌉` on -/
def drainRes (mk : Gen.Block' → Int → Gen.Err → R) (bs u : Nat) : Nat → List (Gen.Block' × Int) → List R
  | _, [] => []
  | k, x :: xs =>
    mk x.1 ((Min.min bs (u - k * bs) : Nat) : Int)
      (if k < (u + bs - 1) / bs then Gen.Err.ok else Gen.ErrEmptyBuffer) :: drainRes mk bs u (k + 1) xs

/-- the sum of `nOf r` over a result list (`nOf` = the `n` of a `Parse(nil)` result, `0` for the other results) -/
def nSum (nOf : R → Int) : List R → Int
  | [] => 0
  | r :: rs => nOf r + nSum nOf rs

theorem resultsAgree_nil (mkOp : Gen.Block' → Int → Op) (mk : Gen.Block' → Int → Gen.Err → R)
    (RA : Parser × Ghost → List Op → List R → Prop)
    (hnil : ∀ sg rs, RA sg [] rs → rs = [])
    (hcons : ∀ sg b f ops rs, RA sg (mkOp b f :: ops) rs →
      ∃ rs', rs = mk b ((sg.1.parseNil.2.1 : Nat) : Int) (parseErr sg.1.parseNil.2.2) :: rs' ∧
        RA (step sg .parseNil) ops rs') :
    ∀ (fl : List (Gen.Block' × Int)) (sg : Parser × Ghost) (rs : List R),
      RA sg (nilOps mkOp fl) rs → rs = modelNilRes mk sg.1 fl := by
  intro fl
  induction fl with
  | nil => intro sg rs h; exact hnil sg rs h
  | cons x xs ih =>
    intro sg rs h
    obtain ⟨rs', e, h2⟩ := hcons sg x.1 x.2 (nilOps mkOp xs) rs h
    have hrs := ih _ _ h2
    rw [step_parseNil_fst] at hrs
    rw [e, hrs]; rfl

theorem runOps_nilOps (mkOp : Gen.Block' → Int → Op) (abs : Op → POp) (habs : ∀ b f, abs (mkOp b f) = .parseNil) :
    ∀ (fl : List (Gen.Block' × Int)) (sg : Parser × Ghost),
      (runOps sg ((nilOps mkOp fl).map abs)).1 = Parser.nilIter fl.length sg.1 := by
  intro fl
  induction fl with
  | nil => intro sg; rfl
  | cons x xs ih =>
    intro sg
    show (runOps (step sg (abs (mkOp x.1 x.2))) ((nilOps mkOp xs).map abs)).1 = Parser.nilIter (xs.length + 1) sg.1
    rw [habs, ih, step_parseNil_fst]; rfl

theorem modelNilRes_drain (mk : Gen.Block' → Int → Gen.Err → R) (s : Parser) (hw : s.buf.w ≤ s.buf.data.length)
    (hbs : 1 ≤ s.buf.cfg.blockSize) :
    ∀ (fl : List (Gen.Block' × Int)) (k : Nat),
      modelNilRes mk (Parser.nilIter k s) fl = drainRes mk s.buf.cfg.blockSize (s.buf.data.length - s.buf.w) k fl := by
  obtain ⟨d1, d2⟩ := C14_drains s hw hbs
  simp only at d1 d2
  intro fl
  induction fl with
  | nil => intro k; rfl
  | cons x xs ih =>
    intro k
    show mk x.1 _ _ :: modelNilRes mk (Parser.nilIter k s).parseNil.1 xs = mk x.1 _ _ :: _
    rw [← Parser.nilIter_succ, ih (k + 1)]
    by_cases hk : k < (s.buf.data.length - s.buf.w + s.buf.cfg.blockSize - 1) / s.buf.cfg.blockSize
    · obtain ⟨s', hs⟩ := d1 k hk
      rw [hs, if_pos hk]; rfl
    · have hk' : ¬ k * s.buf.cfg.blockSize < s.buf.data.length - s.buf.w :=
        fun hc => hk ((Parser.ceilDiv_lt_iff k (s.buf.data.length - s.buf.w) s.buf.cfg.blockSize hbs).mpr hc)
      rw [(d2 k (by omega)).1, if_neg hk]
      have : Min.min s.buf.cfg.blockSize (s.buf.data.length - s.buf.w - k * s.buf.cfg.blockSize) = 0 := by omega
      rw [this]; rfl

theorem nSum_drainRes (mk : Gen.Block' → Int → Gen.Err → R) (nOf : R → Int) (hn : ∀ b n e, nOf (mk b n e) = n)
    (bs u : Nat) : ∀ (fl : List (Gen.Block' × Int)) (k : Nat),
    nSum nOf (drainRes mk bs u k fl) = ((Min.min (u - k * bs) (fl.length * bs) : Nat) : Int) := by
  intro fl
  induction fl with
  | nil =>
    intro k
    show (0 : Int) = ((Min.min (u - k * bs) (0 * bs) : Nat) : Int)
    rw [Nat.zero_mul, Nat.min_zero]; rfl
  | cons x xs ih =>
    intro k
    show nOf (mk x.1 _ _) + nSum nOf (drainRes mk bs u (k + 1) xs) = _
    rw [hn, ih (k + 1), List.length_cons, Nat.succ_mul, Nat.succ_mul]
    generalize k * bs = a
    generalize xs.length * bs = c
    omega

end

/-- the buffer after `m` calls `Parse(nil)` in the Go quantities: `s` / `s'` the model states before / after
    (`s' = nilIter m s`), `D` / `D'` the Go `len(Data)`, `W` / `W'` the Go `W` (an `int`, `0 ≤ W'`).  `len(Data)` is unchanged,
    `W' = min(len(Data), W + m·bs)`; once `m ≥ ⌈u / bs⌉` (`u = len(Data) − W`): `min(u, m·bs) = u` and `W' = len(Data)`. -/
theorem drain_buf (s s' : Parser) (m : Nat) (hw : s.buf.w ≤ s.buf.data.length) (hbs : 1 ≤ s.buf.cfg.blockSize)
    (hst : s' = Parser.nilIter m s) (D D' : Nat) (W W' : Int)
    (hD : s.buf.data.length = D) (hD' : s'.buf.data.length = D')
    (hW : s.buf.w = W.toNat) (hW' : s'.buf.w = W'.toNat) (hW0' : 0 ≤ W') :
    D' = D ∧ W' = ((Min.min D (W.toNat + m * s.buf.cfg.blockSize) : Nat) : Int) ∧
      ((D - W.toNat + s.buf.cfg.blockSize - 1) / s.buf.cfg.blockSize ≤ m →
        Min.min (D - W.toNat) (m * s.buf.cfg.blockSize) = D - W.toNat ∧ W' = (D : Int)) := by
  have hbuf := Parser.nilIter_buf m s hw
  rw [← hst] at hbuf
  have h1 : s'.buf.w = Min.min D (W.toNat + m * s.buf.cfg.blockSize) := by
    have := congrArg PBuf.w hbuf
    rw [hD, hW] at this
    exact this
  have h2 : D' = D := by
    have := congrArg (fun b => b.data.length) hbuf
    simp only at this
    rw [hD', hD] at this
    exact this
  have hWfin : W' = ((Min.min D (W.toNat + m * s.buf.cfg.blockSize) : Nat) : Int) := by
    rw [← h1, hW']; omega
  refine ⟨h2, hWfin, ?_⟩
  intro hr
  generalize s.buf.cfg.blockSize = bs at *
  have hle : D - W.toNat ≤ m * bs := by
    have h1 : (D - W.toNat + bs - 1) / bs < m + 1 := by omega
    rw [Nat.div_lt_iff_lt_mul (by omega), Nat.succ_mul] at h1
    omega
  refine ⟨by omega, ?_⟩
  rw [hWfin]
  have : Min.min D (W.toNat + m * bs) = D := by omega
  rw [this]

/-- the calls `Parse(nil, flags)` among the calls `O`: how they and their results are built (`mkOp ghost flags`,
    `mkRes ghost n err`), the `n` of a result, and that their only agreeing result is the model's `n` and error with the
    ghost block handed back -/
structure NilCalls {O R : Type} (L : GenHist.Calls O R) where
  mkOp : Gen.Block' → Int → O
  mkRes : Gen.Block' → Int → Gen.Err → R
  nOf : R → Int
  wf : ∀ b f, L.WF (mkOp b f)
  abs : ∀ b f, L.abs (mkOp b f) = .parseNil
  agree : ∀ m b f r, L.resAgree m (mkOp b f) r →
    ∃ b' n e, r = mkRes b' n e ∧ n = ((m.parseNil.2.1 : Nat) : Int) ∧ e = parseErr m.parseNil.2.2 ∧ b' = b
  nOf_mk : ∀ b n e, nOf (mkRes b n e) = n

theorem NilCalls.wf_nilOps {O R : Type} {L : GenHist.Calls O R} (N : NilCalls L) (fl : List (Gen.Block' × Int)) :
    ∀ op ∈ nilOps N.mkOp fl, L.WF op := by
  intro op hop
  obtain ⟨x, -, rfl⟩ := List.mem_map.mp hop
  exact N.wf _ _

/-- Draining a simulated machine.  `stp` is simulated (`hstep`) under `HistInv Rel Q`, its `Parse(nil)` calls are `N`, and
    its state holds a `ParserBuffer` (`B`).  From related states, with `u = len(Data) − W` unparsed bytes and
    `bs = BlockSize ≥ 1`: ANY sequence `fl` of such calls runs without failing and returns exactly
    `drainRes N.mkRes bs u 0 fl`; the `n` sum to `min(u, |fl|·bs)`; `len(Data)` is unchanged and `W` ends at
    `min(len(Data), W + |fl|·bs)`; once `|fl| ≥ ⌈u / bs⌉` the `n` sum to `u` and `W = len(Data)`. -/
theorem drain_go {σ O R : Type} {L : GenHist.Calls O R} {stp : σ → O → Res (σ × R)} {Rel : σ → Parser → Prop}
    {Q : Parser × Ghost → Prop} {bc : BufCfg} (B : GenHist.BufHost bc Rel) (N : NilCalls L)
    (hstep : GenHist.StepSim L stp (HistInv Rel Q))
    (t : σ) (sg : Parser × Ghost) (h : HistInv Rel Q t sg) (hbs : 1 ≤ (B.pb t).BufConfig.BlockSize.toNat)
    (fl : List (Gen.Block' × Int)) :
    let bs := (B.pb t).BufConfig.BlockSize.toNat
    let u := (B.pb t).Data.len - (B.pb t).W.toNat
    let r := (u + bs - 1) / bs
    ∃ t', GenHist.run stp t (nilOps N.mkOp fl) = Res.ok (t', drainRes N.mkRes bs u 0 fl) ∧
      nSum N.nOf (drainRes N.mkRes bs u 0 fl) = ((Min.min u (fl.length * bs) : Nat) : Int) ∧
      (B.pb t').Data.len = (B.pb t).Data.len ∧
      (B.pb t').W = ((Min.min (B.pb t).Data.len ((B.pb t).W.toNat + fl.length * bs) : Nat) : Int) ∧
      (r ≤ fl.length → nSum N.nOf (drainRes N.mkRes bs u 0 fl) = (u : Int) ∧ (B.pb t').W = ((B.pb t).Data.len : Int)) := by
  intro bs u r
  obtain ⟨hwf, hbok, hbuf⟩ := B.get h.1
  have hwle := (hbok.go hwf).1
  have hdl : sg.1.buf.data.length = (B.pb t).Data.len := by rw [hbuf]; exact data_length hwf.data
  have hwE : sg.1.buf.w = (B.pb t).W.toNat := by rw [hbuf]; rfl
  have hbsE : sg.1.buf.cfg.blockSize = bs := by rw [hbuf]; rfl
  have hw : sg.1.buf.w ≤ sg.1.buf.data.length := by
    have := hwf.w
    rw [hdl, hwE]; omega
  have hbs' : 1 ≤ sg.1.buf.cfg.blockSize := by rw [hbsE]; exact hbs
  obtain ⟨t', rs', k1, k2, -, k5⟩ := GenHist.run_sim hstep (nilOps N.mkOp fl) t sg h (N.wf_nilOps fl)
  have hrs : rs' = drainRes N.mkRes bs u 0 fl := by
    have hagree := resultsAgree_nil N.mkOp N.mkRes L.ResultsAgree
      (fun sg rs h => by
        cases rs with
        | nil => rfl
        | cons r rs => exact False.elim h)
      (fun sg b f ops rs h => by
        cases rs with
        | nil => exact False.elim h
        | cons r rs =>
          obtain ⟨b', n, e, e1, e2, e3, e4⟩ := N.agree sg.1 b f r h.1
          exact ⟨rs, by rw [e1, e2, e3, e4], by rw [← N.abs b f]; exact h.2⟩)
      fl _ _ k5
    have := modelNilRes_drain N.mkRes sg.1 hw hbs' fl 0
    rw [hbsE, hdl, hwE] at this
    rw [hagree]; exact this
  obtain ⟨hwf', -, hbuf'⟩ := B.get k2.1
  obtain ⟨b1, b2, b3⟩ := drain_buf sg.1 _ fl.length hw hbs' (runOps_nilOps N.mkOp L.abs N.abs fl sg) (B.pb t).Data.len
    (B.pb t').Data.len (B.pb t).W (B.pb t').W hdl (by rw [hbuf']; exact data_length hwf'.data) hwE (by rw [hbuf']; rfl) hwf'.w
  have hsum := nSum_drainRes N.mkRes N.nOf N.nOf_mk bs u fl 0
  rw [Nat.zero_mul, Nat.sub_zero] at hsum
  rw [hbsE] at b2 b3
  refine ⟨t', by rw [← hrs]; exact k1, hsum, b1, b2, fun hr => ?_⟩
  obtain ⟨c1, c2⟩ := b3 hr
  exact ⟨by rw [hsum]; exact congrArg Int.ofNat c1, c2⟩

end LZ.GenDrain

/-! ## the instance for `GOpN` / `GResN` of LZ.GenHPHist -/

namespace LZ.GenHPHist
open LZ LZ.Gen LZ.GenHPParse LZ.GenProps LZ.GenNil

/-- the calls `Parse(nil, flags)`, one per entry (ghost value, flags) -/
def nilOps (fl : List (Gen.Block' × Int)) : List GOpN := fl.map fun x => GOpN.parseNil x.1 x.2

/-- the results of draining: call number `k` (counted from the state with `u` unparsed bytes) returns
    `n = min(bs, u − k·bs)` and `nil`, or `ErrEmptyBuffer` from call `⌈u / bs⌉` on -/
def drainRes (bs u : Nat) : Nat → List (Gen.Block' × Int) → List GResN
  | _, [] => []
  | k, x :: xs =>
    .parseNil x.1 ((Min.min bs (u - k * bs) : Nat) : Int)
      (if k < (u + bs - 1) / bs then Gen.Err.ok else Gen.ErrEmptyBuffer) :: drainRes bs u (k + 1) xs

/-- the sum of the `n` returned by the `Parse(nil)` calls of a result list -/
def nSum : List GResN → Int
  | [] => 0
  | .parseNil _ n _ :: rs => n + nSum rs
  | .r _ :: rs => nSum rs

/-- the `n` of a `Parse(nil)` result (`0` for the results of the other calls) -/
def GResN.nOf : GResN → Int
  | .parseNil _ n _ => n
  | .r _ => 0

theorem nilOps_eq : nilOps = GenDrain.nilOps GOpN.parseNil := rfl

theorem drainRes_eq : drainRes = GenDrain.drainRes GResN.parseNil := by
  funext bs u k fl
  induction fl generalizing k with
  | nil => rfl
  | cons x xs ih => exact congrArg (_ :: ·) (ih _)

theorem nSum_eq : nSum = GenDrain.nSum GResN.nOf := by
  funext rs
  induction rs with
  | nil => rfl
  | cons r rs ih => cases r with
    | r res => exact ih.trans (Int.zero_add _).symm
    | parseNil b n e => exact congrArg (n + ·) ih

/-- the `Parse(nil)` calls among `GOpN` -/
def nilCalls : GenDrain.NilCalls callsN where
  mkOp := GOpN.parseNil
  mkRes := GResN.parseNil
  nOf := GResN.nOf
  wf _ _ := trivial
  abs _ _ := rfl
  agree m b f r h := by
    cases r with
    | r res => exact False.elim h
    | parseNil b' n e => exact ⟨b', n, e, rfl, h⟩
  nOf_mk _ _ _ := rfl

end LZ.GenHPHist

#print axioms LZ.GenDrain.resultsAgree_nil
#print axioms LZ.GenDrain.runOps_nilOps
#print axioms LZ.GenDrain.modelNilRes_drain
#print axioms LZ.GenDrain.nSum_drainRes
#print axioms LZ.GenDrain.drain_buf
#print axioms LZ.GenDrain.drain_go
