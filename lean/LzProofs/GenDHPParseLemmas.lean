/-
  LzProofs.GenDHPParseLemmas — helper lemmas for LzProofs/GenDHPParse.lean (translated dhp.go
  `(*doubleHashParser).Parse` versus `ProbeW.parseW` for kind `.DHP`): the instances of the shared loop lemmas
  (LzProofs/GenParseShared.lean) for the generated loops of dhp.go and of `doubleHashDictionary.processSegment`
  (hash.go), `processSegment` = `ProbeW.processSegment2W` incl. its panic, and the extension loops seen from the code
  behind them (`ExtCont`).  The do-free forms of the finder `ProbeW.dhpProbeW` (`dhpProbeW_nf1/2`, `dhpTail1/2`) are
  in ProbeWForms.
-/
import LzModel.Generated.CodeDHPParse
import LzProofs.GenParseShared
import LzProofs.GenHashPropsDict2
import LzProofs.GenPropsCfgDHP

set_option linter.unusedSimpArgs false
set_option linter.unusedVariables false

namespace LZ.GenDHPParse
open LZ LZ.Gen LZ.GenBuf LZ.GenHash LZ.GenHPParse LZ.GenParse

theorem resBind_assoc {α β γ : Type} (m : Res α) (g : α → Res β) (k : β → Res γ) :
    Res.bind (Res.bind m g) k = Res.bind m (fun a => Res.bind (g a) k) :=
  bind_bind m g k

/-- the defining equation of a generated loop function against the loop body a shared lemma is stated for
    (`loop2_of_eqn` of GenParseShared): `rfl`; or — when the body calls extracted helpers
    (`h.put(i, x)`) — after unfolding every `@[gen_helper]` and re-associating the binds; or — when a test is spelled
    otherwise (operands, negation, arms swapped) — split every test as it comes, contradictory combinations by `omega` -/
local macro "loop_eqn" f:term : tactic => `(tactic|
  (rw [$f:term]
   first
     | rfl
     | (simp only [gen_helper, resBind_assoc, bind_ok]; rfl)
     | ((try simp only [gen_helper, resBind_assoc, bind_ok]); (repeat' split) <;>
          first
            | rfl
            | (exfalso; omega)
            | (exfalso; simp only [Int.ofNat_eq_natCast] at *; omega))))

/-! ## the two tables inside the Go state -/

@[reducible] def setDD (f : Gen.doubleHashDictionary) (t1 t2 : GSlice hashEntry) : Gen.doubleHashDictionary :=
  { f with h1 := { f.h1 with table := t1 }, h2 := { f.h2 with table := t2 } }

/-- a `doubleHashParser` with other tables (the only thing the loops of `Parse` change besides `W`) -/
@[reducible] def setTT (s : Gen.doubleHashParser) (t1 t2 : GSlice hashEntry) : Gen.doubleHashParser :=
  { s with doubleHashDictionary := setDD s.doubleHashDictionary t1 t2 }

/-- the model dictionary the two Go `hash` values stand for -/
def ofHash2 (g1 g2 : Gen.hash) (t1 t2 : GSlice hashEntry) : Hash2 := ⟨ofHashT g1 t1, ofHashT g2 t2⟩

/-! ## `processSegment` of the double dictionary -/

theorem psegLoop1 (b2 : Int) (_p : Slice) (n fuel j : Nat) (a : Int) (f : Gen.doubleHashDictionary)
    (ha : a = (j : Int)) (hn : n = (b2 - a).toNat) (hf : n < fuel) (hr : n = 0 ∨ j + n + 7 ≤ _p.len)
    (c1 : TCtx f.h1.mask f.h1.shift f.h1.inputLen _p) (ht1 : TOK f.h1.shift f.h1.table)
    (c2 : TCtx f.h2.mask f.h2.shift f.h2.inputLen _p) (ht2 : TOK f.h2.shift f.h2.table) :
    ∃ t1 t2, TOK f.h1.shift t1 ∧ TOK f.h2.shift t2 ∧
      ProbeW.insertRangeW (ofHash f.h1) _p.data j n = some (ofHashT f.h1 t1) ∧
      ProbeW.insertRangeW (ofHash f.h2) _p.data j n = some (ofHashT f.h2 t2) ∧
      doubleHashDictionary_processSegment_loop_1 b2 _p fuel a f = Res.ok (((j + n : Nat) : Int), setDD f t1 t2) := by
  obtain ⟨_, ⟨t1, t2, rfl, h1, h2⟩, hr', hl⟩ := insert_loop (ι := Unit)
    (fun _ => doubleHashDictionary_processSegment_loop_1 b2 _p) (fun _ => b2) (fun f => (ofHash f.h1, ofHash f.h2))
    (fun d i => (ProbeW.insertW d.1 _p.data i).bind fun a => (ProbeW.insertW d.2 _p.data i).bind fun b => some (a, b))
    (insertRange2W _p.data) (fun _ _ => rfl) (insertRange2W_succ _p.data)
    (fun f' => ∃ t1 t2, f' = setDD f t1 t2 ∧ TOK f.h1.shift t1 ∧ TOK f.h2.shift t2) j (j + n)
    (fun _ fuel a f' (h : ¬ a < b2) => by
      rw [doubleHashDictionary_processSegment_loop_1]
      first | rw [if_neg (by omega)] | rw [if_pos (by omega)])
    (fun i f' ⟨t1, t2, hf', h1, h2⟩ hlo hhi => by
      subst hf'
      obtain ⟨y, u1, hy, hF, hs1, hu1, hi1⟩ := insert_step f.h1 _p c1 t1 h1 (i : Int) i rfl (by omega)
      obtain ⟨y', u2, hy', _, hs2, hu2, hi2⟩ := insert_step f.h2 _p c2 t2 h2 (i : Int) i rfl (by omega)
      obtain rfl : y = y' := Option.some.inj (hy.symm.trans hy')
      refine ⟨setDD f u1 u2, ⟨u1, u2, rfl, hu1, hu2⟩, ?_, fun _ fuel (hb : (i : Int) < b2) => ?_⟩
      · show ((ProbeW.insertW (ofHashT f.h1 t1) _p.data i).bind fun a =>
          (ProbeW.insertW (ofHashT f.h2 t2) _p.data i).bind fun b => some (a, b)) = _
        rw [hi1, Option.bind_some, hi2]; rfl
      · rw [doubleHashDictionary_processSegment_loop_1]
        first | rw [if_pos (by omega)] | rw [if_neg (by omega)]
        rw [hF]
        -- `h.put(i, x)`: an extracted helper is unfolded
        try simp only [gen_helper, resBind_assoc, bind_ok]
        try dsimp only
        first
          | (rw [hs1, bind_ok]; (try dsimp only); rw [hs2, bind_ok])
          | (rw [hs2, bind_ok]; (try dsimp only); rw [hs1, bind_ok]))
    n fuel j f hf (Nat.le_refl _) (Nat.le_refl _) ⟨f.h1.table, f.h2.table, rfl, ht1, ht2⟩
  obtain ⟨hr1, hr2⟩ := insertRange2W_eq_some hr'
  exact ⟨t1, t2, h1, h2, hr1, hr2, hl () a ha hn⟩

theorem psegLoop2 (b1 : Int) (_p : Slice) (n fuel j : Nat) (a : Int) (f : Gen.doubleHashDictionary)
    (ha : a = (j : Int)) (hn : n = (b1 - a).toNat) (hf : n < fuel) (hr : n = 0 ∨ j + n + 7 ≤ _p.len)
    (c1 : TCtx f.h1.mask f.h1.shift f.h1.inputLen _p) (ht1 : TOK f.h1.shift f.h1.table) :
    ∃ t1, TOK f.h1.shift t1 ∧
      ProbeW.insertRangeW (ofHash f.h1) _p.data j n = some (ofHashT f.h1 t1) ∧
      doubleHashDictionary_processSegment_loop_2 b1 _p fuel a f = Res.ok (((j + n : Nat) : Int), setDD f t1 f.h2.table) := by
  obtain ⟨t1, h1, h3, hl⟩ := reindex_loop (ι := Unit) (fun _ => doubleHashDictionary_processSegment_loop_2 b1 _p)
    (fun _ => b1) _p (fun f => f.h1) (fun f t => setDD f t f.h2.table) (fun _ _ => rfl) (fun _ _ _ => rfl) (fun _ => rfl)
    (fun _ fuel a f (h : ¬ a < b1) => by
      rw [doubleHashDictionary_processSegment_loop_2]
      first | rw [if_neg (by omega)] | rw [if_pos (by omega)])
    (fun _ fuel a f y t' (h : a < b1) hF hset => by
      rw [doubleHashDictionary_processSegment_loop_2]
      first | rw [if_pos (by omega)] | rw [if_neg (by omega)]
      rw [hF]
      try simp only [gen_helper, resBind_assoc, bind_ok]
      try dsimp only
      rw [hset, bind_ok])
    n fuel j f hf hr c1 ht1
  exact ⟨t1, h1, h3, hl () a ha hn⟩

/-- what `Parse` needs of one Go `hash` value: the representation invariant `HashWF` plus `hashBits ≤ 32` -/
structure HOK (g : Gen.hash) : Prop where
  il0 : 0 ≤ g.inputLen
  mask : g.mask = maskOf g.inputLen.toNat
  sh1 : 32 ≤ g.shift.toNat
  sh2 : g.shift.toNat ≤ 64
  tok : TOK g.shift g.table

theorem HOK.ctx {g : Gen.hash} (h : HOK g) (_p : Slice) (hp : SWF _p) (hs : _p.len < 4294967296 + 8) :
    TCtx g.mask g.shift g.inputLen _p := ⟨hp, h.mask, h.sh1, h.sh2, hs⟩

/-- **`processSegment(a, b)`** of the double dictionary (hash.go), translated, versus `ProbeW.processSegment2W`:
    same panic (the reslice `f.Data[:b1+7]`), same tables.  `InputLen1 ≤ InputLen2` (then `b2 ≤ b1`: the loads of
    the first loop stay inside `_p`). -/
theorem gen_processSegment2 (fuel : Nat) (f : Gen.doubleHashDictionary) (a b : Int)
    (hD : SWF f.ParserBuffer.Data) (w1 : HOK f.h1) (w2 : HOK f.h2) (h12 : f.h1.inputLen ≤ f.h2.inputLen)
    (hsmall : f.ParserBuffer.Data.len < 4294967296) (hfuel : f.ParserBuffer.Data.len + 2 ≤ fuel) :
    match ProbeW.processSegment2W (ofHash f.h1) (ofHash f.h2) f.ParserBuffer.Data.data
        (f.ParserBuffer.Data.arr.drop f.ParserBuffer.Data.len) a b with
    | none => doubleHashDictionary_processSegment fuel f a b = Res.panic
    | some hh => ∃ t1 t2, TOK f.h1.shift t1 ∧ TOK f.h2.shift t2 ∧ hh = (ofHashT f.h1 t1, ofHashT f.h2 t2) ∧
        doubleHashDictionary_processSegment fuel f a b = Res.ok (setDD f t1 t2) := by
  have hlen : f.ParserBuffer.Data.data.length = f.ParserBuffer.Data.len := data_length hD
  have hi1 := w1.il0
  have hi2 := w2.il0
  -- the Go side: the body with every helper unfolded; its calls are picked out below by unification
  -- (`generalize … _ … = X at hG`)
  generalize hG : doubleHashDictionary_processSegment fuel f a b = G
  unfold doubleHashDictionary_processSegment at hG
  (try simp only [gen_helper] at hG)
  unfold ProbeW.processSegment2W
  have hc1 : ((f.ParserBuffer.Data.data.length : Nat) : Int) - ((ofHash f.h1).inputLen : Nat) + 1 =
      ((f.ParserBuffer.Data.len : Nat) : Int) - f.h1.inputLen + 1 := by
    rw [hlen]; show _ - ((f.h1.inputLen.toNat : Nat) : Int) + 1 = _
    rw [Int.toNat_of_nonneg hi1]
  have hc2 : ((f.ParserBuffer.Data.data.length : Nat) : Int) - ((ofHash f.h2).inputLen : Nat) + 1 =
      ((f.ParserBuffer.Data.len : Nat) : Int) - f.h2.inputLen + 1 := by
    rw [hlen]; show _ - ((f.h2.inputLen.toNat : Nat) : Int) + 1 = _
    rw [Int.toNat_of_nonneg hi2]
  -- the three clamps, on both sides, in the normal form `max (min · ·) 0`: then they are the same terms
  simp only [Option.bind_eq_bind, Option.pure_def, hc1, hc2, LZ.GenProps.gen_min, Int.ofNat_eq_natCast, gt_iff_lt,
    ge_iff_le, ite_lt_min, ite_le_min, ite_lt_max, ite_le_max] at hG ⊢
  generalize ha'd : Max.max a 0 = a' at hG ⊢
  generalize hc1d : Max.max (Min.min (((f.ParserBuffer.Data.len : Nat) : Int) - f.h1.inputLen + 1) b) 0 = c1 at hG ⊢
  generalize hc2d : Max.max (Min.min (((f.ParserBuffer.Data.len : Nat) : Int) - f.h2.inputLen + 1) b) 0 = c2 at hG ⊢
  have hb1' : 0 ≤ c1 ∧ c1 ≤ (f.ParserBuffer.Data.len : Int) + 1 := by omega
  have hb2' : 0 ≤ c2 ∧ c2 ≤ c1 := by omega
  have ha' : 0 ≤ a' := by omega
  clear ha'd hc1d hc2d hc1 hc2
  unfold BytesW.sliceTo
  rw [take_append_drop_data]
  -- `_p := f.Data[:b1+7]`
  generalize hS : Slice.slice f.ParserBuffer.Data 0 _ = S at hG
  by_cases hcap : c1.toNat + 7 ≤ f.ParserBuffer.Data.arr.length
  · rw [if_pos hcap, Option.bind_some]
    rw [slice_okI f.ParserBuffer.Data 0 _ 0 (c1.toNat + 7) rfl (by omega) (by omega) hcap] at hS
    subst hS
    rw [bind_ok] at hG
    simp only [List.drop_zero, Nat.sub_zero] at hG
    have hswf : SWF ({ arr := f.ParserBuffer.Data.arr, len := c1.toNat + 7 } : Slice) := hcap
    have hsm : ({ arr := f.ParserBuffer.Data.arr, len := c1.toNat + 7 } : Slice).len < 4294967296 + 8 := by
      show c1.toNat + 7 < _; omega
    -- the first loop (both tables)
    obtain ⟨t1, t2, ht1, ht2, hr1, hr2, hl⟩ := psegLoop1 c2 { arr := f.ParserBuffer.Data.arr, len := c1.toNat + 7 }
      (c2.toNat - a'.toNat) fuel a'.toNat a' f (by omega) (by omega) (by omega)
      (by show _ ∨ _ ≤ c1.toNat + 7; omega) (w1.ctx _ hswf hsm) w1.tok (w2.ctx _ hswf hsm) w2.tok
    rw [data_mk] at hr1 hr2
    generalize hY : doubleHashDictionary_processSegment_loop_1 _ _ _ _ _ = Y at hG
    have hYv : Y = Res.ok (((a'.toNat + (c2.toNat - a'.toNat) : Nat) : Int), setDD f t1 t2) :=
      hY.symm.trans (Eq.trans (by congr 1 <;> omega) hl)
    rw [hYv, bind_ok] at hG
    dsimp only at hG
    -- the second loop (the table of h1)
    obtain ⟨t1', ht1', hr1', hl'⟩ := psegLoop2 c1 { arr := f.ParserBuffer.Data.arr, len := c1.toNat + 7 }
      (c1.toNat - c2.toNat) fuel c2.toNat c2 (setDD f t1 t2) (by omega) (by omega) (by omega)
      (by show _ ∨ _ ≤ c1.toNat + 7; omega) (w1.ctx _ hswf hsm) ht1
    rw [data_mk] at hr1'
    generalize hZ : doubleHashDictionary_processSegment_loop_2 _ _ _ _ _ = Z at hG
    have hZv : Z = Res.ok (((c2.toNat + (c1.toNat - c2.toNat) : Nat) : Int),
        setDD (setDD f t1 t2) t1' (setDD f t1 t2).h2.table) :=
      hZ.symm.trans (Eq.trans (by congr 1 <;> omega) hl')
    rw [hZv, bind_ok] at hG
    dsimp only at hG
    subst hG
    have e1 : ProbeW.insertRangeW (ofHashT f.h1 t1) (List.take (c1.toNat + 7) f.ParserBuffer.Data.arr) c2.toNat
        (c1.toNat - c2.toNat) = some (ofHashT f.h1 t1') := hr1'
    rw [hr1, Option.bind_some, e1, Option.bind_some, hr2, Option.bind_some]
    exact ⟨t1', t2, ht1', ht2, rfl, rfl⟩
  · rw [if_neg hcap, ← hG, ← hS, slice_panic _ _ _ (by omega)]
    rfl

/-- `gen_processSegment2` read against the model's call wherever it occurs: `hr` is the model's call as the goal
    spells it (its arguments are found by unification), `a'`, `b'` are the arguments of the Go call -/
theorem gen_processSegment2_at (fuel : Nat) (f : Gen.doubleHashDictionary) (hD : SWF f.ParserBuffer.Data)
    (w1 : HOK f.h1) (w2 : HOK f.h2) (h12 : f.h1.inputLen ≤ f.h2.inputLen)
    (hsmall : f.ParserBuffer.Data.len < 4294967296) (hfuel : f.ParserBuffer.Data.len + 2 ≤ fuel)
    {data stale : List UInt8} {a b : Int} {r : Option (HashT × HashT)}
    (hr : ProbeW.processSegment2W (ofHash f.h1) (ofHash f.h2) data stale a b = r) (a' b' : Int)
    (hdata : data = f.ParserBuffer.Data.data)
    (hstale : stale = f.ParserBuffer.Data.arr.drop f.ParserBuffer.Data.len) (ha : a = a') (hb : b = b') :
    match (generalizing := false) r with
    | none => doubleHashDictionary_processSegment fuel f a' b' = Res.panic
    | some hh => ∃ t1 t2, TOK f.h1.shift t1 ∧ TOK f.h2.shift t2 ∧ hh = (ofHashT f.h1 t1, ofHashT f.h2 t2) ∧
        doubleHashDictionary_processSegment fuel f a' b' = Res.ok (setDD f t1 t2) := by
  subst hr hdata hstale ha hb
  exact gen_processSegment2 fuel f a b hD w1 w2 h12 hsmall hfuel

/-! ## the inner loops of `Parse` -/

theorem loop2_spec (grow : Nat → Nat → Nat) (x : UInt64) : Loop2Spec (doubleHashParser_Parse_loop_2 grow x) :=
  loop2_of_eqn _ (fun fuel k r q => by loop_eqn doubleHashParser_Parse_loop_2)

theorem loop6_spec (grow : Nat → Nat → Nat) (x : UInt64) : Loop2Spec (doubleHashParser_Parse_loop_6 grow x) :=
  loop2_of_eqn _ (fun fuel k r q => by loop_eqn doubleHashParser_Parse_loop_6)

/-! ### the extension loops seen from the code behind them

  The callers (`loop1_step`, `loop5_step` in GenDHPParseLoop) do not mention the loop functions, their parameter
  lists, their state tuples or exit codes: they apply `loop2_cont` / `loop6_cont` BY UNIFICATION to the term
  `Res.bind (loop … ) T` in the goal (`T` = whatever code follows the loop) and read the result of the loop through
  `ExtView` only.  A restructured extension loop (other state tuple, a flag instead of the exit code, another parameter
  list) needs a new `ExtView`, `loopN_spec` and `loopN_cont` — nothing else. -/

/-- how the code behind an extension loop reads the loop's result `res`: `done` = a mismatch was found inside the
    loop (the tail `if len(q) > 0 {…}` is skipped); `k`, `r`, `q` = the variables after the loop.  The interface
    (four conjuncts: test for `done`, `k`, `r`, `q`) is what the callers use. -/
def ExtView (res : Nat × Int × Slice × Slice) (done : Prop) (k : Int) (r q : Slice) : Prop :=
  (res.1 = 1 ↔ done) ∧ res.2.1 = k ∧ res.2.2.1 = r ∧ res.2.2.2 = q

/-- continuation form of `Loop2Spec`: the loop followed by ANY code `T` that computes `a` from every result the loop
    can have (`done`: the match length is `k`; otherwise the tail `if len(q) > 0 { … k += min(tz>>3, len(q)) }` makes
    it `kk`, stated as the Go `int` value the text has to compute) -/
def ExtCont (F : Nat → Int → Slice → Slice → Res (Nat × Int × Slice × Slice)) : Prop :=
  ∀ {β : Type} {T : Nat × Int × Slice × Slice → Res β} {a : Res β} (m fuel kN kk : Nat) {k : Int} {r q : Slice},
    q.len < 8 * m → m ≤ fuel → k = (kN : Int) → SWF r → SWF q → q.len ≤ r.len →
    BytesW.matchExtLoop r.data q.data kN = some kk →
    (∀ (res : Nat × Int × Slice × Slice) (done : Prop) (kN' : Nat) (r' q' : Slice),
      ExtView res done (kN' : Int) r' q' → SWF r' → SWF q' → (done → kN' = kk) →
      (¬ done → (if 0 < q'.len then (kN' : Int) +
          Min.min ((BytesW.tz64 (BytesW.getLE64 r'.data ^^^ BytesW.getLE64 q'.data) >>> 3 : Nat) : Int) q'.len
        else kN') = kk) → T res = a) →
    Res.bind (F fuel k r q) T = a

theorem ext_cont_of_spec {F : Nat → Int → Slice → Slice → Res (Nat × Int × Slice × Slice)} (hF : Loop2Spec F) :
    ExtCont F := by
  intro β T a m fuel kN kk k r q hm hmf hk hr hq hqr hme hT
  obtain ⟨e, kN', r', q', hl, hr', hq', hdisj⟩ := hF m fuel kN k r q hm hmf hk hr hq hqr
  rw [hl, bind_ok]
  rw [hme] at hdisj
  rcases hdisj with ⟨he, hm'⟩ | ⟨he, hm'⟩
  · exact hT _ (e = 1) kN' r' q' ⟨Iff.rfl, rfl, rfl, rfl⟩ hr' hq' (fun _ => (Option.some.inj hm').symm)
      (fun h => absurd he h)
  · refine hT _ (e = 1) kN' r' q' ⟨Iff.rfl, rfl, rfl, rfl⟩ hr' hq' (fun h => absurd h he) (fun _ => ?_)
    rw [Option.some.inj hm']
    simp only [BytesW.matchExtTail, data_length hq']
    split <;> (try split) <;> omega

/-- the two cases of `BytesW.matchExt`: the first word matches completely (`k8 = 8`: the extension loop runs on the
    two suffixes) or not (the match length is `k8`) -/
theorem matchExt_cases (A : List UInt8) (L i j k8 kk : Nat) (hLA : L ≤ A.length) (hk8 : i + k8 ≤ L) (hji : j < i)
    (hme : BytesW.matchExt (A.take L) i j k8 = some kk) :
    (k8 = 8 ∧ BytesW.matchExtLoop ((A.take L).drop (j + 8)) ((A.take L).drop (i + 8)) 8 = some kk) ∨
      (k8 ≠ 8 ∧ kk = k8) := by
  have hpl : (A.take L).length = L := by rw [List.length_take]; omega
  by_cases h8 : k8 = 8
  · subst h8
    rw [BytesW.matchExt_eight, BytesW.sliceFrom_eq_some _ _ (by omega), BytesW.sliceFrom_eq_some _ _ (by omega)] at hme
    exact Or.inl ⟨rfl, hme⟩
  · exact Or.inr ⟨h8, Option.some.inj (hme.symm.trans (BytesW.matchExt_of_ne _ i j h8))⟩

theorem loop2_cont {grow : Nat → Nat → Nat} {x : UInt64} : ExtCont (doubleHashParser_Parse_loop_2 grow x) :=
  ext_cont_of_spec (loop2_spec grow x)

theorem loop6_cont {grow : Nat → Nat → Nat} {x : UInt64} : ExtCont (doubleHashParser_Parse_loop_6 grow x) :=
  ext_cont_of_spec (loop6_spec grow x)

/-- loop_3 of `Parse` (`for j = i + 1; j < b; j++ { … }`: both tables) -/
theorem loop3_eq (grow : Nat → Nat → Nat) (b : Int) (y : UInt64) (_p : Slice) (x : UInt64) (h pos : UInt32)
    (n fuel j : Nat) (a : Int) (s : Gen.doubleHashParser)
    (ha : a = (j : Int)) (hn : n = (b - a).toNat) (hf : n < fuel) (hr : n = 0 ∨ j + n + 7 ≤ _p.len)
    (c1 : TCtx s.doubleHashDictionary.h1.mask s.doubleHashDictionary.h1.shift s.doubleHashDictionary.h1.inputLen _p)
    (ht1 : TOK s.doubleHashDictionary.h1.shift s.doubleHashDictionary.h1.table)
    (c2 : TCtx s.doubleHashDictionary.h2.mask s.doubleHashDictionary.h2.shift s.doubleHashDictionary.h2.inputLen _p)
    (ht2 : TOK s.doubleHashDictionary.h2.shift s.doubleHashDictionary.h2.table) :
    ∃ t1 t2, TOK s.doubleHashDictionary.h1.shift t1 ∧ TOK s.doubleHashDictionary.h2.shift t2 ∧
      ProbeW.insertRangeW (ofHash s.doubleHashDictionary.h1) _p.data j n = some (ofHashT s.doubleHashDictionary.h1 t1) ∧
      ProbeW.insertRangeW (ofHash s.doubleHashDictionary.h2) _p.data j n = some (ofHashT s.doubleHashDictionary.h2 t2) ∧
      doubleHashParser_Parse_loop_3 grow b y _p x h pos fuel a s = Res.ok (((j + n : Nat) : Int), setTT s t1 t2) := by
  obtain ⟨_, ⟨t1, t2, rfl, h1, h2⟩, hr', hl⟩ := insert_loop (ι := Unit)
    (fun _ => doubleHashParser_Parse_loop_3 grow b y _p x h pos) (fun _ => b)
    (fun s => (ofHash s.doubleHashDictionary.h1, ofHash s.doubleHashDictionary.h2))
    (fun d i => (ProbeW.insertW d.1 _p.data i).bind fun a => (ProbeW.insertW d.2 _p.data i).bind fun b => some (a, b))
    (insertRange2W _p.data) (fun _ _ => rfl) (insertRange2W_succ _p.data)
    (fun s' => ∃ t1 t2, s' = setTT s t1 t2 ∧ TOK s.doubleHashDictionary.h1.shift t1 ∧
      TOK s.doubleHashDictionary.h2.shift t2) j (j + n)
    (fun _ fuel a s' (h : ¬ a < b) => by
      rw [doubleHashParser_Parse_loop_3]
      first | rw [if_neg (by omega)] | rw [if_pos (by omega)])
    (fun i s' ⟨t1, t2, hs', h1, h2⟩ hlo hhi => by
      subst hs'
      obtain ⟨y1, u1, hy, hF, hs1, hu1, hi1⟩ :=
        insert_step s.doubleHashDictionary.h1 _p c1 t1 h1 (i : Int) i rfl (by omega)
      obtain ⟨y2, u2, hy', _, hs2, hu2, hi2⟩ :=
        insert_step s.doubleHashDictionary.h2 _p c2 t2 h2 (i : Int) i rfl (by omega)
      obtain rfl : y1 = y2 := Option.some.inj (hy.symm.trans hy')
      refine ⟨setTT s u1 u2, ⟨u1, u2, rfl, hu1, hu2⟩, ?_, fun _ fuel (hb : (i : Int) < b) => ?_⟩
      · show ((ProbeW.insertW (ofHashT s.doubleHashDictionary.h1 t1) _p.data i).bind fun a =>
          (ProbeW.insertW (ofHashT s.doubleHashDictionary.h2 t2) _p.data i).bind fun b => some (a, b)) = _
        rw [hi1, Option.bind_some, hi2]; rfl
      · rw [doubleHashParser_Parse_loop_3]
        first | rw [if_pos (by omega)] | rw [if_neg (by omega)]
        rw [hF]
        try simp only [gen_helper, resBind_assoc, bind_ok]
        try dsimp only
        first
          | (rw [hs2, bind_ok]; (try dsimp only); rw [hs1, bind_ok])
          | (rw [hs1, bind_ok]; (try dsimp only); rw [hs2, bind_ok]))
    n fuel j s hf (Nat.le_refl _) (Nat.le_refl _)
    ⟨s.doubleHashDictionary.h1.table, s.doubleHashDictionary.h2.table, rfl, ht1, ht2⟩
  obtain ⟨hr1, hr2⟩ := insertRange2W_eq_some hr'
  exact ⟨t1, t2, h1, h2, hr1, hr2, hl () a ha hn⟩

/-- a re-indexing loop of `Parse` on the table of h1 alone (loop_4, loop_7) -/
theorem loopH1_eq (F : Nat → Int → Gen.doubleHashParser → Res (Int × Gen.doubleHashParser)) (b : Int) (_p : Slice)
    (heq : ∀ fuel j s, F (fuel + 1) j s =
      if j < b then
        Res.bind (Slice.slice _p j (Int.ofNat _p.len)) fun t_1 =>
        Res.bind (LZ.Gen._getLE64 t_1) fun r_2 =>
        Res.bind (storeKey s.doubleHashDictionary.h1 s.doubleHashDictionary.h1.table r_2 j) fun t_3 =>
        F fuel (j + 1) (setTT s t_3 s.doubleHashDictionary.h2.table)
      else Res.ok (j, s))
    (n fuel j : Nat) (a : Int) (s : Gen.doubleHashParser)
    (ha : a = (j : Int)) (hn : n = (b - a).toNat) (hf : n < fuel) (hr : n = 0 ∨ j + n + 7 ≤ _p.len)
    (c1 : TCtx s.doubleHashDictionary.h1.mask s.doubleHashDictionary.h1.shift s.doubleHashDictionary.h1.inputLen _p)
    (ht1 : TOK s.doubleHashDictionary.h1.shift s.doubleHashDictionary.h1.table) :
    ∃ t1, TOK s.doubleHashDictionary.h1.shift t1 ∧
      ProbeW.insertRangeW (ofHash s.doubleHashDictionary.h1) _p.data j n = some (ofHashT s.doubleHashDictionary.h1 t1) ∧
      F fuel a s = Res.ok (((j + n : Nat) : Int), setTT s t1 s.doubleHashDictionary.h2.table) := by
  obtain ⟨t1, h1, h3, hl⟩ := reindex_loop (ι := Unit) (fun _ => F) (fun _ => b) _p (fun s => s.doubleHashDictionary.h1)
    (fun s t => setTT s t s.doubleHashDictionary.h2.table) (fun _ _ => rfl) (fun _ _ _ => rfl) (fun _ => rfl)
    (fun _ fuel a s (h : ¬ a < b) => by rw [heq, if_neg h])
    (fun _ fuel a s y t' (h : a < b) hF hset => by rw [heq, if_pos h, hF]; unfold storeKey; rw [hset, bind_ok])
    n fuel j s hf hr c1 ht1
  exact ⟨t1, h1, h3, hl () a ha hn⟩

/-- the re-indexing behind a match `[i, i + kk)` of the first loop: both tables for `[i + 1, min (i + kk) e2)` (loop_3),
    then the table of h1 alone up to `min (i + kk) e1` (loop_4; entered iff `e2 < i + kk`).  `b3`, `b4` = the bounds
    as the text computes them. -/
theorem loop34_eq (grow : Nat → Nat → Nat) (A : List UInt8) (E1 E2 i kk fuel : Nat) (s : Gen.doubleHashParser)
    (y x : UInt64) (h pos : UInt32) (t1 u1 : GSlice hashEntry)
    (w1 : HOK s.doubleHashDictionary.h1) (w2 : HOK s.doubleHashDictionary.h2)
    (ht1 : TOK s.doubleHashDictionary.h1.shift t1) (hu1 : TOK s.doubleHashDictionary.h2.shift u1)
    (hi : i < E2) (hkk : 1 ≤ kk) (hE21 : E2 ≤ E1) (hEA : E1 + 7 ≤ A.length) (hsm : E1 + 7 < 4294967296 + 8)
    (hfuel : E1 ≤ fuel + i) :
    ∃ t1a t2a t1b, TOK s.doubleHashDictionary.h1.shift t1b ∧ TOK s.doubleHashDictionary.h2.shift t2a ∧
      ProbeW.insertRangeW (ofHashT s.doubleHashDictionary.h1 t1) (A.take (E1 + 7)) (i + 1)
        (Min.min (i + kk) E1 - (i + 1)) = some (ofHashT s.doubleHashDictionary.h1 t1b) ∧
      ProbeW.insertRangeW (ofHashT s.doubleHashDictionary.h2 u1) (A.take (E1 + 7)) (i + 1)
        (Min.min (i + kk) E2 - (i + 1)) = some (ofHashT s.doubleHashDictionary.h2 t2a) ∧
      (∀ b3 ia : Int, b3 = ((Min.min (i + kk) E2 : Nat) : Int) → ia = ((i + 1 : Nat) : Int) →
        doubleHashParser_Parse_loop_3 grow b3 y { arr := A, len := E1 + 7 } x h pos fuel ia (setTT s t1 u1) =
          Res.ok (((Min.min (i + kk) E2 : Nat) : Int), setTT s t1a t2a)) ∧
      (E2 < i + kk → ∀ b4 : Int, b4 = ((Min.min (i + kk) E1 : Nat) : Int) →
        doubleHashParser_Parse_loop_4 grow b4 x { arr := A, len := E1 + 7 } h pos fuel
            ((Min.min (i + kk) E2 : Nat) : Int) (setTT s t1a t2a) =
          Res.ok (((Min.min (i + kk) E1 : Nat) : Int), setTT s t1b t2a)) ∧
      (¬ E2 < i + kk → t1b = t1a) := by
  have hswf : SWF ({ arr := A, len := E1 + 7 } : Slice) := hEA
  have c1 := w1.ctx { arr := A, len := E1 + 7 } hswf hsm
  have c2 := w2.ctx { arr := A, len := E1 + 7 } hswf hsm
  obtain ⟨t1a, t2a, ht1a, ht2a, hr1, hr2, hl3⟩ := loop3_eq grow ((Min.min (i + kk) E2 : Nat) : Int) y
    { arr := A, len := E1 + 7 } x h pos (Min.min (i + kk) E2 - (i + 1)) fuel (i + 1) ((i + 1 : Nat) : Int) (setTT s t1 u1)
    rfl (by omega) (by omega) (by show _ ∨ _ ≤ E1 + 7; omega) c1 ht1 c2 hu1
  have hj3 : i + 1 + (Min.min (i + kk) E2 - (i + 1)) = Min.min (i + kk) E2 := by omega
  rw [hj3] at hl3
  by_cases hlong : E2 < i + kk
  · obtain ⟨t1b, ht1b, hr4, hl4⟩ := loopH1_eq
      (doubleHashParser_Parse_loop_4 grow ((Min.min (i + kk) E1 : Nat) : Int) x { arr := A, len := E1 + 7 } h pos)
      ((Min.min (i + kk) E1 : Nat) : Int) { arr := A, len := E1 + 7 }
      (fun fuel j s => by loop_eqn doubleHashParser_Parse_loop_4)
      (Min.min (i + kk) E1 - Min.min (i + kk) E2) fuel (Min.min (i + kk) E2) ((Min.min (i + kk) E2 : Nat) : Int)
      (setTT s t1a t2a) rfl (by omega) (by omega) (by show _ ∨ _ ≤ E1 + 7; omega) c1 ht1a
    have hj4 : Min.min (i + kk) E2 + (Min.min (i + kk) E1 - Min.min (i + kk) E2) = Min.min (i + kk) E1 := by omega
    rw [hj4] at hl4
    exact ⟨t1a, t2a, t1b, ht1b, ht2a, ProbeW.insertRangeW_trans (by omega) (by omega) hr1 hr4, hr2,
      fun b3 ia hb ha => by rw [hb, ha]; exact hl3, fun _ b4 hb => by rw [hb]; exact hl4, fun hc => absurd hlong hc⟩
  · have hsame : Min.min (i + kk) E1 - (i + 1) = Min.min (i + kk) E2 - (i + 1) := by omega
    exact ⟨t1a, t2a, t1a, ht1a, ht2a, by rw [hsame]; exact hr1, hr2, fun b3 ia hb ha => by rw [hb, ha]; exact hl3,
      fun hc => absurd hc hlong, fun _ => rfl⟩

/-- the re-indexing behind a match `[i, i + kk)` of the second loop: the table of h1 from the MATCH position `j` up to
    `min (i + kk) e1` (loop_7).  `b` = the bound as the text computes it. -/
theorem loop7_eq (grow : Nat → Nat → Nat) (A : List UInt8) (E1 i j kk fuel : Nat) (s : Gen.doubleHashParser)
    (x : UInt64) (h : UInt32) (t1 : GSlice hashEntry) (w1 : HOK s.doubleHashDictionary.h1)
    (ht1 : TOK s.doubleHashDictionary.h1.shift t1) (hji : j < i) (hi : i < E1) (hEA : E1 + 7 ≤ A.length)
    (hsm : E1 + 7 < 4294967296 + 8) (hfuel : E1 < fuel) :
    ∃ t2, TOK s.doubleHashDictionary.h1.shift t2 ∧
      ProbeW.insertRangeW (ofHashT s.doubleHashDictionary.h1 t1) (A.take (E1 + 7)) j (Min.min (i + kk) E1 - j) =
        some (ofHashT s.doubleHashDictionary.h1 t2) ∧
      ∀ b ja : Int, b = ((Min.min (i + kk) E1 : Nat) : Int) → ja = (j : Int) →
        doubleHashParser_Parse_loop_7 grow b x { arr := A, len := E1 + 7 } h fuel ja
            (setTT s t1 s.doubleHashDictionary.h2.table) =
          Res.ok (((Min.min (i + kk) E1 : Nat) : Int), setTT s t2 s.doubleHashDictionary.h2.table) := by
  have hswf : SWF ({ arr := A, len := E1 + 7 } : Slice) := hEA
  obtain ⟨t2, ht2, hr7, hl7⟩ := loopH1_eq
    (doubleHashParser_Parse_loop_7 grow ((Min.min (i + kk) E1 : Nat) : Int) x { arr := A, len := E1 + 7 } h)
    ((Min.min (i + kk) E1 : Nat) : Int) { arr := A, len := E1 + 7 }
    (fun fuel j s => by loop_eqn doubleHashParser_Parse_loop_7)
    (Min.min (i + kk) E1 - j) fuel j (j : Int) (setTT s t1 s.doubleHashDictionary.h2.table) rfl (by omega) (by omega)
    (by show _ ∨ _ ≤ E1 + 7; omega) (w1.ctx _ hswf hsm) ht1
  have hj7 : j + (Min.min (i + kk) E1 - j) = Min.min (i + kk) E1 := by omega
  rw [hj7] at hl7
  exact ⟨t2, ht2, hr7, fun b ja hb ha => by rw [hb, ha]; exact hl7⟩

end LZ.GenDHPParse

#print axioms LZ.GenDHPParse.gen_processSegment2
#print axioms LZ.GenDHPParse.loop34_eq
#print axioms LZ.GenDHPParse.loop7_eq
