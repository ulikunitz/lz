/-
  LzProofs.ParseProbe — the probe contract, and the match finders of HP/BHP, DHP/BDHP and GSAP
  (BUP: LzProofs/ParseProbeBup.lean) for ARBITRARY dictionary states: every candidate taken from
  a hash table or suffix-array neighbour is compared with the real bytes before it is reported,
  so validity never depends on the contents of the search structure.  A hash probe in closed
  form: its answer is the verification of ONE candidate (`hpProbe_res`, `dhpProbe_res`), and the
  tables after the probe are a function of that answer (`hpProbe_fst`, `dhpProbe_fst`).
-/
import LzProofs.ParseLemmas
import LzProofs.GsapProps
namespace LZ

/-- Contract of a match finder on the block prefix `p` (window size `ws`, minimum match
    length `mm`): every reported match `(s, k, o)` starts between the first uncovered byte
    `li` and the probed position `i`, covers `i`, is a genuine match inside `p`, has an
    offset within the window and at least the minimum length. -/
def ProbeOK {δ} (F : Finder δ) (p : List Byte) (ws mm : Nat) : Prop :=
  ∀ d i li d' s k o, li ≤ i → F.probe d p i li = (d', some (s, k, o)) →
    li ≤ s ∧ s ≤ i ∧ i < s + k ∧ MatchOK p s k o ∧ o ≤ ws ∧ mm ≤ k

/-- C19, right: a reported match ends at the end of `p` or at a differing byte -/
def ProbeRightMax {δ} (F : Finder δ) (p : List Byte) : Prop :=
  ∀ d i li d' s k o, li ≤ i → F.probe d p i li = (d', some (s, k, o)) →
    s + k = p.length ∨ p[s + k]? ≠ p[s + k - o]?

/-- C19, left (backward-extending finders): the match starts at the first uncovered byte
    (no literal in front of it), or its source starts at the buffer start (`s = o`), or the
    byte in front of the match differs from the byte in front of the source -/
def ProbeLeftMax {δ} (F : Finder δ) (p : List Byte) : Prop :=
  ∀ d i li d' s k o, li ≤ i → F.probe d p i li = (d', some (s, k, o)) →
    s = li ∨ s = o ∨ p[s - 1]? ≠ p[s - 1 - o]?

/-- the verification of a candidate `j` for position `i` -/
def CandGood (ws mm : Nat) (p : List Byte) (i j : Nat) : Prop :=
  j < i ∧ i - j ≤ ws ∧ mm ≤ lcpLen (p.drop j) (p.drop i)

instance (ws mm : Nat) (p : List Byte) (i j : Nat) : Decidable (CandGood ws mm p i j) := by
  unfold CandGood; infer_instance

/-- the match the hash parsers report for the verified candidate `j` at position `i` (`li` = first
    uncovered byte): forward length `lcpLen`, for BHP / BDHP (`back`) extended backwards -/
def matchOf (p : List Byte) (back : Bool) (i li j : Nat) : Nat × Nat × Nat :=
  (i - (if back then backExt p i li j else 0),
   lcpLen (p.drop j) (p.drop i) + (if back then backExt p i li j else 0), i - j)

/-- the first probe of a block (`li = i`) cannot extend backwards: its match is the forward match -/
theorem matchOf_first (p : List Byte) (back : Bool) (i j : Nat) :
    matchOf p back i i j = (i, lcpLen (p.drop j) (p.drop i), i - j) := by
  have e : (if back = true then backExt p i i j else 0) = 0 := by
    split
    · rw [backExt_eq, if_neg (Nat.lt_irrefl _)]
    · rfl
  unfold matchOf
  rw [e]
  rfl

theorem backExt_if_le (back : Bool) (p : List Byte) (i li j : Nat) :
    (if back = true then backExt p i li j else 0) ≤ i - li := by
  split
  · exact (backExt_le p i li j).1
  · exact Nat.zero_le _

/-- the shape of every reported match: the match of a verified candidate -/
def CandForm (p : List Byte) (ws mm : Nat) (back : Bool) (i li s k o : Nat) : Prop :=
  ∃ j, CandGood ws mm p i j ∧ (s, k, o) = matchOf p back i li j

/-- a verified candidate satisfies the probe contract and is maximal to the right and, if extended
    backwards, to the left -/
theorem CandForm.ok {p : List Byte} {ws mm : Nat} {back : Bool} {i li s k o : Nat}
    (h : CandForm p ws mm back i li s k o) (hmm : 1 ≤ mm) (hli : li ≤ i) :
    (li ≤ s ∧ s ≤ i ∧ i < s + k ∧ MatchOK p s k o ∧ o ≤ ws ∧ mm ≤ k) ∧
    (s + k = p.length ∨ p[s + k]? ≠ p[s + k - o]?) ∧
    (back = true → (s = li ∨ s = o ∨ p[s - 1]? ≠ p[s - 1 - o]?)) := by
  obtain ⟨j, ⟨hji, hws, hk⟩, e⟩ := h
  simp only [matchOf, Prod.mk.injEq] at e
  obtain ⟨rfl, rfl, rfl⟩ := e
  have hkr := lcpLen_le_right (p.drop j) (p.drop i)
  rw [List.length_drop] at hkr
  have hip : i ≤ p.length := by omega
  generalize hm : (if back then backExt p i li j else 0) = m
  have hM : MatchOK p (i - m) (lcpLen (p.drop j) (p.drop i) + m) (i - j) := by
    rw [← hm]; split
    · exact backExt_matchOK p i li j _ hji hip (lcpLen_drop_matchOK p j i hji hip)
    · exact lcpLen_drop_matchOK p j i hji hip
  have hle : m ≤ i - li ∧ m ≤ j := by
    rw [← hm]; split
    · exact backExt_le p i li j
    · exact ⟨Nat.zero_le _, Nat.zero_le _⟩
  have hL : back = true → i - m = li ∨ j - m = 0 ∨ p[i - m - 1]? ≠ p[j - m - 1]? := by
    rintro rfl; rw [← hm]; exact backExt_maximal p i li j hji hip hli
  clear hm
  refine ⟨⟨by omega, Nat.sub_le _ _, by omega, hM, hws, Nat.le_add_right_of_le hk⟩, ?_, fun hb => ?_⟩
  · rw [show i - m + (lcpLen (p.drop j) (p.drop i) + m) = i + lcpLen (p.drop j) (p.drop i) by omega,
      show i + lcpLen (p.drop j) (p.drop i) - (i - j) = j + lcpLen (p.drop j) (p.drop i) by omega]
    rcases lcpLen_drop_maximal p j i hji with h | h | h
    · exact Or.inl h
    · omega
    · exact Or.inr h
  · rcases hL hb with h | h | h
    · exact Or.inl h
    · exact Or.inr (Or.inl (by omega))
    · by_cases h0 : j - m = 0
      · exact Or.inr (Or.inl (by omega))
      · rw [show i - m - 1 - (i - j) = j - m - 1 by omega]; exact Or.inr (Or.inr h)

/-- a finder all of whose matches are verified candidates -/
def Verifying {δ} (F : Finder δ) (p : List Byte) (ws mm : Nat) (back : Bool) : Prop :=
  ∀ d i li d' s k o, F.probe d p i li = (d', some (s, k, o)) → CandForm p ws mm back i li s k o

theorem Verifying.probeOK {δ} {F : Finder δ} {p : List Byte} {ws mm : Nat} {back : Bool}
    (h : Verifying F p ws mm back) (hmm : 1 ≤ mm) : ProbeOK F p ws mm :=
  fun d i li d' s k o hli hp => ((h d i li d' s k o hp).ok hmm hli).1

theorem Verifying.rightMax {δ} {F : Finder δ} {p : List Byte} {ws mm : Nat} {back : Bool}
    (h : Verifying F p ws mm back) (hmm : 1 ≤ mm) : ProbeRightMax F p :=
  fun d i li d' s k o hli hp => ((h d i li d' s k o hp).ok hmm hli).2.1

theorem Verifying.leftMax {δ} {F : Finder δ} {p : List Byte} {ws mm : Nat}
    (h : Verifying F p ws mm true) (hmm : 1 ≤ mm) : ProbeLeftMax F p :=
  fun d i li d' s k o hli hp => ((h d i li d' s k o hp).ok hmm hli).2.2 rfl

/-! ### the hash finders -/

/-- the entry in the slot the key `x` hashes to -/
def HashT.slot (h : HashT) (x : UInt64) : Nat × Nat := h.tbl.getD (hashValue x h.hashBits) (0, 0)

/-- a probe with ONE candidate: the candidate is reported iff it passes the verification
    (`CandGood`: earlier position, inside the window, at least `mm` common bytes) -/
def oneCandResult (ws mm : Nat) (p : List Byte) (back : Bool) (i li : Nat) :
    Option Nat → Option (Nat × Nat × Nat)
  | none => none
  | some j => if CandGood ws mm p i j then some (matchOf p back i li j) else none

/-- the candidate a hash table offers for position `i`: the position stored in the slot of the key
    of `i`, if the stored value is the value of that key -/
def HashT.cand (h : HashT) (p : List Byte) (i : Nat) : Option Nat :=
  if lo32 (h.key p i) = (h.slot (h.key p i)).2 then some (h.slot (h.key p i)).1 else none

/-- the candidate of DHP / BDHP: in the first loop (`i < e2`) the entry of the long table if its
    value matches, otherwise the entry of the short table; in the second loop the short table only.
    The parsers look at ONE entry per probe; lengths of the two entries are never compared. -/
def Hash2.cand (d : Hash2) (e2 : Nat) (p : List Byte) (i : Nat) : Option Nat :=
  if i < e2 then
    match d.h2.cand p i with
    | some j => some j
    | none => d.h1.cand p i
  else d.h1.cand p i

theorem oneCandResult_some {ws mm : Nat} {p : List Byte} {back : Bool} {i li : Nat} {c : Option Nat}
    {m : Nat × Nat × Nat} (h : oneCandResult ws mm p back i li c = some m) :
    ∃ j, c = some j ∧ CandGood ws mm p i j ∧ m = matchOf p back i li j := by
  cases c with
  | none => cases h
  | some j =>
    have h : (if CandGood ws mm p i j then some (matchOf p back i li j) else none) = some m := h
    split at h
    · rename_i hc
      exact ⟨j, rfl, hc, (Option.some.inj h).symm⟩
    · cases h

theorem oneCandResult_form {ws mm : Nat} {p : List Byte} {back : Bool} {i li : Nat} {c : Option Nat}
    {s k o : Nat} (h : oneCandResult ws mm p back i li c = some (s, k, o)) :
    CandForm p ws mm back i li s k o := by
  obtain ⟨j, -, hc, e⟩ := oneCandResult_some h
  exact ⟨j, hc, e⟩

theorem HashT.cand_some {h : HashT} {p : List Byte} {i j : Nat} (hc : h.cand p i = some j) :
    j = (h.slot (h.key p i)).1 := by
  unfold HashT.cand at hc
  split at hc
  · exact (Option.some.inj hc).symm
  · cases hc

theorem HashT.cand_of_slot {h : HashT} {p : List Byte} {i j : Nat}
    (hs : h.slot (h.key p i) = (j, lo32 (h.key p i))) : h.cand p i = some j := by
  unfold HashT.cand
  rw [hs]
  exact if_pos rfl

/-- all hash finders end in the same verification of their candidate `j`, whatever they do to
    the search structure (`A`, `B`) -/
theorem verifyTail_eq {α} (A B : α) (ws mm : Nat) (p : List Byte) (back : Bool) (i li j : Nat) :
    (if ¬ (j < i ∧ i - j ≤ ws) then (A, none)
     else if lcpLen (p.drop j) (p.drop i) < mm then (A, none)
     else (B, some (i - (if back then backExt p i li j else 0),
            lcpLen (p.drop j) (p.drop i) + (if back then backExt p i li j else 0), i - j))) =
      if CandGood ws mm p i j then (B, some (matchOf p back i li j)) else (A, none) := by
  by_cases h2 : j < i ∧ i - j ≤ ws
  · rw [if_neg (fun hn => hn h2)]
    by_cases h3 : lcpLen (p.drop j) (p.drop i) < mm
    · rw [if_pos h3, if_neg (fun hc : CandGood ws mm p i j => Nat.not_le_of_lt h3 hc.2.2)]
    · rw [if_neg h3, if_pos (show CandGood ws mm p i j from ⟨h2.1, h2.2, Nat.le_of_not_lt h3⟩)]
      rfl
  · rw [if_pos h2, if_neg (fun hc : CandGood ws mm p i j => h2 ⟨hc.1, hc.2.1⟩)]

theorem verifyTail_snd {α} (A B : α) (ws mm : Nat) (p : List Byte) (back : Bool) (i li j : Nat) :
    (if ¬ (j < i ∧ i - j ≤ ws) then (A, none)
     else if lcpLen (p.drop j) (p.drop i) < mm then (A, none)
     else (B, some (i - (if back then backExt p i li j else 0),
            lcpLen (p.drop j) (p.drop i) + (if back then backExt p i li j else 0), i - j))).2 =
      oneCandResult ws mm p back i li (some j) := by
  rw [verifyTail_eq]
  exact apply_ite Prod.snd _ _ _

/-- HP / BHP: the answer of a probe, whatever the table contains -/
theorem hpProbe_res (ws mm ie : Nat) (back : Bool) (h : HashT) (p : List Byte) (i li : Nat) :
    (hpProbe ws mm ie back h p i li).2 = oneCandResult ws mm p back i li (h.cand p i) := by
  unfold hpProbe HashT.cand HashT.slot
  simp only []
  by_cases h1 : lo32 (h.key p i) = (h.tbl.getD (hashValue (h.key p i) h.hashBits) (0, 0)).2
  · rw [if_neg (fun hn => hn h1), if_pos h1]
    exact verifyTail_snd _ _ ws mm p back i li _
  · rw [if_pos h1, if_neg h1]
    rfl

/-- DHP / BDHP: the answer of a probe, whatever the tables contain -/
theorem dhpProbe_res (ws mm e1 e2 : Nat) (back : Bool) (d : Hash2) (p : List Byte) (i li : Nat) :
    (dhpProbe ws mm e1 e2 back d p i li).2 = oneCandResult ws mm p back i li (d.cand e2 p i) := by
  unfold dhpProbe Hash2.cand HashT.cand HashT.slot
  simp only []
  by_cases hi : i < e2
  · simp only [hi, if_true]
    by_cases h2 : lo32 (d.h2.key p i) = (d.h2.tbl.getD (hashValue (d.h2.key p i) d.h2.hashBits) (0, 0)).2
    · rw [if_neg (fun hn => hn h2), if_pos h2]
      exact verifyTail_snd _ _ ws mm p back i li _
    · rw [if_pos h2, if_neg h2]
      by_cases h1 : lo32 (d.h1.key p i) = (d.h1.tbl.getD (hashValue (d.h1.key p i) d.h1.hashBits) (0, 0)).2
      · rw [if_neg (fun hn => hn h1), if_pos h1]
        exact verifyTail_snd _ _ ws mm p back i li _
      · rw [if_pos h1, if_neg h1]
        rfl
  · simp only [hi, if_false]
    by_cases h1 : lo32 (d.h1.key p i) = (d.h1.tbl.getD (hashValue (d.h1.key p i) d.h1.hashBits) (0, 0)).2
    · rw [if_neg (fun hn => hn h1), if_pos h1]
      exact verifyTail_snd _ _ ws mm p back i li _
    · rw [if_pos h1, if_neg h1]
      rfl

/-! ### what a probe does to the tables, given its answer -/

theorem verifyTail_fst {α} (A B : α) (R : Option (Nat × Nat × Nat) → α) (ws mm : Nat) (p : List Byte)
    (back : Bool) (i li j : Nat) (hA : R none = A)
    (hB : CandGood ws mm p i j → R (some (matchOf p back i li j)) = B) :
    (if ¬ (j < i ∧ i - j ≤ ws) then (A, none)
     else if lcpLen (p.drop j) (p.drop i) < mm then (A, none)
     else (B, some (i - (if back then backExt p i li j else 0),
            lcpLen (p.drop j) (p.drop i) + (if back then backExt p i li j else 0), i - j))).1 =
      R (if ¬ (j < i ∧ i - j ≤ ws) then (A, none)
     else if lcpLen (p.drop j) (p.drop i) < mm then (A, none)
     else (B, some (i - (if back then backExt p i li j else 0),
            lcpLen (p.drop j) (p.drop i) + (if back then backExt p i li j else 0), i - j))).2 := by
  rw [verifyTail_eq]
  split
  · rename_i hc; exact (hB hc).symm
  · exact hA.symm

/-- HP / BHP, BUP: behind a reported match `(s, k, _)` the positions `s + 1 … min (s + k) ie - 1` are
    indexed again (`ie`: the first position whose key bytes leave the block prefix) -/
def hpReindex (ie : Nat) (h : HashT) (p : List Byte) : Option (Nat × Nat × Nat) → HashT
  | none => h
  | some (s, k, _) => h.insertRange p (s + 1) (min (s + k) ie - (s + 1))

/-- HP / BHP: the table after a probe, given its answer -/
theorem hpProbe_fst (ws mm ie : Nat) (back : Bool) (h : HashT) (p : List Byte) (i li : Nat) :
    (hpProbe ws mm ie back h p i li).1 =
      hpReindex ie (h.insert p i) p (hpProbe ws mm ie back h p i li).2 := by
  unfold hpProbe HashT.insert
  simp only []
  by_cases h1 : lo32 (h.key p i) = (h.tbl.getD (hashValue (h.key p i) h.hashBits) (0, 0)).2
  · rw [if_neg (fun hn => hn h1)]
    exact verifyTail_fst _ _ (hpReindex ie _ p) ws mm p back i li _ rfl (fun _ => rfl)
  · rw [if_pos h1]; rfl

theorem hpProbe_none {ws mm ie : Nat} {back : Bool} {h : HashT} {p : List Byte} {i li : Nat} {d' : HashT}
    (hp : hpProbe ws mm ie back h p i li = (d', none)) : d' = h.insert p i := by
  have := hpProbe_fst ws mm ie back h p i li
  rw [hp] at this; exact this

theorem hpProbe_some {ws mm ie : Nat} {back : Bool} {h : HashT} {p : List Byte} {i li : Nat} {d' : HashT}
    {s k o : Nat} (hp : hpProbe ws mm ie back h p i li = (d', some (s, k, o))) :
    (∃ j, h.cand p i = some j ∧ CandGood ws mm p i j ∧ (s, k, o) = matchOf p back i li j) ∧
    d' = (h.insert p i).insertRange p (s + 1) (min (s + k) ie - (s + 1)) := by
  have h1 := hpProbe_fst ws mm ie back h p i li
  have h2 := hpProbe_res ws mm ie back h p i li
  rw [hp] at h1 h2
  exact ⟨oneCandResult_some h2.symm, h1⟩

theorem hpProbe_of_cand (ws mm ie : Nat) (back : Bool) {h : HashT} {p : List Byte} {i j : Nat} (li : Nat)
    (hc : h.cand p i = some j) (hg : CandGood ws mm p i j) :
    (hpProbe ws mm ie back h p i li).2 = some (matchOf p back i li j) := by
  rw [hpProbe_res, hc]; exact if_pos hg

/-- the first thing a DHP / BDHP probe does: position `i` goes into the short table, in the first
    loop also into the long one -/
def Hash2.ins (d : Hash2) (e2 : Nat) (p : List Byte) (i : Nat) : Hash2 :=
  if i < e2 then { h1 := d.h1.insert p i, h2 := d.h2.insert p i } else { d with h1 := d.h1.insert p i }

/-- DHP / BDHP behind a reported match `(s, k, o)`: in the first loop the positions behind `s` are
    indexed again in the short table and (DHP only) in the long one; in the second loop the short
    table is re-indexed from the match source `i - o` -/
def dhpReindex (e1 e2 : Nat) (back : Bool) (d : Hash2) (p : List Byte) (i : Nat) :
    Option (Nat × Nat × Nat) → Hash2
  | none => d
  | some (s, k, o) =>
    if i < e2 then
      { h1 := d.h1.insertRange p (s + 1) (min (s + k) e1 - (s + 1)),
        h2 := if back then d.h2 else d.h2.insertRange p (s + 1) (min (s + k) e2 - (s + 1)) }
    else { d with h1 := d.h1.insertRange p (i - o) (min (s + k) e1 - (i - o)) }

/-- DHP / BDHP: the tables after a probe, given its answer -/
theorem dhpProbe_fst (ws mm e1 e2 : Nat) (back : Bool) (d : Hash2) (p : List Byte) (i li : Nat) :
    (dhpProbe ws mm e1 e2 back d p i li).1 =
      dhpReindex e1 e2 back (d.ins e2 p i) p i (dhpProbe ws mm e1 e2 back d p i li).2 := by
  unfold dhpProbe Hash2.ins HashT.insert
  simp only []
  by_cases hi : i < e2
  · simp only [hi, if_true]
    by_cases h2 : lo32 (d.h2.key p i) = (d.h2.tbl.getD (hashValue (d.h2.key p i) d.h2.hashBits) (0, 0)).2
    · rw [if_neg (fun hn => hn h2)]
      exact verifyTail_fst _ _ (dhpReindex e1 e2 back _ p i) ws mm p back i li _ rfl
        (fun _ => by simp only [dhpReindex, matchOf, hi, if_true])
    · rw [if_pos h2]
      by_cases h1 : lo32 (d.h1.key p i) = (d.h1.tbl.getD (hashValue (d.h1.key p i) d.h1.hashBits) (0, 0)).2
      · rw [if_neg (fun hn => hn h1)]
        exact verifyTail_fst _ _ (dhpReindex e1 e2 back _ p i) ws mm p back i li _ rfl
          (fun _ => by simp only [dhpReindex, matchOf, hi, if_true])
      · rw [if_pos h1]
        rfl
  · simp only [hi, if_false]
    by_cases h1 : lo32 (d.h1.key p i) = (d.h1.tbl.getD (hashValue (d.h1.key p i) d.h1.hashBits) (0, 0)).2
    · rw [if_neg (fun hn => hn h1)]
      exact verifyTail_fst _ _ (dhpReindex e1 e2 back _ p i) ws mm p back i li _ rfl
        (fun hc => by simp only [dhpReindex, matchOf, hi, if_false, Nat.sub_sub_self (Nat.le_of_lt hc.1)])
    · rw [if_pos h1]
      rfl

theorem dhpProbe_none {ws mm e1 e2 : Nat} {back : Bool} {d : Hash2} {p : List Byte} {i li : Nat}
    {d' : Hash2} (hp : dhpProbe ws mm e1 e2 back d p i li = (d', none)) : d' = d.ins e2 p i := by
  have := dhpProbe_fst ws mm e1 e2 back d p i li
  rw [hp] at this; exact this

theorem dhpProbe_some {ws mm e1 e2 : Nat} {back : Bool} {d : Hash2} {p : List Byte} {i li : Nat}
    {d' : Hash2} {s k o : Nat} (hp : dhpProbe ws mm e1 e2 back d p i li = (d', some (s, k, o))) :
    (∃ j, d.cand e2 p i = some j ∧ CandGood ws mm p i j ∧ (s, k, o) = matchOf p back i li j) ∧
    d' = dhpReindex e1 e2 back (d.ins e2 p i) p i (some (s, k, o)) := by
  have h1 := dhpProbe_fst ws mm e1 e2 back d p i li
  have h2 := dhpProbe_res ws mm e1 e2 back d p i li
  rw [hp] at h1 h2
  exact ⟨oneCandResult_some h2.symm, h1⟩

theorem dhpProbe_of_cand (ws mm e1 e2 : Nat) (back : Bool) {d : Hash2} {p : List Byte} {i j : Nat}
    (li : Nat) (hc : d.cand e2 p i = some j) (hg : CandGood ws mm p i j) :
    (dhpProbe ws mm e1 e2 back d p i li).2 = some (matchOf p back i li j) := by
  rw [dhpProbe_res, hc]; exact if_pos hg

theorem Hash2.cand_some {d : Hash2} {e2 : Nat} {p : List Byte} {i j : Nat} (hc : d.cand e2 p i = some j) :
    j = (d.h2.slot (d.h2.key p i)).1 ∨ j = (d.h1.slot (d.h1.key p i)).1 := by
  unfold Hash2.cand at hc
  split at hc
  · split at hc
    · rename_i h2
      exact Or.inl ((HashT.cand_some h2).symm ▸ (Option.some.inj hc).symm)
    · exact Or.inr (HashT.cand_some hc)
  · exact Or.inr (HashT.cand_some hc)

theorem Hash2.cand_of_h2 {d : Hash2} {e2 : Nat} {p : List Byte} {i j : Nat} (hi : i < e2)
    (hs : d.h2.slot (d.h2.key p i) = (j, lo32 (d.h2.key p i))) : d.cand e2 p i = some j := by
  unfold Hash2.cand
  rw [if_pos hi, HashT.cand_of_slot hs]

theorem Hash2.cand_of_h1 {d : Hash2} {e2 : Nat} {p : List Byte} {i j : Nat} (hi : ¬ i < e2)
    (hs : d.h1.slot (d.h1.key p i) = (j, lo32 (d.h1.key p i))) : d.cand e2 p i = some j := by
  unfold Hash2.cand
  rw [if_neg hi, HashT.cand_of_slot hs]

theorem hpProbe_verifying (ws mm inputEnd : Nat) (back : Bool) (p : List Byte) :
    Verifying ⟨hpProbe ws mm inputEnd back⟩ p ws mm back := by
  intro h i li d' s k o hp
  have hr := hpProbe_res ws mm inputEnd back h p i li
  rw [show hpProbe ws mm inputEnd back h p i li = (d', some (s, k, o)) from hp] at hr
  exact oneCandResult_form hr.symm

theorem dhpProbe_verifying (ws mm e1 e2 : Nat) (back : Bool) (p : List Byte) :
    Verifying ⟨dhpProbe ws mm e1 e2 back⟩ p ws mm back := by
  intro d i li d' s k o hp
  have h := dhpProbe_res ws mm e1 e2 back d p i li
  rw [show dhpProbe ws mm e1 e2 back d p i li = (d', some (s, k, o)) from hp] at h
  exact oneCandResult_form h.symm

/-! ### GSAP -/

theorem gsapProbe_some (ws mm : Nat) (g : GsapD) (p : List Byte) (i li : Nat)
    (hmm : 1 ≤ mm) (d' : GsapD) (s k o : Nat)
    (hp : gsapProbe ws mm g p i li = (d', some (s, k, o))) :
    CandForm p ws mm false i li s k o ∧ o < ws := by
  rw [Sap.gsapProbe_eq] at hp
  simp only [] at hp
  have hc := Sap.gsapCand_cases g.sa (g.bits.setIfInBounds (g.isa.getD i 0) true) p i (g.isa.getD i 0)
  generalize Sap.gsapCand g.sa (g.bits.setIfInBounds (g.isa.getD i 0) true) p i (g.isa.getD i 0) = c
    at hp hc
  split at hp
  · cases hp
  split at hp
  · cases hp
  rename_i h1 h2
  cases hp
  have h2' := Decidable.not_not.mp h2
  rcases hc with ⟨j, -, rfl⟩ | ⟨-, -, rfl⟩ <;> simp only at h1 h2'
  · exact ⟨⟨_, ⟨h2'.1, by omega, by omega⟩, rfl⟩, h2'.2⟩
  · omega

theorem gsapProbe_verifying (ws mm : Nat) (hmm : 1 ≤ mm) (p : List Byte) :
    Verifying ⟨gsapProbe ws mm⟩ p ws mm false :=
  fun d i li d' s k o hp => (gsapProbe_some ws mm d p i li hmm d' s k o hp).1

end LZ
