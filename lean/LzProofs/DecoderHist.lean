/-
  LzProofs.DecoderHist — the history-level theorem for `Decoder` (decoder_buffer.go), properties
  C04, C06, C17, C18.  The per-call theorems of LzProofs.DecoderProps / DecoderWB are stated for one
  call from a state satisfying `DecBuf.Inv` (and `Hist`); this module composes them over ARBITRARY
  lists of calls (`DOp`, the methods of Go's `Decoder`) starting from `Init` with an accepted
  configuration.

  The specification is the ghost `refOf`: the reference LZ77 expansion (`expandSeqs`) of what the
  calls REPORT as consumed since the last `Reset` (`n` for `Write`, `k`/`l` for `WriteBlock`, `err`
  for `WriteByte`); it is computed from the recorded results only.  `decoder_history` is the main
  theorem; `C06_history_*`, `C17_history_*`, `C18_history_*` are its corollaries.

  The invariant carried along a history is `Decoder.Good` (DecoderLemmas.lean: the buffer represents the log, so the
  window is addressable and `Off` counts the log); `DInv`, the invariant the statements speak of, is read off it
  (`DInv.of_good`), and `reach_ok` says that every state reachable from an accepted `Init` is `Good` — the hypothesis of
  the C07 theorems (AcceptProps.lean).  A call that is a `Decoder.Run` fulfils the operation-independent part of its
  contract (`step_of_run`).  Everything holds for every growth function `g : Grow` without hypothesis.  Proved here as
  well: `Off` moves in step with the log across the Decoder loops (`writeByte_off`, `write_off`, `writeBlock_off`:
  both steps of the loops keep it, `OffStep.stepClosed`), and `Decoder.WriteBlock` never returns `ErrFullBuffer`
  (`writeBlock_not_full`, a field of its postcondition `writeBlock_post`).
-/
import LzProofs.DecoderWB
namespace LZ
open DecBuf Decoder

/-! ## `Off` across the Decoder calls (not covered by the per-call theorems) -/

namespace DecBuf

theorem writeBlock_off (g : Grow) (b : DecBuf) (blk : Block) (h : Inv b) :
    ((b.writeBlock g blk).1.off : Int) = (b.off : Int) + (b.writeBlock g blk).2.1 := by
  rcases hr : b.writeBlock g blk with ⟨b', n, k, l, e⟩
  obtain ⟨x, s⟩ := writeBlock_run g h blk hr
  show (b'.off : Int) = b.off + n
  rw [s.n_eq, s.step.off]
  exact Int.natCast_add _ _

end DecBuf

namespace Decoder

/-- `Off` and the log grow in step between two decoder states -/
def OffStep (d d' : Decoder) : Prop := d'.buf.off + d.log.length = d.buf.off + d'.log.length

theorem OffStep.refl (d : Decoder) : OffStep d d := rfl

theorem OffStep.stepClosed (d0 : Decoder) : StepClosed (OffStep d0) := by
  refine ⟨fun d b' x h ⟨_, hx, ho, _⟩ hd => ?_, fun d h hd => ?_⟩
  · unfold OffStep at hd ⊢
    rw [log_ext h.1 hx, List.length_append]
    show b'.off + _ = _
    omega
  · unfold OffStep at hd ⊢
    rw [(writeTo_flushed d h).log]
    exact hd

theorem writeByte_off (g : Grow) (d : Decoder) (c : Byte) (h : DecBuf.Inv d.buf) :
    OffStep d (d.writeByte g c).1 :=
  (writeByte_spec g d c h).1.closed _ (OffStep.stepClosed d) (OffStep.refl d)

theorem write_off (g : Grow) (d : Decoder) (p : List Byte) (acc : Nat) (h : DecBuf.Inv d.buf) :
    OffStep d (d.write g p acc).1 :=
  (write_spec g d p acc h).run.elim fun _ r => r.closed _ (OffStep.stepClosed d) (OffStep.refl d)

theorem writeBlock_off (g : Grow) (d : Decoder) (seqs : List Seq) (lits : List Byte) (n : Int)
    (k l : Nat) (h : DecBuf.Inv d.buf) : OffStep d (d.writeBlock g seqs lits n k l).1 :=
  (writeBlock_post g d seqs lits n k l h).run.elim fun _ r => r.closed _ (OffStep.stepClosed d) (OffStep.refl d)

/-- `Decoder.WriteBlock` never hands the buffer's `ErrFullBuffer` to its caller: the buffer errors
    that remain are the three block errors. -/
theorem writeBlock_not_full (g : Grow) (d : Decoder) (seqs : List Seq) (lits : List Byte) (n : Int)
    (k l : Nat) (h : DecBuf.Inv d.buf) : (d.writeBlock g seqs lits n k l).2.2.2.2 ≠ .full := by
  rcases (writeBlock_post g d seqs lits n k l h).1 with ⟨_, hne⟩ | hw
  · exact hne
  · exact fun hf => BufErr.not_WErr (.inr (.inl hf)) hw

end Decoder

/-! ## histories of `Decoder` calls -/

namespace DecoderHist

/-- the calls of `Decoder` (decoder_buffer.go: `WriteByte`, `Write`, `WriteBlock`, `Flush`,
    `Reset(w)`).  `reset resps` installs a fresh scripted writer (responses `resps`, nothing
    received yet). -/
inductive DOp where
  | writeByte (c : Byte)
  | write (p : List Byte)
  | writeBlock (seqs : List Seq) (lits : List Byte)
  | flush
  | reset (resps : List (Nat × Nat))
deriving Repr

/-- what a call returns: `err`, and `n`, `k`, `l` where the Go method has them (0 otherwise) -/
structure DObs where
  err : Err
  n : Int
  k : Nat
  l : Nat
deriving Repr, DecidableEq

/-- one call on the model (the accumulator arguments of `Decoder.write` / `Decoder.writeBlock`
    start at 0, as in the Go methods) -/
def stepD (g : Grow) (d : Decoder) : DOp → Decoder × DObs
  | .writeByte c => ((d.writeByte g c).1, ⟨(d.writeByte g c).2, 0, 0, 0⟩)
  | .write p => ((d.write g p 0).1, ⟨(d.write g p 0).2.2, (d.write g p 0).2.1, 0, 0⟩)
  | .writeBlock seqs lits =>
    ((d.writeBlock g seqs lits 0 0 0).1,
      ⟨(d.writeBlock g seqs lits 0 0 0).2.2.2.2, (d.writeBlock g seqs lits 0 0 0).2.1,
        (d.writeBlock g seqs lits 0 0 0).2.2.1, (d.writeBlock g seqs lits 0 0 0).2.2.2.1⟩)
  | .flush => (d.flush.1, ⟨d.flush.2, 0, 0, 0⟩)
  | .reset resps => (d.reset ⟨resps, []⟩, ⟨.ok, 0, 0, 0⟩)

/-- run a history; the calls with their results are recorded in order -/
def runD (g : Grow) (d : Decoder) : List DOp → Decoder × List (DOp × DObs)
  | [] => (d, [])
  | op :: ops =>
    ((runD g (stepD g d op).1 ops).1, (op, (stepD g d op).2) :: (runD g (stepD g d op).1 ops).2)

/-- Ghost: the reference LZ77 expansion of what the calls *report* as consumed.  It only uses the
    call's arguments, its results (`err` for `WriteByte`, `n` for `Write`, `k` and `l` for
    `WriteBlock`) and the reference expander `expandSeqs`: `k` sequences, then the literals beyond
    those of the `k` sequences up to `l`. -/
def refStep (ref : List Byte) : DOp → DObs → List Byte
  | .writeByte c, o => if o.err = .ok then ref ++ [c] else ref
  | .write p, o => ref ++ p.take o.n.toNat
  | .writeBlock seqs lits, o =>
    match expandSeqs ref lits (seqs.take o.k) with
    | some (out, rest) => out ++ rest.take (o.l - (lits.length - rest.length))
    | none => ref
  | .flush, _ => ref
  | .reset _, _ => []

/-- the ghost after a recorded history -/
def refOf (ref : List Byte) (tr : List (DOp × DObs)) : List Byte :=
  tr.foldl (fun r x => refStep r x.1 x.2) ref

/-- the state invariant, relative to the ghost `ref` -/
structure DInv (d : Decoder) (ref : List Byte) : Prop where
  /-- `R ≤ len(Data) ≤ BufferSize`, `WindowSize < BufferSize` -/
  inv : DecBuf.Inv d.buf
  /-- `Data[:R]` is the tail of what the writer has received -/
  hist : Decoder.Hist d
  /-- each byte once, in order, nothing lost: received by the writer ++ still buffered = `ref` -/
  log : ref = d.w.got ++ d.buf.data.drop d.buf.r
  /-- C17: `Off` = number of bytes written since Init/Reset -/
  off : d.buf.off = ref.length

/-- the errors a call may return (C06/C18): `ok`, the writer's own error or `ErrShortWrite`
    (`WErr`), and for `WriteBlock` the three block errors — never `ErrFullBuffer`, the hang marker,
    or the panic marker -/
def ErrOK : DOp → Err → Prop
  | .writeBlock _ _, e => e = .ok ∨ e = .litLen ∨ e = .offset ∨ e = .matchLen ∨ WErr e
  | .reset _, e => e = .ok
  | _, e => e = .ok ∨ WErr e

/-- the result equations of one call (C17/C18): ghost before `ref`, after `ref'`, state after `d'` -/
def ResultOK (ref : List Byte) (o : DObs) (d' : Decoder) (ref' : List Byte) : DOp → Prop
  | .writeByte c => ref' = ref ++ (if o.err = .ok then [c] else [])
  | .write p => ∃ m : Nat, o.n = (m : Int) ∧ m ≤ p.length ∧ ref' = ref ++ p.take m ∧
      (o.err = .ok → m = p.length)
  | .writeBlock seqs lits =>
      Expands ref lits seqs o.k o.l ref' ∧
      (∃ z, ref' = ref ++ z ∧ o.n = (z.length : Int)) ∧
      (o.err = .ok → o.k = seqs.length ∧ o.l = lits.length ∧ expand ref ⟨seqs, lits⟩ = some ref')
  | .flush => ref' = ref ∧ (o.err = .ok → d'.w.got = ref)
  | .reset resps => ref' = [] ∧ d'.w = ⟨resps, []⟩

/-- the contract of one call from state `d` (ghost `ref`) to state `d'` (ghost `ref'`) -/
structure StepOK (d : Decoder) (ref : List Byte) (op : DOp) (o : DObs) (d' : Decoder)
    (ref' : List Byte) : Prop where
  /-- C06: the branch in which the Go loop would spin is not taken -/
  no_hang : o.err ≠ hangErr
  no_panic : o.err ≠ .panic
  errs : ErrOK op o.err
  /-- C18: every error code among the scripted writer responses used up is the returned error -/
  surfaced : (∃ r, op = .reset r) ∨ Surfaced d.w.resps d'.w.resps o.err
  /-- the writer only ever receives more bytes -/
  got_grows : (∃ r, op = .reset r) ∨ ∃ y, d'.w.got = d.w.got ++ y
  /-- `WindowSize` never changes, `BufferSize` never shrinks -/
  geometry : d'.buf.ws = d.buf.ws ∧ d.buf.bs ≤ d'.buf.bs
  result : ResultOK ref o d' ref' op

/-- `P` holds for every call of the history `ops` run from state `d` with ghost `ref` -/
def EveryCall (g : Grow)
    (P : Decoder → List Byte → DOp → DObs → Decoder → List Byte → Prop) :
    Decoder → List Byte → List DOp → Prop
  | _, _, [] => True
  | d, ref, op :: ops =>
    P d ref op (stepD g d op).2 (stepD g d op).1 (refStep ref op (stepD g d op).2) ∧
    EveryCall g P (stepD g d op).1 (refStep ref op (stepD g d op).2) ops

theorem ErrOK.ne {op : DOp} {e : Err} (h : ErrOK op e) : e ≠ hangErr ∧ e ≠ .panic := by
  have hw : ∀ {e : Err}, WErr e → e ≠ hangErr ∧ e ≠ .panic := by
    intro e h; rcases h with h | ⟨c, h⟩ <;> simp [h, hangErr]
  cases op <;> simp only [ErrOK] at h
  case writeBlock =>
    rcases h with h | h | h | h | h
    · simp [h, hangErr]
    · simp [h, hangErr]
    · simp [h, hangErr]
    · simp [h, hangErr]
    · exact hw h
  case reset => simp [h, hangErr]
  all_goals
    rcases h with h | h
    · simp [h, hangErr]
    · exact hw h

/-! ### one call keeps the invariant and fulfils its contract -/

theorem DInv.of_good {d : Decoder} (h : Good d) : DInv d d.log :=
  ⟨h.inv, ((good_iff d).1 h).2.1, rfl, h.off⟩

/-- a call that runs from `d` to `d'` keeps `Good` and fulfils the part of its contract that does not depend on the
    operation; the ghost is the log -/
theorem step_of_run {d d' : Decoder} {z : List Byte} {op : DOp} {o : DObs} (hG : Good d)
    (r : Decoder.Run d d' z o.err) (hE : ErrOK op o.err) (hres : ResultOK d.log o d' d'.log op) :
    Good d' ∧ StepOK d d.log op o d' d'.log :=
  ⟨r.closed _ Good.stepClosed hG, hE.ne.1, hE.ne.2, hE, Or.inr r.surfaced, Or.inr r.got, ⟨r.ws, r.bs⟩, hres⟩

/-- One call from a `Good` state: `Good` again, the ghost computed from the reported results is the log, and the
    contract holds. -/
theorem step_ok (g : Grow) {d : Decoder} (hG : Good d) (op : DOp) :
    Good (stepD g d op).1 ∧ refStep d.log op (stepD g d op).2 = (stepD g d op).1.log ∧
    StepOK d d.log op (stepD g d op).2 (stepD g d op).1 (stepD g d op).1.log := by
  have hi := hG.inv
  have hh : Hist d := ((good_iff d).1 hG).2.1
  cases op with
  | writeByte c =>
    obtain ⟨r, s4⟩ := Decoder.writeByte_spec g d c hi
    have hr : refStep d.log (.writeByte c) (stepD g d (.writeByte c)).2 = (d.writeByte g c).1.log := by
      show (if (d.writeByte g c).2 = .ok then d.log ++ [c] else d.log) = _
      rw [r.log]
      by_cases he : (d.writeByte g c).2 = .ok
      · rw [if_pos he, if_pos he]
      · rw [if_neg he, if_neg he, List.append_nil]
    have hs := step_of_run (op := .writeByte c) (o := (stepD g d (.writeByte c)).2) hG r s4 r.log
    exact ⟨hs.1, hr, hs.2⟩
  | write p =>
    obtain ⟨s4, m, s5, s6, r, s8⟩ := Decoder.write_spec g d p 0 hi
    rw [Nat.zero_add] at s5
    have hr : refStep d.log (.write p) (stepD g d (.write p)).2 = (d.write g p 0).1.log := by
      rw [r.log]; simp only [refStep, stepD, s5, Int.toNat_natCast]
    have hs := step_of_run (op := .write p) (o := (stepD g d (.write p)).2) hG r s4
      ⟨m, by simp only [stepD, s5], s6, r.log, s8⟩
    exact ⟨hs.1, hr, hs.2⟩
  | writeBlock seqs lits =>
    have s4 := (Decoder.writeBlock_post g d seqs lits 0 0 0 hi).1
    obtain ⟨_, r⟩ := (Decoder.writeBlock_post g d seqs lits 0 0 0 hi).run
    obtain ⟨hX, -⟩ := C18_writeBlock_expands' g d seqs lits hi hh
    obtain ⟨z, z1, z2, z3, z4, z5, _⟩ := C18_writeBlock_log g d seqs lits hi
    have hr : refStep d.log (.writeBlock seqs lits) (stepD g d (.writeBlock seqs lits)).2
        = (d.writeBlock g seqs lits 0 0 0).1.log := by
      obtain ⟨_, out1, rest, t, a1, a2, _, _, a5⟩ := hX
      simp only [refStep, stepD, a1]
      rw [a5]; congr 2; omega
    have hE : ErrOK (.writeBlock seqs lits) (d.writeBlock g seqs lits 0 0 0).2.2.2.2 := by
      simp only [ErrOK]
      rcases s4 with ⟨h1 | h1 | h1 | h1 | h1, hnf⟩ | h1
      · exact .inl h1
      · exact absurd h1 hnf
      · exact .inr (.inl h1)
      · exact .inr (.inr (.inl h1))
      · exact .inr (.inr (.inr (.inl h1)))
      · exact .inr (.inr (.inr (.inr h1)))
    have hs := step_of_run (op := .writeBlock seqs lits) (o := (stepD g d (.writeBlock seqs lits)).2) hG r hE
      ⟨hX, ⟨z, z1, z2⟩, fun he => ?_⟩
    · exact ⟨hs.1, hr, hs.2⟩
    obtain ⟨k1, l1⟩ := z5 he
    refine ⟨k1, l1, ?_⟩
    have k1' : (d.writeBlock g seqs lits 0 0 0).2.2.1 = seqs.length := k1
    have l1' : (d.writeBlock g seqs lits 0 0 0).2.2.2.1 = lits.length := l1
    rw [k1', l1'] at hX
    exact hX.full
  | flush =>
    have t := Decoder.writeTo_flushed d hi
    have hs := step_of_run (op := .flush) (o := (stepD g d .flush).2) (d' := (stepD g d .flush).1) hG
      (Decoder.Run.flush hi rfl) t.err
      ⟨t.log, fun he => by rw [← t.log, Decoder.log, t.pending_nil he, List.append_nil]; rfl⟩
    exact ⟨hs.1, t.log.symm, hs.2⟩
  | reset resps =>
    obtain ⟨r1, r2⟩ := good_reset hG ⟨resps, []⟩ rfl
    have hE : ErrOK (.reset resps) .ok := rfl
    refine ⟨r1, r2.symm, hE.ne.1, hE.ne.2, hE, Or.inl ⟨_, rfl⟩, Or.inl ⟨_, rfl⟩, ⟨rfl, ?_⟩, r2, rfl⟩
    simp only [stepD, Decoder.reset, DecBuf.reset]; split <;> omega

/-! ### histories -/

/-- the contract checked at every call of a history: invariant before, contract, invariant after -/
def CallOK (d : Decoder) (ref : List Byte) (op : DOp) (o : DObs) (d' : Decoder) (ref' : List Byte) :
    Prop := DInv d ref ∧ StepOK d ref op o d' ref' ∧ DInv d' ref'

/-- Every history from a `Good` state ends in a `Good` state (so the window is addressable there and the hypotheses of
    the per-call theorems hold), the ghost is the log, and every call fulfilled its contract. -/
theorem run_ok (g : Grow) (ops : List DOp) : ∀ (d : Decoder), Good d →
    Good (runD g d ops).1 ∧ refOf d.log (runD g d ops).2 = (runD g d ops).1.log ∧
    EveryCall g CallOK d d.log ops := by
  induction ops with
  | nil => intro d h; exact ⟨h, rfl, trivial⟩
  | cons op ops ih =>
    intro d h
    obtain ⟨h1, hr, h2⟩ := step_ok g h op
    obtain ⟨i1, i2, i3⟩ := ih _ h1
    simp only [runD, refOf, List.foldl_cons, EveryCall]
    rw [hr]
    exact ⟨i1, i2, ⟨DInv.of_good h, h2, DInv.of_good h1⟩, i3⟩

theorem runD_append (g : Grow) (a b : List DOp) : ∀ d : Decoder,
    runD g d (a ++ b) = ((runD g (runD g d a).1 b).1, (runD g d a).2 ++ (runD g (runD g d a).1 b).2) := by
  induction a with
  | nil => intro d; rfl
  | cons op a ih => intro d; simp only [List.cons_append, runD, ih]

theorem refOf_append (ref : List Byte) (a b : List (DOp × DObs)) :
    refOf ref (a ++ b) = refOf (refOf ref a) b := by
  simp only [refOf, List.foldl_append]

theorem EveryCall.at {g : Grow} {P : Decoder → List Byte → DOp → DObs → Decoder → List Byte → Prop}
    (pre : List DOp) (op : DOp) (post : List DOp) : ∀ {d : Decoder} {ref : List Byte},
    EveryCall g P d ref (pre ++ op :: post) →
    P (runD g d pre).1 (refOf ref (runD g d pre).2) op (stepD g (runD g d pre).1 op).2
      (stepD g (runD g d pre).1 op).1
      (refStep (refOf ref (runD g d pre).2) op (stepD g (runD g d pre).1 op).2) := by
  induction pre with
  | nil => intro d ref h; exact h.1
  | cons x pre ih =>
    intro d ref h
    have := ih h.2
    simpa only [runD, refOf, List.foldl_cons] using this

theorem trace_all {g : Grow} {P : Decoder → List Byte → DOp → DObs → Decoder → List Byte → Prop}
    {Q : DOp → DObs → Prop} (hPQ : ∀ d ref op o d' ref', P d ref op o d' ref' → Q op o)
    (ops : List DOp) : ∀ {d : Decoder} {ref : List Byte}, EveryCall g P d ref ops →
    ∀ x ∈ (runD g d ops).2, Q x.1 x.2 := by
  induction ops with
  | nil => intro d ref _ x hx; simp [runD] at hx
  | cons op ops ih =>
    intro d ref h x hx
    simp only [runD, List.mem_cons] at hx
    rcases hx with rfl | hx
    · exact hPQ _ _ _ _ _ _ h.1
    · exact ih h.2 x hx

/-- `Decoder.Init(w, cfg)`: `DecoderBuffer.Init` plus a fresh scripted writer -/
def initD (ws bs : Int) (precap : Nat) (resps : List (Nat × Nat)) : Option Decoder :=
  (DecBuf.init ws bs precap).map (fun b => { buf := b, w := ⟨resps, []⟩ })

/-- accepted configurations are exactly those accepted by `SetDefaults`+`Verify` -/
theorem initD_isSome_iff (ws bs : Int) (precap : Nat) (resps : List (Nat × Nat)) :
    (initD ws bs precap resps).isSome ↔ (decCfg ws bs).isSome := by
  simp only [initD, Option.isSome_map]
  unfold DecBuf.init; split <;> simp [*]

theorem initD_good {ws bs : Int} {precap : Nat} {resps : List (Nat × Nat)} {d0 : Decoder}
    (h : initD ws bs precap resps = some d0) : Good d0 ∧ d0.log = [] := by
  unfold initD at h
  cases hb : DecBuf.init ws bs precap with
  | none => rw [hb] at h; cases h
  | some b =>
    rw [hb, Option.map_some, Option.some.injEq] at h
    subst h
    exact good_init hb ⟨resps, []⟩ rfl

/-- every state reachable from an accepted `Init` is `Good`; the ghost of the history is its log -/
theorem reach_ok (g : Grow) {ws bs : Int} {precap : Nat} {resps : List (Nat × Nat)} {d0 : Decoder}
    (hinit : initD ws bs precap resps = some d0) (ops : List DOp) :
    Good (runD g d0 ops).1 ∧ DInv (runD g d0 ops).1 (refOf [] (runD g d0 ops).2) ∧
    EveryCall g CallOK d0 [] ops := by
  obtain ⟨h0, hl⟩ := initD_good hinit
  obtain ⟨h1, hr, h2⟩ := run_ok g ops d0 h0
  rw [hl] at hr h2
  exact ⟨h1, hr ▸ DInv.of_good h1, h2⟩

/-! ### C17: the reported counts add up -/

/-- the byte counts reported by the calls since the last `Reset` (`WriteByte` reports no count:
    1 on success) -/
def reportedStep (acc : Int) (x : DOp × DObs) : Int :=
  match x.1 with
  | .reset _ => 0
  | .flush => acc
  | .writeByte _ => if x.2.err = .ok then acc + 1 else acc
  | .write _ => acc + x.2.n
  | .writeBlock _ _ => acc + x.2.n

def reported (acc : Int) (tr : List (DOp × DObs)) : Int := tr.foldl reportedStep acc

theorem StepOK.counts {d d' : Decoder} {ref ref' : List Byte} {op : DOp} {o : DObs}
    (h : StepOK d ref op o d' ref') : reportedStep ref.length (op, o) = ref'.length := by
  have hr := h.result
  cases op with
  | writeByte c =>
    simp only [ResultOK] at hr
    simp only [reportedStep, hr]
    split <;> simp
  | write p =>
    obtain ⟨m, h1, h2, h3, _⟩ := hr
    simp only [reportedStep, h1, h3, List.length_append, List.length_take, Nat.min_eq_left h2]
    omega
  | writeBlock seqs lits =>
    obtain ⟨_, ⟨z, h1, h2⟩, _⟩ := hr
    simp only [reportedStep, h1, h2, List.length_append]
    omega
  | flush => simp only [ResultOK] at hr; simp only [reportedStep, hr.1]
  | reset r => simp only [ResultOK] at hr; simp only [reportedStep, hr.1, List.length_nil]; rfl

theorem run_counts (g : Grow) (ops : List DOp) : ∀ {d : Decoder} {ref : List Byte},
    EveryCall g CallOK d ref ops →
    reported ref.length (runD g d ops).2 = (refOf ref (runD g d ops).2).length := by
  induction ops with
  | nil => intro d ref _; rfl
  | cons op ops ih =>
    intro d ref h
    simp only [runD, reported, refOf, List.foldl_cons]
    rw [h.1.2.1.counts]
    exact ih h.2

/-! # The history-level theorems -/

/-- History theorem for `Decoder` (C04, C06, C17, C18).  For every growth function `g`, every
    accepted configuration (`initD … = some d0`: `DecoderConfig.SetDefaults`+`Verify` accept, any
    pre-allocated capacity, any writer script) and EVERY list of calls `ops` (`WriteByte`, `Write`,
    `WriteBlock` with arbitrary — also invalid — blocks, `Flush`, `Reset` with any new writer
    script), with `r` the final state and recorded results and `ref` the reference expansion of what
    the calls reported as consumed since the last `Reset`:

    1. the structural invariant of the buffer holds;
    2. no recorded result is the hang marker (C06: the retry loops never spin) or the panic marker,
       and every returned error is `ok`, the writer's own error / `ErrShortWrite`, or (for
       `WriteBlock`) `errLitLen` / `errOffset` / `errMatchLen` — never `ErrFullBuffer`;
    3. `ref = got ++ Data[R:]`: what the writer has accepted followed by what is still buffered is
       exactly `ref` — each byte once, in order, nothing lost; in particular `got` is a prefix of
       `ref` (C18), and the window `Data` is a suffix of `ref` (C04);
    4. `Off = len(ref)`, and the reported byte counts since the last `Reset` add up to it (C17);
    5. every single call of the history was issued in a state satisfying the invariant and fulfilled
       its contract `StepOK` (result equations `ResultOK` for `n`, `k`, `l`, error surfacing,
       `got` only grows), and re-established the invariant. -/
theorem decoder_history (g : Grow) {ws bs : Int} {precap : Nat} {resps : List (Nat × Nat)}
    {d0 : Decoder} (hinit : initD ws bs precap resps = some d0) (ops : List DOp) :
    let r := runD g d0 ops
    let ref := refOf [] r.2
    DecBuf.Inv r.1.buf ∧
    (∀ x ∈ r.2, x.2.err ≠ hangErr ∧ x.2.err ≠ .panic ∧ ErrOK x.1 x.2.err) ∧
    (ref = r.1.w.got ++ r.1.buf.data.drop r.1.buf.r ∧ r.1.w.got <+: ref ∧ r.1.buf.data <:+ ref) ∧
    (r.1.buf.off = ref.length ∧ reported 0 r.2 = (ref.length : Int)) ∧
    EveryCall g CallOK d0 [] ops := by
  intro r ref
  obtain ⟨-, h1, h2⟩ := reach_ok g hinit ops
  have hlog : ref = r.1.w.got ++ r.1.buf.data.drop r.1.buf.r := h1.log
  refine ⟨h1.inv, ?_, ⟨hlog, ⟨_, hlog.symm⟩, ?_⟩, ⟨h1.off, run_counts g ops h2⟩, h2⟩
  · exact trace_all (Q := fun op o => o.err ≠ hangErr ∧ o.err ≠ .panic ∧ ErrOK op o.err)
      (fun d ref op o d' ref' h => ⟨h.2.1.no_hang, h.2.1.no_panic, h.2.1.errs⟩) ops h2
  · obtain ⟨pre, hp⟩ := Decoder.Hist.log h1.hist
    exact ⟨pre, by rw [hlog]; exact hp.symm⟩

/-- The same, spelled out for one call: the call `op` issued after ANY history `pre` finds the
    invariant, fulfils its contract and re-establishes the invariant. -/
theorem decoder_history_call (g : Grow) {ws bs : Int} {precap : Nat} {resps : List (Nat × Nat)}
    {d0 : Decoder} (hinit : initD ws bs precap resps = some d0) (pre : List DOp) (op : DOp) :
    let s := runD g d0 pre
    let ref := refOf [] s.2
    let c := stepD g s.1 op
    DInv s.1 ref ∧ StepOK s.1 ref op c.2 c.1 (refStep ref op c.2) ∧ DInv c.1 (refStep ref op c.2) := by
  intro s ref c
  obtain ⟨hG, h1, -⟩ := reach_ok g hinit pre
  obtain ⟨s1, hr, s2⟩ := step_ok g hG op
  have hl : ref = s.1.log := h1.log
  clear_value ref
  subst hl
  refine ⟨DInv.of_good hG, ?_, ?_⟩ <;> rw [hr]
  · exact s2
  · exact DInv.of_good s1

/-- C06 over histories: no call of any history returns the hang marker. -/
theorem C06_history_no_hang (g : Grow) {ws bs : Int} {precap : Nat} {resps : List (Nat × Nat)}
    {d0 : Decoder} (hinit : initD ws bs precap resps = some d0) (ops : List DOp) :
    ∀ x ∈ (runD g d0 ops).2, x.2.err ≠ hangErr ∧ x.2.err ≠ .panic ∧ ErrOK x.1 x.2.err :=
  (decoder_history g hinit ops).2.1

/-- C04/C18 over histories: the bytes accepted by the writer are a prefix of the reference
    expansion; together with the unflushed bytes they are the reference expansion. -/
theorem C18_history_prefix (g : Grow) {ws bs : Int} {precap : Nat} {resps : List (Nat × Nat)}
    {d0 : Decoder} (hinit : initD ws bs precap resps = some d0) (ops : List DOp) :
    (runD g d0 ops).1.w.got <+: refOf [] (runD g d0 ops).2 ∧
    refOf [] (runD g d0 ops).2 =
      (runD g d0 ops).1.w.got ++ (runD g d0 ops).1.buf.data.drop (runD g d0 ops).1.buf.r :=
  ⟨(decoder_history g hinit ops).2.2.1.2.1, (decoder_history g hinit ops).2.2.1.1⟩

/-- C17 over histories: `Off` is the number of bytes written since Init/Reset (the length of
    the reference expansion), and equals the sum of the reported counts. -/
theorem C17_history_off (g : Grow) {ws bs : Int} {precap : Nat} {resps : List (Nat × Nat)}
    {d0 : Decoder} (hinit : initD ws bs precap resps = some d0) (ops : List DOp) :
    (runD g d0 ops).1.buf.off = (refOf [] (runD g d0 ops).2).length ∧
    reported 0 (runD g d0 ops).2 = ((runD g d0 ops).1.buf.off : Int) := by
  obtain ⟨h1, h2⟩ := (decoder_history g hinit ops).2.2.2.1
  exact ⟨h1, by rw [h1]; exact h2⟩

/-- C18 exactly once: if a `Flush` issued after any history returns `ok`, the writer has
    received exactly the reference expansion of everything reported as consumed since the last
    `Reset` — no byte lost, none duplicated — and nothing is left in the buffer. -/
theorem C18_history_flush_exactly_once (g : Grow) {ws bs : Int} {precap : Nat}
    {resps : List (Nat × Nat)} {d0 : Decoder} (hinit : initD ws bs precap resps = some d0)
    (ops : List DOp) (hok : (runD g d0 ops).1.flush.2 = .ok) :
    let r := runD g d0 (ops ++ [.flush])
    r.2 = (runD g d0 ops).2 ++ [(.flush, ⟨.ok, 0, 0, 0⟩)] ∧
    r.1.w.got = refOf [] r.2 ∧ r.1.buf.data.drop r.1.buf.r = [] := by
  intro r
  obtain ⟨h0, h1, h2⟩ := decoder_history_call g hinit ops .flush
  have hr : r = ((stepD g (runD g d0 ops).1 .flush).1,
      (runD g d0 ops).2 ++ [(.flush, (stepD g (runD g d0 ops).1 .flush).2)]) := by
    show runD g d0 (ops ++ [.flush]) = _
    rw [runD_append]; rfl
  have hobs : (stepD g (runD g d0 ops).1 .flush).2 = ⟨.ok, 0, 0, 0⟩ := by
    simp only [stepD, hok]
  have hgot := h1.result.2 (by rw [hobs])
  have hlog := h2.log
  have href : refOf [] r.2 = refOf [] (runD g d0 ops).2 := by
    rw [hr, refOf_append]; rfl
  rw [href]
  refine ⟨by rw [hr, hobs], by rw [hr]; exact hgot, ?_⟩
  rw [hr]
  simp only [refStep] at hlog
  rw [hgot] at hlog
  have h3 : refOf [] (runD g d0 ops).2 ++
      List.drop (stepD g (runD g d0 ops).1 .flush).1.buf.r (stepD g (runD g d0 ops).1 .flush).1.buf.data
      = refOf [] (runD g d0 ops).2 ++ [] := by rw [List.append_nil]; exact hlog.symm
  exact List.append_cancel_left h3

/-- C18 retry, at every reachable state (`Write`): after ANY history, the caller's retry
    protocol for `p` (re-submit `p[n:]` after each writer fault, finally flush until success) ends
    with the writer holding `ref ++ p` — everything exactly once. -/
theorem C18_history_retry_write (g : Grow) {ws bs : Int} {precap : Nat} {resps : List (Nat × Nat)}
    {d0 : Decoder} (hinit : initD ws bs precap resps = some d0) (ops : List DOp) (p : List Byte) :
    let s := runD g d0 ops
    ∃ d', retryWrite g (s.1.w.resps.length + 1) s.1 p = some d' ∧
      d'.w.got = refOf [] s.2 ++ p ∧ d'.buf.data.drop d'.buf.r = [] := by
  intro s
  have h1 := (reach_ok g hinit ops).2.1
  obtain ⟨d', a1, a2, a3⟩ := C18_retry_exactly_once g s.1 p h1.inv
  exact ⟨d', a1, by rw [a2]; congr 1; exact h1.log.symm, a3⟩

/-- C18 retry, at every reachable state (`WriteBlock`): after ANY history the retry protocol
    for a block finishes with a block error or in success, and on success the writer holds exactly
    the reference expansion of the block on top of `ref`. -/
theorem C18_history_retry_block (g : Grow) {ws bs : Int} {precap : Nat} {resps : List (Nat × Nat)}
    {d0 : Decoder} (hinit : initD ws bs precap resps = some d0) (ops : List DOp)
    (seqs : List Seq) (lits : List Byte) :
    let s := runD g d0 ops
    ∃ d' e, retryBlock g (s.1.w.resps.length + 1) s.1 seqs lits = some (d', e) ∧ BufErr e ∧
      (e = .ok → expand (refOf [] s.2) ⟨seqs, lits⟩ = some d'.w.got ∧
        d'.buf.data.drop d'.buf.r = []) := by
  intro s
  have h1 := (reach_ok g hinit ops).2.1
  obtain ⟨d', e, a1, a2, a3⟩ := C18_retryBlock_exactly_once' g s.1 seqs lits h1.inv h1.hist
  refine ⟨d', e, a1, a2, fun he => ?_⟩
  have hl : refOf [] s.2 = s.1.log := h1.log
  rw [hl]
  exact a3 he

/-! ## non-vacuity: concrete histories with a faulting writer -/

namespace Ex
open DecoderEx

/-- WindowSize 2, BufferSize 3; the writer takes 1 byte at its first call (short write), fails with
    error 7 at its second call, then takes everything. -/
example : initD 2 3 0 [(1, 0), (0, 7)] = some d0 := by rfl

/-- `Write` of 4 bytes (short write after 3 consumed), retry of the remainder, `Flush` hitting the
    writer's error, `Flush` succeeding; then `Reset` with a writer that accepts 1 byte per call,
    two `WriteByte`s, a short `Flush` and a final `Flush`. -/
def ops1 : List DOp :=
  [.write [1, 2, 3, 4], .write [4], .flush, .write [], .flush,
   .reset [(1, 0)], .writeByte 8, .writeByte 9, .flush, .flush]

def dR : Decoder := { buf := ⟨[8, 9], 2, 2, 2, 3, 3⟩, w := ⟨[], [8, 9]⟩ }

def tr1 : List (DOp × DObs) :=
  [(.write [1, 2, 3, 4], ⟨.shortWrite, 3, 0, 0⟩), (.write [4], ⟨.ok, 1, 0, 0⟩),
   (.flush, ⟨.writer 7, 0, 0, 0⟩), (.write [], ⟨.ok, 0, 0, 0⟩), (.flush, ⟨.ok, 0, 0, 0⟩),
   (.reset [(1, 0)], ⟨.ok, 0, 0, 0⟩), (.writeByte 8, ⟨.ok, 0, 0, 0⟩), (.writeByte 9, ⟨.ok, 0, 0, 0⟩),
   (.flush, ⟨.shortWrite, 0, 0, 0⟩), (.flush, ⟨.ok, 0, 0, 0⟩)]

def dI : Decoder := { buf := ⟨[], 0, 0, 2, 3, 3⟩, w := ⟨[(1, 0)], []⟩ }
def dJ : Decoder := { buf := ⟨[8], 0, 1, 2, 3, 3⟩, w := ⟨[(1, 0)], []⟩ }
def dK : Decoder := { buf := ⟨[8, 9], 0, 2, 2, 3, 3⟩, w := ⟨[(1, 0)], []⟩ }
def dL : Decoder := { buf := ⟨[8, 9], 1, 2, 2, 3, 3⟩, w := ⟨[], [8]⟩ }

theorem ex_r1 : dD.reset ⟨[(1, 0)], []⟩ = dI := by
  simp [Decoder.reset, DecBuf.reset, dD, dI]
theorem ex_r2 : dI.writeByte gId 8 = (dJ, Err.ok) := by
  simp [Decoder.writeByte, DecBuf.writeByte, DecBuf.append, dI, dJ]
theorem ex_r3 : dJ.writeByte gId 9 = (dK, Err.ok) := by
  simp [Decoder.writeByte, DecBuf.writeByte, DecBuf.append, dJ, dK]
theorem ex_r4 : dK.flush = (dL, Err.shortWrite) := by
  simp [Decoder.flush, Decoder.writeTo, Writer.write, dK, dL]
theorem ex_r5 : dL.flush = (dR, Err.ok) := by
  simp [Decoder.flush, Decoder.writeTo, Writer.write, dL, dR]

theorem ex_run1 : runD gId d0 ops1 = (dR, tr1) := by
  simp [runD, stepD, ops1, tr1, ex_s1, ex_s2, ex_s3, ex_s4, ex_s5, ex_r1, ex_r2, ex_r3, ex_r4, ex_r5]

/-- the ghost computed from the reported results alone -/
example : refOf [] (tr1.take 5) = [1, 2, 3, 4] ∧ refOf [] tr1 = [8, 9] := by decide

/-- the history theorem instantiated: its hypothesis holds (`rfl`), and its conclusions are the
    concrete facts about this run (writer holds the reference expansion, `Off = 2`, counts = 2) -/
example : DecBuf.Inv dR.buf ∧ dR.w.got = refOf [] tr1 ∧ dR.buf.off = 2 ∧ reported 0 tr1 = 2 ∧
    (∀ x ∈ tr1, x.2.err ≠ hangErr ∧ x.2.err ≠ .panic ∧ ErrOK x.1 x.2.err) := by
  have h := decoder_history gId (ws := 2) (bs := 3) (precap := 0) (resps := [(1, 0), (0, 7)])
    (d0 := d0) rfl ops1
  simp only [ex_run1] at h
  obtain ⟨h1, h2, ⟨h3, _, _⟩, ⟨h4, h5⟩, _⟩ := h
  have hr : refOf [] tr1 = [8, 9] := by decide
  refine ⟨h1, ?_, by rw [h4, hr]; rfl, by rw [h5, hr]; rfl, h2⟩
  rw [h3]; simp [dR]

/-- exactly-once corollary instantiated for the first five calls (final `Flush` returns `ok`
    although the first writer call was short and the second failed) -/
example : dD.w.got = [1, 2, 3, 4] := by
  have h := C18_history_flush_exactly_once gId (ws := 2) (bs := 3) (precap := 0)
    (resps := [(1, 0), (0, 7)]) (d0 := d0) rfl [.write [1, 2, 3, 4], .write [4], .flush, .write []]
    (by simp [runD, stepD, ex_s1, ex_s2, ex_s3, ex_s4, ex_s5])
  have hrun : runD gId d0 ([.write [1, 2, 3, 4], .write [4], .flush, .write []] ++ [.flush])
      = (dD, tr1.take 5) := by
    simp [runD, stepD, tr1, ex_s1, ex_s2, ex_s3, ex_s4, ex_s5]
  simp only [hrun] at h
  rw [h.2.1]; decide

/-! ### a block through a faulting writer, caller retries the unconsumed remainder -/

example : initD 2 5 0 [(1, 0), (0, 7), (5, 0)] = some d1 := by rfl

def ops2 : List DOp :=
  [.writeBlock [s1, s2, s3] [1, 2, 3, 4, 5], .writeBlock [s2, s3] [3, 4, 5],
   .writeBlock [s3] [4, 5], .flush]

def tr2 : List (DOp × DObs) :=
  [(.writeBlock [s1, s2, s3] [1, 2, 3, 4, 5], ⟨.shortWrite, 3, 1, 2⟩),
   (.writeBlock [s2, s3] [3, 4, 5], ⟨.writer 7, 3, 1, 1⟩),
   (.writeBlock [s3] [4, 5], ⟨.ok, 5, 1, 2⟩), (.flush, ⟨.ok, 0, 0, 0⟩)]

theorem ex_run2 : runD gId d1 ops2 = (dH, tr2) := by
  simp [runD, stepD, ops2, tr2, ex_b1, ex_b2, ex_b3, ex_b4]

/-- the ghost built from the reported `k`, `l` of the three calls is the reference expansion of
    the whole block, and it is what the writer holds -/
example : refOf [] tr2 = [1, 2, 2, 3, 2, 3, 3, 3, 3, 4, 5] ∧
    expand [] ⟨[s1, s2, s3], [1, 2, 3, 4, 5]⟩ = some (refOf [] tr2) ∧ dH.w.got = refOf [] tr2 := by
  decide

example : dH.w.got = refOf [] tr2 ∧ dH.buf.off = 11 ∧ reported 0 tr2 = 11 := by
  have h := decoder_history gId (ws := 2) (bs := 5) (precap := 0)
    (resps := [(1, 0), (0, 7), (5, 0)]) (d0 := d1) rfl ops2
  simp only [ex_run2] at h
  obtain ⟨_, _, ⟨h3, _, _⟩, ⟨h4, h5⟩, _⟩ := h
  have hr : refOf [] tr2 = [1, 2, 2, 3, 2, 3, 3, 3, 3, 4, 5] := by decide
  refine ⟨?_, by rw [h4, hr]; rfl, by rw [h5, hr]; rfl⟩
  rw [h3]; simp [dH]

/-- an invalid block (offset 1 into an empty window) is rejected with `errOffset`; nothing is
    consumed, the ghost does not move -/
example : (stepD gId d0 (.writeBlock [⟨0, 1, 1, 0⟩] [])).2 = ⟨.offset, 0, 0, 0⟩ ∧
    refStep [] (.writeBlock [⟨0, 1, 1, 0⟩] []) ⟨.offset, 0, 0, 0⟩ = [] := by
  refine ⟨?_, by decide⟩
  simp [stepD, Decoder.writeBlock, DecBuf.writeBlock, DecBuf.seqLoop, d0]

end Ex

end DecoderHist

end LZ

#print axioms LZ.DecBuf.writeBlock_off
#print axioms LZ.Decoder.writeByte_off
#print axioms LZ.Decoder.write_off
#print axioms LZ.Decoder.writeBlock_off
#print axioms LZ.Decoder.writeBlock_not_full
#print axioms LZ.DecoderHist.step_ok
#print axioms LZ.DecoderHist.run_ok
#print axioms LZ.DecoderHist.reach_ok
#print axioms LZ.DecoderHist.initD_isSome_iff
#print axioms LZ.DecoderHist.decoder_history
#print axioms LZ.DecoderHist.decoder_history_call
#print axioms LZ.DecoderHist.C06_history_no_hang
#print axioms LZ.DecoderHist.C18_history_prefix
#print axioms LZ.DecoderHist.C17_history_off
#print axioms LZ.DecoderHist.C18_history_flush_exactly_once
#print axioms LZ.DecoderHist.C18_history_retry_write
#print axioms LZ.DecoderHist.C18_history_retry_block
#print axioms LZ.DecoderHist.Ex.ex_run1
#print axioms LZ.DecoderHist.Ex.ex_run2
