/-
  LzProofs.RunsDhp — the run clause of C19 for DHP (two hash tables, no backward extension):
  preservation of the coverage of both tables by `processSegment2` and by the probe (both loops;
  read off `dhpProbe_res` / `dhpProbe_fst` of LzProofs/ParseProbe.lean), and the block-level theorem.
-/
import LzProofs.RunsBlock
import LzProofs.RunsFresh
namespace LZ
open PBuf

theorem dhpProbe_inputLen (ws mm e1 e2 : Nat) (back : Bool) (d : Hash2) (p : List Byte) (i li : Nat) :
    (dhpProbe ws mm e1 e2 back d p i li).1.h1.inputLen = d.h1.inputLen ∧
    (dhpProbe ws mm e1 e2 back d p i li).1.h2.inputLen = d.h2.inputLen :=
  dhpProbe_kept (HashT.inputLen_kept _) (HashT.inputLen_kept _) ws mm e1 e2 back rfl rfl p i li

/-! ## `processSegment2` -/

theorem processSegment2_eq (h1 h2 : HashT) (data : List Byte) (a b : Int) :
    processSegment2 h1 h2 data a b =
      ((h1.insertRange data a.toNat
            ((min ((data.length : Int) - h2.inputLen + 1) b).toNat - a.toNat)).insertRange
          data (min ((data.length : Int) - h2.inputLen + 1) b).toNat
          ((min ((data.length : Int) - h1.inputLen + 1) b).toNat -
            (min ((data.length : Int) - h2.inputLen + 1) b).toNat),
       h2.insertRange data a.toNat ((min ((data.length : Int) - h2.inputLen + 1) b).toNat - a.toNat)) := by
  unfold processSegment2
  simp only [ite_lt_eq_min, toNat_ite_neg]

theorem processSegment2_inputLen (h1 h2 : HashT) (data : List Byte) (a b : Int) :
    (processSegment2 h1 h2 data a b).1.inputLen = h1.inputLen ∧
    (processSegment2 h1 h2 data a b).2.inputLen = h2.inputLen :=
  processSegment2_kept (HashT.inputLen_kept _) (HashT.inputLen_kept _) rfl rfl data a b

/-- `processSegment(w - inputLen2 + 1, b0)` of the double hash: the short table is re-indexed from
    `w + 1 - inputLen2` (below its coverage bound), in increasing order, beyond that bound -/
theorem processSegment2_cov (h1 h2 : HashT) (data : List Byte) (w : Nat) (b0 : Int) (X1 X2 : Nat)
    (hs1 : h1.SizeOK) (hs2 : h2.SizeOK) (hil : h1.inputLen ≤ h2.inputLen)
    (hc1 : h1.Cov data (w + 1 - h1.inputLen)) (hc2 : h2.Cov data (w + 1 - h2.inputLen))
    (hX1 : (X1 : Int) ≤ b0) (hX1l : X1 ≤ data.length + 1 - h1.inputLen)
    (hX2 : (X2 : Int) ≤ b0) (hX2l : X2 ≤ data.length + 1 - h2.inputLen) :
    (processSegment2 h1 h2 data ((w : Int) - h2.inputLen + 1) b0).1.Cov data X1 ∧
    (processSegment2 h1 h2 data ((w : Int) - h2.inputLen + 1) b0).2.Cov data X2 := by
  rw [processSegment2_eq]
  constructor
  · have c1 := hc1.insertRange_to hs1 ((w : Int) - h2.inputLen + 1).toNat
      (min ((data.length : Int) - h2.inputLen + 1) b0).toNat (by omega)
    exact (c1.insertRange_to (HashT.sizeOK_insertRange _ _ _ _ hs1) _ _ (Nat.le_refl _)).mono X1 (by omega)
  · exact (hc2.insertRange_to hs2 _ _ (by omega)).mono X2 (by omega)

theorem processSegment2_entry_cov {h1 h2 : HashT} {data : List Byte} {w : Nat}
    (hs1 : h1.SizeOK) (hs2 : h2.SizeOK) (hil : h1.inputLen ≤ h2.inputLen)
    (hf1 : h1.Fresh data w) (hf2 : h2.Fresh data w) (N : Nat) (hN : w + N ≤ data.length) :
    (processSegment2 h1 h2 data ((w : Int) - h2.inputLen + 1) w).1.Cov (data.take (w + N))
      (min w (w + N + 1 - h1.inputLen)) ∧
    (processSegment2 h1 h2 data ((w : Int) - h2.inputLen + 1) w).2.Cov (data.take (w + N))
      (min w (w + N + 1 - h2.inputLen)) := by
  obtain ⟨hi1, hi2⟩ := processSegment2_inputLen h1 h2 data ((w : Int) - h2.inputLen + 1) w
  obtain ⟨c1, c2⟩ := processSegment2_cov h1 h2 data w w (min w (w + N + 1 - h1.inputLen))
    (min w (w + N + 1 - h2.inputLen)) hs1 hs2 hil hf1.cov hf2.cov (by omega) (by omega) (by omega) (by omega)
  exact ⟨c1.congr _ (fun q hq => key_take _ data _ q (by rw [hi1]; omega)),
    c2.congr _ (fun q hq => key_take _ data _ q (by rw [hi2]; omega))⟩

/-! ## the probe keeps the coverage of both tables -/

/-- the dictionary invariant of the DHP loop at loop position `a` (`e2` = end of the first loop) -/
def DhC (p : List Byte) (e2 : Nat) (d : Hash2) (a : Nat) : Prop :=
  d.h1.SizeOK ∧ d.h2.SizeOK ∧ d.h1.Cov p a ∧ d.h2.Cov p (min a e2)

theorem dhpProbe_cov (ws mm e1 e2 : Nat) (hmm : 1 ≤ mm) (d : Hash2)
    (p : List Byte) (i li : Nat) (hC : DhC p e2 d i) :
    (∀ d', dhpProbe ws mm e1 e2 false d p i li = (d', none) → DhC p e2 d' (i + 1)) ∧
    (∀ d' s k o, dhpProbe ws mm e1 e2 false d p i li = (d', some (s, k, o)) →
      i < s + k ∧ DhC p e2 d' (min (s + k) e1)) := by
  obtain ⟨s1, s2, c1, c2⟩ := hC
  have t1 := c1.insert s1
  have hs1' := HashT.sizeOK_insert s1 p i
  have hs2' := HashT.sizeOK_insert s2 p i
  -- after the insertion of `i`
  have hins : DhC p e2 (d.ins e2 p i) (i + 1) := by
    unfold Hash2.ins
    split
    · exact ⟨hs1', hs2', t1, ((c2.mono i (by omega)).insert s2).mono _ (by omega)⟩
    · exact ⟨hs1', s2, t1, c2.mono _ (by omega)⟩
  refine ⟨fun d' hp => dhpProbe_none hp ▸ hins, fun d' s k o hp => ?_⟩
  obtain ⟨⟨j, -, hg, e⟩, hd⟩ := dhpProbe_some hp
  simp only [matchOf, Bool.false_eq_true, if_false, Nat.sub_zero, Nat.add_zero] at e
  cases e
  have hk1 := hg.2.2
  have hj := hg.1
  obtain ⟨z1, z2, u1, u2⟩ := hins
  refine ⟨by omega, ?_⟩
  rw [hd, dhpReindex]
  by_cases hi : i < e2
  · rw [if_pos hi]
    simp only [Bool.false_eq_true, if_false]
    exact ⟨HashT.sizeOK_insertRange _ _ _ _ z1, HashT.sizeOK_insertRange _ _ _ _ z2,
      (u1.insertRange_to z1 _ _ (Nat.le_refl _)).mono _ (by omega),
      ((u2.mono (i + 1) (by omega)).insertRange_to z2 _ (min (i + lcpLen (p.drop j) (p.drop i)) e2)
        (Nat.le_refl _)).mono _ (by omega)⟩
  · rw [if_neg hi]
    exact ⟨HashT.sizeOK_insertRange _ _ _ _ z1, z2,
      (u1.insertRange_to z1 _ _ (by omega)).mono _ (by omega), u2.mono _ (by omega)⟩

theorem dhp_loop_cov (ws mm e1 e2 : Nat) (hmm : 1 ≤ mm) (p : List Byte)
    (st : LoopSt Hash2) (hli : st.litIndex ≤ st.i) (hC : DhC p e2 st.dict (min st.i e1)) :
    DhC p e2 (greedyLoop ⟨dhpProbe ws mm e1 e2 false⟩ p e1 st).dict e1 :=
  greedyLoop_cov ⟨dhpProbe ws mm e1 e2 false⟩ p e1 (DhC p e2)
    (fun d i li d' _ _ hC hp => (dhpProbe_cov ws mm e1 e2 hmm d p i li hC).1 d' hp)
    (fun d i li d' s k o _ _ hC hp => (dhpProbe_cov ws mm e1 e2 hmm d p i li hC).2 d' s k o hp)
    st hli hC

/-! ## `Parse` of DHP keeps the freshness of both tables -/

namespace Parser

theorem parse_double_fresh (s : Parser) (flags : Nat) (d : Hash2) (hd : s.dict = .double d)
    (hk : s.kind = .DHP) (hs1 : d.h1.SizeOK) (hs2 : d.h2.SizeOK) (hil : d.h1.inputLen ≤ d.h2.inputLen)
    (hf1 : d.h1.Fresh s.buf.data s.buf.w) (hf2 : d.h2.Fresh s.buf.data s.buf.w)
    (hw : s.buf.w ≤ s.buf.data.length) (hn : s.blockN ≠ 0) (hm : s.MarginOK) (hmm : 1 ≤ s.minMatch) :
    ∃ d', (s.parse flags).1.dict = .double d' ∧ d'.h1.SizeOK ∧ d'.h2.SizeOK ∧
      d'.h1.inputLen = d.h1.inputLen ∧ d'.h2.inputLen = d.h2.inputLen ∧
      d'.h1.Fresh s.buf.data (s.parse flags).1.buf.w ∧ d'.h2.Fresh s.buf.data (s.parse flags).1.buf.w := by
  rw [parse_double s flags d hd hn hm]
  dsimp only
  have hkb : (s.kind == Kind.BDHP) = false := by rw [hk]; rfl
  have hl := s.blockPrefix_length hw
  have hN := s.blockN_le
  obtain ⟨hi1, hi2⟩ := processSegment2_inputLen d.h1 d.h2 s.buf.data ((s.buf.w : Int) - d.h2.inputLen + 1) s.buf.w
  obtain ⟨hz1, hz2⟩ := sizeOK_processSegment2 hs1 hs2 s.buf.data ((s.buf.w : Int) - d.h2.inputLen + 1) s.buf.w
  have hcc : (processSegment2 d.h1 d.h2 s.buf.data ((s.buf.w : Int) - d.h2.inputLen + 1) s.buf.w).1.Cov
        s.blockPrefix _ ∧
      (processSegment2 d.h1 d.h2 s.buf.data ((s.buf.w : Int) - d.h2.inputLen + 1) s.buf.w).2.Cov
        s.blockPrefix _ :=
    processSegment2_entry_cov hs1 hs2 hil hf1 hf2 s.blockN (by omega)
  generalize processSegment2 d.h1 d.h2 s.buf.data ((s.buf.w : Int) - d.h2.inputLen + 1) s.buf.w = hh
    at hi1 hi2 hz1 hz2 hcc
  rw [hkb, hi1, hi2, hl]
  generalize he1 : s.buf.w + s.blockN + 1 - d.h1.inputLen = e1 at hcc
  generalize he2 : s.buf.w + s.blockN + 1 - d.h2.inputLen = e2 at hcc
  have hle := runGreedy_w_le (dhpProbe_verifying s.buf.cfg.windowSize s.minMatch e1 e2 false s.blockPrefix)
    hmm ⟨hh.1, hh.2⟩ s.buf.w e1 flags (by omega)
  obtain ⟨f1, f2, f5, f6⟩ := dhp_loop_cov s.buf.cfg.windowSize s.minMatch e1 e2 hmm s.blockPrefix
    { dict := ⟨hh.1, hh.2⟩, i := s.buf.w, litIndex := s.buf.w, seqs := [], lits := [] }
    (Nat.le_refl _) ⟨hz1, hz2, hcc.1, hcc.2.mono (min (min s.buf.w e1) e2) (by omega)⟩
  rw [← runGreedy_fst _ _ _ _ _ flags] at f1 f2 f5 f6
  obtain ⟨f3, f4⟩ := runGreedy_dict ⟨dhpProbe s.buf.cfg.windowSize s.minMatch e1 e2 false⟩
    (fun t => t.h1.inputLen = d.h1.inputLen ∧ t.h2.inputLen = d.h2.inputLen)
    (fun t p i li ht => dhpProbe_kept (HashT.inputLen_kept _) (HashT.inputLen_kept _) _ _ _ _ _ ht.1 ht.2 p i li)
    ⟨hh.1, hh.2⟩ s.blockPrefix s.buf.w e1 flags ⟨hi1, hi2⟩
  exact ⟨_, rfl, f1, f2, f3, f4, f5.fresh_of_take (by rw [f3]; omega) (by omega),
    f6.fresh_of_take (by rw [f4]; omega) (by omega)⟩

end Parser

/-! ## block level -/

theorem dhpProbe_run_last {p : List Byte} {w n : Nat} {b : Byte} (hR : RunBlock p w n b)
    (ws mm e1 e2 : Nat) (back : Bool) (d : Hash2) (i li j : Nat) (hj1 : w ≤ j)
    (hj2 : j < i) (hj3 : i - j ≤ ws) (hi : i ≤ p.length) (hmm : mm ≤ p.length - i)
    (hc : d.cand e2 p i = some j) :
    ∃ d' m, m ≤ i - li ∧
      dhpProbe ws mm e1 e2 back d p i li = (d', some (i - m, p.length - i + m, i - j)) := by
  obtain ⟨hg, m, hm, e⟩ := hR.answer ws mm back i li j hj1 hj2 hj3 hi hmm
  exact ⟨_, m, hm, Prod.ext rfl ((dhpProbe_of_cand ws mm e1 e2 back li hc hg).trans (congrArg some e))⟩

/-- block level, DHP: `runGreedy` on a run block without `NoTrailingLiterals`, from tables
    that cover the positions whose key bytes are parsed, emits at most one literal -/
theorem dhp_run_block (ws mm : Nat) (d : Hash2) (p : List Byte) (w n : Nat) (b : Byte)
    (flags : Nat) (hf : flags % 2 = 0)
    (hR : RunBlock p w n b) (hs2 : d.h2.SizeOK) (hil1 : 1 ≤ d.h1.inputLen)
    (hil : d.h1.inputLen ≤ d.h2.inputLen) (hil8 : d.h2.inputLen ≤ 8)
    (hws : 1 ≤ ws) (hmm1 : 1 ≤ mm) (hmm3 : mm ≤ 3)
    (hcov1 : d.h1.Cov p (w + 1 - d.h1.inputLen)) (hcov2 : d.h2.Cov p (w + 1 - d.h2.inputLen)) :
    (Parser.runGreedy ⟨dhpProbe ws mm (p.length + 1 - d.h1.inputLen) (p.length + 1 - d.h2.inputLen) false⟩
      d p w (p.length + 1 - d.h1.inputLen) flags).2.2.1.lits.length ≤ 1 := by
  have hlen := hR.len
  have hn := hR.n32
  have hw2 : w < p.length + 1 - d.h2.inputLen := by omega
  apply runGreedy_two_probes _ p w _ 0 flags d
    (fun d i => w + 1 ≤ i ∧ i + 8 ≤ w + n ∧ d.h2.slot (d.h2.key p i) = (i - 1, lo32 (d.h2.key p i)))
    hf (by omega) (by omega)
  · intro d' i li ⟨h1, h2, hslot⟩ hli
    obtain ⟨d'', m, hm, hp⟩ := dhpProbe_run_last hR ws mm (p.length + 1 - d.h1.inputLen)
      (p.length + 1 - d.h2.inputLen) false d' i li (i - 1) (by omega) (by omega) (by omega) (by omega)
      (by omega) (Hash2.cand_of_h2 (by omega) hslot)
    exact ⟨by omega, d'', m, _, hm, hp⟩
  · -- no match at `w`: one literal, then the match with offset 1 found through the long table
    intro d' hp
    rw [dhpProbe_none hp, Hash2.ins, if_pos hw2]
    exact ⟨Nat.le_refl _, by omega, hR.slot_after d.h2 hs2 1 (Nat.le_refl _) (by omega)⟩
  · -- a match from an older entry of one of the tables: it covers the block or is at most
    -- `inputLen2` bytes long
    intro d' s k o hp
    obtain ⟨⟨j, hc, hg, e⟩, hd⟩ := dhpProbe_some hp
    rw [matchOf_first] at e
    cases e
    rw [hd, dhpReindex, if_pos hw2, Hash2.ins, if_pos hw2]
    obtain ⟨hc2, -, hc4⟩ := hg
    have hkn := lcpLen_le_right (p.drop j) (p.drop w)
    rw [List.length_drop] at hkn
    refine ⟨rfl, by omega, ?_⟩
    by_cases hkn' : lcpLen (p.drop j) (p.drop w) = n
    · right; omega
    · left
      have hkil : lcpLen (p.drop j) (p.drop w) ≤ d.h2.inputLen := by
        rcases Hash2.cand_some hc with he | he
        · rw [he] at hc2 hkn' hkn ⊢
          exact hR.short_le_inputLen d.h2 hcov2 hc2 (by omega)
        · rw [he] at hc2 hkn' hkn ⊢
          exact Nat.le_trans (hR.short_le_inputLen d.h1 hcov1 hc2 (by omega)) hil
      generalize lcpLen (p.drop j) (p.drop w) = k at hc4 hkn hkn' hkil ⊢
      simp only [Bool.false_eq_true, if_false]
      rw [min_sub_succ w k _ (by omega)]
      exact ⟨by omega, by omega, hR.slot_after d.h2 hs2 k (by omega) (by omega)⟩

end LZ
