/-
  LzProofs.SafeProps — property C16, clause 2: "A parser obtained [from an accepted configuration]
  never panics, never loops without progress and never reports an error other than the documented
  ones (ErrEmptyBuffer, ErrFullBuffer, Reset's oversize error, io.EOF from a wrapped parser, the
  reader's own error) in any sequence of Write, ReadFrom, Parse, Shrink, Reset and wrapped Parse
  calls on any input."

  In the model `Err.panic` is the value returned where the Go code would panic (slice bounds in
  `Write`/`ReadFrom`/`grow`, the 7-byte margin of `Parse`, `panic("unexpected ErrFullBuffer")` in
  wrap.go).  TERMINATION is definitional: every function of the model is a total Lean function
  (the loops are structural or well-founded recursions accepted by the kernel — `PBuf.readLoop` and
  `Wrapped.parse` on the reader's remaining responses, `greedyLoop` on the distance to the block
  end), so "never loops without progress" needs no theorem here; the progress facts themselves are
  C03 (`Parse` consumes ≥ 1 byte) and C08 (`C08_wrap_step`).

    C16_safe            all SEVEN kinds (OSAP included, no hypothesis on its edge table), every
                        accepted raw configuration, every list of operations, every step:
                        the error is as documented for that operation — never `.panic`
    C16_safe_trace      the same as a statement about the whole trace of errors
    C16_safe_wrapped    the six greedy kinds, operations interleaved with wrapped `Parse` calls on
                        arbitrary readers: additionally a wrapped call returns `nil` or what the
                        reader said, never `.panic` / `ErrFullBuffer` / `ErrEmptyBuffer`
    C16_index_safety    `hashValue x hashBits < 2 ^ hashBits` (all `hashBits`), bucket slot
                        `h * bucketSize + i < 2 ^ hashBits * bucketSize`; table sizes are kept by
                        every table operation of the single hash parsers.  The history-level
                        statement (all hash kinds, ring indexes of the bucket table included) is
                        `C16_tables_reachable` / `C16_table_access` in LzProofs/SafeTables.lean.
-/
import LzProofs.ResetProps
import LzProofs.WrapInst
import LzProofs.ParseProps
namespace LZ
open PBuf

/-! ## per-step output of a history (`POp`, `runOps` of LzProofs/ParseHist.lean) -/

/-- the parser after one operation (the first component of `step`, which does not depend on the
    ghost state) -/
def stepP (s : Parser) : POp → Parser
  | .write p => (s.write p).1
  | .readFrom r => (s.readFrom r).1
  | .parse flags => (s.parse flags).1
  | .parseNil => s.parseNil.1
  | .shrink => s.shrink.1
  | .reset data capExtra => (s.reset data capExtra).1

/-- the error the operation returns (`Shrink` has no error result) -/
def opErr (s : Parser) : POp → Err
  | .write p => (s.write p).2.2
  | .readFrom r => (s.readFrom r).2.2.2
  | .parse flags => (s.parse flags).2.2.1
  | .parseNil => s.parseNil.2.2
  | .shrink => .ok
  | .reset data capExtra => (s.reset data capExtra).2

theorem stepP_eq (s : Parser) (op : POp) : stepP s op = (s.stepOut op).1 := by cases op <;> rfl

theorem stepP_step (s : Parser) (op : POp) : Parser.Step s (stepP s op) :=
  stepP_eq s op ▸ Parser.stepOut_step s op

theorem step_fst (sg : Parser × Ghost) (op : POp) : (step sg op).1 = stepP sg.1 op :=
  (step_stepOut sg.1 sg.2 op).trans (stepP_eq sg.1 op).symm

def errTrace (s : Parser) : List POp → List Err
  | [] => []
  | op :: ops => opErr s op :: errTrace (stepP s op) ops

def Documented (e : Err) : Prop :=
  e = .ok ∨ e = .empty ∨ e = .full ∨ e = .oversize ∨ e = .eof ∨ ∃ c, e = .reader c

/-- what an operation may return: `Write` nil/ErrFullBuffer; `ReadFrom` ErrFullBuffer or exactly
    what the scripted reader said on its last read (`ReaderSaid`: io.EOF or its error code);
    `Parse`/`Parse(nil)` nil/ErrEmptyBuffer; `Reset` nil/oversize. -/
def ErrOK (s : Parser) : POp → Err → Prop
  | .write _, e => e = .ok ∨ e = .full
  | .readFrom r, e => e = .full ∨ ReaderSaid r (s.readFrom r).2.1 e
  | .parse _, e => e = .ok ∨ e = .empty
  | .parseNil, e => e = .ok ∨ e = .empty
  | .shrink, e => e = .ok
  | .reset _ _, e => e = .ok ∨ e = .oversize

theorem errOfCode_documented (c : Nat) (h : c ≠ 0) : Documented (errOfCode c) := by
  unfold errOfCode
  split
  · exact absurd rfl h
  · exact Or.inr (Or.inr (Or.inr (Or.inr (Or.inl rfl))))
  · exact Or.inr (Or.inr (Or.inr (Or.inr (Or.inr ⟨_, rfl⟩))))

theorem ReaderSaid.documented {r r' : Reader} {e : Err} (h : ReaderSaid r r' e) : Documented e := by
  rcases h with ⟨h, _⟩ | ⟨j, mx, ec, _, hec, h⟩
  · exact Or.inr (Or.inr (Or.inr (Or.inr (Or.inl h))))
  · rw [h]; exact errOfCode_documented _ hec

theorem Documented.ne_panic {e : Err} (h : Documented e) :
    e ≠ .panic ∧ e ≠ .cfg ∧ e ≠ .outOfBuffer ∧ e ≠ .endOfBuffer ∧ e ≠ .litLen ∧ e ≠ .matchLen ∧
    e ≠ .offset ∧ e ≠ .shortWrite ∧ ∀ c, e ≠ .writer c := by
  rcases h with h | h | h | h | h | ⟨c, h⟩ <;> subst h <;> simp

theorem ErrOK.documented {s : Parser} {op : POp} {e : Err} (h : ErrOK s op e) : Documented e := by
  cases op with
  | write p => rcases h with h | h <;> subst h <;> simp [Documented]
  | readFrom r =>
    rcases h with h | h
    · subst h; simp [Documented]
    · exact h.documented
  | parse flags => rcases h with h | h <;> subst h <;> simp [Documented]
  | parseNil => rcases h with h | h <;> subst h <;> simp [Documented]
  | shrink => have h : e = .ok := h; subst h; simp [Documented]
  | reset d c => rcases h with h | h <;> subst h <;> simp [Documented]

/-! ## the invariant: at most `BufferSize` bytes, 7 spare bytes behind non-empty data -/

/-- `PInv`/`BufOK` without the parse position: all that "no panic" needs.  It is `PBuf.MarginInv` of
    LzProofs/ResetLemmas.lean written out (`Iff.rfl`); the lemmas about that serve both. -/
def Room (b : PBuf) : Prop :=
  b.data.length ≤ b.cfg.bufferSize ∧ (b.data = [] ∨ b.data.length + Facts.margin ≤ b.cap)

theorem room_stepP (s : Parser) (op : POp) (h : Room s.buf) : Room (stepP s op).buf := by
  rw [stepP_eq]; exact Parser.stepOut_marginInv s op h

theorem errOK_of_room (s : Parser) (op : POp) (h : Room s.buf) : ErrOK s op (opErr s op) := by
  obtain ⟨h1, h2⟩ := h
  cases op with
  | write p =>
    exact write_err s.buf p h1
  | readFrom r =>
    obtain ⟨c, pre, _, _, _, _, _, _, _, hcase⟩ :=
      readFrom_master h1 (r := r) (b' := (s.buf.readFrom r).1) (r' := (s.buf.readFrom r).2.1)
        (n := (s.buf.readFrom r).2.2.1) (e := (s.buf.readFrom r).2.2.2) rfl
    show (s.buf.readFrom r).2.2.2 = .full ∨ ReaderSaid r (s.buf.readFrom r).2.1 (s.buf.readFrom r).2.2.2
    rcases hcase with ⟨a1, _⟩ | ⟨a1, _, a3, _⟩ | ⟨mx, ec, a1, hec, a2⟩
    · exact Or.inl a1
    · exact Or.inr (Or.inl ⟨a1, a3⟩)
    · refine Or.inr (Or.inr ⟨pre.length, mx, ec, ?_, hec, a2⟩)
      rw [a1, List.drop_left]
  | parse flags =>
    show (s.parse flags).2.2.1 = .ok ∨ (s.parse flags).2.2.1 = .empty
    by_cases hn : s.blockN = 0
    · right; rw [Parser.parse_empty s flags hn]
    · left
      have hw : s.buf.w ≤ s.buf.data.length := by
        unfold Parser.blockN at hn; omega
      exact Parser.parse_ok s flags ⟨hw, h1, h2⟩ hn
  | parseNil =>
    show s.parseNil.2.2 = .ok ∨ s.parseNil.2.2 = .empty
    by_cases hn : s.blockN = 0
    · right; rw [Parser.parseNil_empty s hn]
    · left
      obtain ⟨s', hp, _⟩ := Parser.parseNil_ok s hn
      rw [hp]
  | shrink => rfl
  | reset data capExtra =>
    show (s.reset data capExtra).2 = .ok ∨ (s.reset data capExtra).2 = .oversize
    by_cases hle : data.length ≤ s.buf.cfg.bufferSize
    · left
      obtain ⟨c, hc, _⟩ := reset_spec s.buf data capExtra hle
      unfold Parser.reset
      simp only [hc, ↓reduceIte]
    · right
      have := reset_oversize s.buf data capExtra (by omega)
      unfold Parser.reset
      simp [this]

theorem runOps_fst (sg : Parser × Ghost) (ops : List POp) :
    (runOps sg ops).1 = ops.foldl stepP sg.1 := by
  induction ops generalizing sg with
  | nil => rfl
  | cons op ops ih =>
    show (runOps (step sg op) ops).1 = _
    rw [ih, step_fst]
    rfl

theorem foldl_invariant {α β} (f : β → α → β) (I : β → Prop) (hf : ∀ b a, I b → I (f b a)) :
    ∀ (l : List α) (b : β), I b → I (l.foldl f b)
  | [], _, h => h
  | a :: l, b, h => foldl_invariant f I hf l (f b a) (hf b a h)

theorem newParser_room {k : Kind} {raw : Cfg} {s0 : Parser} (h0 : newParser k raw = some s0) :
    Room s0.buf := by
  rw [(newParser_eq_some h0).2]; exact marginInv_init _

theorem newParser_exists {k : Kind} {raw : Cfg} (h : (newParser k raw).isSome = true)
    {P : Parser → Prop} (hP : ∀ s0, newParser k raw = some s0 → P s0) :
    ∃ s0, newParser k raw = some s0 ∧ P s0 :=
  let ⟨s0, hs⟩ := Option.isSome_iff_exists.mp h
  ⟨s0, hs, hP s0 hs⟩

/-! ## C16, clause 2 -/

/-- C16 (no panic, only documented errors), every step of every history, all seven parsers.
    `k` any kind (HP, BHP, DHP, BDHP, BUP, GSAP, OSAP — no hypothesis about OSAP's edge table),
    `raw` any configuration accepted by `NewParser`, `ops` any list of `Write p`, `ReadFrom r`
    (any scripted reader), `Parse flags`, `Parse(nil)`, `Shrink`, `Reset data` (any capacity).
    For the `i`-th operation, executed in the state reached by the first `i`:
      Write      → nil or ErrFullBuffer
      ReadFrom   → ErrFullBuffer, or what the reader said (io.EOF / its scripted error code)
      Parse, Parse(nil) → nil or ErrEmptyBuffer
      Reset      → nil or the oversize error
    in particular (`ErrOK.documented`, `Documented.ne_panic`) never `.panic`. -/
theorem C16_safe (k : Kind) (raw : Cfg) (s0 : Parser) (h0 : newParser k raw = some s0)
    (ops : List POp) (i : Nat) (hi : i < ops.length) :
    let s := (runOps (s0, Ghost.init) (ops.take i)).1
    ErrOK s ops[i] (opErr s ops[i]) ∧ opErr s ops[i] ≠ .panic := by
  intro s
  have hr : Room s.buf :=
    (reachable_runOps s0 (ops.take i)).of_step (I := fun s => Room s.buf)
      (fun hs h => hs.marginInv h) (newParser_room h0)
  have := errOK_of_room s ops[i] hr
  exact ⟨this, this.documented.ne_panic.1⟩

theorem errTrace_documented (ops : List POp) : ∀ (s : Parser), Room s.buf →
    ∀ e ∈ errTrace s ops, Documented e := by
  induction ops with
  | nil => intro s _ e he; cases he
  | cons op ops ih =>
    intro s h e he
    rcases List.mem_cons.mp he with he | he
    · rw [he]; exact (errOK_of_room s op h).documented
    · exact ih _ (room_stepP s op h) e he

/-- C16 as a statement about the whole trace: every error returned in a history from
    `NewParser` is `nil`, ErrEmptyBuffer, ErrFullBuffer, the oversize error, io.EOF or a reader
    error — never a panic, never any other error value. -/
theorem C16_safe_trace (k : Kind) (raw : Cfg) (s0 : Parser) (h0 : newParser k raw = some s0)
    (ops : List POp) : ∀ e ∈ errTrace s0 ops, Documented e ∧ e ≠ .panic :=
  fun e he =>
    have h := errTrace_documented ops s0 (newParser_room h0) e he
    ⟨h, h.ne_panic.1⟩

/-! ## with wrapped `Parse` calls (six greedy parsers) -/

/-- operations of a history that may also call `Wrap(r, parser).Parse(&blk, flags)` -/
inductive SOp where
  | base (op : POp)
  | wrap (r : Reader) (flags : Nat)

def stepS (s : Parser) : SOp → Parser
  | .base op => stepP s op
  | .wrap r flags => (Wrapped.parse ⟨r, s⟩ flags).1.s

def opErrS (s : Parser) : SOp → Err
  | .base op => opErr s op
  | .wrap r flags => (Wrapped.parse ⟨r, s⟩ flags).2.2.1

/-- admissible results: as `ErrOK`; a wrapped `Parse` returns `nil` or what the reader said
    (io.EOF or its error) -/
def ErrOKS (s : Parser) : SOp → Err → Prop
  | .base op, e => ErrOK s op e
  | .wrap r flags, e => e = .ok ∨ ReaderSaid r (Wrapped.parse ⟨r, s⟩ flags).1.r e

theorem ErrOKS.documented {s : Parser} {op : SOp} {e : Err} (h : ErrOKS s op e) : Documented e := by
  cases op with
  | base op => exact ErrOK.documented h
  | wrap r flags =>
    rcases h with h | h
    · exact Or.inl h
    · exact h.documented

/-- invariant of the greedy parsers: buffer invariant, static well-formedness, and
    `ShrinkSize < BufferSize` (what `Wrap` relies on) -/
def SafeW (s : Parser) : Prop :=
  BufOK s.buf ∧ s.GreedyWF ∧ s.buf.cfg.shrinkSize < s.buf.cfg.bufferSize

theorem SafeW.room {s : Parser} (h : SafeW s) : Room s.buf := ⟨h.1.2.1, h.1.2.2⟩

theorem SafeW.winv {s : Parser} (h : SafeW s) (r : Reader) :
    ∃ fed, WInv Parser.GreedyWF ⟨r, s⟩ fed :=
  let ⟨fed, hp⟩ := (bufOK_iff _).1 h.1
  ⟨fed, h.2.1, hp, h.2.2⟩

theorem SafeW.step {s s' : Parser} (hs : Parser.Step s s') (h : SafeW s) : SafeW s' := by
  obtain ⟨hb, hg, hc⟩ := h
  refine ⟨⟨?_, hs.marginInv ⟨hb.2.1, hb.2.2⟩⟩, hg.step hs, by rw [hs.bufCfg]; exact hc⟩
  -- left to show: `W` stays within the data
  have hw := hb.1
  cases hs with
  | idle => exact hw
  | fill b' _ a =>
    show b'.w ≤ b'.data.length
    rw [a.w, a.data, List.length_append]; exact Nat.le_add_right_of_le hw
  | parse flags _ _ =>
    rcases Parser.parse_cases parseSpec_greedy s flags hg hb with ⟨_, he⟩ | ⟨_, _, _, hbuf, hle, _⟩
    · rw [he]; exact hw
    · rw [hbuf]; exact hle
  | skip _ =>
    show s.buf.w + s.blockN ≤ s.buf.data.length
    have := s.blockN_le; omega
  | shrink _ =>
    have a := shrink_dropped s.buf
    show s.buf.shrink.1.w ≤ s.buf.shrink.1.data.length
    rw [a.length]; have := a.w; omega
  | reset data ce he =>
    show (s.buf.reset data ce).1.w ≤ _
    rcases reset_frame s.buf data ce with ⟨_, _, b2, _⟩ | ⟨b0, _⟩
    · rw [b2]; exact Nat.zero_le _
    · exact absurd he b0

theorem safeW_stepP (s : Parser) (op : POp) (h : SafeW s) : SafeW (stepP s op) :=
  h.step (stepP_step s op)

theorem safeW_stepS (s : Parser) (op : SOp) (h : SafeW s) :
    SafeW (stepS s op) ∧ ErrOKS s op (opErrS s op) ∧
    (∀ r flags, op = .wrap r flags →
      opErrS s op ≠ .panic ∧ opErrS s op ≠ .full ∧ opErrS s op ≠ .empty) := by
  cases op with
  | base op =>
    exact ⟨safeW_stepP s op h, errOK_of_room s op h.room, fun _ _ hh => by cases hh⟩
  | wrap r flags =>
    obtain ⟨fed, hw⟩ := h.winv r
    obtain ⟨q, h1, _, _, _, h5⟩ := C08_wrap_step_greedy ⟨r, s⟩ flags fed hw
    refine ⟨⟨bufOK_of_pinv h1.view, h1.inv, h1.cfg⟩, ?_, ?_⟩
    · show _ = Err.ok ∨ ReaderSaid r _ _
      rcases h5 with ⟨a, _⟩ | ⟨_, _, a⟩
      · exact Or.inl a
      · exact Or.inr a
    · intro _ _ _
      exact C08_wrap_no_panic_greedy ⟨r, s⟩ flags fed hw

/-- `BufConfig.Verify`: `ShrinkSize < BufferSize` for every parser `NewParser` returns -/
theorem newParser_shrink_lt {k : Kind} {raw : Cfg} {s0 : Parser} (h0 : newParser k raw = some s0) :
    s0.buf.cfg.shrinkSize < s0.buf.cfg.bufferSize ∧ s0.buf.data.length ≤ s0.buf.cfg.bufferSize := by
  obtain ⟨hv, hs⟩ := newParser_eq_some h0
  have hb := verify_bounds hv
  rw [hs]
  simp only [PBuf.init, Cfg.bufCfg, List.length_nil]
  omega

theorem newParser_safeW {k : Kind} {raw : Cfg} {s0 : Parser} (h0 : newParser k raw = some s0)
    (hk : k ≠ .OSAP) : SafeW s0 := by
  obtain ⟨hi, hmm, hbs⟩ := newParser_inv k raw s0 h0
  obtain ⟨hc, hl⟩ := newParser_shrink_lt h0
  refine ⟨⟨hi.hw, hl, hi.cap⟩, ⟨?_, hbs, ?_⟩, hc⟩
  · rw [minMatch_eq, hi.kind]; exact hmm
  · exact fun o ho => hk (hi.dict.osap ho).1

theorem reachable_safeW {k : Kind} {raw : Cfg} {s0 : Parser} (h0 : newParser k raw = some s0)
    (hk : k ≠ .OSAP) {s : Parser} (hr : Reachable s0 s) : SafeW s :=
  Reachable.of_step SafeW.step (newParser_safeW h0 hk) hr

/-- C16 with wrapped `Parse` calls (HP, BHP, DHP, BDHP, BUP, GSAP).  Any accepted
    configuration, any list of operations `Write | ReadFrom | Parse | Parse(nil) | Shrink | Reset |
    Wrap(r, ·).Parse(flags)` (every wrapped call with its own arbitrary scripted reader; the
    parser carries on in the state the wrapped call left).  For the `i`-th operation in the state
    reached by the first `i`: the error is admissible (`ErrOKS`), hence documented and not a
    panic; a wrapped call returns `nil` or what its reader said — never `.panic` (in particular
    not wrap.go's `panic("unexpected ErrFullBuffer")`), never ErrFullBuffer, never
    ErrEmptyBuffer.
    (OSAP is excluded here only because progress of its `Parse` — needed by `Wrap` — rests on the
    soundness of its edge table, which is available only behind LzProofs/GlueProps.lean; wrapped
    calls on OSAP are `C08_reachable_no_panic` of LzProofs/WrapAllHist.lean, and `C16_safe` covers
    OSAP without wrapped calls.) -/
theorem C16_safe_wrapped (k : Kind) (hk : k ≠ .OSAP) (raw : Cfg) (s0 : Parser)
    (h0 : newParser k raw = some s0) (ops : List SOp) (i : Nat) (hi : i < ops.length) :
    let s := (ops.take i).foldl stepS s0
    ErrOKS s ops[i] (opErrS s ops[i]) ∧ Documented (opErrS s ops[i]) ∧ opErrS s ops[i] ≠ .panic ∧
    (∀ r flags, ops[i] = .wrap r flags →
      opErrS s ops[i] ≠ .full ∧ opErrS s ops[i] ≠ .empty) := by
  intro s
  have hs : SafeW s :=
    foldl_invariant stepS SafeW (fun s op h => (safeW_stepS s op h).1) _ _ (newParser_safeW h0 hk)
  obtain ⟨_, h2, h3⟩ := safeW_stepS s ops[i] hs
  exact ⟨h2, h2.documented, h2.documented.ne_panic.1, fun r flags hh => (h3 r flags hh).2⟩

/-! ## C16: table indices are in range -/

/-- a single hash table has exactly `2^hashBits` entries -/
def HashT.SizeOK (h : HashT) : Prop := h.tbl.size = 2 ^ h.hashBits

theorem HashT.sizeOK_new (il hb : Nat) : (HashT.new il hb).SizeOK := by
  simp [HashT.SizeOK, HashT.new]

theorem HashT.sizeOK_clear {h : HashT} (hs : h.SizeOK) : h.clear.SizeOK := by
  simpa [HashT.SizeOK, HashT.clear] using hs

theorem HashT.sizeOK_insert {h : HashT} (hs : h.SizeOK) (p : List Byte) (i : Nat) :
    (h.insert p i).SizeOK := by
  simpa [HashT.SizeOK, HashT.insert] using hs

theorem HashT.insert_hashBits (h : HashT) (p : List Byte) (i : Nat) :
    (h.insert p i).hashBits = h.hashBits := rfl

theorem HashT.sizeOK_shiftOffsets {h : HashT} (hs : h.SizeOK) (delta : Nat) :
    (h.shiftOffsets delta).SizeOK := by
  unfold HashT.shiftOffsets
  split
  · exact hs
  · simpa [HashT.SizeOK] using hs

theorem HashT.sizeOK_kept : HashT.Kept HashT.SizeOK :=
  ⟨fun p i hs => sizeOK_insert hs p i, fun delta hs => sizeOK_shiftOffsets hs delta, sizeOK_clear⟩

theorem HashT.sizeOK_insertRange (p : List Byte) (n a : Nat) (h : HashT) (hs : h.SizeOK) :
    (h.insertRange p a n).SizeOK := sizeOK_kept.insertRange p n a hs

theorem sizeOK_processSegment1 {h : HashT} (hs : h.SizeOK) (data : List Byte) (a b : Int) :
    (processSegment1 h data a b).SizeOK := processSegment1_kept HashT.sizeOK_kept hs data a b

theorem sizeOK_hpProbe (ws mm ie : Nat) (back : Bool) {h : HashT} (hs : h.SizeOK) (p : List Byte)
    (i li : Nat) : (hpProbe ws mm ie back h p i li).1.SizeOK :=
  hpProbe_kept HashT.sizeOK_kept ws mm ie back hs p i li

/-- C16, index safety.
    (1) `hashValue x hashBits < 2 ^ hashBits`, hence `< tbl.size` for every table with `SizeOK`
        (fresh tables have it; insert / insertRange / shiftOffsets / clear / processSegment and the
        HP/BHP probe keep it): `h.tbl[hashValue …]` of hash.go never indexes out of range;
    (2) for a bucket table with `2^hashBits * bucketSize` slots, slot `i < bucketSize` of bucket
        `h = hashValue …` is `h * bucketSize + i < buckets.size`. -/
theorem C16_index_safety :
    (∀ (x : UInt64) (hb : Nat), hashValue x hb < 2 ^ hb) ∧
    (∀ (h : HashT) (x : UInt64), h.SizeOK → hashValue x h.hashBits < h.tbl.size) ∧
    (∀ (b : BucketT) (x : UInt64) (i : Nat), b.buckets.size = 2 ^ b.hashBits * b.bucketSize →
      i < b.bucketSize → hashValue x b.hashBits * b.bucketSize + i < b.buckets.size) ∧
    (∀ il hb bs, (BucketT.new il hb bs).buckets.size = 2 ^ hb * bs ∧
      (BucketT.new il hb bs).indexes.size = 2 ^ hb) := by
  refine ⟨hashValue_lt, ?_, ?_, ?_⟩
  · intro h x hs
    rw [hs]; exact hashValue_lt x _
  · intro b x i hs hi
    rw [hs]
    have h1 := hashValue_lt x b.hashBits
    calc hashValue x b.hashBits * b.bucketSize + i
        < hashValue x b.hashBits * b.bucketSize + b.bucketSize := by omega
      _ = (hashValue x b.hashBits + 1) * b.bucketSize := by rw [Nat.add_mul, Nat.one_mul]
      _ ≤ 2 ^ b.hashBits * b.bucketSize := Nat.mul_le_mul_right _ h1
  · intro il hb bs
    simp [BucketT.new]

/-! ## non-vacuity -/

section Examples

/-- a reader that delivers 2 bytes, then fails with code 5 -/
def rdFail : Reader := ⟨[1, 2, 3], [(2, 0), (1, 5)]⟩

/-- a history touching every operation, for the accepted HP configuration `exCfg` -/
def exOps : List POp :=
  [.parse 0, .write [97, 98, 99, 97, 98, 99, 97], .parse 1, .parseNil, .readFrom rdFail, .shrink,
   .reset (List.replicate 100 0) 0, .reset [1, 2, 3] 9, .parse 0]

example : ∃ s0, newParser .HP exCfg = some s0 ∧
    ∀ e ∈ errTrace s0 exOps, Documented e ∧ e ≠ .panic := by
  exact newParser_exists (by decide) fun s0 hs => C16_safe_trace .HP exCfg s0 hs exOps

/-- `C16_safe` at a single step: the failing `ReadFrom` (step 4) returns what the reader said -/
example : ∃ s0, newParser .HP exCfg = some s0 ∧
    ErrOK (runOps (s0, Ghost.init) (exOps.take 4)).1 (.readFrom rdFail)
      (opErr (runOps (s0, Ghost.init) (exOps.take 4)).1 (.readFrom rdFail)) := by
  exact newParser_exists (by decide) fun s0 hs => (C16_safe .HP exCfg s0 hs exOps 4 (by decide)).1

/-- a history with wrapped `Parse` calls (failing reader, empty reader) for BHP -/
def exSOps : List SOp :=
  [.base (.write [1, 2, 3, 1, 2, 3, 1]), .wrap rdFail 0, .wrap rdFail 1, .base .shrink,
   .wrap ⟨[], []⟩ 0, .base (.parse 0)]

example : ∃ s0, newParser .BHP exCfg = some s0 ∧ ∀ i (hi : i < exSOps.length),
    opErrS ((exSOps.take i).foldl stepS s0) exSOps[i] ≠ .panic := by
  exact newParser_exists (by decide) fun s0 hs i hi =>
    (C16_safe_wrapped .BHP (by decide) exCfg s0 hs exSOps i hi).2.2.1

/-- OSAP is covered by `C16_safe` too -/
example : (newParser .OSAP { exCfg with minMatchLen := 3, maxMatchLen := 20 }).isSome = true := by decide

/-- a state that violates the invariant: 4 bytes buffered in a slice of capacity 4 -/
def exNoMargin : Parser :=
  { kind := .HP, cfg := exCfg,
    buf := { data := [1, 2, 3, 4], w := 0, off := 0, cap := 4, cfg := ⟨1, 8, 4, 4⟩ },
    dict := .single (HashT.new 3 4) }

/-- the invariant is needed: without the 7-byte margin the model's `Parse` returns `.panic` (the Go
    code would slice `Data[:inputEnd+7]` beyond the capacity) -/
example : ¬ Room exNoMargin.buf ∧ (exNoMargin.parse 0).2.2.1 = .panic := by
  refine ⟨?_, by decide⟩
  intro ⟨_, h⟩
  rcases h with h | h
  · cases h
  · revert h; decide

example : hashValue 0xFFFFFFFFFFFFFFFF 4 < 16 := hashValue_lt _ 4

end Examples

end LZ

#print axioms LZ.C16_safe
#print axioms LZ.C16_safe_trace
#print axioms LZ.C16_safe_wrapped
#print axioms LZ.hashValue_lt
#print axioms LZ.C16_index_safety
#print axioms LZ.sizeOK_hpProbe
#print axioms LZ.sizeOK_processSegment1
#print axioms LZ.newParser_safeW
