/-
  Histories of the translated operations of HP WITH `Parse(nil, flags)`, and property C14 about the Go text.
  Continues GenHPHist / GenHPHistRun / GenHPHistRF / GenHPHistRF2 (whose per-operation lemmas are used as they are);
  the new operation is `hashParser_Parse_nilable … true ghost flags` (LzProofs/GenHPParseNil.lean), read on the model
  as `.parseNil` with the ghost log entry `Event.skip`.  `ParseNilRel`, `stepRel_N` and `C14_go` are stated for any
  machine and are shared by the other parsers.
-/
import LzProofs.GenHPParseNil
import LzProofs.GenHPHistRF2
import LzProofs.GenNilShared

set_option linter.unusedSimpArgs false
set_option linter.unusedVariables false

namespace LZ.GenHPHist
open LZ LZ.Gen LZ.GenBuf LZ.GenHash LZ.GenHPParse LZ.GenProps LZ.GenNil
open LZ.GenHist (HistInv FRel BufHost)

theorem hist_parseNil {bc : BufCfg} (grow : Nat → Nat → Nat) (fuel : Nat) (t : Gen.hashParser)
    (h : HistOK bc t) (ghost : Gen.Block') (flags : Int)
    (hfuel : t.hashDictionary.ParserBuffer.Data.len + 2 ≤ fuel) :
    ∃ t', hashParser_Parse_nilable grow fuel t true ghost flags =
        Res.ok (t', ghost, (((ofHPs t).parseNil).2.1 : Int), parseErr ((ofHPs t).parseNil).2.2) ∧
      HistOK bc t' ∧ ofHPs t' = ((ofHPs t).parseNil).1 ∧
      t'.hashDictionary.ParserBuffer.Data = t.hashDictionary.ParserBuffer.Data := by
  obtain ⟨t', h1, h2, h3, h4, t0, h5⟩ := gen_hp_parseNil_model grow fuel t ghost flags h.pok hfuel h.cap h.dictOK.1
  subst h5
  exact ⟨_, h1, ⟨h4, h.cfg, h.len, h.cap, h.il8⟩, h2, rfl⟩

/-! ## histories with `Parse(nil)` -/

inductive GOpN where
  | r (op : GOpR)
  /-- `Parse(nil, flags)`; `ghost` is the value that accompanies the nil flag (never looked at) -/
  | parseNil (ghost : Gen.Block') (flags : Int)

inductive GResN where
  | r (res : GResR)
  /-- the block value handed back (the ghost), `n`, the error -/
  | parseNil (blk : Gen.Block') (n : Int) (err : Gen.Err)

def GOpN.WF : GOpN → Prop
  | .r op => op.WF
  | .parseNil _ _ => True

def GOpN.abs : GOpN → POp
  | .r op => op.abs
  | .parseNil _ _ => .parseNil

def stepN (RF : RFun) (grow : Nat → Nat → Nat) (fuel : Nat) (s : Gen.hashParser) : GOpN → Res (Gen.hashParser × GResN)
  | .r op => Res.bind (stepGR RF grow fuel s op) fun x => Res.ok (x.1, .r x.2)
  | .parseNil ghost flags =>
    Res.bind (hashParser_Parse_nilable grow fuel s true ghost flags) fun x => Res.ok (x.1, .parseNil x.2.1 x.2.2.1 x.2.2.2)

def runN (RF : RFun) (grow : Nat → Nat → Nat) (fuel : Nat) : Gen.hashParser → List GOpN → Res (Gen.hashParser × List GResN)
  | s, [] => Res.ok (s, [])
  | s, op :: ops =>
    Res.bind (stepN RF grow fuel s op) fun x =>
    Res.bind (runN RF grow fuel x.1 ops) fun q => Res.ok (q.1, x.2 :: q.2)

def resAgreeN (m : Parser) : GOpN → GResN → Prop
  | .r op, .r res => resAgreeR m op res
  | .parseNil ghost _, .parseNil blk' n e =>
    n = ((m.parseNil).2.1 : Int) ∧ e = parseErr (m.parseNil).2.2 ∧ blk' = ghost
  | _, _ => False

def ResultsAgreeN : Parser × Ghost → List GOpN → List GResN → Prop
  | _, [], [] => True
  | sg, op :: ops, r :: rs => resAgreeN sg.1 op r ∧ ResultsAgreeN (step sg op.abs) ops rs
  | _, _, _ => False

/-- the C01 / C14 bookkeeping from the Go calls and results alone: a successful `Parse(nil)` hands the next `n` bytes of
    the stream to the decoder verbatim -/
def ghostStepN (g : Ghost) : GOpN → GResN → Ghost
  | .r op, .r res => ghostStepR g op res
  | .parseNil _ _, .parseNil _ n e =>
    if e = Gen.Err.ok then
      { g with consumed := g.consumed + n.toNat, log := g.log ++ [.skip ((g.fed.drop g.consumed).take n.toNat)] }
    else g
  | _, _ => g

def ghostRunN : Ghost → List GOpN → List GResN → Ghost
  | g, op :: ops, r :: rs => ghostRunN (ghostStepN g op r) ops rs
  | g, _, _ => g

def callsN : GenHist.Calls GOpN GResN := ⟨GOpN.WF, GOpN.abs, ghostStepN, resAgreeN⟩

theorem ghostRunN_eq : ghostRunN = callsN.ghostRun :=
  GenHist.ghostRun_unique (fun _ _ _ _ _ => rfl) (fun _ _ => rfl) (fun _ _ _ => rfl)

theorem resultsAgreeN_eq : ResultsAgreeN = callsN.ResultsAgree :=
  GenHist.resultsAgree_unique (fun _ _ _ _ _ => rfl) (fun _ => rfl) (fun _ _ _ => rfl) (fun _ _ _ => rfl)

/-- a translated `Parse(nil, flags)` is simulated by the model's `parseNil` under `Rel`, and hands the ghost block back -/
def _root_.LZ.GenHist.ParseNilRel {σ : Type} (Rel : σ → Parser → Prop)
    (pn : σ → Gen.Block' → Int → Res (σ × Gen.Block' × Int × Gen.Err)) : Prop :=
  ∀ t m ghost flags, Rel t m → ∃ t', pn t ghost flags =
      Res.ok (t', ghost, (m.parseNil.2.1 : Int), parseErr m.parseNil.2.2) ∧ Rel t' m.parseNil.1

open LZ.GenHist (ParseNilRel)

/-- A machine over `GOpN` whose calls `.r op` are those of a simulated machine `stpR` over `GOpR` and whose `Parse(nil)`
    is simulated is simulated. -/
theorem stepRel_N {σ : Type} {Rel : σ → Parser → Prop} {Q : Parser × Ghost → Prop} {stpR : σ → GOpR → Res (σ × GResR)}
    {stp : σ → GOpN → Res (σ × GResN)} {pn : σ → Gen.Block' → Int → Res (σ × Gen.Block' × Int × Gen.Err)}
    (hQ : ∀ sg op, Q sg → Q (step sg op))
    (hR : GenHist.StepSim callsR stpR (HistInv Rel Q)) (hpn : ParseNilRel Rel pn)
    (er : ∀ s op, stp s (.r op) = Res.bind (stpR s op) fun x => Res.ok (x.1, .r x.2))
    (en : ∀ s ghost flags, stp s (.parseNil ghost flags) =
      Res.bind (pn s ghost flags) fun x => Res.ok (x.1, .parseNil x.2.1 x.2.2.1 x.2.2.2)) :
    GenHist.StepSim callsN stp (HistInv Rel Q) := by
  intro t sg op h hop
  cases op with
  | r op =>
    obtain ⟨t', r, h1, h2, h3, h4⟩ := hR t sg op h hop
    exact ⟨t', .r r, by rw [er, h1]; rfl, h2, h3, h4⟩
  | parseNil ghost flags =>
    obtain ⟨m, g⟩ := sg
    obtain ⟨t', h1, h2⟩ := hpn t m ghost flags h.1
    refine ⟨t', .parseNil ghost _ _, by rw [en, h1]; rfl, ⟨(step_parseNil_fst (m, g)).symm ▸ h2, hQ _ _ h.2⟩, ?_, rfl, rfl, rfl⟩
    simp only [callsN, ghostStepN, step, GOpN.abs, parseErr_ok_iff _ (Parser.parseNil_err _), Int.toNat_natCast]
    split <;> rfl

/-! ## histories of HP with `Parse(nil)` -/

theorem runN_eq (RF : RFun) (grow : Nat → Nat → Nat) (fuel : Nat) :
    runN RF grow fuel = GenHist.run (stepN RF grow fuel) :=
  GenHist.run_unique (fun _ => rfl) (fun _ _ _ => rfl)

theorem stepN_sim {bc : BufCfg} (hbc : BCOK bc) (RF : RFun) (hRF : RFSpec RF) (grow : Nat → Nat → Nat) (fuel : Nat)
    (hfuel : bc.bufferSize + 3 ≤ fuel) :
    GenHist.StepSim callsN (stepN RF grow fuel) (GenHist.FInv (HistOK bc) ofHPs) :=
  stepRel_N (fun _ _ _ => trivial) (stepGR_sim hbc RF hRF grow fuel hfuel)
    (by
      rintro t _ ghost flags ⟨h, rfl⟩
      obtain ⟨t', h1, h2, h3, -⟩ := hist_parseNil grow fuel t h ghost flags (by have := h.len; omega)
      exact ⟨t', h1, h2, h3⟩)
    (fun _ _ => rfl) (fun _ _ _ => rfl)

/-- the simulation from `hashParser.init` for histories of Write / ReadFrom / Parse(&blk) / Parse(nil) / Shrink / Reset,
    every operation a translated function (`ReadFrom` against the scripted reader) -/
theorem gen_hp_history_nil (cfg : Gen.HPConfig) (s0 : Gen.hashParser)
    (hinit : hashParser_init default cfg = Res.ok (s0, Gen.Err.ok))
    (extra : Nat) (grow : Nat → Nat → Nat) (fuel : Nat)
    (hfuel : s0.hashDictionary.ParserBuffer.BufConfig.BufferSize.toNat + 3 ≤ fuel)
    (ops : List GOpN) (hwf : ∀ op ∈ ops, op.WF) :
    ∃ p t rs, newParser .HP (ofHP cfg) = some p ∧ ofHPs s0 = p ∧
      runN (rfGo extra) grow fuel s0 ops = Res.ok (t, rs) ∧ HistOK p.buf.cfg t ∧ BCOK p.buf.cfg ∧
      p.buf.cfg.bufferSize + 3 ≤ fuel ∧
      ofHPs t = (runOps (p, Ghost.init) (ops.map GOpN.abs)).1 ∧
      ghostRunN Ghost.init ops rs = (runOps (p, Ghost.init) (ops.map GOpN.abs)).2 ∧
      ResultsAgreeN (p, Ghost.init) ops rs := by
  obtain ⟨p, hp, hbc, hf, h0⟩ := init_inv cfg s0 hinit fuel hfuel
  rw [runN_eq, ghostRunN_eq, resultsAgreeN_eq]
  obtain ⟨t, rs, k1, ⟨⟨k2, k3⟩, -⟩, k4, k5⟩ :=
    GenHist.run_sim (stepN_sim hbc (rfGo extra) (rfGo_spec extra) grow fuel hf) ops s0 _ h0 hwf
  exact ⟨p, t, rs, hp, h0.1.2, k1, k2, hbc, hf, k3, k4, k5⟩

/-! ## the property theorems -/

/-- C01 about the Go text of HP, histories WITH `Parse(nil)`.  Run any history of `Write`, `ReadFrom`,
    `Parse(&blk, flags)`, `Parse(nil, flags)`, `Shrink`, `Reset` on the translated functions.  No call panics or runs out
    of fuel, and the reference decoder, applied to what the calls produced since the last successful `Reset` — the blocks
    of `Parse(&blk)` and, for every `Parse(nil)` that returned `n > 0`, the next `n` bytes of the stream VERBATIM
    (`Event.skip`) —, yields exactly the first `consumed` bytes fed, `consumed` = the sum of all returned `n`.  So blocks
    parsed after a skipped segment are correct for a decoder that received the skipped bytes verbatim (they may
    reference them as match sources). -/
theorem C01_go_text_hp_nil (cfg : Gen.HPConfig) (s0 : Gen.hashParser)
    (hinit : hashParser_init default cfg = Res.ok (s0, Gen.Err.ok))
    (extra : Nat) (grow : Nat → Nat → Nat) (fuel : Nat)
    (hfuel : s0.hashDictionary.ParserBuffer.BufConfig.BufferSize.toNat + 3 ≤ fuel)
    (ops : List GOpN) (hwf : ∀ op ∈ ops, op.WF) :
    ∃ t rs, runN (rfGo extra) grow fuel s0 ops = Res.ok (t, rs) ∧
      decode [] (ghostRunN Ghost.init ops rs).log =
        some ((ghostRunN Ghost.init ops rs).fed.take (ghostRunN Ghost.init ops rs).consumed) := by
  obtain ⟨p, t, rs, hp, -, h1, -, -, -, -, h4, -⟩ := gen_hp_history_nil cfg s0 hinit extra grow fuel hfuel ops hwf
  exact ⟨t, rs, h1, GenHist.C01_ghost hp (histHyp_of_ne .HP p (by decide)) h4⟩

/-- C03 about the Go text of HP, histories WITH `Parse(nil)`: blocks and skipped segments tile the consumed stream. -/
theorem C03_go_text_hp_nil (cfg : Gen.HPConfig) (s0 : Gen.hashParser)
    (hinit : hashParser_init default cfg = Res.ok (s0, Gen.Err.ok))
    (extra : Nat) (grow : Nat → Nat → Nat) (fuel : Nat)
    (hfuel : s0.hashDictionary.ParserBuffer.BufConfig.BufferSize.toNat + 3 ≤ fuel)
    (ops : List GOpN) (hwf : ∀ op ∈ ops, op.WF) :
    ∃ t rs, runN (rfGo extra) grow fuel s0 ops = Res.ok (t, rs) ∧
      let g := ghostRunN Ghost.init ops rs
      LogAll (fun pos e => 1 ≤ e.n ∧ e.n ≤ s0.hashDictionary.ParserBuffer.BufConfig.BlockSize.toNat ∧
        pos + e.n ≤ g.fed.length ∧
        ∀ n fl blk, e = .block n fl blk →
          blk.len = n ∧ expand (g.fed.take pos) blk = some (g.fed.take (pos + n)) ∧
          (fl % 2 = 1 → blk.seqs ≠ [] → blk.lits.length = litSum blk.seqs ∧ n = seqsSpan blk.seqs)) 0 g.log ∧
      logSpan g.log = g.consumed ∧ g.consumed ≤ g.fed.length := by
  obtain ⟨p, t, rs, hp, h0, h1, -, -, -, -, h4, -⟩ := gen_hp_history_nil cfg s0 hinit extra grow fuel hfuel ops hwf
  subst h0
  exact ⟨t, rs, h1, GenHist.C03_ghost hp (histHyp_of_ne .HP _ (by decide)) h4⟩

/-- C14 (skipped bytes verbatim) about the Go text of HP: every skip entry of the log is a non-empty segment of at
    most `BlockSize` bytes and IS the segment of the fed stream at its position. -/
theorem C14_skip_go_text_hp (cfg : Gen.HPConfig) (s0 : Gen.hashParser)
    (hinit : hashParser_init default cfg = Res.ok (s0, Gen.Err.ok))
    (extra : Nat) (grow : Nat → Nat → Nat) (fuel : Nat)
    (hfuel : s0.hashDictionary.ParserBuffer.BufConfig.BufferSize.toNat + 3 ≤ fuel)
    (ops : List GOpN) (hwf : ∀ op ∈ ops, op.WF) :
    ∃ t rs, runN (rfGo extra) grow fuel s0 ops = Res.ok (t, rs) ∧
      let g := ghostRunN Ghost.init ops rs
      LogAll (fun pos e => ∀ b, e = .skip b →
        1 ≤ b.length ∧ b.length ≤ s0.hashDictionary.ParserBuffer.BufConfig.BlockSize.toNat ∧
        b = (g.fed.drop pos).take b.length) 0 g.log := by
  obtain ⟨p, t, rs, hp, h0, h1, -, -, -, -, h4, -⟩ := gen_hp_history_nil cfg s0 hinit extra grow fuel hfuel ops hwf
  subst h0
  exact ⟨t, rs, h1, GenHist.C14_skip_ghost hp (histHyp_of_ne .HP _ (by decide)) h4⟩

/-- the `n` of `Parse(nil)` in the Go quantities: `D = len(Data)`, `W`, `BS = BlockSize` as `int`s -/
theorem parseNil_n_go (s : Parser) (D : Nat) (W BS : Int) (hD : s.buf.data.length = D) (hW : s.buf.w = W.toNat)
    (hBS : s.buf.cfg.blockSize = BS.toNat) (hW0 : 0 ≤ W) (hWD : W ≤ D) (hBS0 : 0 ≤ BS) :
    ((s.parseNil.2.1 : Nat) : Int) = Min.min BS ((D : Int) - W) := by
  rw [Parser.parseNil_n, Parser.blockN, hD, hW, hBS]
  obtain ⟨w, rfl⟩ := Int.eq_ofNat_of_zero_le hW0
  obtain ⟨bs, rfl⟩ := Int.eq_ofNat_of_zero_le hBS0
  simp only [Int.toNat_natCast]
  omega

/-- the error of `Parse(nil)`: `ErrEmptyBuffer` iff it returned `n = 0`, and then the state is unchanged -/
theorem parseNil_err_go (s : Parser) :
    (s.parseNil.2.1 = 0 → parseErr s.parseNil.2.2 = Gen.ErrEmptyBuffer ∧ s.parseNil.1 = s) ∧
    (s.parseNil.2.1 ≠ 0 → parseErr s.parseNil.2.2 = Gen.Err.ok) := by
  by_cases h0 : s.blockN = 0
  · rw [Parser.parseNil_empty s h0]
    exact ⟨fun _ => ⟨rfl, rfl⟩, fun h => absurd rfl h⟩
  · obtain ⟨s', hs, -⟩ := Parser.parseNil_ok s h0
    rw [hs]
    exact ⟨fun h => absurd h h0, fun _ => rfl⟩

/-- C14 for a translated parser whose state holds a `ParserBuffer` (`pb`; `bsz` is the `BlockSize` of its own
    configuration).  `t` is a state with the invariant whose model state `ab t` satisfies the model-level C14 (`hM`: there
    `parseNil` and `parse 0` return the same `n` and error and leave the same buffer).  `Parse(nil)` is simulated and leaves
    `Data` alone (`hpn`), `Parse(&blk, 0)` is simulated and leaves the bytes behind `len(Data)` alone (`hpa`), and
    `Parse(nil)` returns at once on an empty block (`hE`).  Then both return the same `n` and error, leave the same `Data`
    and `W`, `n = min(BlockSize, len(Data) − W)`, and the error is `ErrEmptyBuffer` exactly if `n = 0`. -/
theorem C14_go {σ : Type} {H : σ → Prop} {ab : σ → Parser} {bc : BufCfg} (B : BufHost bc (FRel H ab)) (bsz : σ → Int)
    {pn pa : σ → Gen.Block' → Int → Res (σ × Gen.Block' × Int × Gen.Err)} (t : σ) (h : H t)
    (hB : 0 ≤ bsz t) (hcbs : (bsz t).toNat = (B.pb t).BufConfig.BlockSize.toNat)
    (ghost blk : Gen.Block') (flags : Int)
    (hpn : ∃ t1, pn t ghost flags = Res.ok (t1, ghost, ((ab t).parseNil.2.1 : Int), parseErr (ab t).parseNil.2.2) ∧
      H t1 ∧ ab t1 = (ab t).parseNil.1 ∧ (B.pb t1).Data = (B.pb t).Data)
    (hpa : ∃ t2 blk', pa t blk 0 = Res.ok (t2, blk', (((ab t).parse 0).2.1 : Int), parseErr ((ab t).parse 0).2.2.1) ∧
      ab t2 = ((ab t).parse 0).1 ∧ (ab t2).buf = ofPB (B.pb t2) ∧ PBWF (B.pb t2) ∧
      (B.pb t2).Data.arr.drop (B.pb t2).Data.len = (B.pb t).Data.arr.drop (B.pb t).Data.len)
    (hM : (ab t).parseNil.2.1 = ((ab t).parse 0).2.1 ∧ (ab t).parseNil.2.2 = ((ab t).parse 0).2.2.1 ∧
      (ab t).parseNil.1.buf = ((ab t).parse 0).1.buf ∧
      (ab t).parseNil.2.1 = Min.min (ab t).buf.cfg.blockSize ((ab t).buf.data.length - (ab t).buf.w))
    (hE : Min.min (bsz t) (((B.pb t).Data.len : Int) - (B.pb t).W) = 0 →
      pn t ghost flags = Res.ok (t, ghost, (0 : Int), Gen.ErrEmptyBuffer)) :
    ∃ t1 t2 blk' n e, pn t ghost flags = Res.ok (t1, ghost, n, e) ∧ pa t blk 0 = Res.ok (t2, blk', n, e) ∧
      (B.pb t1).Data = (B.pb t2).Data ∧ (B.pb t1).W = (B.pb t2).W ∧ (B.pb t1).Data = (B.pb t).Data ∧ (B.pb t1).W = (B.pb t).W + n ∧
      n = Min.min (bsz t) (((B.pb t).Data.len : Int) - (B.pb t).W) ∧
      (n = 0 → e = Gen.ErrEmptyBuffer ∧ t1 = t) ∧ (n ≠ 0 → e = Gen.Err.ok) := by
  obtain ⟨hwf, hbok, hbuf⟩ := B.get (⟨h, rfl⟩ : FRel H ab t (ab t))
  have hW := (hbok.go hwf).1
  obtain ⟨t1, e1, hH1, m1, d1⟩ := hpn
  obtain ⟨t2, blk', e2, m2, hbuf2, hwf2, st2⟩ := hpa
  obtain ⟨hwf1, -, hbuf1⟩ := B.get (⟨hH1, rfl⟩ : FRel H ab t1 (ab t1))
  obtain ⟨c1, c2, c3, -⟩ := hM
  rw [← c1, ← c2] at e2
  have hb12 : ofPB (B.pb t1) = ofPB (B.pb t2) := by rw [← hbuf1, ← hbuf2, m1, m2, c3]
  have hdata : (B.pb t1).Data = (B.pb t2).Data :=
    slice_ext _ _ hwf1.data hwf2.data (congrArg PBuf.data hb12) (by rw [d1]; exact st2.symm)
  have hW12 : (B.pb t1).W = (B.pb t2).W := by
    have a : (B.pb t1).W.toNat = (B.pb t2).W.toNat := congrArg PBuf.w hb12
    have b1 := hwf1.w
    have b2 := hwf2.w
    omega
  have hW0 := hwf.w
  have hdl : (ab t).buf.data.length = (B.pb t).Data.len := by rw [hbuf]; exact data_length hwf.data
  have hwN : (ab t).buf.w = (B.pb t).W.toNat := by rw [hbuf]; rfl
  have hbsN : (ab t).buf.cfg.blockSize = (B.pb t).BufConfig.BlockSize.toNat := by rw [hbuf]; rfl
  have hbn : (ab t).parseNil.2.1 = (ab t).blockN := Parser.parseNil_n _
  have hwsum : (B.pb t1).W = (B.pb t).W + (((ab t).parseNil.2.1 : Nat) : Int) := by
    have a : (B.pb t1).W.toNat = (ab t).buf.w + (ab t).blockN := by
      have := congrArg PBuf.w (hbuf1.symm.trans ((congrArg Parser.buf m1).trans (Parser.parseNil_buf _)))
      exact this
    have b1 := hwf1.w
    rw [hbn, hwN] at *
    omega
  have hn := parseNil_n_go (ab t) (B.pb t).Data.len (B.pb t).W (bsz t) hdl hwN (hbsN.trans hcbs.symm) hW0 hW hB
  obtain ⟨z1, z2⟩ := parseNil_err_go (ab t)
  refine ⟨t1, t2, blk', _, _, e1, e2, hdata, hW12, d1, hwsum, hn, fun hn0 => ⟨(z1 (Int.natCast_eq_zero.mp hn0)).1, ?_⟩,
    fun hn0 => z2 (fun h => hn0 (by rw [h]; rfl))⟩
  have := hE (hn.symm.trans hn0)
  rw [this] at e1
  injection e1 with e1
  exact (congrArg Prod.fst e1).symm

/-- C14 about the Go text of HP.  After ANY history of the translated `Write`, `ReadFrom`, `Parse(&blk)`,
    `Parse(nil)`, `Shrink`, `Reset` from `hashParser.init`, let `t` be the Go state reached.  For every `flags`, every
    ghost value and every block `blk` of the caller: the translated `Parse(nil, flags)` and the translated
    `Parse(&blk, 0)`, both run from `t`, return THE SAME `n` and THE SAME error, and leave THE SAME buffer `Data` and THE
    SAME `W`; `n = min(BlockSize, len(Data) - W)`; the error is `ErrEmptyBuffer` if `n = 0` and `nil` otherwise;
    `Parse(nil)` hands the ghost block back unchanged (it writes nothing) and leaves `Data` as it was.  (That repeated
    calls drain the buffer follows: each call with `n > 0` advances `W` by `n`; see also `C14_drains`.) -/
theorem C14_go_text_hp (cfg : Gen.HPConfig) (s0 : Gen.hashParser)
    (hinit : hashParser_init default cfg = Res.ok (s0, Gen.Err.ok))
    (extra : Nat) (grow : Nat → Nat → Nat) (fuel : Nat)
    (hfuel : s0.hashDictionary.ParserBuffer.BufConfig.BufferSize.toNat + 3 ≤ fuel)
    (ops : List GOpN) (hwf : ∀ op ∈ ops, op.WF) (ghost blk : Gen.Block') (flags : Int) :
    ∃ t rs, runN (rfGo extra) grow fuel s0 ops = Res.ok (t, rs) ∧
      ∃ t1 t2 blk' n e,
        hashParser_Parse_nilable grow fuel t true ghost flags = Res.ok (t1, ghost, n, e) ∧
        hashParser_Parse grow fuel t blk 0 = Res.ok (t2, blk', n, e) ∧
        t1.hashDictionary.ParserBuffer.Data = t2.hashDictionary.ParserBuffer.Data ∧
        t1.hashDictionary.ParserBuffer.W = t2.hashDictionary.ParserBuffer.W ∧
        t1.hashDictionary.ParserBuffer.Data = t.hashDictionary.ParserBuffer.Data ∧
        t1.hashDictionary.ParserBuffer.W = t.hashDictionary.ParserBuffer.W + n ∧
        n = Min.min t.HPConfig.BlockSize ((t.hashDictionary.ParserBuffer.Data.len : Int) - t.hashDictionary.ParserBuffer.W) ∧
        (n = 0 → e = Gen.ErrEmptyBuffer ∧ t1 = t) ∧ (n ≠ 0 → e = Gen.Err.ok) := by
  obtain ⟨p, t, rs, hp, h0, h1, hH, hbc, hf, h3, -, -⟩ := gen_hp_history_nil cfg s0 hinit extra grow fuel hfuel ops hwf
  refine ⟨t, rs, h1, ?_⟩
  have hlen := hH.len
  obtain ⟨t1, e1, hH1, m1, d1⟩ := hist_parseNil grow fuel t hH ghost flags (by omega)
  obtain ⟨t2, blk', e2, m2, st2, -, -, -, pk2⟩ := gen_hp_parse_model grow fuel t blk 0 hH.pok (Int.le_refl 0) (by omega)
    (ofHP cfg) p hp (ops.map GOpN.abs) h3
  have hM := C14_same_n_greedy_reachable .HP (by decide) (ofHP cfg) p hp (ops.map GOpN.abs) 0 rfl
  rw [← h3] at hM
  exact C14_go (bufHost hbc) (fun t => t.HPConfig.BlockSize)
    (pn := fun t g f => hashParser_Parse_nilable grow fuel t true g f) (pa := hashParser_Parse grow fuel)
    t hH hH.pok.bs0 hH.pok.cbs ghost blk flags ⟨t1, e1, hH1, m1, d1⟩ ⟨t2, blk', e2, m2, rfl, pk2.wf.1, st2⟩ hM
    (gen_hp_parseNil_empty grow fuel t ghost flags)

end LZ.GenHPHist

#print axioms LZ.GenHPHist.hist_parseNil
#print axioms LZ.GenHPHist.stepRel_N
#print axioms LZ.GenHPHist.gen_hp_history_nil
#print axioms LZ.GenHPHist.C01_go_text_hp_nil
#print axioms LZ.GenHPHist.C03_go_text_hp_nil
#print axioms LZ.GenHPHist.C14_skip_go_text_hp
#print axioms LZ.GenHPHist.C14_go_text_hp
