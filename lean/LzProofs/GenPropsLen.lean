/-
  lz.go: Seq.Len, Block.Len.  The hand-written model equals the code that `tools/extract -code` regenerates from the Go source
  (LzModel/Generated/Code<Topic>.lean, one file per topic).  Every theorem quantifies over all inputs; Go `int`/`int64`
  are unbounded `Int` on both sides (overflow is out of scope), `uint32`/`uint64` wrap around.
-/
import LzModel.Generated.CodeLen
import LzModel.Basic

set_option linter.unusedSimpArgs false

namespace LZ.GenProps
open LZ

/-! ## lz.go: Seq.Len, Block.Len -/

def ofSeq (s : Gen.Seq) : LZ.Seq :=
  { litLen := s.LitLen.toNat, matchLen := s.MatchLen.toNat, offset := s.Offset.toNat, aux := s.Aux.toNat }

def ofBlock (b : Gen.Block) : LZ.Block := { seqs := b.Sequences.map ofSeq, lits := b.Literals }

theorem gen_seqLen (s : Gen.Seq) : Gen.Seq_Len s = ((ofSeq s).matchLen + (ofSeq s).litLen : Nat) := by
  simp only [Gen.Seq_Len, gen_helper, ofSeq, Int.ofNat_eq_natCast]
  omega

theorem foldl_matchLen (l : List Gen.Seq) (n : Int) :
    List.foldl (fun n s => n + Int.ofNat s.MatchLen.toNat) n l
      = n + (((l.map ofSeq).map (·.matchLen)).sum : Nat) := by
  induction l generalizing n with
  | nil => simp
  | cons s t ih =>
    simp only [List.foldl_cons, List.map_cons, List.sum_cons, ih]
    simp only [ofSeq, Int.ofNat_eq_natCast, Int.natCast_add]
    omega

theorem gen_blockLen (b : Gen.Block) : Gen.Block_Len b = ((ofBlock b).len : Nat) := by
  unfold Gen.Block_Len LZ.Block.len ofBlock
  simp only [foldl_matchLen]
  simp

end LZ.GenProps
