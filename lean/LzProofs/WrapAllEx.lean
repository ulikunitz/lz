/-
  LzProofs.WrapAllEx — non-vacuity of the C08 theorems of WrapAll / WrapAllHist: concrete
  configurations for OSAP and HP, reader scripts with short reads and data returned together with
  io.EOF, wrapped calls evaluated inside the kernel (`decide`, `rfl`, `simp`), and instances of
  the headline theorems.
-/
import LzProofs.WrapAllEof
set_option linter.unusedSimpArgs false
namespace LZ
namespace WrapEx
open PBuf

/-- "ababa" -/
def dat : List Byte := [97, 98, 97, 98, 97]

/-- short reads (2 bytes, 1 byte), then the last 2 bytes together with io.EOF -/
def rS : Reader := ⟨dat, [(2, 0), (1, 0), (2, 1)]⟩
/-- the same payload byte by byte, error free -/
def rA : Reader := ⟨dat, [(1, 0), (1, 0), (1, 0), (1, 0), (1, 0)]⟩
/-- the same payload in one piece, error free -/
def rB : Reader := ⟨dat, [(5, 0), (9, 0), (9, 0), (9, 0), (9, 0)]⟩

/-! ## OSAP -/

/-- WindowSize 8, BufferSize 8, BlockSize 8, ShrinkSize 2, MinMatchLen 2, MaxMatchLen 8 -/
def osapCfg : Cfg :=
  { windowSize := 8, bufferSize := 8, blockSize := 8, shrinkSize := 2, minMatchLen := 2,
    maxMatchLen := 8 }

def bc8 : BufCfg := { shrinkSize := 2, bufferSize := 8, windowSize := 8, blockSize := 8 }

def osap0 : Parser :=
  { kind := .OSAP, cfg := setDefaults .OSAP (osapCfg.restrict .OSAP), buf := PBuf.init bc8,
    dict := .osap OsapD.empty }

theorem osap0_new : newParser .OSAP osapCfg = some osap0 :=
  newParser_of_verify (by decide)

/-- the suffix array of "ababa" -/
theorem dat_sa : saSpec dat = [4, 2, 0, 3, 1] := by
  simp [dat, saSpec, List.mergeSort, List.range, List.range.loop, lexLe,
    List.MergeSort.Internal.splitInTwo, List.splitAt, List.splitAt.go]

theorem dat_lcp : lcpKasai dat [4, 2, 0, 3, 1].toArray (invertSA [4, 2, 0, 3, 1].toArray) =
    #[0, 1, 3, 0, 2] := by decide

theorem dat_seg : segments32 5 #[0, 1, 3, 0, 2] 2 3 = some [(3, 1, 3), (2, 3, 5)] := by
  simp [segments32, segments, scanLCP, scanFrom, popLoop, Int.min_def]

/-- `computeEdges` on "ababa" (head 0, window 8, match lengths 2…8): "aba" at 2 and "ba" at 3
    are repetitions at distance 2 -/
theorem dat_edges : computeEdges dat 0 8 2 8 = ⟨#[[], [], [(3, 2)], [(2, 2)], []], 0, 2⟩ := by
  have e0 : List.drop (0 - 8) dat = dat := rfl
  unfold computeEdges
  simp only [e0, dat_sa, dat_lcp]
  have e2 : min (Array.foldl max 0 #[0, 1, 3, 0, 2]) 8 = 3 := by decide
  have e3 : ([4, 2, 0, 3, 1] : List Nat).toArray.size = 5 := rfl
  simp only [e2, e3]
  have e4 : ((2 : Nat) : Int) = 2 := rfl
  have e5 : ((3 : Nat) : Int) = 3 := rfl
  rw [e4, e5, dat_seg]
  simp [dat, List.mergeSort, List.MergeSort.Internal.splitInTwo, List.splitAt, List.splitAt.go,
    edgeCallback]
  decide

attribute [local simp] Parser.shrink Parser.readFrom readFrom readLoop shrink init grow bc8
  Facts.margin Facts.chunkSize Facts.growMin min3 errOfCode

/-- the state after the first refill: "ababa" buffered, nothing parsed -/
def osap1 : Parser := { osap0 with buf := { data := dat, w := 0, off := 0, cap := 15, cfg := bc8 } }

/-- the reader after the first refill -/
def rDone : Reader := ⟨[], []⟩

/-- `Shrink`, then `ReadFrom`: three `Read` calls (2 bytes, 1 byte, 2 bytes + io.EOF) -/
theorem osap0_refill : osap0.shrink.1.readFrom rS = (osap1, rDone, 5, .eof) := by
  simp [osap0, osap1, rS, rDone, dat]

/-- the edge table of "ababa" -/
def edgesAB : OsapD := ⟨#[[], [], [(3, 2)], [(2, 2)], []], 0, 2⟩

/-- the state after the first block -/
def osap2 : Parser :=
  { osap1 with buf := { data := dat, w := 5, off := 0, cap := 15, cfg := bc8 }, dict := .osap edgesAB }

/-- literals "ab", then a match of length 3 at distance 2 -/
def blkAB : Block := ⟨[{ litLen := 2, matchLen := 3, offset := 2 }], [97, 98]⟩

theorem osap1_edges : osap1.osapEdges OsapD.empty = edgesAB := by
  unfold Parser.osapEdges
  rw [if_pos (by decide)]
  exact dat_edges

/-- OSAP's `Parse` on "ababa", edges computed by `computeEdges`, evaluated in the kernel -/
theorem osap1_parse : osap1.parse 0 = (osap2, 5, .ok, blkAB) := by
  rw [Parser.parse_osap osap1 0 OsapD.empty rfl (by decide)]
  simp only [osap1_edges]
  rw [if_neg (by decide)]
  refine Prod.ext ?_ ?_
  · rfl
  · decide +kernel

/-- first call: `Parse` finds the buffer empty, `Shrink`, `ReadFrom` takes all five bytes in
    three short reads (the last with io.EOF, which is dropped because data came with it), `Parse`
    again: one block, `n = 5` -/
theorem osap_call1 : (Wrapped.mk rS osap0).parse 0 = (⟨rDone, osap2⟩, 5, .ok, blkAB) := by
  rw [Wrapped.parse_of_retry ⟨rS, osap0⟩ 0 osap1 rDone 5 .eof
    (by decide) osap0_refill (by decide) (by decide)]
  exact Wrapped.parse_of_block ⟨rDone, osap1⟩ 0 _ osap1_parse (by decide)

/-- the state after the second call: `Shrink` has discarded 3 bytes -/
def osap3 : Parser :=
  { osap2 with buf := { data := [98, 97], w := 2, off := 3, cap := 15, cfg := bc8 },
               dict := .osap OsapD.empty }

theorem osap2_refill : osap2.shrink.1.readFrom rDone = (osap3, rDone, 0, .eof) := by
  simp [osap0, osap1, osap2, osap3, rDone, dat]

/-- second call: nothing left: `(0, io.EOF)` -/
theorem osap_call2 : (Wrapped.mk rDone osap2).parse 0 = (⟨rDone, osap3⟩, 0, .eof, ⟨[], []⟩) :=
  Wrapped.parse_of_stop ⟨rDone, osap2⟩ 0 osap3 rDone .eof
    (by decide) osap2_refill (by decide)

theorem osap3_refill : osap3.shrink.1.readFrom rDone = (osap3, rDone, 0, .eof) := by
  simp [osap0, osap1, osap2, osap3, rDone, dat]

/-- third call (with NoTrailingLiterals): `(0, io.EOF)` again, state unchanged -/
theorem osap_call3 : (Wrapped.mk rDone osap3).parse 1 = (⟨rDone, osap3⟩, 0, .eof, ⟨[], []⟩) :=
  Wrapped.parse_of_stop ⟨rDone, osap3⟩ 1 osap3 rDone .eof
    (by decide) osap3_refill (by decide)

/-- the wrapped history `Parse(0), Parse(0), Parse(1)` of the OSAP parser on the short-reading
    reader: one block that expands to "ababa", then io.EOF twice -/
theorem osap_run : (Wrapped.runW ⟨rS, osap0⟩ [.parse 0, .parse 0, .parse 1]).2 =
    [(5, .ok, blkAB), (0, .eof, ⟨[], []⟩), (0, .eof, ⟨[], []⟩)] := by
  simp only [Wrapped.runW, Wrapped.stepW, osap_call1, osap_call2, osap_call3]

example : expand [] blkAB = some dat := by decide

/-! ## HP, with a failing reader -/

/-- WindowSize 8, BufferSize 8, BlockSize 8, ShrinkSize 2, InputLen 2, HashBits 4 -/
def hpCfg : Cfg :=
  { windowSize := 8, bufferSize := 8, blockSize := 8, shrinkSize := 2, inputLen := 2, hashBits := 4 }

def hp0 : Parser :=
  { kind := .HP, cfg := setDefaults .HP (hpCfg.restrict .HP), buf := PBuf.init bc8,
    dict := .single (HashT.new 2 4) }

theorem hp0_new : newParser .HP hpCfg = some hp0 :=
  newParser_of_verify (by decide)

/-- "abababab" ++ "cabc" -/
def dat2 : List Byte := [97, 98, 97, 98, 97, 98, 97, 98, 99, 97, 98, 99]

/-- short reads (3, 5), then a failure without data (error code 7), then recovery: 1 byte, and the
    last 3 bytes together with io.EOF -/
def rF : Reader := ⟨dat2, [(3, 0), (5, 0), (0, 7), (1, 0), (20, 1)]⟩
def rF2 : Reader := ⟨[99, 97, 98, 99], [(0, 7), (1, 0), (20, 1)]⟩
def rF3 : Reader := ⟨[99, 97, 98, 99], [(1, 0), (20, 1)]⟩

/-- a hash table with 16 entries, given by its non-zero entries -/
def tb (l : List (Nat × Nat × Nat)) : HashT :=
  { tbl := l.foldl (fun t e => t.setIfInBounds e.1 e.2) (Array.replicate 16 (0, 0)),
    inputLen := 2, hashBits := 4 }

def hpBuf (data : List Byte) (w off : Nat) : PBuf :=
  { data := data, w := w, off := off, cap := 15, cfg := bc8 }

def hpF1 : Parser := { hp0 with buf := hpBuf [97, 98, 97, 98, 97, 98, 97, 98] 0 0 }
def hpF2 : Parser :=
  { hp0 with buf := hpBuf [97, 98, 97, 98, 97, 98, 97, 98] 8 0,
             dict := .single (tb [(4, 5, 24930), (7, 6, 25185)]) }
def hpF2s : Parser :=
  { hp0 with buf := hpBuf [97, 98] 2 6, dict := .single (tb [(7, 0, 25185)]) }
def hpF4 : Parser :=
  { hp0 with buf := hpBuf [97, 98, 99, 97, 98, 99] 2 6, dict := .single (tb [(7, 0, 25185)]) }
def hpF5 : Parser :=
  { hp0 with buf := hpBuf [97, 98, 99, 97, 98, 99] 6 6,
             dict := .single (tb [(7, 3, 25185), (10, 4, 25442), (13, 2, 24931)]) }
def hpF6 : Parser :=
  { hp0 with buf := hpBuf [98, 99] 2 10, dict := .single (tb [(10, 0, 25442)]) }

def blk1 : Block := ⟨[{ litLen := 2, matchLen := 6, offset := 2 }], [97, 98]⟩
def blk2 : Block := ⟨[{ litLen := 1, matchLen := 3, offset := 3 }], [99]⟩

attribute [local simp] hp0 hpF1 hpF2 hpF2s hpF4 hpF5 hpF6 hpBuf rF rF2 rF3 rDone dat2

theorem hp0_shrink : hp0.shrink.1 = hp0 := rfl
theorem hp0_read : hp0.readFrom rF = (hpF1, rF2, 8, .full) := by simp

theorem hpF1_parse : hpF1.parse 0 = (hpF2, 8, .ok, blk1) := by
  rw [Parser.parse_single hpF1 0 _ rfl (by decide)
    (Parser.marginOK_of_cap _ (Or.inr (by decide)) (by decide))]
  simp only [Parser.runGreedy_eq_F]
  refine Prod.ext ?_ ?_
  · rfl
  · decide

/-- call 1: two short reads fill the buffer (`ErrFullBuffer` with `k = 8`), one block of 8 -/
theorem hp_call1 : (Wrapped.mk rF hp0).parse 0 = (⟨rF2, hpF2⟩, 8, .ok, blk1) := by
  rw [Wrapped.parse_of_retry ⟨rF, hp0⟩ 0 hpF1 rF2 8 .full
    (by decide) hp0_read (by decide) (by decide)]
  exact Wrapped.parse_of_block ⟨rF2, hpF1⟩ 0 _ hpF1_parse (by decide)

theorem hpF2_shrink : hpF2.shrink.1 = hpF2s := by
  simp [tb, HashT.shiftOffsets]
theorem hpF2s_read : hpF2s.readFrom rF2 = (hpF2s, rF3, 0, .reader 7) := by simp

/-- call 2: the reader fails without data: `(0, reader 7)`; all 8 bytes read so far have been
    delivered by call 1 -/
theorem hp_call2 : (Wrapped.mk rF2 hpF2).parse 0 = (⟨rF3, hpF2s⟩, 0, .reader 7, ⟨[], []⟩) :=
  Wrapped.parse_of_stop ⟨rF2, hpF2⟩ 0 hpF2s rF3 (.reader 7)
    (by decide) (by rw [hpF2_shrink]; exact hpF2s_read) (by decide)

theorem hpF2s_shrink : hpF2s.shrink.1 = hpF2s := rfl
theorem hpF2s_read3 : hpF2s.readFrom rF3 = (hpF4, rDone, 4, .eof) := by simp

theorem hpF4_parse : hpF4.parse 1 = (hpF5, 4, .ok, blk2) := by
  rw [Parser.parse_single hpF4 1 _ rfl (by decide)
    (Parser.marginOK_of_cap _ (Or.inr (by decide)) (by decide))]
  simp only [Parser.runGreedy_eq_F]
  refine Prod.ext ?_ ?_
  · rfl
  · decide

/-- call 3 (NoTrailingLiterals): the reader has recovered: 1 byte, then 3 bytes with io.EOF;
    the block continues exactly where call 1 stopped -/
theorem hp_call3 : (Wrapped.mk rF3 hpF2s).parse 1 = (⟨rDone, hpF5⟩, 4, .ok, blk2) := by
  rw [Wrapped.parse_of_retry ⟨rF3, hpF2s⟩ 1 hpF4 rDone 4 .eof
    (by decide) (by rw [hpF2s_shrink]; exact hpF2s_read3)
    (by decide) (by decide)]
  exact Wrapped.parse_of_block ⟨rDone, hpF4⟩ 1 _ hpF4_parse (by decide)

theorem hpF5_shrink : hpF5.shrink.1 = hpF6 := by
  simp [tb, HashT.shiftOffsets]
  decide
theorem hpF6_read : hpF6.readFrom rDone = (hpF6, rDone, 0, .eof) := by simp

/-- call 4: `(0, io.EOF)` -/
theorem hp_call4 : (Wrapped.mk rDone hpF5).parse 1 = (⟨rDone, hpF6⟩, 0, .eof, ⟨[], []⟩) :=
  Wrapped.parse_of_stop ⟨rDone, hpF5⟩ 1 hpF6 rDone .eof
    (by decide) (by rw [hpF5_shrink]; exact hpF6_read) (by decide)

/-- the wrapped history of the HP parser on the failing reader: block, the reader's error with
    `n = 0`, block after recovery, io.EOF -/
theorem hp_run : (Wrapped.runW ⟨rF, hp0⟩ [.parse 0, .parse 0, .parse 1, .parse 1]).2 =
    [(8, .ok, blk1), (0, .reader 7, ⟨[], []⟩), (4, .ok, blk2), (0, .eof, ⟨[], []⟩)] := by
  simp only [Wrapped.runW, Wrapped.stepW, hp_call1, hp_call2, hp_call3, hp_call4]

/-- nothing lost, nothing duplicated: the two blocks expand to the payload -/
example : decode [] [.block 8 0 blk1, .block 4 1 blk2] = some dat2 := by decide

/-! ## instances of the theorems -/

theorem fillR_rA : FillR rA := by unfold FillR; decide
theorem fillR_rB : FillR rB := by unfold FillR; decide

/-- the invariant holds after the evaluated OSAP history (reader with short reads and data+EOF) -/
example : ∃ fed, WInv I_all (Wrapped.runW ⟨rS, osap0⟩ [.parse 0, .parse 0, .parse 1]).1 fed :=
  C08_reachable_winv .OSAP osapCfg osap0 osap0_new rS _

/-- … and after the HP history with the failing reader, with a `Reset` in between -/
example : ∃ fed, WInv I_all
    (Wrapped.runW ⟨rF, hp0⟩ [.parse 0, .parse 0, .reset rS, .parse 1, .parse 1]).1 fed :=
  C08_reachable_winv .HP hpCfg hp0 hp0_new rF _

/-- chunking independence, OSAP: byte-by-byte reader against one-piece reader, with a `Reset` to
    readers chunked the other way round -/
theorem osap_chunking :
    (Wrapped.runW ⟨rA, osap0⟩ [.parse 0, .parse 1, .reset rB, .parse 0, .parse 0]).2 =
    (Wrapped.runW ⟨rB, osap0⟩ [.parse 0, .parse 1, .reset rA, .parse 0, .parse 0]).2 :=
  C08_chunking_independent .OSAP osapCfg osap0 osap0_new rA rB rfl fillR_rA fillR_rB _ _
    ⟨rfl, rfl, ⟨rfl, fillR_rB, fillR_rA⟩, rfl, rfl, trivial⟩

/-- the same for HP -/
theorem hp_chunking :
    (Wrapped.runW ⟨rA, hp0⟩ [.parse 0, .parse 1, .reset rB, .parse 0, .parse 0]).2 =
    (Wrapped.runW ⟨rB, hp0⟩ [.parse 0, .parse 1, .reset rA, .parse 0, .parse 0]).2 :=
  C08_chunking_independent .HP hpCfg hp0 hp0_new rA rB rfl fillR_rA fillR_rB _ _
    ⟨rfl, rfl, ⟨rfl, fillR_rB, fillR_rA⟩, rfl, rfl, trivial⟩

/-- the one-piece reader evaluated: `ReadFrom` takes the five bytes with one `Read`; the
    remaining responses answer `(0, nil)` ("nothing happened", `ReadFrom` calls `Read` again)
    until the script is exhausted: io.EOF -/
theorem osap0_refillB :
    osap0.shrink.1.readFrom rB = (osap1, ⟨[], []⟩, 5, .eof) := by
  simp [osap0, osap1, rB, dat]

theorem osapB_call1 : ((Wrapped.mk rB osap0).parse 0).2 = (5, .ok, blkAB) := by
  rw [Wrapped.parse_of_retry ⟨rB, osap0⟩ 0 osap1 _ 5 .eof
    (by decide) osap0_refillB (by decide) (by decide)]
  rw [Wrapped.parse_of_block ⟨_, osap1⟩ 0 _ osap1_parse (by decide)]

/-- … hence, by chunking independence and without evaluating anything, the byte-by-byte reader
    gets the same first result -/
example : ((Wrapped.mk rA osap0).parse 0).2 = (5, .ok, blkAB) := by
  have := C08_chunking_independent .OSAP osapCfg osap0 osap0_new rA rB rfl fillR_rA fillR_rB
    [.parse 0] [.parse 0] ⟨rfl, trivial⟩
  simp only [Wrapped.runW, Wrapped.stepW, List.cons.injEq, and_true] at this
  rw [this]; exact osapB_call1

/-- completeness, OSAP with the byte-by-byte reader: whatever the blocks are, they expand to a
    prefix of "ababa", all calls return a block or io.EOF, and io.EOF means everything was
    delivered -/
example :
    let run := Wrapped.runW ⟨rA, osap0⟩ [WOp.parse 0, WOp.parse 1, WOp.parse 0]
    decode [] (okEvents [0, 1, 0] run.2) = some (dat.take ((run.2.map (·.1)).sum)) ∧
    (∀ o ∈ run.2, (o.2.1 = .ok ∧ 1 ≤ o.1) ∨ (o.1 = 0 ∧ o.2.1 = .eof)) ∧
    ((run.1.parse 0).2.2.1 = .eof → decode [] (okEvents [0, 1, 0] run.2) = some dat) :=
  C08_complete_calls .OSAP osapCfg osap0 osap0_new rA fillR_rA [0, 1, 0] 0

/-- the hypothesis of `C08_fault` for the evaluated HP history: the second call returns the
    reader's error -/
theorem hp_fault_hyp : ((Wrapped.runW ⟨rF, hp0⟩ [.parse 0]).1.parse 0).2.2.1 = .reader 7 := by
  simp only [Wrapped.runW, Wrapped.stepW, hp_call1, hp_call2]

/-- `C08_fault` applied to it -/
example := C08_fault .HP hpCfg hp0 hp0_new rF [.parse 0] 0 7 hp_fault_hyp

/-- the ghost state of the evaluated OSAP history (reader with short reads and data+EOF): the one
    block, 5 bytes consumed, 5 bytes read -/
example : (Wrapped.runG (⟨rS, osap0⟩, Ghost.init) [.parse 0, .parse 0]).2.consumed = 5 ∧
    (Wrapped.runG (⟨rS, osap0⟩, Ghost.init) [.parse 0, .parse 0]).2.fed = dat := by
  simp only [Wrapped.runG, List.foldl, Wrapped.stepG, osap_call1, osap_call2]
  decide

/-! ## data together with io.EOF (`TruthR`) -/

/-- byte by byte, the last byte together with io.EOF -/
def rE : Reader := ⟨dat, [(1, 0), (1, 0), (1, 0), (1, 0), (1, 1)]⟩

theorem truthR_rE : TruthR rE :=
  Or.inr (Or.inl ⟨[(1, 0), (1, 0), (1, 0), (1, 0)], 1, [], rfl, by decide, by decide, by decide,
    by simp⟩)

/-- `rE` is not in the class `FillR` of `WSim` / `C08_chunking_independent` -/
example : ¬ FillR rE := by unfold FillR; decide

/-- chunking independence with data+EOF: the reader that returns its last byte together with
    io.EOF against the one-piece reader, OSAP -/
theorem osap_chunking_eof :
    (Wrapped.runW ⟨rE, osap0⟩ [.parse 0, .parse 1, .reset rB, .parse 0]).2 =
    (Wrapped.runW ⟨rB, osap0⟩ [.parse 0, .parse 1, .reset rE, .parse 0]).2 :=
  C08_chunking_independent_eof .OSAP osapCfg osap0 osap0_new rE rB rfl truthR_rE
    (TruthR.of_fillR fillR_rB) _ _
    ⟨rfl, rfl, ⟨rfl, TruthR.of_fillR fillR_rB, truthR_rE⟩, rfl, trivial⟩

/-- … so its first result is the evaluated one of the one-piece reader -/
example : ((Wrapped.mk rE osap0).parse 0).2 = (5, .ok, blkAB) := by
  have := C08_chunking_independent_eof .OSAP osapCfg osap0 osap0_new rE rB rfl truthR_rE
    (TruthR.of_fillR fillR_rB) [.parse 0] [.parse 0] ⟨rfl, trivial⟩
  simp only [Wrapped.runW, Wrapped.stepW, List.cons.injEq, and_true] at this
  rw [this]; exact osapB_call1

/-- io.EOF is reached within 6 calls (payload of 5 bytes), HP, reader with data+EOF -/
example : ∃ o ∈ (Wrapped.runW ⟨rE, hp0⟩ ([0, 1, 0, 1, 0, 1].map WOp.parse)).2, o.1 = 0 ∧ o.2.1 = .eof :=
  C08_eof_reached .HP hpCfg hp0 hp0_new rE truthR_rE [0, 1, 0, 1, 0, 1] (by decide)

/-! ## a reader error that comes together with data is never reported -/

/-- one response: all 5 bytes together with error 7; afterwards the script is exhausted (io.EOF) -/
def rX : Reader := ⟨dat, [(5, 7)]⟩

def hpX1 : Parser := { hp0 with buf := hpBuf dat 0 0 }
def hpX2 : Parser :=
  { hp0 with buf := hpBuf dat 5 0, dict := .single (tb [(4, 3, 24930), (7, 2, 25185)]) }
def hpX3 : Parser := { hp0 with buf := hpBuf [98, 97] 2 3, dict := .single (tb [(4, 0, 24930)]) }

attribute [local simp] hpX1 hpX2 hpX3 rX dat

theorem hp0_readX : hp0.readFrom rX = (hpX1, rDone, 5, .reader 7) := by simp

theorem hpX1_parse : hpX1.parse 0 = (hpX2, 5, .ok, blkAB) := by
  rw [Parser.parse_single hpX1 0 _ rfl (by decide)
    (Parser.marginOK_of_cap _ (Or.inr (by decide)) (by decide))]
  simp only [Parser.runGreedy_eq_F]
  refine Prod.ext ?_ ?_
  · rfl
  · decide

theorem hpX2_shrink : hpX2.shrink.1 = hpX3 := by
  simp [tb, HashT.shiftOffsets]
  decide

theorem hpX3_read : hpX3.readFrom rDone = (hpX3, rDone, 0, .eof) := by simp

/-- Observation (wrap.go: `if k, err := ReadFrom(r); k == 0 { return 0, err }`).  The reader
    returns all its data together with error 7.  `ReadFrom` returns `(5, reader 7)`;
    `WrappedParser.Parse` looks at the error only when `k = 0`, so it parses the 5 bytes and returns
    `(5, nil)`; the next call reads again and gets io.EOF.  The caller never sees error 7.
    (No byte is lost or duplicated — `C08_fault` is about calls that DO return the reader's error —
    but "the reader's error is returned" holds only for errors that come without data, or for
    readers that repeat their error.) -/
theorem hp_error_with_data_dropped :
    (Wrapped.runW ⟨rX, hp0⟩ [.parse 0, .parse 0]).2 = [(5, .ok, blkAB), (0, .eof, ⟨[], []⟩)] := by
  have c1 : (Wrapped.mk rX hp0).parse 0 = (⟨rDone, hpX2⟩, 5, .ok, blkAB) := by
    rw [Wrapped.parse_of_retry ⟨rX, hp0⟩ 0 hpX1 rDone 5 (.reader 7)
      (by decide) hp0_readX (by decide) (by decide)]
    exact Wrapped.parse_of_block ⟨rDone, hpX1⟩ 0 _ hpX1_parse (by decide)
  have c2 : (Wrapped.mk rDone hpX2).parse 0 = (⟨rDone, hpX3⟩, 0, .eof, ⟨[], []⟩) :=
    Wrapped.parse_of_stop ⟨rDone, hpX2⟩ 0 hpX3 rDone .eof
      (by decide) (by rw [hpX2_shrink]; exact hpX3_read)
      (by decide)
  simp only [Wrapped.runW, Wrapped.stepW, c1, c2]

end WrapEx
end LZ

#print axioms LZ.WrapEx.osap_run
#print axioms LZ.WrapEx.hp_run
#print axioms LZ.WrapEx.osap_chunking
#print axioms LZ.WrapEx.osap_chunking_eof
#print axioms LZ.WrapEx.hp_error_with_data_dropped
