/-
  The NIL PATH of the mechanical translation of dhp.go `(*doubleHashParser).Parse`:
  `doubleHashParser_Parse_nilable grow fuel s true blk flags` (LzModel/Generated/CodeDHPParse.lean; the pointer
  parameter `blk` is modelled by a flag plus a value, tools/extract/code_nil.go) is the call `Parse(nil, flags)`.

    gen_dhp_parse_nonnil   `doubleHashParser_Parse … blk …` IS `doubleHashParser_Parse_nilable … false blk …`
    gen_dhp_parseNil_empty the straight-line prefix (`n = 0`), every fuel
    gen_dhp_parseNil       for every Go state with `ParseOKD s`, every `blk` (a ghost), every `flags`, `fuel ≥ len + 2`:
                             `parseNilW (ofDHPs s) (staleOfD s) = none` ⇒ the translated `Parse(nil)` is `Res.panic`
                             `… = some (s', n, e)` ⇒ it is `Res.ok (t, blk, n, parseErr e)` — THE SAME `blk`: nothing is
                             written — with `ofDHPs t = s'`, `staleOfD t = staleOfD s`, `ParseOKD t`, and only `W` and
                             the two tables of the Go state change (`∃ t1 t2, t = withWTD s … t1 t2`)
    gen_dhp_parseNil_model with `CapOK` and `HashDictOK` (as along every history): the list-level `Parser.parseNil`, no panic
-/
import LzProofs.GenDHPParse

set_option linter.unusedSimpArgs false
set_option linter.unusedVariables false

namespace LZ.GenDHPParse
open LZ LZ.Gen LZ.GenBuf LZ.GenHash LZ.GenProps LZ.GenHPParse LZ.GenParse

theorem gen_dhp_parse_nonnil (grow : Nat → Nat → Nat) (fuel : Nat) (s : Gen.doubleHashParser) (blk : Gen.Block')
    (flags : Int) :
    doubleHashParser_Parse grow fuel s blk flags = doubleHashParser_Parse_nilable grow fuel s false blk flags := rfl

/-- the straight-line prefix of the nil path: nothing buffered ⇒ `(0, ErrEmptyBuffer)`, the parser and the ghost block
    unchanged; for every `grow`, `fuel`, `flags` -/
theorem gen_dhp_parseNil_empty (grow : Nat → Nat → Nat) (fuel : Nat) (s : Gen.doubleHashParser) (blk : Gen.Block')
    (flags : Int) (h : Min.min s.DHPConfig.BlockSize
      ((s.doubleHashDictionary.ParserBuffer.Data.len : Int) - s.doubleHashDictionary.ParserBuffer.W) = 0) :
    doubleHashParser_Parse_nilable grow fuel s true blk flags = Res.ok (s, blk, (0 : Int), ErrEmptyBuffer) := by
  unfold doubleHashParser_Parse_nilable
  simp only [if_true, gen_min, gt_iff_lt, ge_iff_le, ite_lt_min, ite_le_min]
  split
  all_goals first
    | rfl
    | (exfalso; int_omega)

theorem gen_dhp_parseNil (grow : Nat → Nat → Nat) (fuel : Nat) (s : Gen.doubleHashParser) (blk : Gen.Block')
    (flags : Int) (h : ParseOKD s) (hfuel : s.doubleHashDictionary.ParserBuffer.Data.len + 2 ≤ fuel) :
    match ProbeW.parseNilW (ofDHPs s) (staleOfD s) with
    | none => doubleHashParser_Parse_nilable grow fuel s true blk flags = Res.panic
    | some (s', n, e) =>
      ∃ t, doubleHashParser_Parse_nilable grow fuel s true blk flags = Res.ok (t, blk, (n : Int), parseErr e) ∧
        ofDHPs t = s' ∧ staleOfD t = staleOfD s ∧ (e = .ok ∨ e = .empty) ∧ ParseOKD t ∧
        ∃ t1 t2, t = withWTD s ((s'.buf.w : Nat) : Int) t1 t2 := by
  have w1 := h.hok1
  have w2 := h.hok2
  have hnG := h.blockN_eq
  have hNle := h.frame.blockN_le
  have hD : SWF s.doubleHashDictionary.ParserBuffer.Data := h.wf.1.data
  have e1 := h.frame.w_cast
  by_cases hn : (ofDHPs s).blockN = 0
  · rw [gen_dhp_parseNil_empty grow fuel s blk flags (h.frame.clamp.trans (by rw [hn]; rfl))]
    rw [ProbeW.parseNilW_empty _ _ hn]
    refine ⟨s, rfl, rfl, rfl, Or.inr rfl, h, s.doubleHashDictionary.h1.table, s.doubleHashDictionary.h2.table, ?_⟩
    rw [e1]
  rw [ProbeW.parseNilW_double_nf (ofDHPs s) (staleOfD s)
    ⟨ofHash s.doubleHashDictionary.h1, ofHash s.doubleHashDictionary.h2⟩ rfl hn]
  generalize hp1 : ProbeW.processSegment2W _ _ _ _ _ _ = r
  have hps := gen_processSegment2_at fuel s.doubleHashDictionary hD w1 w2 h.il12 h.small (by omega) hp1
    ((s.doubleHashDictionary.ParserBuffer.W - s.doubleHashDictionary.h2.inputLen) + 1)
    (s.doubleHashDictionary.ParserBuffer.W + (((ofDHPs s).blockN : Nat) : Int)) rfl rfl
    (by rw [e1]; show _ - ((s.doubleHashDictionary.h2.inputLen.toNat : Nat) : Int) + 1 = _
        rw [Int.toNat_of_nonneg w2.il0])
    (by rw [Int.natCast_add, e1])
  generalize hG : doubleHashParser_Parse_nilable grow fuel s true blk flags = G
  unfold doubleHashParser_Parse_nilable at hG
  simp only [gen_min, Int.min_def, gt_iff_lt, ge_iff_le, Int.not_lt, Int.not_le,
    blockND_lt, blockND_le, blockND_lt', blockND_le', hnG] at hG
  simp only [if_true] at hG
  rw [if_neg (by omega)] at hG
  cases r with
  | none =>
    rw [(hps :)] at hG
    exact hG.symm
  | some hh =>
    obtain ⟨t01, t02, ht01, ht02, rfl, hps⟩ := hps
    rw [hps, bind_ok] at hG
    rw [Option.bind_some]
    dsimp only at hG ⊢
    have hwn : (ofDHPs s).buf.w = s.doubleHashDictionary.ParserBuffer.W.toNat := rfl
    have hwt : s.doubleHashDictionary.ParserBuffer.W + (((ofDHPs s).blockN : Nat) : Int) =
        (((ofDHPs s).buf.w + (ofDHPs s).blockN : Nat) : Int) := by rw [hwn]; omega
    refine ⟨withWTD s (((ofDHPs s).buf.w + (ofDHPs s).blockN : Nat) : Int) t01 t02, hG.symm.trans ?_, ?_, rfl,
      Or.inl rfl, ?_, t01, t02, rfl⟩
    · rw [hwt]; rfl
    · show ofDHPs (withWTD s _ t01 t02) = _
      unfold ofDHPs ofDDict ofPB
      simp only [Int.toNat_natCast]
      rfl
    · exact h.update _ hNle ht01 ht02

/-- Go text → list-level model, nil path: where the buffer is within its capacity and the two `inputLen` within the
    model's bounds (`ProbeW.parseNilW_eq`; both hold along every history) no panic, the result of `Parser.parseNil`. -/
theorem gen_dhp_parseNil_model (grow : Nat → Nat → Nat) (fuel : Nat) (s : Gen.doubleHashParser) (blk : Gen.Block')
    (flags : Int) (h : ParseOKD s) (hfuel : s.doubleHashDictionary.ParserBuffer.Data.len + 2 ≤ fuel)
    (hcap : (ofDHPs s).buf.CapOK) (hd : ProbeW.HashDictOK (ofDHPs s).dict) :
    ∃ t, doubleHashParser_Parse_nilable grow fuel s true blk flags =
        Res.ok (t, blk, (((ofDHPs s).parseNil).2.1 : Int), parseErr ((ofDHPs s).parseNil).2.2) ∧
      ofDHPs t = ((ofDHPs s).parseNil).1 ∧ staleOfD t = staleOfD s ∧ ParseOKD t ∧
      ∃ t1 t2, t = withWTD s ((((ofDHPs s).parseNil).1.buf.w : Nat) : Int) t1 t2 := by
  have hW := ProbeW.parseNilW_eq (ofDHPs s) (staleOfD s) h.backing hcap hd
  have hm := gen_dhp_parseNil grow fuel s blk flags h hfuel
  rw [hW] at hm
  obtain ⟨t, h1, h2, h3, _, h5, h6⟩ := hm
  exact ⟨t, h1, h2, h3, h5, h6⟩

end LZ.GenDHPParse

#print axioms LZ.GenDHPParse.gen_dhp_parse_nonnil
#print axioms LZ.GenDHPParse.gen_dhp_parseNil_empty
#print axioms LZ.GenDHPParse.gen_dhp_parseNil
#print axioms LZ.GenDHPParse.gen_dhp_parseNil_model
