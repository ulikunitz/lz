/-
  `ParseOKO B` (GenOSAPParseLemmas) as an invariant of the translated operations of the optimizing suffix-array parser
  OSAP, operation by operation: each translated operation equals the model's (`Parser.write`, `readFrom`, `shrink`,
  `reset`, `parse`) and keeps `HistOKO`.  The history-level statements are in LzProofs/GenOSAPHistRun.lean.

  Subject: the functions `tools/extract` regenerates from the Go text
      osap.go             (*optSuffixArrayParser).init / Parse / Reset / Shrink / resetEdges / shortestPath
                          Gen.optSuffixArrayParser_init / _Parse / _Reset / _Shrink  (CodeOSAPInit, CodeOSAPParse, CodeOSAPPath)
      parser_buffer.go    ParserBuffer.Write / ReadFrom      Gen.ParserBuffer_Write (CodePBuf), Gen.ParserBuffer_ReadFrom
  `Write` and `ReadFrom` of a `*optSuffixArrayParser` are the promoted methods of the embedded `ParserBuffer` (osap.go
  declares `init`, `Parse`, `Reset`, `Shrink`, `resetEdges`, `computeEdges`, `shortestPath`): `osap_Write`, `osap_ReadFrom`
  below are the translated function on the embedded field followed by a record update (three lines each, no logic).
  `ReadFrom` is run against the scripted reader (`GenBuf.mRead`, `GenHPHist.rfGo`).  `Parse(nil)` is excluded by the topic
  assumption `blk != nil`.

  Opaque callee of the translated `Parse` and its specification hypothesis: `CESpec B ce` (GenOSAPParseLemmas) —
  `computeEdges` = `Idx.computeEdgesChk`, at most `B` edges per position; discharged for the translated `computeEdges` in
  LzProofs/GenOSAPHistGo.lean (notes/osap-history.md).

  Invariant `HistOKO bc B t` on the generated state `t : Gen.optSuffixArrayParser`: `ParseOKO B t`, the buffer
  configuration is `bc`, `len(Data) ≤ BufferSize`, the capacity invariant `CapOK` (only `ReadFrom` needs it).
  `BCOKO bc`: `BufferSize ≤ MaxInt32` (`OSAPConfig.Verify`), `WindowSize ≤ 2^32 - 8` (`BufConfig.Verify`).
  The model state is `ofOSAPs t` (no ghost component on the Go side: the edge table abstracts directly); the
  per-operation lemmas `hist_*` are `WriteRel` / … / `ParseRel` (LzProofs/GenHistBuf.lean) of the relation
  `FRel (HistOKO bc B) ofOSAPs`.  `hist_parse`
  is about states whose model state is reachable (`gen_osap_parse_model`), and the block returned abstracts (`ofBlock`)
  to the model's.
-/
import LzProofs.GenOSAPAll
import LzProofs.GenHPHistRF2

set_option linter.unusedSimpArgs false
set_option linter.unusedVariables false

namespace LZ.GenOSAPHist
open LZ LZ.Gen LZ.GenBuf LZ.GenHash LZ.GenSuffix LZ.GenHPParse LZ.GenProps LZ.GenOSAP
open LZ.GenHPHist (RFun RFSpec)
open LZ.GenHist (FRel WriteRel ReadFromRel ShrinkRel ResetRel ParseRel BufHost)

/-! ## the promoted methods -/

/-- `s.Write(p)` for `s *optSuffixArrayParser`: `ParserBuffer.Write` on the embedded buffer -/
def osap_Write (grow : Nat → Nat → Nat) (s : Gen.optSuffixArrayParser) (p : Slice) :
    Res (Gen.optSuffixArrayParser × Int × Gen.Err) :=
  Res.bind (ParserBuffer_Write grow s.ParserBuffer p) fun r =>
  Res.ok ({ s with ParserBuffer := r.1 }, r.2.1, r.2.2)

/-- `s.ReadFrom(r)` for `s *optSuffixArrayParser`: `ParserBuffer.ReadFrom` on the embedded buffer (`RF` = a rendering of
    it against the scripted reader; `GenHPHist.rfGo extra` is the translated function) -/
def osap_ReadFrom (RF : RFun) (s : Gen.optSuffixArrayParser) (r : Reader) :
    Res (Gen.optSuffixArrayParser × Reader × Int × Gen.Err) :=
  Res.bind (RF s.ParserBuffer r) fun x =>
  Res.ok ({ s with ParserBuffer := x.1 }, x.2.1, x.2.2.1, x.2.2.2)

/-! ## the invariant -/

/-- what `OSAPConfig.Verify` enforces and the proofs below use -/
structure BCOKO (bc : BufCfg) : Prop where
  bmax : bc.bufferSize ≤ 2147483647
  wmax : bc.windowSize ≤ 4294967288

/-- the invariant of a history of translated operations on a Go `optSuffixArrayParser` -/
structure HistOKO (bc : BufCfg) (B : Nat) (t : Gen.optSuffixArrayParser) : Prop where
  pok : ParseOKO B t
  cfg : ofCfg t.ParserBuffer.BufConfig = bc
  len : t.ParserBuffer.Data.len ≤ bc.bufferSize
  cap : (ofPB t.ParserBuffer).CapOK

theorem HistOKO.parseOK {bc : BufCfg} {B : Nat} {t : Gen.optSuffixArrayParser} (h : HistOKO bc B t) : ParseOKO B t :=
  h.pok

theorem HistOKO.dataLen {bc : BufCfg} {B : Nat} {t : Gen.optSuffixArrayParser} (h : HistOKO bc B t) :
    (ofPB t.ParserBuffer).data.length = t.ParserBuffer.Data.len := data_length h.pok.pb.data

theorem HistOKO.buf {bc : BufCfg} {B : Nat} {t : Gen.optSuffixArrayParser} (h : HistOKO bc B t) :
    GenHist.BufOK bc (ofPB t.ParserBuffer) :=
  GenHist.BufOK.ofGo h.pok.pb h.cfg h.pok.w h.len h.cap

theorem histOK_update {bc : BufCfg} {B : Nat} (hbc : BCOKO bc) {t : Gen.optSuffixArrayParser} (h : HistOKO bc B t)
    (t' : Gen.optSuffixArrayParser)
    (hcf : t'.OSAPConfig = t.OSAPConfig) (hcost : t'.cost = t.cost) (hpb : PBWF t'.ParserBuffer)
    (hb : GenHist.BufOK bc (ofPB t'.ParserBuffer))
    (hedges : GWF t'.edges) (hq : ∀ q ∈ t'.edges.data, GWF q ∧ q.len ≤ B) (htmp : GWF t'.tmp)
    (hst0 : 0 ≤ t'.start) (hne0 : 0 ≤ t'.nEdges) (hstw : t'.start ≤ t'.ParserBuffer.W) :
    HistOKO bc B t' := by
  have hdl : (ofPB t'.ParserBuffer).data.length = t'.ParserBuffer.Data.len := data_length hpb.data
  have hw := hb.w
  have hlen := hb.len
  rw [hdl] at hw hlen
  have hc : ofCfg t'.ParserBuffer.BufConfig = ofCfg t.ParserBuffer.BufConfig := hb.cfg.trans h.cfg.symm
  have hws : t'.ParserBuffer.BufConfig.WindowSize.toNat = t.ParserBuffer.BufConfig.WindowSize.toNat :=
    congrArg BufCfg.windowSize hc
  have hbs : t'.ParserBuffer.BufConfig.BlockSize.toNat = t.ParserBuffer.BufConfig.BlockSize.toNat :=
    congrArg BufCfg.blockSize hc
  have hW0 := hpb.w
  have hw' : t'.ParserBuffer.W.toNat ≤ t'.ParserBuffer.Data.len := hw
  have := hbc.bmax
  refine ⟨⟨hpb, hedges, hq, htmp, ?_, hst0, hne0, hstw, ?_, ?_, ?_, ?_, ?_, ?_, ?_, ?_, ?_⟩, hb.cfg, hlen, hb.cap⟩
  · rw [hcost]; exact h.pok.cost
  · rw [hcf, hbs]; exact h.pok.cbs
  · rw [hcf]; exact h.pok.bs0
  · rw [hcf]; exact h.pok.mm0
  · rw [hcf]; exact h.pok.mm32
  · omega
  · omega
  · rw [hcf, hws]; exact h.pok.cws
  · rw [hcf]; exact h.pok.ws0
  · rw [hcf]; exact h.pok.mmx

/-- `HistOKO` after an operation that kept the edge table and did not move `W` back: the buffer alone was replaced
    (`Write`, `ReadFrom`), or nothing of the abstraction changed (`Shrink` by 0, a rejected `Reset`) -/
theorem histOK_kept {bc : BufCfg} {B : Nat} (hbc : BCOKO bc) {t : Gen.optSuffixArrayParser} (h : HistOKO bc B t)
    (s' : Gen.optSuffixArrayParser) (hcf : s'.OSAPConfig = t.OSAPConfig) (hcost : s'.cost = t.cost)
    (hpb : PBWF s'.ParserBuffer) (hb : GenHist.BufOK bc (ofPB s'.ParserBuffer)) (hk : EdgesKept t s')
    (hW : (ofPB s'.ParserBuffer).w = (ofPB t.ParserBuffer).w) : HistOKO bc B s' := by
  refine histOK_update hbc h s' hcf hcost hpb hb (by rw [hk.edges]; exact h.pok.wedges)
    (by rw [hk.edges]; exact h.pok.wq) (by rw [hk.tmp]; exact h.pok.wtmp) (by rw [hk.start]; exact h.pok.st0)
    (by rw [hk.nEdges]; exact h.pok.ne0) ?_
  rw [hk.start]
  have h1 := h.pok.stw
  have h2 := h.pok.pb.w
  have h3 := hpb.w
  have h4 : s'.ParserBuffer.W.toNat = t.ParserBuffer.W.toNat := hW
  omega

/-! ## Write, ReadFrom -/

/-- the edge table does not depend on the buffer behind `W` -/
def bufHost {bc : BufCfg} {B : Nat} (hbc : BCOKO bc) : BufHost bc (FRel (HistOKO bc B) ofOSAPs) where
  pb t := t.ParserBuffer
  setPB t b := { t with ParserBuffer := b }
  get := fun ⟨h, e⟩ => ⟨h.pok.pb, h.buf, e ▸ rfl⟩
  put := fun b' ⟨h, e⟩ hwf hb hW _ => ⟨histOK_kept hbc h _ rfl rfl hwf hb ⟨rfl, rfl, rfl, rfl, rfl⟩ hW, e ▸ rfl⟩

theorem hist_write {bc : BufCfg} {B : Nat} (hbc : BCOKO bc) (grow : Nat → Nat → Nat) :
    WriteRel (FRel (HistOKO bc B) ofOSAPs) (osap_Write grow) :=
  (bufHost hbc).write grow fun _ _ => rfl

theorem hist_readFrom {bc : BufCfg} {B : Nat} (hbc : BCOKO bc) (RF : RFun) (hRF : RFSpec RF) :
    ReadFromRel (FRel (HistOKO bc B) ofOSAPs) (osap_ReadFrom RF) :=
  (bufHost hbc).readFrom RF hRF fun _ _ => rfl

/-! ## Shrink, Reset -/

theorem edgesReset_facts {s s' : Gen.optSuffixArrayParser} (B : Nat) (h : EdgesReset s s') :
    GWF s'.edges ∧ (∀ q ∈ s'.edges.data, GWF q ∧ q.len ≤ B) ∧ GWF s'.tmp ∧ 0 ≤ s'.start ∧ 0 ≤ s'.nEdges ∧
      ofOD s' = OsapD.empty := by
  refine ⟨h.wedges, ?_, h.wtmp, by rw [h.start]; exact Int.le_refl _, by rw [h.nEdges]; exact Int.le_refl _, h.od⟩
  intro q hq
  have : s'.edges.data = [] := by unfold GSlice.data; rw [h.ledges]; rfl
  rw [this] at hq; cases hq

theorem hist_shrink {bc : BufCfg} {B : Nat} (hbc : BCOKO bc) :
    ShrinkRel (FRel (HistOKO bc B) ofOSAPs) optSuffixArrayParser_Shrink := by
  rintro t _ ⟨h, rfl⟩
  have hW := h.pok.w
  have hss := h.pok.pb.ss
  obtain ⟨s', hs, hof, hwf, hcf, hcost, hpos, hzero⟩ := gen_osap_shrink t h.pok.pb (by omega)
  obtain ⟨a, b⟩ := Parser.shrink_lift (P := ofOSAPs t) (P' := ofOSAPs s') rfl (congrArg ofOSAP hcf) hof
    (fun hd => congrArg Dict.osap (hpos (Nat.pos_of_ne_zero hd)).od) (fun hd => congrArg Dict.osap (hzero hd).od)
  refine ⟨s', by rw [b]; exact hs, ?_, a⟩
  by_cases hd : (PBuf.shrink (ofPB t.ParserBuffer)).2 = 0
  · have hb : ofPB s'.ParserBuffer = ofPB t.ParserBuffer := by rw [hof]; exact PBuf.shrink_zero _ hd
    exact histOK_kept hbc h s' hcf hcost hwf (by rw [hb]; exact h.buf) (hzero hd) (by rw [hb])
  · have hk := hpos (by omega)
    obtain ⟨e1, e2, e3, e4, e5, -⟩ := edgesReset_facts B hk
    exact histOK_update hbc h s' hcf hcost hwf (by rw [hof]; exact h.buf.shrink) e1 e2 e3 e4 e5
      (by rw [hk.start]; exact hwf.w)

/-! ## Reset -/

theorem hist_reset {bc : BufCfg} {B : Nat} (hbc : BCOKO bc) :
    ResetRel (FRel (HistOKO bc B) ofOSAPs) optSuffixArrayParser_Reset := by
  rintro t _ data ⟨h, rfl⟩ hdat
  obtain ⟨s', e, hs, hof, herr, hwf, hcf, hcost, hok, hbad⟩ := gen_osap_reset t h.pok.pb data hdat
  have hiff := errOfReset_ok herr
  obtain ⟨a, b⟩ := Parser.reset_lift (P := ofOSAPs t) (P' := ofOSAPs s') hiff rfl (congrArg ofOSAP hcf) hof
    (fun he => congrArg Dict.osap (hok he).od) (fun he => congrArg Dict.osap (hbad he).od)
  refine ⟨s', e, hs, ⟨?_, a⟩, b ▸ herr⟩
  by_cases b0 : e = Gen.Err.ok
  · have hk := hok b0
    obtain ⟨e1, e2, e3, e4, e5, -⟩ := edgesReset_facts B hk
    exact histOK_update hbc h s' hcf hcost hwf (by rw [hof]; exact h.buf.reset _ _ (hiff.mp b0)) e1 e2 e3 e4 e5
      (by rw [hk.start]; exact hwf.w)
  · -- error: nothing changes
    have hb : ofPB s'.ParserBuffer = ofPB t.ParserBuffer :=
      congrArg Parser.buf (a.trans (congrArg Prod.fst (Parser.reset_err fun c => b0 (hiff.mpr c))))
    exact histOK_kept hbc h s' hcf hcost hwf (by rw [hb]; exact h.buf) (hbad b0) (by rw [hb])

/-! ## Parse -/

/-- the facts about one model `parse` of an OSAP state satisfying the history invariant `Inv` of the parser topic
    (every reachable state: `history_inv_all`): only `W` moves, the error is `ok` or `empty`, and the sequences of the
    block fit `uint32`.  (The analogue of `GenHPHist.mparse_hist`, which excludes the `.osap` dictionary.) -/
theorem mparse_frame_osap {c : Cfg} {bc : BufCfg} (hS : Static .OSAP c bc) (s : Parser) (g : Ghost)
    (h : Inv .OSAP c bc (s, g)) (o : OsapD) (hd : s.dict = .osap o) (flags : Nat) (Bd : Nat)
    (hB : s.buf.data.length ≤ Bd) (hws : s.buf.cfg.windowSize ≤ Bd) :
    (s.parse flags).1.buf = { s.buf with w := s.buf.w + (s.parse flags).2.1 } ∧
    (s.parse flags).1.cfg = s.cfg ∧
    ((s.parse flags).2.2.1 = .ok ∨ (s.parse flags).2.2.1 = .empty) ∧
    ∀ q ∈ (s.parse flags).2.2.2.seqs, q.litLen ≤ Bd ∧ q.matchLen ≤ Bd ∧ q.offset ≤ Bd ∧ q.aux = 0 := by
  by_cases hn : s.blockN = 0
  · rw [Parser.parse_empty s flags hn]
    refine ⟨rfl, rfl, Or.inr rfl, ?_⟩
    intro q hq; cases hq
  · have hk := h.kind
    have hc := h.cfg
    have hbc := h.bcfg
    simp only at hk hc hbc
    have hmm : 1 ≤ s.minMatch := by rw [minMatch_eq, hk, hc]; exact hS.mm
    obtain ⟨hkO, hO⟩ := h.dict.osap hd
    have hCE : ∀ data w w' n, w ≤ w' → w' + n ≤ data.length →
        EdgesSoundBlock (data.take (w' + n)) w' s.buf.cfg.windowSize s.cfg.maxMatchLen.toNat n
          (computeEdges data w s.buf.cfg.windowSize s.minMatch s.cfg.maxMatchLen.toNat).edges
          (w' - w) := by
      rw [minMatch_eq, hk, hc, hbc]; exact hS.edges rfl
    obtain ⟨hE', hO'⟩ := OsapOK.next s o h.hw hCE hO
    obtain ⟨s', n, blk, hp, hok, hd'⟩ := Parser.parse_osap_ok_block s flags o hd h.hw hn hmm hE'
    rw [hp]
    exact ⟨hok.buf, hok.cfg, Or.inl rfl, hok.seqs_fit h.hw (fun _ _ h => h.1.1) hB hws⟩

/-- the history hypothesis of the parser topic for OSAP: `computeEdges` is sound (as `histHyp_holds` of
    LzProofs/GlueProps.lean, which is not imported here) -/
theorem histHyp_osap (s0 : Parser) : HistHyp .OSAP s0 := by
  intro _ data w w' n hw hn
  exact Sap.computeEdges_sound_holds data w _ _ _ hw hn

theorem static_osap (raw : Cfg) (p0 : Parser) (h0 : newParser .OSAP raw = some p0) :
    Static .OSAP p0.cfg p0.buf.cfg := by
  obtain ⟨-, hmm, hbs⟩ := newParser_inv .OSAP raw p0 h0
  exact ⟨hmm, hbs, histHyp_osap p0⟩

/-- `Parse` on a Go state with `HistOKO` whose model state is reachable from `NewParser`: `gen_osap_parse_model`
    applies; all its hypotheses follow from `HistOKO` and `CESpec B ce`. -/
theorem hist_parse {bc : BufCfg} {B : Nat} (hbc : BCOKO bc) (grow : Nat → Nat → Nat) (fuel : Nat)
    (ce : Gen.optSuffixArrayParser → Res Gen.optSuffixArrayParser) (hCE : CESpec B ce)
    (hfuel : bc.bufferSize + B + 5 ≤ fuel) (raw : Cfg) (p0 : Parser) (h0 : newParser .OSAP raw = some p0) :
    ParseRel (FRel (HistOKO bc B) ofOSAPs) (fun m => ∃ mops, m = (runOps (p0, Ghost.init) mops).1)
      (optSuffixArrayParser_Parse grow fuel ce) := by
  rintro t _ blk flags ⟨h, rfl⟩ ⟨mops, hreach⟩ hfl
  have hfuel : t.ParserBuffer.Data.len + B + 5 ≤ fuel := by have := h.len; omega
  have hbm := hbc.bmax
  have hwm := hbc.wmax
  have hcfgE : (ofPB t.ParserBuffer).cfg = bc := h.cfg
  have hinv : Inv .OSAP p0.cfg p0.buf.cfg (ofOSAPs t, (runOps (p0, Ghost.init) mops).2) := by
    have := history_inv .OSAP raw p0 h0 (histHyp_osap p0) mops
    rw [hreach]; exact this
  obtain ⟨f1, f2, herr, f4⟩ := mparse_frame_osap (static_osap raw p0 h0) (ofOSAPs t) _ hinv (ofOD t) rfl flags.toNat
    4294967288
    (by have := h.buf.len; show (ofPB t.ParserBuffer).data.length ≤ _; omega)
    (by show (ofPB t.ParserBuffer).cfg.windowSize ≤ _; rw [hcfgE]; exact hwm)
  obtain ⟨t', blk', h1, h2, h5, h6, h7, h8⟩ :=
    gen_osap_parse_model B grow fuel ce hCE t blk flags h.pok hfl hfuel raw p0 h0 mops hreach
  generalize (ofOSAPs t).parse flags.toNat = R at h1 h2 h5 h6 f1 f2 f4 herr ⊢
  have hbuf : ofPB t'.ParserBuffer = { ofPB t.ParserBuffer with w := (ofPB t.ParserBuffer).w + R.2.1 } := by
    have := congrArg Parser.buf h2
    rw [f1] at this
    exact this.symm
  refine ⟨t', blk', h1, ⟨?_, h2.symm⟩, ?_, h7, herr⟩
  · have hc : (ofPB t'.ParserBuffer).cfg = bc := by rw [hbuf]; exact h.cfg
    have hl : (ofPB t'.ParserBuffer).data.length ≤ bc.bufferSize := by rw [hbuf]; exact h.buf.len
    exact ⟨h8, hc, by rw [← data_length h8.pb.data]; exact hl, by rw [hbuf]; exact h.cap⟩
  · exact GenHist.ofBlock_rep h5 h6 f4

/-! ## init -/

/-- `init(cfg)` on `new(optSuffixArrayParser)`: if it returns `nil` (and the stored `MinMatchLen` is below `2^32`, which
    `Verify` does not check: notes/osap-translate.md §6 (a)), the configuration is one the model's `NewParser` accepts,
    the Go state abstracts to the model's fresh parser, and `HistOKO` holds for its buffer configuration, for every
    bound `B`. -/
theorem hist_init (B : Nat) (cfg : Gen.OSAPConfig) (s0 : Gen.optSuffixArrayParser)
    (hinit : optSuffixArrayParser_init default cfg = Res.ok (s0, Gen.Err.ok))
    (h32 : s0.OSAPConfig.MinMatchLen < 4294967296) :
    ∃ p, newParser .OSAP (ofOSAP cfg) = some p ∧ ofOSAPs s0 = p ∧ BCOKO p.buf.cfg ∧ HistOKO p.buf.cfg B s0 := by
  have hv : OSAPConfig_Verify (OSAPConfig_SetDefaults cfg) = Gen.Err.ok := by
    by_cases hv : OSAPConfig_Verify (OSAPConfig_SetDefaults cfg) = Gen.Err.ok
    · exact hv
    · have := (gen_osap_init default cfg).1 hv
      rw [hinit] at this
      injection this with this
      injection this with _ this
      exact this.symm
  -- the model's fresh parser
  cases hnp : newParser .OSAP (ofOSAP cfg) with
  | none =>
    have := gen_osap_init_model default (ofOSAP cfg)
    rw [hnp, toOSAP_ofOSAP] at this
    obtain ⟨e, h1, h2⟩ := this
    rw [hinit] at h1
    injection h1 with h1
    injection h1 with _ h1
    exact absurd h1.symm h2
  | some p =>
    obtain ⟨s', h1, h2, -⟩ := gen_osap_init_fresh (ofOSAP cfg) p hnp
    rw [toOSAP_ofOSAP, hinit] at h1
    injection h1 with h1
    injection h1 with h1 _
    subst h1
    have hof : ofOSAPs s0 = p := h2
    -- the invariant
    obtain ⟨s'', k1, kc, -⟩ := gen_osap_init_inv default cfg hv
    rw [hinit] at k1
    injection k1 with k1
    injection k1 with k1 _
    subst k1
    obtain ⟨s'', k1, kP⟩ := gen_osap_init_parseOK B default cfg hv (by rw [← kc]; exact h32)
    rw [hinit] at k1
    injection k1 with k1
    injection k1 with k1 _
    subst k1
    have hbuf : ofPB s0.ParserBuffer = p.buf := congrArg Parser.buf hof
    have hpini : p.buf = PBuf.init (setDefaults .OSAP ((ofOSAP cfg).restrict .OSAP)).bufCfg := by
      rw [(newParser_eq_some hnp).2]
    have hd : (ofPB s0.ParserBuffer).data = [] := by rw [hbuf, hpini]; rfl
    have hlen : s0.ParserBuffer.Data.len = 0 := by
      have := data_length kP.pb.data
      have hd' : s0.ParserBuffer.Data.data = [] := hd
      rw [hd'] at this; exact this.symm
    obtain ⟨hvb, -, -, -, hbmax⟩ := osap_verify_parts _ hv
    have hbv := (bufVerify_iff _).mp ((gen_bufVerify _).mp hvb)
    simp only [ofBuf] at hbv
    have hcfg : (ofPB s0.ParserBuffer).cfg = p.buf.cfg := by rw [hbuf]
    -- the buffer configuration the Go state stores, in terms of the defaults-completed OSAPConfig
    obtain ⟨hi, hvb2⟩ := osap_init_bc cfg hv
    obtain ⟨s3, j1, jof, -⟩ := ((gen_osap_init default cfg).2 hv).2 hvb2
    rw [hinit] at j1
    injection j1 with j1
    injection j1 with j1 _
    subst j1
    rw [hi] at jof
    have hbcE : (ofPB s0.ParserBuffer).cfg = ofCfg ⟨(OSAPConfig_SetDefaults cfg).ShrinkSize,
        (OSAPConfig_SetDefaults cfg).BufferSize, (OSAPConfig_SetDefaults cfg).WindowSize,
        (OSAPConfig_SetDefaults cfg).BlockSize⟩ := by rw [jof]; rfl
    refine ⟨p, rfl, hof, ?_, ?_⟩
    · rw [← hcfg, hbcE]
      refine ⟨?_, ?_⟩
      · show (OSAPConfig_SetDefaults cfg).BufferSize.toNat ≤ _
        omega
      · show (OSAPConfig_SetDefaults cfg).WindowSize.toNat ≤ _
        have := hbv.2.2.1.2
        omega
    · refine ⟨kP, hcfg, by rw [hlen]; exact Nat.zero_le _, Or.inl hd⟩

end LZ.GenOSAPHist

#print axioms LZ.GenOSAPHist.hist_write
#print axioms LZ.GenOSAPHist.hist_readFrom
#print axioms LZ.GenOSAPHist.hist_shrink
#print axioms LZ.GenOSAPHist.hist_reset
#print axioms LZ.GenOSAPHist.mparse_frame_osap
#print axioms LZ.GenOSAPHist.hist_parse
#print axioms LZ.GenOSAPHist.hist_init
