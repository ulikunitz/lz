/-
  hash.go: hashConfig, dhConfig.  The hand-written model equals the code that `tools/extract -code` regenerates from the Go source
  (LzModel/Generated/Code<Topic>.lean, one file per topic).  Every theorem quantifies over all inputs; Go `int`/`int64`
  are unbounded `Int` on both sides (overflow is out of scope), `uint32`/`uint64` wrap around.  The proofs do not
  depend on the shape of the generated term (see GenPropsBase).
-/
import LzModel.Generated.CodeCfgHash
import LzProofs.GenPropsBase

set_option linter.unusedSimpArgs false

namespace LZ.GenProps
open LZ

/-- `(*hashConfig).SetDefaults` -/
theorem gen_hashDefaults (c : Gen.hashConfig) :
    ((Gen.hashConfig_SetDefaults c).InputLen, (Gen.hashConfig_SetDefaults c).HashBits)
      = hashDefaults c.InputLen c.HashBits := by
  dsimp only [Gen.hashConfig_SetDefaults, gen_helper, hashDefaults, Facts.defInputLen, Facts.defHashBits]
  simp only [Prod.mk.injEq, apply_ite Gen.hashConfig.InputLen, apply_ite Gen.hashConfig.HashBits, ite_self,
    true_and, and_true] <;> omega

theorem gen_hashDefaults' (h : Gen.hashConfig) : Gen.hashConfig_SetDefaults h =
    ⟨(hashDefaults h.InputLen h.HashBits).1, (hashDefaults h.InputLen h.HashBits).2⟩ := by
  rw [← gen_hashDefaults]

/-- `(*hashConfig).Verify` -/
theorem gen_hashVerify (c : Gen.hashConfig) :
    Gen.hashConfig_Verify c = .ok ↔ hashVerify c.InputLen c.HashBits Facts.maxHashBits = true := by
  rw [hashVerify_iff]
  dsimp only [Gen.hashConfig_Verify, gen_helper, Facts.maxHashBits]
  gen_ifs

theorem gen_hashVerify_error1 (c : Gen.hashConfig) :
    Gen.hashConfig_Verify c = .error 1 ↔ ¬(2 ≤ c.InputLen ∧ c.InputLen ≤ 8) := by
  dsimp only [Gen.hashConfig_Verify, gen_helper]
  gen_ifs

theorem gen_hashVerify_error2 (c : Gen.hashConfig) :
    Gen.hashConfig_Verify c = .error 2 ↔
      (2 ≤ c.InputLen ∧ c.InputLen ≤ 8) ∧ ¬(0 ≤ c.HashBits ∧ c.HashBits ≤ min (8 * c.InputLen) 24) := by
  dsimp only [Gen.hashConfig_Verify, gen_helper]
  gen_ifs

def ofDh (d : Gen.dhConfig) : Cfg :=
  { inputLen1 := d.H1.InputLen, hashBits1 := d.H1.HashBits,
    inputLen2 := d.H2.InputLen, hashBits2 := d.H2.HashBits }

/-- `(*dhConfig).SetDefaults`: the double-hash part of `setDefaults .DHP` -/
theorem gen_dhDefaults (d : Gen.dhConfig) : Gen.dhConfig_SetDefaults d =
    ⟨⟨(setDefaults .DHP (ofDh d)).inputLen1, (setDefaults .DHP (ofDh d)).hashBits1⟩,
     ⟨(setDefaults .DHP (ofDh d)).inputLen2, (setDefaults .DHP (ofDh d)).hashBits2⟩⟩ := by
  obtain ⟨⟨il1, hb1⟩, ⟨il2, hb2⟩⟩ := d
  dsimp only [Gen.dhConfig_SetDefaults, gen_helper, ofDh, setDefaults, bufDefaults, hashDefaults,
    Facts.dhSmallInputLen, Facts.defInputLen2Small, Facts.defInputLen2Large, Facts.defInputLen, Facts.defHashBits]
  simp only [gen_hashDefaults', hashDefaults, Facts.defInputLen, Facts.defHashBits, Gen.dhConfig.mk.injEq,
    Gen.hashConfig.mk.injEq, apply_ite Gen.dhConfig.H1, apply_ite Gen.dhConfig.H2,
    apply_ite Gen.hashConfig.InputLen, apply_ite Gen.hashConfig.HashBits, ite_self, true_and, and_true] <;> omega

/-- `(*dhConfig).Verify`: the double-hash part of `verify .DHP` -/
theorem gen_dhVerify (d : Gen.dhConfig) :
    Gen.dhConfig_Verify d = .ok ↔
      hashVerify d.H1.InputLen d.H1.HashBits Facts.maxHashBits = true ∧
      hashVerify d.H2.InputLen d.H2.HashBits Facts.maxHashBits = true ∧ d.H1.InputLen < d.H2.InputLen := by
  rw [← gen_hashVerify, ← gen_hashVerify]
  dsimp only [Gen.dhConfig_Verify, gen_helper]
  -- propositional in the two results and linear in the fields, whatever the shape of the generated function
  generalize Gen.hashConfig_Verify d.H1 = e1
  generalize Gen.hashConfig_Verify d.H2 = e2
  cases e1 <;> cases e2 <;> gen_ifs

end LZ.GenProps
