/-
  LzProofs.GenBDHPParse — the mechanical translation of bdhp.go `(*bdhp).Parse`
  (LzModel/Generated/CodeBDHPParse.lean, topic BDHPParse of tools/extract/code_parse.go; `lcs` is an opaque
  parameter of the translation; `doubleHashDictionary.processSegment` is the function of topic DHPParse) versus the
  word-level model `LZ.ProbeW.parseW` for kind `.BDHP` (`processSegment2W`, `dhpProbeW … true`), under the
  specification `LcsSpec lcs` (GenBHPParseLemmas: `lcs p q` = the length of the longest common suffix of the elements;
  what `LZ.BytesW.lcsW?_eq` (BytesProps.lean) proves of the word-level `lcs`), and through `ProbeW.parseW_reachable`
  the LIST-LEVEL model `Parser.parse`.  No sorry, no axioms of its own.

    gen_bdhp_parse        `ParseOKBD s`, `flags ≥ 0`, `fuel ≥ 2·len(s.Data) + 3`, `LcsSpec lcs`:
                          `parseW (ofBDHPs s) (staleOfBD s) flags = none` ⇒ `Res.panic`; `= some (s', n, e, b)` ⇒
                          `Res.ok (t, blk', n, parseErr e)` with `ofBDHPs t = s'`, same stale bytes, sequences,
                          literals, and `ParseOKBD t`.
    gen_bdhp_parse_model  on reachable states: no panic, the result of the list-level `Parser.parse`.

  bdhp.go has TWO greedy loops like dhp.go (`i < e2`: both tables are probed; `e2 ≤ i < e1`: h1 only, re-indexing
  from the MATCH position `j`); after a match of the first loop only the table of h1 is re-indexed (loop_3, loop_4 —
  the model's `dhpProbeW … true` leaves `t2`), from the backward-extended position `i - m + 1`.
  `bdhp.init` establishes `ParseOKBD`: `gen_bdhp_init_parseOK` (GenDHPInit).
  `ParseOKBD.frame`, `.backing`, `.update`, `.hok1`, `.hok2` are the names of GenHPParse (see its header).
-/
import LzProofs.GenBDHPParseLoop
import LzProofs.GenHPParse

set_option linter.unusedSimpArgs false
set_option linter.unusedVariables false

namespace LZ.GenBDHPParse
open LZ LZ.Gen LZ.GenBuf LZ.GenHash LZ.GenProps LZ.GenHPParse LZ.GenParse LZ.GenDHPParse LZ.GenBHPParse

/-- the model parser state a Go `bdhp` stands for -/
def ofBDHPs (s : Gen.bdhp) : Parser := ofDDict .BDHP (ofBDHP s.BDHPConfig) s.doubleHashDictionary

/-- the bytes between `len(s.Data)` and `cap(s.Data)`: the `stale` argument of `ProbeW.parseW` -/
def staleOfBD (s : Gen.bdhp) : List UInt8 :=
  s.doubleHashDictionary.ParserBuffer.Data.arr.drop s.doubleHashDictionary.ParserBuffer.Data.len

/-! ## the whole `Parse` -/

/-- the hypotheses of `gen_bdhp_parse` on the Go state (see the header) -/
structure ParseOKBD (s : Gen.bdhp) : Prop where
  wf : DDictWF s.doubleHashDictionary
  cws : s.BDHPConfig.WindowSize.toNat = s.doubleHashDictionary.ParserBuffer.BufConfig.WindowSize.toNat
  cbs : s.BDHPConfig.BlockSize.toNat = s.doubleHashDictionary.ParserBuffer.BufConfig.BlockSize.toNat
  cil : s.BDHPConfig.InputLen1.toNat = s.doubleHashDictionary.h1.inputLen.toNat
  bs0 : 0 ≤ s.BDHPConfig.BlockSize
  w : s.doubleHashDictionary.ParserBuffer.W ≤ s.doubleHashDictionary.ParserBuffer.Data.len
  il1 : 1 ≤ s.doubleHashDictionary.h1.inputLen
  il12 : s.doubleHashDictionary.h1.inputLen ≤ s.doubleHashDictionary.h2.inputLen
  sh1 : 32 ≤ s.doubleHashDictionary.h1.shift.toNat
  sh2 : 32 ≤ s.doubleHashDictionary.h2.shift.toNat
  small : s.doubleHashDictionary.ParserBuffer.Data.len < 4294967296

/-- `staleOfBD` is what `ProbeW.Backing` asks for: data ++ stale is the whole backing array -/
theorem ParseOKBD.backing {s : Gen.bdhp} (h : ParseOKBD s) :
    ProbeW.Backing (ofBDHPs s) (staleOfBD s) :=
  stale_length _ h.wf.1.data

@[reducible] def withWTBD (s : Gen.bdhp) (w : Int) (t1 t2 : GSlice hashEntry) : Gen.bdhp :=
  { doubleHashDictionary :=
      { ParserBuffer := { s.doubleHashDictionary.ParserBuffer with W := w },
        h1 := { s.doubleHashDictionary.h1 with table := t1 },
        h2 := { s.doubleHashDictionary.h2 with table := t2 } },
    BDHPConfig := s.BDHPConfig }

theorem ParseOKBD.hok1 {s : Gen.bdhp} (h : ParseOKBD s) : HOK s.doubleHashDictionary.h1 :=
  ⟨h.wf.2.1.2.1, h.wf.2.1.2.2.1, h.sh1, h.wf.2.1.2.2.2.1, h.wf.2.1.1, h.wf.2.1.2.2.2.2⟩

theorem ParseOKBD.hok2 {s : Gen.bdhp} (h : ParseOKBD s) : HOK s.doubleHashDictionary.h2 :=
  ⟨h.wf.2.2.2.1, h.wf.2.2.2.2.1, h.sh2, h.wf.2.2.2.2.2.1, h.wf.2.2.1, h.wf.2.2.2.2.2.2⟩

theorem ParseOKBD.frame {s : Gen.bdhp} (h : ParseOKBD s) :
    Frame (ofBDHPs s) s.doubleHashDictionary.ParserBuffer s.BDHPConfig.BlockSize :=
  ⟨rfl, h.wf.1, h.cbs, h.bs0, h.w⟩

/-- `Parse` and `Parse(nil)` move `W` (inside the data) and replace the tables: the invariant stays -/
theorem ParseOKBD.update {s : Gen.bdhp} (h : ParseOKBD s) (w : Nat)
    (hw : w ≤ s.doubleHashDictionary.ParserBuffer.Data.len) {t1 t2 : GSlice hashEntry}
    (ht1 : TOK s.doubleHashDictionary.h1.shift t1) (ht2 : TOK s.doubleHashDictionary.h2.shift t2) :
    ParseOKBD (withWTBD s (w : Int) t1 t2) :=
  ⟨⟨h.frame.wf_w w,
      ⟨ht1.1, h.hok1.il0, h.hok1.mask, h.hok1.sh2, ht1.2⟩, ⟨ht2.1, h.hok2.il0, h.hok2.mask, h.hok2.sh2, ht2.2⟩⟩,
    h.cws, h.cbs, h.cil, h.bs0, Int.ofNat_le.mpr hw, h.il1, h.il12, h.sh1, h.sh2, h.small⟩

theorem gen_bdhp_parse (grow : Nat → Nat → Nat) (fuel : Nat) (lcs : Slice → Slice → Int) (hlcs : LcsSpec lcs)
    (s : Gen.bdhp) (blk : Gen.Block') (flags : Int)
    (h : ParseOKBD s) (hfl : 0 ≤ flags) (hfuel : 2 * s.doubleHashDictionary.ParserBuffer.Data.len + 3 ≤ fuel) :
    match ProbeW.parseW (ofBDHPs s) (staleOfBD s) flags.toNat with
    | none => bdhp_Parse grow fuel lcs s blk flags = Res.panic
    | some (s', n, e, b) =>
      ∃ t blk', bdhp_Parse grow fuel lcs s blk flags = Res.ok (t, blk', (n : Int), parseErr e) ∧
        ofBDHPs t = s' ∧ staleOfBD t = staleOfBD s ∧ (e = .ok ∨ e = .empty) ∧
        blk'.Sequences = b.seqs.map seqRep ∧ blk'.Literals.data = b.lits ∧ SWF blk'.Literals ∧ ParseOKBD t := by
  have w1 := h.hok1
  have w2 := h.hok2
  have hD : SWF s.doubleHashDictionary.ParserBuffer.Data := h.wf.1.data
  have hD' : s.doubleHashDictionary.ParserBuffer.Data.len ≤ s.doubleHashDictionary.ParserBuffer.Data.arr.length := hD
  have hW0 := h.wf.1.w
  have hil1 := h.il1
  have hil12 := h.il12
  have hsmall := h.small
  -- the Go side up to the test `n == 0`
  generalize hG : bdhp_Parse grow fuel lcs s blk flags = G
  unfold bdhp_Parse bdhp_Parse_nilable at hG
  simp only [Bool.false_eq_true, if_false, gt_iff_lt, ge_iff_le, ite_lt_min, ite_le_min, Int.ofNat_eq_natCast, h.frame.clamp, h.frame.clamp'] at hG
  rw [slice_zero, bind_ok] at hG
  by_cases hn : (ofBDHPs s).blockN = 0
  · rw [hn] at hG
    first | rw [if_pos (by omega)] at hG | rw [if_neg (by omega)] at hG
    rw [ProbeW.parseW_empty _ _ _ hn]
    exact ⟨s, resetBlk blk, hG.symm, rfl, rfl, Or.inr rfl, rfl, rfl, Nat.zero_le _, h⟩
  first | rw [if_neg (by omega)] at hG | rw [if_pos (by omega)] at hG
  -- the model side, without `do`
  rw [show staleOfBD s = s.doubleHashDictionary.ParserBuffer.Data.arr.drop s.doubleHashDictionary.ParserBuffer.Data.len
      from rfl,
    ProbeW.parseW_double (ofBDHPs s) _ _ ⟨ofHash s.doubleHashDictionary.h1, ofHash s.doubleHashDictionary.h2⟩ rfl,
    frameW_nf h.frame hn _ _ _ _ _ _ rfl]
  generalize hp1 : ProbeW.processSegment2W _ _ _ _ _ _ = r
  have hps := gen_processSegment2_at fuel s.doubleHashDictionary hD w1 w2 hil12 hsmall (by omega) hp1
    ((s.doubleHashDictionary.ParserBuffer.W - s.doubleHashDictionary.h2.inputLen) + 1)
    s.doubleHashDictionary.ParserBuffer.W rfl rfl
    (by rw [h.frame.w_cast]; show _ - ((s.doubleHashDictionary.h2.inputLen.toNat : Nat) : Int) + 1 = _
        rw [Int.toNat_of_nonneg w2.il0])
    h.frame.w_cast
  cases r with
  | none =>
    rw [(hps :)] at hG
    exact hG.symm
  | some hh =>
    obtain ⟨t01, t02, ht01, ht02, rfl, hps⟩ := hps
    rw [hps, bind_ok] at hG
    rw [Option.map_some, Option.bind_some]
    dsimp only at hG
    -- names for the natural numbers
    obtain ⟨Wn, hWn⟩ : ∃ Wn : Nat, s.doubleHashDictionary.ParserBuffer.W = (Wn : Int) :=
      ⟨s.doubleHashDictionary.ParserBuffer.W.toNat, (Int.toNat_of_nonneg hW0).symm⟩
    have hwn : (ofBDHPs s).buf.w = Wn := by
      show s.doubleHashDictionary.ParserBuffer.W.toNat = Wn; rw [hWn]; rfl
    have hLlen := h.frame.blockN_le
    rw [hwn] at hLlen
    generalize (ofBDHPs s).blockN = nN at hG hn hLlen ⊢
    rw [hwn]
    have hws : (ofBDHPs s).buf.cfg.windowSize = s.BDHPConfig.WindowSize.toNat := by rw [h.cws]; rfl
    have hmmM : (ofBDHPs s).minMatch = Min.min 3 s.doubleHashDictionary.h1.inputLen.toNat := by
      show Min.min 3 s.BDHPConfig.InputLen1.toNat = _; rw [h.cil]
    have hkind : ((ofBDHPs s).kind == Kind.BDHP) = true := rfl
    have hpl : (s.doubleHashDictionary.ParserBuffer.Data.arr.take (Wn + nN)).length = Wn + nN := by
      rw [List.length_take]; omega
    rw [hws, hmmM, hkind]
    clear hws hmmM hkind
    simp only [ofHashT_inputLen]
    -- p := s.Data[:s.W+n]
    rw [hWn, slice_okI s.doubleHashDictionary.ParserBuffer.Data 0 ((Wn : Int) + (nN : Int)) 0 (Wn + nN) rfl (by omega)
      (Nat.zero_le _) (by omega), bind_ok] at hG
    simp only [List.drop_zero, Nat.sub_zero] at hG
    generalize hA : s.doubleHashDictionary.ParserBuffer.Data.arr = A at hG hD' hpl ⊢
    obtain ⟨il1, hil1n⟩ : ∃ il1 : Nat, s.doubleHashDictionary.h1.inputLen = (il1 : Int) :=
      ⟨s.doubleHashDictionary.h1.inputLen.toNat, (Int.toNat_of_nonneg w1.il0).symm⟩
    obtain ⟨il2, hil2n⟩ : ∃ il2 : Nat, s.doubleHashDictionary.h2.inputLen = (il2 : Int) :=
      ⟨s.doubleHashDictionary.h2.inputLen.toNat, (Int.toNat_of_nonneg w2.il0).symm⟩
    have hil1' : s.doubleHashDictionary.h1.inputLen.toNat = il1 := by rw [hil1n]; rfl
    have hil2' : s.doubleHashDictionary.h2.inputLen.toNat = il2 := by rw [hil2n]; rfl
    simp only [hil1', hil2'] at *
    rw [hil1n, hil2n] at hG
    -- the margin reslice `_p := s.Data[:e1+7]`
    by_cases hmar : ((Wn + nN : Nat) : Int) - (il1 : Int) + 1 + 7 < 0 ∨
        (A.length : Int) < ((Wn + nN : Nat) : Int) - (il1 : Int) + 1 + 7
    · rw [if_pos hmar]
      rw [slice_panic _ _ _ (by
        rw [hA]; show _ ∨ ((Wn + nN : Nat) : Int) - _ + 1 + 7 < 0 ∨ (A.length : Int) < ((Wn + nN : Nat) : Int) - _ + 1 + 7
        omega)] at hG
      exact hG.symm
    rw [if_neg hmar, Option.bind_some]
    have hcapE : ((((Wn + nN : Nat) : Int) - (il1 : Int) + 1 + 7).toNat) ≤ s.doubleHashDictionary.ParserBuffer.Data.arr.length := by
      rw [hA]; show (((Wn + nN : Nat) : Int) - _ + 1 + 7).toNat ≤ _; omega
    rw [slice_okI s.doubleHashDictionary.ParserBuffer.Data 0 (((Wn + nN : Nat) : Int) - (il1 : Int) + 1 + 7) 0
      ((((Wn + nN : Nat) : Int) - (il1 : Int) + 1 + 7).toNat) rfl
      (by show ((Wn + nN : Nat) : Int) - _ + 1 + 7 = (((((Wn + nN : Nat) : Int) - _ + 1 + 7).toNat : Nat) : Int); omega)
      (Nat.zero_le _) hcapE, bind_ok] at hG
    simp only [List.drop_zero, Nat.sub_zero] at hG
    rw [hA] at hG
    have w1' : HOK (setTB s t01 t02).doubleHashDictionary.h1 := ⟨w1.il0, w1.mask, w1.sh1, w1.sh2, ht01⟩
    have w2' : HOK (setTB s t01 t02).doubleHashDictionary.h2 := ⟨w2.il0, w2.mask, w2.sh1, w2.sh2, ht02⟩
    -- the two greedy loops
    have hloop : ∃ (st1 st' : LoopSt Hash2) (s1 : Gen.bdhp) (blk1 : Block') (t1 t2 : GSlice hashEntry)
          (blk' : Block'),
        ProbeW.greedyLoopW (ProbeW.dhpProbeW s.BDHPConfig.WindowSize.toNat (Min.min 3 il1) (Wn + nN + 1 - il1)
            (Wn + nN + 1 - il2) true (A.drop (Wn + nN))) (A.take (Wn + nN)) (Wn + nN + 1 - il1)
          { dict := ⟨ofHashT s.doubleHashDictionary.h1 t01, ofHashT s.doubleHashDictionary.h2 t02⟩,
            i := Wn, litIndex := Wn, seqs := [], lits := [] } = some st' ∧
        (callee_loop% bdhp_Parse_nilable 0) grow lcs (((Wn + nN : Nat) : Int) - (il2 : Int) + 1)
          { arr := A, len := (((Wn + nN : Nat) : Int) - (il1 : Int) + 1 + 7).toNat } { arr := A, len := Wn + nN }
          (Min.min (il1 : Int) 3) (((Wn + nN : Nat) : Int) - (il1 : Int) + 1) fuel (Wn : Int)
          { doubleHashDictionary := setDD s.doubleHashDictionary t01 t02, BDHPConfig := s.BDHPConfig }
          { Sequences := [], Literals := { arr := blk.Literals.arr, len := 0 } } (Wn : Int) =
          Res.ok ((st1.i : Int), s1, blk1, (st1.litIndex : Int)) ∧
        (callee_loop% bdhp_Parse_nilable 1) grow lcs (((Wn + nN : Nat) : Int) - (il1 : Int) + 1)
          { arr := A, len := (((Wn + nN : Nat) : Int) - (il1 : Int) + 1 + 7).toNat } { arr := A, len := Wn + nN }
          (Min.min (il1 : Int) 3) fuel (st1.i : Int) s1 blk1 (st1.litIndex : Int) =
          Res.ok ((st'.i : Int), setTB s t1 t2, blk', (st'.litIndex : Int)) ∧
        TOK s.doubleHashDictionary.h1.shift t1 ∧ TOK s.doubleHashDictionary.h2.shift t2 ∧
        st'.dict = ⟨ofHashT s.doubleHashDictionary.h1 t1, ofHashT s.doubleHashDictionary.h2 t2⟩ ∧
        blk'.Sequences = st'.seqs.map seqRep ∧ blk'.Literals.data = st'.lits ∧ SWF blk'.Literals ∧
        Wn ≤ st'.litIndex ∧ st'.litIndex ≤ Wn + nN := by
      have hmmI : (Min.min (il1 : Int) 3) = ((Min.min 3 il1 : Nat) : Int) := by omega
      by_cases h0 : (Wn : Int) < ((Wn + nN : Nat) : Int) - (il1 : Int) + 1
      · have h0' : (Wn : Int) < ((Wn + nN : Nat) : Int) - (il1 : Int) + 1 := h0
        have hEI : ((Wn + nN : Nat) : Int) - (il1 : Int) + 1 = ((Wn + nN + 1 - il1 : Nat) : Int) := by
          show ((Wn + nN : Nat) : Int) - _ + 1 = _; omega
        have hE7 : (((Wn + nN : Nat) : Int) - (il1 : Int) + 1 + 7).toNat = Wn + nN + 1 - il1 + 7 := by
          rw [hEI]; omega
        have hE2N : Wn + nN + 1 - il2 = (((Wn + nN : Nat) : Int) - (il2 : Int) + 1).toNat := by
          show _ = (((Wn + nN : Nat) : Int) - _ + 1).toNat; omega
        rw [hE7, hE2N]
        exact loops_eq grow lcs hlcs (((Wn + nN : Nat) : Int) - (il1 : Int) + 1) (((Wn + nN : Nat) : Int) - (il2 : Int) + 1)
            (Min.min (il1 : Int) 3) A (Wn + nN) (Wn + nN + 1 - il1) (Min.min 3 il1)
            s.BDHPConfig.WindowSize.toNat hEI
            (by show ((Wn + nN : Nat) : Int) - _ + 1 ≤ ((Wn + nN : Nat) : Int) - _ + 1; omega) hmmI
            (by omega) (by omega) (by omega) (by omega) (by omega)
            fuel Wn (setTB s t01 t02) { Sequences := [], Literals := { arr := blk.Literals.arr, len := 0 } }
            w1' w2' rfl (by omega) (by omega) rfl rfl (Nat.zero_le _)
      · have h0' : ¬ (Wn : Int) < ((Wn + nN : Nat) : Int) - (il1 : Int) + 1 := h0
        obtain ⟨f, rfl⟩ : ∃ f, fuel = f + 1 := ⟨fuel - 1, by omega⟩
        refine ⟨{ dict := ⟨ofHashT s.doubleHashDictionary.h1 t01, ofHashT s.doubleHashDictionary.h2 t02⟩, i := Wn, litIndex := Wn, seqs := [], lits := [] },
          { dict := ⟨ofHashT s.doubleHashDictionary.h1 t01, ofHashT s.doubleHashDictionary.h2 t02⟩, i := Wn, litIndex := Wn, seqs := [], lits := [] },
          setTB s t01 t02, { Sequences := [], Literals := { arr := blk.Literals.arr, len := 0 } }, t01, t02,
          { Sequences := [], Literals := { arr := blk.Literals.arr, len := 0 } },
          ProbeW.greedyLoopW_done _ _ _ _ (by show ¬ Wn < Wn + nN + 1 - il1; omega), ?_, ?_, ht01, ht02, rfl, rfl,
          rfl, Nat.zero_le _, Nat.le_refl _, by show Wn ≤ Wn + nN; omega⟩
        · unfold_head
          rw [if_neg (by omegaI)]
        · unfold_head
          rw [if_neg (by omegaI)]
    obtain ⟨st1, st', s1, blk1, t1', t2', blk', hgl, hl1, hl5, ht1', ht2', hdict', hseq', hlit', hswf', hli1, hli2⟩ := hloop
    rw [hl1, bind_ok] at hG
    dsimp only at hG
    rw [hl5, bind_ok] at hG
    dsimp only at hG
    rw [ProbeW.runGreedyW_of_loop hgl, Option.bind_some]
    dsimp only
    unfold finishBlock
    rcases noTrailing_cases flags hfl st'.seqs blk'.Sequences (by rw [hseq', List.length_map]) with
      ⟨hfin, hf1, hf2⟩ | ⟨hfin, hf⟩
    · rw [if_pos hfin]
      first | rw [if_pos (by omegaI)] at hG | rw [if_neg (by omegaI)] at hG
      rw [bind_ok] at hG
      dsimp only at hG
      refine ⟨withWTBD s (st'.litIndex : Int) t1' t2', blk', hG.symm.trans ?_, ?_, by rw [← hA]; rfl, Or.inl rfl, hseq', hlit', hswf',
        h.update _ (by omega) ht1' ht2'⟩
      · rw [hWn]
        have : ((st'.litIndex : Nat) : Int) - (Wn : Int) = ((st'.litIndex - Wn : Nat) : Int) := by omega
        rw [this]; rfl
      · rw [hdict']; rfl
    · rw [if_neg hfin]
      first | rw [if_neg (by omegaI)] at hG | rw [if_pos (by omegaI)] at hG
      rw [slice_okI _ _ (((Wn + nN : Nat) : Int)) st'.litIndex (Wn + nN) rfl rfl hli2
        (by show Wn + nN ≤ A.length; omega), bind_ok, bind_ok] at hG
      dsimp only at hG
      refine ⟨withWTBD s ((Wn + nN : Nat) : Int) t1' t2',
        { Sequences := blk'.Sequences,
          Literals := Slice.append grow blk'.Literals ((A.drop st'.litIndex).take (Wn + nN - st'.litIndex)) },
        hG.symm.trans ?_, ?_, by rw [← hA]; rfl, Or.inl rfl, hseq', ?_,
        swf_append grow _ hswf' _, h.update _ hLlen ht1' ht2'⟩
      · rw [hWn, hpl]
        have : ((Wn + nN : Nat) : Int) - (Wn : Int) = ((Wn + nN - Wn : Nat) : Int) := by
          show ((Wn + nN : Nat) : Int) - _ = _; omega
        rw [this]; rfl
      · rw [hdict', hpl]; rfl
      · rw [(append_spec grow blk'.Literals hswf' _).1, hlit']
        show _ ++ (A.drop st'.litIndex).take (Wn + nN - st'.litIndex) = _ ++ (A.take (Wn + nN)).drop st'.litIndex
        rw [List.drop_take]

/-- **Go text → list-level model** (reachable states: `NewParser`, then any history of `Write`, `ReadFrom`, `Parse`,
    `Parse(nil)`, `Shrink`, `Reset`): no panic, the result of `Parser.parse`. -/
theorem gen_bdhp_parse_model (grow : Nat → Nat → Nat) (fuel : Nat) (lcs : Slice → Slice → Int) (hlcs : LcsSpec lcs)
    (s : Gen.bdhp) (blk : Gen.Block') (flags : Int)
    (h : ParseOKBD s) (hfl : 0 ≤ flags) (hfuel : 2 * s.doubleHashDictionary.ParserBuffer.Data.len + 3 ≤ fuel)
    (raw : Cfg) (s0 : Parser) (h0 : newParser .BDHP raw = some s0) (ops : List POp)
    (hreach : ofBDHPs s = (runOps (s0, Ghost.init) ops).1) :
    ∃ t blk', bdhp_Parse grow fuel lcs s blk flags =
        Res.ok (t, blk', (((ofBDHPs s).parse flags.toNat).2.1 : Int), parseErr ((ofBDHPs s).parse flags.toNat).2.2.1) ∧
      ofBDHPs t = ((ofBDHPs s).parse flags.toNat).1 ∧ staleOfBD t = staleOfBD s ∧
      blk'.Sequences = ((ofBDHPs s).parse flags.toNat).2.2.2.seqs.map seqRep ∧
      blk'.Literals.data = ((ofBDHPs s).parse flags.toNat).2.2.2.lits ∧ SWF blk'.Literals ∧ ParseOKBD t := by
  exact parse_model_of (p := ofBDHPs s) (stale := staleOfBD s) (Or.inr (Or.inr (Or.inr (Or.inl rfl)))) h.backing raw s0 h0 ops hreach ofBDHPs staleOfBD ParseOKBD
    (gen_bdhp_parse grow fuel lcs hlcs s blk flags h hfl hfuel)

end LZ.GenBDHPParse

#print axioms LZ.GenBDHPParse.gen_bdhp_parse
#print axioms LZ.GenBDHPParse.gen_bdhp_parse_model
