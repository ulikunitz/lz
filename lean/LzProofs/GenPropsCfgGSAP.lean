/-
  The parser configuration GSAPConfig: `SetDefaults` / `Verify` through the reflective helpers, which appear in the
  generated code as the field copies the extractor read from their source.  `ofGSAP` reads the generated struct as the
  model's union record `Cfg` (fields the kind does not have are zero), `toGSAP` is the inverse on `Cfg.restrict .GSAP`.
  Go `int`/`int64` are unbounded `Int` on both sides (overflow is out of scope), `uint32`/`uint64` wrap around.  The
  proofs do not depend on the shape of the generated term (see GenPropsBase).
-/
import LzModel.Generated.CodeCfgGSAP
import LzProofs.GenPropsCfgBuf

set_option linter.unusedSimpArgs false

namespace LZ.GenProps
open LZ

def ofGSAP (c : Gen.GSAPConfig) : Cfg :=
  { shrinkSize := c.ShrinkSize, bufferSize := c.BufferSize, windowSize := c.WindowSize,
    blockSize := c.BlockSize,
    minMatchLen := c.MinMatchLen }

def toGSAP (c : Cfg) : Gen.GSAPConfig :=
  { ShrinkSize := c.shrinkSize, BufferSize := c.bufferSize, WindowSize := c.windowSize,
    BlockSize := c.blockSize,
    MinMatchLen := c.minMatchLen }

theorem ofGSAP_toGSAP (c : Cfg) : ofGSAP (toGSAP c) = c.restrict .GSAP := by
  simp [ofGSAP, toGSAP, Cfg.restrict, Kind.fields]

theorem toGSAP_ofGSAP (c : Gen.GSAPConfig) : toGSAP (ofGSAP c) = c := rfl

theorem gen_setDefaults_GSAP (c : Gen.GSAPConfig) :
    ofGSAP (Gen.GSAPConfig_SetDefaults c) = setDefaults .GSAP (ofGSAP c) := by
  have e : setDefaults .GSAP (ofGSAP c) = { bufDefaults (ofGSAP c) with
      minMatchLen := if c.MinMatchLen = 0 then Facts.defMinMatchLen else c.MinMatchLen } := rfl
  rw [e]
  dsimp only [Gen.GSAPConfig_SetDefaults, gen_helper, ofGSAP, Facts.defMinMatchLen]
  simp only [gen_bufDefaults', Cfg.mk.injEq, apply_ite Gen.GSAPConfig.ShrinkSize, apply_ite Gen.GSAPConfig.BufferSize,
    apply_ite Gen.GSAPConfig.WindowSize, apply_ite Gen.GSAPConfig.BlockSize,
    apply_ite Gen.GSAPConfig.MinMatchLen, ite_self, and_true, true_and]
  -- the buffer fields agree by computation, `MinMatchLen` as integers
  and_intros <;> first | rfl | omega

theorem gen_verify_GSAP (c : Gen.GSAPConfig) :
    Gen.GSAPConfig_Verify c = .ok ↔ verify .GSAP (ofGSAP c) = true := by
  have hb : bufVerify (ofGSAP c) = true ↔
      Gen.BufConfig_Verify ⟨c.ShrinkSize, c.BufferSize, c.WindowSize, c.BlockSize⟩ = .ok := by
    rw [gen_bufVerify]; rfl
  rw [verify_gsap, hb]
  dsimp only [Gen.GSAPConfig_Verify, gen_helper, ofGSAP, Facts.maxInt32]
  -- what remains is propositional in the result of the buffer check and linear in the fields
  generalize Gen.BufConfig_Verify _ = e
  cases e <;> gen_ifs

/-- which check of `GSAPConfig.Verify` fails (the three checks after the buffer check) -/
theorem gen_verify_GSAP_errors (c : Gen.GSAPConfig)
    (hb : Gen.BufConfig_Verify ⟨c.ShrinkSize, c.BufferSize, c.WindowSize, c.BlockSize⟩ = .ok) :
    (Gen.GSAPConfig_Verify c = .error 1 ↔ ¬(2 ≤ c.MinMatchLen)) ∧
    (Gen.GSAPConfig_Verify c = .error 2 ↔ 2 ≤ c.MinMatchLen ∧ ¬(c.MinMatchLen ≤ c.WindowSize)) ∧
    (Gen.GSAPConfig_Verify c = .error 3 ↔
      2 ≤ c.MinMatchLen ∧ c.MinMatchLen ≤ c.WindowSize ∧ ¬(c.WindowSize ≤ 2147483647)) := by
  dsimp only [Gen.GSAPConfig_Verify, gen_helper]
  gen_ifs [hb]

theorem tieGSAP : CfgTie .GSAP ofGSAP toGSAP Gen.GSAPConfig_SetDefaults Gen.GSAPConfig_Verify :=
  ⟨ofGSAP_toGSAP, gen_setDefaults_GSAP, gen_verify_GSAP⟩

theorem gen_accepted_GSAP (c : Cfg) :
    accepted .GSAP c = true ↔ Gen.GSAPConfig_Verify (Gen.GSAPConfig_SetDefaults (toGSAP c)) = .ok :=
  tieGSAP.accepted c

end LZ.GenProps
