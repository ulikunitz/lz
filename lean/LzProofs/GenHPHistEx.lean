/-
  Non-vacuity of LzProofs/GenHPHistRun.lean: a concrete history executed on the TRANSLATED
  functions (`runG`), checked by kernel evaluation (`decide`), and the instance of `C01_go_text_hp` for it.

  Configuration: ShrinkSize 8, BufferSize 32, WindowSize 16, BlockSize 16, InputLen 3, HashBits 4.
  History: Write("abcabcabcabcabcabc"); Parse(&blk, 0); Shrink(); Write("xyzxyzabcabcQ"); Parse(&blk, NoTrailingLiterals);
           Parse(&blk, 0); Parse(&blk, 0) [empty]; Reset("hello hello hello"); Parse(&blk, 0).
-/
import LzProofs.GenHPHistRun

namespace LZ.GenHPHist
open LZ LZ.Gen LZ.GenBuf LZ.GenHash LZ.GenHPParse LZ.GenProps

def exCfg : Gen.HPConfig :=
  { ShrinkSize := 8, BufferSize := 32, WindowSize := 16, BlockSize := 16, InputLen := 3, HashBits := 4 }

/-- the capacity policy of `append` (never consulted in this history: no `append` reallocates) -/
def exGrow : Nat → Nat → Nat := fun _ n => n

/-- a Go slice with `cap = len` -/
def sliceOf (l : List UInt8) : Slice := { arr := l, len := l.length }

/-- "abcabcabcabcabcabc" -/
def exA : List UInt8 := [97, 98, 99, 97, 98, 99, 97, 98, 99, 97, 98, 99, 97, 98, 99, 97, 98, 99]
/-- "xyzxyzabcabcQ" -/
def exB : List UInt8 := [120, 121, 122, 120, 121, 122, 97, 98, 99, 97, 98, 99, 81]
/-- "hello hello hello" -/
def exC : List UInt8 := [104, 101, 108, 108, 111, 32, 104, 101, 108, 108, 111, 32, 104, 101, 108, 108, 111]

def exOps : List GOp :=
  [ .write (sliceOf exA), .parse default 0, .shrink, .write (sliceOf exB), .parse default 1, .parse default 0,
    .parse default 0, .reset (sliceOf exC), .parse default 0 ]

/-- the state `hashParser.init(exCfg)` leaves in `new(hashParser)` -/
def exS0 : Gen.hashParser :=
  match hashParser_init default exCfg with
  | .ok (s, _) => s
  | _ => default

theorem exInit : hashParser_init default exCfg = Res.ok (exS0, Gen.Err.ok) := by decide +kernel

theorem exWF : ∀ op ∈ exOps, op.WF := by
  intro op hop
  simp only [exOps, List.mem_cons, List.not_mem_nil, or_false] at hop
  rcases hop with rfl | rfl | rfl | rfl | rfl | rfl | rfl | rfl | rfl <;>
    first | trivial | exact Nat.le_refl _ | (show (0 : Int) ≤ _; decide)

/-- the values the translated functions return, in order -/
def exResults : List GRes :=
  [ .write 18 Gen.Err.ok,
    -- "abc" + match(len 13, offset 3): 16 bytes = BlockSize
    .parse { Sequences := [{ LitLen := 3, MatchLen := 13, Offset := 3, Aux := 0 }],
             Literals := { arr := [97, 98, 99], len := 3 } } 16 Gen.Err.ok,
    .shrink 8,
    .write 13 Gen.Err.ok,
    -- NoTrailingLiterals: the block ends with its last match, 14 of the 15 buffered bytes
    .parse { Sequences := [{ LitLen := 5, MatchLen := 3, Offset := 3, Aux := 0 },
                           { LitLen := 2, MatchLen := 4, Offset := 12, Aux := 0 }],
             Literals := { arr := [98, 99, 120, 121, 122, 97, 98], len := 7 } } 14 Gen.Err.ok,
    -- the trailing "Q"
    .parse { Sequences := [], Literals := { arr := [81], len := 1 } } 1 Gen.Err.ok,
    .parse { Sequences := [], Literals := { arr := [], len := 0 } } 0 Gen.ErrEmptyBuffer,
    .reset Gen.Err.ok,
    .parse { Sequences := [{ LitLen := 6, MatchLen := 10, Offset := 6, Aux := 0 }],
             Literals := { arr := [104, 101, 108, 108, 111, 32], len := 6 } } 16 Gen.Err.ok ]

/-- the run on the translated functions, evaluated by the kernel -/
theorem exRun : (match runG exGrow 40 exS0 exOps with | .ok r => some r.2 | _ => none) = some exResults := by
  decide +kernel

/-- the bookkeeping computed from the calls and the results: after the `Reset` 17 bytes were fed, 16 consumed, one
    block -/
theorem exGhost :
    (ghostRun Ghost.init exOps exResults).fed = exC ∧ (ghostRun Ghost.init exOps exResults).consumed = 16 ∧
    (ghostRun Ghost.init exOps exResults).log.length = 1 := by decide +kernel

/-- the bookkeeping before the `Reset`: 31 bytes fed, all consumed, three blocks, and they decode to those bytes -/
theorem exGhost7 :
    (ghostRun Ghost.init (exOps.take 7) (exResults.take 7)).fed = exA ++ exB ∧
    (ghostRun Ghost.init (exOps.take 7) (exResults.take 7)).consumed = 31 ∧
    decode [] (ghostRun Ghost.init (exOps.take 7) (exResults.take 7)).log = some (exA ++ exB) := by decide +kernel

/-- `C01_go_text_hp` for this history -/
example := C01_go_text_hp exCfg exS0 exInit exGrow 40 (by decide +kernel) exOps exWF
example := gen_hp_history exCfg exS0 exInit exGrow 40 (by decide +kernel) exOps exWF

end LZ.GenHPHist

#print axioms LZ.GenHPHist.exInit
#print axioms LZ.GenHPHist.exRun
#print axioms LZ.GenHPHist.exGhost
#print axioms LZ.GenHPHist.exGhost7
