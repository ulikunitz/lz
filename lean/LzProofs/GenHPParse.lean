/-
  LzProofs.GenHPParse — the mechanical translation of hp.go `(*hashParser).Parse`
  (LzModel/Generated/CodeHPParse.lean, topic HPParse of tools/extract/code_parse.go; with
  `hashDictionary.processSegment`, `_getLE64`, `_getLE32`, `getLE64` — nothing opaque) versus the word-level
  model `LZ.ProbeW.parseW` (LzProofs/ProbeW.lean) and, through `ProbeW.parseW_reachable`, the LIST-LEVEL model
  `Parser.parse` on which C01/C02/C03/C19 are proved.  No sorry, no axioms of its own.

  Abstraction: `ofHPs s : Parser` (GenHashPropsDict), `staleOf s` = the bytes of the backing array behind
  `len(s.Data)` (the `stale` argument of `parseW`), `seqRep` = the Go `Seq` of a model sequence, `parseErr`.

  Main results
    gen_hp_parse        for every Go state `s` with `ParseOK s` (below), every `blk`, every `flags ≥ 0`, every
                        `grow` (the capacity policy of `append`) and every `fuel ≥ len(s.Data) + 3`:
                          `parseW (ofHPs s) (staleOf s) flags = none`  ⇒  the translated `Parse` is `Res.panic`
                          `… = some (s', n, e, b)` ⇒ it is `Res.ok (t, blk', n, parseErr e)` with `ofHPs t = s'`,
                          `staleOf t = staleOf s`, `blk'.Sequences = b.seqs.map seqRep`,
                          `blk'.Literals.data = b.lits`, `len ≤ cap` for the literals, and `ParseOK t`.
                        In particular `Res.fuel` never occurs (the fuel bound is explicit) and the Go code panics
                        exactly where the model says so: in `processSegment` (`f.Data[:b+7]`) or at the reslice
                        `s.Data[:inputEnd+7]`; inside the loop there is no panic.
    gen_hp_parse_model  if `ofHPs s` is reachable (`NewParser`, then any history of Write / ReadFrom / Parse /
                        Parse(nil) / Shrink / Reset in the model): no panic, and the result is the representation
                        of `(ofHPs s).parse flags` — Go text → translation → word level → list level.
    gen_hp_init_parseOK `hashParser.init` on `new(hashParser)` establishes `ParseOK` (non-vacuity).
    gen_hp_parse_empty  the straight-line prefix (`n = 0`), for every fuel.

  `ParseOK s`: `DictWF`; the three values `HPConfig` duplicates agree (as natural numbers) with the copies the
  model reads (`s.WindowSize`, `s.BlockSize` are fields of `HPConfig` in Go, the model reads the buffer's
  configuration; the model's `minMatch` comes from the configuration, Go's from `s.hash.inputLen`);
  `0 ≤ BlockSize`; `W ≤ len(Data)`; `1 ≤ inputLen`; `shift ≥ 32` (`hashBits ≤ 32`); `len(Data) < 2^32`.
  Each is NECESSARY for the equation with `parseW` (all hold after `init` and under `Verify`):
    * `inputLen = 0`: Go emits a match of length 0 and never advances (`i = litIndex - 1; i++`) — no result for
      any fuel; the model leaves the loop (`greedyLoopW`, branch `¬ s + k > i`);
    * `BlockSize < 0` / `W > len(Data)`: Go computes a negative `n` and slices `s.Data[:W+n]`, the model's `blockN`
      is a natural number (0 ⇒ ErrEmptyBuffer);
    * `hashBits > 32`: Go truncates the table index to `uint32`, the model's `hashValue` does not;
    * `len(Data) ≥ 2^32`: positions are stored as `uint32`;
    * `flags < 0` (e.g. `-1`): `flags&NoTrailingLiterals != 0` in Go; the model takes a natural number.
  None of these is reachable through the API except a negative `flags` argument, which is outside the domain
  of the model (`flags : Nat`).

  What the proofs read off the hypotheses has the same names for all five hash and bucket parsers (`ParseOK` here,
  `ParseOKB`, `ParseOKD`, `ParseOKBD`, `ParseOKU` in GenBHPParse, GenDHPParse, GenBDHPParse, GenBUPParse):
    h.frame    `Frame (of…s s) s.….ParserBuffer s.…Config.BlockSize` (GenParseShared), whence the clamp of `n` as a
               minimum in both operand orders `h.frame.clamp`, `h.frame.clamp'` (the `if` spellings of the text are
               brought there by `ite_lt_min`, `ite_le_min`), `h.frame.w_cast`, `h.frame.blockN_le`, `h.frame.wf_w`
    h.backing  `ProbeW.Backing`: data ++ stale bytes is the backing array
    h.update   the hypotheses hold again after `Parse` / `Parse(nil)` moved `W` and replaced the table(s)
               (`withWT`, `withWTB`, `withWTD`, `withWTBD`, `withWB`)
    h.hok1, h.hok2   (DHP, BDHP) the per-table bundle `HOK` of GenDHPParseLemmas
    h.il_cast, h.pseg  (BUP) `inputLen` as a natural number; `processSegment` on the state's dictionary — the
               hash parsers hand `gen_processSegment_at` / `gen_processSegment2_at` the few fields they take
  HP and BHP, whose loop proofs name the natural numbers behind `W` and `inputLen`, get them from `blockN_nats h.frame`.

  Proof structure (helper files LzProofs/GenHPParseLemmasBytes.lean, GenHPParseLemmas.lean, GenParseShared.lean,
  GenHPParseLemmasLoop.lean): (1) `_getLE64` / `getLE64` on slice values = `BytesW.le64` / `BytesW.getLE64`
  (`gen_le64`, `gen_getLE64`, `gen_load_ok`), `bits.TrailingZeros64` = `BytesW.tz64` (`tz_eq`);
  (2) `processSegment` = `processSegment1W` incl. its panic (`gen_processSegment`, loop = `insertRangeW`);
  (3) the margin reslice = `resliceMargin` (the model side without `do`: `GenParse.frameW_nf`);
  (4) one iteration of loop_1 = one `hpProbeW` step of `greedyLoopW` (`loop1_step`: table abstraction `ofHashT`,
  inner loop_2 = `BytesW.matchExtLoop` with `goto match` as exit code (`loop2_eq`), loop_3 = `insertRangeW`
  (`loop3_eq`)), the whole loop by induction (`GenParse.greedy_run`);
  (5) `NoTrailingLiterals` / trailing literals = `finishBlock`.  The loop lemmas are stated over the generated
  loop functions and use only their defining equations (`rw [hashParser_Parse_loop_k]`), `bind_trans`, and
  `omega`; the semantic content (word compare = common prefix) is NOT re-proved here, it is `ProbeW` / `BytesProps`.
-/
import LzModel.Generated.CodeHPParse
import LzProofs.GenHashPropsDict
import LzProofs.GenHPParseLemmasLoop
import LzProofs.GenParseFrame
import LzProofs.GenDictFrame

set_option linter.unusedSimpArgs false
set_option linter.unusedVariables false

namespace LZ.GenHPParse
open LZ LZ.Gen LZ.GenBuf LZ.GenHash LZ.GenParse

/-- `n` of `Parse`: `min (len(s.Data) - s.W) s.BlockSize` in Go `int` arithmetic -/
def blockN (s : Gen.hashParser) : Int :=
  if (Int.ofNat s.hashDictionary.ParserBuffer.Data.len) - s.hashDictionary.ParserBuffer.W > s.HPConfig.BlockSize then
    s.HPConfig.BlockSize
  else
    (Int.ofNat s.hashDictionary.ParserBuffer.Data.len) - s.hashDictionary.ParserBuffer.W

/-- the bytes between `len(s.Data)` and `cap(s.Data)`: the `stale` argument of `ProbeW.parseW` -/
def staleOf (s : Gen.hashParser) : List UInt8 :=
  s.hashDictionary.ParserBuffer.Data.arr.drop s.hashDictionary.ParserBuffer.Data.len

/-- the straight-line prefix of `Parse`: nothing to parse ⇒ `(0, ErrEmptyBuffer)`, the block is
    emptied, the parser is unchanged; no panic, for every `grow` and `fuel` -/
theorem gen_hp_parse_empty (grow : Nat → Nat → Nat) (fuel : Nat) (s : Gen.hashParser) (blk : Gen.Block')
    (flags : Int) (h : blockN s = 0) :
    hashParser_Parse grow fuel s blk flags = Res.ok (s, resetBlk blk, (0 : Int), ErrEmptyBuffer) := by
  unfold blockN at h
  unfold hashParser_Parse hashParser_Parse_nilable; simp only [Bool.false_eq_true]
  simp only [if_false, slice_zero, bind_ok, ite_lt_min, ite_le_min] at h ⊢
  -- whatever the spelling of the clamp and of the test `n == 0`
  split
  all_goals first
    | rfl
    | (exfalso; int_omega)

/-! ## the whole `Parse` -/

/-- the hypotheses of `gen_hp_parse` on the Go state: the representation invariant `DictWF`, the three fields
    `HPConfig` duplicates (`s.WindowSize`, `s.BlockSize` resolve to `HPConfig`, the model reads the buffer's
    copy; `minMatchLen` comes from `s.inputLen = s.hash.inputLen`, the model's from the configuration; only their
    values as natural numbers matter) — `hashParser.init` establishes them (`gen_hp_init_parseOK`) —,
    `0 ≤ BlockSize`, `W ≤ len(Data)`, `1 ≤ inputLen`, `hashBits ≤ 32` (`shift ≥ 32`; the model's `hashValue` has no
    `uint32(…)` truncation) and `len(Data) < 2^32` (positions are stored as `uint32`).  All hold after every API history (`Verify`: `2 ≤ InputLen ≤ 8`, `HashBits ≤ 24`,
    `BufferSize ≤ 2^32 - 8`). -/
structure ParseOK (s : Gen.hashParser) : Prop where
  wf : DictWF s.hashDictionary
  cws : s.HPConfig.WindowSize.toNat = s.hashDictionary.ParserBuffer.BufConfig.WindowSize.toNat
  cbs : s.HPConfig.BlockSize.toNat = s.hashDictionary.ParserBuffer.BufConfig.BlockSize.toNat
  cil : s.HPConfig.InputLen.toNat = s.hashDictionary.hash.inputLen.toNat
  bs0 : 0 ≤ s.HPConfig.BlockSize
  w : s.hashDictionary.ParserBuffer.W ≤ s.hashDictionary.ParserBuffer.Data.len
  il1 : 1 ≤ s.hashDictionary.hash.inputLen
  sh : 32 ≤ s.hashDictionary.hash.shift.toNat
  small : s.hashDictionary.ParserBuffer.Data.len < 4294967296

/-- `staleOf` is what `ProbeW.Backing` asks for: data ++ stale is the whole backing array -/
theorem ParseOK.backing {s : Gen.hashParser} (h : ParseOK s) :
    ProbeW.Backing (ofHPs s) (staleOf s) :=
  stale_length _ h.wf.1.data

theorem ParseOK.frame {s : Gen.hashParser} (h : ParseOK s) :
    Frame (ofHPs s) s.hashDictionary.ParserBuffer s.HPConfig.BlockSize :=
  ⟨rfl, h.wf.1, h.cbs, h.bs0, h.w⟩

/-- the natural numbers behind the Go integers `W`, `inputLen` of a hash dictionary under a parser's `Frame` (HP and
    BHP), and `n` of `Parse` (`min (len(Data) - W) BlockSize` in Go `int` arithmetic, `bs` = the parser's copy of
    `BlockSize`) as the model's `blockN` -/
theorem blockN_nats {k : Kind} {c : Cfg} {f : Gen.hashDictionary} {bs : Int}
    (hF : Frame (ofDict k c f) f.ParserBuffer bs) (hil1 : 1 ≤ f.hash.inputLen) :
    ∃ Wn iln : Nat, f.ParserBuffer.W = (Wn : Int) ∧ f.hash.inputLen = (iln : Int) ∧ 1 ≤ iln ∧
      Wn + (ofDict k c f).blockN ≤ f.ParserBuffer.Data.len ∧
      Min.min (Int.ofNat f.ParserBuffer.Data.len - f.ParserBuffer.W) bs = (((ofDict k c f).blockN : Nat) : Int) := by
  have hW0 := hF.wf.w
  exact ⟨f.ParserBuffer.W.toNat, f.hash.inputLen.toNat, by omega, by omega, by omega, hF.blockN_le, hF.clamp'⟩

@[reducible] def withWT (s : Gen.hashParser) (w : Int) (t : GSlice hashEntry) : Gen.hashParser :=
  { hashDictionary :=
      { ParserBuffer := { s.hashDictionary.ParserBuffer with W := w },
        hash := { s.hashDictionary.hash with table := t } },
    HPConfig := s.HPConfig }

/-- `Parse` and `Parse(nil)` move `W` (inside the data) and replace the table: the invariant stays -/
theorem ParseOK.update {s : Gen.hashParser} (h : ParseOK s) (w : Nat)
    (hw : w ≤ s.hashDictionary.ParserBuffer.Data.len) {t : GSlice hashEntry}
    (ht : TOK s.hashDictionary.hash.shift t) : ParseOK (withWT s (w : Int) t) :=
  ⟨⟨h.frame.wf_w w, ⟨ht.1, h.wf.2.2.1, h.wf.2.2.2.1, h.wf.2.2.2.2.1, ht.2⟩⟩,
    h.cws, h.cbs, h.cil, h.bs0, Int.ofNat_le.mpr hw, h.il1, h.sh, h.small⟩

theorem gen_hp_parse (grow : Nat → Nat → Nat) (fuel : Nat) (s : Gen.hashParser) (blk : Gen.Block') (flags : Int)
    (h : ParseOK s) (hfl : 0 ≤ flags) (hfuel : s.hashDictionary.ParserBuffer.Data.len + 3 ≤ fuel) :
    match ProbeW.parseW (ofHPs s) (staleOf s) flags.toNat with
    | none => hashParser_Parse grow fuel s blk flags = Res.panic
    | some (s', n, e, b) =>
      ∃ t blk', hashParser_Parse grow fuel s blk flags = Res.ok (t, blk', (n : Int), parseErr e) ∧
        ofHPs t = s' ∧ staleOf t = staleOf s ∧ (e = .ok ∨ e = .empty) ∧
        blk'.Sequences = b.seqs.map seqRep ∧ blk'.Literals.data = b.lits ∧ SWF blk'.Literals ∧ ParseOK t := by
  have hD : SWF s.hashDictionary.ParserBuffer.Data := h.wf.1.data
  obtain ⟨_, _, hmask, hsh2, _⟩ := h.wf.2
  -- the natural numbers behind the Go integers; the clamp `n`, with the operands in either order
  obtain ⟨Wn, iln, hWn, hiln, hil1, (hLlen : Wn + (ofHPs s).blockN ≤ _),
      (hnG : Min.min _ _ = (((ofHPs s).blockN : Nat) : Int))⟩ :=
    blockN_nats h.frame h.il1
  have hnG' := (Int.min_comm _ _).trans hnG
  have hwn : (ofHPs s).buf.w = Wn := by show s.hashDictionary.ParserBuffer.W.toNat = Wn; omega
  have hiln' : s.hashDictionary.hash.inputLen.toNat = iln := by omega
  by_cases hn : (ofHPs s).blockN = 0
  · have hg : blockN s = 0 := by unfold blockN; rw [ite_lt_min, hnG', hn]; rfl
    rw [gen_hp_parse_empty grow fuel s blk flags hg]
    rw [ProbeW.parseW_empty _ _ _ hn]
    exact ⟨s, resetBlk blk, rfl, rfl, rfl, Or.inr rfl, rfl, rfl, Nat.zero_le _, h⟩
  -- the Go side up to `processSegment`
  generalize hG : hashParser_Parse grow fuel s blk flags = G
  unfold hashParser_Parse hashParser_Parse_nilable at hG; simp only [Bool.false_eq_true] at hG
  simp only [if_false] at hG
  simp only [ite_lt_min, ite_le_min, ite_lt_max, ite_le_max] at hG
  simp only [hnG, hnG'] at hG
  -- (`omega` splits on every `min`, `toNat` and `-` in the context: such facts are not kept)
  clear hnG hnG'
  generalize hnN : (ofHPs s).blockN = nN at hG hn hLlen ⊢
  rw [slice_zero, bind_ok, if_neg (by omega)] at hG
  -- the model side, without `do`
  rw [show staleOf s = s.hashDictionary.ParserBuffer.Data.arr.drop s.hashDictionary.ParserBuffer.Data.len from rfl,
    ProbeW.parseW_single (ofHPs s) _ _ (ofHash s.hashDictionary.hash) rfl,
    frameW_nf h.frame (by rw [hnN]; exact hn) _ _ _ _ _ (Wn + nN)
      (by rw [hwn, hnN])]
  generalize hp1 : ProbeW.processSegment1W _ _ _ _ _ = r
  have hps := gen_processSegment_at fuel s.hashDictionary h.wf h.sh h.small (by omega) hp1
    ((s.hashDictionary.ParserBuffer.W - s.hashDictionary.hash.inputLen) + 1) s.hashDictionary.ParserBuffer.W rfl rfl
    (by rw [hwn, hWn]; show _ - ((s.hashDictionary.hash.inputLen.toNat : Nat) : Int) + 1 = _; omega) (by rw [hwn, hWn])
  cases r with
  | none =>
    rw [(hps :)] at hG
    exact hG.symm
  | some h' =>
    obtain ⟨t0, ht0, rfl, hps⟩ := hps
    rw [hps, bind_ok] at hG
    rw [Option.bind_some]
    dsimp only at hG
    simp only [ofHashT_inputLen, hiln', hwn]
    -- p := s.Data[:s.W+n]
    rw [hWn, slice_okI s.hashDictionary.ParserBuffer.Data 0 ((Wn : Int) + (nN : Int)) 0 (Wn + nN) rfl (by omega)
      (Nat.zero_le _) (by have := hD; unfold SWF at this; omega), bind_ok] at hG
    simp only [List.drop_zero, Nat.sub_zero, Int.ofNat_eq_natCast] at hG
    rw [hiln] at hG
    rw [show (ofHPs s).buf.cfg.windowSize = s.HPConfig.WindowSize.toNat from h.cws.symm,
      show (ofHPs s).minMatch = Min.min 3 iln by show Min.min 3 s.HPConfig.InputLen.toNat = _; rw [h.cil, hiln'],
      show ((ofHPs s).kind == Kind.BHP) = false from rfl]
    clear hiln' hwn
    have hlenA : s.hashDictionary.ParserBuffer.Data.len ≤ s.hashDictionary.ParserBuffer.Data.arr.length := hD
    generalize hA : s.hashDictionary.ParserBuffer.Data.arr = A at hG hlenA ⊢
    -- the margin reslice `_p := s.Data[:inputEnd+7]`; `eI` = the Go value of `inputEnd`
    obtain ⟨eI, heI⟩ : ∃ eI : Int, eI = ((Wn + nN : Nat) : Int) - (iln : Int) + 1 := ⟨_, rfl⟩
    rw [← heI] at hG ⊢
    by_cases hmar : eI + 7 < 0 ∨ (A.length : Int) < eI + 7
    · rw [if_pos hmar]
      rw [slice_panic _ _ _ (by rw [hA]; omega)] at hG
      exact hG.symm
    rw [if_neg hmar, Option.bind_some]
    rw [slice_okI s.hashDictionary.ParserBuffer.Data 0 _ 0 (eI + 7).toNat rfl (by omega)
      (Nat.zero_le _) (by rw [hA]; omega), bind_ok] at hG
    simp only [List.drop_zero, Nat.sub_zero] at hG
    rw [hA, show Min.min (iln : Int) 3 = ((Min.min 3 iln : Nat) : Int) by omega] at hG
    -- the greedy loop
    obtain ⟨st', _, blk', hgl, hl1, ⟨t', rfl, ht'⟩, hdict', hiL, hli2, hseq', hlit', hswf', hli1⟩ :=
      greedy_run
        (ProbeW.hpProbeW s.HPConfig.WindowSize.toNat (Min.min 3 iln) (Wn + nN + 1 - iln) false (A.drop (Wn + nN)))
        (hashParser_Parse_loop_1 grow eI { arr := A, len := (eI + 7).toNat } { arr := A, len := Wn + nN }
          ((Min.min 3 iln : Nat) : Int))
        (fun s' => ofHash s'.hashDictionary.hash)
        (fun s' => ∃ t, s' = setT { hashDictionary := setD s.hashDictionary t0, HPConfig := s.HPConfig } t ∧
          TOK s.hashDictionary.hash.shift t)
        grow A (Wn + nN) (Wn + nN + 1 - iln) 0 (by omega) (by omega)
        (fun fuel ia s' blk lia hia => by
          rw [hashParser_Parse_loop_1]
          first | rw [if_neg (by omega)] | rw [if_pos (by omega)])
        (fun fuel i li ia lia s' blk hinv hia hlia _ hi hli hf => by
          obtain ⟨t, rfl, ht⟩ := hinv
          have hE : eI = ((Wn + nN + 1 - iln : Nat) : Int) := by omega
          have hE7 : (eI + 7).toNat = Wn + nN + 1 - iln + 7 := by omega
          rw [hE7]
          obtain ⟨r, hr, t1, ht1, hr1, hstp, hb⟩ := loop1_step grow eI _ A (Wn + nN) (Wn + nN + 1 - iln) (Min.min 3 iln) _
            fuel i li ia lia (setT { hashDictionary := setD s.hashDictionary t0, HPConfig := s.HPConfig } t) blk
            ⟨by show Wn + nN + 1 - iln + 7 ≤ A.length; omega, hmask, h.sh, hsh2,
              by show Wn + nN + 1 - iln + 7 < _; have := h.small; omega⟩
            ht hia hlia hE rfl hi (by omega) (by omega) (by omega) hli rfl (by omega) (by omega) (by omega)
          exact ⟨r, hr, _, ⟨t1, rfl, ht1⟩, hr1, hstp, hb⟩)
        fuel Wn Wn Wn Wn _ { Sequences := [], Literals := { arr := blk.Literals.arr, len := 0 } } [] [] (by omega) (Nat.le_refl _) rfl rfl (by omega) ⟨t0, rfl, ht0⟩ rfl rfl (Nat.zero_le _)
    replace hgl : ProbeW.greedyLoopW _ _ _
        { dict := ofHashT s.hashDictionary.hash t0, i := Wn, litIndex := Wn, seqs := [], lits := [] } = some st' := hgl
    replace hdict' : st'.dict = ofHashT s.hashDictionary.hash t' := hdict'
    rw [hl1, bind_ok] at hG
    dsimp only at hG
    rw [ProbeW.runGreedyW_of_loop hgl, Option.bind_some]
    dsimp only
    have hPt : ∀ w' : Nat, w' ≤ Wn + nN → ParseOK (withWT s (w' : Int) t') := fun w' hw' =>
      h.update w' (by omega) ht'
    have hpl : (A.take (Wn + nN)).length = Wn + nN := by rw [List.length_take]; omega
    unfold finishBlock
    -- the NoTrailingLiterals test: its two atoms as facts for `omega` (any spelling, either arm order)
    rcases noTrailing_cases flags hfl st'.seqs blk'.Sequences (by rw [hseq', List.length_map]) with
      ⟨hfin, hf1, hf2⟩ | ⟨hfin, hf⟩
    · rw [if_pos hfin]
      first | rw [if_pos (by omega)] at hG | rw [if_neg (by omega)] at hG
      simp only [bind_ok] at hG
      refine ⟨withWT s (st'.litIndex : Int) t', blk', hG.symm.trans ?_, ?_, by rw [← hA]; rfl, Or.inl rfl, hseq', hlit',
        hswf', hPt _ (by omega)⟩
      · rw [hWn, show ((st'.litIndex : Nat) : Int) - (Wn : Int) = ((st'.litIndex - Wn : Nat) : Int) by omega]
        rfl
      · rw [hdict']; rfl
    · rw [if_neg hfin]
      first | rw [if_neg (by omega)] at hG | rw [if_pos (by omega)] at hG
      rw [slice_okI _ _ ((Wn + nN : Nat) : Int) st'.litIndex (Wn + nN) rfl rfl (by omega)
        (by show Wn + nN ≤ A.length; omega)] at hG
      simp only [bind_ok] at hG
      refine ⟨withWT s ((Wn + nN : Nat) : Int) t',
        { Sequences := blk'.Sequences,
          Literals := Slice.append grow blk'.Literals ((A.drop st'.litIndex).take (Wn + nN - st'.litIndex)) },
        hG.symm.trans ?_, ?_, by rw [← hA]; rfl, Or.inl rfl, hseq', ?_,
        swf_append grow _ hswf' _, hPt _ (Nat.le_refl _)⟩
      · rw [hWn, hpl, show ((Wn + nN : Nat) : Int) - (Wn : Int) = ((Wn + nN - Wn : Nat) : Int) by omega]
        rfl
      · rw [hdict', hpl]; rfl
      · rw [(append_spec grow blk'.Literals hswf' _).1, hlit']
        show _ ++ (A.drop st'.litIndex).take (Wn + nN - st'.litIndex) = _ ++ (A.take (Wn + nN)).drop st'.litIndex
        rw [List.drop_take]

/-- **Go text → list-level model.**  For a Go state that abstracts to a state reachable through the API
    (`NewParser`, then any history of `Write`, `ReadFrom`, `Parse`, `Parse(nil)`, `Shrink`, `Reset`), the translated
    `Parse` does not panic and returns the representation of the LIST-LEVEL model `Parser.parse` — the function on
    which C01/C02/C03/C19 are proved. -/
theorem gen_hp_parse_model (grow : Nat → Nat → Nat) (fuel : Nat) (s : Gen.hashParser) (blk : Gen.Block') (flags : Int)
    (h : ParseOK s) (hfl : 0 ≤ flags) (hfuel : s.hashDictionary.ParserBuffer.Data.len + 3 ≤ fuel)
    (raw : Cfg) (s0 : Parser) (h0 : newParser .HP raw = some s0) (ops : List POp)
    (hreach : ofHPs s = (runOps (s0, Ghost.init) ops).1) :
    ∃ t blk', hashParser_Parse grow fuel s blk flags =
        Res.ok (t, blk', (((ofHPs s).parse flags.toNat).2.1 : Int), parseErr ((ofHPs s).parse flags.toNat).2.2.1) ∧
      ofHPs t = ((ofHPs s).parse flags.toNat).1 ∧ staleOf t = staleOf s ∧
      blk'.Sequences = ((ofHPs s).parse flags.toNat).2.2.2.seqs.map seqRep ∧
      blk'.Literals.data = ((ofHPs s).parse flags.toNat).2.2.2.lits ∧ SWF blk'.Literals ∧ ParseOK t := by
  exact parse_model_of (p := ofHPs s) (stale := staleOf s) (Or.inl rfl) h.backing raw s0 h0 ops hreach ofHPs staleOf ParseOK
    (gen_hp_parse grow fuel s blk flags h hfl hfuel)

/-- **`ParseOK` is what `init` establishes** (non-vacuity of the hypotheses of `gen_hp_parse`): for every
    configuration `NewParser` accepts, the translated `hashParser.init` on `new(hashParser)` yields a Go state that
    abstracts to the model's fresh parser and satisfies `ParseOK`.  (`gen_hp_parse` then shows that `Parse`
    preserves `ParseOK`.) -/
theorem gen_hp_init_parseOK (raw : Cfg) (p : Parser) (hp : newParser .HP raw = some p) :
    ∃ s', hashParser_init default (GenProps.toHP raw) = Res.ok (s', Gen.Err.ok) ∧ ofHPs s' = p ∧ ParseOK s' := by
  obtain ⟨s', h1, h2, h3⟩ := gen_hp_init_fresh raw p hp
  refine ⟨s', h1, h2, ?_⟩
  obtain ⟨hv, rfl⟩ := newParser_eq_some hp
  generalize setDefaults .HP (raw.restrict .HP) = c at hv h2
  obtain ⟨hb1, hb2, hb3, hb4', hb4⟩ := verify_hash_bounds (.inl rfl) hv
  obtain ⟨_, hbs⟩ := verify_static .HP c hv
  have hcfg : GenProps.ofHP s'.HPConfig = c := congrArg Parser.cfg h2
  have hbuf : ofPB s'.hashDictionary.ParserBuffer = PBuf.init c.bufCfg := congrArg Parser.buf h2
  have hdict : Dict.single (ofHash s'.hashDictionary.hash) =
      Dict.single (HashT.new c.inputLen.toNat c.hashBits.toNat) := congrArg Parser.dict h2
  injection hdict with hdict
  obtain ⟨hws, hbl, hw, hlen⟩ := fresh_pbuf h3.1 (cap := (PBuf.init c.bufCfg).cap) hbuf
  have hil : s'.hashDictionary.hash.inputLen.toNat = c.inputLen.toNat := congrArg HashT.inputLen hdict
  have hhb : 64 - s'.hashDictionary.hash.shift.toNat = c.hashBits.toNat := congrArg HashT.hashBits hdict
  have cW : s'.HPConfig.WindowSize = c.windowSize := congrArg Cfg.windowSize hcfg
  have cB : s'.HPConfig.BlockSize = c.blockSize := congrArg Cfg.blockSize hcfg
  have cI : s'.HPConfig.InputLen = c.inputLen := congrArg Cfg.inputLen hcfg
  have hbs' : 1 ≤ c.blockSize.toNat := hbs
  have hs64 := h3.2.2.2.2.1
  exact ⟨h3, by rw [cW, hws], by rw [cB, hbl], by rw [cI, hil], by rw [cB]; omega, by rw [hlen]; omega,
    by omega, by omega, by rw [hlen]; decide⟩

end LZ.GenHPParse

#print axioms LZ.GenHPParse.gen_hp_init_parseOK
#print axioms LZ.GenHPParse.gen_hp_parse_empty
#print axioms LZ.GenHPParse.gen_hp_parse
#print axioms LZ.GenHPParse.gen_hp_parse_model
