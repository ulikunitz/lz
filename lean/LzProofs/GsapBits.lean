/-
  The rank set of GSAP, connected to the bitset models.

  Three descriptions of `s.bits` (gsap.go / bitset.go) exist in the model:
    1. `GsapD.bits : Array Bool` with `memberBefore` / `memberAfter` / `insertRanks` (LzModel/Sap.lean),
       used by `gsapProbe`, `gsapSort` and so by `Parser.parse`;
    2. `BitsetM` (LzModel/Bitset.lean), a strictly ascending list of naturals;
    3. `BitsetW` (LzModel/BitsetW.lean), the word-level transcription of bitset.go
       (refines 2: LzProofs/BitsetProps.lean, `C12_bitset_refines`).
  This file ties 1 to 2 (`toM`) and to 3 (`BitsSim`), and carries the simulation from the single
  bitset operations through the probe, `sort()`, the greedy loop and `Parse` to whole histories
  (`gsapHistory_sim`): gsap.go run with the Go bitset (`gsapParseW`) returns what the model returns.

  What has to be discharged from the parser state.  The Go bitset grows on demand (`support`), so a
  word-level `insert` of a natural number never panics (`BitsetW.insert_refines`); nothing is "sized
  for `len(sa)`" in the Go code.  The size condition is needed on the other side: the `Array Bool`
  of the parser model has the fixed size `sa.size` and `setIfInBounds` silently ignores a rank
  `≥ bits.size`, where Go would insert it (`set_out_of_range_differs`).  The two agree because every
  rank the probe inserts is `isa[a]` for a position `a < len(t)` and so is `< len(t) = bits.size`
  (`Sap.SAOK`, `BitsSub.size`).
-/
import LzProofs.BitsetProps
import LzProofs.RunsGsap
namespace LZ
namespace GsapBits

/-! ## the abstraction `Array Bool → BitsetM` -/

/-- the marked ranks, ascending -/
def members (bits : Array Bool) : List Nat :=
  (List.range bits.size).filter fun r => bits.getD r false

/-- the set-level value a rank array stands for -/
def toM (bits : Array Bool) : BitsetM := ⟨members bits⟩

theorem mem_members {bits : Array Bool} {r : Nat} : r ∈ members bits ↔ bits.getD r false = true := by
  unfold members
  rw [List.mem_filter, List.mem_range]
  constructor
  · exact fun h => h.2
  · intro h
    refine ⟨?_, h⟩
    apply Nat.lt_of_not_le
    intro hle
    rw [Sap.getD_false_of_size_le bits hle] at h
    cases h

theorem getD_iff_mem (bits : Array Bool) (r : Nat) : bits.getD r false = true ↔ r ∈ members bits :=
  mem_members.symm

theorem members_sorted (bits : Array Bool) : (members bits).Pairwise (· < ·) :=
  List.Pairwise.filter _ List.pairwise_lt_range

theorem members_lt_size {bits : Array Bool} {r : Nat} (h : r ∈ members bits) : r < bits.size :=
  List.mem_range.1 (List.mem_filter.1 h).1

theorem members_eq_iff (b₁ b₂ : Array Bool) :
    members b₁ = members b₂ ↔ ∀ r, b₁.getD r false = b₂.getD r false := by
  constructor
  · intro h r
    have h1 := @mem_members b₁ r
    rw [h, mem_members] at h1
    exact Bool.eq_iff_iff.2 h1.symm
  · intro h
    apply BitsetW.sorted_ext (members_sorted _) (members_sorted _)
    intro x
    rw [mem_members, mem_members, h]

/-! ## the queries -/

/-- the downward scan of the parser model is `BitsetM.memberBefore` of the abstraction:
    both return the largest member strictly below `j` -/
theorem memberBefore_eq (bits : Array Bool) (j : Nat) :
    memberBefore bits j = BitsetM.memberBefore (toM bits) j :=
  (Sap.memberBefore_isPred bits j).unique
    ((BitsetW.model_before_isPred (members_sorted bits) j).congr fun _ => by rw [mem_members])

/-- the upward scan of the parser model is `BitsetM.memberAfter` of the abstraction:
    both return the smallest member strictly above `j` -/
theorem memberAfter_eq (bits : Array Bool) (j : Nat) :
    memberAfter bits j = BitsetM.memberAfter (toM bits) j :=
  (Sap.memberAfter_isGE bits j).unique
    ((BitsetW.model_after_isGE (members_sorted bits) j).congr fun _ => by rw [mem_members])

/-! ## insertion and `sort()` -/

/-- the single insert of the greedy loop (`s.bits.insert(j)`) -/
theorem members_set (bits : Array Bool) (j : Nat) (hj : j < bits.size) :
    members (bits.setIfInBounds j true) = BitsetM.insertOne (members bits) j := by
  apply BitsetW.sorted_ext (members_sorted _) (BitsetW.sorted_insertOne _ _ (members_sorted _))
  intro x
  rw [mem_members, BitsetW.mem_insertOne, mem_members, Sap.getD_setIfInBounds_bool]
  by_cases hx : x = j
  · subst hx; simp [hj]
  · simp [hx]

theorem toM_set (bits : Array Bool) (j : Nat) (hj : j < bits.size) :
    BitsetM.insert (toM bits) [j] = some (toM (bits.setIfInBounds j true)) := by
  simp only [BitsetM.insert, toM, List.foldl_cons, List.foldl_nil, members_set bits j hj]

/-- a rank outside the array is dropped by the parser model whereas the bitset inserts it: without
    `j < bits.size` the correspondence fails -/
theorem set_out_of_range_differs (bits : Array Bool) (j : Nat) (hj : bits.size ≤ j) :
    BitsetM.insert (toM bits) [j] ≠ some (toM (bits.setIfInBounds j true)) := by
  rw [Array.setIfInBounds_eq_of_size_le hj]
  simp only [BitsetM.insert, toM, List.foldl_cons, List.foldl_nil, ne_eq, Option.some.injEq,
    BitsetM.mk.injEq]
  intro h
  have h1 : j ∈ BitsetM.insertOne (members bits) j := (BitsetW.mem_insertOne _ _ _).2 (Or.inr rfl)
  rw [h] at h1
  have := members_lt_size h1
  omega

/-- the ranks of the positions `a, a+1, …, a+cnt-1` -/
def rankList (isa : Array Nat) (a cnt : Nat) : List Nat :=
  (List.range cnt).map fun t => isa.getD (a + t) 0

theorem mem_rankList {isa : Array Nat} {a cnt x : Nat} :
    x ∈ rankList isa a cnt ↔ ∃ t, t < cnt ∧ isa.getD (a + t) 0 = x := by
  simp only [rankList, List.mem_map, List.mem_range]

theorem rankList_succ (isa : Array Nat) (a cnt : Nat) :
    rankList isa a (cnt + 1) = isa.getD a 0 :: rankList isa (a + 1) cnt := by
  unfold rankList
  rw [List.range_succ_eq_map, List.map_cons, List.map_map]
  simp only [Nat.add_zero, List.cons.injEq, true_and]
  apply List.map_congr_left
  intro t _
  simp only [Function.comp]
  congr 1
  omega

/-- `insertRanks` (the loop `for i++; i < litIndex; i++ { s.bits.insert(int(s.isa[i])) }` and the loop
    of `sort()`) inserts the rank list, provided every rank is inside the array -/
theorem members_insertRanks (isa : Array Nat) (cnt : Nat) (bits : Array Bool) (a : Nat)
    (hr : ∀ t, t < cnt → isa.getD (a + t) 0 < bits.size) :
    members (insertRanks isa bits a cnt) =
      (rankList isa a cnt).foldl BitsetM.insertOne (members bits) := by
  apply BitsetW.sorted_ext (members_sorted _)
    (BitsetW.sorted_foldl_insertOne _ _ (members_sorted _))
  intro x
  rw [mem_members, BitsetW.mem_foldl_insertOne, mem_members, Sap.insertRanks_spec, mem_rankList]
  constructor
  · rintro (h | ⟨_, t, ht, e⟩)
    · exact Or.inl h
    · exact Or.inr ⟨t, ht, e⟩
  · rintro (h | ⟨t, ht, e⟩)
    · exact Or.inl h
    · exact Or.inr ⟨by rw [← e]; exact hr t ht, t, ht, e⟩

theorem toM_insertRanks (isa : Array Nat) (cnt : Nat) (bits : Array Bool) (a : Nat)
    (hr : ∀ t, t < cnt → isa.getD (a + t) 0 < bits.size) :
    BitsetM.insert (toM bits) (rankList isa a cnt) = some (toM (insertRanks isa bits a cnt)) := by
  simp only [BitsetM.insert, toM, members_insertRanks isa cnt bits a hr]

/-- a sequence of single `insert(r)` calls, as the Go loops perform them -/
def insertSeqM (b : BitsetM) : List Nat → Option BitsetM
  | [] => some b
  | r :: rs => (b.insert [r]).bind fun b' => insertSeqM b' rs

/-- … is one variadic insert -/
theorem insertSeqM_eq (l : List Nat) (b : BitsetM) : insertSeqM b l = b.insert l := by
  induction l generalizing b with
  | nil => rfl
  | cons r rs ih =>
    simp only [insertSeqM, BitsetM.insert, List.foldl_cons, List.foldl_nil, Option.bind_some, ih]

theorem toM_insertRanks_seq (isa : Array Nat) (cnt : Nat) (bits : Array Bool) (a : Nat)
    (hr : ∀ t, t < cnt → isa.getD (a + t) 0 < bits.size) :
    insertSeqM (toM bits) (rankList isa a cnt) = some (toM (insertRanks isa bits a cnt)) := by
  rw [insertSeqM_eq, toM_insertRanks isa cnt bits a hr]

/-- the fresh array of `gsapSort` stands for the empty set: `s.bits.clear()` -/
theorem members_replicate (n : Nat) : members (Array.replicate n false) = [] := by
  unfold members
  rw [List.filter_eq_nil_iff]
  intro r _
  simp only [Array.getD_eq_getD_getElem?, Array.getElem?_replicate]
  split <;> simp

theorem toM_replicate (n : Nat) (b : BitsetM) : toM (Array.replicate n false) = b.clear := by
  simp only [toM, members_replicate, BitsetM.clear]

/-- `gsap.sort()`: the rank set after `sort()` is `clear` followed by the inserts of the ranks of
    the window positions `0 … W-1` (whatever the bitset contained before) -/
theorem toM_gsapSort (data : List Byte) (w : Nat) (hw : w ≤ data.length) (prev : BitsetM) :
    insertSeqM prev.clear (rankList (gsapSort data w).isa 0 w) = some (toM (gsapSort data w).bits) := by
  have hs := Sap.saok_gsapSort data w
  have hb : (gsapSort data w).bits =
      insertRanks (gsapSort data w).isa (Array.replicate (gsapSort data w).sa.size false) 0 w := rfl
  rw [hb, ← toM_replicate (gsapSort data w).sa.size prev]
  apply toM_insertRanks_seq
  intro t ht
  rw [Array.size_replicate, hs.size_sa]
  exact (hs.sa_isa _ (by omega)).1

/-! ## the simulation relation to the word level -/

/-- the rank array `bits` of the parser model and the word-level bitset `w` (backing array with
    arbitrary stale contents, `len`, `off`) stand for the same set -/
def BitsSim (bits : Array Bool) (w : BitsetW) : Prop :=
  BitsetW.WInv w ∧ BitsetW.members w = members bits

theorem bitsSim_iff (bits : Array Bool) (w : BitsetW) :
    BitsSim bits w ↔ (BitsetW.WInv w ∧ ∀ r, BitsetW.mem w r ↔ bits.getD r false = true) := by
  unfold BitsSim
  constructor
  · rintro ⟨h1, h2⟩
    refine ⟨h1, fun r => ?_⟩
    rw [← BitsetW.mem_members, h2, mem_members]
  · rintro ⟨h1, h2⟩
    refine ⟨h1, BitsetW.sorted_ext (BitsetW.members_sorted _) (members_sorted _) fun x => ?_⟩
    rw [BitsetW.mem_members, mem_members, h2]

/-- in the terms of BitsetProps: `w` refines the abstraction of `bits` -/
theorem BitsSim.refines {bits : Array Bool} {w : BitsetW} (h : BitsSim bits w) :
    BitsetW.Refines w (toM bits) :=
  ⟨h.1, by unfold toM; rw [h.2]⟩

theorem BitsSim.of_refines {bits : Array Bool} {w : BitsetW} (h : BitsetW.Refines w (toM bits)) :
    BitsSim bits w :=
  ⟨h.1, (BitsetM.mk.inj h.2).symm⟩

/-- `s.bits.memberBefore(j)` of bitset.go returns what the scan of the model returns -/
theorem BitsSim.before {bits : Array Bool} {w : BitsetW} (h : BitsSim bits w) (j : Nat) :
    w.memberBefore j = memberBefore bits j := by
  rw [BitsetW.memberBefore_refines, h.2, memberBefore_eq, toM]

theorem BitsSim.after {bits : Array Bool} {w : BitsetW} (h : BitsSim bits w) (j : Nat) :
    w.memberAfter j = memberAfter bits j := by
  rw [BitsetW.memberAfter_refines, h.2, memberAfter_eq, toM]

/-- for a rank inside the array the word-level insert does not panic and keeps the
    relation -/
theorem BitsSim.insert {bits : Array Bool} {w : BitsetW} (h : BitsSim bits w) (j : Nat)
    (hj : j < bits.size) :
    ∃ w', w.insert [j] = some w' ∧ BitsSim (bits.setIfInBounds j true) w' := by
  obtain ⟨w', e, inv', hm⟩ := BitsetW.insert_members w h.1 [j]
  refine ⟨w', e, inv', ?_⟩
  rw [hm, h.2, members_set bits j hj]
  rfl

theorem insertW_no_panic {w : BitsetW} (hw : BitsetW.WInv w) (j : Nat) : ∃ w', w.insert [j] = some w' ∧ BitsetW.WInv w' := by
  obtain ⟨w', e, inv', _⟩ := BitsetW.insert_members w hw [j]
  exact ⟨w', e, inv'⟩

/-- `s.bits.clear()` against the fresh all-`false` array, whatever the backing array holds -/
theorem BitsSim.clear (w : BitsetW) (n : Nat) : BitsSim (Array.replicate n false) w.clear :=
  ⟨Nat.zero_le _, by rw [members_replicate]; rfl⟩

theorem BitsSim.empty : BitsSim #[] BitsetW.empty :=
  ⟨BitsetW.empty_inv, rfl⟩

theorem BitsSim.congr {b₁ b₂ : Array Bool} {w : BitsetW} (h : BitsSim b₁ w)
    (e : ∀ r, b₁.getD r false = b₂.getD r false) : BitsSim b₂ w :=
  ⟨h.1, by rw [h.2]; exact (members_eq_iff b₁ b₂).2 e⟩

/-- the loops `for … { s.bits.insert(int(s.isa[i])) }` of gsap.go on the word-level bitset;
    `none` = an insert panicked -/
def insertRanksW (isa : Array Nat) (w : BitsetW) (a : Nat) : Nat → Option BitsetW
  | 0 => some w
  | n+1 =>
    match w.insert [isa.getD a 0] with
    | some w' => insertRanksW isa w' (a + 1) n
    | none => none

theorem BitsSim.insertRanks (isa : Array Nat) : ∀ (cnt : Nat) (bits : Array Bool) (w : BitsetW) (a : Nat),
    BitsSim bits w → (∀ t, t < cnt → isa.getD (a + t) 0 < bits.size) →
    ∃ w', insertRanksW isa w a cnt = some w' ∧ BitsSim (LZ.insertRanks isa bits a cnt) w' := by
  intro cnt
  induction cnt with
  | zero => intro bits w a h _; exact ⟨w, rfl, h⟩
  | succ cnt ih =>
    intro bits w a h hr
    obtain ⟨w1, e1, h1⟩ := h.insert (isa.getD a 0) (hr 0 (by omega))
    obtain ⟨w2, e2, h2⟩ := ih (bits.setIfInBounds (isa.getD a 0) true) w1 (a + 1) h1 (fun t ht => by
      rw [Array.size_setIfInBounds]
      have := hr (t + 1) (by omega)
      rwa [show a + (t + 1) = a + 1 + t by omega] at this)
    refine ⟨w2, ?_, h2⟩
    simp only [insertRanksW, e1, e2]

/-! ### the bitset invariant of a block -/

/-- the invariant of the word-level bitset while the block `p = data[:e]` is parsed with a suffix array of `N` entries -/
structure _root_.LZ.GenGSAP.Marks (N e : Nat) (saN : Array Nat) (w : BitsetW) : Prop where
  inv : BitsetW.WInv w
  mark : ∀ r, BitsetW.mem w r → r < N ∧ saN.getD r 0 < e
  span : w.len = 0 ∨ w.off + w.len ≤ N / 64 + 1

theorem marks_insert {N e : Nat} {saN : Array Nat} {w : BitsetW} (hm : GenGSAP.Marks N e saN w) (j : Nat) (hj : j < N)
    (hs : saN.getD j 0 < e) : ∃ w', w.insert [j] = some w' ∧ GenGSAP.Marks N e saN w' := by
  obtain ⟨w', e1, i1, m1, s1⟩ := BitsetW.insert_span w hm.inv j (N / 64 + 1)
    (by have := Nat.div_le_div_right (c := 64) (Nat.le_of_lt hj); omega) hm.span
  refine ⟨w', e1, i1, fun r hr => ?_, Or.inr s1⟩
  rcases (m1 r).1 hr with h | h
  · exact hm.mark r h
  · subst h; exact ⟨hj, hs⟩

/-- the ranks of the positions `a, …, a+n-1 < e` -/
theorem marks_insertRanks {N e : Nat} {saN isaN : Array Nat}
    (hrk : ∀ i, i < e → isaN.getD i 0 < N ∧ saN.getD (isaN.getD i 0) 0 = i) :
    ∀ (n a : Nat) (w : BitsetW), GenGSAP.Marks N e saN w → a + n ≤ e →
      ∃ w', insertRanksW isaN w a n = some w' ∧ GenGSAP.Marks N e saN w' := by
  intro n
  induction n with
  | zero => intro a w hm _; exact ⟨w, rfl, hm⟩
  | succ n ih =>
    intro a w hm ha
    obtain ⟨h1, h2⟩ := hrk a (by omega)
    obtain ⟨w1, e1, m1⟩ := marks_insert hm (isaN.getD a 0) h1 (by rw [h2]; omega)
    obtain ⟨w2, e2, m2⟩ := ih (a + 1) w1 m1 (by omega)
    exact ⟨w2, by simp only [insertRanksW, e1, e2], m2⟩

/-! ## the probe and `sort()` over the word-level bitset -/

/-- the GSAP dictionary with the bitset of bitset.go in place of the rank array -/
structure GsapDW where
  sa : Array Nat
  isa : Array Nat
  bits : BitsetW
deriving Repr, Inhabited, DecidableEq

/-- `var s gsap` after `init`: no suffix array, `s.bits.clear()` on the zero bitset -/
def GsapDW.empty : GsapDW := { sa := #[], isa := #[], bits := BitsetW.empty }

/-- `s.sa = s.sa[:0]; s.isa = s.isa[:0]; s.bits.clear()` (`Reset`, `Shrink`): the backing array of
    the bitset, with its stale contents, is kept -/
def GsapDW.reset (g : GsapDW) : GsapDW := { sa := #[], isa := #[], bits := g.bits.clear }

/-- one iteration of the loop of `gsap.Parse`, transcribed like `gsapProbe` but with the bitset
    operations of bitset.go; `none` = an index-out-of-range panic inside `insert` -/
def gsapProbeW (ws minMatch : Nat)
    (g : GsapDW) (p : List Byte) (i _li : Nat) : Option (GsapDW × Option (Nat × Nat × Nat)) :=
  let j := g.isa.getD i 0
  match g.bits.insert [j] with                               -- s.bits.insert(j)
  | none => none
  | some bits =>
    let g1 := { g with bits := bits }
    let (f, m) := match bits.memberBefore j with             -- k1, ok1 := s.bits.memberBefore(j)
      | some k1 => let f := g.sa.getD k1 0; (f, lcpLen (p.drop f) (p.drop i))
      | none => (0, 0)
    let (f, m) := match bits.memberAfter j with              -- k2, ok2 := s.bits.memberAfter(j)
      | some k2 =>
        let f2 := g.sa.getD k2 0
        let m2 := lcpLen (p.drop f2) (p.drop i)
        if m2 > m ∨ (m2 = m ∧ f2 > f) then (f2, m2) else (f, m)
      | none => (f, m)
    if m < minMatch then some (g1, none)
    else if ¬ (f < i ∧ i - f < ws) then some (g1, none)
    else
      match insertRanksW g.isa bits (i + 1) (m - 1) with     -- for i++; i < litIndex; i++ { insert }
      | none => none
      | some bits' => some ({ g1 with bits := bits' }, some (i, m, i - f))

/-- the candidate computed from the two neighbours the word-level bitset reports -/
def candW (sa : Array Nat) (bits : BitsetW) (p : List Byte) (i j : Nat) : Nat × Nat :=
  let (f, m) := match bits.memberBefore j with
    | some k1 => let f := sa.getD k1 0; (f, lcpLen (p.drop f) (p.drop i))
    | none => (0, 0)
  match bits.memberAfter j with
    | some k2 =>
      let f2 := sa.getD k2 0
      let m2 := lcpLen (p.drop f2) (p.drop i)
      if m2 > m ∨ (m2 = m ∧ f2 > f) then (f2, m2) else (f, m)
    | none => (f, m)

/-- the candidate of the rank neighbour below -/
def cand1 (saN : Array Nat) (p : List Byte) (i : Nat) : Option Nat → Nat × Nat
  | some k1 => (saN.getD k1 0, lcpLen (p.drop (saN.getD k1 0)) (p.drop i))
  | none => (0, 0)

/-- … and the choice between it and the candidate of the rank neighbour above -/
def cand2 (saN : Array Nat) (p : List Byte) (i : Nat) (fm : Nat × Nat) : Option Nat → Nat × Nat
  | some k2 =>
    if lcpLen (p.drop (saN.getD k2 0)) (p.drop i) > fm.2 ∨
        (lcpLen (p.drop (saN.getD k2 0)) (p.drop i) = fm.2 ∧ saN.getD k2 0 > fm.1)
    then (saN.getD k2 0, lcpLen (p.drop (saN.getD k2 0)) (p.drop i)) else fm
  | none => fm

theorem candW_eq2 (saN : Array Nat) (w : BitsetW) (p : List Byte) (i j : Nat) :
    candW saN w p i j = cand2 saN p i (cand1 saN p i (w.memberBefore j)) (w.memberAfter j) := by
  unfold candW cand1 cand2
  cases w.memberBefore j <;> cases w.memberAfter j <;> rfl

theorem candW_le (saN : Array Nat) (w : BitsetW) (p : List Byte) (i j B : Nat)
    (h : ∀ f, lcpLen (p.drop f) (p.drop i) ≤ B) : (candW saN w p i j).2 ≤ B := by
  rw [candW_eq2]
  have h1 : (cand1 saN p i (w.memberBefore j)).2 ≤ B := by
    cases w.memberBefore j
    · exact Nat.zero_le _
    · exact h _
  generalize cand1 saN p i (w.memberBefore j) = fm at h1 ⊢
  cases w.memberAfter j with
  | none => exact h1
  | some k2 =>
    simp only [cand2]
    split
    · exact h _
    · exact h1

theorem gsapProbeW_eq (ws minMatch : Nat) (g : GsapDW) (p : List Byte) (i li : Nat) :
    gsapProbeW ws minMatch g p i li =
      match g.bits.insert [g.isa.getD i 0] with
      | none => none
      | some bits =>
        let c := candW g.sa bits p i (g.isa.getD i 0)
        if c.2 < minMatch then some ({ g with bits := bits }, none)
        else if ¬ (c.1 < i ∧ i - c.1 < ws) then some ({ g with bits := bits }, none)
        else
          match insertRanksW g.isa bits (i + 1) (c.2 - 1) with
          | none => none
          | some bits' => some ({ g with bits := bits' }, some (i, c.2, i - c.1)) := by
  rfl

/-- the two dictionaries agree: same arrays, and the bitsets stand for the same rank set -/
structure GSim (g : GsapD) (gw : GsapDW) : Prop where
  sa : gw.sa = g.sa
  isa : gw.isa = g.isa
  bits : BitsSim g.bits gw.bits

theorem GSim.empty : GSim GsapD.empty GsapDW.empty := ⟨rfl, rfl, BitsSim.empty⟩

theorem GSim.reset (gw : GsapDW) : GSim GsapD.empty gw.reset :=
  ⟨rfl, rfl, BitsSim.clear gw.bits 0⟩

/-- dropping the suffix array (`s.sa = s.sa[:0]` after a truncated block) -/
theorem GSim.dropSA {g : GsapD} {gw : GsapDW} (h : GSim g gw) :
    GSim { g with sa := #[] } { gw with sa := #[] } := ⟨rfl, h.isa, h.bits⟩

/-- under the simulation relation the probe sees the same neighbours and so
    computes the same candidate `(f, m)` -/
theorem candW_eq {bits : Array Bool} {w : BitsetW} (h : BitsSim bits w) (sa : Array Nat)
    (p : List Byte) (i j : Nat) : candW sa w p i j = Sap.gsapCand sa bits p i j := by
  unfold candW Sap.gsapCand
  rw [h.before, h.after]
  rfl

/-- the probe: if the dictionaries are related and the ranks of all positions `< N` are inside
    the rank array, then at a position `i < N` of a block `p` of at most `N` bytes the word-level probe
    does not panic, returns the same result and the new dictionaries are related again -/
theorem gsapProbe_sim {g : GsapD} {gw : GsapDW} (ws mm : Nat) (p : List Byte) (i li N : Nat)
    (hG : GSim g gw) (hr : ∀ a, a < N → g.isa.getD a 0 < g.bits.size) (hi : i < N) (hp : p.length ≤ N) :
    ∃ gw', gsapProbeW ws mm gw p i li = some (gw', (gsapProbe ws mm g p i li).2) ∧
      GSim (gsapProbe ws mm g p i li).1 gw' := by
  rw [Sap.gsapProbe_eq, gsapProbeW_eq, hG.isa, hG.sa]
  obtain ⟨w1, e1, h1⟩ := hG.bits.insert (g.isa.getD i 0) (hr i hi)
  simp only [e1, candW_eq h1]
  have hc := Sap.gsapCand_snd_le g.sa (g.bits.setIfInBounds (g.isa.getD i 0) true) p i (g.isa.getD i 0)
  generalize Sap.gsapCand g.sa (g.bits.setIfInBounds (g.isa.getD i 0) true) p i (g.isa.getD i 0) = c
    at hc
  by_cases c1 : c.2 < mm
  · simp only [c1, if_true]
    exact ⟨_, rfl, rfl, rfl, h1⟩
  · simp only [c1, if_false]
    by_cases c2 : c.1 < i ∧ i - c.1 < ws
    · simp only [c2, and_self, not_true_eq_false, if_false]
      obtain ⟨w2, e2, h2⟩ := h1.insertRanks g.isa (c.2 - 1) _ w1 (i + 1) (fun t ht => by
        rw [Array.size_setIfInBounds]
        exact hr _ (by omega))
      simp only [e2]
      exact ⟨_, rfl, rfl, rfl, h2⟩
    · simp only [c2, not_false_eq_true, if_true]
      exact ⟨_, rfl, rfl, rfl, h1⟩

/-- the same with the hypotheses of the parser state: the suffix array in use is that of `t`
    (`Sap.SAOK`) and the rank array has one entry per suffix -/
theorem gsapProbe_sim_saok {g : GsapD} {gw : GsapDW} {t : List Byte} (ws mm : Nat) (p : List Byte)
    (i li : Nat) (hG : GSim g gw) (hs : Sap.SAOK t g.sa g.isa) (hb : g.bits.size = t.length)
    (hi : i < t.length) (hp : p.length ≤ t.length) :
    ∃ gw', gsapProbeW ws mm gw p i li = some (gw', (gsapProbe ws mm g p i li).2) ∧
      GSim (gsapProbe ws mm g p i li).1 gw' :=
  gsapProbe_sim ws mm p i li t.length hG (fun a ha => by rw [hb]; exact (hs.sa_isa a ha).1) hi hp

/-- `gsap.sort()` over the word-level bitset: `s.bits.clear()`, then one insert per window position.
    (`old` = the dictionary before the call; only the backing array of its bitset matters.) -/
def gsapSortW (old : GsapDW) (data : List Byte) (w : Nat) : Option GsapDW :=
  let sa := (saSpec data).toArray
  let isa := invertSA sa
  match insertRanksW isa old.bits.clear 0 w with
  | some bits => some { sa := sa, isa := isa, bits := bits }
  | none => none

theorem gsapSort_sim (old : GsapDW) (data : List Byte) (w : Nat)
    (hw : w ≤ data.length) :
    ∃ gw', gsapSortW old data w = some gw' ∧ GSim (gsapSort data w) gw' := by
  have hs := Sap.saok_gsapSort data w
  obtain ⟨w2, e2, h2⟩ := (BitsSim.clear old.bits (gsapSort data w).sa.size).insertRanks
    (gsapSort data w).isa w _ _ 0 (fun t ht => by
      rw [Array.size_replicate, hs.size_sa]
      exact (hs.sa_isa _ (by omega)).1)
  refine ⟨{ sa := (gsapSort data w).sa, isa := (gsapSort data w).isa, bits := w2 }, ?_, rfl, rfl, h2⟩
  unfold gsapSortW
  simp only
  have : insertRanksW (invertSA (saSpec data).toArray) old.bits.clear 0 w = some w2 := e2
  rw [this]
  rfl

/-! ## the greedy loop -/

/-- the finder of the word-level run: the dictionary is `none` once an insert has panicked -/
def probeW (ws mm : Nat) : Option GsapDW → List Byte → Nat → Nat →
    Option GsapDW × Option (Nat × Nat × Nat)
  | none, _, _, _ => (none, none)
  | some g, p, i, li =>
    match gsapProbeW ws mm g p i li with
    | some (g', r) => (some g', r)
    | none => (none, none)

/-- two loop states agree: same counters and output, related dictionaries (no panic so far) -/
structure LSim (st : LoopSt GsapD) (su : LoopSt (Option GsapDW)) : Prop where
  i : su.i = st.i
  litIndex : su.litIndex = st.litIndex
  seqs : su.seqs = st.seqs
  lits : su.lits = st.lits
  dict : ∃ gw, su.dict = some gw ∧ GSim st.dict gw

/-- the loop of `gsap.Parse` over a block `t.take e`, `t` the text of the suffix array in use:
    from related states the run over the word-level bitset never panics, emits the same sequences
    and literals and ends in a related state.  (`Sap.GD`, the dictionary side of the loop: the suffix
    array stays that of `g` and the rank array keeps its `len(t)` entries.) -/
theorem gsapLoop_sim (t : List Byte) (g : GsapD) (w e ws mm : Nat)
    (hs : Sap.SAOK t g.sa g.isa) (hb : g.bits.size = t.length) (he : e ≤ t.length) (hmm : 1 ≤ mm)
    (st : LoopSt GsapD) (su : LoopSt (Option GsapDW)) (hJ : Sap.GD g w e st) (h : LSim st su) :
    LSim (greedyLoop ⟨gsapProbe ws mm⟩ (t.take e) e st) (greedyLoop ⟨probeW ws mm⟩ (t.take e) e su) := by
  have hplen : (t.take e).length = e := List.length_take_of_le he
  -- one probe: the word-level finder answers like `gsapProbe` and keeps the dictionaries related
  have key : ∀ (st : LoopSt GsapD) (su : LoopSt (Option GsapDW)), st.i < e → Sap.GD g w e st →
      LSim st su →
      ∃ gw', probeW ws mm su.dict (t.take e) su.i su.litIndex =
          (some gw', (gsapProbe ws mm st.dict (t.take e) st.i st.litIndex).2) ∧
        GSim (gsapProbe ws mm st.dict (t.take e) st.i st.litIndex).1 gw' := by
    intro st su hi hJ h
    obtain ⟨gw, e1, hG⟩ := h.dict
    obtain ⟨gw', e2, hG'⟩ := gsapProbe_sim_saok (t := t) ws mm (t.take e) st.i st.litIndex hG
      (hJ.saok hs) (by rw [hJ.dict]; exact (Sap.insertRanks_size _ _ _ _).trans hb) (by omega)
      (by omega)
    refine ⟨gw', ?_, hG'⟩
    rw [e1, h.i, h.litIndex]
    simp only [probeW, e2]
  induction st using greedyLoop.induct ⟨gsapProbe ws mm⟩ (t.take e) e generalizing su with
  | case1 st hi d hp ih =>
    obtain ⟨gw', e2, hG'⟩ := key st su hi hJ h
    have hp' : gsapProbe ws mm st.dict (t.take e) st.i st.litIndex = (d, none) := hp
    rw [hp'] at e2 hG'
    rw [greedyLoop_none _ _ _ st d hi hp,
      greedyLoop_none ⟨probeW ws mm⟩ _ _ su (some gw') (by rw [h.i]; exact hi) e2]
    exact ih _ (hJ.none hi hp')
      ⟨by simp only [h.i], h.litIndex, h.seqs, h.lits, gw', rfl, hG'⟩
  | case2 st hi d s k o hp hk q ih =>
    obtain ⟨gw', e2, hG'⟩ := key st su hi hJ h
    have hp' : gsapProbe ws mm st.dict (t.take e) st.i st.litIndex = (d, some (s, k, o)) := hp
    rw [hp'] at e2 hG'
    rw [greedyLoop_some _ _ _ st d s k o hi hp hk,
      greedyLoop_some ⟨probeW ws mm⟩ _ _ su (some gw') s k o (by rw [h.i]; exact hi) e2
        (by rw [h.i]; exact hk)]
    refine ih _ ((hJ.some hmm hplen hp').2.2.2 _ _)
      ⟨rfl, rfl, ?_, ?_, gw', rfl, hG'⟩
    · simp only [h.seqs, h.litIndex]
      rfl
    · simp only [h.lits, h.litIndex]
      rfl
  | case3 st hi d s k o hp hk =>
    obtain ⟨rfl, hk', -⟩ := hJ.some hmm hplen (show gsapProbe ws mm st.dict _ _ _ = _ from hp)
    omega
  | case4 st hi =>
    rw [greedyLoop_done _ _ _ st hi, greedyLoop_done _ _ _ su (by rw [h.i]; exact hi)]
    exact h

/-! ## `Parse`, reachable states, histories -/

theorem runGreedy_sim (t : List Byte) (e ws mm w flags : Nat) (g1 : GsapD) (g1w : GsapDW)
    (hs : Sap.SAOK t g1.sa g1.isa) (he : e ≤ t.length) (hmm : 1 ≤ mm) (hwe : w ≤ e)
    (hb : BitsSub g1.sa g1.bits t.length w) (hG : GSim g1 g1w) :
    ∃ gw', Parser.runGreedy ⟨probeW ws mm⟩ (some g1w) (t.take e) w e flags =
        (some gw', (Parser.runGreedy ⟨gsapProbe ws mm⟩ g1 (t.take e) w e flags).2) ∧
      GSim (Parser.runGreedy ⟨gsapProbe ws mm⟩ g1 (t.take e) w e flags).1 gw' := by
  have hL := gsapLoop_sim t g1 w e ws mm hs hb.size he hmm
    { dict := g1, i := w, litIndex := w, seqs := [], lits := [] }
    { dict := some g1w, i := w, litIndex := w, seqs := [], lits := [] }
    (Sap.GD.init g1 hwe) ⟨rfl, rfl, rfl, rfl, g1w, rfl, hG⟩
  obtain ⟨gw', e1, hG'⟩ := hL.dict
  refine ⟨gw', ?_, hG'⟩
  unfold Parser.runGreedy finishBlock
  simp only
  rw [hL.litIndex, hL.seqs, hL.lits, e1]

/-- `gsap.Parse(&blk, flags)` over the word-level bitset, following the `.gsap` branch of
    `Parser.parse`.  Only the buffer and the configuration of `s` are used, not `s.dict`
    (`gsapParseW_dict`).  `none` = a bitset operation panicked. -/
def gsapParseW (s : Parser) (gw : GsapDW) (flags : Nat) : Option (GsapDW × Nat × Err × Block) :=
  if s.blockN = 0 then some (gw, 0, .empty, ⟨[], []⟩)
  else
    let w := s.buf.w
    let p := s.blockPrefix
    match (if w + s.blockN > gw.sa.size then gsapSortW gw s.buf.data w else some gw) with
    | none => none
    | some g1 =>
      let r := Parser.runGreedy ⟨probeW s.buf.cfg.windowSize s.minMatch⟩ (some g1) p w p.length flags
      match r.1 with
      | none => none
      | some g2 =>
        let g' := if flags % 2 = 1 ∧ r.2.2.1.seqs ≠ [] ∧ r.2.2.2 < p.length then { g2 with sa := #[] } else g2
        some (g', r.2.1 - w, .ok, r.2.2.1)

theorem gsapParseW_dict (s : Parser) (d : Dict) (gw : GsapDW) (flags : Nat) :
    gsapParseW { s with dict := d } gw flags = gsapParseW s gw flags := by rfl

/-- `Parse` on a state satisfying the GSAP state invariant (`GsapW`, LzProofs/RunsGsap.lean: no
    suffix array, or the suffix array of a prefix `t` of the buffer with a rank array of `len(t)`
    entries marking only positions `< W`): with the bitset of bitset.go in place of the rank array
    no operation panics, `Parse` returns the same `n`, error and block, and the new dictionaries are
    related again. -/
theorem gsapParse_sim (s : Parser) (g : GsapD) (gw : GsapDW) (flags : Nat) (hd : s.dict = .gsap g)
    (hW : GsapW s g) (hw : s.buf.w ≤ s.buf.data.length) (hmm : 1 ≤ s.minMatch) (hG : GSim g gw) :
    ∃ g' gw', (s.parse flags).1.dict = .gsap g' ∧
      gsapParseW s gw flags = some (gw', (s.parse flags).2) ∧ GSim g' gw' := by
  by_cases hn : s.blockN = 0
  · rw [Parser.parse_empty s flags hn]
    refine ⟨g, gw, hd, ?_, hG⟩
    unfold gsapParseW
    rw [if_pos hn]
  obtain ⟨t, g1, hg1, h2, h3, h4, hpre, hparse⟩ := parse_gsapW s g flags hd hn hw hW
  have hG1 : ∃ g1w, (if s.buf.w + s.blockN > gw.sa.size then gsapSortW gw s.buf.data s.buf.w
      else some gw) = some g1w ∧ GSim g1 g1w := by
    rw [hG.sa, hg1, Sap.gsapG]
    split
    · exact gsapSort_sim gw s.buf.data s.buf.w hw
    · exact ⟨gw, rfl, hG⟩
  obtain ⟨g1w, eg1, hG1⟩ := hG1
  obtain ⟨gw2, eR, hG2⟩ := runGreedy_sim t (s.buf.w + s.blockN) s.buf.cfg.windowSize s.minMatch
    s.buf.w flags g1 g1w h3 h2 hmm (Nat.le_add_right _ _) h4 hG1
  rw [hparse]
  unfold gsapParseW
  rw [if_neg hn]
  simp only []
  rw [eg1, s.blockPrefix_length hw, hpre]
  simp only [eR]
  refine ⟨_, _, rfl, rfl, ?_⟩
  split
  · exact hG2.dropSA
  · exact hG2

/-- every rank array is represented by some word-level bitset (so the hypothesis `GSim g gw` of the
    theorems is satisfiable for every `g`) -/
theorem exists_bitsSim (bits : Array Bool) : ∃ w, BitsSim bits w := by
  obtain ⟨w, _, inv, hm⟩ := BitsetW.insert_members BitsetW.empty BitsetW.empty_inv (members bits)
  refine ⟨w, inv, ?_⟩
  rw [hm]
  apply BitsetW.sorted_ext (BitsetW.sorted_foldl_insertOne _ _ (BitsetW.members_sorted _))
    (members_sorted _)
  intro x
  rw [BitsetW.mem_foldl_insertOne, BitsetW.empty_members]
  simp

theorem exists_gSim (g : GsapD) : ∃ gw, GSim g gw := by
  obtain ⟨w, h⟩ := exists_bitsSim g.bits
  exact ⟨⟨g.sa, g.isa, w⟩, rfl, rfl, h⟩

/-- end-to-end, reachable states: take any state of a GSAP parser reachable from `NewParser` by
    `Write`, `ReadFrom`, `Parse` (any flags), `Parse(nil)`, `Shrink`, `Reset`, and any word-level
    bitset that stands for the same rank set as the rank array of the model (arbitrary capacity,
    offset and stale contents of the backing array).  Then the next `Parse` run with the Go bitset in
    place of the rank array does not panic in any bitset operation, sees the same neighbours at every
    probe and so returns the same `n`, error and block; the dictionaries are related afterwards. -/
theorem gsapParse_sim_reachable (raw : Cfg) (s0 : Parser) (h0 : newParser .GSAP raw = some s0)
    (ops : List POp) (flags : Nat) (g : GsapD) (gw : GsapDW) :
    let s := (runOps (s0, Ghost.init) ops).1
    s.dict = .gsap g → GSim g gw →
    ∃ g' gw', (s.parse flags).1.dict = .gsap g' ∧
      gsapParseW s gw flags = some (gw', (s.parse flags).2) ∧ GSim g' gw' := by
  intro s hd hG
  obtain ⟨⟨g0, hd0, hW⟩, hw, _, _, hmm⟩ := reachable_gsapWS raw s0 h0 ops
  obtain rfl : g0 = g := Dict.gsap.inj (hd0.symm.trans hd)
  exact gsapParse_sim _ g0 gw flags hd hW hw hmm hG

/-! ### whole histories -/

/-- what an operation returns that depends on the dictionary: the result of `Parse(&blk, flags)` -/
def outP (s : Parser) : POp → Option (Nat × Err × Block)
  | .parse flags => some (s.parse flags).2
  | _ => none

/-- the dictionary side of one operation of gsap.go, with the word-level bitset; `s` supplies the
    buffer and the configuration -/
def stepGW (s : Parser) (gw : GsapDW) : POp → Option (GsapDW × Option (Nat × Err × Block))
  | .parse flags =>
    match gsapParseW s gw flags with
    | some (gw', r) => some (gw', some r)
    | none => none
  | .shrink => some (if s.buf.shrink.2 = 0 then gw else gw.reset, none)     -- if delta > 0 { … clear() }
  | .reset data capExtra =>                                                   -- err == nil: … clear()
    some (if (s.buf.reset data capExtra).2 = .ok then gw.reset else gw, none)
  | _ => some (gw, none)

/-- all `Parse` results of a history, word-level bitset; `none` = a panic somewhere -/
def runGW (s : Parser) (gw : GsapDW) : List POp → Option (List (Option (Nat × Err × Block)))
  | [] => some []
  | op :: ops =>
    match stepGW s gw op with
    | none => none
    | some (gw', o) =>
      match runGW (stepP s op) gw' ops with
      | some os => some (o :: os)
      | none => none

/-- all `Parse` results of a history in the parser model -/
def runP (s : Parser) : List POp → List (Option (Nat × Err × Block))
  | [] => []
  | op :: ops => outP s op :: runP (stepP s op) ops

/-- The operations other than `Parse(&blk, flags)` touch a GSAP dictionary only by emptying it, and
    gsap.go empties it in the same cases (`delta > 0`, `err == nil`). -/
theorem stepGW_sim (s : Parser) (g : GsapD) (gw : GsapDW) (op : POp) (hd : s.dict = .gsap g)
    (hW : GsapW s g) (hw : s.buf.w ≤ s.buf.data.length) (hmm : 1 ≤ s.minMatch) (hG : GSim g gw) :
    ∃ g' gw', (stepP s op).dict = .gsap g' ∧ stepGW s gw op = some (gw', outP s op) ∧
      GSim g' gw' := by
  cases op with
  | write p => exact ⟨g, gw, hd, rfl, hG⟩
  | readFrom r => exact ⟨g, gw, hd, rfl, hG⟩
  | parse flags =>
    obtain ⟨g', gw', a, b, c⟩ := gsapParse_sim s g gw flags hd hW hw hmm hG
    refine ⟨g', gw', a, ?_, c⟩
    simp only [stepGW, b, outP]
  | parseNil =>
    refine ⟨g, gw, ?_, rfl, hG⟩
    show s.parseNil.1.dict = _
    by_cases hn : s.blockN = 0
    · rw [Parser.parseNil_empty s hn]; exact hd
    · rw [Parser.parseNil_pos hn]; simp only [Parser.skipDict, hd]
  | shrink =>
    show ∃ g' gw', s.shrink.1.dict = _ ∧ _
    by_cases h0 : s.buf.shrink.2 = 0
    · exact ⟨g, gw, by rw [Parser.shrink_zero h0]; exact hd, by simp only [stepGW, outP, if_pos h0], hG⟩
    · exact ⟨_, gw.reset, by rw [Parser.shrink_pos h0]; simp only [Parser.shiftDict, hd],
        by simp only [stepGW, outP, if_neg h0], GSim.reset gw⟩
  | reset data capExtra =>
    show ∃ g' gw', (s.reset data capExtra).1.dict = _ ∧ _
    by_cases he : (s.buf.reset data capExtra).2 = .ok
    · exact ⟨_, gw.reset, by rw [Parser.reset_ok he]; simp only [Parser.clearDict, hd],
        by simp only [stepGW, outP, if_pos he], GSim.reset gw⟩
    · exact ⟨g, gw, by rw [Parser.reset_err he]; exact hd, by simp only [stepGW, outP, if_neg he], hG⟩

theorem runGW_sim {raw : Cfg} {s0 : Parser} (h0 : newParser .GSAP raw = some s0) (ops : List POp) :
    ∀ (s : Parser) (g : GsapD) (gw : GsapDW), Reachable s0 s → GsapWS s →
      s.dict = .gsap g → GSim g gw → runGW s gw ops = some (runP s ops) := by
  induction ops with
  | nil => intro _ _ _ _ _ _ _; rfl
  | cons op ops ih =>
    intro s g gw hr ⟨g0, hd0, hW⟩ hd hG
    obtain rfl : g0 = g := Dict.gsap.inj (hd0.symm.trans hd)
    have hB := hr.base h0
    obtain ⟨g', gw', a, b, c⟩ := stepGW_sim s g0 gw op hd hW hB.hw hB.mm hG
    have h3 := ih _ g' gw' (hr.step op) (gsapWS_step (stepP_step s op) hB.mm ⟨g0, hd, hW⟩) a c
    simp only [runGW, runP, b, h3]

/-- end-to-end, histories: for every accepted GSAP configuration and every history of
    operations on the fresh parser, gsap.go run with the bitset of bitset.go (word level: backing
    array, capacity reuse, stale words) never panics in a bitset operation and every
    `Parse(&blk, flags)` returns exactly the `n`, error and block the parser model with the
    `Array Bool` rank set returns. -/
theorem gsapHistory_sim (raw : Cfg) (s0 : Parser) (h0 : newParser .GSAP raw = some s0)
    (ops : List POp) : runGW s0 GsapDW.empty ops = some (runP s0 ops) :=
  runGW_sim h0 ops s0 GsapD.empty GsapDW.empty (Reachable.refl s0) (newParser_gsapWS h0)
    (Sap.newParser_gsap_dict raw s0 h0) GSim.empty

/-! ## non-vacuity -/

section Examples

/-- the rank array of the example in GsapProps -/
def exBits : Array Bool := #[true, false, true, false, false, true, false]

/-- a word-level bitset for the same set whose backing array is full of stale words behind
    `len(a) = 1` -/
def exW : BitsetW := { backing := #[0b100101, 0xffffffffffffffff, 0xdeadbeef], len := 1, off := 0 }

/-- the set `{65, 67}` with a zero word in front … -/
def exW2 : BitsetW := { backing := #[0, 10, 0xffffffffffffffff], len := 2, off := 0 }
/-- … and with the offset 1 instead (`a` starts at word 1), a stale word behind … -/
def exW3 : BitsetW := { backing := #[10, 0xffffffffffffffff], len := 1, off := 1 }
/-- … against a rank array of 68 entries -/
def exBits2 : Array Bool := ((Array.replicate 68 false).setIfInBounds 65 true).setIfInBounds 67 true

example : members exBits = [0, 2, 5] := by decide +kernel
example : BitsSim exBits exW := ⟨by decide +kernel, by decide +kernel⟩

/-- the array side by the insert lemma (scanning the 68 entries in the kernel is slow) -/
theorem members_exBits2 : members exBits2 = [65, 67] := by
  unfold exBits2
  rw [members_set _ 67 (by simp), members_set _ 65 (by simp), members_replicate]
  rfl

set_option maxRecDepth 8000 in
example : BitsSim exBits2 exW2 ∧ BitsSim exBits2 exW3 := by
  simp only [BitsSim, members_exBits2]
  decide +kernel

/-- "largest member less than `j`": 2 and 5 are members, `before 5 = 2`, `before 2 = 0` — no
    off-by-one between the three descriptions; likewise `after` is strict -/
example : memberBefore exBits 5 = some 2 ∧ exW.memberBefore 5 = some 2 ∧
    (toM exBits).memberBefore 5 = some 2 ∧
    memberBefore exBits 2 = some 0 ∧ exW.memberBefore 2 = some 0 ∧ memberBefore exBits 0 = none ∧
    exW.memberBefore 0 = none ∧
    memberAfter exBits 2 = some 5 ∧ exW.memberAfter 2 = some 5 ∧ (toM exBits).memberAfter 2 = some 5 ∧
    memberAfter exBits 5 = none ∧ exW.memberAfter 5 = none ∧
    memberBefore exBits 100 = some 5 ∧ exW.memberBefore 100 = some 5 := by decide +kernel

set_option maxRecDepth 8000 in
example : memberBefore exBits2 67 = some 65 ∧ exW2.memberBefore 67 = some 65 ∧
    exW3.memberBefore 67 = some 65 ∧
    memberAfter exBits2 3 = some 65 ∧ exW2.memberAfter 3 = some 65 ∧ exW3.memberAfter 3 = some 65 ∧
    memberBefore exBits2 65 = none ∧ exW2.memberBefore 65 = none ∧ exW3.memberBefore 65 = none ∧
    memberAfter exBits2 65 = some 67 ∧ exW3.memberAfter 65 = some 67 := by
  simp only [memberBefore_eq, memberAfter_eq, toM, members_exBits2]
  decide +kernel

/-- insert inside the array: both sides gain the member … -/
example : members (exBits.setIfInBounds 3 true) = [0, 2, 3, 5] ∧
    (exW.insert [3]).map BitsetW.members = some [0, 2, 3, 5] ∧
    ((toM exBits).insert [3]).map (·.members) = some [0, 2, 3, 5] := by decide +kernel

/-- … outside the array (`7 = bits.size`) the parser model drops it and the bitset keeps it: the
    hypothesis `j < bits.size` of `members_set` / `BitsSim.insert` is necessary -/
example : members (exBits.setIfInBounds 7 true) = [0, 2, 5] ∧
    (exW.insert [7]).map BitsetW.members = some [0, 2, 5, 7] := by decide +kernel

/-- growth beyond the first word reuses the stale backing array and zeroes it -/
example : (exW.insert [100]).map BitsetW.members = some [0, 2, 5, 100] ∧
    (exW.insert [100]).map (·.cap) = some 3 := by decide +kernel

example : insertRanks #[3, 1, 0, 2] #[false, false, false, false] 1 2 = #[true, true, false, false] ∧
    (insertRanksW #[3, 1, 0, 2] exW.clear 1 2).map BitsetW.members = some [0, 1] ∧
    rankList #[3, 1, 0, 2] 1 2 = [1, 0] := by decide +kernel

/-- `clear` on a bitset with stale contents against the fresh rank array -/
example : BitsSim (Array.replicate 5 false) exW.clear := ⟨by decide +kernel, by decide +kernel⟩

/-- probes at the positions `l`, dictionary threaded through (parser model) -/
def probeSeq (ws mm : Nat) (p : List Byte) : List Nat → GsapD → List (Option (Nat × Nat × Nat))
  | [], _ => []
  | i :: l, g => (gsapProbe ws mm g p i 0).2 :: probeSeq ws mm p l (gsapProbe ws mm g p i 0).1

/-- the same over the word-level bitset -/
def probeSeqW (ws mm : Nat) (p : List Byte) : List Nat → GsapDW → Option (List (Option (Nat × Nat × Nat)))
  | [], _ => some []
  | i :: l, g =>
    match gsapProbeW ws mm g p i 0 with
    | none => none
    | some (g', r) => (probeSeqW ws mm p l g').map (r :: ·)

/-- `"xabab"` (suffix array `[3,1,4,2,0]`, see GsapLoop): the word-level dictionary starts from a
    cleared bitset with stale words; the four probes answer alike, the last one finds the match
    `(3, 2, 2)` through `memberAfter(0) = 1` -/
def xababW : GsapDW := ⟨#[3, 1, 4, 2, 0], #[4, 1, 3, 0, 2], exW.clear⟩

example : GSim Sap.xababG xababW := ⟨rfl, rfl, by decide +kernel, by decide +kernel⟩

example : probeSeq 8 2 Sap.xabab [0, 1, 2, 3] Sap.xababG = [none, none, none, some (3, 2, 2)] ∧
    probeSeqW 8 2 Sap.xabab [0, 1, 2, 3] xababW = some [none, none, none, some (3, 2, 2)] := by
  decide +kernel

/-- the instance of `gsapProbe_sim_saok` for the first probe -/
example : ∃ gw', gsapProbeW 8 2 xababW Sap.xabab 0 0 =
      some (gw', (gsapProbe 8 2 Sap.xababG Sap.xabab 0 0).2) ∧
    GSim (gsapProbe 8 2 Sap.xababG Sap.xabab 0 0).1 gw' :=
  gsapProbe_sim_saok (t := Sap.xabab) 8 2 Sap.xabab 0 0 ⟨rfl, rfl, by decide +kernel, by decide +kernel⟩
    ⟨by decide +kernel, by decide +kernel, by decide +kernel, by unfold Sap.LexSorted; decide⟩ (by decide +kernel) (by decide +kernel)
    (by decide +kernel)

/-- `sort()` on `"xabab"` with window head 3, on a dictionary with a dirty bitset: instance of
    `gsapSort_sim`, and the values (evaluated: `saSpec` sorts by well-founded recursion) -/
example : ∃ gw', gsapSortW xababW Sap.xabab 3 = some gw' ∧ GSim (gsapSort Sap.xabab 3) gw' :=
  gsapSort_sim xababW Sap.xabab 3 (by decide +kernel)

#guard (gsapSortW xababW Sap.xabab 3).map (fun g => (g.sa, g.isa, g.bits.members)) ==
    some (#[3, 1, 4, 2, 0], #[4, 1, 3, 0, 2], [1, 3, 4])
#guard members (gsapSort Sap.xabab 3).bits == [1, 3, 4]

/-- the history theorem instantiated: configuration `runCfg` (WindowSize 64 = BufferSize,
    BlockSize 32), a history with `Parse(nil)`, `Shrink`, `Reset` and truncated blocks -/
def histEx : List POp :=
  gsapOpsEx ++ [.parse 0, .parse 1, .shrink, .write (List.replicate 20 97), .parse 1,
    .reset [120, 97, 98, 97, 98, 97, 98] 0, .parse 0]

example : runGW (runS0 .GSAP) GsapDW.empty histEx = some (runP (runS0 .GSAP) histEx) :=
  gsapHistory_sim runCfg _ (runS0_new .GSAP (by decide +kernel)) histEx

-- evaluated (a test, not a theorem: `greedyLoop` is defined by well-founded recursion)
-- `(n, number of sequences, number of literals)` of every `Parse`
#guard (runGW (runS0 .GSAP) GsapDW.empty histEx).map
    (·.map fun o => o.map fun r => (r.1, r.2.2.seqs.length, r.2.2.lits.length)) ==
  some [none, none, none, some (32, 1, 1), some (8, 1, 0), none, none, some (20, 1, 0), none,
    some (7, 1, 3)]
#guard (runP (runS0 .GSAP) histEx).map
    (fun o => o.map fun r => (r.1, r.2.2.seqs.length, r.2.2.lits.length)) ==
  [none, none, none, some (32, 1, 1), some (8, 1, 0), none, none, some (20, 1, 0), none,
    some (7, 1, 3)]

end Examples

#print axioms getD_iff_mem
#print axioms members_sorted
#print axioms memberBefore_eq
#print axioms memberAfter_eq
#print axioms members_set
#print axioms toM_set
#print axioms set_out_of_range_differs
#print axioms members_insertRanks
#print axioms toM_insertRanks
#print axioms toM_insertRanks_seq
#print axioms toM_gsapSort
#print axioms bitsSim_iff
#print axioms BitsSim.refines
#print axioms BitsSim.before
#print axioms BitsSim.after
#print axioms BitsSim.insert
#print axioms BitsSim.clear
#print axioms BitsSim.insertRanks
#print axioms candW_eq
#print axioms gsapProbe_sim
#print axioms gsapProbe_sim_saok
#print axioms gsapSort_sim
#print axioms gsapLoop_sim
#print axioms runGreedy_sim
#print axioms gsapParse_sim
#print axioms exists_gSim
#print axioms gsapParse_sim_reachable
#print axioms stepGW_sim
#print axioms gsapHistory_sim

end GsapBits
end LZ
