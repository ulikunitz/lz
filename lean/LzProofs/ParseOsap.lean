/-
  LzProofs.ParseOsap — the optimizing suffix-array parser (OSAP).  Its matches are NOT
  re-verified against the bytes, so its correctness is relative to the soundness of the edge
  table (`EdgesSound`, which `computeEdges` must establish through suffix sort / LCP /
  segments).  Under that named hypothesis the block is correct:
  `shortestPath` only returns literal steps and steps written from an edge, and
  `pathToSeqs` turns such a path into sequences that satisfy the loop invariant.
-/
import LzProofs.ParseParser
import LzProofs.EdgesProps
namespace LZ

/-! ## paths -/

/-- a path step `(m, o)` at position `pos`: a literal run (`o = 0`) or a genuine match -/
def StepOK (p : List Byte) (ws mm mx : Nat) (pos : Nat) (e : Edge) : Prop :=
  e.2 = 0 ∨ (MatchOK p pos e.1 e.2 ∧ e.2 ≤ ws ∧ mm ≤ e.1 ∧ e.1 ≤ mx)

def PathOK (p : List Byte) (ws mm mx : Nat) : Nat → List Edge → Prop
  | _, [] => True
  | pos, e :: rest => StepOK p ws mm mx pos e ∧ PathOK p ws mm mx (pos + e.1) rest

/-- C02 for OSAP: additionally `MatchLen ≤ MaxMatchLen` -/
def SeqWFmax (ws mm mx : Nat) (pos : Nat) (s : Seq) : Prop :=
  SeqWF ws mm pos s ∧ s.matchLen ≤ mx

def SeqGoodO (p : List Byte) (ws mm mx : Nat) (pos : Nat) (s : Seq) : Prop :=
  SeqWFmax ws mm mx pos s ∧ SeqGenuine p pos s

theorem pathToSeqs_inv (p : List Byte) (ws mm mx w : Nat) (hmm : 1 ≤ mm) :
    ∀ (path : List Edge) (i li : Nat) (seqs : List Seq) (lits : List Byte),
      PathOK p ws mm mx i path →
      LoopInv p w (SeqGoodO p ws mm mx) ({ dict := (), i := i, litIndex := li, seqs := seqs, lits := lits } : LoopSt Unit) →
      LoopInv p w (SeqGoodO p ws mm mx)
        ({ dict := (), i := (pathToSeqs p path i li seqs lits).2.2.1,
           litIndex := (pathToSeqs p path i li seqs lits).2.2.2,
           seqs := (pathToSeqs p path i li seqs lits).1,
           lits := (pathToSeqs p path i li seqs lits).2.1 } : LoopSt Unit) := by
  intro path
  induction path with
  | nil => intro i li seqs lits _ h; exact h
  | cons e rest ih =>
    intro i li seqs lits hp h
    obtain ⟨m, o⟩ := e
    obtain ⟨hstep, hrest⟩ := hp
    unfold pathToSeqs
    split
    · exact ih _ _ _ _ hrest { h with li_le_i := Nat.le_trans h.li_le_i (Nat.le_add_right i m) }
    · rename_i ho
      rcases hstep with h0 | ⟨hm, hws, hmin, hmax⟩
      · exact absurd h0 ho
      have hli : li ≤ i := h.li_le_i
      refine ih _ _ _ _ hrest (h.snoc () hli (by simp only at hmin ⊢; omega) hm ?_)
      have e : li + (i - li) = i := Nat.add_sub_cancel' hli
      exact ⟨⟨⟨hm.1, hws, by simp only [e]; exact hm.2.1, hmin, rfl⟩, hmax⟩,
        by simp only [SeqGenuine, e]; exact hm⟩

/-! ## the shortest-path table only contains literal steps and steps taken from edges -/

/-- soundness of the edge table relative to the buffer `data`: the edges stored for buffer
    position `start + idx` are genuine matches within the limits.  This is what
    `computeEdges` has to establish (suffix sort, LCP, segments); it is the named hypothesis
    of the OSAP theorems. -/
def EdgesSound (data : List Byte) (ws mx : Nat) (o : OsapD) : Prop :=
  ∀ idx (e : Edge), e ∈ o.edges.getD idx [] →
    MatchOK data (o.start + idx) e.1 e.2 ∧ e.2 ≤ ws ∧ e.1 ≤ mx

/-- Block-relative soundness — the shape delivered by the proofs about `computeEdges`
    (`Sap.computeEdges_sound`, LzProofs/EdgesProps.lean): for the block `p[w, w+n)` whose edges start
    at index `k0` of the table, every stored edge `(mx, o)` of block position `i` is a genuine
    match for every length it can be used with inside the block. -/
def EdgesSoundBlock (p : List Byte) (w ws maxM n : Nat) (edges : Array (List Edge)) (k0 : Nat) : Prop :=
  ∀ i mx o, i < n → (mx, o) ∈ edges.getD (k0 + i) [] →
    1 ≤ o ∧ o ≤ ws ∧ mx ≤ maxM ∧ ∀ m, m ≤ mx → i + m ≤ n → MatchOK p (w + i) m o

theorem relaxLens_size (mm i ci o : Nat) : ∀ (cnt m : Nat) (d : Array Opt),
    (relaxLens mm i ci o cnt m d).size = d.size := by
  intro cnt
  induction cnt with
  | zero => intro m d; simp [relaxLens]
  | succ cnt ih =>
    intro m d
    unfold relaxLens
    simp only []
    rw [ih]
    split <;> simp

theorem relaxEdges_size (mm i ci maxLen : Nat) : ∀ (es : List Edge) (d : Array Opt),
    (relaxEdges mm i ci maxLen es d).size = d.size := by
  intro es
  induction es with
  | nil => intro d; simp [relaxEdges]
  | cons e rest ih =>
    intro d
    obtain ⟨emx, o⟩ := e
    unfold relaxEdges
    simp only []
    rw [ih, relaxLens_size]

theorem dpLoop_size (mm n : Nat) (edges : Array (List Edge)) (k0 : Nat) :
    ∀ (fuel i : Nat) (d : Array Opt), (dpLoop mm n edges k0 fuel i d).size = d.size := by
  intro fuel
  induction fuel with
  | zero => intro i d; simp [dpLoop]
  | succ fuel ih =>
    intro i d
    unfold dpLoop
    simp only []
    rw [ih, relaxEdges_size]
    split
    · split <;> simp
    · rfl

/-- a parse over the stored edges (`Sap.PathOK`, what `Sap.dp_optimal` delivers) is a path of literal
    steps and steps taken from (clipped) edges -/
theorem pathOK_of_sap (p : List Byte) (ws mm mx w n : Nat) (edges : Array (List Edge)) (k0 : Nat)
    (hE : ∀ i, i < n → ∀ e ∈ edges.getD (k0 + i) [], ∀ m, mm ≤ m → m ≤ min e.1 (n - i) →
      StepOK p ws mm mx (w + i) (m, e.2)) :
    ∀ (π : List Edge) (a b : Nat), Sap.PathOK mm n edges k0 a b π → PathOK p ws mm mx (w + a) π
  | [], _, _, _ => trivial
  | (m, o) :: r, a, b, ⟨hs, hr⟩ => by
    refine ⟨?_, by rw [Nat.add_assoc]; exact pathOK_of_sap p ws mm mx w n edges k0 hE r (a + m) b hr⟩
    rcases hs with ⟨-, rfl, -⟩ | ⟨mx', hmem, hm1, hmin, hle, hn⟩
    · exact Or.inl rfl
    · exact hE a (by omega) (mx', o) hmem m hmin (by simp only; omega)

/-! ## `Parse` of OSAP -/

namespace Parser

/-- the edge table the next `Parse` uses: recomputed when the block leaves its range -/
def osapEdges (s : Parser) (o : OsapD) : OsapD :=
  if s.buf.w + s.blockN > o.start + o.edges.size then
    computeEdges s.buf.data s.buf.w s.buf.cfg.windowSize s.minMatch s.cfg.maxMatchLen.toNat
  else o

theorem parse_osap (s : Parser) (flags : Nat) (o : OsapD) (hd : s.dict = .osap o)
    (hn : s.blockN ≠ 0) :
    s.parse flags =
      (let w := s.buf.w
       let n := s.blockN
       let p := s.blockPrefix
       let o' := s.osapEdges o
       if o'.nEdges = 0 then
         ({ s with buf := { s.buf with w := w + n }, dict := .osap o' }, n, .ok,
           ⟨[], (s.buf.data.drop w).take n⟩)
       else
         let r := pathToSeqs p (shortestPath s.minMatch n o'.edges (w - o'.start)) w w [] []
         let fb := finishBlock p flags
           ({ dict := (), i := r.2.2.1, litIndex := r.2.2.2, seqs := r.1, lits := r.2.1 } : LoopSt Unit)
         ({ s with buf := { s.buf with w := fb.1 }, dict := .osap o' }, fb.1 - w, .ok, fb.2)) := by
  rw [Sap.parse_osap_eq s o hd flags hn]
  rfl

/-- per-sequence guarantee of OSAP -/
def seqGoodO (s : Parser) : Nat → Seq → Prop :=
  SeqGoodO s.blockPrefix s.buf.cfg.windowSize s.minMatch s.cfg.maxMatchLen.toNat

/-- OSAP, relative to the (block-relative) soundness of the edge table the call uses. -/
theorem parse_osap_ok_block (s : Parser) (flags : Nat) (o : OsapD) (hd : s.dict = .osap o)
    (hw : s.buf.w ≤ s.buf.data.length) (hn : s.blockN ≠ 0) (hmm : 1 ≤ s.minMatch)
    (hS : EdgesSoundBlock s.blockPrefix s.buf.w s.buf.cfg.windowSize s.cfg.maxMatchLen.toNat
      s.blockN (s.osapEdges o).edges (s.buf.w - (s.osapEdges o).start)) :
    ∃ s' n blk, s.parse flags = (s', n, .ok, blk) ∧ ParseOK s flags s.seqGoodO s' n blk ∧
      s'.dict = .osap (s.osapEdges o) := by
  have hl := s.blockPrefix_length hw
  have hwp : s.buf.w ≤ s.blockPrefix.length := by omega
  rw [parse_osap s flags o hd hn]
  simp only []
  split
  · -- no edges at all: one literal block
    refine ⟨_, _, _, rfl, ?_, rfl⟩
    have hb := finishBlock_ok s.blockPrefix s.buf.w flags s.seqGoodO _
      (LoopInv.init s.blockPrefix s.buf.w s.seqGoodO () hwp)
    have hfb : finishBlock s.blockPrefix flags
        ({ dict := (), i := s.buf.w, litIndex := s.buf.w, seqs := [], lits := [] } : LoopSt Unit)
        = (s.buf.w + s.blockN, ⟨[], (s.buf.data.drop s.buf.w).take s.blockN⟩) := by
      unfold finishBlock
      simp only [ne_eq, not_true_eq_false, and_false, if_false, List.nil_append, hl]
      congr 2
      unfold blockPrefix
      rw [List.drop_take]; congr 1; omega
    rw [hfb] at hb
    have := ParseOK.of_block s flags s.seqGoodO
      { s with buf := { s.buf with w := s.buf.w + s.blockN }, dict := .osap (s.osapEdges o) }
      _ _ hw hn hb rfl rfl rfl
    have e : s.buf.w + s.blockN - s.buf.w = s.blockN := by omega
    rw [e] at this; exact this
  · refine ⟨_, _, _, rfl, ?_, rfl⟩
    refine ParseOK.of_block s flags _ _ _ _ hw hn ?_ ?_ ?_ ?_ <;> try rfl
    apply finishBlock_ok
    apply pathToSeqs_inv _ _ _ _ _ hmm _ _ _ _ _ ?_ (LoopInv.init _ _ _ () hwp)
    refine pathOK_of_sap _ _ _ _ _ _ _ _ ?_ _ 0 _ (Sap.dp_optimal _ _ _ _).1
    intro i hi e he m hm1 hm2
    right
    obtain ⟨h1, h2, h3, h4⟩ := hS i e.1 e.2 hi he
    exact ⟨h4 m (by omega) (by omega), h2, hm1, by simp only; omega⟩

theorem EdgesSound.block {s : Parser} {o : OsapD}
    (hS : EdgesSound s.buf.data s.buf.cfg.windowSize s.cfg.maxMatchLen.toNat o)
    (hst : o.start ≤ s.buf.w) :
    EdgesSoundBlock s.blockPrefix s.buf.w s.buf.cfg.windowSize s.cfg.maxMatchLen.toNat
      s.blockN o.edges (s.buf.w - o.start) := by
  intro i mx off hi he
  obtain ⟨h1, h2, h3⟩ := hS _ _ he
  have e1 : o.start + (s.buf.w - o.start + i) = s.buf.w + i := by omega
  rw [e1] at h1
  refine ⟨h1.1, h2, h3, ?_⟩
  intro m hm hle
  unfold blockPrefix
  exact (h1.mono_len m hm).take _ (by omega)

/-- OSAP, relative to the soundness of the edge table (buffer-wide form). -/
theorem parse_osap_ok (s : Parser) (flags : Nat) (o : OsapD) (hd : s.dict = .osap o)
    (hw : s.buf.w ≤ s.buf.data.length) (hn : s.blockN ≠ 0) (hmm : 1 ≤ s.minMatch)
    (hS : EdgesSound s.buf.data s.buf.cfg.windowSize s.cfg.maxMatchLen.toNat (s.osapEdges o))
    (hst : (s.osapEdges o).start ≤ s.buf.w) :
    ∃ s' n blk, s.parse flags = (s', n, .ok, blk) ∧ ParseOK s flags s.seqGoodO s' n blk ∧
      s'.dict = .osap (s.osapEdges o) :=
  parse_osap_ok_block s flags o hd hw hn hmm (EdgesSound.block hS hst)

end Parser

#print axioms pathOK_of_sap

end LZ
