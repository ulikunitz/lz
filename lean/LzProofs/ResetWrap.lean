/-
  LzProofs.ResetWrap — C13 for `WrappedParser.Reset` (wrap.go): a wrapped parser that is reset
  with a reader behaves, call by call, like a wrapper around a newly created parser.
  Greedy parsers only (HP, BHP, DHP, BDHP, BUP, GSAP): uses `parseSpec_greedy` of LzProofs.WrapInst and
  the invariant `SafeW` of LzProofs.SafeProps.
-/
import LzProofs.SafeProps
namespace LZ
open PBuf

/-! ## `WrappedParser.Reset` (wrap.go) -/

/-- the results `(n, err, block)` of the first `k` calls of `WrappedParser.Parse` -/
def Wrapped.outs (flags : Nat) : Nat → Wrapped → List (Nat × Err × Block)
  | 0, _ => []
  | k + 1, wp => (wp.parse flags).2 :: Wrapped.outs flags k (wp.parse flags).1

theorem Wrapped.outs_sim (flags : Nat) (k : Nat) :
    ∀ (wa wb : Wrapped) (fa fb : List Byte), WInv Parser.GreedyWF wa fa → WInv Parser.GreedyWF wb fb →
      WSim wa wb → Wrapped.outs flags k wa = Wrapped.outs flags k wb := by
  induction k with
  | zero => intros; rfl
  | succ k ih =>
    intro wa wb fa fb ha hb hs
    obtain ⟨h1, h2⟩ := C08_wrap_chunking parseSpec_greedy wa wb flags fa fb ha hb hs
    obtain ⟨qa, ha', -⟩ := C08_wrap_step parseSpec_greedy wa flags fa ha
    obtain ⟨qb, hb', -⟩ := C08_wrap_step parseSpec_greedy wb flags fb hb
    simp only [Wrapped.outs]
    rw [ih _ _ _ _ ha' hb' h2, h1]

/-- `GreedyWF` (the parser invariant of the Wrap theorems) for every reachable state of a
    greedy parser -/
theorem reachable_greedyWF (k : Kind) (raw : Cfg) (s0 : Parser) (h0 : newParser k raw = some s0)
    (hk : k ≠ .OSAP) (s : Parser) (hr : Reachable s0 s) : s.GreedyWF :=
  (reachable_safeW h0 hk hr).2.1

/-- C13 for `WrappedParser` (greedy parsers): after `Reset(r)` a wrapped parser that has
    processed anything returns, call by call, the same `(n, err, block)` as a wrapper around a
    newly created parser reading the same payload (error-free readers; chunking may differ). -/
theorem C13_wrapped_reset (k : Kind) (raw : Cfg) (s0 : Parser) (h0 : newParser k raw = some s0)
    (hk : k ≠ .OSAP) (wp : Wrapped) (hr : Reachable s0 wp.s) (r r' : Reader)
    (hp : r.payload = r'.payload) (hf : FillR r) (hf' : FillR r') (flags n : Nat) :
    (wp.reset r).2 = .ok ∧
    Wrapped.outs flags n (wp.reset r).1 = Wrapped.outs flags n ⟨r', s0⟩ := by
  obtain ⟨e1, hobs⟩ := reset_nil_eq_new k raw s0 h0 wp.s hr 0
  have hres : wp.reset r = (⟨r, (wp.s.reset [] 0).1⟩, .ok) := by
    unfold Wrapped.reset
    simp only [e1, if_true]
  rw [hres]
  obtain ⟨fa, wa⟩ := (safeW_stepP wp.s (.reset [] 0) (reachable_safeW h0 hk hr)).winv r
  obtain ⟨fb, wb⟩ := (newParser_safeW h0 hk).winv r'
  exact ⟨rfl, Wrapped.outs_sim flags n _ _ fa fb wa wb ⟨hobs, hp, hf, hf'⟩⟩

/-- non-vacuity: the used DHP parser of LzProofs.ResetProps, wrapped, reset with a reader that
    delivers `cwY` byte by byte, versus a wrapper around the new parser whose reader delivers
    `cwY` in one piece -/
example (flags n : Nat) :
    Wrapped.outs flags n ((⟨⟨[], []⟩, cwUsed⟩ : Wrapped).reset ⟨cwY, List.replicate 18 (1, 0)⟩).1 =
    Wrapped.outs flags n ⟨⟨cwY, List.replicate 18 (18, 0)⟩, cwNew⟩ :=
  (C13_wrapped_reset .DHP cwCfg cwNew cwNew_new (by decide) ⟨⟨[], []⟩, cwUsed⟩ cwUsed_reachable
    ⟨cwY, List.replicate 18 (1, 0)⟩ ⟨cwY, List.replicate 18 (18, 0)⟩ rfl
    (by unfold FillR; decide) (by unfold FillR; decide) flags n).2

end LZ
#print axioms LZ.reachable_greedyWF
#print axioms LZ.C13_wrapped_reset
