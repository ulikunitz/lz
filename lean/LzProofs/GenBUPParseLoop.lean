/-
  LzProofs.GenBUPParseLoop — the greedy loop of the translated `(*bucketParser).Parse` (bup.go, loop_1 of
  LzModel/Generated/CodeBUPParse.lean): ONE iteration is one step of the word-level finder `ProbeW.bupProbeW`
  (`loop1_step`: key load through `_p`, the bucket scan over the read-only view of `s.bucket(h)` = `bupScanW`
  (`bucket_scan`, from GenBUPParseLemmas.scan_eq), `s.add` = `BucketT.add`, the re-indexing loop = `binsertRangeW`),
  and the whole loop is `ProbeW.greedyLoopW` (`loops_eq`, an instance of `GenParse.greedy_generic`).  `lcp` is an opaque callee under
  `LcpSpec`.
-/
import LzProofs.GenBUPParseLemmas
import LzProofs.GenCallByName

set_option linter.unusedSimpArgs false
set_option linter.unusedVariables false

namespace LZ.GenBUPParse
open LZ LZ.Gen LZ.GenDec LZ.GenBuf LZ.GenHash LZ.GenHPParse LZ.GenParse

/-- the parser state with another bucket table -/
@[reducible] def setB (s : Gen.bucketParser) (g : Gen.bucketHash) : Gen.bucketParser :=
  { s with bucketDictionary := { s.bucketDictionary with bucketHash := g } }

theorem view_get (g : Gen.bucketHash) (hg : GWF g.buckets) (base bs t : Nat) (ht : t < bs)
    (hb : base + bs ≤ g.buckets.len) :
    (ofBucket g).buckets.getD (base + t) (0, 0) =
      ofBEntry (((g.buckets.arr.drop base)[t]?).getD { pos := 0, val := 0 }) := by
  have h1 : base + t < g.buckets.len := by omega
  have h2 : base + t < g.buckets.arr.length := by unfold GWF at hg; omega
  simp [ofBucket, GSlice.data, List.getElem?_take, List.getElem?_drop, h1, h2]

/-- the scan of bucket `h` (`for _, e := range s.bucket(h)`, the view taken from `bh.buckets`) finds what the model's
    `bupScanW` finds over the slots of that bucket; the match lies inside `p` -/
theorem bucket_scan (grow : Nat → Nat → Nat) (fuel : Nat) (lcp : Slice → Slice → Int) (hlcp : LcpSpec lcp)
    (A : List UInt8) (L i ws : Nat) (ia : Int) (s : Gen.bucketParser) (g : Gen.bucketHash) (hb : BOK g) (h v : UInt32)
    (hh : h.toNat < g.indexes.len) (hia : ia = (i : Int)) (hi : i ≤ L) (hLA : L ≤ A.length)
    (hws : ws = s.BUPConfig.WindowSize.toNat) (hws0 : 0 ≤ s.BUPConfig.WindowSize) :
    ∃ o k, ProbeW.bupScanW (ofBucket g) (A.take L) i ws v.toNat (h.toNat * (ofBucket g).bucketSize)
        (List.range (ofBucket g).bucketSize) 0 0 = some (o, k) ∧ k ≤ L - i ∧
      ∀ {β : Type} (F : Int × Int → Res β),
        Res.bind (GSlice.slice g.buckets ((Int.ofNat h.toNat) * g.bucketSize)
            ((Int.ofNat h.toNat) * g.bucketSize + g.bucketSize)) (fun view =>
          Res.bind (gcall% bucketParser_Parse_loop_2 [grow := grow, fuel := fuel, lcp := lcp, view1 := view, v := v,
            i := ia, s := s, p := ({ arr := A, len := L } : Slice), rest_1 := view.len, i_2 := (0 : Int), o := (0 : Int),
            k := (0 : Int)]) F) = F ((o : Int), (k : Int)) := by
  obtain ⟨bsN, hbsN⟩ : ∃ n : Nat, g.bucketSize = (n : Int) := ⟨g.bucketSize.toNat, by have := hb.bs1; omega⟩
  have hbsN' : g.bucketSize.toNat = bsN := by omega
  have hpl : (A.take L).length = L := by rw [List.length_take]; omega
  rw [show (ofBucket g).bucketSize = bsN from hbsN']
  have hbase : h.toNat * bsN + bsN ≤ g.buckets.len := by
    rw [hb.blen, hbsN', ← hb.ilen, ← Nat.succ_mul]
    exact Nat.mul_le_mul_right bsN hh
  have hbarr : h.toNat * bsN + bsN ≤ g.buckets.arr.length := Nat.le_trans hbase hb.gwf
  have hvk : (Int.ofNat h.toNat) * g.bucketSize = ((h.toNat * bsN : Nat) : Int) := by
    rw [hbsN]; exact (Int.natCast_mul _ _).symm
  rw [hvk]
  generalize h.toNat * bsN = base at hbase hbarr ⊢
  have hscanW := ProbeW.bupScanW_eq (ofBucket g) (A.take L) i ws v.toNat base (by rw [hpl]; exact hi)
    (List.range bsN) 0 0 (Nat.zero_le _)
  have hinv := LZ.bupScan_inv (ofBucket g) (A.take L) i ws v.toNat base (List.range bsN) 0 0 (Or.inl ⟨rfl, rfl⟩)
  revert hscanW hinv
  generalize bupScan (ofBucket g) (A.take L) i ws v.toNat base (List.range bsN) 0 0 = ok
  obtain ⟨o, k⟩ := ok
  intro hscanW hinv
  refine ⟨o, k, hscanW, ?_, ?_⟩
  · rcases hinv with ⟨-, hk0⟩ | ⟨j, hj1, hj2, hj3, hj4⟩
    · exact Nat.le_trans (Nat.le_of_eq hk0) (Nat.zero_le _)
    · have := BytesW.lcpLen_le_right ((A.take L).drop j) ((A.take L).drop i)
      rw [List.length_drop, hpl] at this
      exact Nat.le_trans (Nat.le_of_eq hj4) this
  · intro β F
    rw [gslice_ok g.buckets (base : Int) ((base : Int) + g.bucketSize) base (base + bsN) rfl
      (by rw [hbsN]; omega) (by omega) hbarr, bind_ok]
    have hsc := scan_eq grow fuel lcp hlcp (ofBucket g) (g.buckets.arr.drop base) (base + bsN - base) base
      (by rw [List.length_drop]; omega)
      (fun t ht => view_get g hb.gwf base (base + bsN - base) t ht (by omega))
      v ia i hia s hws0 A L hLA hi (base + bsN - base) 0 0 0 (by omega)
    rw [show base + bsN - base = bsN by omega, ← List.range_eq_range', ← hws, hscanW] at hsc
    rw [show base + bsN - base = bsN by omega]
    exact congrArg (Res.bind · F) hsc

theorem loop1_step (grow : Nat → Nat → Nat) (lcp : Slice → Slice → Int) (hlcp : LcpSpec lcp)
    (inputEnd mm : Int) (A : List UInt8) (L E mmN ws : Nat)
    (fuel i li : Nat) (ia lia : Int) (s : Gen.bucketParser) (blk : Block')
    (c : BCtx s.bucketDictionary.bucketHash { arr := A, len := E + 7 })
    (hb : BOK s.bucketDictionary.bucketHash)
    (hia : ia = (i : Int)) (hlia : lia = (li : Int)) (hE : inputEnd = (E : Int)) (hmm : mm = (mmN : Int))
    (hi : i < E) (hEL : E ≤ L) (hLA : L ≤ A.length) (hEA : E + 7 ≤ A.length) (hli : li ≤ i)
    (hws : ws = s.BUPConfig.WindowSize.toNat) (hws0 : 0 ≤ s.BUPConfig.WindowSize) (hmm1 : 1 ≤ mmN)
    (hfuel : L ≤ fuel + i) :
    ∃ r, ProbeW.bupProbeW ws mmN E (A.drop L) (ofBucket s.bucketDictionary.bucketHash) (A.take L) i li = some r ∧
      ∃ g', BOK g' ∧ SameCfg s.bucketDictionary.bucketHash g' ∧ r.1 = ofBucket g' ∧
        (gcall% bucketParser_Parse_loop_1 [grow := grow, lcp := lcp, inputEnd := inputEnd,
            _p := ({ arr := A, len := E + 7 } : Slice), p := ({ arr := A, len := L } : Slice), minMatchLen := mm,
            fuel := fuel + 1, i := ia, s := s, blk := blk, litIndex := lia]) =
          (match r.2 with
          | none =>
            (gcall% bucketParser_Parse_loop_1 [grow := grow, lcp := lcp, inputEnd := inputEnd,
            _p := ({ arr := A, len := E + 7 } : Slice), p := ({ arr := A, len := L } : Slice), minMatchLen := mm,
            fuel := fuel, i := ia + 1, s := setB s g', blk := blk, litIndex := lia])
          | some (st, k, o) =>
            (gcall% bucketParser_Parse_loop_1 [grow := grow, lcp := lcp, inputEnd := inputEnd,
            _p := ({ arr := A, len := E + 7 } : Slice), p := ({ arr := A, len := L } : Slice), minMatchLen := mm,
            fuel := fuel, i := ((i + k : Nat) : Int), s := setB s g', blk := 
              { Sequences := blk.Sequences ++ [seqRep { litLen := i - li, matchLen := k, offset := o }],
                Literals := Slice.append grow blk.Literals ((A.drop li).take (i - li)) }, litIndex := ((i + k : Nat) : Int)])) ∧
        (∀ st k o, r.2 = some (st, k, o) → st = i ∧ 1 ≤ k ∧ i + k ≤ L) := by
  -- the memory
  have hmem := BytesW.sliceTo_take_drop A L (E + 7) hEA
  have hpd : ({ arr := A, len := E + 7 } : Slice).data = A.take (E + 7) := rfl
  have hsmall : E + 7 < 4294967296 + 8 := c.small
  generalize hg : s.bucketDictionary.bucketHash = g at c hb ⊢
  -- the load at i
  obtain ⟨y, hy, hF⟩ := gen_load_ok { arr := A, len := E + 7 } c.swf ia i hia (by show i + 8 ≤ E + 7; omega)
  rw [hpd] at hy
  obtain ⟨hv, hlt⟩ := gen_hashValue_shift (y &&& g.mask) g.shift c.sh1 c.sh2
  have hidx : (Gen.hashValue (y &&& g.mask) g.shift).toNat < g.indexes.len := by rw [hv, hb.ilen]; exact hlt
  obtain ⟨o, k, hscanW, hkL, hview⟩ := bucket_scan grow fuel lcp hlcp A L i ws ia s g hb
    (Gen.hashValue (y &&& g.mask) g.shift) (y &&& g.mask).toUInt32 hidx hia (by omega) hLA hws hws0
  rw [ProbeW.bupProbeW_nf ws mmN E (A.drop L) (ofBucket g) (A.take L) i li (A.take (E + 7)) y hmem hy (y &&& g.mask)
    (by rw [ofBucket_inputLen, c.mask]), ofBucket_hashBits, ← hv, ← lo32_eq, hscanW, Option.bind_some]
  simp only []
  rw [bucketParser_Parse_loop_1, if_pos (show ia < inputEnd by omega), hF]
  dsimp only
  rw [hg, hview]
  -- `s.add(h, uint32(i), v)`
  obtain ⟨g1, hadd, hofg1, hb1, hsc1⟩ := gen_add g hb (Gen.hashValue (y &&& g.mask) g.shift) (UInt32.ofInt ia)
    (y &&& g.mask).toUInt32 hidx
  rw [hadd, bind_ok]
  dsimp only
  rw [toNat_ofInt32 i ia hia (by omega)] at hofg1
  rw [← hofg1]
  by_cases hk : k < mmN
  · rw [if_pos hk, if_pos (show (k : Int) < mm by omega)]
    refine ⟨_, rfl, g1, hb1, hsc1, rfl, ?_, ?_⟩
    · simp only [setB, hg]
    · intro st k' o' hc; cases hc
  · rw [if_neg hk, if_neg (show ¬ (k : Int) < mm by omega)]
    -- q := p[litIndex:i]
    rw [slice_okI { arr := A, len := L } lia ia li i hlia hia hli (by show i ≤ A.length; omega), bind_ok]
    -- the re-indexing loop
    have hbI : (if ia + (k : Int) > inputEnd then inputEnd else ia + (k : Int)) = ((Min.min (i + k) E : Nat) : Int) := by
      rw [hia, hE]; split <;> omega
    rw [hbI]
    have c1 : BCtx g1 { arr := A, len := E + 7 } := c.of_same hsc1
    obtain ⟨_, ⟨g2, rfl, hb2, hsc2⟩, hr2, hl2⟩ := insert_loop (ι := Unit)
      (fun _ => ghead% bucketParser_Parse_loop_3 [grow := grow, lcp := lcp, b := ((Min.min (i + k) E : Nat) : Int),
        x := y &&& g.mask, _p := ({ arr := A, len := E + 7 } : Slice), h := Gen.hashValue (y &&& g.mask) g.shift])
      (fun _ => ((Min.min (i + k) E : Nat) : Int)) (fun s' : Gen.bucketParser => ofBucket s'.bucketDictionary.bucketHash)
      (fun d j => ProbeW.binsertW d (A.take (E + 7)) j) (fun d j n => ProbeW.binsertRangeW d (A.take (E + 7)) j n)
      (fun _ _ => rfl) (fun _ _ _ => rfl)
      (fun s' => ∃ g', s' = setB s g' ∧ BOK g' ∧ SameCfg g1 g') (i + 1) (i + 1 + (Min.min (i + k) E - (i + 1)))
      (fun _ fuel a s' (h : ¬ a < ((Min.min (i + k) E : Nat) : Int)) => by
        rw [bucketParser_Parse_loop_3]
        first | rw [if_neg (by omega)] | rw [if_pos (by omega)])
      (fun j s' ⟨g', hs', hg', hsg⟩ hlo hhi => by
        subst hs'
        obtain ⟨y', g3, hy', hF', hadd', hg3, hsc3, hins⟩ := binsert_step g' _ (c1.of_same hsg) hg' (j : Int) j rfl
          (by show j + 8 ≤ E + 7; omega)
        refine ⟨_, ⟨g3, rfl, hg3, hsg.trans hsc3⟩, hins, fun _ fuel (hb : (j : Int) < ((Min.min (i + k) E : Nat) : Int)) => ?_⟩
        rw [bucketParser_Parse_loop_3]
        first | rw [if_pos (by omega)] | rw [if_neg (by omega)]
        rw [hF']
        try dsimp only
        rw [hadd', bind_ok])
      (Min.min (i + k) E - (i + 1)) fuel (i + 1) (setB s g1) (by omega) (Nat.le_refl _) (Nat.le_refl _)
      ⟨g1, rfl, hb1, SameCfg.refl _⟩
    rw [hl2 () (ia + 1) (by omega) (by omega), bind_ok, hr2, Option.bind_some]
    refine ⟨_, rfl, g2, hb2, hsc1.trans hsc2, rfl, ?_, ?_⟩
    · have e1 : ia + (k : Int) - 1 + 1 = ((i + k : Nat) : Int) := by omega
      have e2 : ia + (k : Int) = ((i + k : Nat) : Int) := by omega
      rw [e1, e2]
      rfl
    · intro st k' o' hc
      simp only [Option.some.injEq, Prod.mk.injEq] at hc
      obtain ⟨h1, h2, h3⟩ := hc
      subst h1; subst h2
      exact ⟨rfl, by omega, by omega⟩

/-- the Go states the loop runs through: only the bucket table changes -/
def InvB (s s' : Gen.bucketParser) : Prop :=
  ∃ g, s' = setB s g ∧ BOK g ∧ SameCfg s.bucketDictionary.bucketHash g

/-- The greedy loop of `Parse` (loop_1) is one run of `ProbeW.greedyLoopW` with the finder `ProbeW.bupProbeW`:
    no panic, same final position, `litIndex`, sequences, literals; the final table abstracts to the model's.
    `eI` is `inputEnd` as Go computes it (negative when the buffer is shorter than `inputLen`; then nothing is read
    and `P`, the length of `_p`, is arbitrary). -/
theorem loops_eq (grow : Nat → Nat → Nat) (lcp : Slice → Slice → Int) (hlcp : LcpSpec lcp)
    (eI mm : Int) (A : List UInt8) (L E P mmN ws : Nat)
    (hE : E = eI.toNat) (hmm : mm = (mmN : Int))
    (hEL : E ≤ L) (hLA : L ≤ A.length) (hmm1 : 1 ≤ mmN)
    (fuel W : Nat) (hP : W < E → P = E + 7) (s : Gen.bucketParser) (blk : Block')
    (c : BCtx s.bucketDictionary.bucketHash { arr := A, len := P }) (hb : BOK s.bucketDictionary.bucketHash)
    (hws : ws = s.BUPConfig.WindowSize.toNat) (hws0 : 0 ≤ s.BUPConfig.WindowSize) (hW : W ≤ L)
    (hfuel : L + 1 ≤ fuel + W)
    (hsq : blk.Sequences = []) (hlt : blk.Literals.data = []) (hswf : SWF blk.Literals) :
    ∃ (st' : LoopSt BucketT) (g' : Gen.bucketHash) (blk' : Block'),
      ProbeW.greedyLoopW (ProbeW.bupProbeW ws mmN E (A.drop L)) (A.take L) E
        { dict := ofBucket s.bucketDictionary.bucketHash, i := W, litIndex := W, seqs := [], lits := [] } = some st' ∧
      (gcall% bucketParser_Parse_loop_1 [grow := grow, lcp := lcp, inputEnd := eI,
            _p := ({ arr := A, len := P } : Slice), p := ({ arr := A, len := L } : Slice), minMatchLen := mm,
            fuel := fuel, i := (W : Int), s := s, blk := blk, litIndex := (W : Int)]) =
        Res.ok (gstate% bucketParser_Parse_loop_1 [i := (st'.i : Int), s := setB s g', blk := blk',
          litIndex := (st'.litIndex : Int)]) ∧
      BOK g' ∧ SameCfg s.bucketDictionary.bucketHash g' ∧ st'.dict = ofBucket g' ∧
      blk'.Sequences = st'.seqs.map seqRep ∧ blk'.Literals.data = st'.lits ∧ SWF blk'.Literals ∧
      W ≤ st'.litIndex ∧ st'.litIndex ≤ L := by
  by_cases hWE : E ≤ W
  · obtain ⟨f, rfl⟩ : ∃ f, fuel = f + 1 := ⟨fuel - 1, by omega⟩
    refine ⟨_, s.bucketDictionary.bucketHash, blk, ProbeW.greedyLoopW_done _ _ _ _ (Nat.not_lt.mpr hWE), ?_, hb, SameCfg.refl _, rfl,
      by rw [hsq]; rfl, hlt, hswf, Nat.le_refl _, hW⟩
    rw [bucketParser_Parse_loop_1, if_neg (by omega)]
  obtain rfl : P = E + 7 := hP (by omega)
  have hEI : eI = (E : Int) := by omega
  -- the generic lemma wants the state as `(i, s, blk, litIndex)`: the components of the result are taken by name
  let loop : Nat → Int → Gen.bucketParser → Block' → Int → Res _ := fun fuel ia s blk lia =>
    gcall% bucketParser_Parse_loop_1 [grow := grow, lcp := lcp, inputEnd := eI,
      _p := ({ arr := A, len := E + 7 } : Slice), p := ({ arr := A, len := L } : Slice), minMatchLen := mm,
      fuel := fuel, i := ia, s := s, blk := blk, litIndex := lia]
  let loopF : Nat → Int → Gen.bucketParser → Block' → Int → Res (Int × Gen.bucketParser × Block' × Int) :=
    fun fuel ia s blk lia => Res.bind (loop fuel ia s blk lia) fun r =>
      Res.ok (gproj% bucketParser_Parse_loop_1 i ((), r), gproj% bucketParser_Parse_loop_1 s ((), r),
        gproj% bucketParser_Parse_loop_1 blk ((), r), gproj% bucketParser_Parse_loop_1 litIndex ((), r))
  obtain ⟨st1, s1, blk1, hg1, hl1, ⟨g1, rfl, hb1, hsc1⟩, hd1, hE1, hiL1, hli1, hsq1, hlt1, hswf1, hW1⟩ :=
    greedy_generic (ProbeW.bupProbeW ws mmN E (A.drop L)) loopF
      (fun s' => ofBucket s'.bucketDictionary.bucketHash) (InvB s)
      grow A L E E 0 0 (Nat.le_refl _) hEL hLA
      (fun fuel ia s blk lia h => by
        dsimp only [loopF, loop]
        rw [bucketParser_Parse_loop_1, if_neg (by omega)]
        try rfl)
      (fun fuel i li ia lia s' blk hinv hia hlia hlo hi hli hf => by
        obtain ⟨g, rfl, hbg, hscg⟩ := hinv
        obtain ⟨r, hr, g', hb', hsc', hr1, hstp, hbnd⟩ := loop1_step grow lcp hlcp eI mm A L E mmN ws
          fuel i li ia lia (setB s g) blk (c.of_same hscg) hbg hia hlia hEI hmm hi hEL hLA c.swf hli hws hws0 hmm1 (by omega)
        refine ⟨r, hr, setB s g', ⟨g', rfl, hb', hscg.trans hsc'⟩, hr1, ?_, ?_⟩
        · dsimp only [loopF, loop]
          rw [hstp]
          obtain ⟨d, m⟩ := r
          cases m with
          | none => rfl
          | some m =>
            obtain ⟨st, k, o⟩ := m
            obtain ⟨rfl, -, -⟩ := hbnd st k o rfl
            rfl
        · intro st k o hc
          obtain ⟨rfl, h1, h2⟩ := hbnd st k o hc
          exact ⟨hli, Nat.le_refl _, by omega, h2⟩)
      (E - W) fuel W W (W : Int) (W : Int) s blk [] [] (by omega) (Nat.zero_le _) hW (Nat.le_refl _) rfl rfl
      (by omega) ⟨_, rfl, hb, SameCfg.refl _⟩ (by rw [hsq]; rfl) hlt hswf
  refine ⟨st1, g1, blk1, ?_, ?_, hb1, hsc1, hd1, hsq1, hlt1, hswf1, hW1, by omega⟩
  · rw [hg1]
    exact ProbeW.greedyLoopW_done _ _ _ _ (by omega)
  · show loop fuel (W : Int) s blk (W : Int) = _
    have hl1' : Res.bind (loop fuel (W : Int) s blk (W : Int)) _ = _ := hl1
    cases hL : loop fuel (W : Int) s blk (W : Int) with
    | ok r =>
      -- the components of the result by name; the tuple is put together again by eta
      rw [hL, bind_ok] at hl1'
      injection hl1' with hl1'
      simp only [Prod.mk.injEq] at hl1'
      obtain ⟨q1, q2, q3, q4⟩ := hl1'
      rw [← q1, ← q2, ← q3, ← q4]
    | panic => rw [hL] at hl1'; cases hl1'
    | fuel => rw [hL] at hl1'; cases hl1'

end LZ.GenBUPParse

#print axioms LZ.GenBUPParse.loop1_step
#print axioms LZ.GenBUPParse.loops_eq
