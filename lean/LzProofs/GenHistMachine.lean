/-
  Histories of calls on a translated parser, for ANY state type and ANY type of calls.

  A translated parser is a machine `stp : σ → O → Res (σ × R)`: one call `op : O` on a Go state, returning the new state
  and what the call returned.  `Calls O R` says how the calls are read on the model: which are well-formed, which model
  operation (`POp`) a call stands for, how the C01 bookkeeping (`Ghost`) is computed from a call and its result alone,
  and when a result is the model's.  The tie to the model is a relation `Inv : σ → Parser × Ghost → Prop` between Go
  states and model states with their ghost (a relation, not a function, so that it can carry an invariant of the Go
  state, data the Go state determines only up to a choice, or reachability of the model state).  All seven parsers use
  `HistInv Rel Q`: a relation `Rel` between Go states and model states, under which each method is simulated on its own
  (`WriteRel` … in LzProofs/GenHistBuf.lean), and a step-closed `Q` on the model state with its ghost.

-/
import LzProofs.ParseProps
import LzProofs.GenBufPropsBase

namespace LZ.GenHist
open LZ LZ.Gen LZ.GenBuf

/-- how calls `O` with results `R` are read on the model -/
structure Calls (O R : Type) where
  WF : O → Prop
  abs : O → POp
  ghostStep : Ghost → O → R → Ghost
  resAgree : Parser → O → R → Prop

section
variable {σ O R : Type}

/-- a history of calls; the results in order -/
def run (stp : σ → O → Res (σ × R)) : σ → List O → Res (σ × List R)
  | s, [] => Res.ok (s, [])
  | s, op :: ops =>
    Res.bind (stp s op) fun r =>
    Res.bind (run stp r.1 ops) fun q => Res.ok (q.1, r.2 :: q.2)

/-- the bookkeeping along a history -/
def Calls.ghostRun (L : Calls O R) : Ghost → List O → List R → Ghost
  | g, op :: ops, r :: rs => L.ghostRun (L.ghostStep g op r) ops rs
  | g, _, _ => g

/-- every result of a history is the model's -/
def Calls.ResultsAgree (L : Calls O R) : Parser × Ghost → List O → List R → Prop
  | _, [], [] => True
  | sg, op :: ops, r :: rs => L.resAgree sg.1 op r ∧ L.ResultsAgree (step sg (L.abs op)) ops rs
  | _, _, _ => False

/-! `run`, `ghostRun`, `ResultsAgree` are determined by their equations: a function written out for a particular parser
  and particular calls, with the same equations, is the generic one. -/

theorem run_unique {stp : σ → O → Res (σ × R)} {rn : σ → List O → Res (σ × List R)}
    (hnil : ∀ s, rn s [] = Res.ok (s, []))
    (hcons : ∀ s op ops, rn s (op :: ops) =
      Res.bind (stp s op) fun r => Res.bind (rn r.1 ops) fun q => Res.ok (q.1, r.2 :: q.2)) :
    rn = run stp := by
  funext s ops
  induction ops generalizing s with
  | nil => exact hnil s
  | cons op ops ih => rw [hcons, run]; simp only [ih]

theorem ghostRun_unique {L : Calls O R} {f : Ghost → List O → List R → Ghost}
    (hcons : ∀ g op ops r rs, f g (op :: ops) (r :: rs) = f (L.ghostStep g op r) ops rs)
    (hnil : ∀ g rs, f g [] rs = g) (hshort : ∀ g op ops, f g (op :: ops) [] = g) : f = L.ghostRun := by
  funext g ops rs
  induction ops generalizing g rs with
  | nil => exact hnil g rs
  | cons op ops ih => cases rs with
    | nil => exact hshort g op ops
    | cons r rs => rw [hcons]; exact ih _ _

theorem resultsAgree_unique {L : Calls O R} {F : Parser × Ghost → List O → List R → Prop}
    (hcons : ∀ sg op ops r rs, F sg (op :: ops) (r :: rs) = (L.resAgree sg.1 op r ∧ F (step sg (L.abs op)) ops rs))
    (hnil : ∀ sg, F sg [] [] = True) (hlong : ∀ sg r rs, F sg [] (r :: rs) = False)
    (hshort : ∀ sg op ops, F sg (op :: ops) [] = False) : F = L.ResultsAgree := by
  funext sg ops rs
  induction ops generalizing sg rs with
  | nil => cases rs with
    | nil => exact hnil sg
    | cons r rs => exact hlong sg r rs
  | cons op ops ih => cases rs with
    | nil => exact hshort sg op ops
    | cons r rs => rw [hcons, ih]; rfl

theorem run_append (stp : σ → O → Res (σ × R)) : ∀ (a b : List O) (s : σ),
    run stp s (a ++ b) =
      Res.bind (run stp s a) fun r => Res.bind (run stp r.1 b) fun q => Res.ok (q.1, r.2 ++ q.2) := by
  intro a
  induction a with
  | nil =>
    intro b s
    show run stp s b = Res.bind (run stp s b) fun q => Res.ok (q.1, q.2)
    cases run stp s b <;> rfl
  | cons op a ih =>
    intro b s
    show Res.bind (stp s op) _ = Res.bind (Res.bind (stp s op) _) _
    cases stp s op with
    | ok v =>
      show Res.bind (run stp v.1 (a ++ b)) _ = Res.bind (Res.bind (run stp v.1 a) _) _
      rw [ih]
      cases run stp v.1 a with
      | ok w =>
        show Res.bind (Res.bind (run stp w.1 b) _) _ = Res.bind (run stp w.1 b) _
        cases run stp w.1 b <;> rfl
      | panic => rfl
      | fuel => rfl
    | panic => rfl
    | fuel => rfl

theorem run_append_ok (stp : σ → O → Res (σ × R)) {a b : List O} {s t u : σ} {ra rb : List R}
    (ha : run stp s a = Res.ok (t, ra)) (hb : run stp t b = Res.ok (u, rb)) :
    run stp s (a ++ b) = Res.ok (u, ra ++ rb) := by
  rw [run_append, ha, bind_ok, hb]; rfl

variable (L : Calls O R) (stp : σ → O → Res (σ × R)) (Inv : σ → Parser × Ghost → Prop)

/-- one well-formed call, from a Go state related to a model state with its ghost -/
def StepSim : Prop :=
  ∀ (t : σ) (sg : Parser × Ghost) (op : O), Inv t sg → L.WF op →
    ∃ t' r, stp t op = Res.ok (t', r) ∧ Inv t' (step sg (L.abs op)) ∧
      L.ghostStep sg.2 op r = (step sg (L.abs op)).2 ∧ L.resAgree sg.1 op r

/-- the relation a history maintains: `Rel` ties the Go state to the model state, `Q` is what the history itself keeps
    of the model state with its ghost (e.g. that it is reachable from `NewParser`) -/
def HistInv (Rel : σ → Parser → Prop) (Q : Parser × Ghost → Prop) (t : σ) (sg : Parser × Ghost) : Prop := Rel t sg.1 ∧ Q sg

/-- the usual tie: an invariant `H` of the Go state and an abstraction function `ab` -/
def FRel (H : σ → Prop) (ab : σ → Parser) (t : σ) (m : Parser) : Prop := H t ∧ ab t = m

/-- … with nothing kept of the ghost -/
def FInv (H : σ → Prop) (ab : σ → Parser) : σ → Parser × Ghost → Prop := HistInv (FRel H ab) fun _ => True

variable {L stp Inv}

/-- Simulation: a history of well-formed calls from related states does not fail, ends in related states, its
    bookkeeping is the model's ghost, and every result is the model's. -/
theorem run_sim (hstep : StepSim L stp Inv) :
    ∀ (ops : List O) (t : σ) (sg : Parser × Ghost), Inv t sg → (∀ op ∈ ops, L.WF op) →
      ∃ t' rs, run stp t ops = Res.ok (t', rs) ∧ Inv t' (runOps sg (ops.map L.abs)) ∧
        L.ghostRun sg.2 ops rs = (runOps sg (ops.map L.abs)).2 ∧ L.ResultsAgree sg ops rs := by
  intro ops
  induction ops with
  | nil => intro t sg h _; exact ⟨t, [], rfl, h, rfl, trivial⟩
  | cons op ops ih =>
    intro t sg h hwf
    obtain ⟨t1, r, h1, h2, h3, h4⟩ := hstep t sg op h (hwf op (List.mem_cons_self ..))
    obtain ⟨t', rs, k1, k2, k3, k4⟩ := ih t1 _ h2 (fun o ho => hwf o (List.mem_cons_of_mem _ ho))
    refine ⟨t', r :: rs, ?_, k2, ?_, h4, k4⟩
    · show Res.bind (stp t op) _ = _
      rw [h1, bind_ok, k1]; rfl
    · show L.ghostRun (L.ghostStep sg.2 op r) ops rs = _
      rw [h3]; exact k3

theorem run_states (hstep : StepSim L stp Inv) (ops : List O) (t : σ) (sg : Parser × Ghost) (h : Inv t sg)
    (hwf : ∀ op ∈ ops, L.WF op) (k : Nat) :
    ∃ tk rk t' rs', run stp t (ops.take k) = Res.ok (tk, rk) ∧ Inv tk (runOps sg ((ops.take k).map L.abs)) ∧
      run stp tk (ops.drop k) = Res.ok (t', rs') ∧ run stp t ops = Res.ok (t', rk ++ rs') := by
  obtain ⟨tk, rk, k1, k2, -⟩ := run_sim hstep (ops.take k) t sg h (fun o ho => hwf o (List.mem_of_mem_take ho))
  obtain ⟨t', rs', j1, -⟩ := run_sim hstep (ops.drop k) tk _ k2 (fun o ho => hwf o (List.mem_of_mem_drop ho))
  refine ⟨tk, rk, t', rs', k1, k2, j1, ?_⟩
  have := run_append_ok stp k1 j1
  rwa [List.take_append_drop] at this

theorem run_congr (hstep : StepSim L stp Inv) {stp' : σ → O → Res (σ × R)}
    (heq : ∀ t sg op, Inv t sg → stp' t op = stp t op) (ops : List O) (t : σ) (sg : Parser × Ghost)
    (h : Inv t sg) (hwf : ∀ op ∈ ops, L.WF op) : run stp' t ops = run stp t ops := by
  induction ops generalizing t sg with
  | nil => rfl
  | cons op ops ih =>
    obtain ⟨t1, r, h1, h2, -⟩ := hstep t sg op h (hwf op (List.mem_cons_self ..))
    show Res.bind (stp' t op) _ = Res.bind (stp t op) _
    rw [heq t sg op h, h1]
    show Res.bind (run stp' t1 ops) _ = Res.bind (run stp t1 ops) _
    rw [ih t1 _ h2 (fun o ho => hwf o (List.mem_cons_of_mem _ ho))]

end

/-- the model state (with its ghost) is the one some history reaches from `p0` -/
def Reach (p0 : Parser) (sg : Parser × Ghost) : Prop := ∃ mops, sg = runOps (p0, Ghost.init) mops

theorem Reach.init (p0 : Parser) : Reach p0 (p0, Ghost.init) := ⟨[], rfl⟩

theorem Reach.step {p0 : Parser} {sg : Parser × Ghost} (h : Reach p0 sg) (op : POp) : Reach p0 (step sg op) := by
  obtain ⟨mops, rfl⟩ := h
  exact ⟨mops ++ [op], by simp only [runOps, List.foldl_append, List.foldl_cons, List.foldl_nil]⟩

theorem Reach.fst {p0 : Parser} {sg : Parser × Ghost} (h : Reach p0 sg) : ∃ mops, sg.1 = (runOps (p0, Ghost.init) mops).1 := by
  obtain ⟨mops, rfl⟩ := h
  exact ⟨mops, rfl⟩

/-! ## the history properties, for a ghost that is the model's -/

section
variable {k : Kind} {raw : Cfg} {p : Parser} (hp : newParser k raw = some p) (hH : HistHyp k p) {mops : List POp}
  {g : Ghost} (hg : g = (runOps (p, Ghost.init) mops).2)
include hp hH hg

theorem C01_ghost : decode [] g.log = some (g.fed.take g.consumed) := by
  subst hg; exact C01_roundtrip k raw p hp hH mops

theorem C02_ghost :
    LogAll (fun pos e => ∀ n fl blk, e = .block n fl blk →
      SeqsAll (SeqWF p.buf.cfg.windowSize (mmOf k p.cfg)) pos blk.seqs ∧ litSum blk.seqs ≤ blk.lits.length) 0 g.log := by
  subst hg; exact C02_wellformed k raw p hp hH mops

theorem C03_ghost :
    LogAll (fun pos e => 1 ≤ e.n ∧ e.n ≤ p.buf.cfg.blockSize ∧ pos + e.n ≤ g.fed.length ∧
      ∀ n fl blk, e = .block n fl blk →
        blk.len = n ∧ expand (g.fed.take pos) blk = some (g.fed.take (pos + n)) ∧
        (fl % 2 = 1 → blk.seqs ≠ [] → blk.lits.length = litSum blk.seqs ∧ n = seqsSpan blk.seqs)) 0 g.log ∧
    logSpan g.log = g.consumed ∧ g.consumed ≤ g.fed.length := by
  subst hg
  obtain ⟨a1, a2, -, a4⟩ := C03_contiguous k raw p hp hH mops
  exact ⟨a1, a2, a4⟩

theorem C14_skip_ghost :
    LogAll (fun pos e => ∀ b, e = .skip b →
      1 ≤ b.length ∧ b.length ≤ p.buf.cfg.blockSize ∧ b = (g.fed.drop pos).take b.length) 0 g.log := by
  subst hg; exact C14_skip_verbatim k raw p hp hH mops

end

end LZ.GenHist

#print axioms LZ.GenHist.run_append
#print axioms LZ.GenHist.run_sim
#print axioms LZ.GenHist.run_states
#print axioms LZ.GenHist.run_congr
