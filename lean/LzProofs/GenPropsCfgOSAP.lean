/-
  The parser configuration OSAPConfig: `SetDefaults` / `Verify` through the reflective helpers, which appear in the
  generated code as the field copies the extractor read from their source.  `ofOSAP` reads the generated struct as the
  model's union record `Cfg` (fields the kind does not have are zero), `toOSAP` is the inverse on `Cfg.restrict .OSAP`.
  Go `int`/`int64` are unbounded `Int` on both sides (overflow is out of scope), `uint32`/`uint64` wrap around.  The
  proofs do not depend on the shape of the generated term (see GenPropsBase).
-/
import LzModel.Generated.CodeCfgOSAP
import LzProofs.GenPropsCfgBuf

set_option linter.unusedSimpArgs false

namespace LZ.GenProps
open LZ

def ofOSAP (c : Gen.OSAPConfig) : Cfg :=
  { shrinkSize := c.ShrinkSize, bufferSize := c.BufferSize, windowSize := c.WindowSize,
    blockSize := c.BlockSize,
    minMatchLen := c.MinMatchLen, maxMatchLen := c.MaxMatchLen, cost := c.Cost }

def toOSAP (c : Cfg) : Gen.OSAPConfig :=
  { ShrinkSize := c.shrinkSize, BufferSize := c.bufferSize, WindowSize := c.windowSize,
    BlockSize := c.blockSize,
    MinMatchLen := c.minMatchLen, MaxMatchLen := c.maxMatchLen, Cost := c.cost }

theorem ofOSAP_toOSAP (c : Cfg) : ofOSAP (toOSAP c) = c.restrict .OSAP := by
  simp [ofOSAP, toOSAP, Cfg.restrict, Kind.fields]

theorem toOSAP_ofOSAP (c : Gen.OSAPConfig) : toOSAP (ofOSAP c) = c := rfl

theorem gen_setDefaults_OSAP (c : Gen.OSAPConfig) :
    ofOSAP (Gen.OSAPConfig_SetDefaults c) = setDefaults .OSAP (ofOSAP c) := by
  have e : setDefaults .OSAP (ofOSAP c) = { bufDefaults (ofOSAP c) with
      minMatchLen := if c.MinMatchLen = 0 then Facts.defOsapMinMatchLen else c.MinMatchLen,
      maxMatchLen := if c.MaxMatchLen = 0 then Facts.defMaxMatchLen else c.MaxMatchLen,
      cost := if c.Cost = "" then Facts.defCost else c.Cost } := rfl
  rw [e]
  dsimp only [Gen.OSAPConfig_SetDefaults, gen_helper, ofOSAP, Facts.defOsapMinMatchLen, Facts.defMaxMatchLen,
    Facts.defCost]
  simp only [gen_bufDefaults', Cfg.mk.injEq, decide_eq_true_eq,
    apply_ite Gen.BufConfig.ShrinkSize, apply_ite Gen.BufConfig.BufferSize,
    apply_ite Gen.BufConfig.WindowSize, apply_ite Gen.BufConfig.BlockSize,
    apply_ite Gen.OSAPConfig.ShrinkSize, apply_ite Gen.OSAPConfig.BufferSize,
    apply_ite Gen.OSAPConfig.WindowSize, apply_ite Gen.OSAPConfig.BlockSize,
    apply_ite Gen.OSAPConfig.MinMatchLen, apply_ite Gen.OSAPConfig.MaxMatchLen,
    apply_ite Gen.OSAPConfig.Cost, ite_self, and_true, true_and]
  -- every field agrees by computation, except `BufferSize`:
  -- `if bc.BufferSize == 0 { bc.SetDefaults(); bc.BufferSize = bc.WindowSize }`
  refine ⟨rfl, ?_, rfl, rfl, rfl, rfl, rfl, rfl, rfl, rfl, rfl⟩
  split <;> first
    | rfl
    | exact (bufDefaults_bufferSize_of_zero (ofBuf ⟨_, _, _, _⟩) (by show c.BufferSize = 0; omega)).symm

theorem gen_verify_OSAP (c : Gen.OSAPConfig) :
    Gen.OSAPConfig_Verify c = .ok ↔ verify .OSAP (ofOSAP c) = true := by
  have hb : bufVerify (ofOSAP c) = true ↔
      Gen.BufConfig_Verify ⟨c.ShrinkSize, c.BufferSize, c.WindowSize, c.BlockSize⟩ = .ok := by
    rw [gen_bufVerify]; rfl
  rw [verify_osap, hb]
  dsimp only [Gen.OSAPConfig_Verify, gen_helper, ofOSAP, Facts.defCost, Facts.maxInt32]
  -- propositional in the result of the buffer check and in the test of `Cost`, linear in the other fields
  generalize Gen.BufConfig_Verify _ = e
  by_cases hc : c.Cost = "XZCost" <;> cases e <;> gen_ifs [hc]

theorem tieOSAP : CfgTie .OSAP ofOSAP toOSAP Gen.OSAPConfig_SetDefaults Gen.OSAPConfig_Verify :=
  ⟨ofOSAP_toOSAP, gen_setDefaults_OSAP, gen_verify_OSAP⟩

theorem gen_accepted_OSAP (c : Cfg) :
    accepted .OSAP c = true ↔ Gen.OSAPConfig_Verify (Gen.OSAPConfig_SetDefaults (toOSAP c)) = .ok :=
  tieOSAP.accepted c

end LZ.GenProps
