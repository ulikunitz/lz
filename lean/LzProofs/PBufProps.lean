/-
  LzProofs.PBufProps — property C15 ("the parser buffer is a faithful, bounded sliding view of
  the input stream") and the buffer-level part of C08 (chunking independence of `ReadFrom`)
  for the model `LZ.PBuf` of Go's `ParserBuffer` (parser_buffer.go).

  Ghost state: `fed : List Byte`, everything accepted since the last `Reset`.
  Invariant:   `PInv b fed` (LzProofs/PBufLemmas.lean):
      fed.drop b.off = b.data ∧ b.off ≤ fed.length ∧ b.w ≤ b.data.length
      ∧ b.data.length ≤ b.cfg.bufferSize ∧ (b.data = [] ∨ b.data.length + 7 ≤ b.cap)
  All theorems hold for every configuration (no restriction on BufferSize / ShrinkSize).
-/
import LzProofs.PBufLemmas
namespace LZ
namespace PBuf

/-! ## C15, operation by operation -/

/-- The fresh buffer views the empty stream. -/
theorem C15_init (cfg : BufCfg) : PInv (init cfg) [] := pinv_init cfg

/-- `Write` stores the longest prefix of `p` that fits (`n = min |p| (BufferSize - len)`),
    returns that `n`, reports `ErrFullBuffer` exactly when `n < |p|`, never panics, and the
    result views `fed ++ p.take n` (so never more than `BufferSize` bytes, margin kept). -/
theorem C15_write {b : PBuf} {fed : List Byte} (h : PInv b fed) (p : List Byte) :
    let n := min p.length (b.cfg.bufferSize - b.data.length)
    ∃ c, b.write p = ({ b with data := b.data ++ p.take n, cap := c }, n,
                       if n < p.length then .full else .ok)
      ∧ PInv { b with data := b.data ++ p.take n, cap := c } (fed ++ p.take n) := by
  intro n
  obtain ⟨c, hw, hc⟩ := write_spec b p h.len_le
  refine ⟨c, hw, ?_⟩
  have := (write_appended b p).pinv h
  rw [hw] at this
  exact this

theorem C15_write_err {b : PBuf} {fed : List Byte} (h : PInv b fed) (p : List Byte) :
    ((b.write p).2.2 = .full ↔ (b.write p).2.1 < p.length) ∧
    ((b.write p).2.2 = .ok ↔ (b.write p).2.1 = p.length) ∧
    (b.write p).2.2 ≠ .panic := by
  obtain ⟨c, hw, -⟩ := C15_write h p
  rw [hw]
  simp only []
  split <;> simp <;> omega

/-- `Shrink` returns `delta = W - ShrinkSize` (0 if negative), discards exactly the `delta`
    oldest bytes, advances `Off` by `delta`, leaves `min ShrinkSize W` bytes of history before the
    parse position, and keeps viewing the same stream. -/
theorem C15_shrink {b : PBuf} {fed : List Byte} (h : PInv b fed) :
    let delta := b.w - b.cfg.shrinkSize
    b.shrink = ({ b with data := b.data.drop delta, w := min b.cfg.shrinkSize b.w,
                         off := b.off + delta }, delta)
      ∧ PInv b.shrink.1 fed
      ∧ b.shrink.1.off + b.shrink.1.w = b.off + b.w := by
  refine ⟨shrink_spec b, pinv_shrink h, ?_⟩
  rw [shrink_spec]; simp only []; omega

/-- `Reset(data)`: rejected (state unchanged) iff `len(data) > BufferSize`; otherwise the buffer
    views exactly `data`, with `W = 0`, `Off = 0` — for every capacity of the slice passed in. -/
theorem C15_reset (b : PBuf) (data : List Byte) (capExtra : Nat) :
    (b.cfg.bufferSize < data.length → b.reset data capExtra = (b, .oversize)) ∧
    (data.length ≤ b.cfg.bufferSize →
      (b.reset data capExtra).2 = .ok ∧ PInv (b.reset data capExtra).1 data ∧
      (b.reset data capExtra).1.data = data ∧
      (b.reset data capExtra).1.w = 0 ∧ (b.reset data capExtra).1.off = 0 ∧
      (b.reset data capExtra).1.cfg = b.cfg) := by
  refine ⟨reset_oversize b data capExtra, fun h => ?_⟩
  have hp := pinv_reset b data capExtra h
  obtain ⟨c, hc, -⟩ := reset_spec b data capExtra h
  rw [hc] at hp ⊢
  exact ⟨rfl, hp, rfl, rfl, rfl, rfl⟩

/-- `Reset` fails iff the data are longer than `BufferSize`; the only errors are `nil` and the
    oversize error. -/
theorem C15_reset_err_iff (b : PBuf) (data : List Byte) (capExtra : Nat) :
    ((b.reset data capExtra).2 = .oversize ↔ b.cfg.bufferSize < data.length) ∧
    ((b.reset data capExtra).2 = .ok ↔ data.length ≤ b.cfg.bufferSize) := by
  refine ⟨reset_err_iff b data capExtra, ?_⟩
  by_cases h : b.cfg.bufferSize < data.length
  · rw [reset_oversize b data capExtra h]; simp; omega
  · obtain ⟨c, hc, -⟩ := reset_spec b data capExtra (by omega)
    rw [hc]; simp; omega

/-- `PeekAt(n, x)`: the whole retained rest of the stream from `x` on. -/
theorem C15_peekAt {b : PBuf} {fed : List Byte} (h : PInv b fed) (n : Nat) (x : Int) :
    b.peekAt n x =
      if (b.off : Int) ≤ x ∧ x < (fed.length : Int) then
        (fed.drop x.toNat, if fed.length - x.toNat < n then .endOfBuffer else .ok)
      else ([], .outOfBuffer) := by
  have hl := h.fed_length
  unfold peekAt
  by_cases hc : (b.off : Int) ≤ x ∧ x < (fed.length : Int)
  · have hi : b.off + (x - (b.off : Int)).toNat = x.toNat := by omega
    rw [if_pos hc, if_pos (by omega)]
    simp only [← h.view, List.drop_drop, hi, List.length_drop]
  · rw [if_neg hc, if_neg (by omega)]

/-- `ReadAt(p, x)` with `len(p) = n` at absolute offset `x`: inside the retained range it copies
    `fed[x ..< x+n]` (as far as available) and reports `ErrEndOfBuffer` iff fewer than `n` bytes are
    available; outside it reports `ErrOutOfBuffer`. Never a panic. -/
theorem C15_readAt {b : PBuf} {fed : List Byte} (h : PInv b fed) (n : Nat) (x : Int) :
    b.readAt n x =
      if (b.off : Int) ≤ x ∧ x < (fed.length : Int) then
        ((fed.drop x.toNat).take n, if fed.length - x.toNat < n then .endOfBuffer else .ok)
      else ([], .outOfBuffer) := by
  unfold readAt
  rw [C15_peekAt h n x]
  by_cases hc : (b.off : Int) ≤ x ∧ x < (fed.length : Int)
  · rw [if_pos hc, if_pos hc]
  · rw [if_neg hc, if_neg hc]
    simp only [List.take_nil]

/-- `ByteAt(x)`: the `x`-th byte fed since the last reset if it is retained, `ErrEndOfBuffer`
    exactly at the end of the stream, `ErrOutOfBuffer` elsewhere. Never a panic. -/
theorem C15_byteAt {b : PBuf} {fed : List Byte} (h : PInv b fed) (x : Int) :
    b.byteAt x =
      if (b.off : Int) ≤ x ∧ x < (fed.length : Int) then ((fed[x.toNat]?).getD 0, .ok)
      else if x = (fed.length : Int) then (0, .endOfBuffer)
      else (0, .outOfBuffer) := by
  have hl := h.fed_length
  unfold byteAt
  by_cases hc : (b.off : Int) ≤ x ∧ x < (fed.length : Int)
  · have hi : b.off + (x - (b.off : Int)).toNat = x.toNat := by omega
    rw [if_pos hc, if_pos (by omega), ← h.view, List.getElem?_drop, hi]
  · rw [if_neg hc, if_neg (by omega)]
    by_cases hx : x = (fed.length : Int)
    · rw [if_pos hx, if_pos (by omega)]
    · rw [if_neg hx, if_neg (by omega)]

/-- `ByteAt` for a natural-number offset in range returns literally `fed[x]`. -/
theorem C15_byteAt_nat {b : PBuf} {fed : List Byte} (h : PInv b fed) (x : Nat)
    (h1 : b.off ≤ x) (h2 : x < fed.length) : b.byteAt (x : Int) = (fed[x], .ok) := by
  rw [C15_byteAt h x, if_pos (by omega)]
  simp [h2]

/-- `ReadFrom(r) = (n, e)`: the buffer gains exactly the first `n` payload bytes of the reader
    (which the reader loses), nothing else changes, the bound `BufferSize` and the margin are kept;
    the call never panics and never returns `nil`.  It stops for exactly one of three reasons:
    (1) `ErrFullBuffer`: the buffer is full and no consumed reader response carried an error;
    (2) `io.EOF` because the script of the model reader ran out (room is left);
    (3) the reader's own report `ec ≠ 0` on the last consumed response (1 = `io.EOF`).
    A response with a nil error never ends the loop, also when it delivered nothing (`(0, nil)`).
    `pre` are the responses consumed before the stop: all with code 0; unless the payload ran out
    (`n = |payload|`), each of them that offered a byte (`mx ≥ 1`) delivered at least one
    (`offers pre ≤ n`); in (1) and (2) nothing was consumed iff nothing was read. -/
theorem C15_readFrom {b : PBuf} {fed : List Byte} (h : PInv b fed) (r : Reader)
    {b' : PBuf} {r' : Reader} {n : Nat} {e : Err} (hr : b.readFrom r = (b', r', n, e)) :
    b'.data = b.data ++ r.payload.take n ∧ n ≤ r.payload.length ∧
    r'.payload = r.payload.drop n ∧
    b'.w = b.w ∧ b'.off = b.off ∧ b'.cfg = b.cfg ∧
    PInv b' (fed ++ r.payload.take n) ∧
    e ≠ .ok ∧ e ≠ .panic ∧
    ∃ pre : List (Nat × Nat), (∀ x ∈ pre, x.2 = 0) ∧ (n = r.payload.length ∨ offers pre ≤ n) ∧
      ((e = .full ∧ r.resps = pre ++ r'.resps ∧ b'.data.length = b.cfg.bufferSize ∧
          (pre = [] → n = 0)) ∨
       (e = .eof ∧ r.resps = pre ∧ r'.resps = [] ∧ b'.data.length < b.cfg.bufferSize ∧
          (pre = [] → n = 0)) ∨
       (∃ mx ec, r.resps = pre ++ (mx, ec) :: r'.resps ∧ ec ≠ 0 ∧
          e = errOfCode ec ∧ e ≠ .full)) := by
  obtain ⟨c, pre, hb, hr', hn1, hn2, hm, hpre, hprelen, hcase⟩ := readFrom_master h.len_le hr
  have hp := (readFrom_appended b r).pinv h
  rw [hr] at hp
  have hlen' : b'.data.length = b.data.length + n := by
    rw [hb]; simp only [List.length_append, List.length_take]; omega
  have he := readFrom_err b r h.len_le
  rw [hr] at he
  refine ⟨by rw [hb], hn1, hr', by rw [hb], by rw [hb], by rw [hb], hp, he.1, he.2, pre, hpre, hprelen, ?_⟩
  rw [hlen']
  rcases hcase with ⟨h1, h2, h3, h5⟩ | ⟨h1, h2, h3, h4, h5⟩ | ⟨mx, ec, h1, hec, rfl⟩
  · exact Or.inl ⟨h1, h2, h3, h5⟩
  · exact Or.inr (Or.inl ⟨h1, h2, h3, h4, h5⟩)
  · exact Or.inr (Or.inr ⟨mx, ec, h1, hec, rfl, (errOfCode_ne ec hec).2.2.1⟩)

/-- `ReadFrom` returns `ErrFullBuffer` only with a completely full buffer. -/
theorem C15_readFrom_full {b : PBuf} {fed : List Byte} (h : PInv b fed) (r : Reader) :
    (b.readFrom r).2.2.2 = .full → (b.readFrom r).1.data.length = b.cfg.bufferSize := by
  intro he
  obtain ⟨-, -, -, -, -, -, -, -, -, pre, -, -, hcase⟩ := C15_readFrom h r (readFrom_eta b r)
  rcases hcase with ⟨_, _, h3, _⟩ | ⟨h1, _⟩ | ⟨_, _, _, _, _, h3⟩
  · exact h3
  · rw [he] at h1; cases h1
  · exact absurd he h3

/-! ## C08 (buffer level): chunking independence -/

/-- Whenever `ReadFrom` stops with the buffer full or with the reader's payload exhausted — however
    the reader chunked its data — it has stored exactly `payload.take (min |payload| room)`. -/
theorem readFrom_fill_outcome {b : PBuf} {fed : List Byte} (h : PInv b fed) (r : Reader)
    {b' : PBuf} {r' : Reader} {n : Nat} {e : Err} (hr : b.readFrom r = (b', r', n, e))
    (hstop : e = .full ∨ r'.payload = []) :
    b'.data = b.data ++ r.payload.take (min r.payload.length (b.cfg.bufferSize - b.data.length)) ∧
    n = min r.payload.length (b.cfg.bufferSize - b.data.length) := by
  have hn := readFrom_fill_of_outcome h.len_le hr hstop
  obtain ⟨hd, -⟩ := C15_readFrom h r hr
  rw [hd, hn]; exact ⟨rfl, rfl⟩

theorem readFrom_fill_scriptN {b : PBuf} {fed : List Byte} (h : PInv b fed) (r : Reader)
    (hs : FillScriptN r.resps (min r.payload.length (b.cfg.bufferSize - b.data.length)))
    {b' : PBuf} {r' : Reader} {n : Nat} {e : Err} (hr : b.readFrom r = (b', r', n, e)) :
    let m := min r.payload.length (b.cfg.bufferSize - b.data.length)
    b'.data = b.data ++ r.payload.take m ∧ n = m ∧ r'.payload = r.payload.drop m ∧
    b'.w = b.w ∧ b'.off = b.off ∧ b'.cfg = b.cfg ∧
    e = (if b.cfg.bufferSize - b.data.length ≤ r.payload.length then .full else .eof) := by
  intro m
  obtain ⟨s1, s2, s3⟩ := readFrom_stop_of_fillScriptN h.len_le hs hr
  obtain ⟨hd, hn⟩ := readFrom_fill_outcome h r hr s1
  obtain ⟨-, -, hp, hw, ho, hc, -⟩ := C15_readFrom h r hr
  refine ⟨hd, hn, by rw [hp, hn], hw, ho, hc, ?_⟩
  split
  · rename_i hc; exact s3.2 hc
  · rename_i hc
    exact s2.resolve_left fun h' => hc (s3.1 h')

/-- Chunking independence of `ReadFrom`: for a reader whose script is error free, never answers
    `(0, nil)` while payload is left and is long enough (`FillScript`; for scripts with `(0, nil)`
    answers anywhere see `readFrom_fillN` in ReaderNil.lean), the outcome is determined by the payload alone:
    the data gain `payload.take (min |payload| room)`, the reader keeps the rest, and the error is
    `ErrFullBuffer` if the payload fills the room, else `io.EOF`. The chunk sizes `mx` of the
    script and the capacity of the buffer do not occur on the right-hand sides. -/
theorem readFrom_fill {b : PBuf} {fed : List Byte} (h : PInv b fed) (r : Reader)
    (hs : FillScript r.resps (min r.payload.length (b.cfg.bufferSize - b.data.length)))
    {b' : PBuf} {r' : Reader} {n : Nat} {e : Err} (hr : b.readFrom r = (b', r', n, e)) :
    let m := min r.payload.length (b.cfg.bufferSize - b.data.length)
    b'.data = b.data ++ r.payload.take m ∧ n = m ∧ r'.payload = r.payload.drop m ∧
    b'.w = b.w ∧ b'.off = b.off ∧ b'.cfg = b.cfg ∧
    e = (if b.cfg.bufferSize - b.data.length ≤ r.payload.length then .full else .eof) :=
  readFrom_fill_scriptN h r hs.toN hr

/-- Two runs of `ReadFrom` on buffers that differ at most in `cap`, with readers that carry the same
    payload but chunk it differently, end in buffers that again differ at most in `cap`, with the
    same count, error and remaining payload. -/
theorem readFrom_chunking_independent {a b : PBuf} {fa fb : List Byte}
    (ha : PInv a fa) (_hb : PInv b fb) (hv : SameView a b)
    {ra rb : Reader} (hp : ra.payload = rb.payload)
    (hsa : FillScript ra.resps (min ra.payload.length (a.cfg.bufferSize - a.data.length)))
    (hsb : FillScript rb.resps (min rb.payload.length (b.cfg.bufferSize - b.data.length))) :
    SameView (a.readFrom ra).1 (b.readFrom rb).1 ∧
    (a.readFrom ra).2.1.payload = (b.readFrom rb).2.1.payload ∧
    (a.readFrom ra).2.2 = (b.readFrom rb).2.2 :=
  sameView_readFrom_fill hv ha.len_le hp hsa hsb

/-- `cap` is unobservable: `Write`, `Shrink`, `Reset`, `ReadAt`, `PeekAt`, `ByteAt` on two buffers
    that differ at most in `cap` give the same outputs and buffers that differ at most in `cap`. -/
theorem cap_unobservable {a b : PBuf} {fa : List Byte} (ha : PInv a fa) (hv : SameView a b) :
    (∀ p, SameView (a.write p).1 (b.write p).1 ∧ (a.write p).2 = (b.write p).2) ∧
    (SameView a.shrink.1 b.shrink.1 ∧ a.shrink.2 = b.shrink.2) ∧
    (∀ d ea eb, SameView (a.reset d ea).1 (b.reset d eb).1 ∧ (a.reset d ea).2 = (b.reset d eb).2) ∧
    (∀ n x, a.readAt n x = b.readAt n x) ∧ (∀ n x, a.peekAt n x = b.peekAt n x) ∧
    (∀ x, a.byteAt x = b.byteAt x) :=
  ⟨fun p => sameView_write hv ha.len_le p, sameView_shrink hv, fun d ea eb => sameView_reset hv d ea eb,
   fun n x => sameView_readAt hv n x, fun n x => sameView_peekAt hv n x, fun x => sameView_byteAt hv x⟩

/-- a large configuration (BufferSize 100000 > 2·chunkSize) for the remark below -/
def cfgBig : BufCfg := { shrinkSize := 1, bufferSize := 100000, windowSize := 4, blockSize := 4 }

/-- Limits of chunking independence. For a reader that *fails*, the number of bytes
    `ReadFrom` accepts before the failure does depend on `cap` (the slice offered to `Read` ends at
    `min (cap - 7) BufferSize`): a reader that is ready to deliver 100000 bytes together with an
    error gets 65536 of them accepted by a fresh buffer (cap 0, grown to 65543) and all 100000 by an
    otherwise identical buffer of capacity 100007. No byte is lost (the rest stays in the reader);
    only the split differs. Hence `readFrom_fill` needs its "error free" hypothesis. -/
theorem readFrom_faulty_depends_on_cap (pl : List Byte) (h : pl.length = 100000) :
    SameView (init cfgBig) { init cfgBig with cap := 100007 } ∧
    ((init cfgBig).readFrom ⟨pl, [(100000, 2)]⟩).2.2 = (65536, .reader 2) ∧
    (({ init cfgBig with cap := 100007 } : PBuf).readFrom ⟨pl, [(100000, 2)]⟩).2.2
      = (100000, .reader 2) := by
  refine ⟨⟨rfl, rfl, rfl, rfl⟩, ?_, ?_⟩ <;>
  simp [readFrom, readLoop, init, grow, cfgBig, h, Facts.margin, Facts.chunkSize, Facts.growMin,
    min3, errOfCode]

example : (List.replicate 100000 (0 : Byte)).length = 100000 := List.length_replicate

/-! ## C15 over histories -/

/-- the operations of a history; `advance n` stands for a `Parse` call that moves `W` by `n` -/
inductive BOp where
  | write (p : List Byte)
  | readFrom (r : Reader)
  | advance (n : Nat)
  | shrink
  | reset (data : List Byte) (capExtra : Nat)

/-- the implementation step -/
def BOp.apply (b : PBuf) : BOp → PBuf
  | .write p => (b.write p).1
  | .readFrom r => (b.readFrom r).1
  | .advance n => if b.w + n ≤ b.data.length then { b with w := b.w + n } else b
  | .shrink => b.shrink.1
  | .reset d ce => (b.reset d ce).1

/-- the count an operation returns to its caller (only used for `ReadFrom`) -/
def BOp.ret (b : PBuf) : BOp → Nat
  | .write p => (b.write p).2.1
  | .readFrom r => (b.readFrom r).2.2.1
  | .advance _ => 0
  | .shrink => b.shrink.2
  | .reset _ _ => 0

/-- specification state: the stream fed since the last reset, the number of discarded bytes and
    the parse position relative to `off` -/
structure View where
  fed : List Byte
  off : Nat
  w : Nat
deriving Repr, DecidableEq

/-- the specification step. It is a function of the configuration, the previous specification
    state and the operation; for `ReadFrom` additionally of the count `ret` the call returned
    (how much a faulty reader delivers is the reader's business). -/
def View.step (cfg : BufCfg) (v : View) (ret : Nat) : BOp → View
  | .write p => { v with fed := v.fed ++ p.take (cfg.bufferSize - (v.fed.length - v.off)) }
  | .readFrom r => { v with fed := v.fed ++ r.payload.take ret }
  | .advance n => if v.off + v.w + n ≤ v.fed.length then { v with w := v.w + n } else v
  | .shrink => { v with off := v.off + (v.w - cfg.shrinkSize), w := min cfg.shrinkSize v.w }
  | .reset d _ => if d.length ≤ cfg.bufferSize then ⟨d, 0, 0⟩ else v

/-- what `ReadAt` must answer in specification state `v` -/
def View.readAt (v : View) (n : Nat) (x : Int) : List Byte × Err :=
  if (v.off : Int) ≤ x ∧ x < (v.fed.length : Int) then
    ((v.fed.drop x.toNat).take n, if v.fed.length - x.toNat < n then .endOfBuffer else .ok)
  else ([], .outOfBuffer)

/-- what `PeekAt` must answer in specification state `v` -/
def View.peekAt (v : View) (n : Nat) (x : Int) : List Byte × Err :=
  if (v.off : Int) ≤ x ∧ x < (v.fed.length : Int) then
    (v.fed.drop x.toNat, if v.fed.length - x.toNat < n then .endOfBuffer else .ok)
  else ([], .outOfBuffer)

/-- what `ByteAt` must answer in specification state `v` -/
def View.byteAt (v : View) (x : Int) : Byte × Err :=
  if (v.off : Int) ≤ x ∧ x < (v.fed.length : Int) then ((v.fed[x.toNat]?).getD 0, .ok)
  else if x = (v.fed.length : Int) then (0, .endOfBuffer)
  else (0, .outOfBuffer)

/-- run implementation and specification side by side from `Init(cfg)` -/
def runBoth (cfg : BufCfg) (ops : List BOp) : PBuf × View :=
  ops.foldl (fun (s : PBuf × View) op => (op.apply s.1, s.2.step cfg (op.ret s.1) op))
    (init cfg, ⟨[], 0, 0⟩)

/-- implementation state and specification state correspond -/
def Corr (cfg : BufCfg) (b : PBuf) (v : View) : Prop :=
  PInv b v.fed ∧ b.off = v.off ∧ b.w = v.w ∧ b.cfg = cfg

theorem corr_step {cfg : BufCfg} {b : PBuf} {v : View} (h : Corr cfg b v) (op : BOp) :
    Corr cfg (op.apply b) (v.step cfg (op.ret b) op) := by
  obtain ⟨hp, ho, hw, hc⟩ := h
  have hl := hp.fed_length
  cases op with
  | write p =>
    obtain ⟨c, hwr, hp'⟩ := C15_write hp p
    simp only [BOp.apply, View.step, hwr]
    have : cfg.bufferSize - (v.fed.length - v.off) = b.cfg.bufferSize - b.data.length := by
      rw [hc]; omega
    rw [this]
    have ht : p.take (min p.length (b.cfg.bufferSize - b.data.length))
        = p.take (b.cfg.bufferSize - b.data.length) := by
      rw [Nat.min_comm, ← List.take_eq_take_min]
    rw [ht] at hp'
    rw [ht]
    exact ⟨hp', ho, hw, hc⟩
  | readFrom r =>
    obtain ⟨-, -, -, h4, h5, h6, h7, -⟩ := C15_readFrom hp r (readFrom_eta b r)
    simp only [BOp.apply, View.step, BOp.ret]
    exact ⟨h7, by rw [h5, ho], by rw [h4, hw], by rw [h6, hc]⟩
  | advance n =>
    simp only [BOp.apply, View.step]
    have hiff : b.w + n ≤ b.data.length ↔ v.off + v.w + n ≤ v.fed.length := by omega
    by_cases hn : b.w + n ≤ b.data.length
    · rw [if_pos hn, if_pos (hiff.1 hn)]
      exact ⟨pinv_advance hp n hn, ho, by simp only []; rw [hw], hc⟩
    · rw [if_neg hn, if_neg (fun h => hn (hiff.2 h))]
      exact ⟨hp, ho, hw, hc⟩
  | shrink =>
    obtain ⟨hs, hp', -⟩ := C15_shrink hp
    simp only [BOp.apply, View.step]
    rw [← hc, ← hw, ← ho]
    refine ⟨hp', ?_, ?_, ?_⟩ <;> rw [hs]
  | reset d ce =>
    obtain ⟨h1, h2⟩ := C15_reset b d ce
    simp only [BOp.apply, View.step]
    by_cases hd : d.length ≤ cfg.bufferSize
    · rw [if_pos hd]
      obtain ⟨-, g2, -, g4, g5, g6⟩ := h2 (by rw [hc]; exact hd)
      exact ⟨g2, g5, g4, by rw [g6, hc]⟩
    · rw [if_neg hd, h1 (by rw [hc]; omega)]
      exact ⟨hp, ho, hw, hc⟩

theorem corr_runBoth (cfg : BufCfg) (ops : List BOp) :
    Corr cfg (runBoth cfg ops).1 (runBoth cfg ops).2 := by
  unfold runBoth
  have h0 : Corr cfg (init cfg, (⟨[], 0, 0⟩ : View)).1 (init cfg, (⟨[], 0, 0⟩ : View)).2 :=
    ⟨pinv_init cfg, rfl, rfl, rfl⟩
  generalize (init cfg, (⟨[], 0, 0⟩ : View)) = s at h0
  induction ops generalizing s with
  | nil => exact h0
  | cons op ops ih =>
    simp only [List.foldl_cons]
    exact ih _ (corr_step h0 op)

/-- C15 (history level). After any sequence of `Write`, `ReadFrom` (arbitrary scripted readers,
    with short reads and errors), `Parse` (`advance`), `Shrink` and `Reset` (accepted or rejected)
    starting from `Init(cfg)`, for every configuration: the buffer `b` is a sliding view of the
    specification stream `v.fed` (invariant `PInv`, including the bound `BufferSize` and the 7-byte
    margin), `Off` and `W` are as specified, and `ReadAt`, `PeekAt`, `ByteAt` answer from `v.fed`
    for every length and every absolute offset (in range, at the end, outside; negative too).
    As `ops` is arbitrary, this covers every prefix of every history. -/
theorem C15_view (cfg : BufCfg) (ops : List BOp) :
    let b := (runBoth cfg ops).1
    let v := (runBoth cfg ops).2
    PInv b v.fed ∧ b.off = v.off ∧ b.w = v.w ∧ b.cfg = cfg ∧
    (∀ n x, b.readAt n x = v.readAt n x) ∧ (∀ n x, b.peekAt n x = v.peekAt n x) ∧
    (∀ x, b.byteAt x = v.byteAt x) := by
  intro b v
  obtain ⟨hp, ho, hw, hc⟩ := corr_runBoth cfg ops
  refine ⟨hp, ho, hw, hc, fun n x => ?_, fun n x => ?_, fun x => ?_⟩
  · rw [C15_readAt hp n x, View.readAt]; simp only [v] at ho ⊢; rw [ho]
  · rw [C15_peekAt hp n x, View.peekAt]; simp only [v] at ho ⊢; rw [ho]
  · rw [C15_byteAt hp x, View.byteAt]; simp only [v] at ho ⊢; rw [ho]

/-- The same for every prefix, stated explicitly. -/
theorem C15_view_prefix (cfg : BufCfg) (ops : List BOp) (k : Nat) :
    let b := (runBoth cfg (ops.take k)).1
    let v := (runBoth cfg (ops.take k)).2
    PInv b v.fed ∧ b.off = v.off ∧ b.w = v.w ∧ b.cfg = cfg ∧
    (∀ n x, b.readAt n x = v.readAt n x) ∧ (∀ n x, b.peekAt n x = v.peekAt n x) ∧
    (∀ x, b.byteAt x = v.byteAt x) :=
  C15_view cfg (ops.take k)

/-! ### a completely pure specification for error-free readers -/

/-- the count `ReadFrom` returns for a reader that neither fails nor stalls: all that fits -/
def View.pureRet (cfg : BufCfg) (v : View) : BOp → Nat
  | .readFrom r => min r.payload.length (cfg.bufferSize - (v.fed.length - v.off))
  | _ => 0

/-- pure specification fold: a function of the configuration and the operations only -/
def specRun (cfg : BufCfg) (ops : List BOp) : View :=
  ops.foldl (fun v op => v.step cfg (v.pureRet cfg op) op) ⟨[], 0, 0⟩

/-- every reader of the history is error free, offers a byte on every response and has at least as many
    responses as payload bytes (so that the script cannot run out before the payload) -/
def AllFill (ops : List BOp) : Prop :=
  ∀ op ∈ ops, ∀ r, op = BOp.readFrom r → FillScript r.resps r.payload.length

theorem step_pure_of_fill {cfg : BufCfg} {b : PBuf} {v : View} (h : Corr cfg b v) (op : BOp)
    (hf : ∀ r, op = BOp.readFrom r → FillScript r.resps r.payload.length) :
    v.step cfg (op.ret b) op = v.step cfg (v.pureRet cfg op) op := by
  cases op with
  | readFrom r =>
    obtain ⟨hp, ho, hw, hc⟩ := h
    have hl := hp.fed_length
    obtain ⟨hf1, hf2⟩ := hf r rfl
    have hfs : FillScript r.resps (min r.payload.length (b.cfg.bufferSize - b.data.length)) :=
      ⟨hf1, by omega⟩
    obtain ⟨-, hn, -⟩ := readFrom_fill hp r hfs (readFrom_eta b r)
    simp only [BOp.ret, View.pureRet, View.step]
    rw [hn, hc]
    have : cfg.bufferSize - b.data.length = cfg.bufferSize - (v.fed.length - v.off) := by omega
    rw [this]
  | write p => rfl
  | advance n => rfl
  | shrink => rfl
  | reset d ce => rfl

/-- C15 with a pure specification: for histories whose readers are error free, the
    specification state reached by the instrumented run is the pure fold `specRun cfg ops`, which
    mentions neither chunk sizes nor capacities; in particular the contents of the buffer are
    independent of how the readers chunk. -/
theorem C15_view_pure (cfg : BufCfg) (ops : List BOp) (hf : AllFill ops) :
    (runBoth cfg ops).2 = specRun cfg ops := by
  have h0 : Corr cfg (init cfg, (⟨[], 0, 0⟩ : View)).1 (init cfg, (⟨[], 0, 0⟩ : View)).2 :=
    ⟨pinv_init cfg, rfl, rfl, rfl⟩
  -- both folds start from the components of one pair, so the induction carries one state
  show _ = ops.foldl _ (init cfg, (⟨[], 0, 0⟩ : View)).2
  unfold runBoth
  generalize (init cfg, (⟨[], 0, 0⟩ : View)) = s at h0 ⊢
  induction ops generalizing s with
  | nil => rfl
  | cons op ops ih =>
    simp only [List.foldl_cons]
    rw [ih (fun o ho => hf o (List.mem_cons_of_mem _ ho)) _ (corr_step h0 op),
      step_pure_of_fill h0 op (hf op List.mem_cons_self)]

/-- data, `Off`, `W` of the implementation as functions of the pure specification -/
theorem C15_data_pure (cfg : BufCfg) (ops : List BOp) (hf : AllFill ops) :
    let b := (runBoth cfg ops).1
    let v := specRun cfg ops
    b.data = v.fed.drop v.off ∧ b.off = v.off ∧ b.w = v.w := by
  intro b v
  obtain ⟨hp, ho, hw, -⟩ := corr_runBoth cfg ops
  have := C15_view_pure cfg ops hf
  simp only [v, ← this]
  exact ⟨by rw [← ho]; exact hp.view.symm, ho, hw⟩

/-! ## non-vacuity: concrete instances (BufferSize 4, ShrinkSize 1) -/

section Examples

def cfg4 : BufCfg := { shrinkSize := 1, bufferSize := 4, windowSize := 4, blockSize := 4 }

/-- single-byte reads, the third read returns one byte together with error 7 -/
def rdErr : Reader := ⟨[10, 11, 12], [(1, 0), (1, 0), (1, 7), (1, 0)]⟩
/-- five bytes, one per read -/
def rdBytes : Reader := ⟨[3, 4, 5, 6, 7], [(1, 0), (1, 0), (1, 0), (1, 0), (1, 0)]⟩
/-- the same five bytes, chunked 2 + 3 -/
def rdChunks : Reader := ⟨[3, 4, 5, 6, 7], [(2, 0), (3, 0), (9, 0), (9, 0), (9, 0)]⟩

attribute [local simp] readFrom readLoop write shrink reset init grow cfg4 rdErr rdBytes rdChunks
  Facts.margin Facts.chunkSize Facts.growMin min3 errOfCode

/-- a reader error arrives together with the third byte: all three bytes are kept, the error is
    returned, the script position is behind the failing response -/
example : (init cfg4).readFrom rdErr =
    ({ data := [10, 11, 12], w := 0, off := 0, cap := 11, cfg := cfg4 }, ⟨[], [(1, 0)]⟩, 3,
     .reader 7) := by simp

/-- single-byte reads fill the buffer: 4 of 5 bytes, `ErrFullBuffer`, one byte stays in the reader -/
example : (init cfg4).readFrom rdBytes =
    ({ data := [3, 4, 5, 6], w := 0, off := 0, cap := 11, cfg := cfg4 }, ⟨[7], [(1, 0)]⟩, 4,
     .full) := by simp

/-- another chunking of the same payload gives the same data, count and error -/
example : (init cfg4).readFrom rdChunks =
    ({ data := [3, 4, 5, 6], w := 0, off := 0, cap := 11, cfg := cfg4 }, ⟨[7], [(9, 0), (9, 0), (9, 0)]⟩,
     4, .full) := by simp

example : FillScript rdBytes.resps (min rdBytes.payload.length
    ((init cfg4).cfg.bufferSize - (init cfg4).data.length)) := by
  unfold FillScript; decide

example : FillScript rdChunks.resps (min rdChunks.payload.length
    ((init cfg4).cfg.bufferSize - (init cfg4).data.length)) := by
  unfold FillScript; decide

/-- `Write` into a nearly full buffer: a prefix is stored, `ErrFullBuffer` -/
example : (PBuf.mk [1, 2, 3] 0 0 10 cfg4).write [4, 5, 6] =
    ({ data := [1, 2, 3, 4], w := 0, off := 0, cap := 11, cfg := cfg4 }, 1, .full) := by simp

/-- a non-trivial state satisfying the invariant: 2 bytes discarded, margin present -/
example : PInv ⟨[3, 4, 10, 11], 1, 2, 11, cfg4⟩ [1, 2, 3, 4, 10, 11] := by
  constructor <;> decide

/-- a history with a short-reading reader, a failing reader, Shrink and a rejected Reset -/
def hist : List BOp :=
  [.write [1, 2], .readFrom rdBytes, .advance 3, .shrink, .readFrom rdErr, .reset [9, 9, 9, 9, 9] 0,
   .advance 1, .shrink]

theorem runBoth_hist : runBoth cfg4 hist =
    ({ data := [4, 10, 11], w := 1, off := 3, cap := 11, cfg := cfg4 },
     { fed := [1, 2, 3, 4, 10, 11], off := 3, w := 1 }) := by
  simp only [hist, runBoth, List.foldl_cons, List.foldl_nil]
  simp only [BOp.apply, BOp.ret, View.step]
  simp

example : runBoth cfg4 hist =
    ({ data := [4, 10, 11], w := 1, off := 3, cap := 11, cfg := cfg4 },
     { fed := [1, 2, 3, 4, 10, 11], off := 3, w := 1 }) := runBoth_hist

example : AllFill (hist.take 4) := by
  intro op hop r hr
  simp [hist] at hop
  rcases hop with h | h | h | h <;> subst h <;> cases hr
  unfold FillScript; decide

example : specRun cfg4 (hist.take 4) = { fed := [1, 2, 3, 4], off := 2, w := 1 } := by
  simp only [hist, specRun, List.take, List.foldl_cons, List.foldl_nil]
  simp only [View.step, View.pureRet]
  simp

/-- `ByteAt` around the retained range `[3, 6)` of that history -/
example : ((runBoth cfg4 hist).1.byteAt 2, (runBoth cfg4 hist).1.byteAt 3,
    (runBoth cfg4 hist).1.byteAt 5, (runBoth cfg4 hist).1.byteAt 6, (runBoth cfg4 hist).1.byteAt 7)
    = ((0, .outOfBuffer), (4, .ok), (11, .ok), (0, .endOfBuffer), (0, .outOfBuffer)) := by
  rw [runBoth_hist]; decide

end Examples

end PBuf
end LZ

#print axioms LZ.PBuf.write_appended
#print axioms LZ.PBuf.readFrom_appended
#print axioms LZ.PBuf.shrink_dropped
#print axioms LZ.PBuf.Appended.pinv
#print axioms LZ.PBuf.Dropped.pinv
#print axioms LZ.PBuf.readFrom_err
#print axioms LZ.PBuf.readFrom_master
#print axioms LZ.PBuf.Truthful.sameView_readFrom
#print axioms LZ.PBuf.C15_init
#print axioms LZ.PBuf.C15_write
#print axioms LZ.PBuf.C15_write_err
#print axioms LZ.PBuf.C15_shrink
#print axioms LZ.PBuf.C15_reset
#print axioms LZ.PBuf.C15_reset_err_iff
#print axioms LZ.PBuf.C15_readAt
#print axioms LZ.PBuf.C15_peekAt
#print axioms LZ.PBuf.C15_byteAt
#print axioms LZ.PBuf.C15_byteAt_nat
#print axioms LZ.PBuf.C15_readFrom
#print axioms LZ.PBuf.C15_readFrom_full
#print axioms LZ.PBuf.readFrom_fill_outcome
#print axioms LZ.PBuf.readFrom_fill
#print axioms LZ.PBuf.readFrom_chunking_independent
#print axioms LZ.PBuf.cap_unobservable
#print axioms LZ.PBuf.readFrom_faulty_depends_on_cap
#print axioms LZ.PBuf.C15_view
#print axioms LZ.PBuf.C15_view_prefix
#print axioms LZ.PBuf.C15_view_pure
#print axioms LZ.PBuf.C15_data_pure
