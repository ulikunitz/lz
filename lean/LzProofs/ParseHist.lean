/-
  LzProofs.ParseHist — histories of parser operations (Write, ReadFrom, Parse(&blk, flags),
  Parse(nil), Shrink, Reset) with ghost state: the bytes fed since the last Reset, the number
  of them consumed, and the log of emitted blocks / skipped segments.  The invariant
  ties the model's buffer (`Data`, `W`, `Off`) to the ghost stream and yields the
  history-level statements of C01, C02, C03 and C14.  `step_ghost` says what one operation does to
  the ghost state; a property of the log's events needs no induction of its own: it holds for
  every log if the emitting call establishes it (`runOps_logAll`; `log_block_origin` when the
  property does not mention stream positions).
-/
import LzProofs.ParseOsap
import LzProofs.ParserStep
namespace LZ

/-- the operations of a parser history -/
inductive POp where
  | write (p : List Byte)
  | readFrom (r : Reader)
  | parse (flags : Nat)
  | parseNil
  | shrink
  | reset (data : List Byte) (capExtra : Nat)

/-- what a decoder receives: a block, or (for `Parse(nil)`) the skipped bytes verbatim -/
inductive Event where
  | block (n flags : Nat) (blk : Block)
  | skip (bytes : List Byte)

/-- number of stream bytes an event accounts for (`n` of the `Parse` call) -/
def Event.n : Event → Nat
  | .block n _ _ => n
  | .skip b => b.length

structure Ghost where
  /-- all bytes accepted by Write / ReadFrom / Reset(data) since the last successful Reset -/
  fed : List Byte
  /-- sum of the `n` returned by successful Parse calls since the last successful Reset -/
  consumed : Nat
  /-- the events since the last successful Reset, in order -/
  log : List Event

def Ghost.init : Ghost := { fed := [], consumed := 0, log := [] }

/-- one operation on the model, with the ghost bookkeeping -/
def step (sg : Parser × Ghost) : POp → Parser × Ghost
  | .write p =>
    let r := sg.1.write p
    (r.1, { sg.2 with fed := sg.2.fed ++ p.take r.2.1 })
  | .readFrom rd =>
    let r := sg.1.readFrom rd
    (r.1, { sg.2 with fed := sg.2.fed ++ rd.payload.take r.2.2.1 })
  | .parse flags =>
    let r := sg.1.parse flags
    if r.2.2.1 = .ok then
      (r.1, { sg.2 with consumed := sg.2.consumed + r.2.1,
                        log := sg.2.log ++ [.block r.2.1 flags r.2.2.2] })
    else (r.1, sg.2)
  | .parseNil =>
    let r := sg.1.parseNil
    if r.2.2 = .ok then
      (r.1, { sg.2 with consumed := sg.2.consumed + r.2.1,
                        log := sg.2.log ++ [.skip ((sg.2.fed.drop sg.2.consumed).take r.2.1)] })
    else (r.1, sg.2)
  | .shrink => (sg.1.shrink.1, sg.2)
  | .reset data capExtra =>
    let r := sg.1.reset data capExtra
    if r.2 = .ok then (r.1, { fed := data, consumed := 0, log := [] }) else (r.1, sg.2)

def runOps (sg : Parser × Ghost) (ops : List POp) : Parser × Ghost := ops.foldl step sg

theorem runOps_append (sg : Parser × Ghost) (a b : List POp) :
    runOps sg (a ++ b) = runOps (runOps sg a) b :=
  List.foldl_append

theorem runOps_snoc (sg : Parser × Ghost) (ops : List POp) (op : POp) :
    runOps sg (ops ++ [op]) = step (runOps sg ops) op :=
  runOps_append sg ops [op]

/-! the parser state after `Parse`, `Parse(nil)`, `Reset`, whatever the ghost does -/

theorem step_parse_fst (sg : Parser × Ghost) (flags : Nat) : (step sg (.parse flags)).1 = (sg.1.parse flags).1 := by
  simp only [step]; split <;> rfl

theorem step_reset_fst (sg : Parser × Ghost) (d : List Byte) (c : Nat) :
    (step sg (.reset d c)).1 = (sg.1.reset d c).1 := by
  simp only [step]; split <;> rfl

theorem step_parseNil_fst (sg : Parser × Ghost) : (step sg .parseNil).1 = (sg.1.parseNil).1 := by
  simp only [step]; split <;> rfl

/-! ## the log -/

def logSpan (es : List Event) : Nat := (es.map Event.n).sum

/-- `P pos e` for every event, `pos` = stream position (since Reset) where the event starts -/
def LogAll (P : Nat → Event → Prop) : Nat → List Event → Prop
  | _, [] => True
  | pos, e :: es => P pos e ∧ LogAll P (pos + e.n) es

@[simp] theorem logSpan_nil : logSpan [] = 0 := rfl
@[simp] theorem logSpan_cons (e : Event) (es : List Event) : logSpan (e :: es) = e.n + logSpan es := by
  simp [logSpan]
@[simp] theorem logSpan_append (a b : List Event) : logSpan (a ++ b) = logSpan a + logSpan b := by
  simp [logSpan]

theorem LogAll_append (P : Nat → Event → Prop) (pos : Nat) (a b : List Event) :
    LogAll P pos (a ++ b) ↔ LogAll P pos a ∧ LogAll P (pos + logSpan a) b := by
  induction a generalizing pos with
  | nil => simp [LogAll]
  | cons e es ih =>
    simp only [List.cons_append, LogAll, ih, logSpan_cons]
    rw [← Nat.add_assoc, and_assoc]

theorem LogAll.mono {P Q : Nat → Event → Prop} (h : ∀ pos e, P pos e → Q pos e) :
    ∀ (pos : Nat) (es : List Event), LogAll P pos es → LogAll Q pos es := by
  intro pos es
  induction es generalizing pos with
  | nil => intro _; trivial
  | cons e es ih => intro ⟨a, b⟩; exact ⟨h _ _ a, ih _ b⟩

/-! ## what an operation does to the ghost state -/

/-- `op` on `sg` succeeds and appends the event `e`, accounting for `n` bytes, to the log -/
def Emits (sg : Parser × Ghost) : POp → Event → Nat → Prop
  | .parse fl, .block n' fl' blk, n => n' = n ∧ fl' = fl ∧ (sg.1.parse fl).2 = (n, .ok, blk)
  | .parseNil, .skip b, n =>
    sg.1.parseNil.2 = (n, .ok) ∧ b = (sg.2.fed.drop sg.2.consumed).take n
  | _, _, _ => False

/-- An operation appends bytes to the stream (none, if it fails or is `Shrink`), or appends one
    event to the log, or — a successful `Reset` — starts a new stream with an empty log. -/
theorem step_ghost (sg : Parser × Ghost) (op : POp) :
    (∃ x, (step sg op).2 = { sg.2 with fed := sg.2.fed ++ x }) ∨
    (∃ e n, Emits sg op e n ∧
      (step sg op).2 = { sg.2 with consumed := sg.2.consumed + n, log := sg.2.log ++ [e] }) ∨
    (∃ data, (step sg op).2 = { fed := data, consumed := 0, log := [] }) := by
  have same : ∃ x, sg.2 = { sg.2 with fed := sg.2.fed ++ x } := ⟨[], by rw [List.append_nil]⟩
  cases op with
  | write p => exact Or.inl ⟨_, rfl⟩
  | readFrom r => exact Or.inl ⟨_, rfl⟩
  | shrink => exact Or.inl same
  | parse fl =>
    simp only [step]
    split
    · rename_i hok
      exact Or.inr (Or.inl ⟨.block (sg.1.parse fl).2.1 fl (sg.1.parse fl).2.2.2, _,
        ⟨rfl, rfl, Prod.ext rfl (Prod.ext hok rfl)⟩, rfl⟩)
    · exact Or.inl same
  | parseNil =>
    simp only [step]
    split
    · rename_i hok
      exact Or.inr (Or.inl ⟨.skip ((sg.2.fed.drop sg.2.consumed).take sg.1.parseNil.2.1), _,
        ⟨Prod.ext rfl hok, rfl⟩, rfl⟩)
    · exact Or.inl same
  | reset data ce =>
    simp only [step]
    split
    · exact Or.inr (Or.inr ⟨data, rfl⟩)
    · exact Or.inl same

/-- a property `Q fed pos e` of the events that survives appending to the stream holds for the whole
    log after an operation if it holds for the event the operation emits -/
theorem LogAll.step {Q : List Byte → Nat → Event → Prop}
    (happ : ∀ {fed : List Byte} {pos : Nat} {e : Event} (x : List Byte), Q fed pos e → Q (fed ++ x) pos e)
    {sg : Parser × Ghost} {op : POp} (hspan : logSpan sg.2.log = sg.2.consumed)
    (hemit : ∀ e n, Emits sg op e n → Q sg.2.fed sg.2.consumed e)
    (h : LogAll (Q sg.2.fed) 0 sg.2.log) : LogAll (Q (step sg op).2.fed) 0 (step sg op).2.log := by
  rcases step_ghost sg op with ⟨x, e⟩ | ⟨e, n, he, e'⟩ | ⟨data, e⟩
  · rw [e]; exact LogAll.mono (fun _ _ h => happ x h) _ _ h
  · rw [e', LogAll_append, hspan, Nat.zero_add]
    exact ⟨h, hemit e n he, trivial⟩
  · rw [e]; trivial

/-- … hence for every log of every history, if it holds for every event emitted on the way -/
theorem runOps_logAll {Q : List Byte → Nat → Event → Prop}
    (happ : ∀ {fed : List Byte} {pos : Nat} {e : Event} (x : List Byte), Q fed pos e → Q (fed ++ x) pos e)
    (s0 : Parser)
    (hspan : ∀ ops, logSpan (runOps (s0, Ghost.init) ops).2.log = (runOps (s0, Ghost.init) ops).2.consumed)
    (hemit : ∀ ops op e n, Emits (runOps (s0, Ghost.init) ops) op e n →
      Q (runOps (s0, Ghost.init) ops).2.fed (runOps (s0, Ghost.init) ops).2.consumed e)
    (ops : List POp) :
    LogAll (Q (runOps (s0, Ghost.init) ops).2.fed) 0 (runOps (s0, Ghost.init) ops).2.log := by
  suffices h : ∀ (ops ops0 : List POp),
      LogAll (Q (runOps (s0, Ghost.init) ops0).2.fed) 0 (runOps (s0, Ghost.init) ops0).2.log →
      LogAll (Q (runOps (s0, Ghost.init) (ops0 ++ ops)).2.fed) 0
        (runOps (s0, Ghost.init) (ops0 ++ ops)).2.log from h ops [] trivial
  intro ops
  induction ops with
  | nil => intro ops0 h; rwa [List.append_nil]
  | cons op ops ih =>
    intro ops0 h
    rw [show ops0 ++ op :: ops = (ops0 ++ [op]) ++ ops by simp]
    apply ih
    rw [runOps_snoc]
    exact LogAll.step happ (hspan ops0) (hemit ops0 op) h

/-- The per-event guarantee relative to the stream `fed`: window size `ws`, minimum match
    length `mm`, block size `bs`.  `pos` is the number of stream bytes before the event. -/
def EventOK (fed : List Byte) (ws mm bs : Nat) (pos : Nat) : Event → Prop
  | .block n _flags blk =>
    1 ≤ n ∧ n ≤ bs ∧ pos + n ≤ fed.length ∧
    expand (fed.take pos) blk = some (fed.take (pos + n)) ∧          -- C01
    blk.len = n ∧                                                   -- C03
    SeqsAll (SeqWF ws mm) pos blk.seqs ∧ litSum blk.seqs ≤ blk.lits.length ∧  -- C02
    -- C03, NoTrailingLiterals with a match: exactly the claimed literals, `n` = end of last match
    (_flags % 2 = 1 → blk.seqs ≠ [] → blk.lits.length = litSum blk.seqs ∧ n = seqsSpan blk.seqs)
  | .skip b =>
    1 ≤ b.length ∧ b.length ≤ bs ∧ pos + b.length ≤ fed.length ∧
    b = (fed.drop pos).take b.length                                -- C14

theorem EventOK.append {fed : List Byte} {ws mm bs pos : Nat} {e : Event}
    (h : EventOK fed ws mm bs pos e) (x : List Byte) : EventOK (fed ++ x) ws mm bs pos e := by
  cases e with
  | block n flags blk =>
    obtain ⟨a1, a2, a3, a4, a5, a6, a7⟩ := h
    refine ⟨a1, a2, by simp; omega, ?_, a5, a6, a7⟩
    rw [List.take_append_of_le_length (by omega), List.take_append_of_le_length (by omega)]
    exact a4
  | skip b =>
    obtain ⟨a1, a2, a3, a4⟩ := h
    refine ⟨a1, a2, by simp; omega, ?_⟩
    rw [List.drop_append_of_le_length (by omega), List.take_append_of_le_length (by simp; omega)]
    exact a4

/-- the reference decoder over a log: blocks are expanded, skipped bytes appended verbatim -/
def decode : List Byte → List Event → Option (List Byte)
  | out, [] => some out
  | out, .block _ _ blk :: es =>
    match expand out blk with
    | some out' => decode out' es
    | none => none
  | out, .skip b :: es => decode (out ++ b) es

/-- C01 from the per-event guarantee -/
theorem decode_of_logAll (fed : List Byte) (ws mm bs : Nat) :
    ∀ (es : List Event) (pos : Nat), pos ≤ fed.length → LogAll (EventOK fed ws mm bs) pos es →
      decode (fed.take pos) es = some (fed.take (pos + logSpan es)) := by
  intro es
  induction es with
  | nil => intro pos _ _; simp [decode]
  | cons e es ih =>
    intro pos hpos ⟨he, hes⟩
    cases e with
    | block n flags blk =>
      obtain ⟨a1, a2, a3, a4, a5, a6, a7⟩ := he
      simp only [decode, a4, logSpan_cons, Event.n]
      rw [ih (pos + n) a3 hes, Nat.add_assoc]
    | skip b =>
      obtain ⟨a1, a2, a3, a4⟩ := he
      simp only [decode, logSpan_cons, Event.n]
      have : fed.take pos ++ b = fed.take (pos + b.length) := by
        rw [List.take_add]; congr 1
      rw [this, ih (pos + b.length) a3 hes, Nat.add_assoc]

/-! ## the invariant -/

/-- `minMatch` as a function of the (constant) kind and configuration -/
def mmOf (k : Kind) (c : Cfg) : Nat :=
  ({ kind := k, cfg := c, buf := default, dict := default } : Parser).minMatch

theorem minMatch_eq (s : Parser) : s.minMatch = mmOf s.kind s.cfg := rfl

/-- the invariant of OSAP's edge table `o` for buffer `data` and head `w`: it starts at or
    before `w` and was computed for a prefix `data0` of the buffer (Write/ReadFrom only append),
    covers only positions inside `data0`, and is sound for every block inside `data0` -/
def OsapOK (data : List Byte) (w ws mx : Nat) (o : OsapD) : Prop :=
  o.start ≤ w ∧ ∃ data0 x, data = data0 ++ x ∧ o.start + o.edges.size ≤ data0.length ∧
    ∀ w' n, o.start ≤ w' → w' + n ≤ data0.length →
      EdgesSoundBlock (data0.take (w' + n)) w' ws mx n o.edges (w' - o.start)

/-- what is known about the search structure: nothing for the six greedy parsers; for OSAP
    the stored edge table satisfies `OsapOK` -/
def DictOK (k : Kind) (s : Parser) : Prop :=
  match s.dict with
  | .osap o => k = .OSAP ∧
      OsapOK s.buf.data s.buf.w s.buf.cfg.windowSize s.cfg.maxMatchLen.toNat o
  | _ => True

/-- Invariant of a parser history for constant kind `k`, configuration `c` and buffer
    configuration `bc`. -/
structure Inv (k : Kind) (c : Cfg) (bc : BufCfg) (sg : Parser × Ghost) : Prop where
  kind : sg.1.kind = k
  cfg : sg.1.cfg = c
  bcfg : sg.1.buf.cfg = bc
  hw : sg.1.buf.w ≤ sg.1.buf.data.length
  cap : sg.1.buf.CapOK
  /-- the buffer holds the tail of the stream; `Off` bytes have been dropped by Shrink -/
  fed : ∃ dropped, sg.2.fed = dropped ++ sg.1.buf.data ∧ dropped.length = sg.1.buf.off
  /-- `Off + W` is the number of consumed stream bytes -/
  consumed : sg.2.consumed = sg.1.buf.off + sg.1.buf.w
  log : LogAll (EventOK sg.2.fed bc.windowSize (mmOf k c) bc.blockSize) 0 sg.2.log
  span : logSpan sg.2.log = sg.2.consumed
  dict : DictOK k sg.1

/-- the static side conditions every accepted configuration satisfies; for OSAP additionally
    the named hypothesis that `computeEdges` is sound -/
structure Static (k : Kind) (c : Cfg) (bc : BufCfg) : Prop where
  mm : 1 ≤ mmOf k c
  bs : 1 ≤ bc.blockSize
  edges : k = .OSAP → ∀ data w w' n, w ≤ w' → w' + n ≤ data.length →
    EdgesSoundBlock (data.take (w' + n)) w' bc.windowSize c.maxMatchLen.toNat n
      (computeEdges data w bc.windowSize (mmOf k c) c.maxMatchLen.toNat).edges (w' - w)

theorem SeqsAll.shift {P Q : Nat → Seq → Prop} (d : Nat) (h : ∀ q s, P q s → Q (q + d) s) :
    ∀ (pos : Nat) (ss : List Seq), SeqsAll P pos ss → SeqsAll Q (pos + d) ss := by
  intro pos ss
  induction ss generalizing pos with
  | nil => intro _; trivial
  | cons s ss ih =>
    intro ⟨a, b⟩
    refine ⟨h _ _ a, ?_⟩
    have := ih _ b
    have e : pos + s.litLen + s.matchLen + d = pos + d + s.litLen + s.matchLen := by omega
    rw [e] at this; exact this

theorem SeqWF.shift {ws mm q : Nat} {s : Seq} (d : Nat) (h : SeqWF ws mm q s) : SeqWF ws mm (q + d) s := by
  obtain ⟨a, b, c, e, f⟩ := h
  exact ⟨a, b, by omega, e, f⟩

theorem OsapOK.empty (data : List Byte) (w ws mx : Nat) : OsapOK data w ws mx OsapD.empty := by
  refine ⟨Nat.zero_le _, [], data, rfl, by simp [OsapD.empty], ?_⟩
  intro w' n _ hn i mx' o hi
  simp at hn; omega

theorem OsapOK.mono_w {data : List Byte} {w ws mx : Nat} {o : OsapD} (h : OsapOK data w ws mx o)
    (w' : Nat) (hw : w ≤ w') : OsapOK data w' ws mx o :=
  ⟨by have := h.1; omega, h.2⟩

theorem OsapOK.append {data : List Byte} {w ws mx : Nat} {o : OsapD} (h : OsapOK data w ws mx o)
    (y : List Byte) : OsapOK (data ++ y) w ws mx o := by
  obtain ⟨h1, data0, x, hx, h2, h3⟩ := h
  exact ⟨h1, data0, x ++ y, by rw [hx, List.append_assoc], h2, h3⟩

theorem OsapOK.next (s : Parser) (o : OsapD) (hw : s.buf.w ≤ s.buf.data.length)
    (hCE : ∀ data w w' n, w ≤ w' → w' + n ≤ data.length →
      EdgesSoundBlock (data.take (w' + n)) w' s.buf.cfg.windowSize s.cfg.maxMatchLen.toNat n
        (computeEdges data w s.buf.cfg.windowSize s.minMatch s.cfg.maxMatchLen.toNat).edges (w' - w))
    (hO : OsapOK s.buf.data s.buf.w s.buf.cfg.windowSize s.cfg.maxMatchLen.toNat o) :
    EdgesSoundBlock s.blockPrefix s.buf.w s.buf.cfg.windowSize s.cfg.maxMatchLen.toNat
      s.blockN (s.osapEdges o).edges (s.buf.w - (s.osapEdges o).start) ∧
    OsapOK s.buf.data s.buf.w s.buf.cfg.windowSize s.cfg.maxMatchLen.toNat (s.osapEdges o) := by
  have hN := s.blockN_le
  unfold Parser.osapEdges
  split
  · rw [Sap.computeEdges_start]
    refine ⟨hCE _ _ _ _ (Nat.le_refl _) (by omega), ?_⟩
    refine ⟨by rw [Sap.computeEdges_start]; exact Nat.le_refl _, s.buf.data, [], by simp, ?_, ?_⟩
    · rw [Sap.computeEdges_start, Sap.computeEdges_edges_size]; omega
    · intro w' n h1 h2
      rw [Sap.computeEdges_start] at h1 ⊢
      exact hCE _ _ _ _ h1 h2
  · rename_i hc
    refine ⟨?_, hO⟩
    obtain ⟨h1, data0, x, hx, h2, h3⟩ := hO
    have := h3 s.buf.w s.blockN h1 (by omega)
    unfold Parser.blockPrefix
    rw [hx, List.take_append_of_le_length (by omega)]
    exact this

theorem DictOK.of_not_osap {k : Kind} {s : Parser} (h : ∀ o, s.dict ≠ .osap o) : DictOK k s := by
  unfold DictOK
  split
  · rename_i o ho; exact absurd ho (h o)
  · trivial

theorem DictOK.of_osap {k : Kind} {s : Parser} {o : OsapD} (hd : s.dict = .osap o) (hk : k = .OSAP)
    (hO : OsapOK s.buf.data s.buf.w s.buf.cfg.windowSize s.cfg.maxMatchLen.toNat o) : DictOK k s := by
  unfold DictOK; rw [hd]; exact ⟨hk, hO⟩

theorem DictOK.osap {k : Kind} {s : Parser} {o : OsapD} (h : DictOK k s) (hd : s.dict = .osap o) :
    k = .OSAP ∧ OsapOK s.buf.data s.buf.w s.buf.cfg.windowSize s.cfg.maxMatchLen.toNat o := by
  unfold DictOK at h; rw [hd] at h; exact h

theorem DictOK.transfer {k : Kind} {s s' : Parser} (h : DictOK k s)
    (h1 : ∀ o, s.dict = .osap o →
      OsapOK s.buf.data s.buf.w s.buf.cfg.windowSize s.cfg.maxMatchLen.toNat o →
      ∃ o', s'.dict = .osap o' ∧
        OsapOK s'.buf.data s'.buf.w s'.buf.cfg.windowSize s'.cfg.maxMatchLen.toNat o')
    (h2 : (∀ o, s.dict ≠ .osap o) → ∀ o, s'.dict ≠ .osap o) : DictOK k s' := by
  cases hd : s.dict with
  | osap o =>
    obtain ⟨hk, hO⟩ := h.osap hd
    obtain ⟨o', hd', hO'⟩ := h1 o hd hO
    exact .of_osap hd' hk hO'
  | single _ | double _ | bucket _ | gsap _ =>
    exact .of_not_osap (h2 (by intro o ho; rw [hd] at ho; cases ho))

theorem Inv.advance {k : Kind} {c : Cfg} {bc : BufCfg} {s : Parser} {g : Ghost}
    (h : Inv k c bc (s, g)) {s' : Parser} {e : Event} (hk : s'.kind = s.kind) (hc : s'.cfg = s.cfg)
    (hb : s'.buf = { s.buf with w := s.buf.w + e.n }) (hn : e.n ≤ s.blockN)
    (he : EventOK g.fed bc.windowSize (mmOf k c) bc.blockSize g.consumed e) (hd : DictOK k s') :
    Inv k c bc (s', { g with consumed := g.consumed + e.n, log := g.log ++ [e] }) := by
  obtain ⟨dropped, hf, hdl⟩ := h.fed
  have hN := s.blockN_le
  have hw := h.hw
  have hcons := h.consumed
  have hspan := h.span
  simp only at hf hdl hw hcons hspan
  refine ⟨hk.trans h.kind, hc.trans h.cfg, by rw [hb]; exact h.bcfg, by rw [hb]; simp only; omega,
    by rw [hb]; exact h.cap, ⟨dropped, by rw [hb]; exact hf, by rw [hb]; exact hdl⟩,
    by rw [hb]; simp only; omega, ?_, ?_, hd⟩
  · simp only
    rw [LogAll_append, hspan, Nat.zero_add]
    exact ⟨h.log, he, trivial⟩
  · simp only [logSpan_append, logSpan_cons, logSpan_nil]; omega

/-- the core of the `Parse` step: a `ParseOK` result extends the log by a good event -/
theorem Inv.parse_step {k : Kind} {c : Cfg} {bc : BufCfg} {s : Parser} {g : Ghost}
    (h : Inv k c bc (s, g)) {flags : Nat} {Q : Nat → Seq → Prop} {s' : Parser} {n : Nat} {blk : Block}
    (hok : Parser.ParseOK s flags Q s' n blk)
    (hQ : ∀ q sq, Q q sq → SeqWF bc.windowSize (mmOf k c) q sq)
    (hd : DictOK k s') :
    Inv k c bc (s', { g with consumed := g.consumed + n, log := g.log ++ [.block n flags blk] }) := by
  refine h.advance (e := .block n flags blk) hok.kind hok.cfg hok.buf hok.n_le ?_ hd
  obtain ⟨dropped, hf, hdl⟩ := h.fed
  have hcons := h.consumed
  have hw := h.hw
  have hbc := h.bcfg
  simp only at hf hdl hcons hw hbc
  have hnle := hok.n_le
  have hN := s.blockN_le
  have hwn := hok.w_le hw
  have take_eq : ∀ x, x ≤ s.buf.data.length →
      g.fed.take (s.buf.off + x) = dropped ++ s.buf.data.take x := by
    intro x hx
    rw [hf, List.take_append, List.take_of_length_le (by omega)]
    congr 2; omega
  refine ⟨hok.n_pos, by rw [← hbc]; omega, ?_, ?_, ?_, ?_, hok.block.lits, ?_⟩
  · rw [hf, hcons, List.length_append]; omega
  · rw [hcons, Nat.add_assoc, take_eq _ hw, take_eq _ hwn]
    exact expand_prepend _ _ _ _ hok.roundtrip
  · have := hok.block.len; omega
  · have h2 := SeqsAll.shift s.buf.off (fun q sq hq => SeqWF.shift s.buf.off (hQ q sq hq)) _ _
      hok.block.all
    rwa [Nat.add_comm s.buf.w, ← hcons] at h2
  · intro h1 h2
    exact ⟨(hok.block.trunc h1 h2).1, by have := (hok.block.trunc h1 h2).2; omega⟩

theorem step_parse {k : Kind} {c : Cfg} {bc : BufCfg} (hS : Static k c bc) {s : Parser} {g : Ghost}
    (h : Inv k c bc (s, g)) (flags : Nat) : Inv k c bc (step (s, g) (.parse flags)) := by
  by_cases hn : s.blockN = 0
  · simp only [step, Parser.parse_empty s flags hn]
    simp only [reduceCtorEq, if_false]
    exact h
  have hk := h.kind
  have hc := h.cfg
  have hbc := h.bcfg
  simp only at hk hc hbc
  have hmm : 1 ≤ s.minMatch := by rw [minMatch_eq, hk, hc]; exact hS.mm
  cases hd : s.dict with
  | osap o =>
    obtain ⟨hkO, hO⟩ := h.dict.osap hd
    have hCE : ∀ data w w' n, w ≤ w' → w' + n ≤ data.length →
        EdgesSoundBlock (data.take (w' + n)) w' s.buf.cfg.windowSize s.cfg.maxMatchLen.toNat n
          (computeEdges data w s.buf.cfg.windowSize s.minMatch s.cfg.maxMatchLen.toNat).edges
          (w' - w) := by
      rw [minMatch_eq, hk, hc, hbc]; exact hS.edges hkO
    obtain ⟨hE', hO'⟩ := OsapOK.next s o h.hw hCE hO
    obtain ⟨s', n, blk, hp, hok, hd'⟩ := Parser.parse_osap_ok_block s flags o hd h.hw hn hmm hE'
    simp only [step, hp, if_true]
    apply h.parse_step hok
    · intro q sq hq
      have := hq.1.1
      rw [minMatch_eq, hk, hc, hbc] at this; exact this
    · refine .of_osap hd' hkO ?_
      rw [hok.buf, hok.cfg]
      exact hO'.mono_w _ (Nat.le_add_right _ _)
  | single _ | double _ | bucket _ | gsap _ =>
    have hnot : ∀ o, s.dict ≠ .osap o := by intro o ho; rw [hd] at ho; simp at ho
    obtain ⟨s', n, blk, hp, hok, hd'⟩ :=
      Parser.parse_greedy_ok s flags h.hw hn hmm (Parser.marginOK_of_cap s h.cap hn) hnot
    simp only [step, hp, if_true]
    apply h.parse_step hok
    · intro q sq hq
      have := hq.1
      rw [minMatch_eq, hk, hc, hbc] at this; exact this
    · exact DictOK.of_not_osap hd'

/-- `Parse(nil)` leaves an edge table alone and gives no other parser one -/
theorem skipDict_osap (s : Parser) :
    (∀ o, s.dict = .osap o → s.skipDict = .osap o) ∧
    ((∀ o, s.dict ≠ .osap o) → ∀ o, s.skipDict ≠ .osap o) := by
  unfold Parser.skipDict
  cases s.dict <;> simp

/-- `Shrink` and `Reset` empty an edge table and give no other parser one -/
theorem emptied_osap {s : Parser} {d : Dict} (hd : d = s.clearDict ∨ ∃ n, d = s.shiftDict n) :
    (∀ o, s.dict = .osap o → d = .osap OsapD.empty) ∧
    ((∀ o, s.dict ≠ .osap o) → ∀ o, d ≠ .osap o) := by
  constructor
  · intro o ho
    rcases hd with rfl | ⟨n, rfl⟩ <;> simp only [Parser.clearDict, Parser.shiftDict, ho]
  · intro hno o
    rcases hd with rfl | ⟨n, rfl⟩ <;> simp only [Parser.clearDict, Parser.shiftDict] <;>
      cases hs : s.dict <;> simp <;> exact absurd hs (hno _)

theorem step_parseNil {k : Kind} {c : Cfg} {bc : BufCfg} {s : Parser} {g : Ghost}
    (h : Inv k c bc (s, g)) : Inv k c bc (step (s, g) .parseNil) := by
  by_cases hn : s.blockN = 0
  · simp only [step, Parser.parseNil_empty s hn]
    simp only [reduceCtorEq, if_false]
    exact h
  simp only [step, Parser.parseNil_pos hn, if_true]
  have hdict := skipDict_osap s
  obtain ⟨dropped, hf, hdl⟩ := h.fed
  have hcons := h.consumed
  have hw := h.hw
  have hbc := h.bcfg
  simp only at hf hdl hcons hw hbc
  have hN := s.blockN_le
  have hlen : ((g.fed.drop g.consumed).take s.blockN).length = s.blockN := by
    rw [hf, List.length_take, List.length_drop, List.length_append]; omega
  have := h.advance (s' := { s with buf := { s.buf with w := s.buf.w + s.blockN }, dict := s.skipDict })
    (e := .skip ((g.fed.drop g.consumed).take s.blockN)) rfl rfl
    (by rw [Event.n, hlen]) (by rw [Event.n, hlen]; exact Nat.le_refl _)
    ⟨by rw [hlen]; omega, by rw [hlen, ← hbc]; omega, by rw [hlen, hf, List.length_append]; omega,
      by rw [hlen]⟩
    (h.dict.transfer
      (fun o hd hO => ⟨o, hdict.1 o hd, hO.mono_w _ (Nat.le_add_right _ _)⟩) hdict.2)
  rwa [Event.n, hlen] at this

theorem Inv.append_step {k : Kind} {c : Cfg} {bc : BufCfg} {s : Parser} {g : Ghost}
    (h : Inv k c bc (s, g)) {b' : PBuf} {x : List Byte} (a : s.buf.Appended b' x) :
    Inv k c bc ({ s with buf := b' }, { g with fed := g.fed ++ x }) := by
  obtain ⟨dropped, hf, hdl⟩ := h.fed
  simp only at hf hdl
  refine ⟨h.kind, h.cfg, by simp only [a.cfg]; exact h.bcfg, ?_, a.cap h.cap, ⟨dropped, ?_, ?_⟩, ?_, ?_,
    h.span, ?_⟩
  · have := h.hw; simp only [a.w, a.data, List.length_append] at this ⊢; omega
  · simp only [a.data, hf, List.append_assoc]
  · simp only [a.off]; exact hdl
  · simp only [a.off, a.w]; exact h.consumed
  · exact LogAll.mono (fun pos e he => he.append x) _ _ h.log
  · exact h.dict.transfer (s' := { s with buf := b' })
      (fun o hd hO => ⟨o, hd, by simp only [a.data, a.cfg, a.w]; exact hO.append x⟩) (fun h => h)

theorem step_write {k : Kind} {c : Cfg} {bc : BufCfg} {s : Parser} {g : Ghost}
    (h : Inv k c bc (s, g)) (p : List Byte) : Inv k c bc (step (s, g) (.write p)) :=
  h.append_step (PBuf.write_appended s.buf p)

theorem step_readFrom {k : Kind} {c : Cfg} {bc : BufCfg} {s : Parser} {g : Ghost}
    (h : Inv k c bc (s, g)) (r : Reader) : Inv k c bc (step (s, g) (.readFrom r)) :=
  h.append_step (PBuf.readFrom_appended s.buf r)

theorem step_shrink {k : Kind} {c : Cfg} {bc : BufCfg} {s : Parser} {g : Ghost}
    (h : Inv k c bc (s, g)) : Inv k c bc (step (s, g) .shrink) := by
  simp only [step]
  by_cases hd : s.buf.shrink.2 = 0
  · rw [Parser.shrink_zero hd]; exact h
  rw [Parser.shrink_pos hd]
  obtain ⟨a1, a2, a3, a4, -⟩ := PBuf.shrink_dropped s.buf
  obtain ⟨dropped, hf, hdl⟩ := h.fed
  have hcons := h.consumed
  have hw := h.hw
  simp only at hf hdl hcons hw
  have hdd := emptied_osap (s := s) (Or.inr ⟨s.buf.shrink.2, rfl⟩)
  generalize s.buf.shrink.2 = delta at a1 a2 a3 hdd
  refine ⟨h.kind, h.cfg, by simp only [a4]; exact h.bcfg, ?_, ?_,
    ⟨dropped ++ s.buf.data.take delta, ?_, ?_⟩, ?_, h.log, h.span, ?_⟩
  · simp only [a1, List.length_drop]; omega
  · exact (PBuf.shrink_dropped s.buf).capOK h.cap
  · simp only [a1, List.append_assoc, List.take_append_drop]; exact hf
  · simp only [a3, List.length_append, List.length_take]; omega
  · simp only [a3]; omega
  · exact h.dict.transfer (fun o ho _ => ⟨_, hdd.1 o ho, OsapOK.empty _ _ _ _⟩) hdd.2

theorem step_reset {k : Kind} {c : Cfg} {bc : BufCfg} {s : Parser} {g : Ghost}
    (h : Inv k c bc (s, g)) (data : List Byte) (capExtra : Nat) :
    Inv k c bc (step (s, g) (.reset data capExtra)) := by
  simp only [step]
  by_cases he : (s.buf.reset data capExtra).2 = .ok
  · simp only [Parser.reset_ok he, if_true]
    have hdd := emptied_osap (s := s) (Or.inl rfl)
    rcases PBuf.reset_frame s.buf data capExtra with ⟨-, b1, b2, b3, b4, b5⟩ | ⟨b0, -⟩
    · refine ⟨h.kind, h.cfg, by simp only [b4]; exact h.bcfg, ?_, b5, ⟨[], ?_, ?_⟩, ?_, trivial, rfl, ?_⟩
      · simp only [b2]; exact Nat.zero_le _
      · simp only [b1]; rfl
      · simp only [b3]; rfl
      · simp only [b2, b3]
      · exact h.dict.transfer (fun o ho _ => ⟨_, hdd.1 o ho, OsapOK.empty _ _ _ _⟩) hdd.2
    · exact absurd he b0
  · simp only [Parser.reset_err he, he, if_false]; exact h

theorem step_inv {k : Kind} {c : Cfg} {bc : BufCfg} (hS : Static k c bc) (sg : Parser × Ghost)
    (h : Inv k c bc sg) (op : POp) : Inv k c bc (step sg op) := by
  obtain ⟨s, g⟩ := sg
  cases op with
  | write p => exact step_write h p
  | readFrom r => exact step_readFrom h r
  | parse flags => exact step_parse hS h flags
  | parseNil => exact step_parseNil h
  | shrink => exact step_shrink h
  | reset data capExtra => exact step_reset h data capExtra

theorem runOps_inv {k : Kind} {c : Cfg} {bc : BufCfg} (hS : Static k c bc) (ops : List POp) :
    ∀ (sg : Parser × Ghost), Inv k c bc sg → Inv k c bc (runOps sg ops) := by
  induction ops with
  | nil => intro sg h; exact h
  | cons op ops ih => intro sg h; exact ih _ (step_inv hS sg h op)

/-! ## the initial state -/

theorem verify_static (k : Kind) (c : Cfg) (hv : verify k c = true) :
    1 ≤ mmOf k c ∧ 1 ≤ c.bufCfg.blockSize := by
  have hmm := Parser.minMatch_ge_two (p := { kind := k, cfg := c, buf := default, dict := default }) hv
  have hb := verify_bounds hv
  exact ⟨Nat.le_of_succ_le hmm, by simp only [Cfg.bufCfg]; omega⟩

theorem newParser_inv (k : Kind) (raw : Cfg) (s : Parser) (h : newParser k raw = some s) :
    Inv k s.cfg s.buf.cfg (s, Ghost.init) ∧ 1 ≤ mmOf k s.cfg ∧ 1 ≤ s.buf.cfg.blockSize := by
  obtain ⟨hv, rfl⟩ := newParser_eq_some h
  refine ⟨?_, verify_static _ _ hv⟩
  refine { kind := rfl, cfg := rfl, bcfg := rfl, hw := Nat.le_refl _, cap := Or.inl rfl,
           fed := ⟨[], rfl, rfl⟩, consumed := rfl, log := trivial, span := rfl, dict := ?_ }
  unfold DictOK
  cases k <;> simp only [freshDict]
  exact ⟨trivial, OsapOK.empty _ _ _ _⟩

/-! ## where the blocks of the log come from -/

theorem log_block_origin_aux : ∀ (ops : List POp) (sg : Parser × Ghost) (n fl : Nat) (blk : Block),
    Event.block n fl blk ∈ (runOps sg ops).2.log →
    Event.block n fl blk ∈ sg.2.log ∨
    ∃ ops1 ops2, ops = ops1 ++ POp.parse fl :: ops2 ∧
      ((runOps sg ops1).1.parse fl).2 = (n, .ok, blk) := by
  intro ops
  induction ops with
  | nil => intro sg n fl blk h; exact Or.inl h
  | cons op ops ih =>
    intro sg n fl blk h
    have h' : Event.block n fl blk ∈ (runOps (step sg op) ops).2.log := h
    rcases ih (step sg op) n fl blk h' with h1 | ⟨ops1, ops2, e1, e2⟩
    · rcases step_ghost sg op with ⟨x, e⟩ | ⟨ev, m, he, e⟩ | ⟨data, e⟩
      · rw [e] at h1; exact Or.inl h1
      · rw [e] at h1
        rcases List.mem_append.1 h1 with h1 | h1
        · exact Or.inl h1
        · cases List.mem_singleton.1 h1
          cases op <;> first | exact he.elim | skip
          obtain ⟨rfl, rfl, hp⟩ := he
          exact Or.inr ⟨[], ops, rfl, hp⟩
      · rw [e] at h1; cases h1
    · exact Or.inr ⟨op :: ops1, ops2, by rw [e1]; rfl, e2⟩

/-- every `.block n flags blk` event in the ghost log of a history was returned (with error `nil`
    and count `n`) by a `Parse(&blk, flags)` call of that history, i.e. by `parse flags` on the
    state reached after a prefix `ops1` of the history -/
theorem log_block_origin (s0 : Parser) (ops : List POp) (n fl : Nat) (blk : Block)
    (h : Event.block n fl blk ∈ (runOps (s0, Ghost.init) ops).2.log) :
    ∃ ops1 ops2, ops = ops1 ++ POp.parse fl :: ops2 ∧
      ((runOps (s0, Ghost.init) ops1).1.parse fl).2 = (n, .ok, blk) := by
  rcases log_block_origin_aux ops (s0, Ghost.init) n fl blk h with h1 | h1
  · simp [Ghost.init] at h1
  · exact h1

/-! ## `GreedyWF` is preserved by every operation (for clients such as Wrap) -/

namespace Parser

theorem GreedyWF.of_step {s s' : Parser} (h : s.GreedyWF) (hs : Step s s')
    (hd : (∀ o, s.dict ≠ .osap o) → ∀ o, s'.dict ≠ .osap o) : s'.GreedyWF :=
  ⟨by rw [minMatch_eq, hs.kind_cfg.1, hs.kind_cfg.2, ← minMatch_eq]; exact h.1,
    by rw [hs.bufCfg]; exact h.2.1, hd h.2.2⟩

theorem GreedyWF.shrink {s : Parser} (h : s.GreedyWF) : s.shrink.1.GreedyWF := by
  by_cases hd : s.buf.shrink.2 = 0
  · rw [shrink_zero hd]; exact h
  · rw [shrink_pos hd]
    exact h.of_step (.shrink hd) (emptied_osap (Or.inr ⟨_, rfl⟩)).2

theorem GreedyWF.write {s : Parser} (h : s.GreedyWF) (p : List Byte) : (s.write p).1.GreedyWF :=
  h.of_step (Step.of_write s p) id

theorem GreedyWF.readFrom {s : Parser} (h : s.GreedyWF) (r : Reader) : (s.readFrom r).1.GreedyWF :=
  h.of_step (Step.of_readFrom s r) id

theorem GreedyWF.parseNil {s : Parser} (h : s.GreedyWF) : s.parseNil.1.GreedyWF := by
  by_cases hn : s.blockN = 0
  · rw [parseNil_empty s hn]; exact h
  · rw [parseNil_pos hn]
    exact h.of_step (.skip hn) (skipDict_osap s).2

theorem GreedyWF.reset {s : Parser} (h : s.GreedyWF) (data : List Byte) (capExtra : Nat) :
    (s.reset data capExtra).1.GreedyWF := by
  by_cases he : (s.buf.reset data capExtra).2 = .ok
  · rw [reset_ok he]
    exact h.of_step (.reset data capExtra he) (emptied_osap (Or.inl rfl)).2
  · rw [reset_err he]; exact h

end Parser

end LZ
