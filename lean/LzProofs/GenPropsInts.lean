/-
  ints.go.  The hand-written model equals the code that `tools/extract -code` regenerates from the Go source
  (LzModel/Generated/Code<Topic>.lean, one file per topic).  Every theorem quantifies over all inputs; Go `int`/`int64`
  are unbounded `Int` on both sides (overflow is out of scope), `uint32`/`uint64` wrap around.  The proofs are
  written against the meaning of the generated functions (unfold, split every `if`, decide linear arithmetic), not
  against the shape of the generated term, so that behaviour-preserving rewrites of the Go source (De Morgan, swapped
  arms, reordered defaults, `x+x` for `2*x`, …) do not break them.
-/
import LzModel.Generated.CodeInts
import LzModel.Basic

set_option linter.unusedSimpArgs false

namespace LZ.GenProps
open LZ

/-! ## ints.go -/

theorem iand_zero (a : Int) : Gen.iand a 0 = 0 := by
  cases a with
  | ofNat m => show Int.ofNat (m &&& 0) = 0; simp
  | negSucc m =>
    show Int.ofNat (Nat.bitwise (fun a b => !a && b) m 0) = 0
    unfold Nat.bitwise
    simp

theorem iand_neg_one (a : Int) : Gen.iand a (-1) = a := by
  cases a with
  | ofNat m =>
    show Int.ofNat (Nat.bitwise (fun a b => a && !b) m 0) = Int.ofNat m
    unfold Nat.bitwise
    simp
    split <;> simp_all
  | negSucc m => show Int.negSucc (m ||| 0) = Int.negSucc m; simp

theorem gen_iverson (b : Bool) : Gen.iverson b = if b then 1 else 0 := by
  cases b <;> rfl

/-- `doz` is the positive difference or zero -/
theorem gen_doz (x y : Int) : Gen.doz x y = if x ≥ y then x - y else 0 := by
  unfold Gen.doz
  rw [gen_iverson]
  by_cases h : x ≥ y
  · simp only [h, decide_true, if_true]; exact iand_neg_one _
  · simp only [h, decide_false, if_false]; exact iand_zero _

/-- … i.e. truncated subtraction -/
theorem gen_doz_toNat (x y : Int) : Gen.doz x y = ((x - y).toNat : Int) := by
  rw [gen_doz]; split <;> omega

theorem gen_min (x y : Int) : Gen.min x y = min x y := by
  unfold Gen.min
  rw [gen_doz]
  split <;> omega

end LZ.GenProps
