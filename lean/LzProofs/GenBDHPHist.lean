/-
  LzProofs.GenBDHPHist — the history invariant `HistOKBD` of the translated operations of the backward double hash
  parser BDHP (bdhp.go `bdhp`), built like that of DHP in LzProofs/GenDHPHist.lean.  `init` and `Parse` are translated
  (CodeBDHPInit / CodeBDHPParse; `lcs` is an opaque parameter of the translation under `LcsSpec`, as for BHP); `Write`,
  `Reset`, `Shrink` are promoted from the embedded `doubleHashDictionary` / `ParserBuffer` exactly as for DHP, so
  `gen_dhp_reset`, `gen_dhp_shrink` apply: they are theorems about the shared `doubleHashDictionary`.  Fuel
  `2·BufferSize + 3` suffices for `Parse` (`len(Data) ≤ BufferSize` is part of the invariant).
-/
import LzProofs.GenDHPHist

set_option linter.unusedSimpArgs false
set_option linter.unusedVariables false

namespace LZ.GenBDHPHist
open LZ LZ.Gen LZ.GenBuf LZ.GenHash LZ.GenHPParse LZ.GenBHPParse LZ.GenDHPParse LZ.GenBDHPParse LZ.GenProps LZ.GenDHPInit
open LZ.GenHPHist (BCOK newParser_fresh hash_same mparse_hist)
open LZ.GenHist (FRel WriteRel ParseRel ShrinkRel ResetRel BufHost)
open LZ.GenDHPHist (mparse_dict2 double_kept_eq)

/-! ## the promoted methods -/

/-- `s.Write(p)` for `s *doubleHashParser`: `ParserBuffer.Write` on the embedded buffer -/
def bdhp_Write (grow : Nat → Nat → Nat) (s : Gen.bdhp) (p : Slice) : Res (Gen.bdhp × Int × Gen.Err) :=
  Res.bind (ParserBuffer_Write grow s.doubleHashDictionary.ParserBuffer p) fun r =>
  Res.ok ({ s with doubleHashDictionary := { s.doubleHashDictionary with ParserBuffer := r.1 } }, r.2.1, r.2.2)

/-- `s.Reset(data)` for `s *doubleHashParser`: `doubleHashDictionary.Reset` on the embedded dictionary -/
def bdhp_Reset (s : Gen.bdhp) (data : Slice) : Res (Gen.bdhp × Gen.Err) :=
  Res.bind (doubleHashDictionary_Reset s.doubleHashDictionary data) fun r =>
  Res.ok ({ s with doubleHashDictionary := r.1 }, r.2)

/-- `s.Shrink()` for `s *doubleHashParser`: `doubleHashDictionary.Shrink` on the embedded dictionary -/
def bdhp_Shrink (s : Gen.bdhp) : Res (Gen.bdhp × Int) :=
  Res.bind (doubleHashDictionary_Shrink s.doubleHashDictionary) fun r =>
  Res.ok ({ s with doubleHashDictionary := r.1 }, r.2)

/-! ## the invariant -/

/-- the invariant of a history of translated operations on a Go `bdhp` -/
structure HistOKBD (bc : BufCfg) (t : Gen.bdhp) : Prop where
  pok : ParseOKBD t
  cfg : ofCfg t.doubleHashDictionary.ParserBuffer.BufConfig = bc
  len : t.doubleHashDictionary.ParserBuffer.Data.len ≤ bc.bufferSize
  cap : (ofPB t.doubleHashDictionary.ParserBuffer).CapOK
  il8 : t.doubleHashDictionary.h2.inputLen.toNat ≤ 8

theorem HistOKBD.buf {bc : BufCfg} {t : Gen.bdhp} (h : HistOKBD bc t) : GenHist.BufOK bc (ofBDHPs t).buf :=
  GenHist.BufOK.ofGo h.pok.wf.1 h.cfg h.pok.w h.len h.cap

/-- the bounds on the two `InputLen` as the model's parsers ask for them -/
theorem HistOKBD.dictOK {bc : BufCfg} {t : Gen.bdhp} (h : HistOKBD bc t) :
    ProbeW.HashDictOK (ofBDHPs t).dict ∧ 1 ≤ (ofBDHPs t).minMatch ∧ (ofBDHPs t).minMatch ≤ 8 := by
  have hil1 := h.pok.il1
  have hil12 := h.pok.il12
  have hcil := h.pok.cil
  have hil8 := h.il8
  have hi02 := h.pok.wf.2.2.2.1
  show (1 ≤ t.doubleHashDictionary.h1.inputLen.toNat ∧
      t.doubleHashDictionary.h1.inputLen.toNat ≤ t.doubleHashDictionary.h2.inputLen.toNat ∧
      t.doubleHashDictionary.h2.inputLen.toNat ≤ 8) ∧
    1 ≤ Min.min 3 t.BDHPConfig.InputLen1.toNat ∧ Min.min 3 t.BDHPConfig.InputLen1.toNat ≤ 8
  omega

theorem histOK_update {bc : BufCfg} (hbc : BCOK bc) {t : Gen.bdhp} (h : HistOKBD bc t)
    (f' : Gen.doubleHashDictionary) (hwf : DDictWF f')
    (hil1 : (ofHash f'.h1).inputLen = (ofHash t.doubleHashDictionary.h1).inputLen)
    (hhb1 : (ofHash f'.h1).hashBits = (ofHash t.doubleHashDictionary.h1).hashBits)
    (hil2 : (ofHash f'.h2).inputLen = (ofHash t.doubleHashDictionary.h2).inputLen)
    (hhb2 : (ofHash f'.h2).hashBits = (ofHash t.doubleHashDictionary.h2).hashBits)
    (hb : GenHist.BufOK bc (ofPB f'.ParserBuffer)) :
    HistOKBD bc { t with doubleHashDictionary := f' } := by
  obtain ⟨hw, hlen⟩ := hb.go hwf.1
  obtain ⟨ei1, es1⟩ := hash_same hwf.2.1 h.pok.wf.2.1 hil1 hhb1
  obtain ⟨ei2, es2⟩ := hash_same hwf.2.2 h.pok.wf.2.2 hil2 hhb2
  have hc : ofCfg f'.ParserBuffer.BufConfig = ofCfg t.doubleHashDictionary.ParserBuffer.BufConfig :=
    hb.cfg.trans h.cfg.symm
  exact ⟨⟨hwf, h.pok.cws.trans (congrArg BufCfg.windowSize hc).symm, h.pok.cbs.trans (congrArg BufCfg.blockSize hc).symm,
    ei1 ▸ h.pok.cil, h.pok.bs0, hw, ei1 ▸ h.pok.il1, ei1 ▸ ei2 ▸ h.pok.il12, es1 ▸ h.pok.sh1, es2 ▸ h.pok.sh2,
    Nat.lt_of_le_of_lt (Nat.le_trans hlen hbc.bmax) (by decide)⟩, hb.cfg, hlen, hb.cap, ei2 ▸ h.il8⟩

/-! ## Write -/

/-- the Go state holds its `ParserBuffer` inside the embedded dictionary -/
def bufHost {bc : BufCfg} (hbc : BCOK bc) : BufHost bc (FRel (HistOKBD bc) ofBDHPs) where
  pb t := t.doubleHashDictionary.ParserBuffer
  setPB t b := { t with doubleHashDictionary := { t.doubleHashDictionary with ParserBuffer := b } }
  get := fun ⟨h, e⟩ => ⟨h.pok.wf.1, h.buf, e ▸ rfl⟩
  put := fun {t m} b' ⟨h, e⟩ hwf hb _ _ =>
    ⟨histOK_update hbc h { t.doubleHashDictionary with ParserBuffer := b' } ⟨hwf, h.pok.wf.2⟩ rfl rfl rfl rfl hb, e ▸ rfl⟩

theorem hist_write {bc : BufCfg} (hbc : BCOK bc) (grow : Nat → Nat → Nat) :
    WriteRel (FRel (HistOKBD bc) ofBDHPs) (bdhp_Write grow) :=
  (bufHost hbc).write grow fun _ _ => rfl

/-! ## Shrink -/

theorem hist_shrink {bc : BufCfg} (hbc : BCOK bc) : ShrinkRel (FRel (HistOKBD bc) ofBDHPs) bdhp_Shrink := by
  rintro t _ ⟨h, rfl⟩
  have hW := h.pok.w
  have hS := h.pok.small
  have hss := h.pok.wf.1.ss
  obtain ⟨f', hf, hof, hwf⟩ := gen_dhp_shrink .BDHP (ofBDHP t.BDHPConfig) t.doubleHashDictionary h.pok.wf (by omega) (by omega)
  unfold bdhp_Shrink
  rw [hf]
  refine ⟨_, rfl, ?_, hof⟩
  obtain ⟨a, b, c, d⟩ := double_kept_eq .shrink (s := ofBDHPs t) rfl (congrArg Parser.dict hof).symm
  have hbuf : ofPB f'.ParserBuffer = (ofBDHPs t).shrink.1.buf := congrArg Parser.buf hof
  exact histOK_update hbc h f' hwf a b c d (hbuf ▸ h.buf.pshrink)

/-! ## Reset -/

theorem hist_reset {bc : BufCfg} (hbc : BCOK bc) : ResetRel (FRel (HistOKBD bc) ofBDHPs) bdhp_Reset := by
  rintro t _ data ⟨h, rfl⟩ hdat
  obtain ⟨f', e, hf, hof, herr, hwf⟩ := gen_dhp_reset .BDHP (ofBDHP t.BDHPConfig) t.doubleHashDictionary h.pok.wf data hdat
  unfold bdhp_Reset
  rw [hf]
  refine ⟨_, e, rfl, ⟨?_, hof⟩, herr⟩
  obtain ⟨a, b, c, d⟩ := double_kept_eq (.reset data.data (data.cap - data.len)) (s := ofBDHPs t) rfl
    (congrArg Parser.dict hof).symm
  have hbuf : ofPB f'.ParserBuffer = ((ofBDHPs t).reset data.data (data.cap - data.len)).1.buf := congrArg Parser.buf hof
  exact histOK_update hbc h f' hwf a b c d (hbuf ▸ h.buf.preset _ _)

/-! ## Parse -/

theorem hist_parse {bc : BufCfg} (hbc : BCOK bc) (grow : Nat → Nat → Nat) (fuel : Nat) (lcs : Slice → Slice → Int)
    (hlcs : LcsSpec lcs)
    (hfuel : 2 * bc.bufferSize + 3 ≤ fuel) :
    ParseRel (FRel (HistOKBD bc) ofBDHPs) (fun _ => True) (bdhp_Parse grow fuel lcs) := by
  rintro t _ blk flags ⟨h, rfl⟩ - hfl
  have hfuel : 2 * t.doubleHashDictionary.ParserBuffer.Data.len + 3 ≤ fuel := by have := h.len; omega
  obtain ⟨hd, hm1, hm8⟩ := h.dictOK
  have hW := ProbeW.parseW_eq (ofBDHPs t) (staleOfBD t) flags.toNat h.buf.w h.pok.backing h.cap hd hm8
  have hnot : ∀ o, (ofBDHPs t).dict ≠ .osap o := by intro o ho; cases ho
  obtain ⟨-, f2, -, f4⟩ := mparse_hist (ofBDHPs t) flags.toNat h.buf hm1 hnot hbc.bmax hbc.wmax
  obtain ⟨d', f5, f6, f7⟩ := mparse_dict2 (ofBDHPs t) flags.toNat
    ⟨ofHash t.doubleHashDictionary.h1, ofHash t.doubleHashDictionary.h2⟩ rfl
  have hm := gen_bdhp_parse grow fuel lcs hlcs t blk flags h.pok hfl hfuel
  rw [hW] at hm
  generalize (ofBDHPs t).parse flags.toNat = R at hm f2 f4 f5 ⊢
  obtain ⟨t', blk', h1, h2, h3, h4, h5, h6, h7, h8⟩ := hm
  refine ⟨t', blk', h1, ⟨?_, h2⟩, f4 blk' h5 h6, h7, h4⟩
  rw [← h2] at f2 f5
  have hdict : Dict.double ⟨ofHash t'.doubleHashDictionary.h1, ofHash t'.doubleHashDictionary.h2⟩ = Dict.double d' := f5
  injection hdict with hdict
  have hi2 : t'.doubleHashDictionary.h2.inputLen.toNat = t.doubleHashDictionary.h2.inputLen.toNat :=
    (congrArg (fun x : Hash2 => x.h2.inputLen) hdict).trans f7
  have hb : GenHist.BufOK bc (ofPB t'.doubleHashDictionary.ParserBuffer) := f2
  exact ⟨h8, hb.cfg, data_length h8.wf.1.data ▸ hb.len, hb.cap, by rw [hi2]; exact h.il8⟩

/-! ## init -/

/-- `bdhp.init(cfg)` on `new(bdhp)`: if it returns `nil`, the configuration is one the model's
    `NewParser` accepts, the Go state abstracts to the model's fresh parser, and `HistOKBD` holds for its buffer
    configuration -/
theorem hist_init (cfg : Gen.BDHPConfig) (s0 : Gen.bdhp)
    (hinit : bdhp_init default cfg = Res.ok (s0, Gen.Err.ok)) :
    ∃ p, newParser .BDHP (ofBDHP cfg) = some p ∧ ofBDHPs s0 = p ∧ BCOK p.buf.cfg ∧ HistOKBD p.buf.cfg s0 := by
  have hg := gen_bdhp_init default (ofBDHP cfg) (by unfold GWF; exact Nat.le_refl 0) (by unfold GWF; exact Nat.le_refl 0)
  rw [toBDHP_ofBDHP] at hg
  cases hp : newParser .BDHP (ofBDHP cfg) with
  | none =>
    rw [hp] at hg
    obtain ⟨e, he, hne⟩ := hg
    rw [hinit] at he
    injection he with he
    injection he with _ he
    exact absurd he.symm hne
  | some p =>
    obtain ⟨s', h1, h2, h3⟩ := gen_bdhp_init_parseOK (ofBDHP cfg) p hp
    rw [toBDHP_ofBDHP, hinit] at h1
    injection h1 with h1
    injection h1 with h1 _
    subst h1
    subst h2
    obtain ⟨hBC, c, hv, -, hbuf, hdict⟩ := newParser_fresh .BDHP _ _ hp
    obtain ⟨-, -, hhv', -⟩ := verify_dh_bounds (k := .BDHP) (.inr rfl) hv
    have hI : s0.doubleHashDictionary.h2.inputLen.toNat = c.inputLen2.toNat :=
      congrArg (fun x : Dict => match x with | .double d => d.h2.inputLen | _ => 0) hdict
    refine ⟨_, rfl, rfl, hBC, h3, rfl, ?_, Or.inl (congrArg PBuf.data hbuf), ?_⟩
    · rw [(fresh_pbuf (cap := 0) h3.wf.1 hbuf).2.2.2]; exact Nat.zero_le _
    · rw [hI]; omega

end LZ.GenBDHPHist

#print axioms LZ.GenBDHPHist.hist_write
#print axioms LZ.GenBDHPHist.hist_shrink
#print axioms LZ.GenBDHPHist.hist_reset
#print axioms LZ.GenBDHPHist.hist_parse
#print axioms LZ.GenBDHPHist.hist_init
