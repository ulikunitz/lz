/-
  Lemmas over the third prelude of the translator (`Gen.GSlice`,
  `Gen.Slice.set`, `Gen.shiftCount`; LzModel/Generated/CodeGSlicePrelude.lean): the representation invariant
  `GWF` of a slice of any element type and what `index`, `set`, `slice`, `make`, `clear` return under it.  Every
  proof module about translated code with typed slices uses them (hash and bucket tables, bitset, suffix arrays,
  the edge lists of OSAP), not only the hash table theorems the file is named after.  It imports no translated
  function.

  A translated loop `for i, e := range P { … P[i] = f(e) … }` replaces the elements `[i, i+n)` of the
  backing array by their image under `f`.  `mapLoop` is that effect as a function on lists;
  `mapLoop_getElem?` / `mapLoop_take` / `mapLoop_drop` characterise it.  Its instance is the loop of
  `hash.shiftOffsets` (GenHashProps, `shift_loop_eq`: "generated loop = mapLoop (shiftF delta)" by an
  induction that unfolds, reads with `gindex_ok`, writes with `gset_ok` and applies the hypothesis); a
  zeroing loop is translated as `GSlice.clear` / `Slice.clear` (`gclear_*`, `bclear_*`).
-/
import LzModel.Generated.CodeGSlicePrelude
import LzProofs.GenBufPropsBase

set_option linter.unusedSimpArgs false
set_option linter.unusedVariables false

namespace LZ.GenHash
open LZ LZ.Gen LZ.GenBuf

/-- representation invariant of a slice value: the length does not exceed the capacity -/
def GWF {α : Type} (s : GSlice α) : Prop := s.len ≤ s.arr.length

theorem gdata_length {α : Type} {s : GSlice α} (h : GWF s) : s.data.length = s.len := by
  unfold GSlice.data; unfold GWF at h; simp [List.length_take]; omega

theorem index_in_range {i n : Nat} (hi : i < n) : (0 : Int) ≤ (i : Int) ∧ (i : Int) < Int.ofNat n :=
  ⟨Int.natCast_nonneg i, Int.ofNat_lt.mpr hi⟩

theorem gset_ok {α : Type} (s : GSlice α) (k : Int) (i : Nat) (hk : k = (i : Int)) (hi : i < s.len) (v : α) :
    GSlice.set s k v = Res.ok { s with arr := s.arr.set i v } := by
  subst hk
  unfold GSlice.set
  have := index_in_range hi
  simp only [this, and_self, if_true, Int.toNat_natCast]

theorem gindex_ok {α : Type} (z : α) (s : GSlice α) (k : Int) (i : Nat) (hk : k = (i : Int)) (hi : i < s.len) :
    GSlice.index z s k = Res.ok ((s.arr[i]?).getD z) := by
  subst hk
  unfold GSlice.index
  have := index_in_range hi
  simp only [this, and_self, if_true, Int.toNat_natCast, List.getD_eq_getElem?_getD]

theorem gslice_ok {α : Type} (s : GSlice α) (a b : Int) (i j : Nat) (ha : a = (i : Int)) (hb : b = (j : Int))
    (hij : i ≤ j) (hj : j ≤ s.arr.length) :
    GSlice.slice s a b = Res.ok { arr := s.arr.drop i, len := j - i } := by
  subst ha hb
  unfold GSlice.slice GSlice.cap
  have : (0 : Int) ≤ i ∧ (i : Int) ≤ j ∧ (j : Int) ≤ Int.ofNat s.arr.length := by
    refine ⟨by omega, by omega, ?_⟩
    show (j : Int) ≤ (s.arr.length : Int); omega
  simp only [this, and_self, if_true, Int.toNat_natCast]

theorem gmake_ok {α : Type} (z : α) (a b : Int) (n c : Nat) (ha : a = (n : Int)) (hb : b = (c : Int)) (hnc : n ≤ c) :
    GSlice.make z a b = Res.ok { arr := List.replicate c z, len := n } := by
  subst ha hb
  unfold GSlice.make
  have : (0 : Int) ≤ (n : Int) ∧ (n : Int) ≤ (c : Int) := ⟨by omega, by omega⟩
  simp only [this, and_self, if_true, Int.toNat_natCast]

/-- `make` in the form that does not fix how the capacity is written in the source -/
theorem gmake_eq {α : Type} (z : α) (a b : Int) (h : 0 ≤ a ∧ a ≤ b) :
    GSlice.make z a b = Res.ok { arr := List.replicate b.toNat z, len := a.toNat } := by
  unfold GSlice.make
  simp only [h, and_self, if_true]

/-- what `make` returns is well-formed -/
theorem gwf_make {α : Type} (z : α) {n c : Nat} (h : n ≤ c) :
    GWF ({ arr := List.replicate c z, len := n } : GSlice α) := by
  unfold GWF; rw [List.length_replicate]; exact h

theorem bset_ok (s : Slice) (k : Int) (i : Nat) (hk : k = (i : Int)) (hi : i < s.len) (v : UInt8) :
    Slice.set s k v = Res.ok { s with arr := s.arr.set i v } := by
  subst hk
  unfold Slice.set
  have := index_in_range hi
  simp only [this, and_self, if_true, Int.toNat_natCast]

theorem shiftCount_ok (k : Int) (h : 0 ≤ k) : shiftCount k = Res.ok k.toNat := by
  unfold shiftCount; simp only [h, if_true]

theorem shiftCount_panic (k : Int) (h : k < 0) : shiftCount k = Res.panic := by
  unfold shiftCount
  have : ¬ (0 ≤ k) := by omega
  simp only [this, if_false]

/-! ## `clear(s)` / a zeroing `range` loop (the translator writes both as `GSlice.clear` / `Slice.clear`) -/

@[simp] theorem gclear_len {α : Type} (z : α) (s : GSlice α) : (GSlice.clear z s).len = s.len := by
  unfold GSlice.clear; rfl

theorem gclear_arr {α : Type} (z : α) (s : GSlice α) (h : GWF s) :
    (GSlice.clear z s).arr = List.replicate s.len z ++ s.arr.drop s.len := by
  unfold GSlice.clear; rw [Nat.min_eq_left h]

theorem gclear_arr_length {α : Type} (z : α) (s : GSlice α) (h : GWF s) :
    (GSlice.clear z s).arr.length = s.arr.length := by
  rw [gclear_arr z s h, List.length_append, List.length_replicate, List.length_drop]
  unfold GWF at h
  omega

theorem gclear_cap {α : Type} (z : α) (s : GSlice α) (h : GWF s) : (GSlice.clear z s).cap = s.cap := by
  unfold GSlice.cap; exact gclear_arr_length z s h

theorem gclear_wf {α : Type} (z : α) (s : GSlice α) (h : GWF s) : GWF (GSlice.clear z s) := by
  unfold GWF
  rw [gclear_arr_length z s h, gclear_len]
  exact h

theorem gclear_data {α : Type} (z : α) (s : GSlice α) (h : GWF s) :
    (GSlice.clear z s).data = List.replicate s.len z := by
  unfold GSlice.data
  rw [gclear_len, gclear_arr z s h, List.take_left' List.length_replicate]

theorem gclear_drop {α : Type} (z : α) (s : GSlice α) (h : GWF s) :
    (GSlice.clear z s).arr.drop s.len = s.arr.drop s.len := by
  rw [gclear_arr z s h, List.drop_left' List.length_replicate]

/-! a `Slice` is a `GSlice UInt8` field by field (two generated structures): `clear` on bytes is the instance `z := 0` -/

@[simp] theorem bclear_len (s : Slice) : (Slice.clear s).len = s.len := rfl

theorem bclear_arr (s : Slice) (h : SWF s) :
    (Slice.clear s).arr = List.replicate s.len 0 ++ s.arr.drop s.len :=
  gclear_arr 0 ⟨s.arr, s.len⟩ h

theorem bclear_arr_length (s : Slice) (h : SWF s) : (Slice.clear s).arr.length = s.arr.length :=
  gclear_arr_length 0 ⟨s.arr, s.len⟩ h

theorem bclear_wf (s : Slice) (h : SWF s) : SWF (Slice.clear s) := gclear_wf 0 ⟨s.arr, s.len⟩ h

theorem bclear_data (s : Slice) (h : SWF s) : (Slice.clear s).data = List.replicate s.len 0 :=
  gclear_data 0 ⟨s.arr, s.len⟩ h

theorem bclear_drop (s : Slice) (h : SWF s) : (Slice.clear s).arr.drop s.len = s.arr.drop s.len :=
  gclear_drop 0 ⟨s.arr, s.len⟩ h

/-! ## the effect of a `range` loop that rewrites the elements in place -/

/-- elements `i, i+1, …, i+n-1` of `l` are replaced, in this order, by their image under `f` -/
def mapLoop {α : Type} (f : α → α) (z : α) : Nat → Nat → List α → List α
  | 0, _, l => l
  | n + 1, i, l => mapLoop f z n (i + 1) (l.set i (f ((l[i]?).getD z)))

theorem mapLoop_length {α : Type} (f : α → α) (z : α) (n i : Nat) (l : List α) :
    (mapLoop f z n i l).length = l.length := by
  induction n generalizing i l with
  | zero => rfl
  | succ n ih => simp only [mapLoop, ih, List.length_set]

theorem mapLoop_getElem? {α : Type} (f : α → α) (z : α) (n i : Nat) (l : List α) (h : i + n ≤ l.length) (j : Nat) :
    (mapLoop f z n i l)[j]? = if i ≤ j ∧ j < i + n then (l[j]?).map f else l[j]? := by
  induction n generalizing i l with
  | zero =>
    have : ¬ (i ≤ j ∧ j < i + 0) := by omega
    simp only [mapLoop, this, if_false]
  | succ n ih =>
    have hi : i < l.length := by omega
    simp only [mapLoop]
    rw [ih (i + 1) _ (by simp only [List.length_set]; omega)]
    simp only [List.getElem?_set, hi, if_true]
    by_cases hj : i = j
    · subst hj
      have h1 : ¬ (i + 1 ≤ i ∧ i < i + 1 + n) := by omega
      have h2 : i ≤ i ∧ i < i + (n + 1) := by omega
      simp only [h1, h2, if_false, if_true, and_self, List.getElem?_eq_getElem hi, Option.getD_some, Option.map_some]
    · simp only [hj, if_false]
      by_cases hc : i + 1 ≤ j ∧ j < i + 1 + n
      · have : i ≤ j ∧ j < i + (n + 1) := by omega
        simp only [hc, this, and_self, if_true]
      · have : ¬ (i ≤ j ∧ j < i + (n + 1)) := by omega
        simp only [hc, this, if_false]

theorem mapLoop_take {α : Type} (f : α → α) (z : α) (n : Nat) (l : List α) (h : n ≤ l.length) :
    (mapLoop f z n 0 l).take n = (l.take n).map f := by
  apply List.ext_getElem?
  intro j
  simp only [List.getElem?_take, List.getElem?_map]
  by_cases hj : j < n
  · have : 0 ≤ j ∧ j < 0 + n := by omega
    simp only [hj, if_true, mapLoop_getElem? f z n 0 l (by omega) j, this, and_self]
  · simp only [hj, if_false, Option.map_none]

/-- a loop over the whole slice maps its elements -/
theorem gdata_mapLoop {α : Type} (f : α → α) (z : α) {s : GSlice α} (hw : GWF s) :
    ({ s with arr := mapLoop f z s.len 0 s.arr } : GSlice α).data = s.data.map f :=
  mapLoop_take f z s.len s.arr hw

theorem mapLoop_drop {α : Type} (f : α → α) (z : α) (n : Nat) (l : List α) (h : n ≤ l.length) :
    (mapLoop f z n 0 l).drop n = l.drop n := by
  apply List.ext_getElem?
  intro j
  simp only [List.getElem?_drop]
  have : ¬ (0 ≤ n + j ∧ n + j < 0 + n) := by omega
  simp only [mapLoop_getElem? f z n 0 l (by omega) (n + j), this, if_false]

theorem map_const_replicate {α β : Type} (l : List α) (c : β) : l.map (fun _ => c) = List.replicate l.length c := by
  induction l with
  | nil => rfl
  | cons a l ih => simp only [List.map_cons, ih, List.length_cons, List.replicate_succ]

end LZ.GenHash
