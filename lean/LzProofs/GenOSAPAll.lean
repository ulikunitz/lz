/-
  The translated osap.go, all parts together (notes/osap-translate.md): `shortestPath` (GenOSAPPath), `Parse`
  (GenOSAPParse), `resetEdges` / `Reset` / `Shrink` / `init` (GenOSAPInit), and the glue between them: the two spellings
  of the abstraction agree, and `init` establishes the invariant `ParseOKO` that `gen_osap_parse` needs and preserves.
-/
import LzProofs.GenOSAPPath
import LzProofs.GenOSAPParse
import LzProofs.GenOSAPInit

namespace LZ.GenOSAP
open LZ LZ.Gen

theorem odOf_eq (s : Gen.optSuffixArrayParser) : odOf s = ofOD s := rfl
theorem osapOf_eq (s : Gen.optSuffixArrayParser) : osapOf s = ofOSAPs s := rfl

/-- `init` establishes `ParseOKO` for every accepted configuration whose `MinMatchLen` is below `2^32`
    (`Verify` checks `2 ≤ MinMatchLen ≤ MaxMatchLen` only; beyond `MaxInt32` `computeEdges` finds no edge and
    `shortestPath` — the only reader of `uint32(s.MinMatchLen)` — is never called: notes/osap-translate.md §6);
    every bound `B` on the number of edges per position holds for the empty table. -/
theorem gen_osap_init_parseOK (B : Nat) (s : Gen.optSuffixArrayParser) (cfg : Gen.OSAPConfig)
    (hok : OSAPConfig_Verify (OSAPConfig_SetDefaults cfg) = Gen.Err.ok)
    (h32 : (OSAPConfig_SetDefaults cfg).MinMatchLen < 4294967296) :
    ∃ s', optSuffixArrayParser_init s cfg = Res.ok (s', Gen.Err.ok) ∧ ParseOKO B s' := by
  obtain ⟨s', e, hc, hpb, hwe, hde, hwt, hcost, hst, hne, hW, hlen, hbs, hbs1, hws, hws0, hmm2, hmmx, hbuf, -⟩ :=
    gen_osap_init_inv s cfg hok
  refine ⟨s', e, ?_⟩
  exact
    { pb := hpb, wedges := hwe, wq := by intro q hq; rw [hde] at hq; cases hq
      wtmp := hwt, cost := hcost, st0 := by omega, ne0 := by omega, stw := by omega, cbs := hbs, bs0 := by omega,
      mm0 := by omega, mm32 := by rw [hc]; exact h32, w := by omega, small := by omega, cws := hws, ws0 := hws0, mmx := hmmx }

#print axioms gen_osap_init_parseOK

end LZ.GenOSAP
