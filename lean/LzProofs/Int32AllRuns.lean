/-
  LzProofs.Int32AllRuns — the C19 run-clause theorems for OSAP of RunsOsap.lean without the
  hypothesis `Sap.Int32OK` (a consequence of `newParser .OSAP raw = some s0`, see Int32All.lean).
-/
import LzProofs.Int32All
import LzProofs.RunsOsap
namespace LZ

/-- C19, run clause, history level, OSAP, over the histories of the OSAP topic
    (`Sap.POp`, `Sap.runOps`), for every accepted OSAP configuration. -/
theorem C19_run_osap_reachable_sap_all (raw : Cfg) (s0 : Parser)
    (h0 : newParser .OSAP raw = some s0) (ops : List Sap.POp)
    (flags : Nat) (s' : Parser) (n : Nat) (blk : Block) (b : Byte) :
    let s := Sap.runOps s0 ops
    s.parse flags = (s', n, .ok, blk) → flags % 2 = 0 → 32 ≤ n →
    (∀ t, t < n → s.buf.data[s.buf.w + t]? = some b) →
    blk.lits.length ≤ s.minMatch :=
  C19_run_osap_of_reachable h0 (Sap.reachable_sapRunOps s0 ops) flags s' n blk b

/-- C19, run clause, history level, OSAP.  For every accepted OSAP configuration, every
    history of `Write`, `ReadFrom`, `Parse` (any flags), `Parse(nil)`, `Shrink`, `Reset`: if the
    next `Parse(&blk, flags)` without `NoTrailingLiterals` returns a block of `n ≥ 32` bytes, all
    equal to one byte `b`, the block carries at most `MinMatchLen` literal bytes. -/
theorem C19_run_osap_reachable_all (raw : Cfg) (s0 : Parser) (h0 : newParser .OSAP raw = some s0)
    (ops : List POp)
    (flags : Nat) (s' : Parser) (n : Nat) (blk : Block) (b : Byte) :
    let s := (runOps (s0, Ghost.init) ops).1
    s.parse flags = (s', n, .ok, blk) → flags % 2 = 0 → 32 ≤ n →
    (∀ t, t < n → s.buf.data[s.buf.w + t]? = some b) →
    blk.lits.length ≤ s.minMatch :=
  C19_run_osap_of_reachable h0 (reachable_runOps s0 ops) flags s' n blk b

/-- … with the bound spelled as the configured `MinMatchLen` -/
theorem C19_run_osap_reachable_cfg_all (raw : Cfg) (s0 : Parser)
    (h0 : newParser .OSAP raw = some s0) (ops : List POp)
    (flags : Nat) (s' : Parser) (n : Nat) (blk : Block) (b : Byte)
    (hp : (runOps (s0, Ghost.init) ops).1.parse flags = (s', n, .ok, blk)) (hf : flags % 2 = 0)
    (hn : 32 ≤ n)
    (hrun : ∀ t, t < n → (runOps (s0, Ghost.init) ops).1.buf.data[(runOps (s0, Ghost.init) ops).1.buf.w + t]?
      = some b) :
    blk.lits.length ≤ s0.cfg.minMatchLen.toNat := by
  obtain ⟨-, -, -, -, -, hmm, -⟩ := reachable_osap_sap h0 (reachable_runOps s0 ops)
  rw [← hmm]
  exact C19_run_osap_of_reachable h0 (reachable_runOps s0 ops) flags s' n blk b hp hf hn hrun

/-! ## non-vacuity -/

example : Sap.Int32OK runOsap0 := Sap.int32OK_of_newParser runOsapCfg runOsap0 runOsap0_new

/-! ## axioms -/

#print axioms C19_run_osap_reachable_sap_all
#print axioms C19_run_osap_reachable_all
#print axioms C19_run_osap_reachable_cfg_all

end LZ
