/-
  LzProofs.GenBUPHistC19 — property C19 (maximality of the emitted matches) about the TRANSLATION of the Go text of the
  bucket parser BUP (as `C19_go_text_hp`, `C19_right_go_text_hp` of LzProofs/GenC19Hist.lean for HP).

  The model-level theorem is `C19_maximal_reachable_log` (LzProofs/C19Hist.lean): for every kind `k ≠ OSAP` — BUP
  included —, every accepted configuration and every history, every `.block` event of the ghost log satisfies
  `EventMax g.fed back BlockSize`; `back = true` (left-maximality) is allowed for BHP and BDHP only, so for BUP it is
  `back = false`: RIGHT-maximality w.r.t. the bytes fed.  It has no hypothesis besides `newParser k raw = some s0`.
  `gen_bup_history` (GenBUPHistRun) says that `ghostRunU` — computed from the Go calls and the Go results alone, the
  blocks read through `ofBlock` — is the model's ghost.  Hence `C19_go_text_bup`: every event of the log of every
  history of translated calls `Write` / `ReadFrom` / `Parse` / `Reset` / `Shrink` (`shiftOffsets` opaque under
  `ShiftSpec`) satisfies `EventMax g.fed false BlockSize`: the block `(n, flags, ofBlock blk')` returned by the
  translated `Parse` at stream position `pos` saw a block prefix ending at `lim` (`pos + n ≤ lim ≤ pos + BlockSize`,
  `lim ≤ |fed|`, `lim = pos + n` without `NoTrailingLiterals`) and every match of it lies inside that prefix, has
  `1 ≤ Offset ≤` its stream position, and ends at `lim` or before a byte of the stream `fed` that differs from the byte
  `Offset` back (`SeqMaxStream`).  `C19_right_go_text_bup` is the right clause spelled out without `EventMax`
  (`GenC19Hist.EventRightMax`).
  The statements mention the translated functions, `ghostRunU` / `ofBlock` and the predicates of C19Hist on streams of
  bytes; no `Parser`, `runOps`, `POp`.  Not transported (as for HP): the third clause of C19
  (`Parser.LongestNearest`; for BUP `C19_longest_nearest_reachable .BUP` — the candidates live in the bucket table of
  the model state).
-/
import LzProofs.GenC19Hist
import LzProofs.GenBUPHistRun

set_option linter.unusedSimpArgs false
set_option linter.unusedVariables false

namespace LZ.GenBUPHist
open LZ LZ.Gen LZ.GenBuf LZ.GenHash LZ.GenHPParse LZ.GenBUPParse LZ.GenProps
open LZ.GenHPHist (rfGo)
open LZ.GenC19Hist (EventRightMax eventMax_right)

/-- C19 about the Go text of BUP (right-maximality w.r.t. the bytes fed; `EventMax … false`) -/
theorem C19_go_text_bup (cfg : Gen.BUPConfig) (s0 : Gen.bucketParser)
    (hinit : bucketParser_init default cfg = Res.ok (s0, Gen.Err.ok))
    (extra : Nat) (grow : Nat → Nat → Nat) (fuel : Nat) (lcp : Slice → Slice → Int) (hlcp : LcpSpec lcp)
    (SO : SOFun) (hSO : ShiftSpec SO)
    (hfuel : s0.bucketDictionary.ParserBuffer.BufConfig.BufferSize.toNat + 3 ≤ fuel)
    (ops : List GOpU) (hwf : ∀ op ∈ ops, op.WF) :
    ∃ t rs, runU (rfGo extra) grow fuel lcp SO s0 ops = Res.ok (t, rs) ∧
      let g := ghostRunU Ghost.init ops rs
      LogAll (EventMax g.fed false s0.bucketDictionary.ParserBuffer.BufConfig.BlockSize.toNat) 0 g.log := by
  obtain ⟨p, t, rs, hp, h0, h1, -, -, h4, -⟩ := gen_bup_history cfg s0 hinit extra grow fuel lcp hlcp SO hSO hfuel ops hwf
  subst h0
  refine ⟨t, rs, h1, ?_⟩
  intro g
  have hg : g = (runOps (ofBUPs s0, Ghost.init) (ops.map GOpU.abs)).2 := h4
  rw [hg]
  exact C19_maximal_reachable_log .BUP (by decide) (ofBUP cfg) _ hp false (by simp) (ops.map GOpU.abs)

theorem C19_right_go_text_bup (cfg : Gen.BUPConfig) (s0 : Gen.bucketParser)
    (hinit : bucketParser_init default cfg = Res.ok (s0, Gen.Err.ok))
    (extra : Nat) (grow : Nat → Nat → Nat) (fuel : Nat) (lcp : Slice → Slice → Int) (hlcp : LcpSpec lcp)
    (SO : SOFun) (hSO : ShiftSpec SO)
    (hfuel : s0.bucketDictionary.ParserBuffer.BufConfig.BufferSize.toNat + 3 ≤ fuel)
    (ops : List GOpU) (hwf : ∀ op ∈ ops, op.WF) :
    ∃ t rs, runU (rfGo extra) grow fuel lcp SO s0 ops = Res.ok (t, rs) ∧
      let g := ghostRunU Ghost.init ops rs
      LogAll (EventRightMax g.fed s0.bucketDictionary.ParserBuffer.BufConfig.BlockSize.toNat) 0 g.log := by
  obtain ⟨t, rs, h1, h2⟩ := C19_go_text_bup cfg s0 hinit extra grow fuel lcp hlcp SO hSO hfuel ops hwf
  exact ⟨t, rs, h1, LogAll.mono (fun pos e he => eventMax_right he) _ _ h2⟩

end LZ.GenBUPHist

#print axioms LZ.GenBUPHist.C19_go_text_bup
#print axioms LZ.GenBUPHist.C19_right_go_text_bup
