/-
  LzProofs.RunsOsapLemmas — path level of the run clause of C19 for OSAP: the exchange lemma
  `run_improve` (in a run block an LZ77 parse with more than `minM` literal bytes has a strictly
  cheaper one, since an offset-1 match costs at most 14 bits, `xzCost_off1_le`), hence a
  minimum-cost parse has at most `minM` literals (`run_optimal_lits`); and the literal bytes of the
  block OSAP emits are those of its path (`osap_block_lits`).
-/
import LzProofs.OsapProps
import LzProofs.RunsBlock
namespace LZ.Sap

/-! ## literal bytes of a path -/

@[simp] theorem litBytes_nil : litBytes [] = 0 := rfl
theorem litBytes_cons (m o : Nat) (r : List Edge) :
    litBytes ((m, o) :: r) = (if o = 0 then m else 0) + litBytes r := rfl

theorem litBytes_replicate (n : Nat) : litBytes (List.replicate n ((1, 0) : Edge)) = n := by
  induction n with
  | zero => rfl
  | succ n ih => rw [List.replicate_succ, litBytes_cons, ih]; simp; omega

theorem pathLen_replicate (n : Nat) : pathLen (List.replicate n ((1, 0) : Edge)) = n := by
  induction n with
  | zero => rfl
  | succ n ih => rw [List.replicate_succ, pathLen_cons, ih]; simp; omega

theorem pathCost_replicate (n : Nat) : pathCost (List.replicate n ((1, 0) : Edge)) = 9 * n := by
  induction n with
  | zero => rfl
  | succ n ih => rw [List.replicate_succ, pathCost_cons, ih]; simp only [xzCost_one_zero]; omega

theorem osap_block_lits (s : Parser) (o : OsapD) (hd : s.dict = .osap o) (flags : Nat)
    (hn : s.blockN ≠ 0) (hf : flags % 2 = 0) :
    (s.parse flags).2.2.2.lits.length =
      if (osapEdges s o).nEdges = 0 then s.blockN else litBytes (osapPath s o) := by
  rw [parse_osap_block s o hd flags hn hf]
  have hle := blockN_le s hn
  split
  · simp [List.length_take, List.length_drop]; omega
  · obtain ⟨-, b, -, d⟩ := osapSeqs_spec s o hn
    simp only [List.length_append, List.length_drop, List.length_take_of_le hle]
    omega

/-! ## LZ77 parses inside a run -/

section Run
variable (p : List Byte) (w ws minM maxM n : Nat)

theorem lz_all_literals : ∀ (k a : Nat), a + k = n →
    LzPathOK p w ws minM maxM n a n (List.replicate k ((1, 0) : Edge))
  | 0, a, h => by
    show a = n
    omega
  | k+1, a, h => by
    rw [List.replicate_succ]
    exact ⟨Or.inl ⟨rfl, rfl, by omega⟩, lz_all_literals k (a + 1) (by omega)⟩

/-- paths made of literals `(1, 0)` and offset-1 matches with admissible lengths -/
def RunSteps : List Edge → Prop
  | [] => True
  | (m, o) :: r => ((m = 1 ∧ o = 0) ∨ (o = 1 ∧ 1 ≤ m ∧ minM ≤ m ∧ m ≤ maxM)) ∧ RunSteps r

variable {p w n}

theorem run_lz {b : Byte} (hlen : p.length = w + n) (hrun : ∀ t, t < n → p[w + t]? = some b)
    (hws : 1 ≤ ws) :
    ∀ (π : List Edge) (a c : Nat), 1 ≤ a → a + pathLen π = c → c ≤ n → RunSteps minM maxM π →
      LzPathOK p w ws minM maxM n a c π := by
  intro π
  induction π with
  | nil =>
    intro a c _ h _ _
    exact h
  | cons e r ih =>
    intro a c ha h hc hs
    obtain ⟨m, o⟩ := e
    obtain ⟨hs1, hs2⟩ := hs
    simp only [pathLen_cons] at h
    refine ⟨?_, ih (a + m) c (by omega) (by omega) hc hs2⟩
    rcases hs1 with ⟨rfl, rfl⟩ | ⟨rfl, hm1, hmin, hmax⟩
    · exact Or.inl ⟨rfl, rfl, by omega⟩
    · refine Or.inr ⟨hm1, hmin, hmax, Nat.le_refl _, hws, by omega, Nat.one_pos, by omega, by omega, ?_⟩
      intro t ht
      rw [show w + a + t = w + (a + t) by omega, show w + (a + t) - 1 = w + (a + t - 1) by omega,
        hrun _ (by omega), hrun _ (by omega)]

variable (p w n)

/-- from an LZ77 parse of `[a, c)` with at least `k` literals, drop `k` of them and set the offset
    of every match to 1: a path of literals and offset-1 matches, `k` bytes shorter and at least
    `9 k` cheaper -/
theorem exists_squeezed : ∀ (π : List Edge) (k a c : Nat), LzPathOK p w ws minM maxM n a c π → k ≤ litBytes π →
    ∃ π', a + pathLen π' + k = c ∧ pathCost π' + 9 * k ≤ pathCost π ∧ RunSteps minM maxM π' := by
  intro π
  induction π with
  | nil =>
    intro k a c h hk
    obtain rfl : k = 0 := by simpa using hk
    exact ⟨[], h, Nat.le_refl _, trivial⟩
  | cons e r ih =>
    intro k a c h hk
    obtain ⟨m, o⟩ := e
    obtain ⟨h1, h2⟩ := h
    rcases h1 with ⟨rfl, rfl, _⟩ | ⟨hm1, hmin, hmax, ho1, _⟩
    · -- a literal: kept when `k = 0`, dropped otherwise
      rw [litBytes_cons, if_pos rfl] at hk
      cases k with
      | zero =>
        obtain ⟨π', i1, i2, i3⟩ := ih 0 _ _ h2 (Nat.zero_le _)
        exact ⟨(1, 0) :: π', by simp only [pathLen_cons]; omega, by simp only [pathCost_cons]; omega,
          Or.inl ⟨rfl, rfl⟩, i3⟩
      | succ k =>
        obtain ⟨π', i1, i2, i3⟩ := ih k _ _ h2 (by omega)
        exact ⟨π', by omega, by simp only [pathCost_cons, xzCost_one_zero]; omega, i3⟩
    · -- a match: offset 1 is no dearer
      rw [litBytes_cons, if_neg (by omega), Nat.zero_add] at hk
      obtain ⟨π', i1, i2, i3⟩ := ih k _ _ h2 hk
      have hc := xzCost_mono_offset m (Nat.le_refl 1) ho1
      exact ⟨(m, 1) :: π', by simp only [pathLen_cons]; omega, by simp only [pathCost_cons]; omega,
        Or.inr ⟨rfl, hm1, hmin, hmax⟩, i3⟩

end Run

/-- an offset-1 match costs at most 14 bits, whatever its length -/
theorem xzCost_off1_le (m : Nat) : xzCost m 1 ≤ 14 := by
  simp only [xzCost]
  rw [if_neg (by omega)]
  simp only [Nat.sub_self]
  rw [if_pos (by omega)]
  split
  · omega
  · split <;> omega

/-- Exchange lemma.  In a block that lies inside a run of one byte (`n ≥ 1` bytes `b` at
    `p[w .. w+n)`), with `2 ≤ minM ≤ maxM` and `1 ≤ ws`: every LZ77 parse with more than `minM`
    literal bytes has a strictly cheaper LZ77 parse (keep the first step, emit one offset-1 match
    of length `minM` in place of `minM` of the later literals, give every later match offset 1). -/
theorem run_improve {p : List Byte} {w n : Nat} {b : Byte} (ws minM maxM : Nat)
    (hlen : p.length = w + n) (hrun : ∀ t, t < n → p[w + t]? = some b)
    (hws : 1 ≤ ws) (hmm : 2 ≤ minM) (hmx : minM ≤ maxM)
    (π : List Edge) (hπ : LzParse p w ws minM maxM n π) (hl : minM < litBytes π) :
    ∃ π', LzParse p w ws minM maxM n π' ∧ pathCost π' < pathCost π := by
  cases π with
  | nil => simp at hl
  | cons e rest =>
    obtain ⟨m0, o0⟩ := e
    obtain ⟨h1, h2⟩ := hπ
    have ⟨hm0, hl0⟩ : 1 ≤ m0 ∧ (if o0 = 0 then m0 else 0) ≤ 1 := by
      rcases h1 with ⟨rfl, rfl, _⟩ | ⟨hm1, _, _, ho1, _⟩
      · exact ⟨Nat.le_refl _, Nat.le_refl _⟩
      · exact ⟨hm1, by rw [if_neg (by omega)]; omega⟩
    rw [litBytes_cons] at hl
    have hk : minM ≤ litBytes rest := by omega
    obtain ⟨σ, s1, s2, s3⟩ := exists_squeezed p w ws minM maxM n rest minM _ _ h2 hk
    refine ⟨(m0, o0) :: (minM, 1) :: σ, ⟨h1, ?_⟩, ?_⟩
    · simp only [Nat.zero_add]
      apply run_lz ws minM maxM hlen hrun hws _ m0 n hm0 _ (Nat.le_refl _)
      · exact ⟨Or.inr ⟨rfl, by omega, Nat.le_refl _, hmx⟩, s3⟩
      · simp only [pathLen_cons]; omega
    · have hc := xzCost_off1_le minM
      simp only [pathCost_cons]
      omega

theorem run_optimal_lits {p : List Byte} {w n : Nat} {b : Byte} (ws minM maxM : Nat)
    (hlen : p.length = w + n) (hrun : ∀ t, t < n → p[w + t]? = some b)
    (hws : 1 ≤ ws) (hmm : 2 ≤ minM) (hmx : minM ≤ maxM)
    (π : List Edge) (hπ : LzParse p w ws minM maxM n π)
    (hopt : ∀ π', LzParse p w ws minM maxM n π' → pathCost π ≤ pathCost π') :
    litBytes π ≤ minM := by
  apply Decidable.byContradiction
  intro hgt
  obtain ⟨π', a, c⟩ := run_improve ws minM maxM hlen hrun hws hmm hmx π hπ (by omega)
  have := hopt π' a
  omega

end LZ.Sap
