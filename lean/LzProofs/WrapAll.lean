/-
  LzProofs.WrapAll — C08 (Wrap) for ALL seven parser kinds (HP, BHP, DHP, BDHP, BUP, GSAP, OSAP).

  `parseSpec_all : ParseSpec I_all`, where `I_all` is `Parser.GreedyWF` with the clause
  "the dictionary is not OSAP's" replaced by "if the dictionary is OSAP's edge table, it
  satisfies `OsapOK`" (the history invariant of the OSAP table, ParseHist.lean).  The
  soundness of `computeEdges` is not a hypothesis: `computeEdgesSound_holds` (GlueProps).
  The theorems of LzProofs/WrapProps.lean are then instantiated with `parseSpec_all`; the
  history-level statements are in LzProofs/WrapAllHist.lean.
-/
import LzProofs.WrapProps
import LzProofs.GlueProps
namespace LZ

/-! ## The parser invariant for all kinds -/

/-- The parser invariant of the Wrap theorems for all seven kinds: `1 ≤ minMatch`,
    `1 ≤ BlockSize`, and — only if the search structure is OSAP's edge table `o` — `OsapOK`:
    the table starts at or before `W` and was computed by `computeEdges` for a prefix of the
    present buffer (or is empty).  Nothing is assumed about hash tables, buckets or GSAP's
    suffix array. -/
def I_all (s : Parser) : Prop :=
  1 ≤ s.minMatch ∧ 1 ≤ s.buf.cfg.blockSize ∧
  ∀ o, s.dict = .osap o →
    OsapOK s.buf.data s.buf.w s.buf.cfg.windowSize s.cfg.maxMatchLen.toNat o

theorem I_all_of_greedyWF {s : Parser} (h : s.GreedyWF) : I_all s :=
  ⟨h.1, h.2.1, fun o ho => absurd ho (h.2.2 o)⟩

theorem I_all.greedyWF {s : Parser} (h : I_all s) (hd : ∀ o, s.dict ≠ .osap o) : s.GreedyWF :=
  ⟨h.1, h.2.1, hd⟩

theorem Parser.parse_osap_all (s : Parser) (flags : Nat) (o : OsapD) (hd : s.dict = .osap o)
    (hI : I_all s) (hw : s.buf.w ≤ s.buf.data.length) (hn : s.blockN ≠ 0) :
    ∃ s' n blk, s.parse flags = (s', n, .ok, blk) ∧ Parser.ParseOK s flags s.seqGoodO s' n blk ∧
      s'.dict = .osap (s.osapEdges o) ∧
      OsapOK s.buf.data s.buf.w s.buf.cfg.windowSize s.cfg.maxMatchLen.toNat (s.osapEdges o) := by
  obtain ⟨hmm, hbs, hO⟩ := hI
  obtain ⟨hE', hO'⟩ := OsapOK.next s o hw (computeEdgesSound_holds _ _ _) (hO o hd)
  obtain ⟨s', n, blk, hp, hok, hd'⟩ := Parser.parse_osap_ok_block s flags o hd hw hn hmm hE'
  exact ⟨s', n, blk, hp, hok, hd', hO'⟩

/-- one `Parse(&blk, flags)` with unparsed data on a state satisfying `StateOK` and `I_all`, whatever
    the kind: `nil` and a `ParseOK` result for some per-sequence guarantee `Q` -/
theorem Parser.parse_ok_any (s : Parser) (flags : Nat) (hs : StateOK s) (hI : I_all s)
    (hlt : s.buf.w < s.buf.data.length) :
    ∃ s' n blk Q, s.parse flags = (s', n, .ok, blk) ∧ Parser.ParseOK s flags Q s' n blk := by
  have hn : s.blockN ≠ 0 := by
    rw [ne_eq, Parser.blockN_eq_zero_iff s hs.w_le hs.blockSize]; omega
  cases hd : s.dict with
  | osap o =>
    obtain ⟨s', n, blk, hp, hok, -, -⟩ := Parser.parse_osap_all s flags o hd hI hs.w_le hn
    exact ⟨s', n, blk, _, hp, hok⟩
  | single _ | double _ | bucket _ | gsap _ =>
    have hnot : ∀ o, s.dict ≠ .osap o := by intro o ho; rw [hd] at ho; simp at ho
    obtain ⟨s', n, blk, hp, hok, -⟩ :=
      Parser.parse_greedy_ok s flags hs.w_le hn hs.minMatch (Parser.marginOK_of_cap s hs.cap hn) hnot
    exact ⟨s', n, blk, _, hp, hok⟩

/-- the invariant survives every step of the parser, whatever the kind: for OSAP the edge table stays
    one computed for a prefix of the buffer (or is emptied), the other kinds keep `GreedyWF` -/
theorem I_all.step {s s' : Parser} (hs : Parser.Step s s') (hI : I_all s) : I_all s' := by
  cases hd : s.dict with
  | osap o =>
    have hO := hI.2.2 o hd
    obtain ⟨hk, hc⟩ := hs.kind_cfg
    refine ⟨by rw [minMatch_eq, hk, hc, ← minMatch_eq]; exact hI.1, by rw [hs.bufCfg]; exact hI.2.1,
      fun o' ho' => ?_⟩
    cases hs.sa (.inr ⟨o, hd⟩) with
    | grow _ e _ hc hb hw hp =>
      obtain ⟨x, hx⟩ := hp
      obtain rfl : o = o' := Dict.osap.inj (hd.symm.trans (e.symm.trans ho'))
      rw [← hx, hw, hb, hc]; exact hO.append x
    | skip _ =>
      obtain rfl : o = o' := Dict.osap.inj (hd.symm.trans ho')
      exact hO.mono_w _ (Nat.le_add_right _ _)
    | clear _ e _ _ _ =>
      rw [e, Parser.clearDict, hd] at ho'
      obtain rfl := Dict.osap.inj ho'
      exact OsapOK.empty _ _ _ _
    | parse flags hn =>
      have hw : s.buf.w ≤ s.buf.data.length := by unfold Parser.blockN at hn; omega
      obtain ⟨s', n, blk, hp, hok, hd', hO'⟩ := Parser.parse_osap_all s flags o hd hI hw hn
      rw [hp] at ho' ⊢
      obtain rfl := Dict.osap.inj (hd'.symm.trans ho')
      show OsapOK s'.buf.data s'.buf.w s'.buf.cfg.windowSize s'.cfg.maxMatchLen.toNat _
      rw [hok.buf, hok.cfg]
      exact hO'.mono_w _ (Nat.le_add_right _ _)
  | single _ | double _ | bucket _ | gsap _ =>
    exact I_all_of_greedyWF
      ((hI.greedyWF (by intro o ho; rw [hd] at ho; cases ho)).step hs)

theorem I_all.parse {s : Parser} (flags : Nat) (hI : I_all s) : I_all (s.parse flags).1 :=
  hI.step (.of_parse s flags)

theorem I_all.shrink {s : Parser} (hI : I_all s) : I_all s.shrink.1 := hI.step (.of_shrink s)

theorem I_all.readFrom {s : Parser} (hI : I_all s) (r : Reader) : I_all (s.readFrom r).1 :=
  hI.step (.of_readFrom s r)

theorem I_all.reset {s : Parser} (hI : I_all s) (data : List Byte) (capExtra : Nat) :
    I_all (s.reset data capExtra).1 :=
  hI.step (.of_reset s data capExtra)

theorem parseSpec_all : ParseSpec I_all where
  progress := fun s flags hI hb hlt => by
    obtain ⟨s', n, blk, Q, hp, hok⟩ :=
      Parser.parse_ok_any s flags ⟨hb.1, hI.1, hI.2.1, hb.2.2⟩ hI hlt
    rw [hp]
    have h1 := hok.n_pos
    have h2 := hok.w_le hb.1
    simp only [hok.buf]
    omega
  inv_parse := fun _ flags hI _ => hI.parse flags
  inv_shrink := fun _ hI _ => hI.shrink
  inv_readFrom := fun _ r hI _ => hI.readFrom r

theorem I_all_of_inv {k : Kind} {c : Cfg} {bc : BufCfg} {sg : Parser × Ghost} (hmm : 1 ≤ mmOf k c)
    (hbs : 1 ≤ bc.blockSize) (h : Inv k c bc sg) : I_all sg.1 := by
  refine ⟨by rw [minMatch_eq, h.kind, h.cfg]; exact hmm, by rw [h.bcfg]; exact hbs, ?_⟩
  exact fun o ho => (h.dict.osap ho).2

/-- every parser made by `NewParser` satisfies `I_all` (all kinds) -/
theorem newParser_I_all (k : Kind) (raw : Cfg) (s0 : Parser) (h0 : newParser k raw = some s0) :
    I_all s0 := by
  obtain ⟨hi, hmm, hbs⟩ := newParser_inv k raw s0 h0
  exact I_all_of_inv hmm hbs hi

/-! ## The Wrap theorems for all kinds -/

/-- C08, one call (all kinds): see `C08_wrap_step`. -/
theorem C08_wrap_step_all (wp : Wrapped) (flags : Nat) (fed : List Byte)
    (h : WInv I_all wp fed) : WrapPost I_all wp fed (wp.parse flags) :=
  C08_wrap_step parseSpec_all wp flags fed h

/-- `WrappedParser.Parse` never panics and never returns `ErrFullBuffer`/`ErrEmptyBuffer`
    (all kinds). -/
theorem C08_wrap_no_panic_all (wp : Wrapped) (flags : Nat) (fed : List Byte)
    (h : WInv I_all wp fed) :
    (wp.parse flags).2.2.1 ≠ .panic ∧ (wp.parse flags).2.2.1 ≠ .full ∧
    (wp.parse flags).2.2.1 ≠ .empty :=
  C08_wrap_no_panic parseSpec_all wp flags fed h

/-- an error is returned only with `n = 0`, nothing unparsed in the buffer, and it is the
    reader's own report; the invariant survives (all kinds). -/
theorem C08_wrap_error_all (wp : Wrapped) (flags : Nat) (fed : List Byte)
    (h : WInv I_all wp fed) (he : (wp.parse flags).2.2.1 ≠ .ok) :
    (wp.parse flags).2.1 = 0 ∧
    (wp.parse flags).1.s.buf.w = (wp.parse flags).1.s.buf.data.length ∧
    ReaderSaid wp.r (wp.parse flags).1.r (wp.parse flags).2.2.1 ∧
    ∃ q, WInv I_all (wp.parse flags).1 (fed ++ q) ∧
      wp.r.payload = q ++ (wp.parse flags).1.r.payload ∧
      (wp.parse flags).1.pos = (fed ++ q).length :=
  C08_wrap_error parseSpec_all wp flags fed h he

theorem C08_wrap_tail_all (wp : Wrapped) (flags : Nat) (fed : List Byte)
    (h : WInv I_all wp fed) (hd : ReaderDone wp.r) :
    WInv I_all (wp.parse flags).1 fed ∧ ReaderDone (wp.parse flags).1.r ∧
    (wp.parse flags).1.pos = wp.pos + (wp.parse flags).2.1 ∧
    (((wp.parse flags).2.2.1 = .ok ∧ 1 ≤ (wp.parse flags).2.1) ∨
     ((wp.parse flags).2.1 = 0 ∧ (wp.parse flags).2.2.1 = .eof ∧ Drained (wp.parse flags).1 ∧
      (wp.parse flags).1.pos = fed.length)) :=
  C08_wrap_tail parseSpec_all wp flags fed h hd

theorem C08_wrap_eof_all (wp : Wrapped) (flags : Nat) (fed : List Byte)
    (h : WInv I_all wp fed) (hd : Drained wp) :
    (wp.parse flags).2.1 = 0 ∧ (wp.parse flags).2.2.1 = .eof ∧
    WInv I_all (wp.parse flags).1 fed ∧ Drained (wp.parse flags).1 :=
  C08_wrap_eof parseSpec_all wp flags fed h hd

theorem C08_wrap_eof_forever_all (flags : Nat) (fed : List Byte) (k : Nat) (wp : Wrapped)
    (h : WInv I_all wp fed) (hd : Drained wp) :
    ((Wrapped.iter flags k wp).parse flags).2.1 = 0 ∧
    ((Wrapped.iter flags k wp).parse flags).2.2.1 = .eof :=
  C08_wrap_eof_forever parseSpec_all flags fed k wp h hd

theorem C08_wrap_calls_all (flags : Nat) (k : Nat) (wp : Wrapped) (fed : List Byte)
    (h : WInv I_all wp fed) :
    ∃ q, WInv I_all (Wrapped.iter flags k wp) (fed ++ q) ∧
      wp.r.payload = q ++ (Wrapped.iter flags k wp).r.payload ∧
      (Wrapped.iter flags k wp).pos = wp.pos + ((Wrapped.calls flags k wp).map (·.1)).sum ∧
      ∀ c ∈ Wrapped.calls flags k wp,
        (c.2 = .ok ∧ 1 ≤ c.1) ∨
        (c.1 = 0 ∧ c.2 ≠ .ok ∧ c.2 ≠ .panic ∧ c.2 ≠ .full ∧ c.2 ≠ .empty) :=
  C08_wrap_calls parseSpec_all flags k wp fed h

theorem C08_wrap_chunking_all (wa wb : Wrapped) (flags : Nat) (fa fb : List Byte)
    (ha : WInv I_all wa fa) (hb : WInv I_all wb fb) (hs : WSim wa wb) :
    (wa.parse flags).2 = (wb.parse flags).2 ∧ WSim (wa.parse flags).1 (wb.parse flags).1 :=
  C08_wrap_chunking parseSpec_all wa wb flags fa fb ha hb hs

theorem C08_wrap_chunking_calls_all (flags : Nat) (k : Nat) (wa wb : Wrapped) (fa fb : List Byte)
    (ha : WInv I_all wa fa) (hb : WInv I_all wb fb) (hs : WSim wa wb) :
    Wrapped.calls flags k wa = Wrapped.calls flags k wb :=
  C08_wrap_chunking_calls parseSpec_all flags k wa wb fa fb ha hb hs

end LZ

#print axioms LZ.parseSpec_all
#print axioms LZ.newParser_I_all
#print axioms LZ.C08_wrap_step_all
#print axioms LZ.C08_wrap_no_panic_all
#print axioms LZ.C08_wrap_error_all
#print axioms LZ.I_all.step
#print axioms LZ.C08_wrap_tail_all
#print axioms LZ.C08_wrap_eof_all
#print axioms LZ.C08_wrap_eof_forever_all
#print axioms LZ.C08_wrap_calls_all
#print axioms LZ.C08_wrap_chunking_all
#print axioms LZ.C08_wrap_chunking_calls_all
