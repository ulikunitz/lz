/-
  `gcall%` / `gproj%`: apply a generated (loop) function and project its result BY GO VARIABLE NAME.  The order of
  the parameters of a generated loop function is the order of FIRST USE of the captured variables in the loop body,
  the order of the state tuple is declaration / first-assignment order: a behaviour-preserving rewrite
  that reorders independent statements, hoists a local or stops shadowing a variable changes them.  Lemmas that are
  stated through `gcall% f [x := e, …]` do not depend on that order.  Names that `f` does not have are ignored,
  arguments that are not given are `_`.  Pure notation: the elaborated term is an ordinary application / projection
  checked by the kernel.  No theorem in this file.
-/
import Lean

namespace LZ.GenDec

section GenCall
open Lean Elab Term Meta

/-- argument names of the generated function `f` (Go variable names), and the position of the fuel argument of a
    loop function (`none` for a function that is not defined by `match` on the fuel) -/
def genArgNames (f : Name) : MetaM (Array Name × Option Nat) := do
  let some u ← getUnfoldEqnFor? f (nonRec := true) | throwError "gcall%: no defining equation for {f}"
  let info ← getConstInfo u
  forallTelescope info.type fun xs body => do
    let some (_, _, rhs) := body.eq? | throwError "gcall%: unexpected defining equation {u}"
    let hdr ← xs.mapM fun x => return (← x.fvarId!.getUserName).eraseMacroScopes
    match ← matchMatcherApp? rhs with
    | some app =>
      let rec names (e : Expr) (acc : Array Name) : Array Name := match e with
        | .lam n _ b _ => names b (acc.push n.eraseMacroScopes)
        | _ => acc
      let alt := names app.alts.back! #[]
      if alt.size > hdr.size then throwError "gcall%: unexpected defining equation {u}"
      return (hdr.extract 0 (hdr.size - alt.size) ++ alt, some (hdr.size - alt.size))
    | none => return (hdr, none)

declare_syntax_cat garg
syntax ident " := " term : garg

/-- `gcall% f [x := e, …]`: `f` applied to the given arguments, matched by name -/
elab "gcall% " f:ident " [" as:garg,* "]" : term => do
  let fn ← realizeGlobalConstNoOverloadWithInfo f
  let (names, _) ← genArgNames fn
  let mut given : Array (Name × Term) := #[]
  for a in as.getElems do
    match a with
    | `(garg| $x:ident := $t:term) => given := given.push (x.getId, t)
    | _ => throwUnsupportedSyntax
  let mut args : Array Term := #[]
  for n in names do
    match given.find? (·.1 == n) with
    | some (_, t) => args := args.push t
    | none => args := args.push (← `(_))
  elabTerm (← `(@$(mkIdent fn) $args*)) none

/-- `gproj% f x r`: the component of the result `r = (exit, state…)` of the loop function `f` for the state variable `x` -/
elab "gproj% " f:ident x:ident r:term:max : term => do
  let fn ← realizeGlobalConstNoOverloadWithInfo f
  let (names, some i) ← genArgNames fn | throwError "gproj%: {f.getId} is not a loop function"
  let state := names.extract (i + 1) names.size
  let some j := state.findIdx? (· == x.getId)
    | throwError "gproj%: {fn} has no state variable {x.getId}; its state is {state}"
  let mut t : Term := r
  for _ in [0:j+1] do t ← `($t.2)
  if j + 1 < state.size then t ← `($t.1)
  elabTerm t none

/-- `ghead% f [x := e, …]`: the loop function `f` applied to its HEADER parameters only (the captured variables, matched
    by name; their order is the order of first use in the loop body); the fuel and the loop state — whose order is the
    declaration order of the state variables — remain to be applied positionally -/
elab "ghead% " f:ident " [" as:garg,* "]" : term => do
  let fn ← realizeGlobalConstNoOverloadWithInfo f
  let (names, some k) ← genArgNames fn | throwError "ghead%: {f.getId} is not a loop function"
  let mut given : Array (Name × Term) := #[]
  for a in as.getElems do
    match a with
    | `(garg| $x:ident := $t:term) => given := given.push (x.getId, t)
    | _ => throwUnsupportedSyntax
  let mut args : Array Term := #[]
  for n in names.extract 0 k do
    match given.find? (·.1 == n) with
    | some (_, t) => args := args.push t
    | none => args := args.push (← `(_))
  elabTerm (← `(@$(mkIdent fn) $args*)) none

/-- `gstate% f [x := e, …]`: the state tuple of the loop function `f` (what `f` returns in `Res.ok`, for a loop without
    exit code) built from the given values BY NAME of the state variables, in the order `f` has them -/
elab "gstate% " f:ident " [" as:garg,* "]" : term => do
  let fn ← realizeGlobalConstNoOverloadWithInfo f
  let (names, some i) ← genArgNames fn | throwError "gstate%: {f.getId} is not a loop function"
  let state := names.extract (i + 1) names.size
  let mut given : Array (Name × Term) := #[]
  for a in as.getElems do
    match a with
    | `(garg| $x:ident := $t:term) => given := given.push (x.getId, t)
    | _ => throwUnsupportedSyntax
  let mut ts : Array Term := #[]
  for n in state do
    match given.find? (·.1 == n) with
    | some (_, t) => ts := ts.push t
    | none => throwError "gstate%: no value for the state variable {n} of {fn}; its state is {state}"
  if ts.isEmpty then throwError "gstate%: {fn} has no state"
  let mut t : Term := ts.back!
  for k in [0:ts.size - 1] do
    t ← `(($(ts[ts.size - 2 - k]!), $t))
  elabTerm t none

end GenCall

end LZ.GenDec
