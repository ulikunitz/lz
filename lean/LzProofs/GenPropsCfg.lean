/- Umbrella of the configuration topics of GenProps. -/
import LzProofs.GenPropsCfgBuf
import LzProofs.GenPropsCfgHash
import LzProofs.GenPropsCfgBucket
import LzProofs.GenPropsCfgAll
