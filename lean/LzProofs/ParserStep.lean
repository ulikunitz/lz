/-
  What one operation of the parser interface (Write, ReadFrom, Parse, Parse(nil), Shrink, Reset) does to
  a `Parser`, as a relation `Parser.Step` between states that does not mention how the operation is
  spelled.  The step functions of the development (`Parser.stepOut`, `stepP`, `step`, `Sap.POp.apply`)
  are tied to it by one lemma each; an invariant proved to survive a `Step` holds for all of them.
-/
import LzProofs.ParserFacts
import LzProofs.ParseBuf
namespace LZ
namespace Parser
open PBuf

/-! ## `Reset` and `Shrink` through the buffer (their equations: LzProofs/ParseParser.lean) -/

/-- a state whose buffer is `PBuf.reset`'s and whose dictionary is cleared exactly on success IS `Parser.reset`'s -/
theorem reset_lift {P P' : Parser} {data : List Byte} {ce : Nat} {ok : Prop}
    (hok : ok ↔ (P.buf.reset data ce).2 = .ok)
    (hk : P'.kind = P.kind) (hc : P'.cfg = P.cfg) (hb : P'.buf = (P.buf.reset data ce).1)
    (h1 : ok → P'.dict = P.clearDict) (h0 : ¬ ok → P'.dict = P.dict) :
    P' = (P.reset data ce).1 ∧ (P.reset data ce).2 = (P.buf.reset data ce).2 := by
  obtain ⟨k', c', b', d'⟩ := P'
  simp only at hk hc hb h1 h0
  subst hk hc hb
  by_cases hr : (P.buf.reset data ce).2 = .ok
  · rw [Parser.reset_ok hr, h1 (hok.mpr hr)]; exact ⟨rfl, hr.symm⟩
  · rw [Parser.reset_err hr, h0 fun h => hr (hok.mp h)]
    rcases PBuf.reset_frame P.buf data ce with ⟨h, -⟩ | ⟨-, h⟩
    · exact absurd h hr
    · rw [h]; exact ⟨rfl, rfl⟩

/-- a state whose buffer is `PBuf.shrink`'s and whose dictionary is shifted exactly when bytes were discarded IS
    `Parser.shrink`'s -/
theorem shrink_lift {P P' : Parser}
    (hk : P'.kind = P.kind) (hc : P'.cfg = P.cfg) (hb : P'.buf = P.buf.shrink.1)
    (h1 : P.buf.shrink.2 ≠ 0 → P'.dict = P.shiftDict P.buf.shrink.2) (h0 : P.buf.shrink.2 = 0 → P'.dict = P.dict) :
    P' = P.shrink.1 ∧ P.shrink.2 = P.buf.shrink.2 := by
  obtain ⟨k', c', b', d'⟩ := P'
  simp only at hk hc hb h1 h0
  subst hk hc hb
  by_cases hd : P.buf.shrink.2 = 0
  · rw [Parser.shrink_zero hd, h0 hd, PBuf.shrink_zero P.buf hd]; exact ⟨rfl, hd.symm⟩
  · rw [Parser.shrink_pos hd, h1 hd]; exact ⟨rfl, rfl⟩

/-! ## the step relation -/

/-- What one operation can do to a parser (kind and configuration never change):
    nothing (`Parse`/`Parse(nil)` on an empty buffer, a panicking `Parse`, `Shrink` by 0, a refused
    `Reset`); append bytes to the buffer (`Write`, `ReadFrom`); parse a block; skip a block; shrink;
    reset. -/
inductive Step (s : Parser) : Parser → Prop
  | idle : Step s s
  | fill (b' : PBuf) (q : List Byte) (a : s.buf.Appended b' q) : Step s { s with buf := b' }
  | parse (flags : Nat) (hn : s.blockN ≠ 0) (hok : (s.parse flags).2.2.1 = .ok) :
      Step s (s.parse flags).1
  | skip (hn : s.blockN ≠ 0) :
      Step s { s with buf := { s.buf with w := s.buf.w + s.blockN }, dict := s.skipDict }
  | shrink (hd : s.buf.shrink.2 ≠ 0) :
      Step s { s with buf := s.buf.shrink.1, dict := s.shiftDict s.buf.shrink.2 }
  | reset (data : List Byte) (ce : Nat) (he : (s.buf.reset data ce).2 = .ok) :
      Step s { s with buf := (s.buf.reset data ce).1, dict := s.clearDict }

theorem Step.of_write (s : Parser) (p : List Byte) : Step s (s.write p).1 :=
  .fill _ _ (write_appended s.buf p)

theorem Step.of_readFrom (s : Parser) (r : Reader) : Step s (s.readFrom r).1 :=
  .fill _ _ (readFrom_appended s.buf r)

theorem Step.of_parse (s : Parser) (flags : Nat) : Step s (s.parse flags).1 := by
  by_cases hn : s.blockN = 0
  · rw [parse_empty s flags hn]; exact .idle
  · rcases parse_eq_core s flags hn with ⟨h, -⟩ | h
    · rw [h]; exact .idle
    · exact .parse flags hn (by rw [h])

theorem Step.of_parseNil (s : Parser) : Step s s.parseNil.1 := by
  by_cases hn : s.blockN = 0
  · rw [parseNil_empty s hn]; exact .idle
  · rw [parseNil_pos hn]; exact .skip hn

theorem Step.of_shrink (s : Parser) : Step s s.shrink.1 := by
  by_cases hd : s.buf.shrink.2 = 0
  · rw [shrink_zero hd]; exact .idle
  · rw [shrink_pos hd]; exact .shrink hd

theorem Step.of_reset (s : Parser) (data : List Byte) (ce : Nat) : Step s (s.reset data ce).1 := by
  by_cases he : (s.buf.reset data ce).2 = .ok
  · rw [reset_ok he]; exact .reset data ce he
  · rw [reset_err he]; exact .idle

theorem Step.kind_cfg {s s' : Parser} (h : Step s s') : s'.kind = s.kind ∧ s'.cfg = s.cfg := by
  cases h with
  | parse flags hn _ => rcases parse_eq_core s flags hn with ⟨h, -⟩ | h <;> rw [h] <;> exact ⟨rfl, rfl⟩
  | _ => exact ⟨rfl, rfl⟩

theorem Step.bufCfg {s s' : Parser} (h : Step s s') : s'.buf.cfg = s.buf.cfg := by
  cases h with
  | idle => rfl
  | fill _ _ a => exact a.cfg
  | parse flags _ _ => rw [parse_frame]
  | skip _ => rfl
  | shrink _ => exact (shrink_dropped s.buf).cfg
  | reset data ce he =>
    rcases reset_frame s.buf data ce with ⟨-, -, -, -, h, -⟩ | ⟨h, -⟩
    · exact h
    · exact absurd he h

/-! ## the suffix-array parsers -/

/-- What a step does to a suffix-array parser (GSAP, OSAP), whose structure only `Parse` fills:
    the buffer grows (or nothing happens), a block is skipped, the structure is emptied, or a block
    is parsed. -/
inductive SAStep (s : Parser) : Parser → Prop
  | grow (s' : Parser) (hd : s'.dict = s.dict) (hk : s'.kind = s.kind) (hc : s'.cfg = s.cfg)
      (hb : s'.buf.cfg = s.buf.cfg) (hw : s'.buf.w = s.buf.w) (hp : s.buf.data <+: s'.buf.data) :
      SAStep s s'
  | skip (hn : s.blockN ≠ 0) : SAStep s { s with buf := { s.buf with w := s.buf.w + s.blockN } }
  | clear (s' : Parser) (hd : s'.dict = s.clearDict) (hk : s'.kind = s.kind) (hc : s'.cfg = s.cfg)
      (hb : s'.buf.cfg = s.buf.cfg) : SAStep s s'
  | parse (flags : Nat) (hn : s.blockN ≠ 0) : SAStep s (s.parse flags).1

theorem Step.sa {s s' : Parser} (h : Step s s')
    (hsa : (∃ g, s.dict = .gsap g) ∨ ∃ o, s.dict = .osap o) : SAStep s s' := by
  cases h with
  | idle => exact .grow s rfl rfl rfl rfl rfl (List.prefix_refl _)
  | fill _ _ a => exact .grow _ rfl rfl rfl a.cfg a.w (a.data ▸ List.prefix_append _ _)
  | parse flags hn _ => exact .parse flags hn
  | skip hn =>
    have e : s.skipDict = s.dict := by
      rcases hsa with ⟨g, hd⟩ | ⟨o, hd⟩ <;> simp only [skipDict, hd]
    rw [e]; exact .skip hn
  | shrink hd =>
    refine .clear _ ?_ rfl rfl (Step.shrink hd).bufCfg
    rcases hsa with ⟨g, hd⟩ | ⟨o, hd⟩ <;> simp only [shiftDict, clearDict, hd]
  | reset data ce he => exact .clear _ rfl rfl rfl (Step.reset data ce he).bufCfg

end Parser
end LZ
#print axioms LZ.Parser.Step.sa
#print axioms LZ.Parser.Step.of_parse
