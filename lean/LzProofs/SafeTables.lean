/-
  LzProofs.SafeTables — property C16, index safety at history level: in every state reachable from
  `NewParser` the hash tables have exactly the sizes the index computations assume
  (`TablesOK`), so together with `hashValue_lt` (LzProofs/SafeProps.lean) no table access of
  hash.go / bucket_hash.go is out of range.

  The model itself cannot "panic" on a table index (it uses `getD` / `setIfInBounds`, which ignore
  an index out of range); this file shows that the out-of-range case never occurs:

    single table (HP, BHP)        tbl.size = 2^hashBits
    two tables (DHP, BDHP)        the same for both
    bucket table (BUP)            buckets.size = 2^hashBits * bucketSize, indexes.size = 2^hashBits,
                                  1 ≤ bucketSize and every ring index `indexes[h] < bucketSize`
-/
import LzProofs.SafeProps
namespace LZ

/-! ## two tables -/

def Hash2.SizeOK (d : Hash2) : Prop := d.h1.SizeOK ∧ d.h2.SizeOK

theorem sizeOK_processSegment2 {h1 h2 : HashT} (hs1 : h1.SizeOK) (hs2 : h2.SizeOK) (data : List Byte)
    (a b : Int) :
    (processSegment2 h1 h2 data a b).1.SizeOK ∧ (processSegment2 h1 h2 data a b).2.SizeOK :=
  processSegment2_kept HashT.sizeOK_kept HashT.sizeOK_kept hs1 hs2 data a b

/-! ## bucket table -/

/-- sizes of the bucket table and range of the ring indexes -/
def BucketT.OK (b : BucketT) : Prop :=
  b.buckets.size = 2 ^ b.hashBits * b.bucketSize ∧ b.indexes.size = 2 ^ b.hashBits ∧
  1 ≤ b.bucketSize ∧ ∀ h, b.indexes.getD h 0 < b.bucketSize

namespace BucketT

/-- `OK` is the shape of LzProofs/ResetLemmas.lean plus the range of the ring indexes -/
theorem ok_iff_shape {il hb bs : Nat} {b : BucketT} (hs : b.Shape il hb bs) :
    b.OK ↔ 1 ≤ bs ∧ ∀ h, b.indexes.getD h 0 < bs := by
  obtain ⟨a1, a2, _, a4, a5⟩ := hs
  unfold OK
  rw [a4, a5]
  exact ⟨fun h => h.2.2, fun h => ⟨a1, a2, h⟩⟩

theorem OK.shape {b : BucketT} (hb : b.OK) : b.Shape b.inputLen b.hashBits b.bucketSize :=
  ⟨hb.1, hb.2.1, rfl, rfl, rfl⟩

theorem getD_replicate_zero (n h : Nat) : (Array.replicate n 0).getD h 0 = 0 := by
  rw [Array.getD_eq_getD_getElem?]
  by_cases hh : h < n
  · simp [hh]
  · simp [hh]

theorem ok_new (il hb bs : Nat) (h1 : 1 ≤ bs) : (BucketT.new il hb bs).OK :=
  (ok_iff_shape (shape_new il hb bs)).2 ⟨h1, fun h => by
    show (Array.replicate (2 ^ hb) 0).getD h 0 < bs
    rw [getD_replicate_zero]; exact h1⟩

theorem ok_clear {b : BucketT} (hb : b.OK) : b.clear.OK :=
  (ok_iff_shape hb.shape.clear).2 ⟨hb.2.2.1, fun h => by
    show (Array.replicate b.indexes.size 0).getD h 0 < b.bucketSize
    rw [getD_replicate_zero]; exact hb.2.2.1⟩

/-- the ring index of the bucket written to advances modulo `bucketSize` -/
theorem ok_insert {b : BucketT} (hb : b.OK) (p : List Byte) (i : Nat) : (b.insert p i).OK := by
  refine (ok_iff_shape (hb.shape.insert p i)).2 ⟨hb.2.2.1, fun j => ?_⟩
  show (b.indexes.setIfInBounds _ _).getD j 0 < b.bucketSize
  rw [Array.getD_eq_getD_getElem?, Array.getElem?_setIfInBounds]
  have h3 := hb.2.2.1
  have h4j := hb.2.2.2 j
  rw [Array.getD_eq_getD_getElem?] at h4j
  split
  · split
    · simp only [Option.getD_some]
      split <;> omega
    · simp only [Option.getD_none]; omega
  · exact h4j

theorem ok_shiftOffsets {b : BucketT} (hb : b.OK) (delta : Nat) : (b.shiftOffsets delta).OK := by
  have h3 := hb.2.2.1
  refine (ok_iff_shape (hb.shape.shiftOffsets delta)).2 ⟨h3, fun j => ?_⟩
  unfold BucketT.shiftOffsets
  split
  · exact hb.2.2.2 j
  · show (List.map _ _).toArray.getD j 0 < b.bucketSize
    rw [Array.getD_eq_getD_getElem?]
    simp only [List.getElem?_toArray, List.getElem?_map]
    cases (List.range b.indexes.size)[j]? with
    | none => exact h3
    | some h =>
      -- the new ring index of a bucket is the number of entries kept, or 0 if the bucket stays full
      simp only [Option.map_some, Option.getD_some, shiftBucket]
      split <;> omega

theorem ok_kept : Kept OK :=
  ⟨fun p i hb => ok_insert hb p i, fun delta hb => ok_shiftOffsets hb delta, ok_clear⟩

end BucketT

theorem ok_processSegmentB {b : BucketT} (hb : b.OK) (data : List Byte) (a e : Int) :
    (processSegmentB b data a e).OK := processSegmentB_kept BucketT.ok_kept hb data a e

/-! ## the invariant of the dictionary -/

def TablesOK : Dict → Prop
  | .single h => h.SizeOK
  | .double d => d.SizeOK
  | .bucket b => b.OK
  | .gsap _ => True
  | .osap _ => True

theorem tablesOK_iff (d : Dict) :
    TablesOK d ↔ d.Tables HashT.SizeOK HashT.SizeOK HashT.SizeOK BucketT.OK True True := by
  cases d <;> rfl

theorem TablesOK.step {s s' : Parser} (hs : Parser.Step s s') (h : TablesOK s.dict) :
    TablesOK s'.dict := by
  rw [tablesOK_iff] at *
  exact (hs.keeps HashT.sizeOK_kept HashT.sizeOK_kept HashT.sizeOK_kept BucketT.ok_kept).2.2 h

theorem newParser_tablesOK {k : Kind} {raw : Cfg} {s0 : Parser} (h0 : newParser k raw = some s0) :
    TablesOK s0.dict := by
  obtain ⟨hv, hs⟩ := newParser_eq_some h0
  rw [hs]
  cases k <;> simp only [freshDict, TablesOK]
  · exact HashT.sizeOK_new _ _
  · exact HashT.sizeOK_new _ _
  · exact ⟨HashT.sizeOK_new _ _, HashT.sizeOK_new _ _⟩
  · exact ⟨HashT.sizeOK_new _ _, HashT.sizeOK_new _ _⟩
  · apply BucketT.ok_new
    have := (verify_bup.mp hv).2.2.1
    have hmin : (1 : Int) ≤ Facts.minBucketSize := by decide
    omega

/-- C16, table sizes in every reachable state.  After any history of operations on a parser
    created by `NewParser` (any kind, any accepted configuration) the search tables have the sizes
    fixed at creation: `2^hashBits` entries per hash table; `2^hashBits * bucketSize` bucket slots,
    `2^hashBits` ring indexes, each `< bucketSize`. -/
theorem C16_tables_reachable (k : Kind) (raw : Cfg) (s0 : Parser) (h0 : newParser k raw = some s0)
    (ops : List POp) : TablesOK (runOps (s0, Ghost.init) ops).1.dict :=
  (reachable_runOps s0 ops).of_step (I := fun s => TablesOK s.dict) TablesOK.step
    (newParser_tablesOK h0)

/-- C16, every table access is in range for tables satisfying `TablesOK`:
    `tbl[hashValue x hashBits]`; `indexes[h]`, `buckets[h*bucketSize + i]` for `i < bucketSize` and
    for the ring index `i = indexes[h]`, where `h = hashValue x hashBits`. -/
theorem C16_table_access :
    (∀ (t : HashT) (x : UInt64), t.SizeOK → hashValue x t.hashBits < t.tbl.size) ∧
    (∀ (b : BucketT) (x : UInt64), b.OK →
      hashValue x b.hashBits < b.indexes.size ∧
      (∀ i, i < b.bucketSize → hashValue x b.hashBits * b.bucketSize + i < b.buckets.size) ∧
      hashValue x b.hashBits * b.bucketSize + b.indexes.getD (hashValue x b.hashBits) 0
        < b.buckets.size) := by
  refine ⟨fun t x hs => (C16_index_safety.2.1 t x hs), ?_⟩
  intro b x ⟨h1, h2, h3, h4⟩
  refine ⟨by rw [h2]; exact hashValue_lt _ _, fun i hi => C16_index_safety.2.2.1 b x i h1 hi, ?_⟩
  exact C16_index_safety.2.2.1 b x _ h1 (h4 _)

/-! ## non-vacuity -/

example : ∃ s0, newParser .BUP { exCfg with bucketSize := 4 } = some s0 ∧
    TablesOK (runOps (s0, Ghost.init) [.write [1, 2, 3, 4, 5, 1, 2, 3, 4, 5], .parse 0, .shrink]).1.dict := by
  -- `(… :)`: elaborated against the goal, the term would make Lean normalise `TablesOK (runOps …)`,
  -- that is, run the three operations on the opaque `s0`
  exact newParser_exists (by decide) fun s0 hs => (C16_tables_reachable _ _ s0 hs _ :)

end LZ

#print axioms LZ.C16_tables_reachable
#print axioms LZ.C16_table_access
