/-
  LzProofs.ParseBuf — which fields `Reset` changes, in one conjunction (`reset_frame`).  What `grow`,
  `Write`, `ReadFrom` and `Shrink` do to the buffer is said by `grow_frame`, `write_appended`,
  `readFrom_appended`, `shrink_dropped` (LzProofs/PBufLemmas.lean).
-/
import LzProofs.PBufLemmas
namespace LZ
namespace PBuf

theorem reset_frame (b : PBuf) (data : List Byte) (capExtra : Nat) :
    ((b.reset data capExtra).2 = .ok ∧ (b.reset data capExtra).1.data = data ∧
      (b.reset data capExtra).1.w = 0 ∧ (b.reset data capExtra).1.off = 0 ∧
      (b.reset data capExtra).1.cfg = b.cfg ∧ CapOK (b.reset data capExtra).1) ∨
    ((b.reset data capExtra).2 ≠ .ok ∧ (b.reset data capExtra).1 = b) := by
  by_cases h : b.cfg.bufferSize < data.length
  · rw [reset_oversize b data capExtra h]
    exact Or.inr ⟨by simp, rfl⟩
  · obtain ⟨c, hc, hm⟩ := reset_spec b data capExtra (by omega)
    rw [hc]
    exact Or.inl ⟨rfl, rfl, rfl, rfl, rfl, hm⟩

end PBuf
end LZ
