/-
  The translated code of suffix/lcp.go
  (LzModel/Generated/CodeSuffixLcp.lean, regenerated from the Go source on every run) equals the
  hand-written model (LzModel/Suffix.lean: `invertSA`, `kasaiLoop`, `lcpKasai`).

  Abstraction: `absI32 : GSlice Int32 → Array Nat` (elements only, `Int32.toInt.toNat`); `Slice.data`
  for the text.  `matchLen` is an opaque parameter of the translation (code_part4.go); its
  specification `MatchLenSpec` is a hypothesis.
-/
import LzModel.Generated.CodeSuffixLcp
import LzModel.Suffix
import LzProofs.GenSuffixPropsBase
import LzProofs.Kasai
import LzProofs.SuffixProps

set_option linter.unusedSimpArgs false
set_option linter.unusedVariables false

namespace LZ.GenSuffix
open LZ LZ.Gen LZ.GenBuf LZ.GenHash

/-! ## the model's loops started on the caller's tables -/

/-- `InvertSA` started on the caller's table -/
def invertFrom (sa : Array Nat) (init : Array Nat) : Array Nat :=
  (List.range sa.size).foldl (fun inv j => inv.setIfInBounds (sa.getD j 0) j) init

theorem invertSA_eq_invertFrom (sa : Array Nat) : invertSA sa = invertFrom sa (Array.replicate sa.size 0) := rfl

/-- `_lcp` started on the caller's table -/
def lcpKasaiFrom (t : List Byte) (sa isa : Array Nat) (lcp0 : Array Nat) : Array Nat :=
  kasaiLoop t sa isa isa.size 0 0 lcp0

theorem lcpKasai_eq_from (t : List Byte) (sa isa : Array Nat) :
    lcpKasai t sa isa = lcpKasaiFrom t sa isa (Array.replicate t.length 0) := rfl

/-- the specification assumed for the opaque callee `matchLen` -/
def MatchLenSpec (matchLen : Slice → Slice → Int) : Prop :=
  ∀ p q : Slice, matchLen p q = ((lcpLen p.data q.data : Nat) : Int)

/-! ## InvertSA -/

/-- partial fold: positions `i, …, i+n-1` -/
def invertSteps (sa : Array Nat) : Nat → Nat → Array Nat → Array Nat
  | 0, _, inv => inv
  | n + 1, i, inv => invertSteps sa n (i + 1) (inv.setIfInBounds (sa.getD i 0) i)

theorem foldl_range' {β : Type} (f : β → Nat → β) (n i : Nat) (b : β) :
    (List.range' i n).foldl f b = (match n with | 0 => b | m + 1 => (List.range' (i+1) m).foldl f (f b i)) := by
  cases n <;> simp [List.range']

theorem invertSteps_eq (sa : Array Nat) (n i : Nat) (inv : Array Nat) :
    invertSteps sa n i inv = (List.range' i n).foldl (fun inv j => inv.setIfInBounds (sa.getD j 0) j) inv := by
  induction n generalizing i inv with
  | zero => simp [invertSteps]
  | succ n ih => simp [invertSteps, List.range', ih]

theorem invertFrom_eq_steps (sa init : Array Nat) : invertFrom sa init = invertSteps sa sa.size 0 init := by
  rw [invertSteps_eq, invertFrom, List.range_eq_range']

theorem invertSteps_size (sa : Array Nat) (n i : Nat) (inv : Array Nat) :
    (invertSteps sa n i inv).size = inv.size := by
  induction n generalizing i inv with
  | zero => rfl
  | succ n ih => simp [invertSteps, ih]

/-- all entries of `sa` are valid indices `< n` -/
def InRange (s : GSlice Int32) (n : Nat) : Prop :=
  ∀ i, i < s.len → 0 ≤ ((s.arr[i]?).getD 0).toInt ∧ ((s.arr[i]?).getD 0).toInt < n

/-- `s'` is `s` with some elements overwritten: well-formed, same length and capacity, and the
    capacity tail untouched -/
def Overwritten (s s' : GSlice Int32) : Prop :=
  GWF s' ∧ s'.len = s.len ∧ s'.arr.length = s.arr.length ∧ s'.arr.drop s.len = s.arr.drop s.len

theorem Overwritten.refl {s : GSlice Int32} (h : GWF s) : Overwritten s s := ⟨h, rfl, rfl, rfl⟩

theorem Overwritten.of_set {s s' : GSlice Int32} {p : Nat} {v : Int32} (hp : p < s.len)
    (h : Overwritten { s with arr := s.arr.set p v } s') : Overwritten s s' :=
  ⟨h.1, h.2.1, by simpa using h.2.2.1, h.2.2.2.trans (drop_set_lt _ _ _ _ hp)⟩

/-- entry `k` of the backing array is non-negative -/
def NNAt (x : GSlice Int32) (k : Nat) : Prop := 0 ≤ ((x.arr[k]?).getD 0).toInt

/-- `for j, i := range sa { sainv[i] = int32(j) }` from `j = i` on: `invertSteps` on the abstraction; the entries
    written are non-negative and stay so (the abstraction `absI32` does not see the sign) -/
theorem invert_loop_eq (sa : GSlice Int32) (hsa : GWF sa) (hlen : sa.len ≤ 2147483647) (N : Nat) (hr : InRange sa N) :
    ∀ (n i : Nat) (sainv : GSlice Int32), i + n = sa.len → GWF sainv → sainv.len = N →
      ∃ s', suffix_InvertSA_loop_1 sa n (i : Int) sainv = Res.ok s' ∧
        absI32 s' = invertSteps (absI32 sa) n i (absI32 sainv) ∧ Overwritten sainv s' ∧
        ∀ k, (NNAt sainv k ∨ ∃ j, i ≤ j ∧ j < i + n ∧ ((sa.arr[j]?).getD 0).toInt.toNat = k) → NNAt s' k := by
  intro n
  induction n with
  | zero =>
    intro i sainv _ hw _
    exact ⟨sainv, rfl, rfl, .refl hw, fun k hk => hk.elim id fun ⟨j, h1, h2, _⟩ => by omega⟩
  | succ n ih =>
    intro i sainv hin hw hN
    have hi : i < sa.len := by omega
    obtain ⟨h0, h1⟩ := hr i hi
    rw [suffix_InvertSA_loop_1, gindex_ok (0 : Int32) sa (i : Int) i rfl hi]
    simp only [bind_ok]
    generalize hx : (sa.arr[i]?).getD 0 = x at h0 h1
    rw [gset_ok sainv x.toInt x.toInt.toNat (by omega) (by omega)]
    simp only [bind_ok]
    obtain ⟨s', e1, e2, e3, e4⟩ := ih (i + 1) _ (by omega) (gset_wf hw x.toInt.toNat (Int32.ofInt (i : Int)))
      (by simpa using hN)
    refine ⟨s', by simpa using e1, ?_, e3.of_set (by omega), fun k hk => e4 k ?_⟩
    · rw [e2, absI32_set, invertSteps, absI32_getD hsa i hi, hx]
      congr 2
      rw [i32n, i32_ofNat i (by omega), Int.toNat_natCast]
    · -- after the write at `x`: entry `x` holds `int32(i) ≥ 0`, the others are as before
      by_cases hkx : x.toInt.toNat = k
      · left
        subst hkx
        show 0 ≤ (((sainv.arr.set x.toInt.toNat (Int32.ofInt (i : Int)))[x.toInt.toNat]?).getD 0).toInt
        by_cases hl : x.toInt.toNat < sainv.arr.length
        · rw [List.getElem?_set_self hl, Option.getD_some, i32_ofNat i (by omega)]; omega
        · rw [List.getElem?_eq_none (by rw [List.length_set]; omega)]; decide
      · rcases hk with hk | ⟨j, j1, j2, j3⟩
        · left
          show 0 ≤ (((sainv.arr.set x.toInt.toNat (Int32.ofInt (i : Int)))[k]?).getD 0).toInt
          rw [List.getElem?_set_ne hkx]
          exact hk
        · by_cases hji : j = i
          · subst hji; rw [hx] at j3; exact absurd j3 hkx
          · exact Or.inr ⟨j, by omega, by omega, j3⟩

/-- `InvertSA(sa, sainv)` on any previous contents of `sainv` is the fold `invertFrom` from that contents. -/
theorem gen_invertSA (sa sainv : GSlice Int32) (hsa : GWF sa) (hsi : GWF sainv)
    (hlen : sa.len = sainv.len) (h31 : sa.len ≤ 2147483647) (hr : InRange sa sa.len) :
    ∃ s', suffix_InvertSA sa sainv = Res.ok s' ∧
      absI32 s' = invertFrom (absI32 sa) (absI32 sainv) ∧ GWF s' ∧ s'.len = sainv.len ∧
      s'.arr.drop sainv.len = sainv.arr.drop sainv.len := by
  obtain ⟨s', e1, e2, ⟨e3, e4, _, e6⟩, _⟩ := invert_loop_eq sa hsa h31 sa.len hr sa.len 0 sainv (by omega) hsi hlen.symm
  refine ⟨s', ?_, ?_, e3, e4, e6⟩
  · have e1' : suffix_InvertSA_loop_1 sa sa.len 0 sainv = Res.ok s' := by simpa using e1
    unfold suffix_InvertSA
    split
    · rename_i hne
      exact absurd hlen (by simp only [Int.ofNat_eq_natCast] at hne; omega)
    · simp only [e1', bind_ok]
  · rw [e2, invertFrom_eq_steps, absI32_size hsa]

/-- the explicit panic `len(sa) != len(sainv)` -/
theorem gen_invertSA_panic (sa sainv : GSlice Int32) (hlen : sa.len ≠ sainv.len) :
    suffix_InvertSA sa sainv = Res.panic := by
  unfold suffix_InvertSA
  split
  · rfl
  · rename_i hne
    exact absurd hlen (by simp only [Int.ofNat_eq_natCast] at hne; omega)

/-! ### every entry is written: the start table is irrelevant for a permutation -/

/-- two tables of the same size that agree wherever the loop writing at `idx i, …, idx (i+n-1)`
    will not write any more -/
def AgreeOff (idx : Nat → Nat) (i n : Nat) (a b : Array Nat) : Prop :=
  a.size = b.size ∧ ∀ k, k < a.size → (∃ j, i ≤ j ∧ j < i + n ∧ idx j = k) ∨ a[k]? = b[k]?

theorem AgreeOff.eq {idx : Nat → Nat} {i : Nat} {a b : Array Nat} (h : AgreeOff idx i 0 a b) : a = b := by
  apply Array.ext_getElem?
  intro k
  by_cases hk : k < a.size
  · exact (h.2 k hk).resolve_left fun ⟨j, h1, h2, _⟩ => by omega
  · rw [Array.getElem?_eq_none (by omega), Array.getElem?_eq_none (by have := h.1; omega)]

theorem AgreeOff.set {idx : Nat → Nat} {i n : Nat} {a b : Array Nat} (h : AgreeOff idx i (n+1) a b) (v : Nat) :
    AgreeOff idx (i+1) n (a.setIfInBounds (idx i) v) (b.setIfInBounds (idx i) v) := by
  refine ⟨by simp [h.1], fun k hk => ?_⟩
  simp only [Array.size_setIfInBounds] at hk
  by_cases hki : idx i = k
  · right; simp [Array.getElem?_setIfInBounds, hki, h.1]
  · rcases h.2 k hk with ⟨j, h1, h2, h3⟩ | h
    · exact Or.inl ⟨j, by have : j ≠ i := fun e => hki (e ▸ h3); omega, by omega, h3⟩
    · right; simp [Array.getElem?_setIfInBounds, hki, h]

theorem AgreeOff.of_surj {idx : Nat → Nat} {n : Nat} {a b : Array Nat} (hs : a.size = b.size)
    (hsurj : ∀ k, k < a.size → ∃ j, j < n ∧ idx j = k) : AgreeOff idx 0 n a b :=
  ⟨hs, fun k hk => Or.inl (by obtain ⟨j, h1, h2⟩ := hsurj k hk; exact ⟨j, by omega, by omega, h2⟩)⟩

theorem invertSteps_agree (sa : Array Nat) : ∀ (n i : Nat) (a b : Array Nat),
    AgreeOff (fun j => sa.getD j 0) i n a b → invertSteps sa n i a = invertSteps sa n i b
  | 0, _, _, _, h => h.eq
  | n+1, i, _, _, h => invertSteps_agree sa n (i+1) _ _ (h.set i)

/-- `InvertSA` writes every entry when `sa` hits every index: the previous contents are irrelevant. -/
theorem invertFrom_eq_invertSA (sa init : Array Nat) (hs : init.size = sa.size)
    (hsurj : ∀ k, k < sa.size → ∃ j, j < sa.size ∧ sa.getD j 0 = k) :
    invertFrom sa init = invertSA sa := by
  rw [invertSA_eq_invertFrom, invertFrom_eq_steps, invertFrom_eq_steps]
  exact invertSteps_agree sa _ _ _ _ (AgreeOff.of_surj (by simp [hs]) fun k hk => hsurj k (by omega))

/-! ## `_lcp` = the checked Kasai loop -/

/-- an `Int32` comparison hypothesis (in whatever form `split` produced it) as a fact about `toInt` -/
local macro "i32_norm " "at " h:ident : tactic =>
  `(tactic| simp only [gt_iff_lt, ge_iff_le, i32_lt_iff, i32_le_iff, i32_eq_iff, i32_zero, i32_one, Int32.not_lt, Int32.not_le, ne_eq] at $h:ident)

/-- `ln` is the value of the `int32` variable `l`. -/
theorem lcp_loop_chk (matchLen : Slice → Slice → Int) (hml : MatchLenSpec matchLen)
    (t : Slice) (sa sainv : GSlice Int32) (ht : SWF t) (hsa : GWF sa) (hsi : GWF sainv)
    (hnsa : NonNeg sa) (hnsi : NonNeg sainv) (ht31 : t.len ≤ 2147483647) (hi31 : sainv.len ≤ 2147483647) :
    ∀ (n i : Nat) (lcp : GSlice Int32) (l : Int32) (ln : Nat) (r : Array Nat), i + n = sainv.len → GWF lcp →
      l.toInt = ln → kasaiLoopChk t.data (absI32 sa) (absI32 sainv) n i ln (absI32 lcp) = some r →
      ∃ lcp' l', suffix__lcp_loop_1 matchLen sainv sa t n (i : Int) lcp l = Res.ok (lcp', l') ∧
        absI32 lcp' = r ∧ Overwritten lcp lcp' := by
  intro n
  induction n with
  | zero =>
    intro i lcp l ln r _ hw _ h
    exact ⟨lcp, l, rfl, Option.some.inj h, .refl hw⟩
  | succ n ih =>
    intro i lcp l ln r hin hw hl h
    have hi : i < sainv.len := by omega
    have htd : t.data.length = t.len := data_length ht
    -- after `lcp[p] = v` the loop continues with the running value `l2`
    have cont : ∀ (p : Nat) (v l2 : Int32) (ln2 : Nat), p < lcp.len → l2.toInt = ln2 →
        kasaiLoopChk t.data (absI32 sa) (absI32 sainv) n (i + 1) ln2
          ((absI32 lcp).setIfInBounds p (i32n v)) = some r →
        ∃ lcp' l', suffix__lcp_loop_1 matchLen sainv sa t n ((i : Int) + 1)
            { lcp with arr := lcp.arr.set p v } l2 = Res.ok (lcp', l') ∧
          absI32 lcp' = r ∧ Overwritten lcp lcp' := by
      intro p v l2 ln2 hp hl2 h'
      rw [← absI32_set] at h'
      obtain ⟨lcp', l', e1, e2, e3⟩ := ih (i + 1) _ l2 ln2 r (by omega) (gset_wf hw p v) hl2 h'
      exact ⟨lcp', l', by simpa using e1, e2, e3.of_set hp⟩
    rw [kasaiLoopChk, absI32_getElem? hsi i hi] at h
    simp only [absI32_size hw] at h
    rw [suffix__lcp_loop_1, gindex_ok (0 : Int32) sainv (i : Int) i rfl hi]
    simp only [bind_ok]
    have hk0 := hnsi i hi
    generalize (sainv.arr[i]?).getD 0 = k at h hk0
    have hkn : k.toInt = (i32n k : Nat) := (Int.toNat_of_nonneg hk0).symm
    generalize i32n k = kn at h hkn
    by_cases hk : k = 0
    · -- lcp[0] = 0; l = 0
      have hkn0 : kn = 0 := by rw [i32_eq_iff, i32_zero] at hk; omega
      subst hkn0
      -- decides `if k = 0`, whichever way round the translated condition is written
      simp only [hk, if_true]
      simp only [if_true] at h
      by_cases hpos : 0 < lcp.len
      · rw [if_pos hpos] at h
        rw [gset_ok lcp (0 : Int) 0 rfl hpos]
        exact cont 0 0 0 0 hpos i32_zero h
      · rw [if_neg hpos] at h
        exact absurd h (by simp)
    · have hkpos : 1 ≤ kn := by
        have : k.toInt ≠ 0 := fun e => hk (by rw [i32_eq_iff, i32_zero]; exact e)
        omega
      simp only [hk, fun e : 0 = k => hk e.symm, ne_eq, not_false_eq_true, not_true_eq_false, if_true, if_false]
      rw [if_neg (show ¬ kn = 0 by omega)] at h
      have hkm := i32_pred_nat k hkn hkpos
      -- j := sa[k-1]
      by_cases hks : kn - 1 < sa.len
      · rw [absI32_getElem? hsa _ hks] at h
        simp only at h
        rw [gindex_ok (0 : Int32) sa (k - 1).toInt (kn - 1) hkm hks]
        simp only [bind_ok]
        have hj0 := hnsa _ hks
        generalize (sa.arr[kn - 1]?).getD 0 = j at h hj0
        have hjn : j.toInt = (i32n j : Nat) := (Int.toNat_of_nonneg hj0).symm
        generalize i32n j = jn at h hjn
        by_cases hc : i + ln ≤ t.data.length ∧ jn + ln ≤ t.data.length ∧ kn < lcp.len
        · rw [if_pos hc] at h
          obtain ⟨hc1, hc2, hc3⟩ := hc
          rw [htd] at hc1 hc2
          have hil := i32_add_nat _ l (i32_ofNat i (by omega)) hl (by omega)
          have hjl := i32_add_nat j l hjn hl (by omega)
          obtain ⟨p, hp1, hp2⟩ := bslice_tail t ht _ _ hil hc1
          obtain ⟨q, hq1, hq2⟩ := bslice_tail t ht _ _ hjl hc2
          rw [hp1]; simp only [bind_ok]
          rw [hq1]; simp only [bind_ok]
          rw [hml p q, hp2, hq2]
          generalize hm : lcpLen (t.data.drop (i + ln)) (t.data.drop (jn + ln)) = m at h
          have hmle : m ≤ t.len - (i + ln) := by
            have := LZ.lcpLen_le_left (t.data.drop (i + ln)) (t.data.drop (jn + ln))
            rw [hm, List.length_drop, htd] at this; exact this
          have hL := i32_add_nat l _ hl (i32_ofNat m (by omega)) (by omega)
          generalize l + Int32.ofInt ((m : Nat) : Int) = L at hL
          rw [gset_ok lcp k.toInt kn hkn hc3]
          simp only [bind_ok]
          have h' : kasaiLoopChk t.data (absI32 sa) (absI32 sainv) n (i + 1) (ln + m - 1)
              ((absI32 lcp).setIfInBounds kn (i32n L)) = some r := by
            rw [i32n, hL, Int.toNat_natCast]; exact h
          -- l-- if l > 0
          split
          · rename_i hLp
            i32_norm at hLp
            exact cont kn L _ _ hc3 (i32_pred_nat L hL (by omega)) h'
          · rename_i hLp
            i32_norm at hLp
            exact cont kn L _ _ hc3 (by omega) h'
        · rw [if_neg hc] at h
          exact absurd h (by simp)
      · rw [absI32_getElem?_none sa _ hks] at h
        exact absurd h (by simp)

/-- `_lcp` computes what the checked Kasai loop `kasaiLoopChk` (LzProofs/Kasai.lean) computes on the caller's table,
    whenever that loop does not fail. -/
theorem gen_lcp_chk (matchLen : Slice → Slice → Int) (hml : MatchLenSpec matchLen)
    (t : Slice) (sa sainv lcp : GSlice Int32) (ht : SWF t) (hsa : GWF sa) (hsi : GWF sainv) (hw : GWF lcp)
    (hnsa : NonNeg sa) (hnsi : NonNeg sainv) (ht31 : t.len ≤ 2147483647) (hi31 : sainv.len ≤ 2147483647)
    (r : Array Nat)
    (h : kasaiLoopChk t.data (absI32 sa) (absI32 sainv) (absI32 sainv).size 0 0 (absI32 lcp) = some r) :
    ∃ lcp', suffix__lcp matchLen t sa sainv lcp = Res.ok lcp' ∧ absI32 lcp' = r ∧ GWF lcp' ∧
      lcp'.len = lcp.len ∧ lcp'.arr.drop lcp.len = lcp.arr.drop lcp.len := by
  rw [absI32_size hsi] at h
  obtain ⟨lcp', l', e1, e2, e3, e4, _, e6⟩ := lcp_loop_chk matchLen hml t sa sainv ht hsa hsi hnsa hnsi ht31 hi31
    sainv.len 0 lcp 0 0 r (by omega) hw i32_zero h
  refine ⟨lcp', ?_, e2, e3, e4, e6⟩
  unfold suffix__lcp
  have e1' : suffix__lcp_loop_1 matchLen sainv sa t sainv.len 0 lcp 0 = Res.ok (lcp', l') := by simpa using e1
  simp only [e1', bind_ok]

/-! ## the start table is irrelevant (model level, no suffix-array hypothesis) -/

theorem kasaiLoop_agree (t : List Byte) (sa isa : Array Nat) : ∀ (n i l : Nat) (a b : Array Nat),
    AgreeOff (fun j => isa.getD j 0) i n a b → kasaiLoop t sa isa n i l a = kasaiLoop t sa isa n i l b
  | 0, _, _, _, _, h => h.eq
  | n+1, i, l, a, b, h => by
    simp only [kasaiLoop]
    split
    · next hk =>
      have := h.set 0
      simp only [hk] at this
      exact kasaiLoop_agree t sa isa n (i+1) _ _ _ this
    · exact kasaiLoop_agree t sa isa n (i+1) _ _ _ (h.set _)

/-- If `isa` hits every index, `_lcp` overwrites the whole table: the result for any start
    table of the right length is the model's `lcpKasai` (which starts on zeros). -/
theorem lcpKasaiFrom_eq (t : List Byte) (sa isa lcp0 : Array Nat) (h0 : lcp0.size = t.length)
    (hsurj : ∀ k, k < t.length → ∃ j, j < isa.size ∧ isa.getD j 0 = k) :
    lcpKasaiFrom t sa isa lcp0 = lcpKasai t sa isa := by
  rw [lcpKasai_eq_from]
  exact kasaiLoop_agree t sa isa _ _ _ _ _
    (AgreeOff.of_surj (by simp [h0]) fun k hk => hsurj k (by omega))

/-! ## `_lcp` on a suffix array -/

/-- For a suffix array `sa` of `t` and its inverse, the translated `_lcp` does not panic and —
    for every previous contents of the caller's table `lcp` (of length `len(t)`) — stores the table
    the model computes from zeros, i.e. every entry is written. -/
theorem gen_lcp (matchLen : Slice → Slice → Int) (hml : MatchLenSpec matchLen)
    (t : Slice) (sa sainv lcp : GSlice Int32) (ht : SWF t) (hsa : GWF sa) (hsi : GWF sainv) (hw : GWF lcp)
    (hnsa : NonNeg sa) (hnsi : NonNeg sainv) (ht31 : t.len ≤ 2147483647)
    (hSA : IsSuffixArray t.data (absI32 sa).toList) (hinv : IsInverse (absI32 sa).toList (absI32 sainv))
    (hlen : lcp.len = t.len) :
    ∃ lcp', suffix__lcp matchLen t sa sainv lcp = Res.ok lcp' ∧
      absI32 lcp' = lcpKasai t.data (absI32 sa) (absI32 sainv) ∧
      (absI32 lcp').toList = lcpSpec t.data (absI32 sa).toList ∧
      GWF lcp' ∧ lcp'.len = lcp.len ∧ lcp'.arr.drop lcp.len = lcp.arr.drop lcp.len := by
  have htd : t.data.length = t.len := data_length ht
  have hsz : (absI32 lcp).size = t.data.length := by rw [absI32_size hw, hlen, htd]
  have hchk := kasaiChk_correct hSA hinv (absI32 lcp) hsz
  have hzero := kasaiLoop_correct hSA hinv (Array.replicate t.data.length 0) (by simp)
  have hi31 : sainv.len ≤ 2147483647 := by
    have h1 := hinv.1
    have h2 := hSA.length_eq
    rw [absI32_size hsi] at h1
    omega
  simp only [Array.toArray_toList] at hchk hzero
  obtain ⟨lcp', e1, e2, e3, e4, e5⟩ := gen_lcp_chk matchLen hml t sa sainv lcp ht hsa hsi hw hnsa hnsi ht31 hi31 _ hchk
  refine ⟨lcp', e1, ?_, by rw [e2], e3, e4, e5⟩
  rw [e2]; unfold lcpKasai; rw [hzero]

end LZ.GenSuffix

#print axioms LZ.GenSuffix.invert_loop_eq
#print axioms LZ.GenSuffix.gen_invertSA
#print axioms LZ.GenSuffix.gen_invertSA_panic
#print axioms LZ.GenSuffix.invertFrom_eq_invertSA
#print axioms LZ.GenSuffix.gen_lcp_chk
#print axioms LZ.GenSuffix.gen_lcp
#print axioms LZ.GenSuffix.lcpKasaiFrom_eq
