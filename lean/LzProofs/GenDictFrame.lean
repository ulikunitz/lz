/-
  What every translated parser does around its embedded `ParserBuffer`, once, against the model's
  `newParser` / `Parser.reset` / `Parser.shrink`: the seven Go parsers differ only in the tables they
  clear, shift or make afterwards.

    bufOf_ready       the buffer part of a defaults-completed, verified `Cfg` of ANY kind is a fixed point of
                      `BufConfig.SetDefaults` and passes `BufConfig.Verify` (from the model, through the ties)
    fresh_pbuf        what a Go buffer that abstracts to `PBuf.init c.bufCfg` looks like; fresh_cap0 for the zero receiver
    reset_frame       `ParserBuffer.Reset` inside any parser vs `Parser.reset`
    shrink_frame      `ParserBuffer.Shrink` inside any parser vs `Parser.shrink`
-/
import LzModel.Parser
import LzProofs.GenBufPropsP
import LzProofs.ParserStep

set_option linter.unusedSimpArgs false
set_option linter.unusedVariables false

namespace LZ

/-! ## the model side: every kind completes the buffer fields as `bufDefaults` does -/

theorem setDefaults_bufPart (k : Kind) (c : Cfg) :
    (setDefaults k c).shrinkSize = (bufDefaults c).shrinkSize ∧
    (setDefaults k c).bufferSize = (bufDefaults c).bufferSize ∧
    (setDefaults k c).windowSize = (bufDefaults c).windowSize ∧
    (setDefaults k c).blockSize = (bufDefaults c).blockSize := by
  cases k <;> exact ⟨rfl, rfl, rfl, rfl⟩

end LZ

namespace LZ.GenBuf
open LZ LZ.Gen LZ.GenProps

/-! ## `init`: the buffer part of a completed, verified configuration -/

/-- `bufferConfig(&cfg)` on the union record -/
def bufOf (c : Cfg) : Gen.BufConfig := ⟨c.shrinkSize, c.bufferSize, c.windowSize, c.blockSize⟩

theorem bufOf_ready {k : Kind} (x : Cfg) (hv : verify k (setDefaults k x) = true) :
    BufConfig_SetDefaults (bufOf (setDefaults k x)) = bufOf (setDefaults k x) ∧
    BufConfig_Verify (bufOf (setDefaults k x)) = Gen.Err.ok := by
  refine ⟨?_, (gen_bufVerify _).mpr (verify_buf k (setDefaults k x) hv :)⟩
  rw [gen_bufDefaults']
  have h := setDefaults_idem' k x
  obtain ⟨e1, e2, e3, e4⟩ := setDefaults_bufPart k (setDefaults k x)
  exact congr (congr (congr (congrArg Gen.BufConfig.mk (e1.symm.trans (congrArg Cfg.shrinkSize h)))
    (e2.symm.trans (congrArg Cfg.bufferSize h))) (e3.symm.trans (congrArg Cfg.windowSize h)))
    (e4.symm.trans (congrArg Cfg.blockSize h))

/-- along a tie: what `init` of kind `k` hands to its dictionary after `cfg.SetDefaults()` and an accepted
    `cfg.Verify()` -/
theorem _root_.LZ.GenProps.CfgTie.buf_ready {k : Kind} {γ : Type} {abs : γ → Cfg} {conc : Cfg → γ} {sd : γ → γ}
    {vf : γ → Gen.Err} (t : CfgTie k abs conc sd vf) {g : γ} (hok : vf (sd g) = Gen.Err.ok) :
    BufConfig_SetDefaults (bufOf (abs (sd g))) = bufOf (abs (sd g)) ∧
    BufConfig_Verify (bufOf (abs (sd g))) = Gen.Err.ok := by
  have hv := (t.vf_ok _).mp hok
  rw [t.abs_sd] at hv ⊢
  exact bufOf_ready _ hv

/-- a Go buffer that abstracts to the model's fresh buffer -/
theorem fresh_pbuf {pb : ParserBuffer} {c : Cfg} {cap : Nat} (hwf : PBWF pb)
    (h : ofPB pb = { PBuf.init c.bufCfg with cap := cap }) :
    pb.BufConfig.WindowSize.toNat = c.windowSize.toNat ∧ pb.BufConfig.BlockSize.toNat = c.blockSize.toNat ∧
    pb.W = 0 ∧ pb.Data.len = 0 := by
  have hw : pb.W.toNat = 0 := congrArg PBuf.w h
  have hd : pb.Data.data = [] := congrArg PBuf.data h
  have hl := data_length hwf.data
  rw [hd] at hl
  have hw0 := hwf.w
  exact ⟨congrArg (fun b => b.cfg.windowSize) h, congrArg (fun b => b.cfg.blockSize) h, by omega, hl.symm⟩

/-- the zero receiver `new(T)` has a buffer of capacity 0, which is the capacity of the model's fresh buffer -/
theorem fresh_cap0 {k : Kind} {raw : Cfg} {p : Parser} (hp : newParser k raw = some p) :
    ({ p with buf := { p.buf with cap := 0 } } : Parser) = p := by
  obtain ⟨-, rfl⟩ := newParser_eq_some hp
  rfl

/-! ## `Reset` and `Shrink` -/

theorem errOfReset_ok {e : Gen.Err} {m : LZ.Err} (h : errOfReset e = some m) : e = Gen.Err.ok ↔ m = .ok := by
  unfold errOfReset at h
  split at h
  · rename_i h1; simp only [Option.some.injEq] at h; subst h; simp [h1]
  · rename_i h1; split at h
    · simp only [Option.some.injEq] at h; subst h; simp [h1]
    · simp at h

/-- `err := s.ParserBuffer.Reset(data)` inside a parser that abstracts to `P`: on `nil` the model clears the
    dictionary of `P` and takes the new buffer, on an error both sides leave everything as it was -/
theorem reset_frame (P : Parser) (pb : ParserBuffer) (hP : P.buf = ofPB pb) (hpb : PBWF pb) (data : Slice)
    (hdat : SWF data) :
    ∃ b' e, ParserBuffer_Reset pb data = Res.ok (b', e) ∧ PBWF b' ∧
      errOfReset e = some (P.reset data.data (data.cap - data.len)).2 ∧
      (e = Gen.Err.ok →
        P.reset data.data (data.cap - data.len) = ({ P with buf := ofPB b', dict := P.clearDict }, .ok)) ∧
      (e ≠ Gen.Err.ok → ofPB b' = P.buf ∧ (P.reset data.data (data.cap - data.len)).1 = P) := by
  obtain ⟨b', e, hb, hof, herr, hwf⟩ := gen_pbuf_reset pb hpb data hdat
  rw [← hP] at hof herr
  have hiff := errOfReset_ok herr
  refine ⟨b', e, hb, hwf, ?_, fun he => ?_, fun he => ?_⟩
  · by_cases hr : (P.buf.reset data.data (data.cap - data.len)).2 = .ok
    · rw [Parser.reset_ok hr, ← hr]; exact herr
    · rw [Parser.reset_err hr]; exact herr
  · rw [Parser.reset_ok (hiff.mp he), hof]
  · have hr : (P.buf.reset data.data (data.cap - data.len)).2 ≠ .ok := fun c => he (hiff.mpr c)
    rw [Parser.reset_err hr, hof]
    rcases PBuf.reset_frame P.buf data.data (data.cap - data.len) with ⟨h, -⟩ | ⟨-, h⟩
    · exact absurd h hr
    · exact ⟨h, rfl⟩

/-- `delta := s.ParserBuffer.Shrink()` inside a parser that abstracts to `P` -/
theorem shrink_frame (P : Parser) (pb : ParserBuffer) (hP : P.buf = ofPB pb) (hpb : PBWF pb)
    (hw : pb.W - pb.BufConfig.ShrinkSize ≤ pb.Data.len) :
    ∃ (b' : ParserBuffer) (d : Nat), ParserBuffer_Shrink pb = Res.ok (b', (d : Int)) ∧ PBWF b' ∧ d = P.shrink.2 ∧
      (pb.W < 4294967296 → d < 2 ^ 32) ∧
      (d = 0 → ofPB b' = P.buf ∧ P.shrink = (P, 0)) ∧
      (d ≠ 0 → P.shrink = ({ P with buf := ofPB b', dict := P.shiftDict d }, d)) := by
  obtain ⟨b', hb, hof, hwf⟩ := gen_pbuf_shrink pb hpb hw
  rw [← hP] at hb hof
  have a2 := (PBuf.shrink_dropped P.buf).w
  refine ⟨b', P.buf.shrink.2, hb, hwf, ?_, fun hW => ?_, fun hd => ?_, fun hd => ?_⟩
  · by_cases hd : P.buf.shrink.2 = 0
    · rw [Parser.shrink_zero hd, hd]
    · rw [Parser.shrink_pos hd]
  · have : P.buf.w = pb.W.toNat := by rw [hP]; rfl
    omega
  · rw [Parser.shrink_zero hd, hof, PBuf.shrink_zero P.buf hd]; exact ⟨rfl, rfl⟩
  · rw [Parser.shrink_pos hd, hof]

end LZ.GenBuf

#print axioms LZ.GenBuf.bufOf_ready
#print axioms LZ.GenBuf.fresh_pbuf
#print axioms LZ.GenBuf.reset_frame
#print axioms LZ.GenBuf.shrink_frame
