/-
  C14 "repeated `Parse(nil)` drains the buffer" about the Go text of HP: the model-level drain theorem
  `C14_drains` (LzProofs/ParseProps.lean; `nilIter`, LzProofs/ParseParser.lean) transported along the history simulation of
  LzProofs/GenHPHistNil.lean by `GenDrain.drain_go` (LzProofs/GenDrainShared.lean, where `nilOps`, `drainRes`, `nSum` for the
  call type `GOpN` are defined).
-/
import LzProofs.GenDrainShared

set_option linter.unusedSimpArgs false
set_option linter.unusedVariables false

namespace LZ.GenHPHist
open LZ LZ.Gen LZ.GenBuf LZ.GenHash LZ.GenHPParse LZ.GenProps LZ.GenNil

/-- C14 (repeated `Parse(nil)` drains the buffer) about the Go text of HP.  Run any history `ops` of the translated
    `Write`, `ReadFrom`, `Parse(&blk)`, `Parse(nil)`, `Shrink`, `Reset` from `hashParser.init`; let `t` be the Go state
    reached, `u = len(Data) − W` its unparsed bytes, `bs = BlockSize`, `r = ⌈u / bs⌉`.  Then ANY further sequence of
    translated `Parse(nil, flags_k)` calls (`fl`: ghost values and flags, all arbitrary) runs without panic and returns
    exactly `drainRes bs u 0 fl`: call `k < r` returns `n = min(bs, u − k·bs) > 0` and `nil`, every call `k ≥ r` returns
    `(0, ErrEmptyBuffer)` — `ErrEmptyBuffer` is reached after exactly `r` calls —, each hands its ghost block back; the
    returned `n` sum to `min(u, m·bs)` (`m` = number of calls), `W` ends at `min(len(Data), W + m·bs)` with `len(Data)`
    unchanged; once `m ≥ r` the `n` sum to the unparsed length `u` and `W = len(Data)`. -/
theorem C14_drains_go_text_hp (cfg : Gen.HPConfig) (s0 : Gen.hashParser)
    (hinit : hashParser_init default cfg = Res.ok (s0, Gen.Err.ok))
    (extra : Nat) (grow : Nat → Nat → Nat) (fuel : Nat)
    (hfuel : s0.hashDictionary.ParserBuffer.BufConfig.BufferSize.toNat + 3 ≤ fuel)
    (ops : List GOpN) (hwf : ∀ op ∈ ops, op.WF) (fl : List (Gen.Block' × Int)) :
    ∃ t rs, runN (rfGo extra) grow fuel s0 ops = Res.ok (t, rs) ∧
      let bs := t.hashDictionary.ParserBuffer.BufConfig.BlockSize.toNat
      let u := t.hashDictionary.ParserBuffer.Data.len - t.hashDictionary.ParserBuffer.W.toNat
      let r := (u + bs - 1) / bs
      ∃ t', runN (rfGo extra) grow fuel t (nilOps fl) = Res.ok (t', drainRes bs u 0 fl) ∧
        nSum (drainRes bs u 0 fl) = ((Min.min u (fl.length * bs) : Nat) : Int) ∧
        t'.hashDictionary.ParserBuffer.Data.len = t.hashDictionary.ParserBuffer.Data.len ∧
        t'.hashDictionary.ParserBuffer.W =
          ((Min.min t.hashDictionary.ParserBuffer.Data.len (t.hashDictionary.ParserBuffer.W.toNat + fl.length * bs) : Nat) : Int) ∧
        (r ≤ fl.length → nSum (drainRes bs u 0 fl) = (u : Int) ∧
          t'.hashDictionary.ParserBuffer.W = (t.hashDictionary.ParserBuffer.Data.len : Int)) := by
  obtain ⟨p, t, rs, hp, -, h1, hH, hbc, hf, -⟩ := gen_hp_history_nil cfg s0 hinit extra grow fuel hfuel ops hwf
  refine ⟨t, rs, h1, ?_⟩
  have hbs : 1 ≤ t.hashDictionary.ParserBuffer.BufConfig.BlockSize.toNat := by
    have := (newParser_inv .HP (ofHP cfg) p hp).2.2
    rw [← hH.cfg] at this; exact this
  rw [runN_eq, nilOps_eq, drainRes_eq, nSum_eq]
  exact GenDrain.drain_go (bufHost hbc) nilCalls (stepN_sim hbc (rfGo extra) (rfGo_spec extra) grow fuel hf) t (_, Ghost.init)
    ⟨⟨hH, rfl⟩, trivial⟩ hbs fl
end LZ.GenHPHist

#print axioms LZ.GenHPHist.C14_drains_go_text_hp
