/-
  The NIL PATH of the mechanical translation of gsap.go `(*gsap).Parse`:
  `gsap_Parse_nilable grow fuel lcp SS BI s true blk flags` (LzModel/Generated/CodeGSAPParse.lean; the pointer parameter
  `blk` is modelled by a flag plus a value, tools/extract/code_nil.go) is the call `Parse(nil, flags)`.
  For GSAP the nil path ONLY advances `W`: no sort, no bitset insert — so no panic case, no fuel bound, and no
  specification of the opaque callees `lcp`, `suffix.Sort`, `bitset.insert` is needed.

    gen_gsap_parse_nonnil   `gsap_Parse … blk …` IS `gsap_Parse_nilable … false blk …` (the generated wrapper)
    gen_gsap_parseNil_empty nothing buffered ⇒ `(0, ErrEmptyBuffer)`, parser and ghost block unchanged
    gen_gsap_parseNil       for every Go state with `ParseOKG s`, every rank array `g`, every `blk` (a ghost), every
                            `flags`, `grow`, `fuel`, `lcp`, `SS`, `BI`: the translated `Parse(nil)` is
                            `Res.ok (t, blk, n, parseErr e)` — THE SAME `blk` — with `(n, e)` those of the list-level
                            `(ofGSAPs s g).parseNil`, `ofGSAPs t g` its state FOR THE SAME `g`, `ofGW t = ofGW s`
                            (`sa`, `isa`, bitset untouched), only `W` of the Go state changes, `ParseOKG t` (incl. `SaIdx`)
-/
import LzProofs.GenGSAPParse

set_option linter.unusedSimpArgs false
set_option linter.unusedVariables false

namespace LZ.GenGSAP
open LZ LZ.Gen LZ.GenHPParse

theorem gen_gsap_parse_nonnil (grow : Nat → Nat → Nat) (fuel : Nat) (lcp : Slice → Slice → Int)
    (SS : Slice → GSlice Int32 → Res (GSlice Int32)) (BI : Gen.bitset → List Int → Res Gen.bitset)
    (s : Gen.gsap) (blk : Gen.Block') (flags : Int) :
    gsap_Parse grow fuel lcp SS BI s blk flags = gsap_Parse_nilable grow fuel lcp SS BI s false blk flags := rfl

/-- the nil path, nothing buffered ⇒ `(0, ErrEmptyBuffer)`, the parser and the ghost block unchanged; for every `grow`,
    `fuel`, `flags` and every opaque callee -/
theorem gen_gsap_parseNil_empty (grow : Nat → Nat → Nat) (fuel : Nat) (lcp : Slice → Slice → Int)
    (SS : Slice → GSlice Int32 → Res (GSlice Int32)) (BI : Gen.bitset → List Int → Res Gen.bitset)
    (s : Gen.gsap) (blk : Gen.Block') (flags : Int) (h : blockNG s = 0) :
    gsap_Parse_nilable grow fuel lcp SS BI s true blk flags = Res.ok (s, blk, (0 : Int), ErrEmptyBuffer) := by
  -- the clamp of the text is normalised to a minimum (any `if`-spelling, either operand order), the test `n == 0`
  -- is evaluated in whatever spelling / arm order it comes
  unfold gsap_Parse_nilable
  simp only [if_true, gt_iff_lt, ge_iff_le, ite_lt_min, ite_le_min, min_blockNG, min_blockNG', h]
  try (first | rfl | simp)

@[reducible] def withW (s : Gen.gsap) (w : Int) : Gen.gsap :=
  { s with ParserBuffer := { s.ParserBuffer with W := w } }

/-- `Parse(nil, flags)` of gsap.go = `Parser.parseNil`, per call, under `ParseOKG` alone. -/
theorem gen_gsap_parseNil (grow : Nat → Nat → Nat) (fuel : Nat) (lcp : Slice → Slice → Int)
    (SS : Slice → GSlice Int32 → Res (GSlice Int32)) (BI : Gen.bitset → List Int → Res Gen.bitset)
    (s : Gen.gsap) (blk : Gen.Block') (flags : Int) (g : GsapD) (h : ParseOKG s) :
    ∃ t, gsap_Parse_nilable grow fuel lcp SS BI s true blk flags =
        Res.ok (t, blk, (((ofGSAPs s g).parseNil).2.1 : Int), parseErr ((ofGSAPs s g).parseNil).2.2) ∧
      ofGSAPs t g = ((ofGSAPs s g).parseNil).1 ∧ ofGW t = ofGW s ∧
      (((ofGSAPs s g).parseNil).2.2 = .ok ∨ ((ofGSAPs s g).parseNil).2.2 = .empty) ∧
      t = withW s (s.ParserBuffer.W + (((ofGSAPs s g).parseNil).2.1 : Int)) ∧ ParseOKG t := by
  obtain ⟨hnG, hNle⟩ := blockNG_eq h g
  have hW0 := h.pb.w
  by_cases hn : (ofGSAPs s g).blockN = 0
  · rw [Parser.parseNil_empty _ hn]
    refine ⟨s, gen_gsap_parseNil_empty grow fuel lcp SS BI s blk flags (by rw [hnG, hn]; rfl), rfl, rfl, Or.inr rfl,
      ?_, h⟩
    show s = withW s (s.ParserBuffer.W + ((0 : Nat) : Int))
    rw [Int.natCast_zero, Int.add_zero]
  · have hpn : (ofGSAPs s g).parseNil =
        (ofGSAPs (withW s ((s.ParserBuffer.W.toNat + (ofGSAPs s g).blockN : Nat) : Int)) g, (ofGSAPs s g).blockN, .ok) := by
      rw [Parser.parseNil_pos hn]
      rfl
    have hn0 : ¬ ((((ofGSAPs s g).blockN : Nat) : Int) = 0) := by omega
    have hsum : s.ParserBuffer.W + (((ofGSAPs s g).blockN : Nat) : Int) =
        ((s.ParserBuffer.W.toNat + (ofGSAPs s g).blockN : Nat) : Int) := by omega
    have hGo : gsap_Parse_nilable grow fuel lcp SS BI s true blk flags =
        Res.ok (withW s ((s.ParserBuffer.W.toNat + (ofGSAPs s g).blockN : Nat) : Int), blk,
          (((ofGSAPs s g).blockN : Nat) : Int), Gen.Err.ok) := by
      unfold gsap_Parse_nilable
      simp only [if_true, gt_iff_lt, ge_iff_le, ite_lt_min, ite_le_min, min_blockNG, min_blockNG', hnG]
      decide_ite
      first | rw [hsum] | rw [Int.add_comm _ s.ParserBuffer.W, hsum]
    rw [hpn]
    exact ⟨_, hGo, rfl, rfl, Or.inl rfl, by rw [hsum],
      ParseOKG.update h _ hNle rfl rfl h.wsa h.wisa h.wbits
        (saIdx_advance h.idx rfl rfl rfl (by show _ ≤ ((_ + _ : Nat) : Int).toNat; omega) (Nat.le_refl _))⟩

end LZ.GenGSAP

#print axioms LZ.GenGSAP.gen_gsap_parse_nonnil
#print axioms LZ.GenGSAP.gen_gsap_parseNil_empty
#print axioms LZ.GenGSAP.gen_gsap_parseNil
