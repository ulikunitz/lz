/-
  Non-vacuity of LzProofs/GenDHPHistRun.lean: a concrete history executed on the TRANSLATED
  functions of the double hash parser (`GenDHPHist.runG`), checked by kernel evaluation (`decide +kernel`), and the instances of `C01_go_text_dhp` / `gen_dhp_history` for it.

  Configuration: ShrinkSize 16, BufferSize 64, WindowSize 32, BlockSize 32, InputLen1 3, HashBits1 4, InputLen2 6,
  HashBits2 5.
  History: Write("hijklmno-+hijXY*/hijklmno!"); Parse(&blk, 0); Shrink(); Write("xyzxyzabcabcQ");
           Parse(&blk, NoTrailingLiterals); Parse(&blk, 0); Parse(&blk, 0) [empty]; Reset("hello hello hello"); Parse(&blk, 0).
  The first block shows the LONG hash at work: at position 17 ("hijklmno" again) the table of the short hash points
  to the most recent "hij" (position 10, common prefix 3), the table of the long hash to position 0 — the translated
  `Parse` of DHP returns ONE match of length 8 at offset 17; the translated `Parse` of HP with InputLen 3 on the same
  calls returns the match of length 3 at offset 7, a literal and a match of length 4 (`exRunHP`).
-/
import LzProofs.GenDHPHistRun
import LzProofs.GenHPHistEx

namespace LZ.GenDHPHist
open LZ LZ.Gen LZ.GenBuf LZ.GenHash LZ.GenHPParse LZ.GenDHPParse LZ.GenProps
open LZ.GenHPHist (GOp GRes GOp.WF ghostRun sliceOf exGrow exB exC)

def exCfg : Gen.DHPConfig :=
  { ShrinkSize := 16, BufferSize := 64, WindowSize := 32, BlockSize := 32, InputLen1 := 3, HashBits1 := 4,
    InputLen2 := 6, HashBits2 := 5 }

/-- "hijklmno-+hijXY*/hijklmno!" -/
def exD : List UInt8 :=
  [104, 105, 106, 107, 108, 109, 110, 111, 45, 43, 104, 105, 106, 88, 89, 42, 47, 104, 105, 106, 107, 108, 109, 110, 111, 33]

def exOps : List GOp :=
  [ .write (sliceOf exD), .parse default 0, .shrink, .write (sliceOf exB), .parse default 1, .parse default 0,
    .parse default 0, .reset (sliceOf exC), .parse default 0 ]

/-- the state `doubleHashParser.init(exCfg)` leaves in `new(doubleHashParser)` -/
def exS0 : Gen.doubleHashParser :=
  match doubleHashParser_init default exCfg with
  | .ok (s, _) => s
  | _ => default

theorem exInit : doubleHashParser_init default exCfg = Res.ok (exS0, Gen.Err.ok) := by decide +kernel

theorem exWF : ∀ op ∈ exOps, op.WF := by
  intro op hop
  simp only [exOps, List.mem_cons, List.not_mem_nil, or_false] at hop
  rcases hop with rfl | rfl | rfl | rfl | rfl | rfl | rfl | rfl | rfl <;>
    first | trivial | exact Nat.le_refl _ | (show (0 : Int) ≤ _; decide)

/-- the values the translated functions return, in order -/
def exResults : List GRes :=
  [ .write 26 Gen.Err.ok,
    -- "hijklmno-+" + match(3, offset 10) + "XY*/" + match(8, offset 17: found through the table of the LONG hash) + "!"
    .parse { Sequences := [{ LitLen := 10, MatchLen := 3, Offset := 10, Aux := 0 },
                           { LitLen := 4, MatchLen := 8, Offset := 17, Aux := 0 }],
             Literals := { arr := [104, 105, 106, 107, 108, 109, 110, 111, 45, 43, 88, 89, 42, 47, 33], len := 15 } }
           26 Gen.Err.ok,
    .shrink 10,
    .write 13 Gen.Err.ok,
    -- NoTrailingLiterals: the block ends with its last match, 12 of the 13 unparsed bytes
    .parse { Sequences := [{ LitLen := 3, MatchLen := 3, Offset := 3, Aux := 0 },
                           { LitLen := 3, MatchLen := 3, Offset := 3, Aux := 0 }],
             Literals := { arr := [120, 121, 122, 97, 98, 99], len := 6 } } 12 Gen.Err.ok,
    -- the trailing "Q"
    .parse { Sequences := [], Literals := { arr := [81], len := 1 } } 1 Gen.Err.ok,
    .parse { Sequences := [], Literals := { arr := [], len := 0 } } 0 Gen.ErrEmptyBuffer,
    .reset Gen.Err.ok,
    .parse { Sequences := [{ LitLen := 6, MatchLen := 11, Offset := 6, Aux := 0 }],
             Literals := { arr := [104, 101, 108, 108, 111, 32], len := 6 } } 17 Gen.Err.ok ]

/-- the run on the translated functions, evaluated by the kernel -/
theorem exRun : (match runG exGrow 140 exS0 exOps with | .ok r => some r.2 | _ => none) = some exResults := by
  decide +kernel

/-- the bookkeeping computed from the calls and the results: after the `Reset` 17 bytes were fed, 17 consumed, one
    block -/
theorem exGhost :
    (ghostRun Ghost.init exOps exResults).fed = exC ∧ (ghostRun Ghost.init exOps exResults).consumed = 17 ∧
    (ghostRun Ghost.init exOps exResults).log.length = 1 := by decide +kernel

/-- the bookkeeping before the `Reset`: 39 bytes fed, all consumed, three blocks, and they decode to those bytes -/
theorem exGhost7 :
    (ghostRun Ghost.init (exOps.take 7) (exResults.take 7)).fed = exD ++ exB ∧
    (ghostRun Ghost.init (exOps.take 7) (exResults.take 7)).consumed = 39 ∧
    decode [] (ghostRun Ghost.init (exOps.take 7) (exResults.take 7)).log = some (exD ++ exB) := by decide +kernel

/-- the same first two calls on the translated HP functions (InputLen 3, HashBits 4): the second match is split
    (length 3 at offset 7, the literal "k", length 4 at offset 17) -/
theorem exRunHP :
    (match hashParser_init default
        { ShrinkSize := 16, BufferSize := 64, WindowSize := 32, BlockSize := 32, InputLen := 3, HashBits := 4 } with
     | .ok (s, _) =>
       (match LZ.GenHPHist.runG exGrow 140 s (exOps.take 2) with | .ok r => some r.2 | _ => none)
     | _ => none) =
    some [ .write 26 Gen.Err.ok,
      .parse { Sequences := [{ LitLen := 10, MatchLen := 3, Offset := 10, Aux := 0 },
                             { LitLen := 4, MatchLen := 3, Offset := 7, Aux := 0 },
                             { LitLen := 1, MatchLen := 4, Offset := 17, Aux := 0 }],
               Literals := { arr := [104, 105, 106, 107, 108, 109, 110, 111, 45, 43, 88, 89, 42, 47, 107, 33], len := 16 } }
             26 Gen.Err.ok ] := by decide +kernel

/-- `C01_go_text_dhp` etc. for this history -/
example := C01_go_text_dhp exCfg exS0 exInit exGrow 140 (by decide +kernel) exOps exWF
example := C02_go_text_dhp exCfg exS0 exInit exGrow 140 (by decide +kernel) exOps exWF
example := C03_go_text_dhp exCfg exS0 exInit exGrow 140 (by decide +kernel) exOps exWF
example := gen_dhp_history exCfg exS0 exInit exGrow 140 (by decide +kernel) exOps exWF

end LZ.GenDHPHist

#print axioms LZ.GenDHPHist.exInit
#print axioms LZ.GenDHPHist.exRun
#print axioms LZ.GenDHPHist.exGhost
#print axioms LZ.GenDHPHist.exGhost7
#print axioms LZ.GenDHPHist.exRunHP
