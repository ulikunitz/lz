/-
  `ParseOKG` (GenGSAPParse), INCLUDING the index invariant `SaIdx`, as an INVARIANT of the
  translated operations of the greedy suffix-array parser GSAP, operation by operation.

  Subject: the functions `tools/extract` regenerates from the Go text
      gsap.go             (*gsap).init / Parse / Reset / Shrink / sort   Gen.gsap_init / gsap_Parse / gsap_Reset / gsap_Shrink
                                                                          (CodeGSAPInit, CodeGSAPParse)
      parser_buffer.go    ParserBuffer.Write / ReadFrom                   Gen.ParserBuffer_Write (CodePBuf),
                                                                          Gen.ParserBuffer_ReadFrom (CodePBufReadFrom)
  `Write` and `ReadFrom` of a `*gsap` are the PROMOTED methods of the embedded `ParserBuffer` (gsap.go declares `init`,
  `Parse`, `Reset`, `Shrink`, `sort`, `ParserConfig`): `gsap_Write`, `gsap_ReadFrom` below are the translated function on
  the embedded field followed by a record update (three lines each, no logic).  `ReadFrom` is run against the scripted
  reader (`GenBuf.mRead`, `GenHPHist.rfGo`).  `Parse(nil)` is added in GenGSAPHistNil.

  OPAQUE callees of the translation and their specification hypotheses, stated ONCE: `GsapSpecs lcp SS BI`
      lcp  : LcpSpec lcp        (`lcp` of bytes.go = `lcpLen`)
      sort : SortSpec SS        (`suffix.Sort(t, sa)` leaves `saSpec t` as int32 values)
      ins  : InsertSpec BI      (`(*bitset).insert` = `BitsetW.insert`)

  Invariant `HistOKG bc t` on the GENERATED state `t : Gen.gsap`: `ParseOKG t` (hence `SaIdx t` unless `len(sa) = 0`), the
  buffer configuration is `bc`, `len(Data) ≤ BufferSize`, the capacity invariant `CapOK` (only `ReadFrom` needs it).
  `BCOKG bc`: `BufferSize ≤ MaxInt32`, `WindowSize ≤ 2^32 - 8` (what `GSAPConfig.Verify` enforces).
  Model side: the model state is `ofGSAPs t g` for a rank array `g` standing for the same set as the Go bitset
  (`GSim g (ofGW t)`, GsapBits): the relation `RelG bc t m` between Go states and model states.  The per-operation
  lemmas are `WriteRel` / `ReadFromRel` / `ShrinkRel` / `ResetRel` / `ParseRel` (LzProofs/GenHistBuf.lean) of `RelG bc`.

  Results (each for every growth policy of `append`, every state with `HistOKG`):
    gen_gsap_init_parseOK  `gsap.init` on `new(gsap)`, every accepted configuration: the model's fresh parser, `ParseOKG`
    hist_init     … and `HistOKG`, `BCOKG`, `GSim GsapD.empty (ofGW s0)`
    hist_write    `gsap_Write`  = `Parser.write`, keeps `HistOKG` (`SaIdx` survives: `W` fixed, `len(Data)` grows)
    hist_readFrom `gsap_ReadFrom` (translated `ReadFrom`, scripted reader) = `Parser.readFrom`
    hist_shrink   `gsap_Shrink` = `Parser.shrink` (delta = 0: nothing changes; delta > 0: `sa` dropped)
    hist_reset    `gsap_Reset`  = `Parser.reset`  (error: nothing changes; success: `sa` dropped)
    hist_parse    `gsap_Parse`  = `Parser.parse` on states whose model state is REACHABLE (`gen_gsap_parse_model`); the block
                  returned ABSTRACTS (`ofBlock`) to the model's block
  The history-level statements are in LzProofs/GenGSAPHistRun.lean.
-/
import LzProofs.GenGSAPParse
import LzProofs.GenGSAPInit
import LzProofs.GenHPHistRF2

set_option linter.unusedSimpArgs false
set_option linter.unusedVariables false

namespace LZ.GenGSAPHist
open LZ LZ.Gen LZ.GenBuf LZ.GenHash LZ.GenSuffix LZ.GenBitset LZ.GsapBits LZ.GenHPParse LZ.GenParse LZ.GenBUPParse
  LZ.GenProps LZ.GenGSAP
open LZ.GenHPHist (mparse_hist RFun RFSpec)
open LZ.GenHist (WriteRel ReadFromRel ShrinkRel ResetRel ParseRel BufHost)

/-! ## the opaque callees, once -/

/-- the three specification hypotheses on the opaque callees of the translated `gsap.go` -/
structure GsapSpecs (lcp : Slice → Slice → Int) (SS : Slice → GSlice Int32 → Res (GSlice Int32))
    (BI : Gen.bitset → List Int → Res Gen.bitset) : Prop where
  lcp : LcpSpec lcp
  sort : SortSpec SS
  ins : InsertSpec BI

/-! ## the promoted methods -/

/-- `s.Write(p)` for `s *gsap`: `ParserBuffer.Write` on the embedded buffer -/
def gsap_Write (grow : Nat → Nat → Nat) (s : Gen.gsap) (p : Slice) : Res (Gen.gsap × Int × Gen.Err) :=
  Res.bind (ParserBuffer_Write grow s.ParserBuffer p) fun r =>
  Res.ok ({ s with ParserBuffer := r.1 }, r.2.1, r.2.2)

/-- `s.ReadFrom(r)` for `s *gsap`: `ParserBuffer.ReadFrom` on the embedded buffer (`RF` = a rendering of it against the
    scripted reader; `GenHPHist.rfGo extra` is the translated function) -/
def gsap_ReadFrom (RF : RFun) (s : Gen.gsap) (r : Reader) : Res (Gen.gsap × Reader × Int × Gen.Err) :=
  Res.bind (RF s.ParserBuffer r) fun x =>
  Res.ok ({ s with ParserBuffer := x.1 }, x.2.1, x.2.2.1, x.2.2.2)

/-! ## the invariant -/

/-- what `GSAPConfig.Verify` enforces and the proofs below use -/
structure BCOKG (bc : BufCfg) : Prop where
  bmax : bc.bufferSize ≤ 2147483647
  wmax : bc.windowSize ≤ 4294967288

/-- the invariant of a history of translated operations on a Go `gsap` -/
structure HistOKG (bc : BufCfg) (t : Gen.gsap) : Prop where
  pok : ParseOKG t
  cfg : ofCfg t.ParserBuffer.BufConfig = bc
  len : t.ParserBuffer.Data.len ≤ bc.bufferSize
  cap : (ofPB t.ParserBuffer).CapOK

theorem HistOKG.parseOK {bc : BufCfg} {t : Gen.gsap} (h : HistOKG bc t) : ParseOKG t := h.pok

theorem HistOKG.saIdx {bc : BufCfg} {t : Gen.gsap} (h : HistOKG bc t) : t.sa.len = 0 ∨ SaIdx t := h.pok.idx

theorem HistOKG.dataLen {bc : BufCfg} {t : Gen.gsap} (h : HistOKG bc t) :
    (ofPB t.ParserBuffer).data.length = t.ParserBuffer.Data.len := data_length h.pok.pb.data

theorem HistOKG.buf {bc : BufCfg} {t : Gen.gsap} (h : HistOKG bc t) : GenHist.BufOK bc (ofPB t.ParserBuffer) :=
  GenHist.BufOK.ofGo h.pok.pb h.cfg h.pok.w h.len h.cap

theorem histOK_update {bc : BufCfg} (hbc : BCOKG bc) {t : Gen.gsap} (h : HistOKG bc t) (t' : Gen.gsap)
    (hcf : t'.GSAPConfig = t.GSAPConfig) (hpb : PBWF t'.ParserBuffer) (hb : GenHist.BufOK bc (ofPB t'.ParserBuffer))
    (hsa : GWF t'.sa) (hisa : GWF t'.isa) (hbits : BSWF t'.bits)
    (hidx : t'.sa.len = 0 ∨ SaIdx t') :
    HistOKG bc t' := by
  have hdl : (ofPB t'.ParserBuffer).data.length = t'.ParserBuffer.Data.len := data_length hpb.data
  have hw := hb.w
  have hlen := hb.len
  rw [hdl] at hw hlen
  have hc : ofCfg t'.ParserBuffer.BufConfig = ofCfg t.ParserBuffer.BufConfig := hb.cfg.trans h.cfg.symm
  have hws : t'.ParserBuffer.BufConfig.WindowSize.toNat = t.ParserBuffer.BufConfig.WindowSize.toNat :=
    congrArg BufCfg.windowSize hc
  have hbs : t'.ParserBuffer.BufConfig.BlockSize.toNat = t.ParserBuffer.BufConfig.BlockSize.toNat :=
    congrArg BufCfg.blockSize hc
  have hW0 := hpb.w
  have hw' : t'.ParserBuffer.W.toNat ≤ t'.ParserBuffer.Data.len := hw
  have := hbc.bmax
  refine ⟨⟨hpb, hsa, hisa, hbits, ?_, ?_, ?_, ?_, ?_, ?_, ?_, hidx⟩, hb.cfg, hlen, hb.cap⟩
  · rw [hcf, hws]; exact h.pok.cws
  · rw [hcf, hbs]; exact h.pok.cbs
  · rw [hcf]; exact h.pok.bs0
  · rw [hcf]; exact h.pok.ws0
  · rw [hcf]; exact h.pok.mm1
  · omega
  · omega

/-! ## the relation; Write, ReadFrom -/

/-- `HistOKG`, and the Go state abstracts to the model state with SOME rank array that stands for the same set as the Go
    bitset (the bitset determines the rank array only up to that) -/
def RelG (bc : BufCfg) (t : Gen.gsap) (m : Parser) : Prop := HistOKG bc t ∧ ∃ g, GSim g (ofGW t) ∧ ofGSAPs t g = m

def bufHost {bc : BufCfg} (hbc : BCOKG bc) : BufHost bc (RelG bc) where
  pb t := t.ParserBuffer
  setPB t b := { t with ParserBuffer := b }
  get := fun ⟨h, g, _, e⟩ => ⟨h.pok.pb, h.buf, e ▸ rfl⟩
  put := fun b' ⟨h, g, hG, e⟩ hwf hb hW hl =>
    -- `SaIdx` survives: `W` is fixed and `len(Data)` only grows
    ⟨histOK_update hbc h _ rfl hwf hb h.pok.wsa h.pok.wisa h.pok.wbits
      (saIdx_advance h.pok.idx rfl rfl rfl (Nat.le_of_eq hW.symm) (by rw [← h.dataLen, ← data_length hwf.data]; exact hl)), g, hG, e ▸ rfl⟩

theorem hist_write {bc : BufCfg} (hbc : BCOKG bc) (grow : Nat → Nat → Nat) : WriteRel (RelG bc) (gsap_Write grow) :=
  (bufHost hbc).write grow fun _ _ => rfl

theorem hist_readFrom {bc : BufCfg} (hbc : BCOKG bc) (RF : RFun) (hRF : RFSpec RF) :
    ReadFromRel (RelG bc) (gsap_ReadFrom RF) :=
  (bufHost hbc).readFrom RF hRF fun _ _ => rfl

/-! ## Shrink, Reset -/

theorem histOK_same {bc : BufCfg} (hbc : BCOKG bc) {t : Gen.gsap} (h : HistOKG bc t) (s' : Gen.gsap)
    (hcf : s'.GSAPConfig = t.GSAPConfig) (hpb : PBWF s'.ParserBuffer) (hbits : BSWF s'.bits)
    (hb : ofPB s'.ParserBuffer = ofPB t.ParserBuffer) (e1 : s'.sa = t.sa) (e2 : s'.isa = t.isa) (e3 : s'.bits = t.bits) :
    HistOKG bc s' := by
  refine histOK_update hbc h s' hcf hpb (by rw [hb]; exact h.buf) (by rw [e1]; exact h.pok.wsa)
    (by rw [e2]; exact h.pok.wisa) hbits (saIdx_advance h.pok.idx e1 e2 e3 (Nat.le_of_eq (congrArg PBuf.w hb).symm) ?_)
  have h1 : (ofPB s'.ParserBuffer).data.length = s'.ParserBuffer.Data.len := data_length hpb.data
  rw [← h.dataLen, ← h1, hb]
  exact Nat.le_refl _

theorem hist_shrink {bc : BufCfg} (hbc : BCOKG bc) : ShrinkRel (RelG bc) gsap_Shrink := by
  rintro t _ ⟨h, g, hG, rfl⟩
  have hW := h.pok.w
  have hss := h.pok.pb.ss
  obtain ⟨s', hs, hof, hwf, hcf, hbits, hpos, hzero⟩ := gen_gsap_shrink t h.pok.pb h.pok.wbits (by omega)
  by_cases hd : (PBuf.shrink (ofPB t.ParserBuffer)).2 = 0
  · -- nothing was discarded: the rank array stays
    obtain ⟨e1, e2, e3⟩ := hzero hd
    have hb : ofPB s'.ParserBuffer = ofPB t.ParserBuffer := by rw [hof]; exact PBuf.shrink_zero _ hd
    obtain ⟨a, b⟩ := Parser.shrink_lift (P := ofGSAPs t g) (P' := ofGSAPs s' g) rfl (congrArg ofGSAP hcf) hof
      (fun hn => absurd hd hn) (fun _ => rfl)
    refine ⟨s', by rw [b]; exact hs, histOK_same hbc h s' hcf hwf hbits hb e1 e2 e3, g, ?_, a⟩
    have : ofGW s' = ofGW t := by unfold ofGW; rw [e1, e2, e3]
    rw [this]; exact hG
  · obtain ⟨e0, e1, e2, e3, e4⟩ := hpos (by omega)
    obtain ⟨a, b⟩ := Parser.shrink_lift (P := ofGSAPs t g) (P' := ofGSAPs s' GsapD.empty) rfl (congrArg ofGSAP hcf) hof
      (fun _ => rfl) (fun hz => absurd hz hd)
    exact ⟨s', by rw [b]; exact hs,
      histOK_update hbc h s' hcf hwf (by rw [hof]; exact h.buf.shrink) e3 e4 hbits (Or.inl e1), GsapD.empty,
      by rw [e0]; exact ⟨rfl, rfl, BitsSim.clear _ 0⟩, a⟩

/-! ## Reset -/

theorem hist_reset {bc : BufCfg} (hbc : BCOKG bc) : ResetRel (RelG bc) gsap_Reset := by
  rintro t _ data ⟨h, g, hG, rfl⟩ hdat
  obtain ⟨s', e, hs, hof, herr, hwf, hcf, hbits, hok, hbad⟩ := gen_gsap_reset t h.pok.pb h.pok.wbits data hdat
  have hiff := errOfReset_ok herr
  by_cases b0 : e = Gen.Err.ok
  · obtain ⟨e0, e1, e2, e3, e4⟩ := hok b0
    obtain ⟨a, b⟩ := Parser.reset_lift (P := ofGSAPs t g) (P' := ofGSAPs s' GsapD.empty) hiff rfl (congrArg ofGSAP hcf)
      hof (fun _ => rfl) (fun hn => absurd b0 hn)
    exact ⟨s', e, hs,
      ⟨histOK_update hbc h s' hcf hwf (by rw [hof]; exact h.buf.reset _ _ (hiff.mp b0)) e3 e4 hbits (Or.inl e1),
        GsapD.empty, by rw [e0]; exact ⟨rfl, rfl, BitsSim.clear _ 0⟩, a⟩, b ▸ herr⟩
  · -- error: nothing changes
    obtain ⟨e1, e2, e3⟩ := hbad b0
    obtain ⟨a, b⟩ := Parser.reset_lift (P := ofGSAPs t g) (P' := ofGSAPs s' g) hiff rfl (congrArg ofGSAP hcf) hof
      (fun he => absurd he b0) (fun _ => rfl)
    have hb : ofPB s'.ParserBuffer = ofPB t.ParserBuffer :=
      congrArg Parser.buf (a.trans (congrArg Prod.fst (Parser.reset_err fun c => b0 (hiff.mpr c))))
    refine ⟨s', e, hs, ⟨histOK_same hbc h s' hcf hwf hbits hb e1 e2 e3, g, ?_, a⟩, b ▸ herr⟩
    have : ofGW s' = ofGW t := by unfold ofGW; rw [e1, e2, e3]
    rw [this]; exact hG

/-! ## Parse -/

/-- `Parse` on a Go state with `HistOKG` whose model state (with a rank array `g` standing for the Go bitset) is
    REACHABLE from `NewParser`: `gen_gsap_parse_model` applies; all its hypotheses follow from `HistOKG` and the three
    specifications. -/
theorem hist_parse {bc : BufCfg} (hbc : BCOKG bc) (grow : Nat → Nat → Nat) (fuel : Nat)
    {lcp : Slice → Slice → Int} {SS : Slice → GSlice Int32 → Res (GSlice Int32)}
    {BI : Gen.bitset → List Int → Res Gen.bitset} (sp : GsapSpecs lcp SS BI) (hfuel : 2 * bc.bufferSize + 5 ≤ fuel)
    (raw : Cfg) (p0 : Parser) (h0 : newParser .GSAP raw = some p0) :
    ParseRel (RelG bc) (fun m => ∃ mops, m = (runOps (p0, Ghost.init) mops).1) (gsap_Parse grow fuel lcp SS BI) := by
  rintro t _ blk flags ⟨h, g, hG, rfl⟩ ⟨mops, hreach⟩ hfl
  have hfuel : 2 * t.ParserBuffer.Data.len + 5 ≤ fuel := by have := h.len; omega
  have hmm : (ofGSAPs t g).minMatch = t.GSAPConfig.MinMatchLen.toNat := rfl
  have hmm1 : 1 ≤ (ofGSAPs t g).minMatch := by rw [hmm]; have := h.pok.mm1; omega
  have hnot : ∀ o, (ofGSAPs t g).dict ≠ .osap o := by intro o ho; cases ho
  obtain ⟨-, f2, herr, f4⟩ := mparse_hist (ofGSAPs t g) flags.toNat (bc := bc) h.buf hmm1 hnot
    (by have := hbc.bmax; omega) hbc.wmax
  obtain ⟨t', blk', g', h1, h2, h3, h5, h6, h7, h8⟩ :=
    gen_gsap_parse_model grow fuel lcp sp.lcp SS sp.sort BI sp.ins t blk flags g h.pok hfl hfuel hG raw p0 h0 mops hreach
  refine ⟨t', blk', h1, ⟨?_, g', h3, h2.symm⟩, f4 blk' h5 h6, h7, herr⟩
  rw [h2] at f2
  have hb : GenHist.BufOK bc (ofPB t'.ParserBuffer) := f2
  exact ⟨h8, hb.cfg, by rw [← data_length h8.pb.data]; exact hb.len, hb.cap⟩

/-! ## init -/

theorem verify_facts (c : Gen.GSAPConfig) (h : GSAPConfig_Verify c = Gen.Err.ok) :
    BufConfig_Verify ⟨c.ShrinkSize, c.BufferSize, c.WindowSize, c.BlockSize⟩ = Gen.Err.ok ∧ 2 ≤ c.MinMatchLen ∧
      c.MinMatchLen ≤ c.WindowSize ∧ c.WindowSize ≤ 2147483647 ∧ c.BufferSize ≤ 2147483647 := by
  -- through the tie `gen_verify_GSAP` and the model's `verify`: the text of `GSAPConfig.Verify` is not looked at here
  have hv := (gen_verify_GSAP c).mp h
  simp only [verify, Bool.and_eq_true, decide_eq_true_eq] at hv
  obtain ⟨⟨⟨⟨hb, hm2⟩, hmw⟩, hw⟩, hbuf⟩ := hv
  exact ⟨(gen_bufVerify _).mpr hb, hm2, hmw, hw, hbuf⟩

theorem sd_buf (cfg : Gen.GSAPConfig) :
    (⟨(GSAPConfig_SetDefaults cfg).ShrinkSize, (GSAPConfig_SetDefaults cfg).BufferSize,
      (GSAPConfig_SetDefaults cfg).WindowSize, (GSAPConfig_SetDefaults cfg).BlockSize⟩ : Gen.BufConfig) =
    BufConfig_SetDefaults ⟨cfg.ShrinkSize, cfg.BufferSize, cfg.WindowSize, cfg.BlockSize⟩ := by
  simp only [GSAPConfig_SetDefaults]
  split <;> rfl

theorem bswf_default : BSWF (default : Gen.gsap).bits := by
  unfold BSWF GWF; exact ⟨Nat.le_refl _, Int.le_refl _⟩

/-- `gsap.init(cfg)` on `new(gsap)`, configuration accepted -/
theorem init_ok (cfg : Gen.GSAPConfig) (hv : GSAPConfig_Verify (GSAPConfig_SetDefaults cfg) = Gen.Err.ok) :
    ∃ s', gsap_init default cfg = Res.ok (s', Gen.Err.ok) ∧
      ofPB s'.ParserBuffer = PBuf.init (ofGSAP (GSAPConfig_SetDefaults cfg)).bufCfg ∧ PBWF s'.ParserBuffer ∧
      s'.GSAPConfig = GSAPConfig_SetDefaults cfg ∧ s'.sa.len = 0 ∧ GWF s'.sa ∧ GWF s'.isa ∧ BSWF s'.bits ∧
      GSim GsapD.empty (ofGW s') := by
  obtain ⟨hvb, -⟩ := verify_facts _ hv
  rw [sd_buf] at hvb
  obtain ⟨-, hgood⟩ := gen_gsap_init default bswf_default cfg
  obtain ⟨b', hof, hwf, -, hok⟩ := hgood hvb
  obtain ⟨s', h1, h2, h3, h4, h5, h6, h7, h8, h9⟩ := hok hv
  refine ⟨s', h1, ?_, by rw [h2]; exact hwf, h3, h5, h7, h8, h9, ?_⟩
  · rw [h2, hof, ← sd_buf]; rfl
  · rw [h4]; exact ⟨rfl, rfl, BitsSim.clear _ 0⟩

/-- `gsap.init(cfg)` on `new(gsap)`, configuration rejected: an error is returned -/
theorem init_bad (cfg : Gen.GSAPConfig) (hv : GSAPConfig_Verify (GSAPConfig_SetDefaults cfg) ≠ Gen.Err.ok) :
    ∃ s' e, gsap_init default cfg = Res.ok (s', e) ∧ e ≠ Gen.Err.ok := by
  obtain ⟨hbad, hgood⟩ := gen_gsap_init default bswf_default cfg
  by_cases hvb : BufConfig_Verify (BufConfig_SetDefaults ⟨cfg.ShrinkSize, cfg.BufferSize, cfg.WindowSize, cfg.BlockSize⟩)
      = Gen.Err.ok
  · obtain ⟨b', -, -, hne, -⟩ := hgood hvb
    exact ⟨_, _, hne hv, hv⟩
  · exact ⟨_, _, hbad hvb, hvb⟩

theorem init_parseOK_aux (c' : Gen.GSAPConfig) (hv : GSAPConfig_Verify c' = Gen.Err.ok) (s' : Gen.gsap)
    (hof : ofPB s'.ParserBuffer = PBuf.init (ofGSAP c').bufCfg) (hwf : PBWF s'.ParserBuffer)
    (hcf : s'.GSAPConfig = c') (hsa : s'.sa.len = 0) (wsa : GWF s'.sa) (wisa : GWF s'.isa) (wbits : BSWF s'.bits) :
    ParseOKG s' ∧ BCOKG (ofGSAP c').bufCfg ∧ HistOKG (ofGSAP c').bufCfg s' := by
  obtain ⟨hvb, m2, mw, wmax, bmax⟩ := verify_facts _ hv
  have hbv := (gen_bufVerify _).mp hvb
  rw [bufVerify_iff] at hbv
  obtain ⟨⟨b1, b2⟩, ⟨s1, s2⟩, ⟨w1, w2⟩, ⟨l1, l2⟩⟩ := hbv
  simp only [ofBuf] at b1 b2 s1 s2 w1 w2 l1 l2
  have hws : s'.ParserBuffer.BufConfig.WindowSize.toNat = c'.WindowSize.toNat :=
    congrArg (fun b => b.cfg.windowSize) hof
  have hbl : s'.ParserBuffer.BufConfig.BlockSize.toNat = c'.BlockSize.toNat :=
    congrArg (fun b => b.cfg.blockSize) hof
  have hw : s'.ParserBuffer.W.toNat = 0 := congrArg PBuf.w hof
  have hd : s'.ParserBuffer.Data.data = [] := congrArg PBuf.data hof
  have hlen : s'.ParserBuffer.Data.len = 0 := by
    have := data_length hwf.data
    rw [hd] at this; exact this.symm
  have hP : ParseOKG s' :=
    ⟨hwf, wsa, wisa, wbits, by rw [hcf, hws], by rw [hcf, hbl], by rw [hcf]; omega, by rw [hcf]; omega,
      by rw [hcf]; omega, by rw [hlen]; omega, by rw [hlen]; omega, Or.inl hsa⟩
  refine ⟨hP, ⟨?_, ?_⟩, hP, ?_, ?_, ?_⟩
  · show c'.BufferSize.toNat ≤ _; omega
  · show c'.WindowSize.toNat ≤ _; omega
  · exact congrArg PBuf.cfg hof
  · rw [hlen]; exact Nat.zero_le _
  · left; exact congrArg PBuf.data hof

/-- For EVERY configuration the model's `NewParser` accepts, the translated `gsap.init` on
    `new(gsap)` returns `nil`, the Go state abstracts to the model's fresh parser (with the empty rank array, which
    stands for the cleared Go bitset), and the bundle `ParseOKG` holds. -/
theorem gen_gsap_init_parseOK (raw : Cfg) (p : Parser) (hp : newParser .GSAP raw = some p) :
    ∃ s', gsap_init default (toGSAP raw) = Res.ok (s', Gen.Err.ok) ∧ ofGSAPs s' GsapD.empty = p ∧
      GSim GsapD.empty (ofGW s') ∧ ParseOKG s' := by
  rcases tieGSAP.newParser_cases raw with ⟨-, hn⟩ | ⟨hv, -, hn⟩
  · rw [hn] at hp; cases hp
  · rw [hn] at hp
    simp only [Option.some.injEq] at hp
    obtain ⟨s', h1, h2, h3, h4, h5, h6, h7, h8, h9⟩ := init_ok (toGSAP raw) hv
    refine ⟨s', h1, ?_, h9, (init_parseOK_aux _ hv s' h2 h3 h4 h5 h6 h7 h8).1⟩
    rw [← hp]
    show ({ kind := .GSAP, cfg := ofGSAP s'.GSAPConfig, buf := ofPB s'.ParserBuffer, dict := .gsap GsapD.empty } : Parser) = _
    rw [h2, h4]
    rfl

/-- `gsap.init(cfg)` on `new(gsap)`: if it returns `nil`, the configuration is one the model's `NewParser` accepts, the
    Go state abstracts to the model's fresh parser, and `HistOKG` holds for its buffer configuration -/
theorem hist_init (cfg : Gen.GSAPConfig) (s0 : Gen.gsap)
    (hinit : gsap_init default cfg = Res.ok (s0, Gen.Err.ok)) :
    ∃ p, newParser .GSAP (ofGSAP cfg) = some p ∧ ofGSAPs s0 GsapD.empty = p ∧ GSim GsapD.empty (ofGW s0) ∧
      BCOKG p.buf.cfg ∧ HistOKG p.buf.cfg s0 := by
  by_cases hv : GSAPConfig_Verify (GSAPConfig_SetDefaults cfg) = Gen.Err.ok
  · obtain ⟨s', h1, h2, h3, h4, h5, h6, h7, h8, h9⟩ := init_ok cfg hv
    rw [hinit] at h1
    injection h1 with h1
    injection h1 with h1 _
    subst h1
    obtain ⟨a1, a2, a3⟩ := init_parseOK_aux _ hv s0 h2 h3 h4 h5 h6 h7 h8
    refine ⟨_, ?_, rfl, h9, ?_, ?_⟩
    · rcases tieGSAP.newParser_cases (ofGSAP cfg) with ⟨hbad, -⟩ | ⟨-, -, hn⟩
      · rw [toGSAP_ofGSAP] at hbad; exact absurd hv hbad
      · rw [hn, toGSAP_ofGSAP]
        show _ = some ({ kind := .GSAP, cfg := ofGSAP s0.GSAPConfig, buf := ofPB s0.ParserBuffer, dict := .gsap GsapD.empty } : Parser)
        rw [h2, h4]
        rfl
    · show BCOKG (ofPB s0.ParserBuffer).cfg
      rw [h2]; exact a2
    · show HistOKG (ofPB s0.ParserBuffer).cfg s0
      rw [h2]; exact a3
  · obtain ⟨s', e, h1, h2⟩ := init_bad cfg hv
    rw [hinit] at h1
    injection h1 with h1
    injection h1 with _ h1
    exact absurd h1.symm h2

end LZ.GenGSAPHist

#print axioms LZ.GenGSAPHist.hist_write
#print axioms LZ.GenGSAPHist.hist_readFrom
#print axioms LZ.GenGSAPHist.hist_shrink
#print axioms LZ.GenGSAPHist.hist_reset
#print axioms LZ.GenGSAPHist.hist_parse
#print axioms LZ.GenGSAPHist.gen_gsap_init_parseOK
#print axioms LZ.GenGSAPHist.hist_init
