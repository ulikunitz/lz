/-
  LzProofs.GenBUPHist — `ParseOKU` (GenBUPParse) as an INVARIANT of the translated operations of the bucket parser BUP,
  operation by operation (as LzProofs/GenHPHist.lean does for HP).  No sorry, no axioms of its own.

  Subject: the functions `tools/extract` regenerates from the Go text
      bup.go             bucketParser.init / Parse            Gen.bucketParser_init / _Parse   (CodeBucketInit, CodeBUPParse)
      bucket_hash.go     bucketDictionary.Reset               Gen.bucketDictionary_Reset       (CodeBucketDict)
      parser_buffer.go   ParserBuffer.Write / ReadFrom        Gen.ParserBuffer_Write / _ReadFrom (CodePBuf, CodePBufReadFrom)
  `Write`, `ReadFrom`, `Reset` of a `*bucketParser` are the PROMOTED methods of the embedded `bucketDictionary` /
  `ParserBuffer` (bup.go declares only `init`, `Parse`, `ParserConfig`): `bup_Write`, `bup_ReadFrom`, `bup_Reset` below
  are the translated function on the embedded field followed by a record update.
  `bucketDictionary.Shrink` is not an operation here: LzProofs/GenBUPShrink.lean (its callee `bucketHash.shiftOffsets`
  writes through sub-slices that alias the table and is opaque).  `lcp` (bytes.go) is an opaque callee of the translated `Parse`
  under `LcpSpec lcp` (GenBUPParseLemmas), an explicit hypothesis of everything that runs `Parse`.

  Invariant `HistOKU bc t` on the GENERATED state `t : Gen.bucketParser`: `ParseOKU t`, the buffer configuration is
  `bc`, `len(Data) ≤ BufferSize`, the capacity invariant `CapOK` (empty or 7 spare bytes), `InputLen ≤ 8`.
  `BCOK bc` (GenHPHist): `BufferSize, WindowSize ≤ 2^32 - 8` (what `BufConfig.Verify` enforces).

  Results (each for every growth policy of `append`, every state with `HistOKU`; stated as `WriteRel` / `ResetRel` /
  `ReadFromRel` / `ParseRel` (LzProofs/GenHistBuf.lean) of the relation `FRel (HistOKU bc) ofBUPs`):
    hist_write     `bup_Write` does not panic, returns the model's `(n, err)`, abstracts to `Parser.write`, keeps `HistOKU`
    hist_reset     `bup_Reset`  …  `Parser.reset`     for every Go slice `data` (`len ≤ cap`)
    hist_readFrom  `bup_ReadFrom RF` … `Parser.readFrom` for every `RF` with `GenHPHist.RFSpec RF` — in particular the
                   TRANSLATED `ReadFrom` run against the scripted reader, `GenHPHist.rfGo extra` (`rfGo_spec`)
    hist_parse     `bucketParser_Parse` … `Parser.parse` for `flags ≥ 0`, `fuel ≥ len(Data) + 3`, `LcpSpec lcp`; the block
                   returned ABSTRACTS (`ofBlock`) to the model's block
    hist_init      `bucketParser.init` on `new(bucketParser)` with an accepted configuration establishes `HistOKU`
  A remark on the tie: the conclusion of `gen_bup_reset` (GenHashPropsDict2) speaks about the ABSTRACTION of the new
  dictionary and `BDictWF` only; `gen_bup_parse` needs `BOK` and the stored `mask` of the Go table as well, and the mask
  is not part of the abstraction.  `bdict_reset_frame` below supplies them from the translated text of `Reset`
  (the table after `Reset` is the old one or the old one with both slices `clear`ed); with it no hypothesis of a
  per-function theorem is left that `HistOKU` does not imply.
  The history-level statements are in LzProofs/GenBUPHistRun.lean.
-/
import LzProofs.GenBUPHistInit
import LzProofs.GenHPHistRF2

set_option linter.unusedSimpArgs false
set_option linter.unusedVariables false

namespace LZ.GenBUPHist
open LZ LZ.Gen LZ.GenBuf LZ.GenHash LZ.GenHPParse LZ.GenBUPParse LZ.GenProps
open LZ.GenHPHist (BCOK mparse_hist RFun RFSpec rfGo_spec)
open LZ.GenHist (FRel WriteRel ReadFromRel ParseRel ResetRel BufHost)

/-! ## the promoted methods -/

/-- `s.Write(p)` for `s *bucketParser`: `ParserBuffer.Write` on the embedded buffer -/
def bup_Write (grow : Nat → Nat → Nat) (s : Gen.bucketParser) (p : Slice) : Res (Gen.bucketParser × Int × Gen.Err) :=
  Res.bind (ParserBuffer_Write grow s.bucketDictionary.ParserBuffer p) fun r =>
  Res.ok ({ s with bucketDictionary := { s.bucketDictionary with ParserBuffer := r.1 } }, r.2.1, r.2.2)

/-- `s.Reset(data)` for `s *bucketParser`: `bucketDictionary.Reset` on the embedded dictionary -/
def bup_Reset (s : Gen.bucketParser) (data : Slice) : Res (Gen.bucketParser × Gen.Err) :=
  Res.bind (bucketDictionary_Reset s.bucketDictionary data) fun r =>
  Res.ok ({ s with bucketDictionary := r.1 }, r.2)

/-- `s.ReadFrom(r)` for `s *bucketParser`: promoted from the embedded `ParserBuffer`; `RF` is (a rendering of)
    `(*ParserBuffer).ReadFrom`, e.g. the translated function against the scripted reader `GenHPHist.rfGo extra` -/
def bup_ReadFrom (RF : RFun) (s : Gen.bucketParser) (r : Reader) : Res (Gen.bucketParser × Reader × Int × Gen.Err) :=
  Res.bind (RF s.bucketDictionary.ParserBuffer r) fun x =>
  Res.ok ({ s with bucketDictionary := { s.bucketDictionary with ParserBuffer := x.1 } }, x.2.1, x.2.2.1, x.2.2.2)

/-! ## the invariant -/

structure HistOKU (bc : BufCfg) (t : Gen.bucketParser) : Prop where
  pok : ParseOKU t
  cfg : ofCfg t.bucketDictionary.ParserBuffer.BufConfig = bc
  len : t.bucketDictionary.ParserBuffer.Data.len ≤ bc.bufferSize
  cap : (ofPB t.bucketDictionary.ParserBuffer).CapOK
  il8 : t.BUPConfig.InputLen.toNat ≤ 8

theorem HistOKU.buf {bc : BufCfg} {t : Gen.bucketParser} (h : HistOKU bc t) : GenHist.BufOK bc (ofBUPs t).buf :=
  GenHist.BufOK.ofGo h.pok.wf.1 h.cfg h.pok.w h.len h.cap

/-- the bounds on `InputLen` as the model's parsers ask for them -/
theorem HistOKU.dictOK {bc : BufCfg} {t : Gen.bucketParser} (h : HistOKU bc t) :
    ProbeW.HashDictOK (ofBUPs t).dict ∧ 1 ≤ (ofBUPs t).minMatch ∧ (ofBUPs t).minMatch ≤ 8 := by
  have hil1 := h.pok.il1
  have hcil := h.pok.cil
  have hil8 := h.il8
  show (1 ≤ t.bucketDictionary.bucketHash.inputLen.toNat ∧ t.bucketDictionary.bucketHash.inputLen.toNat ≤ 8) ∧
    1 ≤ Min.min 3 t.BUPConfig.InputLen.toNat ∧ Min.min 3 t.BUPConfig.InputLen.toNat ≤ 8
  omega

/-- `HistOKU` after an operation that replaced the embedded dictionary: what has to be known about the new one -/
theorem histOKU_update {bc : BufCfg} (hbc : BCOK bc) {t : Gen.bucketParser} (h : HistOKU bc t)
    (f' : Gen.bucketDictionary) (hpb : PBWF f'.ParserBuffer) (hbok : BOK f'.bucketHash)
    (hsc : SameCfg t.bucketDictionary.bucketHash f'.bucketHash)
    (hcfg : (ofPB f'.ParserBuffer).cfg = bc)
    (hw : (ofPB f'.ParserBuffer).w ≤ (ofPB f'.ParserBuffer).data.length)
    (hlen : (ofPB f'.ParserBuffer).data.length ≤ bc.bufferSize)
    (hcap : (ofPB f'.ParserBuffer).CapOK) :
    HistOKU bc { t with bucketDictionary := f' } := by
  have hdl : (ofPB f'.ParserBuffer).data.length = f'.ParserBuffer.Data.len := data_length hpb.data
  rw [hdl] at hw hlen
  obtain ⟨hm, hs, hi, hb⟩ := hsc
  have hc : ofCfg f'.ParserBuffer.BufConfig = ofCfg t.bucketDictionary.ParserBuffer.BufConfig := hcfg.trans h.cfg.symm
  have hW0 := hpb.w
  have hw' : f'.ParserBuffer.W.toNat ≤ f'.ParserBuffer.Data.len := hw
  have := hbc.bmax
  exact ⟨⟨⟨hpb, hbok.gwf, hbok.swf⟩, hbok, h.pok.cws.trans (congrArg BufCfg.windowSize hc).symm,
    h.pok.cbs.trans (congrArg BufCfg.blockSize hc).symm, hi ▸ h.pok.cil, h.pok.bs0, h.pok.ws0,
    by show f'.ParserBuffer.W ≤ (f'.ParserBuffer.Data.len : Int); omega, hi ▸ h.pok.il1, hm ▸ hi ▸ h.pok.mask,
    hs ▸ h.pok.sh, hs ▸ h.pok.sh2, by show f'.ParserBuffer.Data.len < 4294967296; omega⟩, hcfg, hlen, hcap, h.il8⟩

/-- the Go state holds its `ParserBuffer` inside the embedded dictionary; the bucket table does not depend on it -/
def bufHost {bc : BufCfg} (hbc : BCOK bc) : BufHost bc (FRel (HistOKU bc) ofBUPs) where
  pb t := t.bucketDictionary.ParserBuffer
  setPB t b := { t with bucketDictionary := { t.bucketDictionary with ParserBuffer := b } }
  get := fun ⟨h, e⟩ => ⟨h.pok.wf.1, h.buf, e ▸ rfl⟩
  put := fun {t m} b' ⟨h, e⟩ hpb hb _ _ =>
    ⟨histOKU_update hbc h { t.bucketDictionary with ParserBuffer := b' } hpb h.pok.bok (SameCfg.refl _) hb.cfg hb.w
      hb.len hb.cap, e ▸ rfl⟩

/-! ## Write, ReadFrom -/

theorem hist_write {bc : BufCfg} (hbc : BCOK bc) (grow : Nat → Nat → Nat) :
    WriteRel (FRel (HistOKU bc) ofBUPs) (bup_Write grow) :=
  (bufHost hbc).write grow fun _ _ => rfl

theorem hist_readFrom {bc : BufCfg} (hbc : BCOK bc) (RF : RFun) (hRF : RFSpec RF) :
    ReadFromRel (FRel (HistOKU bc) ofBUPs) (bup_ReadFrom RF) :=
  (bufHost hbc).readFrom RF hRF fun _ _ => rfl

/-! ## Reset -/

theorem bclear_getD (s : Slice) (hs : SWF s) (h : Nat) (hh : h < s.len) : (Slice.clear s).arr.getD h 0 = 0 := by
  have hs' : s.len ≤ s.arr.length := hs
  unfold Slice.clear
  have hm : Min.min s.len s.arr.length = s.len := by omega
  simp only [hm]
  rw [List.getD_eq_getElem?_getD, List.getElem?_append_left (by rw [List.length_replicate]; exact hh),
    List.getElem?_replicate, if_pos hh]
  rfl

/-- `BOK` and the scalar fields after `bucketHash.reset`'s two `clear`s -/
theorem bok_clear (g : Gen.bucketHash) (hb : BOK g) :
    BOK { g with buckets := GSlice.clear ({ pos := 0, val := 0 } : bucketEntry) g.buckets, indexes := Slice.clear g.indexes } := by
  obtain ⟨hgwf, hswf, hbs1, hbs2, hil, hbl, hring⟩ := hb
  refine ⟨gclear_wf _ _ hgwf, bclear_wf _ hswf, hbs1, hbs2, ?_, ?_, ?_⟩
  · show (Slice.clear g.indexes).len = _
    rw [bclear_len]; exact hil
  · show (GSlice.clear _ g.buckets).len = _
    rw [gclear_len]; exact hbl
  · intro h hh
    have hh' : h < g.indexes.len := by rw [← bclear_len g.indexes]; exact hh
    show ((Slice.clear g.indexes).arr.getD h 0).toNat < g.bucketSize.toNat
    rw [bclear_getD g.indexes hswf h hh']
    show 0 < g.bucketSize.toNat
    omega

/-- what the TRANSLATED `bucketDictionary.Reset` does to the Go table beyond its abstraction: the table invariant
    `BOK` is kept and the scalar fields (`mask`, `shift`, `inputLen`, `bucketSize`) are not written -/
theorem bdict_reset_frame (f f' : Gen.bucketDictionary) (data : Slice) (e : Gen.Err)
    (h : bucketDictionary_Reset f data = Res.ok (f', e)) (hb : BOK f.bucketHash) :
    BOK f'.bucketHash ∧ SameCfg f.bucketHash f'.bucketHash := by
  unfold bucketDictionary_Reset at h
  cases hr : ParserBuffer_Reset f.ParserBuffer data with
  | ok v =>
    rw [hr] at h
    simp only [bind_ok] at h
    split at h
    · injection h with h
      injection h with h1 _
      subst h1
      exact ⟨hb, SameCfg.refl _⟩
    · unfold bucketHash_reset at h
      simp only [bind_ok] at h
      injection h with h
      injection h with h1 _
      subst h1
      exact ⟨bok_clear _ hb, ⟨rfl, rfl, rfl, rfl⟩⟩
  | panic => rw [hr] at h; cases h
  | fuel => rw [hr] at h; cases h

theorem hist_reset {bc : BufCfg} (hbc : BCOK bc) : ResetRel (FRel (HistOKU bc) ofBUPs) bup_Reset := by
  rintro t _ data ⟨h, rfl⟩ hdat
  obtain ⟨f', e, hf, hof, herr, hwf⟩ := gen_bup_reset (ofBUP t.BUPConfig) t.bucketDictionary h.pok.wf data hdat
  obtain ⟨hbok', hsc'⟩ := bdict_reset_frame _ _ _ _ hf h.pok.bok
  unfold bup_Reset
  rw [hf]
  refine ⟨_, e, rfl, ⟨?_, hof⟩, herr⟩
  have hb : GenHist.BufOK bc (ofPB f'.ParserBuffer) := by
    rw [show ofPB f'.ParserBuffer = _ from congrArg Parser.buf hof]; exact h.buf.preset _ _
  exact histOKU_update hbc h f' hwf.1 hbok' hsc' hb.cfg hb.w hb.len hb.cap

/-! ## Parse -/

theorem hist_parse {bc : BufCfg} (hbc : BCOK bc) (grow : Nat → Nat → Nat) (fuel : Nat) (lcp : Slice → Slice → Int)
    (hlcp : LcpSpec lcp) (hfuel : bc.bufferSize + 3 ≤ fuel) :
    ParseRel (FRel (HistOKU bc) ofBUPs) (fun _ => True) (bucketParser_Parse grow fuel lcp) := by
  rintro t _ blk flags ⟨h, rfl⟩ - hfl
  have hfuel : t.bucketDictionary.ParserBuffer.Data.len + 3 ≤ fuel := Nat.le_trans (Nat.add_le_add_right h.len 3) hfuel
  obtain ⟨hd, hm1, hm8⟩ := h.dictOK
  have hW := ProbeW.parseW_eq (ofBUPs t) (staleOfU t) flags.toNat h.buf.w h.pok.backing h.cap hd hm8
  have hnot : ∀ o, (ofBUPs t).dict ≠ .osap o := by intro o ho; cases ho
  obtain ⟨f1, f2, -, f4⟩ := mparse_hist (ofBUPs t) flags.toNat h.buf hm1 hnot hbc.bmax hbc.wmax
  have hm := gen_bup_parse grow fuel lcp hlcp t blk flags h.pok hfl hfuel
  rw [hW] at hm
  generalize (ofBUPs t).parse flags.toNat = R at hm f1 f2 f4 ⊢
  obtain ⟨t', blk', h1, h2, h3, h4, h5, h6, h7, h8⟩ := hm
  refine ⟨t', blk', h1, ⟨?_, h2⟩, f4 blk' h5 h6, h7, h4⟩
  rw [← h2] at f1 f2
  have hHP : t'.BUPConfig = t.BUPConfig := by
    have := congrArg toBUP (show ofBUP t'.BUPConfig = ofBUP t.BUPConfig from f1)
    rw [toBUP_ofBUP, toBUP_ofBUP] at this; exact this
  have hb : GenHist.BufOK bc (ofPB t'.bucketDictionary.ParserBuffer) := f2
  exact ⟨h8, hb.cfg, by rw [← data_length h8.wf.1.data]; exact hb.len, hb.cap, by rw [hHP]; exact h.il8⟩

/-! ## init -/

/-- `bucketParser.init(cfg)` on `new(bucketParser)`: if it returns `nil`, the configuration is one the model's
    `NewParser` accepts, the Go state abstracts to the model's fresh parser, and `HistOKU` holds for its buffer
    configuration -/
theorem hist_init (cfg : Gen.BUPConfig) (s0 : Gen.bucketParser)
    (hinit : bucketParser_init default cfg = Res.ok (s0, Gen.Err.ok)) :
    ∃ p, newParser .BUP (ofBUP cfg) = some p ∧ ofBUPs s0 = p ∧ BCOK p.buf.cfg ∧ HistOKU p.buf.cfg s0 := by
  obtain ⟨p, hp, h2, h3⟩ := gen_bup_init_go cfg s0 hinit
  refine ⟨p, hp, h2, ?_⟩
  obtain ⟨hBC, c, hv, hcf', hbuf', -⟩ := GenHPHist.newParser_fresh .BUP _ _ hp
  have hil8 := (verify_hash_bounds (.inr (.inr rfl)) hv).2.1
  have hbuf : (ofBUPs s0).buf = PBuf.init c.bufCfg := by rw [h2]; exact hbuf'
  have hpb : p.buf.cfg = c.bufCfg := by rw [hbuf']; rfl
  have hI : s0.BUPConfig.InputLen = c.inputLen := congrArg Cfg.inputLen (show (ofBUPs s0).cfg = c by rw [h2]; exact hcf')
  refine ⟨hBC, h3, ?_, ?_, ?_, ?_⟩
  · rw [hpb]; exact congrArg PBuf.cfg hbuf
  · rw [(fresh_pbuf (cap := 0) h3.wf.1 hbuf).2.2.2]; exact Nat.zero_le _
  · left; exact congrArg PBuf.data hbuf
  · rw [hI]; omega

end LZ.GenBUPHist

#print axioms LZ.GenBUPHist.bdict_reset_frame
#print axioms LZ.GenBUPHist.hist_write
#print axioms LZ.GenBUPHist.hist_reset
#print axioms LZ.GenBUPHist.hist_readFrom
#print axioms LZ.GenBUPHist.hist_parse
#print axioms LZ.GenBUPHist.hist_init
