/-
  LzProofs.WrapProps — the buffer-determined part of C08 for `Wrapped.parse`
  (model of `WrappedParser.Parse`, wrap.go).

  The only assumption about the parsers is `ParseSpec I`: with unparsed data in the buffer
  `Parser.parse` moves `W` forward, not beyond the data, and keeps a parser invariant `I` of
  the prover's choice.  Everything else about `Parser.parse` that is used here is read off one
  equation (`Parser.parse_eq_core`, LzProofs/ParserFacts.lean): frame, `ErrEmptyBuffer` iff nothing to parse, no
  panic thanks to the 7-byte margin, `n = W' - W`, independence of the capacity.

  `ParseSpec` is discharged in LzProofs/WrapInst.lean (`parseSpec_greedy`, the six greedy kinds)
  and LzProofs/WrapAll.lean (`parseSpec_all`, all seven).

  Statements about readers are made for a class `R` of readers that is `Truthful`
  (LzProofs/PBufLemmas.lean); `FillR` is such a class, `TruthR` (LzProofs/WrapAllEof.lean) another.
-/
import LzProofs.ParserFacts
namespace LZ
open PBuf

/-! ## the assumption about the parsers -/

/-- What the Wrap theorems assume about `Parser.parse` (to be discharged by the parser proofs), for
    a parser invariant `I` (e.g. well-formedness of the dictionary relative to the buffer):
    with unparsed data in the buffer, `Parse` moves `W` forward by at least one byte and not beyond
    the data; `I` is kept by `Parse`, `Shrink` and `ReadFrom`.
    Together with the lemmas above this means: `Parse` returns `ErrEmptyBuffer` iff `W = len(Data)`,
    otherwise `nil` with `1 ≤ n`, `W' = W + n ≤ len(Data)`, and it never changes `Data`. -/
structure ParseSpec (I : Parser → Prop) : Prop where
  progress : ∀ s flags, I s → BufOK s.buf → s.buf.w < s.buf.data.length →
    s.buf.w < (s.parse flags).1.buf.w ∧ (s.parse flags).1.buf.w ≤ s.buf.data.length
  inv_parse : ∀ s flags, I s → BufOK s.buf → I (s.parse flags).1
  inv_shrink : ∀ s, I s → BufOK s.buf → I s.shrink.1
  inv_readFrom : ∀ s r, I s → BufOK s.buf → I (s.readFrom r).1

/-- If progress of `Parse` is known for all dictionaries, no parser invariant is needed beyond
    `1 ≤ BlockSize`. -/
theorem ParseSpec.of_progress
    (h : ∀ (s : Parser) flags, 1 ≤ s.buf.cfg.blockSize → BufOK s.buf →
      s.buf.w < s.buf.data.length →
      s.buf.w < (s.parse flags).1.buf.w ∧ (s.parse flags).1.buf.w ≤ s.buf.data.length) :
    ParseSpec (fun s => 1 ≤ s.buf.cfg.blockSize) where
  progress := h
  inv_parse := by
    intro s flags hI _
    rw [Parser.parse_frame]; exact hI
  inv_shrink := by
    intro s hI _
    rw [Parser.shrink_buf, PBuf.shrink_spec]; exact hI
  inv_readFrom := by
    intro s r hI hb
    rw [(Parser.readFrom_buf s r).1]
    obtain ⟨fed, hp⟩ := (bufOK_iff _).1 hb
    obtain ⟨-, -, -, -, -, h6, -⟩ := C15_readFrom hp r (b' := (s.buf.readFrom r).1)
      (r' := (s.buf.readFrom r).2.1) (n := (s.buf.readFrom r).2.2.1)
      (e := (s.buf.readFrom r).2.2.2) rfl
    rw [h6]; exact hI

theorem Parser.parse_cases {I : Parser → Prop} (hP : ParseSpec I) (s : Parser) (flags : Nat)
    (hI : I s) (hb : BufOK s.buf) :
    (s.buf.w = s.buf.data.length ∧ s.parse flags = (s, 0, .empty, ⟨[], []⟩)) ∨
    (s.buf.w < s.buf.data.length ∧ (s.parse flags).2.2.1 = .ok ∧ 1 ≤ (s.parse flags).2.1 ∧
      (s.parse flags).1.buf = { s.buf with w := s.buf.w + (s.parse flags).2.1 } ∧
      s.buf.w + (s.parse flags).2.1 ≤ s.buf.data.length ∧ I (s.parse flags).1) := by
  by_cases hw : s.buf.w < s.buf.data.length
  · right
    obtain ⟨p1, p2⟩ := hP.progress s flags hI hb hw
    have hn : s.blockN ≠ 0 := by
      intro h0
      rw [Parser.parse_empty s flags h0] at p1
      simp at p1
    have hok := Parser.parse_ok s flags hb hn
    have hnn := Parser.parse_n s flags hok
    refine ⟨hw, hok, by omega, ?_, by omega, hP.inv_parse s flags hI hb⟩
    have hw' : (s.parse flags).1.buf.w = s.buf.w + (s.parse flags).2.1 := by omega
    rw [Parser.parse_frame s flags, ← hw']
  · left
    have : s.buf.w = s.buf.data.length := by have := hb.1; omega
    exact ⟨this, Parser.parse_empty s flags (Parser.blockN_zero_of_w s (Nat.le_of_eq this.symm))⟩

/-! ## the refill step at buffer level: `Shrink` then `ReadFrom` on a completely parsed buffer -/

/-- `e` is what the reader said last: `io.EOF` because the script of the model reader is exhausted,
    or the report `ec ≠ 0` of the last consumed response (a response with a nil error, also
    `(0, nil)`, never ends `ReadFrom`). -/
def ReaderSaid (r r' : Reader) (e : Err) : Prop :=
  (e = .eof ∧ r'.resps = []) ∨
  (∃ j mx ec, r.resps.drop j = (mx, ec) :: r'.resps ∧ ec ≠ 0 ∧ e = errOfCode ec)

theorem ReaderSaid.ne {r r' : Reader} {e : Err} (h : ReaderSaid r r' e) :
    e ≠ .ok ∧ e ≠ .panic ∧ e ≠ .full ∧ e ≠ .empty := by
  rcases h with ⟨h, _⟩ | ⟨j, mx, ec, _, hec, h⟩
  · rw [h]; simp
  · rw [h]; exact errOfCode_ne _ hec

/-- The `PBuf`-level lemma `Wrap` rests on. On a completely parsed buffer (`W = len(Data)`) with
    `ShrinkSize < BufferSize`, `Shrink` followed by `ReadFrom` never returns `(0, ErrFullBuffer)`
    (so `panic("unexpected ErrFullBuffer")` in wrap.go is unreachable); it appends the `k` bytes
    taken from the reader, keeps the absolute parse position, and if `k = 0` the buffer is still
    completely parsed and the error is the reader's own; if `k ≠ 0` at least one response of the
    script was consumed. -/
theorem PBuf.refill_spec {b : PBuf} {fed : List Byte} (h : PInv b fed)
    (hw : b.w = b.data.length) (hc : b.cfg.shrinkSize < b.cfg.bufferSize) (r : Reader)
    {b3 : PBuf} {r' : Reader} {k : Nat} {e : Err} (hr : b.shrink.1.readFrom r = (b3, r', k, e)) :
    PInv b3 (fed ++ r.payload.take k) ∧ r.payload = r.payload.take k ++ r'.payload ∧
    b3.off + b3.w = b.off + b.w ∧ b3.cfg = b.cfg ∧
    b3.data.length = b3.w + k ∧
    ¬ (k = 0 ∧ e = .full) ∧ e ≠ .ok ∧ e ≠ .panic ∧
    (k ≠ 0 → r'.resps.length < r.resps.length) ∧
    (∃ j, r'.resps = r.resps.drop j) ∧
    (k = 0 → ReaderSaid r r' e) := by
  obtain ⟨hs, hp2, hpos⟩ := C15_shrink h
  have hw2 : b.shrink.1.w = b.shrink.1.data.length := by
    rw [hs]; simp only [List.length_drop]; omega
  have hlen2 : b.shrink.1.data.length < b.cfg.bufferSize := by
    rw [hs]; simp only [List.length_drop]; omega
  have hcfg2 : b.shrink.1.cfg = b.cfg := by rw [hs]
  obtain ⟨h1, h2, h3, h4, h5, h6, h7, h8, h9, pre, hpre, hprelen, hcase⟩ := C15_readFrom hp2 r hr
  have hlen3 : b3.data.length = b.shrink.1.data.length + k := by
    rw [h1]; simp only [List.length_append, List.length_take]; omega
  have hnotfull : ¬ (k = 0 ∧ e = .full) := by
    rintro ⟨hk, he⟩
    rcases hcase with ⟨a1, a2, g3, a4⟩ | ⟨g1, a2⟩ | ⟨a1, a2, a3, a4, a5, g3⟩
    · rw [hcfg2] at g3; omega
    · rw [he] at g1; cases g1
    · exact g3 he
  refine ⟨h7, ?_, by rw [h4, h5]; exact hpos, by rw [h6, hcfg2], by rw [hlen3, h4, hw2], hnotfull,
    h8, h9, ?_, ?_, ?_⟩
  · rw [h3, List.take_append_drop]
  · intro hk
    have := PBuf.readFrom_consumes b.shrink.1 r
    rw [hr] at this
    exact this hk
  · rcases hcase with ⟨_, g2, _⟩ | ⟨_, g2, g3, _⟩ | ⟨mx, ec, g1, _⟩
    · exact ⟨pre.length, by rw [g2]; simp⟩
    · exact ⟨pre.length, by rw [g2, g3]; simp⟩
    · exact ⟨pre.length + 1, by rw [g1]; simp⟩
  · intro hk
    rcases hcase with ⟨g1, _⟩ | ⟨g1, _, g3, _⟩ | ⟨mx, ec, g1, hec, g2, _⟩
    · exact absurd ⟨hk, g1⟩ hnotfull
    · exact Or.inl ⟨g1, g3⟩
    · exact Or.inr ⟨pre.length, mx, ec, by rw [g1]; simp, hec, g2⟩

/-! ## unfolding `Wrapped.parse` and `Wrapped.reset` -/

theorem Wrapped.parse_eq (wp : Wrapped) (flags : Nat) :
    wp.parse flags =
      if (wp.s.parse flags).2.2.1 ≠ .empty then
        ({ wp with s := (wp.s.parse flags).1 }, (wp.s.parse flags).2.1, (wp.s.parse flags).2.2.1,
         (wp.s.parse flags).2.2.2)
      else
        let rf := (wp.s.parse flags).1.shrink.1.readFrom wp.r
        if rf.2.2.1 = 0 then
          if rf.2.2.2 = .full then (⟨rf.2.1, rf.1⟩, 0, .panic, (wp.s.parse flags).2.2.2)
          else (⟨rf.2.1, rf.1⟩, 0, rf.2.2.2, (wp.s.parse flags).2.2.2)
        else if rf.2.1.resps.length < wp.r.resps.length then
          Wrapped.parse ⟨rf.2.1, rf.1⟩ flags
        else (⟨rf.2.1, rf.1⟩, 0, .panic, (wp.s.parse flags).2.2.2) := by
  rw [Wrapped.parse]
  simp only [dite_eq_ite]

theorem Wrapped.parse_of_block (wp : Wrapped) (flags : Nat) (res : Parser × Nat × Err × Block)
    (h : wp.s.parse flags = res) (he : res.2.2.1 ≠ .empty) :
    wp.parse flags = ({ wp with s := res.1 }, res.2) := by
  subst h
  rw [Wrapped.parse_eq, if_pos he]

theorem Wrapped.parse_of_stop (wp : Wrapped) (flags : Nat) (s3 : Parser) (r3 : Reader) (e : Err)
    (hn : wp.s.blockN = 0)
    (hrf : wp.s.shrink.1.readFrom wp.r = (s3, r3, 0, e)) (hne : e ≠ .full) :
    wp.parse flags = (⟨r3, s3⟩, 0, e, ⟨[], []⟩) := by
  rw [Wrapped.parse_eq]
  simp only [Parser.parse_empty wp.s flags hn, ne_eq, not_true_eq_false, if_false, hrf, if_true, hne]

theorem Wrapped.parse_of_retry (wp : Wrapped) (flags : Nat) (s3 : Parser) (r3 : Reader) (k : Nat)
    (e : Err) (hn : wp.s.blockN = 0)
    (hrf : wp.s.shrink.1.readFrom wp.r = (s3, r3, k, e)) (hk : k ≠ 0)
    (hlt : r3.resps.length < wp.r.resps.length) :
    wp.parse flags = Wrapped.parse ⟨r3, s3⟩ flags := by
  rw [Wrapped.parse_eq]
  simp only [Parser.parse_empty wp.s flags hn, ne_eq, not_true_eq_false, if_false, hrf, hk, hlt, if_true]

/-- `WrappedParser.Reset(r)` always succeeds: the buffer is emptied, the dictionary cleared, the
    reader replaced -/
theorem Wrapped.reset_eq (wp : Wrapped) (r : Reader) :
    wp.reset r = (⟨r, (wp.s.reset [] 0).1⟩, .ok) := by
  simp [Wrapped.reset, Parser.reset_nil]

/-! ## C08: `Wrapped.parse` -/

/-- absolute parse position: number of stream bytes already delivered in blocks -/
def Wrapped.pos (wp : Wrapped) : Nat := wp.s.buf.off + wp.s.buf.w

/-- invariant of a wrapped parser; `fed` = all bytes taken from the reader so far -/
structure WInv (I : Parser → Prop) (wp : Wrapped) (fed : List Byte) : Prop where
  inv : I wp.s
  view : PInv wp.s.buf fed
  cfg : wp.s.buf.cfg.shrinkSize < wp.s.buf.cfg.bufferSize

/-- What one call `wp.parse flags = res` does, relative to the bytes `fed` read so far:
    `q` = bytes taken from the reader during the call. -/
def WrapPost (I : Parser → Prop) (wp : Wrapped) (fed : List Byte)
    (res : Wrapped × Nat × Err × Block) : Prop :=
  ∃ q : List Byte,
    WInv I res.1 (fed ++ q) ∧
    wp.r.payload = q ++ res.1.r.payload ∧
    (∃ j, res.1.r.resps = wp.r.resps.drop j) ∧
    res.1.pos = wp.pos + res.2.1 ∧
    ((res.2.2.1 = .ok ∧ 1 ≤ res.2.1) ∨
     (res.2.1 = 0 ∧ res.1.pos = (fed ++ q).length ∧ ReaderSaid wp.r res.1.r res.2.2.1))

theorem ReaderSaid.mono {r r1 r' : Reader} {e : Err} (j : Nat) (h1 : r1.resps = r.resps.drop j)
    (h : ReaderSaid r1 r' e) : ReaderSaid r r' e := by
  rcases h with h | ⟨j', mx, ec, g1, hec, g2⟩
  · exact Or.inl h
  · refine Or.inr ⟨j + j', mx, ec, ?_, hec, g2⟩
    rw [← g1, h1, List.drop_drop]

theorem Wrapped.parse_block {I : Parser → Prop} (hP : ParseSpec I) (wp : Wrapped) (flags : Nat)
    (fed : List Byte) (hinv : WInv I wp fed) (hlt : wp.s.buf.w < wp.s.buf.data.length) :
    wp.parse flags = ({ wp with s := (wp.s.parse flags).1 }, (wp.s.parse flags).2) ∧
    (wp.s.parse flags).2.2.1 = .ok ∧ 1 ≤ (wp.s.parse flags).2.1 := by
  rcases Parser.parse_cases hP wp.s flags hinv.inv (bufOK_of_pinv hinv.view) with
    ⟨hw, -⟩ | ⟨-, hok, hn1, -⟩
  · omega
  · exact ⟨Wrapped.parse_of_block wp flags _ rfl (by rw [hok]; simp), hok, hn1⟩

theorem WInv.bufOK_shrink {I : Parser → Prop} {wp : Wrapped} {fed : List Byte} (h : WInv I wp fed) :
    BufOK wp.s.shrink.1.buf := by
  rw [Parser.shrink_buf]; exact bufOK_of_pinv (pinv_shrink h.view)

/-- What the refill step of `Wrapped.parse` does on a completely parsed buffer, `rf` being the result
    of `Shrink` and `ReadFrom`: the refilled state satisfies the invariant for the bytes read, which
    the reader lost; the absolute parse position stays; `ReadFrom` does not panic; if nothing was read
    the call ends with the reader's own error and everything read is parsed, otherwise it starts again
    from the refilled state with a shorter script. -/
structure Refill (I : Parser → Prop) (wp : Wrapped) (fed : List Byte) (flags : Nat)
    (rf : Parser × Reader × Nat × Err) : Prop where
  winv : WInv I ⟨rf.2.1, rf.1⟩ (fed ++ wp.r.payload.take rf.2.2.1)
  payload : wp.r.payload = wp.r.payload.take rf.2.2.1 ++ rf.2.1.payload
  count_le : rf.2.2.1 ≤ wp.r.payload.length
  resps : ∃ j, rf.2.1.resps = wp.r.resps.drop j
  pos : rf.1.buf.off + rf.1.buf.w = wp.pos
  ne_panic : rf.2.2.2 ≠ .panic
  stop : rf.2.2.1 = 0 → rf.1.buf.off + rf.1.buf.w = fed.length ∧ ReaderSaid wp.r rf.2.1 rf.2.2.2 ∧
    wp.parse flags = (⟨rf.2.1, rf.1⟩, 0, rf.2.2.2, ⟨[], []⟩)
  retry : rf.2.2.1 ≠ 0 → rf.2.1.resps.length < wp.r.resps.length ∧
    wp.parse flags = Wrapped.parse ⟨rf.2.1, rf.1⟩ flags

theorem Wrapped.parse_refill {I : Parser → Prop} (hP : ParseSpec I) (wp : Wrapped) (flags : Nat)
    (fed : List Byte) (hinv : WInv I wp fed) (hw : wp.s.buf.w = wp.s.buf.data.length) :
    Refill I wp fed flags (wp.s.shrink.1.readFrom wp.r) := by
  have hb : BufOK wp.s.buf := bufOK_of_pinv hinv.view
  have hn := Parser.blockN_zero_of_w wp.s (Nat.le_of_eq hw.symm)
  have hI3 : I (wp.s.shrink.1.readFrom wp.r).1 :=
    hP.inv_readFrom _ wp.r (hP.inv_shrink wp.s hinv.inv hb) hinv.bufOK_shrink
  obtain ⟨f1, f2, f3, f4, f5, f6, -, f8, f9, f10, f11⟩ :=
    PBuf.refill_spec hinv.view hw hinv.cfg wp.r (Parser.shrink_readFrom wp.s wp.r)
  refine ⟨⟨hI3, f1, by simp only []; rw [f4]; exact hinv.cfg⟩, f2,
    (C15_readFrom (pinv_shrink hinv.view) wp.r (Parser.shrink_readFrom wp.s wp.r)).2.1, f10, f3, f8,
    fun hk0 => ⟨?_, f11 hk0,
      Wrapped.parse_of_stop wp flags _ _ _ hn (hk0 ▸ rfl) (fun h => f6 ⟨hk0, h⟩)⟩,
    fun hk0 => ⟨f9 hk0, Wrapped.parse_of_retry wp flags _ _ _ _ hn rfl hk0 (f9 hk0)⟩⟩
  have := f1.fed_length
  rw [hk0] at this f5
  simp only [List.take_zero, List.append_nil] at this
  omega

/-- Induction over the refills of a wrapped call: a property of all states satisfying the invariant
    holds if it holds when a block is delivered at once, when the refill reads nothing, and when
    it follows from the property of the refilled state. -/
theorem Wrapped.refill_induct {I : Parser → Prop} (hP : ParseSpec I) (M : Wrapped → List Byte → Prop)
    (hblock : ∀ wp fed, WInv I wp fed → wp.s.buf.w < wp.s.buf.data.length → M wp fed)
    (hstop : ∀ wp fed, WInv I wp fed → wp.s.buf.w = wp.s.buf.data.length →
      (wp.s.shrink.1.readFrom wp.r).2.2.1 = 0 → M wp fed)
    (hretry : ∀ wp fed, WInv I wp fed → wp.s.buf.w = wp.s.buf.data.length →
      (wp.s.shrink.1.readFrom wp.r).2.2.1 ≠ 0 →
      M ⟨(wp.s.shrink.1.readFrom wp.r).2.1, (wp.s.shrink.1.readFrom wp.r).1⟩
        (fed ++ wp.r.payload.take (wp.s.shrink.1.readFrom wp.r).2.2.1) → M wp fed) :
    ∀ (wp : Wrapped) (fed : List Byte), WInv I wp fed → M wp fed := by
  have key : ∀ (n : Nat) (wp : Wrapped) (fed : List Byte), wp.r.resps.length = n →
      WInv I wp fed → M wp fed := by
    intro n
    induction n using Nat.strongRecOn with
    | ind n ih =>
      intro wp fed hn hinv
      by_cases hlt : wp.s.buf.w < wp.s.buf.data.length
      · exact hblock wp fed hinv hlt
      · have hw : wp.s.buf.w = wp.s.buf.data.length := by
          have := hinv.view.w_le; omega
        have rf := Wrapped.parse_refill hP wp 0 fed hinv hw
        by_cases hk : (wp.s.shrink.1.readFrom wp.r).2.2.1 = 0
        · exact hstop wp fed hinv hw hk
        · exact hretry wp fed hinv hw hk
            (ih _ (by rw [← hn]; exact (rf.retry hk).1) _ _ rfl rf.winv)
  intro wp fed h
  exact key _ wp fed rfl h

/-- C08, one call. Under `ParseSpec I`, for a wrapped parser satisfying the invariant
    (`ShrinkSize < BufferSize`, buffer views the bytes `fed` read so far), one call of
    `WrappedParser.Parse` returning `(n, e)`:
    * keeps the invariant, with `fed' = fed ++ q` where `q` are exactly the bytes the reader lost
      (nothing lost, nothing duplicated: `fed' ++ payload' = fed ++ payload`);
    * advances the absolute parse position by exactly `n`;
    * either `e = nil ∧ 1 ≤ n` (a block was delivered), or `n = 0` and every byte ever read has been
      delivered (`pos = |fed'|`) and `e` is what the reader said on its last read. -/
theorem C08_wrap_step {I : Parser → Prop} (hP : ParseSpec I) (wp : Wrapped) (flags : Nat)
    (fed : List Byte) (h : WInv I wp fed) : WrapPost I wp fed (wp.parse flags) := by
  revert wp fed
  apply Wrapped.refill_induct hP
  · intro wp fed hinv hlt
    obtain ⟨he, hok, hn1⟩ := Wrapped.parse_block hP wp flags fed hinv hlt
    rcases Parser.parse_cases hP wp.s flags hinv.inv (bufOK_of_pinv hinv.view) with
      ⟨hw, -⟩ | ⟨-, -, -, hbuf, hle, hI'⟩
    · omega
    rw [he]
    refine ⟨[], ⟨hI', ?_, ?_⟩, by simp, ⟨0, by simp⟩, ?_, Or.inl ⟨hok, hn1⟩⟩
    · simp only [List.append_nil]
      rw [hbuf]
      exact pinv_advance hinv.view _ hle
    · simp only []; rw [hbuf]; exact hinv.cfg
    · simp only [Wrapped.pos]; rw [hbuf]; simp only []; omega
  · intro wp fed hinv hw hk
    have rf := Wrapped.parse_refill hP wp flags fed hinv hw
    obtain ⟨hpos, hsaid, hres⟩ := rf.stop hk
    rw [hres]
    refine ⟨_, rf.winv, rf.payload, rf.resps, rf.pos, Or.inr ⟨rfl, ?_, hsaid⟩⟩
    rw [hk, List.take_zero, List.append_nil]
    exact hpos
  · intro wp fed hinv hw hk ⟨q2, g1, g2, ⟨j2, g3⟩, g4, g5⟩
    have rf := Wrapped.parse_refill hP wp flags fed hinv hw
    obtain ⟨j1, f10⟩ := rf.resps
    rw [(rf.retry hk).2]
    refine ⟨_ ++ q2, by rw [← List.append_assoc]; exact g1, ?_, ⟨j1 + j2, ?_⟩, ?_, ?_⟩
    · rw [List.append_assoc, ← g2]; exact rf.payload
    · rw [g3, f10, List.drop_drop]
    · rw [g4]; exact congrArg (· + _) rf.pos
    · rcases g5 with g5 | ⟨g5, g6, g7⟩
      · exact Or.inl g5
      · exact Or.inr ⟨g5, by rw [← List.append_assoc]; exact g6, ReaderSaid.mono j1 f10 g7⟩

/-- `WrappedParser.Parse` never panics (in particular `panic("unexpected ErrFullBuffer")` and the
    model's "no response consumed" branch are unreachable) and never returns `ErrFullBuffer` or
    `ErrEmptyBuffer`. -/
theorem C08_wrap_no_panic {I : Parser → Prop} (hP : ParseSpec I) (wp : Wrapped) (flags : Nat)
    (fed : List Byte) (h : WInv I wp fed) :
    (wp.parse flags).2.2.1 ≠ .panic ∧ (wp.parse flags).2.2.1 ≠ .full ∧
    (wp.parse flags).2.2.1 ≠ .empty := by
  obtain ⟨q, -, -, -, -, hc⟩ := C08_wrap_step hP wp flags fed h
  rcases hc with ⟨h1, _⟩ | ⟨_, _, h3⟩
  · rw [h1]; simp
  · exact ⟨h3.ne.2.1, h3.ne.2.2.1, h3.ne.2.2.2⟩

/-- An error (the reader's error or `io.EOF`) is returned only with `n = 0`, only when the last
    `ReadFrom` read nothing and no unparsed byte is buffered: every byte read before the failure has
    been delivered in a block. The error is the reader's own report, and the invariant still holds,
    so parsing continues without loss or duplication when the reader recovers. -/
theorem C08_wrap_error {I : Parser → Prop} (hP : ParseSpec I) (wp : Wrapped) (flags : Nat)
    (fed : List Byte) (h : WInv I wp fed) (he : (wp.parse flags).2.2.1 ≠ .ok) :
    (wp.parse flags).2.1 = 0 ∧
    (wp.parse flags).1.s.buf.w = (wp.parse flags).1.s.buf.data.length ∧
    ReaderSaid wp.r (wp.parse flags).1.r (wp.parse flags).2.2.1 ∧
    ∃ q, WInv I (wp.parse flags).1 (fed ++ q) ∧ wp.r.payload = q ++ (wp.parse flags).1.r.payload ∧
      (wp.parse flags).1.pos = (fed ++ q).length := by
  obtain ⟨q, h1, h2, -, h4, hc⟩ := C08_wrap_step hP wp flags fed h
  rcases hc with ⟨g1, _⟩ | ⟨g1, g2, g3⟩
  · exact absurd g1 he
  · refine ⟨g1, ?_, g3, q, h1, h2, g2⟩
    have := h1.view.fed_length
    simp only [Wrapped.pos] at g2
    omega

/-- With a reader of a truthful class the reader stays in the class, and the only error of a call
    is `io.EOF`, returned when the payload is exhausted. -/
theorem Wrapped.parse_truthful {I : Parser → Prop} {R : Reader → Prop} (hP : ParseSpec I)
    (hR : Truthful R) (flags : Nat) : ∀ (wp : Wrapped) (fed : List Byte), WInv I wp fed → R wp.r →
      R (wp.parse flags).1.r ∧
      ((wp.parse flags).2.2.1 ≠ .ok →
        (wp.parse flags).2.2.1 = .eof ∧ (wp.parse flags).1.r.payload = []) := by
  apply Wrapped.refill_induct hP
  · intro wp fed hinv hlt hr
    obtain ⟨h1, h2, -⟩ := Wrapped.parse_block hP wp flags fed hinv hlt
    rw [h1]
    exact ⟨hr, fun h => absurd h2 h⟩
  · intro wp fed hinv hw hk hr
    have hstop := ((Wrapped.parse_refill hP wp flags fed hinv hw).stop hk).2.2
    obtain ⟨t1, t2, t3⟩ :=
      hR.readFrom (pinv_shrink hinv.view).len_le hr (Parser.shrink_readFrom wp.s wp.r)
    have na := (C08_wrap_no_panic hP wp flags fed hinv).2.1
    rw [hstop] at na ⊢
    exact ⟨t3, fun _ => ⟨t2.resolve_left na, t1.resolve_left na⟩⟩
  · intro wp fed hinv hw hk ih hr
    rw [((Wrapped.parse_refill hP wp flags fed hinv hw).retry hk).2]
    exact ih
      (hR.readFrom (pinv_shrink hinv.view).len_le hr (Parser.shrink_readFrom wp.s wp.r)).2.2

/-! ### after the payload is exhausted: `(0, io.EOF)` forever -/

/-- the reader has nothing left and will not report anything but `nil`/`io.EOF` -/
def ReaderDone (r : Reader) : Prop := r.payload = [] ∧ ∀ x ∈ r.resps, x.2 ≤ 1

/-- reader done and everything buffered has been parsed -/
def Drained (wp : Wrapped) : Prop := ReaderDone wp.r ∧ wp.s.buf.w = wp.s.buf.data.length

/-- Once the reader's payload is exhausted, every call either delivers a block from the data still
    buffered (`1 ≤ n`, position stays within the bytes read) or returns `(0, io.EOF)` with
    everything delivered; the reader stays done and `fed` does not change. -/
theorem C08_wrap_tail {I : Parser → Prop} (hP : ParseSpec I) (wp : Wrapped) (flags : Nat)
    (fed : List Byte) (h : WInv I wp fed) (hd : ReaderDone wp.r) :
    WInv I (wp.parse flags).1 fed ∧ ReaderDone (wp.parse flags).1.r ∧
    (wp.parse flags).1.pos = wp.pos + (wp.parse flags).2.1 ∧
    (((wp.parse flags).2.2.1 = .ok ∧ 1 ≤ (wp.parse flags).2.1) ∨
     ((wp.parse flags).2.1 = 0 ∧ (wp.parse flags).2.2.1 = .eof ∧ Drained (wp.parse flags).1 ∧
      (wp.parse flags).1.pos = fed.length)) := by
  obtain ⟨q, h1, h2, ⟨j, h3⟩, h4, hc⟩ := C08_wrap_step hP wp flags fed h
  obtain ⟨hd1, hd2⟩ := hd
  rw [hd1] at h2
  obtain ⟨hq, hpl⟩ := List.append_eq_nil_iff.mp h2.symm
  subst hq
  simp only [List.append_nil] at h1 hc
  have hdone : ReaderDone (wp.parse flags).1.r := by
    refine ⟨hpl, fun x hx => hd2 x ?_⟩
    rw [h3] at hx
    exact List.mem_of_mem_drop hx
  refine ⟨h1, hdone, h4, ?_⟩
  rcases hc with hc | ⟨g1, g2, g3⟩
  · exact Or.inl hc
  · right
    have hw : (wp.parse flags).1.s.buf.w = (wp.parse flags).1.s.buf.data.length := by
      have := h1.view.fed_length
      simp only [Wrapped.pos] at g2
      omega
    refine ⟨g1, ?_, ⟨hdone, hw⟩, g2⟩
    rcases g3 with ⟨g3, _⟩ | ⟨j', mx, ec, g3, hec, g4⟩
    · exact g3
    · have hmem : (mx, ec) ∈ wp.r.resps := by
        apply List.mem_of_mem_drop (i := j')
        rw [g3]; simp
      have := hd2 _ hmem
      simp only [] at this
      rw [g4]
      exact errOfCode_le_one ec hec this

/-- `(0, io.EOF)` and it stays that way: in a drained state the call returns `(0, io.EOF)`
    and the state is drained again. -/
theorem C08_wrap_eof {I : Parser → Prop} (hP : ParseSpec I) (wp : Wrapped) (flags : Nat)
    (fed : List Byte) (h : WInv I wp fed) (hd : Drained wp) :
    (wp.parse flags).2.1 = 0 ∧ (wp.parse flags).2.2.1 = .eof ∧
    WInv I (wp.parse flags).1 fed ∧ Drained (wp.parse flags).1 := by
  obtain ⟨t1, t2, t3, t4⟩ := C08_wrap_tail hP wp flags fed h hd.1
  rcases t4 with ⟨g1, g2⟩ | ⟨g1, g2, g3, g4⟩
  · exfalso
    have e1 := h.view.fed_length
    have e2 := t1.view.fed_length
    have e3 := t1.view.w_le
    have e4 := hd.2
    simp only [Wrapped.pos] at t3
    omega
  · exact ⟨g1, g2, t1, g3⟩

def Wrapped.iter (flags : Nat) : Nat → Wrapped → Wrapped
  | 0, wp => wp
  | k + 1, wp => Wrapped.iter flags k (wp.parse flags).1

/-- forever: from a drained state, the `k`-th further call returns `(0, io.EOF)`, for every `k`. -/
theorem C08_wrap_eof_forever {I : Parser → Prop} (hP : ParseSpec I) (flags : Nat) (fed : List Byte)
    (k : Nat) : ∀ (wp : Wrapped), WInv I wp fed → Drained wp →
      ((Wrapped.iter flags k wp).parse flags).2.1 = 0 ∧
      ((Wrapped.iter flags k wp).parse flags).2.2.1 = .eof := by
  induction k with
  | zero =>
    intro wp h hd
    obtain ⟨g1, g2, -, -⟩ := C08_wrap_eof hP wp flags fed h hd
    exact ⟨g1, g2⟩
  | succ k ih =>
    intro wp h hd
    obtain ⟨-, -, g3, g4⟩ := C08_wrap_eof hP wp flags fed h hd
    exact ih _ g3 g4

/-! ### sequences of calls: nothing lost, nothing duplicated -/

/-- the results `(n, err)` of the first `k` calls -/
def Wrapped.calls (flags : Nat) : Nat → Wrapped → List (Nat × Err)
  | 0, _ => []
  | k + 1, wp => ((wp.parse flags).2.1, (wp.parse flags).2.2.1) ::
      Wrapped.calls flags k (wp.parse flags).1

/-- C08 over call sequences. After any number `k` of calls (whatever the reader does: short
    reads, data with errors, errors, recovery): the invariant holds for some `fed'` with
    `fed' ++ (rest of the reader's payload) = fed ++ (initial payload)` and `fed` a prefix of `fed'`;
    the absolute parse position has advanced by exactly the sum of the returned `n`; each call
    returned `nil` with `1 ≤ n`, or `n = 0` with an error that is not a panic/`ErrFullBuffer`/
    `ErrEmptyBuffer`. -/
theorem C08_wrap_calls {I : Parser → Prop} (hP : ParseSpec I) (flags : Nat) (k : Nat) :
    ∀ (wp : Wrapped) (fed : List Byte), WInv I wp fed →
      ∃ q, WInv I (Wrapped.iter flags k wp) (fed ++ q) ∧
        wp.r.payload = q ++ (Wrapped.iter flags k wp).r.payload ∧
        (Wrapped.iter flags k wp).pos = wp.pos + ((Wrapped.calls flags k wp).map (·.1)).sum ∧
        ∀ c ∈ Wrapped.calls flags k wp,
          (c.2 = .ok ∧ 1 ≤ c.1) ∨
          (c.1 = 0 ∧ c.2 ≠ .ok ∧ c.2 ≠ .panic ∧ c.2 ≠ .full ∧ c.2 ≠ .empty) := by
  induction k with
  | zero =>
    intro wp fed h
    exact ⟨[], by simpa [Wrapped.iter] using h, by simp [Wrapped.iter], by simp [Wrapped.iter, Wrapped.calls],
      by simp [Wrapped.calls]⟩
  | succ k ih =>
    intro wp fed h
    obtain ⟨q1, h1, h2, -, h4, hc⟩ := C08_wrap_step hP wp flags fed h
    obtain ⟨q2, g1, g2, g3, g4⟩ := ih _ _ h1
    refine ⟨q1 ++ q2, by rw [← List.append_assoc]; exact g1, ?_, ?_, ?_⟩
    · simp only [Wrapped.iter]; rw [List.append_assoc, ← g2]; exact h2
    · simp only [Wrapped.iter, Wrapped.calls, List.map_cons, List.sum_cons]
      rw [g3, h4]; omega
    · intro c hcm
      simp only [Wrapped.calls, List.mem_cons] at hcm
      rcases hcm with hcm | hcm
      · subst hcm
        rcases hc with hc | ⟨c1, _, c3⟩
        · exact Or.inl hc
        · exact Or.inr ⟨c1, c3.ne.1, c3.ne.2.1, c3.ne.2.2.1, c3.ne.2.2.2⟩
      · exact g4 c hcm

/-! ## C08: the results of `Wrapped.parse` do not depend on how the reader chunks -/

/-- the parser with another buffer capacity -/
def Parser.withCap (s : Parser) (c : Nat) : Parser := { s with buf := { s.buf with cap := c } }

@[simp] theorem Parser.withCap_blockN (s : Parser) (c : Nat) : (s.withCap c).blockN = s.blockN := rfl
@[simp] theorem Parser.withCap_minMatch (s : Parser) (c : Nat) :
    (s.withCap c).minMatch = s.minMatch := rfl
@[simp] theorem Parser.withCap_dict (s : Parser) (c : Nat) : (s.withCap c).dict = s.dict := rfl
@[simp] theorem Parser.withCap_kind (s : Parser) (c : Nat) : (s.withCap c).kind = s.kind := rfl
@[simp] theorem Parser.withCap_cfg (s : Parser) (c : Nat) : (s.withCap c).cfg = s.cfg := rfl
@[simp] theorem Parser.withCap_data (s : Parser) (c : Nat) :
    (s.withCap c).buf.data = s.buf.data := rfl
@[simp] theorem Parser.withCap_w (s : Parser) (c : Nat) : (s.withCap c).buf.w = s.buf.w := rfl
@[simp] theorem Parser.withCap_off (s : Parser) (c : Nat) : (s.withCap c).buf.off = s.buf.off := rfl
@[simp] theorem Parser.withCap_cap (s : Parser) (c : Nat) : (s.withCap c).buf.cap = c := rfl
@[simp] theorem Parser.withCap_bcfg (s : Parser) (c : Nat) :
    (s.withCap c).buf.cfg = s.buf.cfg := rfl

theorem Parser.parseCore_withCap (s : Parser) (flags c : Nat) :
    (s.withCap c).parseCore flags = s.parseCore flags := by
  unfold Parser.parseCore; rfl

/-- `Parse` does not look at the capacity (beyond the margin check, which passes under `BufOK`):
    same count, error and block, same new state up to `cap`. -/
theorem Parser.parse_withCap (s : Parser) (flags c : Nat) (hb : BufOK s.buf)
    (hc : BufOK (s.withCap c).buf) :
    (s.withCap c).parse flags = ((s.parse flags).1.withCap c, (s.parse flags).2) := by
  by_cases hn : s.blockN = 0
  · rw [Parser.parse_empty s flags hn, Parser.parse_empty (s.withCap c) flags hn]
  · have hne := Parser.data_ne_nil_of_blockN s hn
    rcases Parser.parse_eq_core s flags hn with ⟨-, h⟩ | h
    · have := hb.2.2.resolve_left hne; omega
    rcases Parser.parse_eq_core (s.withCap c) flags hn with ⟨-, h'⟩ | h'
    · have := hc.2.2.resolve_left hne
      simp only [Parser.withCap_data, Parser.withCap_cap] at this h'
      omega
    rw [h, h', Parser.parseCore_withCap]
    rfl

theorem Parser.shrink_withCap (s : Parser) (c : Nat) :
    (s.withCap c).shrink = (s.shrink.1.withCap c, s.shrink.2) := by
  obtain ⟨kind, cfg, buf, dict⟩ := s
  unfold Parser.shrink PBuf.shrink
  simp only [Parser.withCap]
  by_cases h : buf.w ≤ buf.cfg.shrinkSize
  · simp only [h, if_true]
  · simp only [h, if_false]
    by_cases h2 : buf.w - buf.cfg.shrinkSize = 0
    · simp only [h2, if_true]
    · simp only [h2, if_false]

/-- two parsers that differ at most in the capacity of their buffers -/
def Parser.Sim (a b : Parser) : Prop :=
  a.kind = b.kind ∧ a.cfg = b.cfg ∧ a.dict = b.dict ∧ SameView a.buf b.buf

theorem Parser.Sim.eq_withCap {a b : Parser} (h : Parser.Sim a b) : b = a.withCap b.buf.cap := by
  obtain ⟨h1, h2, h3, h4, h5, h6, h7⟩ := h
  obtain ⟨ka, ca, ba, da⟩ := a
  obtain ⟨kb, cb, bb, db⟩ := b
  obtain ⟨d1, w1, o1, c1, g1⟩ := ba
  obtain ⟨d2, w2, o2, c2, g2⟩ := bb
  simp only [Parser.withCap] at *
  subst h1 h2 h3 h4 h5 h6 h7
  rfl

theorem Parser.sim_withCap (a : Parser) (c : Nat) : Parser.Sim a (a.withCap c) :=
  ⟨rfl, rfl, rfl, rfl, rfl, rfl, rfl⟩

theorem Parser.parse_sim {a b : Parser} (h : Parser.Sim a b) (flags : Nat) (ha : BufOK a.buf)
    (hb : BufOK b.buf) :
    Parser.Sim (a.parse flags).1 (b.parse flags).1 ∧ (a.parse flags).2 = (b.parse flags).2 := by
  have hb' := hb
  rw [h.eq_withCap] at hb' ⊢
  rw [Parser.parse_withCap a flags _ ha hb']
  exact ⟨Parser.sim_withCap _ _, rfl⟩

theorem Parser.shrink_sim {a b : Parser} (h : Parser.Sim a b) :
    Parser.Sim a.shrink.1 b.shrink.1 := by
  rw [h.eq_withCap, Parser.shrink_withCap]
  exact Parser.sim_withCap _ _

theorem Parser.readFrom_sim {R : Reader → Prop} (hR : Truthful R) {a b : Parser}
    (h : Parser.Sim a b) (ha : BufOK a.buf) {ra rb : Reader} (hp : ra.payload = rb.payload)
    (hra : R ra) (hrb : R rb) :
    Parser.Sim (a.readFrom ra).1 (b.readFrom rb).1 ∧
    (a.readFrom ra).2.1.payload = (b.readFrom rb).2.1.payload ∧
    (a.readFrom ra).2.2.1 = (b.readFrom rb).2.2.1 ∧
    ((a.readFrom ra).2.2.1 = 0 → (a.readFrom ra).2.2.2 = (b.readFrom rb).2.2.2) ∧
    R (a.readFrom ra).2.1 ∧ R (b.readFrom rb).2.1 := by
  obtain ⟨h1, h2, h3, h4⟩ := h
  obtain ⟨g1, g⟩ := hR.sameView_readFrom h4 ha.2.1 hp hra hrb
  exact ⟨⟨h1, h2, h3, g1⟩, g⟩

/-- two wrapped parsers that differ at most in buffer capacity and in how their readers, both in
    the class `R`, chunk the same remaining payload -/
def WSimR (R : Reader → Prop) (wa wb : Wrapped) : Prop :=
  Parser.Sim wa.s wb.s ∧ wa.r.payload = wb.r.payload ∧ R wa.r ∧ R wb.r

/-- two wrapped parsers that differ at most in buffer capacity and in how their readers chunk
    the same remaining payload -/
structure WSim (wa wb : Wrapped) : Prop where
  sim : Parser.Sim wa.s wb.s
  payload : wa.r.payload = wb.r.payload
  fillA : FillR wa.r
  fillB : FillR wb.r

/-- One call on two wrapped parsers related by `WSimR R`, for a truthful class `R` of readers:
    same `(n, err, block)`, related states.  Induction on the remaining payload: a refill that
    reads something shortens it. -/
theorem Wrapped.parse_chunking_aux {I : Parser → Prop} {R : Reader → Prop} (hP : ParseSpec I)
    (hR : Truthful R) (flags : Nat) :
    ∀ (m : Nat) (wa wb : Wrapped) (fa fb : List Byte), wa.r.payload.length = m →
      WInv I wa fa → WInv I wb fb → WSimR R wa wb →
      (wa.parse flags).2 = (wb.parse flags).2 ∧ WSimR R (wa.parse flags).1 (wb.parse flags).1 := by
  intro m
  induction m using Nat.strongRecOn with
  | ind m ih =>
    intro wa wb fa fb hm ha hb ⟨hsim, hpay, hra, hrb⟩
    have hba : BufOK wa.s.buf := bufOK_of_pinv ha.view
    obtain ⟨psim, peq⟩ := Parser.parse_sim hsim flags hba (bufOK_of_pinv hb.view)
    rcases Parser.parse_cases hP wa.s flags ha.inv hba with ⟨hw, -⟩ | ⟨-, hok, -⟩
    · -- both buffers are completely parsed: refill both
      have hwb : wb.s.buf.w = wb.s.buf.data.length := by
        obtain ⟨-, -, -, v1, v2, -⟩ := hsim
        rw [← v1, ← v2]; exact hw
      have ra := Wrapped.parse_refill hP wa flags fa ha hw
      have rb := Wrapped.parse_refill hP wb flags fb hb hwb
      obtain ⟨r1, r2, r3, r4, r5, r6⟩ :=
        Parser.readFrom_sim hR (Parser.shrink_sim hsim) ha.bufOK_shrink hpay hra hrb
      have hsim3 : WSimR R ⟨(wa.s.shrink.1.readFrom wa.r).2.1, (wa.s.shrink.1.readFrom wa.r).1⟩
          ⟨(wb.s.shrink.1.readFrom wb.r).2.1, (wb.s.shrink.1.readFrom wb.r).1⟩ :=
        ⟨r1, r2, r5, r6⟩
      by_cases hk0 : (wa.s.shrink.1.readFrom wa.r).2.2.1 = 0
      · rw [(ra.stop hk0).2.2, (rb.stop (r3.symm.trans hk0)).2.2]
        exact ⟨by simp only []; rw [r4 hk0], hsim3⟩
      · rw [(ra.retry hk0).2, (rb.retry fun h => hk0 (r3.trans h)).2]
        have hpl : (wa.s.shrink.1.readFrom wa.r).2.1.payload.length < m := by
          have := congrArg List.length ra.payload
          have := ra.count_le
          simp only [List.length_append, List.length_take] at *
          omega
        exact ih _ hpl _ _ _ _ rfl ra.winv rb.winv hsim3
    · -- both deliver the same block
      have hokb : (wb.s.parse flags).2.2.1 = .ok := by
        rw [← congrArg (fun x => x.2.1) peq]; exact hok
      rw [Wrapped.parse_of_block wa flags _ rfl (by rw [hok]; simp),
        Wrapped.parse_of_block wb flags _ rfl (by rw [hokb]; simp)]
      exact ⟨peq, psim, hpay, hra, hrb⟩

/-- C08, chunking independence at the level of `WrappedParser.Parse`. Two wrapped parsers
    whose parsers agree up to buffer capacity and whose readers hold the same remaining payload but
    chunk it differently (both error free, `FillR`) return the same `(n, err, block)`, and are again
    in such a relation afterwards. -/
theorem C08_wrap_chunking {I : Parser → Prop} (hP : ParseSpec I) (wa wb : Wrapped) (flags : Nat)
    (fa fb : List Byte) (ha : WInv I wa fa) (hb : WInv I wb fb) (hs : WSim wa wb) :
    (wa.parse flags).2 = (wb.parse flags).2 ∧ WSim (wa.parse flags).1 (wb.parse flags).1 := by
  obtain ⟨h, g1, g2, g3, g4⟩ := Wrapped.parse_chunking_aux hP truthful_fillR flags _ wa wb fa fb rfl
    ha hb ⟨hs.sim, hs.payload, hs.fillA, hs.fillB⟩
  exact ⟨h, g1, g2, g3, g4⟩

/-- … hence the whole sequence of results `(n, err)` of any number of calls is the same, and so
    are the blocks (they are part of `.2` in `C08_wrap_chunking`). -/
theorem C08_wrap_chunking_calls {I : Parser → Prop} (hP : ParseSpec I) (flags : Nat) (k : Nat) :
    ∀ (wa wb : Wrapped) (fa fb : List Byte), WInv I wa fa → WInv I wb fb → WSim wa wb →
      Wrapped.calls flags k wa = Wrapped.calls flags k wb := by
  induction k with
  | zero => intros; rfl
  | succ k ih =>
    intro wa wb fa fb ha hb hs
    obtain ⟨h1, h2⟩ := C08_wrap_chunking hP wa wb flags fa fb ha hb hs
    obtain ⟨qa, ha', -⟩ := C08_wrap_step hP wa flags fa ha
    obtain ⟨qb, hb', -⟩ := C08_wrap_step hP wb flags fb hb
    simp only [Wrapped.calls]
    rw [ih _ _ _ _ ha' hb' h2]
    have e1 : (wa.parse flags).2.1 = (wb.parse flags).2.1 := congrArg Prod.fst h1
    have e2 : (wa.parse flags).2.2.1 = (wb.parse flags).2.2.1 := congrArg (fun x => x.2.1) h1
    rw [e1, e2]

/-! ## non-vacuity: concrete instances (BufferSize 4, ShrinkSize 1) -/

section Examples

/-- a GSAP parser over the empty 4-byte buffer of `PBuf.cfg4` -/
def exParser : Parser :=
  { kind := .GSAP, cfg := {}, buf := PBuf.init cfg4, dict := .gsap GsapD.empty }

attribute [local simp] Wrapped.parse Parser.parse Parser.blockN Parser.shrink Parser.readFrom
  exParser readFrom readLoop shrink init grow cfg4 rdBytes Facts.margin Facts.chunkSize
  Facts.growMin min3 errOfCode

example : WInv (fun _ => True) ⟨rdBytes, exParser⟩ [] :=
  ⟨trivial, pinv_init _, by decide⟩

example : WInv (fun _ => True) ⟨rdChunks, exParser.withCap 100⟩ [] :=
  ⟨trivial, by constructor <;> simp [Parser.withCap], by decide⟩

example : FillR rdBytes := by unfold FillR; decide
example : FillR rdChunks := by unfold FillR; decide

/-- same payload, single-byte reads against chunks 2 + 3, different capacities -/
example : WSim ⟨rdBytes, exParser⟩ ⟨rdChunks, exParser.withCap 100⟩ :=
  ⟨Parser.sim_withCap _ _, rfl, by unfold FillR; decide, by unfold FillR; decide⟩

/-- the refill step on a full, completely parsed buffer: `Shrink` keeps 1 byte, `ReadFrom` with
    single-byte reads fills the 3 free bytes and reports `ErrFullBuffer` with `k = 3 ≠ 0` -/
example : ((PBuf.mk [1, 2, 3, 4] 4 0 11 cfg4).shrink.1).readFrom rdBytes =
    ({ data := [4, 3, 4, 5], w := 1, off := 3, cap := 11, cfg := cfg4 },
     ⟨[6, 7], [(1, 0), (1, 0)]⟩, 3, .full) := by
  simp

/-- … and with a reader that fails without data: `(0, reader 7)`, never `(0, ErrFullBuffer)` -/
example : ((PBuf.mk [1, 2, 3, 4] 4 0 11 cfg4).shrink.1).readFrom ⟨[9], [(0, 7), (1, 0)]⟩ =
    ({ data := [4], w := 1, off := 3, cap := 11, cfg := cfg4 }, ⟨[9], [(1, 0)]⟩, 0, .reader 7) := by
  simp

/-- a failing reader on a drained wrapped parser: the error comes out with `n = 0` -/
example : ((Wrapped.mk ⟨[], [(1, 7), (1, 0)]⟩ exParser).parse 0).2 = (0, .reader 7, ⟨[], []⟩) := by
  simp

/-- an exhausted reader on a drained wrapped parser: the `(0, nil)` answer is skipped, then the
    script is exhausted: `(0, io.EOF)` -/
example : ((Wrapped.mk ⟨[], [(1, 0)]⟩ exParser).parse 0).2 = (0, .eof, ⟨[], []⟩) := by
  simp

example : Drained (Wrapped.mk ⟨[], [(1, 0), (5, 1)]⟩ exParser) :=
  ⟨⟨rfl, by decide⟩, rfl⟩

end Examples

end LZ

#print axioms LZ.PBuf.refill_spec
#print axioms LZ.Wrapped.parse_refill
#print axioms LZ.Wrapped.refill_induct
#print axioms LZ.Wrapped.parse_truthful
#print axioms LZ.Wrapped.parse_chunking_aux
#print axioms LZ.Parser.parse_cases
#print axioms LZ.ParseSpec.of_progress
#print axioms LZ.C08_wrap_step
#print axioms LZ.C08_wrap_no_panic
#print axioms LZ.C08_wrap_error
#print axioms LZ.C08_wrap_tail
#print axioms LZ.C08_wrap_eof
#print axioms LZ.C08_wrap_eof_forever
#print axioms LZ.C08_wrap_calls
#print axioms LZ.Parser.parse_withCap
#print axioms LZ.C08_wrap_chunking
#print axioms LZ.C08_wrap_chunking_calls
