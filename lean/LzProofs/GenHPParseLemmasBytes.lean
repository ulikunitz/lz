/-
  LzProofs.GenHPParseLemmasBytes — the byte loads and the bit count of the translated Go text are those
  of the hand model `LzModel.BytesW`: `_getLE64` = `le64` (`gen_le64`; panic = `none` through `ofOpt`),
  `getLE64` = `getLE64` (`gen_getLE64`), `bits.TrailingZeros64` = `tz64` (`tz_eq`, `tz_shr`).  The tactic
  `bytes_or` compares two ways of OR-ing shifted bytes.
-/
import LzModel.Generated.CodeHPParse
import LzModel.BytesW
import LzProofs.BytesProps
import LzProofs.GenBufPropsBase

set_option linter.unusedSimpArgs false
set_option linter.unusedVariables false

namespace LZ.GenHPParse
open LZ LZ.Gen LZ.GenBuf

/-- Option (none = Go panic) to Res -/
def ofOpt {α : Type} : Option α → Res α
  | some a => Res.ok a
  | none => Res.panic

/-- a shift of a shift by literal amounts is one shift (`(x <<< 8) <<< 32 = x <<< 40`; side conditions by `decide`) -/
theorem shl_shl64 (x a b : UInt64) (ha : a < 64) (hb : b < 64) (hab : a + b < 64) : x <<< a <<< b = x <<< (a + b) :=
  (UInt64.shiftLeft_add ha hb hab).symm

/-- a shift by a literal number of bytes as an opaque atom.  (`ac_rfl` compares atoms up to definitional equality;
    comparing `x <<< 40` with `y <<< 48` as UInt64 terms makes it evaluate the literals and time out.) -/
@[irreducible] def shB (k : Nat) (x : UInt64) : UInt64 := x <<< UInt64.ofNat k
theorem shB8 (x : UInt64) : x <<< 8 = shB 8 x := by unfold shB; rfl
theorem shB16 (x : UInt64) : x <<< 16 = shB 16 x := by unfold shB; rfl
theorem shB24 (x : UInt64) : x <<< 24 = shB 24 x := by unfold shB; rfl
theorem shB32 (x : UInt64) : x <<< 32 = shB 32 x := by unfold shB; rfl
theorem shB40 (x : UInt64) : x <<< 40 = shB 40 x := by unfold shB; rfl
theorem shB48 (x : UInt64) : x <<< 48 = shB 48 x := by unfold shB; rfl
theorem shB56 (x : UInt64) : x <<< 56 = shB 56 x := by unfold shB; rfl

/-- closes an equation between two ways of OR-ing shifted bytes together: shifts are distributed over `|||`,
    nested literal shifts added up, and the rest is associativity/commutativity of `|||` — so the order and the
    grouping in which the Go text combines the bytes (`hi<<32 | lo`, `x |= …` in any order) do not matter, while a wrong
    shift amount or a wrong byte still leaves an unprovable goal. -/
macro "bytes_or" : tactic =>
  `(tactic| (
    try simp (disch := decide) only [UInt64.shiftLeft_or, shl_shl64, UInt64.reduceAdd]
    try simp only [shB8, shB16, shB24, shB32, shB40, shB48, shB56]
    ac_rfl))

/-- `_getLE64(p)` on a slice value = the word read `BytesW.le64` of its elements (panic iff len < 8) -/
theorem gen_le64 (p : Slice) (h : SWF p) : Gen._getLE64 p = ofOpt (BytesW.le64 p.data) := by
  obtain ⟨arr, len⟩ := p
  unfold SWF at h
  simp only at h
  by_cases hl : len < 8
  · have h1 : BytesW.le64 (Slice.data ⟨arr, len⟩) = none :=
      BytesW.le64_eq_none _ (by simp [Slice.data]; omega)
    rw [h1]
    have h2 : Slice.index ⟨arr, len⟩ (7 : Int) = Res.panic := by
      simp [Slice.index]; omega
    simp [Gen._getLE64, h2, ofOpt]
  · obtain ⟨n, rfl⟩ : ∃ n, len = n + 8 := ⟨len - 8, by omega⟩
    match arr, h with
    | b0 :: b1 :: b2 :: b3 :: b4 :: b5 :: b6 :: b7 :: rest, _ =>
      have h0 : Slice.index ⟨b0 :: b1 :: b2 :: b3 :: b4 :: b5 :: b6 :: b7 :: rest, n + 8⟩ (0 : Int) = Res.ok b0 := by
        simp [Slice.index]; omega
      have h1 : Slice.index ⟨b0 :: b1 :: b2 :: b3 :: b4 :: b5 :: b6 :: b7 :: rest, n + 8⟩ (1 : Int) = Res.ok b1 := by
        simp [Slice.index]; omega
      have h2 : Slice.index ⟨b0 :: b1 :: b2 :: b3 :: b4 :: b5 :: b6 :: b7 :: rest, n + 8⟩ (2 : Int) = Res.ok b2 := by
        simp [Slice.index]; omega
      have h3 : Slice.index ⟨b0 :: b1 :: b2 :: b3 :: b4 :: b5 :: b6 :: b7 :: rest, n + 8⟩ (3 : Int) = Res.ok b3 := by
        simp [Slice.index]; omega
      have h4 : Slice.index ⟨b0 :: b1 :: b2 :: b3 :: b4 :: b5 :: b6 :: b7 :: rest, n + 8⟩ (4 : Int) = Res.ok b4 := by
        simp [Slice.index]; omega
      have h5 : Slice.index ⟨b0 :: b1 :: b2 :: b3 :: b4 :: b5 :: b6 :: b7 :: rest, n + 8⟩ (5 : Int) = Res.ok b5 := by
        simp [Slice.index]; omega
      have h6 : Slice.index ⟨b0 :: b1 :: b2 :: b3 :: b4 :: b5 :: b6 :: b7 :: rest, n + 8⟩ (6 : Int) = Res.ok b6 := by
        simp [Slice.index]; omega
      have h7 : Slice.index ⟨b0 :: b1 :: b2 :: b3 :: b4 :: b5 :: b6 :: b7 :: rest, n + 8⟩ (7 : Int) = Res.ok b7 := by
        simp [Slice.index]; omega
      simp only [Gen._getLE64, h0, h1, h2, h3, h4, h5, h6, h7, bind_ok, Slice.data, List.take_succ_cons,
        BytesW.le64, BytesW.le64v, ofOpt, shlU64]
      simp <;> bytes_or

/-- `getLE64(p)` (the `switch len(p)`) never panics and is `BytesW.getLE64` of the elements -/
theorem gen_getLE64 (p : Slice) (h : SWF p) : Gen.getLE64 p = Res.ok (BytesW.getLE64 p.data) := by
  by_cases hl : 8 ≤ p.len
  · have hd : 8 ≤ p.data.length := by rw [data_length h]; exact hl
    have e := gen_le64 p h
    rw [BytesW.le64_eq_some _ hd] at e
    -- whatever chain of tests on `len(p)` the text uses (switch, `n >= 8` first, …): each is decided as it comes;
    -- what is left is the call of `_getLE64`
    simp only [Gen.getLE64, Int.ofNat_eq_natCast]
    repeat (first | rw [if_neg (by omega)] | rw [if_pos (by omega)])
    simp only [e, ofOpt, bind_ok]
  · obtain ⟨arr, len⟩ := p
    unfold SWF at h
    simp only at h hl
    match len, arr, h, hl with
    | 0, _, _, _ => simp [Gen.getLE64, Slice.data, BytesW.getLE64] <;> bytes_or
    | 1, b0 :: _, _, _ => simp [Gen.getLE64, Slice.data, BytesW.getLE64, Slice.index] <;> bytes_or
    | 2, b0 :: b1 :: _, _, _ => simp [Gen.getLE64, Slice.data, BytesW.getLE64, Slice.index, shlU64] <;> bytes_or
    | 3, b0 :: b1 :: b2 :: _, _, _ => simp [Gen.getLE64, Slice.data, BytesW.getLE64, Slice.index, shlU64] <;> bytes_or
    | 4, b0 :: b1 :: b2 :: b3 :: _, _, _ =>
      simp [Gen.getLE64, Gen._getLE32, Slice.data, BytesW.getLE64, BytesW.le32v, Slice.index, shlU64, shlU32] <;> bytes_or
    | 5, b0 :: b1 :: b2 :: b3 :: b4 :: _, _, _ =>
      simp [Gen.getLE64, Gen._getLE32, Slice.data, BytesW.getLE64, BytesW.le32v, Slice.index, shlU64, shlU32] <;> bytes_or
    | 6, b0 :: b1 :: b2 :: b3 :: b4 :: b5 :: _, _, _ =>
      simp [Gen.getLE64, Gen._getLE32, Slice.data, BytesW.getLE64, BytesW.le32v, Slice.index, shlU64, shlU32] <;> bytes_or
    | 7, b0 :: b1 :: b2 :: b3 :: b4 :: b5 :: b6 :: _, _, _ =>
      simp [Gen.getLE64, Gen._getLE32, Slice.data, BytesW.getLE64, BytesW.le32v, Slice.index, shlU64, shlU32] <;> bytes_or
    | n + 8, _, _, hl => exact absurd (by omega) hl

theorem lowBitFrom_eq (x : UInt64) : ∀ fuel i, i + fuel = 64 →
    Gen.lowBitFrom x fuel i = i + BytesW.ctz fuel (x.toNat / 2 ^ i) := by
  intro fuel
  induction fuel with
  | zero => intro i h; simp [Gen.lowBitFrom, BytesW.ctz]; omega
  | succ f ih =>
    intro i h
    simp only [Gen.lowBitFrom, BytesW.ctz, Nat.testBit_eq_decide_div_mod_eq]
    by_cases hb : x.toNat / 2 ^ i % 2 = 1
    · simp [hb]
    · simp only [hb, decide_false, if_false, Bool.false_eq_true]
      rw [ih (i + 1) (by omega), Nat.div_div_eq_div_mul, ← Nat.pow_succ]
      simp only [Nat.succ_eq_add_one]; omega

/-- `bits.TrailingZeros64` of the translation (`lowBitFrom`) = `BytesW.tz64` (`ctz 64`) -/
theorem tz_eq (x : UInt64) : Gen.trailingZeros64 x = ((BytesW.tz64 x : Nat) : Int) := by
  unfold Gen.trailingZeros64 BytesW.tz64
  rw [lowBitFrom_eq x 64 0 rfl]
  simp

/-- `bits.TrailingZeros64(x) >> 3` in Go int arithmetic -/
theorem tz_shr (x : UInt64) : (Gen.trailingZeros64 x) >>> (3 : Nat) = ((BytesW.tz64 x >>> 3 : Nat) : Int) := by
  rw [tz_eq]; rfl

end LZ.GenHPParse

#print axioms LZ.GenHPParse.gen_le64
#print axioms LZ.GenHPParse.gen_getLE64
#print axioms LZ.GenHPParse.tz_eq
#print axioms LZ.GenHPParse.tz_shr
