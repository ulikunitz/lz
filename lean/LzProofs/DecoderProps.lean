/-
  LzProofs.DecoderProps — properties C06 (every Decoder call terminates: the retry loops never
  spin) and C18 (exactly-once delivery to a failing / short-writing writer) for the model
  `LzModel.DecBuf` of decoder_buffer.go.

  Conventions
  * `g : Grow` is the Go runtime's slice growth function; every theorem holds for all `g`.
  * `DecBuf.Inv b  :=  b.r ≤ |b.data| ∧ b.ws < b.bs ∧ |b.data| ≤ b.bs`   (established by `Init`).
  * `hangErr` is the marker the model returns in the branch in which the Go loop would spin
    (an iteration that neither consumes input nor flushes a byte).  C06 = "never returned".
  * `Decoder.log d := d.w.got ++ d.buf.pending` with `pending = data[r:]`: everything the decoder has
    accepted from its caller since the writer was installed: already handed to the writer
    (`got`) or still buffered.  `got` is by construction a prefix of `log`.
  * `Decoder.Hist d`: the window `data[:r]` is the tail of `got` (so `data` is a suffix of `log`).
  * `Expands hist lits seqs k l out`: `out` is the reference expansion (`expandSeqs`) over `hist`
    of the first `k` sequences and `l` literal bytes of the block.
  * `Decoder.Run d d' z e` (DecoderLemmas.lean): what every call does, whatever the loop; the per-call
    theorems below are its fields (`every_call`: each of the four calls is a `Run`).
-/
import LzProofs.DecoderLemmas
namespace LZ
open DecBuf Decoder

/-! ## buffer level: invariant, geometry, "full" only if flushing helps -/

/-- `Init` establishes the invariant for every accepted configuration (and every pre-allocated
    capacity), also for `BufferSize < 2*WindowSize`. -/
theorem C06_init_inv {ws bs : Int} {precap : Nat} {b : DecBuf}
    (h : DecBuf.init ws bs precap = some b) : DecBuf.Inv b := (init_abs h).inv

/-- `shrink` keeps the invariant, `WindowSize`, never lowers `BufferSize`, never drops a byte at or
    after `R` (`pending` unchanged). -/
theorem C06_shrink_inv (b : DecBuf) (n : Nat) (h : DecBuf.Inv b) :
    DecBuf.Inv (b.shrink n).1 ∧ (b.shrink n).1.ws = b.ws ∧ b.bs ≤ (b.shrink n).1.bs ∧
    (b.shrink n).1.pending = b.pending :=
  ⟨h.shrink n, shrink_ws b n, shrink_bs_ge b n, ((shrink_ext b n).pending h.1).trans (List.append_nil _)⟩

theorem C06_buf_writeByte_inv (g : Grow) (b : DecBuf) (c : Byte) (h : DecBuf.Inv b) :
    DecBuf.Inv (b.writeByte g c).1 ∧ (b.writeByte g c).1.ws = b.ws ∧ b.bs ≤ (b.writeByte g c).1.bs ∧
    ((b.writeByte g c).2 = .ok ∨ (b.writeByte g c).2 = .full) := by
  rcases hr : b.writeByte g c with ⟨b', e⟩
  rcases writeByte_run g h c hr with ⟨e, s⟩ | ⟨e, s, _⟩
  · exact ⟨s.inv, s.ext.ws, s.ext.bs_le, Or.inl e⟩
  · exact ⟨s.inv, s.ext.ws, s.ext.bs_le, Or.inr e⟩

theorem C06_buf_write_inv (g : Grow) (b : DecBuf) (p : List Byte) (h : DecBuf.Inv b) :
    DecBuf.Inv (b.write g p).1 ∧ (b.write g p).1.ws = b.ws ∧ b.bs ≤ (b.write g p).1.bs ∧
    ((b.write g p).2.2 = .ok ∨ (b.write g p).2.2 = .full) := by
  rcases hr : b.write g p with ⟨b', k, e⟩
  rcases write_run g h p hr with ⟨e, _, s⟩ | ⟨e, _, s, _⟩
  · exact ⟨s.inv, s.ext.ws, s.ext.bs_le, Or.inl e⟩
  · exact ⟨s.inv, s.ext.ws, s.ext.bs_le, Or.inr e⟩

theorem C06_buf_writeBlock_inv (g : Grow) (b : DecBuf) (blk : Block) (h : DecBuf.Inv b) :
    DecBuf.Inv (b.writeBlock g blk).1 ∧ (b.writeBlock g blk).1.ws = b.ws ∧
    b.bs ≤ (b.writeBlock g blk).1.bs ∧ BufErr (b.writeBlock g blk).2.2.2.2 := by
  rcases hr : b.writeBlock g blk with ⟨b', n, k, l, e⟩
  obtain ⟨_, s⟩ := writeBlock_run g h blk hr
  exact ⟨s.step.inv, s.step.ext.ws, s.step.ext.bs_le, s.err⟩

theorem C06_buf_read_inv (b : DecBuf) (n : Nat) (h : DecBuf.Inv b) :
    DecBuf.Inv (b.read n).1 ∧ (b.read n).1.ws = b.ws ∧ (b.read n).1.bs = b.bs := by
  unfold DecBuf.read DecBuf.Inv at *
  dsimp only
  simp only [List.length_take, List.length_drop]
  refine ⟨?_, trivial, trivial⟩
  omega

/-- `WriteMatch` keeps the invariant; on a flushed buffer it never reports `ErrFullBuffer`. -/
theorem C06_buf_writeMatch_inv (g : Grow) (b : DecBuf) (m o : Nat) (h : DecBuf.Inv b) :
    DecBuf.Inv (b.writeMatch g m o).1 ∧ (b.writeMatch g m o).1.ws = b.ws ∧
    b.bs ≤ (b.writeMatch g m o).1.bs ∧ BufErr (b.writeMatch g m o).2.2 ∧
    (b.r = b.data.length → (b.writeMatch g m o).2.2 ≠ .full) := by
  obtain ⟨r1, r2⟩ := room_spec b m h
  have r3 := r2.ws
  have r4 := r2.bs_le
  have r5 := room_keeps b m
  rw [writeMatch_def]
  split
  · exact ⟨h, rfl, Nat.le_refl _, by simp [BufErr], by simp⟩
  split
  · exact ⟨h, rfl, Nat.le_refl _, by simp [BufErr], by simp⟩
  rename_i ho1 ho2
  split
  · rename_i hfit
    rw [Bool.not_eq_true, ← Bool.not_eq_true, room_fits] at hfit
    split
    · exact ⟨r1, r3, r4, by simp [BufErr], by simp⟩
    · rename_i hml
      refine ⟨r1, r3, r4, by simp [BufErr], fun hr => ?_⟩
      rw [r3] at hml
      exact absurd (room_full hr hfit) hml
  · rename_i hfit
    have hfit := (room_fits b m).mp (Decidable.not_not.mp hfit)
    obtain ⟨c3, -, c4, c5⟩ := copyMatch_sameCtl g (b.room m).1 m o
    have c1 := copyMatch_length g (b.room m).1 m o (by omega)
    refine ⟨?_, c4.trans r3, by simp only; omega, by simp [BufErr], by simp⟩
    unfold DecBuf.Inv at r1 ⊢
    simp only [c1, c3, c4, c5]
    omega

theorem C06_writeTo_inv (d : Decoder) (h : DecBuf.Inv d.buf) :
    DecBuf.Inv d.writeTo.1.buf ∧ d.writeTo.1.buf.ws = d.buf.ws ∧ d.writeTo.1.buf.bs = d.buf.bs :=
  ⟨(writeTo_flushed d h).inv, (writeTo_flushed d h).ws, (writeTo_flushed d h).bs⟩

/-- Once everything is flushed (`R = len(Data)`), `WriteByte` cannot report a full buffer. -/
theorem C06_buf_writeByte_fits_when_flushed (g : Grow) (b : DecBuf) (c : Byte) (h : DecBuf.Inv b)
    (hr : b.r = b.data.length) : (b.writeByte g c).2 = .ok := by
  rcases hw : b.writeByte g c with ⟨b', e⟩
  rcases writeByte_run g h c hw with h4 | h4
  · exact h4.1
  · exact absurd hr h4.2.2

/-- Once everything is flushed, a slice of at most `BufferSize - WindowSize` bytes always fits. -/
theorem C06_buf_write_fits_when_flushed (g : Grow) (b : DecBuf) (q : List Byte) (h : DecBuf.Inv b)
    (hr : b.r = b.data.length) (hq : q.length ≤ b.bs - b.ws) : (b.write g q).2.2 = .ok := by
  rcases hw : b.write g q with ⟨b', k, e⟩
  rcases write_run g h q hw with h4 | h4
  · exact h4.1
  · exact absurd ⟨hr, hq⟩ h4.2.2.2

/-- `WriteBlock` on a flushed buffer reports `ErrFullBuffer` only after it has consumed at least
    one sequence, or for the trailing literal run (all sequences consumed): a sequence that does
    not fit into a flushed buffer is classified `errMatchLen`, never `ErrFullBuffer`. -/
theorem C06_buf_writeBlock_full_progress (g : Grow) (b : DecBuf) (blk : Block) (h : DecBuf.Inv b)
    (hr : b.r = b.data.length) (hf : (b.writeBlock g blk).2.2.2.2 = .full) :
    0 < (b.writeBlock g blk).2.2.1 ∨ (b.writeBlock g blk).2.2.1 = blk.seqs.length := by
  rcases hw : b.writeBlock g blk with ⟨b', n, k, l, e⟩
  rw [hw] at hf
  exact (writeBlock_run g h blk hw).elim fun _ s => s.progress hf hr

/-! ## C06: the retry loops of `Decoder` never spin -/

/-- C06, `Decoder.WriteByte`. -/
theorem C06_writeByte_no_hang (g : Grow) (d : Decoder) (c : Byte) (h : DecBuf.Inv d.buf) :
    (d.writeByte g c).2 ≠ hangErr := by
  rcases (Decoder.writeByte_spec g d c h).2 with h4 | h4
  · rw [h4]; simp [hangErr]
  · exact hangErr_not_WErr h4

/-- C06, `Decoder.Write`, for every slice length (smaller, equal, larger than
    `BufferSize - WindowSize`, larger than `BufferSize`), every fill state, every writer script. -/
theorem C06_write_no_hang (g : Grow) (d : Decoder) (p : List Byte) (h : DecBuf.Inv d.buf) :
    (d.write g p 0).2.2 ≠ hangErr := by
  rcases (Decoder.write_spec g d p 0 h).1 with h4 | h4
  · rw [h4]; simp [hangErr]
  · exact hangErr_not_WErr h4

/-- C06, `Decoder.WriteBlock`, for every block (valid or not, sequences of any size). -/
theorem C06_writeBlock_no_hang (g : Grow) (d : Decoder) (seqs : List Seq) (lits : List Byte)
    (h : DecBuf.Inv d.buf) : (d.writeBlock g seqs lits 0 0 0).2.2.2.2 ≠ hangErr := by
  rcases (writeBlock_post g d seqs lits 0 0 0 h).1 with h4 | h4
  · exact hangErr_not_BufErr h4.1
  · exact hangErr_not_WErr h4

/-- The errors a Decoder call can return: `ok`, an error of the writer (its own error or
    `ErrShortWrite`), or — `WriteBlock` only — a block error of the buffer. -/
theorem C06_result_errors (g : Grow) (d : Decoder) (h : DecBuf.Inv d.buf) :
    (∀ c, (d.writeByte g c).2 = .ok ∨ WErr (d.writeByte g c).2) ∧
    (∀ p, (d.write g p 0).2.2 = .ok ∨ WErr (d.write g p 0).2.2) ∧
    (∀ seqs lits, BufErr (d.writeBlock g seqs lits 0 0 0).2.2.2.2 ∨
        WErr (d.writeBlock g seqs lits 0 0 0).2.2.2.2) :=
  ⟨fun c => (Decoder.writeByte_spec g d c h).2, fun p => (Decoder.write_spec g d p 0 h).1,
   fun seqs lits => (writeBlock_post g d seqs lits 0 0 0 h).1.imp And.left id⟩

/-- The invariant is kept by the Decoder calls (so the theorems apply to every history). -/
theorem C06_decoder_inv (g : Grow) (d : Decoder) (h : DecBuf.Inv d.buf) :
    (∀ c, DecBuf.Inv (d.writeByte g c).1.buf) ∧ (∀ p, DecBuf.Inv (d.write g p 0).1.buf) ∧
    (∀ seqs lits, DecBuf.Inv (d.writeBlock g seqs lits 0 0 0).1.buf) ∧ DecBuf.Inv d.flush.1.buf :=
  every_call g h (Q := fun d' _ => DecBuf.Inv d'.buf) fun r => r.inv

/-- C06, work bound for `Write`: the number of writer calls (scripted responses consumed) is at
    most `⌈len(p) / (BufferSize - WindowSize)⌉`. -/
theorem C06_write_work_bound (g : Grow) (d : Decoder) (p : List Byte) (h : DecBuf.Inv d.buf) :
    d.w.resps.length - (d.write g p 0).1.w.resps.length
      ≤ (p.length + (d.buf.bs - d.buf.ws - 1)) / (d.buf.bs - d.buf.ws) :=
  (write_calls g d p 0 h (d.buf.bs - d.buf.ws) (by unfold DecBuf.Inv at h; omega) (Nat.le_refl _)).1

/-! ## C18: exactly-once delivery -/

/-- C18 (i) `WriteTo` appends to the writer exactly the `k` bytes by which it advances `R`, also
    when the writer fails or writes short; the rest stays pending; `log` is unchanged. -/
theorem C18_writeTo_exact (d : Decoder) (h : DecBuf.Inv d.buf) :
    d.writeTo.1.w.got = d.w.got ++ d.buf.pending.take d.writeTo.2.1 ∧
    d.writeTo.1.buf.r = d.buf.r + d.writeTo.2.1 ∧
    d.writeTo.1.buf.data = d.buf.data ∧
    d.writeTo.1.buf.pending = d.buf.pending.drop d.writeTo.2.1 ∧
    d.writeTo.1.log = d.log ∧
    (d.writeTo.2.2 = .ok → d.writeTo.1.buf.pending = []) := by
  have t := writeTo_flushed d h
  exact ⟨t.got, t.r, t.data, t.pending, t.log, t.pending_nil⟩

/-- C18 (ii) the writer's error is the error the Decoder call returns: every non-zero error
    code among the scripted responses consumed by the call is the returned error
    (`Surfaced rs rs' e := ∃ used, rs = used ++ rs' ∧ ∀ r ∈ used, r.2 ≠ 0 → e = .writer r.2`). -/
theorem C18_error_surfaced (g : Grow) (d : Decoder) (h : DecBuf.Inv d.buf) :
    Surfaced d.w.resps d.writeTo.1.w.resps d.writeTo.2.2 ∧
    (∀ c, Surfaced d.w.resps (d.writeByte g c).1.w.resps (d.writeByte g c).2) ∧
    (∀ p, Surfaced d.w.resps (d.write g p 0).1.w.resps (d.write g p 0).2.2) ∧
    (∀ seqs lits, Surfaced d.w.resps (d.writeBlock g seqs lits 0 0 0).1.w.resps
        (d.writeBlock g seqs lits 0 0 0).2.2.2.2) :=
  have c := every_call g h (Q := fun d' e => Surfaced d.w.resps d'.w.resps e) fun r => r.surfaced
  ⟨c.2.2.2, c.1, c.2.1, c.2.2.1⟩

/-- C18 (iii), `WriteByte`: the byte is appended to the log iff the call returns `ok`; the
    writer only ever receives more bytes (`got` grows by appending). -/
theorem C18_writeByte_log (g : Grow) (d : Decoder) (c : Byte) (h : DecBuf.Inv d.buf) :
    (d.writeByte g c).1.log = d.log ++ (if (d.writeByte g c).2 = .ok then [c] else []) ∧
    ∃ y, (d.writeByte g c).1.w.got = d.w.got ++ y :=
  ⟨(Decoder.writeByte_spec g d c h).1.log, (Decoder.writeByte_spec g d c h).1.got⟩

/-- C18 (iii), `Write`: the returned `n` counts exactly the bytes of `p` appended to the log
    (`p[:n]`), whatever the writer did; `n = len(p)` on success.  So re-submitting `p[n:]` after an
    error continues the log without loss or duplication. -/
theorem C18_write_log (g : Grow) (d : Decoder) (p : List Byte) (h : DecBuf.Inv d.buf) :
    (d.write g p 0).2.1 ≤ p.length ∧
    (d.write g p 0).1.log = d.log ++ p.take (d.write g p 0).2.1 ∧
    ((d.write g p 0).2.2 = .ok → (d.write g p 0).2.1 = p.length) ∧
    ∃ y, (d.write g p 0).1.w.got = d.w.got ++ y := by
  obtain ⟨_, n, h1, h2, r, h4⟩ := Decoder.write_spec g d p 0 h
  rw [Nat.zero_add] at h1
  rw [h1]
  exact ⟨h2, r.log, h4, r.got⟩

/-- C18 (iii), `WriteBlock` (no assumption on the content of the block): the log only grows by
    appending `z`, `n = len(z)`, `k ≤ len(seqs)`, `l ≤ len(lits)`, full counts on success. -/
theorem C18_writeBlock_log (g : Grow) (d : Decoder) (seqs : List Seq) (lits : List Byte)
    (h : DecBuf.Inv d.buf) :
    ∃ z, (d.writeBlock g seqs lits 0 0 0).1.log = d.log ++ z ∧
      (d.writeBlock g seqs lits 0 0 0).2.1 = (z.length : Int) ∧
      (d.writeBlock g seqs lits 0 0 0).2.2.1 ≤ seqs.length ∧
      (d.writeBlock g seqs lits 0 0 0).2.2.2.1 ≤ lits.length ∧
      ((d.writeBlock g seqs lits 0 0 0).2.2.2.2 = .ok →
        (d.writeBlock g seqs lits 0 0 0).2.2.1 = seqs.length ∧
        (d.writeBlock g seqs lits 0 0 0).2.2.2.1 = lits.length) ∧
      ∃ y, (d.writeBlock g seqs lits 0 0 0).1.w.got = d.w.got ++ y := by
  obtain ⟨_, kk, ll, z, r, q1, q2, q3, q4, q5, q6, _⟩ := writeBlock_post g d seqs lits 0 0 0 h
  rw [Nat.zero_add] at q1 q2
  rw [q1, q2]
  exact ⟨z, r.log, by rw [q3]; omega, q4, q5, q6, r.got⟩

/-- `Hist` holds after `Reset` with a fresh writer and is kept by every call. -/
theorem C18_hist_invariant (g : Grow) (d : Decoder) (h : DecBuf.Inv d.buf) (hh : Hist d) :
    (∀ c, Hist (d.writeByte g c).1) ∧ (∀ p, Hist (d.write g p 0).1) ∧
    (∀ seqs lits, Hist (d.writeBlock g seqs lits 0 0 0).1) ∧ Hist d.flush.1 :=
  every_call g h (Q := fun d' _ => Hist d') fun r => r.closed _ Hist.stepClosed hh

theorem C18_reset_hist (d : Decoder) (w : Writer) (hw : w.got = []) :
    Hist (d.reset w) ∧ (d.reset w).log = [] := by
  unfold Hist Decoder.reset Decoder.log pending DecBuf.reset
  simp [hw]

/-- C18 (iv), `Write`: exactly once.  The caller submits `p`, re-submits the unconsumed
    remainder `p[n:]` after every writer fault, and finally flushes until `Flush` succeeds
    (`retryWrite`, one unit of fuel per scripted response plus one).  Then the protocol succeeds and
    the writer has received the old log followed by `p` — exactly once — and nothing is pending. -/
theorem C18_retry_exactly_once (g : Grow) (d : Decoder) (p : List Byte) (h : DecBuf.Inv d.buf) :
    ∃ d', retryWrite g (d.w.resps.length + 1) d p = some d' ∧
      d'.w.got = d.log ++ p ∧ d'.buf.pending = [] := by
  obtain ⟨d', h1, h2, h3⟩ := retryWrite_spec g (d.w.resps.length + 1) d p h (by omega)
  exact ⟨d', h1, by rw [← h2.log, Decoder.log, h3, List.append_nil], h3⟩

/-- C18 (iv), `WriteBlock`: the retry protocol always finishes in success or with an error
    of the buffer (invalid block / sequence too large), never by running out of fuel. -/
theorem C18_retryBlock_terminates (g : Grow) (d : Decoder) (seqs : List Seq) (lits : List Byte)
    (h : DecBuf.Inv d.buf) :
    ∃ d' e, retryBlock g (d.w.resps.length + 1) d seqs lits = some (d', e) ∧ BufErr e :=
  let ⟨d', e, _, h1, h2, _⟩ := retryBlock_spec g _ d seqs lits h (Nat.lt_succ_self _); ⟨d', e, h1, h2⟩

/-! ## non-vacuity: concrete runs with a faulting writer -/

namespace DecoderEx

def gId : Grow := fun _ n => n

/-- WindowSize 2, BufferSize 3 (so `BufferSize - WindowSize = 1` and `BufferSize < 2*WindowSize`).
    The writer takes 1 byte at its first call (short write), fails with error 7 taking nothing at
    its second call, and takes everything afterwards. -/
def d0 : Decoder := { buf := ⟨[], 0, 0, 2, 3, 0⟩, w := ⟨[(1, 0), (0, 7)], []⟩ }
def dA : Decoder := { buf := ⟨[1, 2, 3], 1, 3, 2, 3, 3⟩, w := ⟨[(0, 7)], [1]⟩ }
def dB : Decoder := { buf := ⟨[2, 3, 4], 0, 4, 2, 3, 3⟩, w := ⟨[(0, 7)], [1]⟩ }
def dC : Decoder := { buf := ⟨[2, 3, 4], 0, 4, 2, 3, 3⟩, w := ⟨[], [1]⟩ }
def dD : Decoder := { buf := ⟨[2, 3, 4], 3, 4, 2, 3, 3⟩, w := ⟨[], [1, 2, 3, 4]⟩ }

example : DecBuf.init 2 3 0 = some d0.buf := by rfl
example : DecBuf.Inv d0.buf := by unfold DecBuf.Inv; decide
example : Hist d0 := ⟨[], rfl⟩

set_option maxRecDepth 4000 in
/-- a 4-byte `Write` (4 × the attainable free space) goes through in pieces: three bytes are
    buffered, then the flush needed for the fourth is cut short by the writer -/
theorem ex_s1 : d0.write gId [1, 2, 3, 4] 0 = (dA, 3, Err.shortWrite) := by
  simp [Decoder.write, d0, dA, gId, DecBuf.write, DecBuf.shrink, DecBuf.append, Decoder.writeTo,
    Writer.write]

set_option maxRecDepth 4000 in
theorem ex_s2 : dA.write gId [4] 0 = (dB, 1, Err.ok) := by
  simp [Decoder.write, dA, dB, DecBuf.write, DecBuf.shrink, DecBuf.append]

theorem ex_s3 : dB.flush = (dC, Err.writer 7) := by
  simp [Decoder.flush, Decoder.writeTo, Writer.write, dB, dC]

theorem ex_s4 : dC.write gId [] 0 = (dC, 0, Err.ok) := by
  simp [Decoder.write]

theorem ex_s5 : dC.flush = (dD, Err.ok) := by
  simp [Decoder.flush, Decoder.writeTo, Writer.write, dC, dD]

/-- the caller's retry protocol delivers the four bytes exactly once, although the first writer
    call is short and the second fails -/
example : retryWrite gId 3 d0 [1, 2, 3, 4] = some dD ∧ dD.w.got = d0.log ++ [1, 2, 3, 4] := by
  refine ⟨?_, rfl⟩
  simp [retryWrite, ex_s1, ex_s2, ex_s3, ex_s4, ex_s5]


/-- the hypothesis `Inv` (here: `WindowSize < BufferSize`, enforced by `DecoderConfig.Verify`) is
    needed: with `WindowSize = BufferSize = 1` the chunk size is 0 and the loop of `Write` spins -/
example : ((⟨⟨[], 0, 0, 1, 1, 0⟩, ⟨[], []⟩⟩ : Decoder).write gId [1] 0).2.2 = hangErr := by
  simp [Decoder.write, DecBuf.write, DecBuf.append]

example : DecBuf.init 1 1 0 = none := by rfl

/-! ### a block written through a faulting writer (WindowSize 2, BufferSize 5) -/

def d1 : Decoder := { buf := ⟨[], 0, 0, 2, 5, 0⟩, w := ⟨[(1, 0), (0, 7), (5, 0)], []⟩ }
def dE : Decoder := { buf := ⟨[1, 2, 2], 1, 3, 2, 5, 3⟩, w := ⟨[(0, 7), (5, 0)], [1]⟩ }
def dF : Decoder := { buf := ⟨[2, 2, 3, 2, 3], 0, 6, 2, 5, 5⟩, w := ⟨[(5, 0)], [1]⟩ }
def dG : Decoder := { buf := ⟨[3, 3, 3, 4, 5], 0, 11, 2, 5, 5⟩, w := ⟨[], [1, 2, 2, 3, 2, 3]⟩ }
def dH : Decoder :=
  { buf := ⟨[3, 3, 3, 4, 5], 5, 11, 2, 5, 5⟩, w := ⟨[], [1, 2, 2, 3, 2, 3, 3, 3, 3, 4, 5]⟩ }
def s1 : Seq := ⟨2, 1, 1, 0⟩
def s2 : Seq := ⟨1, 2, 2, 0⟩
def s3 : Seq := ⟨0, 3, 1, 0⟩

example : DecBuf.Inv d1.buf ∧ Hist d1 := ⟨by unfold DecBuf.Inv; decide, [], rfl⟩

set_option maxRecDepth 8000 in
/-- first call: one sequence (3 bytes) written, then the flush is cut short: `k = 1`, `l = 2` -/
theorem ex_b1 : d1.writeBlock gId [s1, s2, s3] [1, 2, 3, 4, 5] 0 0 0 = (dE, 3, 1, 2, Err.shortWrite) := by
  simp [Decoder.writeBlock, DecBuf.writeBlock, DecBuf.seqLoop, DecBuf.copyMatch, DecBuf.copyLoop, d1, dE,
    s1, s2, s3, gId, DecBuf.shrink, DecBuf.append, Decoder.writeTo, Writer.write]

set_option maxRecDepth 8000 in
/-- the caller re-submits `(seqs[1:], lits[2:])`: one more sequence, then the writer's error 7 -/
theorem ex_b2 : dE.writeBlock gId [s2, s3] [3, 4, 5] 0 0 0 = (dF, 3, 1, 1, Err.writer 7) := by
  simp [Decoder.writeBlock, DecBuf.writeBlock, DecBuf.seqLoop, DecBuf.copyMatch, DecBuf.copyLoop, dE, dF,
    s2, s3, gId, DecBuf.shrink, DecBuf.append, Decoder.writeTo, Writer.write]

set_option maxRecDepth 8000 in
theorem ex_b3 : dF.writeBlock gId [s3] [4, 5] 0 0 0 = (dG, 5, 1, 2, Err.ok) := by
  simp [Decoder.writeBlock, DecBuf.writeBlock, DecBuf.seqLoop, DecBuf.copyMatch, DecBuf.copyLoop, dF, dG,
    s3, DecBuf.shrink, DecBuf.append, Decoder.writeTo, Writer.write, Decoder.unflushed]

theorem ex_b4 : dG.flush = (dH, Err.ok) := by
  simp [Decoder.flush, Decoder.writeTo, Writer.write, dG, dH]

/-- the retry protocol ends with the writer holding exactly the reference expansion of the block -/
example : retryBlock gId 4 d1 [s1, s2, s3] [1, 2, 3, 4, 5] = some (dH, Err.ok) ∧
    expand d1.log ⟨[s1, s2, s3], [1, 2, 3, 4, 5]⟩ = some dH.w.got := by
  refine ⟨?_, by decide⟩
  simp [retryBlock, retryWrite, ex_b1, ex_b2, ex_b3, ex_b4, isWriterFault, Decoder.write]

end DecoderEx

end LZ

#print axioms LZ.DecBuf.write_run
#print axioms LZ.DecBuf.writeBlock_run
#print axioms LZ.Decoder.writeByte_spec
#print axioms LZ.Decoder.write_spec
#print axioms LZ.Decoder.writeBlock_post
#print axioms LZ.Decoder.every_call
#print axioms LZ.Decoder.retryWrite_spec
#print axioms LZ.Decoder.retryBlock_spec
#print axioms LZ.Decoder.write_calls
#print axioms LZ.C06_init_inv
#print axioms LZ.C06_shrink_inv
#print axioms LZ.C06_buf_writeByte_inv
#print axioms LZ.C06_buf_write_inv
#print axioms LZ.C06_buf_writeBlock_inv
#print axioms LZ.C06_writeTo_inv
#print axioms LZ.C06_buf_read_inv
#print axioms LZ.C06_buf_writeMatch_inv
#print axioms LZ.C06_buf_writeByte_fits_when_flushed
#print axioms LZ.C06_buf_write_fits_when_flushed
#print axioms LZ.C06_buf_writeBlock_full_progress
#print axioms LZ.C06_writeByte_no_hang
#print axioms LZ.C06_write_no_hang
#print axioms LZ.C06_writeBlock_no_hang
#print axioms LZ.C06_result_errors
#print axioms LZ.C06_decoder_inv
#print axioms LZ.C06_write_work_bound
#print axioms LZ.C18_writeTo_exact
#print axioms LZ.C18_error_surfaced
#print axioms LZ.C18_writeByte_log
#print axioms LZ.C18_write_log
#print axioms LZ.C18_writeBlock_log
#print axioms LZ.C18_hist_invariant
#print axioms LZ.C18_reset_hist
#print axioms LZ.C18_retry_exactly_once
#print axioms LZ.C18_retryBlock_terminates
