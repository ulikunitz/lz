/-
  LzProofs.DecBufLemmas — the equations and invariants of LzModel/DecBuf.lean that the decoder
  proofs use.  In this order: periodic extensions (`PerExt`); the reference expander `copyRef` /
  `expandSeqs` (equations, lengths, prefixes, composition); the doubling match copy equals the
  byte-wise reference copy; the buffer as an abstraction of an append-only byte log (`AbsD`, `Abs`)
  with one lemma per state change and the specifications of the sequence loop and of `WriteBlock`;
  slice bounds; properties every write operation keeps (`Stable`); `len(Data) ≤ cap(Data)`; last, in `GenBuf`,
  the invariant `LenInv` (`len(Data) ≤ BufferSize`) that the translated copy loops assume.
-/
import LzModel.DecBuf
set_option linter.unusedSimpArgs false
namespace LZ

/-! # periodic extensions -/

/-- `R` extends `D` and is `o`-periodic from index `|D|` on. -/
structure PerExt (D : List Byte) (o : Nat) (R : List Byte) : Prop where
  pre : D <+: R
  per : ∀ i, D.length ≤ i → i < R.length → R[i]? = R[i - o]?

namespace PerExt

theorem refl (D : List Byte) (o : Nat) : PerExt D o D :=
  ⟨List.prefix_refl D, fun i h1 h2 => by omega⟩

theorem length_le {D R : List Byte} {o : Nat} (h : PerExt D o R) : D.length ≤ R.length :=
  h.pre.length_le

theorem getElem?_pre {D R : List Byte} {o : Nat} (h : PerExt D o R) {i : Nat} (hi : i < D.length) :
    R[i]? = D[i]? := by
  obtain ⟨t, rfl⟩ := h.pre
  exact List.getElem?_append_left hi

theorem unique {D R1 R2 : List Byte} {o : Nat} (h1 : PerExt D o R1) (h2 : PerExt D o R2)
    (ho : 0 < o) (hoD : o ≤ D.length) (hlen : R1.length = R2.length) : R1 = R2 := by
  apply List.ext_getElem?
  intro i
  induction i using Nat.strongRecOn with
  | _ i ih =>
    by_cases hi : i < D.length
    · rw [h1.getElem?_pre hi, h2.getElem?_pre hi]
    · by_cases hi2 : i < R1.length
      · rw [h1.per i (by omega) hi2, h2.per i (by omega) (by omega)]
        exact ih (i - o) (by omega)
      · rw [List.getElem?_eq_none (by omega), List.getElem?_eq_none (by omega)]

theorem take {D R : List Byte} {o : Nat} (h : PerExt D o R) {k : Nat} (hk : D.length ≤ k) :
    PerExt D o (R.take k) := by
  constructor
  · exact List.prefix_take_iff.mpr ⟨h.pre, hk⟩
  · intro i h1 h2
    rw [List.length_take] at h2
    rw [List.getElem?_take_of_lt (by omega), List.getElem?_take_of_lt (by omega)]
    exact h.per i h1 (by omega)

theorem shift {D R : List Byte} {o : Nat} (h : PerExt D o R) (k y : Nat)
    (hy : D.length ≤ y + o) (hlt : y + k * o < R.length) : R[y + k * o]? = R[y]? := by
  induction k with
  | zero => rw [Nat.zero_mul, Nat.add_zero]
  | succ k ih =>
    rw [Nat.succ_mul, ← Nat.add_assoc] at hlt ⊢
    rw [h.per _ (by omega) hlt, Nat.add_sub_cancel]
    exact ih (by omega)

/-- appending the last `off = (k+1)·o` bytes continues the period, provided the chunk starts
    at most `o` bytes in front of the periodic region -/
theorem chunk {D R : List Byte} {o : Nat} (h : PerExt D o R) (ho : 0 < o) (hoD : o ≤ D.length)
    (k off : Nat) (hoff : off = k * o + o) (hb : off + D.length ≤ R.length + o) :
    PerExt D o (R ++ R.drop (R.length - off)) := by
  -- `R = R.take a ++ chunk`, the chunk has `off` bytes
  obtain ⟨a, ha⟩ : ∃ a, R.length = a + off := ⟨R.length - off, by omega⟩
  rw [ha, Nat.add_sub_cancel]
  refine ⟨h.pre.trans (List.prefix_append _ _), fun i h1 h2 => ?_⟩
  rw [List.length_append, List.length_drop] at h2
  by_cases hi : i < R.length
  · rw [List.getElem?_append_left hi, List.getElem?_append_left (by omega)]
    exact h.per i h1 hi
  obtain ⟨j, rfl⟩ : ∃ j, i = R.length + j := ⟨i - R.length, by omega⟩
  rw [List.getElem?_append_right (Nat.le_add_right _ _), Nat.add_sub_cancel_left, List.getElem?_drop]
  by_cases hj : j < o
  · -- the byte `o` before is still in `R`, `k` periods after the one copied
    rw [List.getElem?_append_left (by omega), show R.length + j - o = a + j + k * o by omega]
    exact (h.shift k (a + j) (by omega) (by omega)).symm
  · obtain ⟨j', rfl⟩ : ∃ j', j = o + j' := ⟨j - o, by omega⟩
    rw [show R.length + (o + j') - o = R.length + j' by omega,
      List.getElem?_append_right (Nat.le_add_right _ _), Nat.add_sub_cancel_left, List.getElem?_drop,
      h.per (a + (o + j')) (by omega) (by omega)]
    congr 1; omega

end PerExt

/-! # the reference expander (`copyRef`, `expandSeqs`) -/

theorem copyRef_succ_eq_some {out R : List Byte} {o m : Nat} :
    copyRef out o (m + 1) = some R ↔
      ∃ h : 0 < o ∧ o ≤ out.length, copyRef (out ++ [out[out.length - o]'(by omega)]) o m = some R := by
  rw [copyRef]; split <;> simp [*]

theorem expandSeqs_cons_eq_some {w lits : List Byte} {s : Seq} {ss : List Seq} {r : List Byte × List Byte} :
    expandSeqs w lits (s :: ss) = some r ↔
      s.litLen ≤ lits.length ∧ ∃ w', copyRef (w ++ lits.take s.litLen) s.offset s.matchLen = some w' ∧
        expandSeqs w' (lits.drop s.litLen) ss = some r := by
  rw [expandSeqs]; split
  · split <;> simp [*]
  · simp [*]

theorem copyRef_perExt (out : List Byte) (o m : Nat) (ho : 0 < o) (hlen : o ≤ out.length) :
    ∃ R, copyRef out o m = some R ∧ PerExt out o R ∧ R.length = out.length + m := by
  induction m generalizing out with
  | zero => exact ⟨out, rfl, PerExt.refl _ _, rfl⟩
  | succ m ih =>
    obtain ⟨R, hR, hp, hl⟩ := ih (out ++ [out[out.length - o]'(by omega)])
      (by rw [List.length_append]; omega)
    rw [List.length_append, List.length_singleton] at hl
    refine ⟨R, copyRef_succ_eq_some.mpr ⟨⟨ho, hlen⟩, hR⟩, ⟨(List.prefix_append _ _).trans hp.pre, ?_⟩, by omega⟩
    intro i h1 h2
    by_cases hi : i = out.length
    · -- the byte just appended is the one `o` before it
      subst hi
      rw [hp.getElem?_pre (by simp), hp.getElem?_pre (by simp; omega),
        List.getElem?_append_right (Nat.le_refl _), List.getElem?_append_left (by omega)]
      simp
    · exact hp.per i (by simp; omega) h2

theorem copyRef_length {out R : List Byte} {o m : Nat} (h : copyRef out o m = some R) :
    R.length = out.length + m := by
  induction m generalizing out with
  | zero => cases h; rfl
  | succ m ih =>
    obtain ⟨_, h⟩ := copyRef_succ_eq_some.mp h
    rw [ih h, List.length_append, List.length_singleton, Nat.add_assoc, Nat.add_comm 1]

theorem copyRef_zero (out : List Byte) (o : Nat) : copyRef out o 0 = some out := rfl

theorem copyRef_isSome_iff (out : List Byte) (o m : Nat) :
    (copyRef out o m).isSome ↔ (m = 0 ∨ (0 < o ∧ o ≤ out.length)) := by
  cases m with
  | zero => simp [copyRef]
  | succ m =>
    by_cases hc : 0 < o ∧ o ≤ out.length
    · obtain ⟨R, hR, _⟩ := copyRef_perExt out o (m + 1) hc.1 hc.2
      simp [hR, hc]
    · simp only [copyRef, hc, ↓reduceDIte]; simp

theorem copyRef_append_left (pre : List Byte) {out R : List Byte} {o m : Nat}
    (h : copyRef out o m = some R) : copyRef (pre ++ out) o m = some (pre ++ R) := by
  induction m generalizing out with
  | zero => cases h; rfl
  | succ m ih =>
    obtain ⟨hc, h⟩ := copyRef_succ_eq_some.mp h
    refine copyRef_succ_eq_some.mpr ⟨by rw [List.length_append]; omega, ?_⟩
    rw [← ih h, List.append_assoc]
    congr 4
    rw [List.getElem_append_right (by rw [List.length_append]; omega)]
    congr 1
    rw [List.length_append]; omega

def sumLit (ss : List Seq) : Nat := (ss.map (·.litLen)).sum
def sumMatch (ss : List Seq) : Nat := (ss.map (·.matchLen)).sum

theorem expandSeqs_counts {w lits w' rest : List Byte} {ss : List Seq}
    (h : expandSeqs w lits ss = some (w', rest)) :
    rest = lits.drop (sumLit ss) ∧ sumLit ss ≤ lits.length ∧
    w'.length = w.length + sumLit ss + sumMatch ss := by
  induction ss generalizing w lits with
  | nil => cases h; exact ⟨rfl, Nat.zero_le _, rfl⟩
  | cons s ss ih =>
    obtain ⟨hl, out', hc, h⟩ := expandSeqs_cons_eq_some.mp h
    obtain ⟨i1, i2, i3⟩ := ih h
    have := copyRef_length hc
    rw [List.length_append, List.length_take] at this
    rw [List.length_drop] at i2
    have e1 : sumLit (s :: ss) = s.litLen + sumLit ss := List.sum_cons
    have e2 : sumMatch (s :: ss) = s.matchLen + sumMatch ss := List.sum_cons
    exact ⟨by rw [i1, List.drop_drop, e1], by omega, by omega⟩

theorem copyRef_prefix {w w' : List Byte} {o m : Nat} (h : copyRef w o m = some w') : w <+: w' := by
  induction m generalizing w with
  | zero => cases h; exact List.prefix_refl _
  | succ m ih =>
    obtain ⟨_, h⟩ := copyRef_succ_eq_some.mp h
    exact (List.prefix_append _ _).trans (ih h)

theorem expandSeqs_prefix {w lits w' rest : List Byte} {ss : List Seq}
    (h : expandSeqs w lits ss = some (w', rest)) : w <+: w' := by
  induction ss generalizing w lits with
  | nil => cases h; exact List.prefix_refl _
  | cons s ss ih =>
    obtain ⟨_, out', hc, h⟩ := expandSeqs_cons_eq_some.mp h
    exact ((List.prefix_append _ _).trans (copyRef_prefix hc)).trans (ih h)

theorem expandSeqs_append_left (pre : List Byte) {w lits : List Byte} {ss : List Seq} {r : List Byte × List Byte}
    (h : expandSeqs w lits ss = some r) : expandSeqs (pre ++ w) lits ss = some (pre ++ r.1, r.2) := by
  induction ss generalizing w lits with
  | nil => cases h; rfl
  | cons s ss ih =>
    obtain ⟨hl, w', hc, h⟩ := expandSeqs_cons_eq_some.mp h
    exact expandSeqs_cons_eq_some.mpr
      ⟨hl, pre ++ w', by rw [List.append_assoc]; exact copyRef_append_left pre hc, ih h⟩

theorem take_of_prefix {w w' : List Byte} (h : w <+: w') {d : Nat} (hd : d ≤ w.length) :
    w'.take d = w.take d := by
  obtain ⟨t, rfl⟩ := h
  exact List.take_append_of_le_length hd

theorem expandSeqs_take_lits {w lits w' rest : List Byte} {ss : List Seq}
    (h : expandSeqs w lits ss = some (w', rest)) {l : Nat} (hl : l + rest.length = lits.length) :
    expandSeqs w (lits.take l) ss = some (w', []) := by
  induction ss generalizing w lits l with
  | nil =>
    cases h
    have : l = 0 := by omega
    subst this; rfl
  | cons s ss ih =>
    obtain ⟨hle, out', hc, h⟩ := expandSeqs_cons_eq_some.mp h
    have hr : rest.length + sumLit ss = lits.length - s.litLen := by
      obtain ⟨c1, c2, -⟩ := expandSeqs_counts h
      rw [c1, List.length_drop, List.length_drop]; rw [List.length_drop] at c2; omega
    refine expandSeqs_cons_eq_some.mpr ⟨by rw [List.length_take]; omega, out', ?_, ?_⟩
    · rwa [List.take_take, Nat.min_eq_left (by omega)]
    · rw [List.drop_take]
      exact ih h (by rw [List.length_drop]; omega)

theorem expandSeqs_append : ∀ (a b : List Seq) (out lits : List Byte),
    expandSeqs out lits (a ++ b) =
      match expandSeqs out lits a with
      | some (o, r) => expandSeqs o r b
      | none => none := by
  intro a
  induction a with
  | nil => intro b out lits; simp [expandSeqs]
  | cons s a ih =>
    intro b out lits
    simp only [List.cons_append]
    rw [expandSeqs.eq_2, expandSeqs.eq_2]
    split
    · split
      · exact ih _ _ _
      · rfl
    · rfl

/-! # the doubling copy equals the byte-wise reference copy -/

namespace DecBuf

@[simp] theorem append_data (g : Grow) (b : DecBuf) (p : List Byte) : (b.append g p).data = b.data ++ p := rfl
@[simp] theorem append_r (g : Grow) (b : DecBuf) (p : List Byte) : (b.append g p).r = b.r := rfl
@[simp] theorem append_off (g : Grow) (b : DecBuf) (p : List Byte) : (b.append g p).off = b.off := rfl
@[simp] theorem append_ws (g : Grow) (b : DecBuf) (p : List Byte) : (b.append g p).ws = b.ws := rfl
@[simp] theorem append_bs (g : Grow) (b : DecBuf) (p : List Byte) : (b.append g p).bs = b.bs := rfl

theorem copyLoop_def (g : Grow) (m : DecBuf) (n off : Nat) :
    copyLoop g m n off =
      if n > off ∧ off > 0 then
        if n - off ≤ off then (m.append g (m.data.drop (m.data.length - off)), n - off, off)
        else copyLoop g (m.append g (m.data.drop (m.data.length - off))) (n - off) (off * 2)
      else (m, n, off) := by
  rw [copyLoop]
  by_cases h : n > off ∧ off > 0
  · simp only [h, and_self, dite_true, if_true]
  · simp only [h, dite_false, if_false]

theorem copyLoop_keeps {g : Grow} {P : DecBuf → Prop} (hP : ∀ b p, P b → P (b.append g p))
    (b : DecBuf) (n off : Nat) (h : P b) : P (copyLoop g b n off).1 := by
  fun_induction copyLoop g b n off with
  | case1 b n off hc b' n' hle => exact hP _ _ h
  | case2 b n off hc b' n' hle ih => exact ih (hP _ _ h)
  | case3 b n off hc => exact h

/-- invariant of the doubling loop: `data` stays an `o`-periodic extension of `D`, `off` is a
    multiple of `o`, and a chunk of `off` bytes starts at most `o` bytes in front of the
    periodic region -/
theorem copyLoop_inv (g : Grow) {D : List Byte} {o : Nat} (ho : 0 < o) (hoD : o ≤ D.length)
    (b : DecBuf) (n off : Nat)
    (hp : PerExt D o b.data) (hk : ∃ k, off = k * o + o) (hb : off + D.length ≤ b.data.length + o) :
    ∃ b' n' off', copyLoop g b n off = (b', n', off') ∧
      PerExt D o b'.data ∧ (∃ k, off' = k * o + o) ∧ off' + D.length ≤ b'.data.length + o ∧
      b'.data.length + n' = b.data.length + n ∧ n' ≤ off' := by
  fun_induction copyLoop g b n off with
  | case1 b n off h b' n' hle =>
    obtain ⟨k, hk⟩ := hk
    have hl := hp.length_le
    have hlen : b'.data.length = b.data.length + off := by
      simp only [b', append_data, List.length_append, List.length_drop]; omega
    exact ⟨b', n', off, rfl, hp.chunk ho hoD k off hk hb, ⟨k, hk⟩, by omega, by omega, hle⟩
  | case2 b n off h b' n' hle ih =>
    obtain ⟨k, hk⟩ := hk
    have hlen : b'.data.length = b.data.length + off := by
      simp only [b', append_data, List.length_append, List.length_drop]; omega
    obtain ⟨b'', n'', off'', heq, i1, i2, i3, i4, i5⟩ := ih (hp.chunk ho hoD k off hk hb)
      ⟨2 * k + 1, by rw [Nat.add_mul, Nat.mul_assoc, Nat.one_mul]; omega⟩ (by omega)
    exact ⟨b'', n'', off'', heq, i1, i2, i3, by omega, i5⟩
  | case3 b n off h => exact ⟨b, n, off, rfl, hp, hk, hb, rfl, by omega⟩

/-- all slice expressions of the copy loop (`Data[len-off:]`) are within bounds -/
def copyLoopSafe (g : Grow) (b : DecBuf) (n off : Nat) : Prop :=
  if h : n > off ∧ off > 0 then
    off ≤ b.data.length ∧
      (if n - off ≤ off then True
       else copyLoopSafe g (b.append g (b.data.drop (b.data.length - off))) (n - off) (off * 2))
  else True
termination_by n
decreasing_by omega

theorem copyLoop_safe_aux (g : Grow) (b : DecBuf) (n off : Nat) (h : 0 < off → off ≤ b.data.length) :
    copyLoopSafe g b n off := by
  fun_induction copyLoop g b n off with
  | case1 b n off hc b' n' hle =>
    unfold copyLoopSafe
    rw [dif_pos hc, if_pos hle]
    exact ⟨h hc.2, trivial⟩
  | case2 b n off hc b' n' hle ih =>
    unfold copyLoopSafe
    rw [dif_pos hc, if_neg hle]
    refine ⟨h hc.2, ih fun _ => ?_⟩
    have := h hc.2
    simp only [b', append_data, List.length_append, List.length_drop]; omega
  | case3 b n off hc =>
    unfold copyLoopSafe
    rw [dif_neg hc]
    trivial

theorem copyMatch_def (g : Grow) (b : DecBuf) (m o : Nat) :
    copyMatch g b m o =
      (copyLoop g b m o).1.append g
        (((copyLoop g b m o).1.data.drop ((copyLoop g b m o).1.data.length - (copyLoop g b m o).2.2)).take
          (copyLoop g b m o).2.1) := rfl

theorem copyMatch_sameCtl (g : Grow) (b : DecBuf) (m o : Nat) :
    (copyMatch g b m o).r = b.r ∧ (copyMatch g b m o).off = b.off ∧
    (copyMatch g b m o).ws = b.ws ∧ (copyMatch g b m o).bs = b.bs := by
  rw [copyMatch_def]
  exact copyLoop_keeps (P := fun b' => b'.r = b.r ∧ b'.off = b.off ∧ b'.ws = b.ws ∧ b'.bs = b.bs)
    (fun _ _ h => h) b m o ⟨rfl, rfl, rfl, rfl⟩

theorem copyLoop_zero (g : Grow) (b : DecBuf) (off : Nat) : copyLoop g b 0 off = (b, 0, off) := by
  unfold copyLoop; simp

theorem copyMatch_zero (g : Grow) (b : DecBuf) (o : Nat) : (copyMatch g b 0 o).data = b.data := by
  rw [copyMatch_def, copyLoop_zero]; simp

/-- Doubling copy = reference copy.  For a valid offset the doubling loop followed by the
    final partial copy appends exactly what the byte-wise copy appends. -/
theorem copyMatch_eq_copyRef (g : Grow) (b : DecBuf) (m o : Nat)
    (h : m = 0 ∨ (0 < o ∧ o ≤ b.data.length)) :
    copyRef b.data o m = some (copyMatch g b m o).data := by
  by_cases hm : m = 0
  · subst hm; rw [copyMatch_zero]; rfl
  · have ⟨ho, hoD⟩ : 0 < o ∧ o ≤ b.data.length := by omega
    obtain ⟨R, hR, hpR, hlR⟩ := copyRef_perExt b.data o m ho hoD
    obtain ⟨b', n, off, heq, hp, ⟨k, hk⟩, hb, hlen, hle⟩ :=
      copyLoop_inv g ho hoD b m o (PerExt.refl _ _) ⟨0, by rw [Nat.zero_mul, Nat.zero_add]⟩ (by omega)
    have hl := hp.length_le
    rw [hR, copyMatch_def, heq]
    congr 1
    -- the final partial copy is a prefix of one more chunk
    have hch := (hp.chunk ho hoD k off hk hb).take (k := b'.data.length + n) (by omega)
    rw [List.take_append, List.take_of_length_le (Nat.le_add_right _ _), Nat.add_sub_cancel_left] at hch
    apply hpR.unique hch ho hoD
    rw [hlR, List.length_append, List.length_take, List.length_drop]
    omega

theorem copyMatch_length (g : Grow) (b : DecBuf) (m o : Nat)
    (h : m = 0 ∨ (0 < o ∧ o ≤ b.data.length)) :
    (copyMatch g b m o).data.length = b.data.length + m :=
  copyRef_length (copyMatch_eq_copyRef g b m o h)

/-- all slice expressions of one complete match copy are in bounds -/
def CopySafe (g : Grow) (b : DecBuf) (m o : Nat) : Prop :=
  copyLoopSafe g b m o ∧
  (copyLoop g b m o).2.2 ≤ (copyLoop g b m o).1.data.length ∧
  (copyLoop g b m o).2.1 ≤ (copyLoop g b m o).2.2

/-- the model's "no slice panic" for the copy: in every loop iteration `off ≤ len(Data)`
    (so `Data[len-off:]` is fine) and for the final `Data[j:j+n]`, `j = len-off ≥ 0` and
    `j+n ≤ len` -/
theorem copyMatch_safe (g : Grow) (b : DecBuf) (m o : Nat)
    (ho : o ≤ b.data.length) (h0 : o = 0 → m = 0) : CopySafe g b m o := by
  refine ⟨copyLoop_safe_aux g b m o (fun _ => ho), ?_⟩
  by_cases hz : o = 0
  · have := h0 hz; subst hz; subst this
    rw [copyLoop_zero]; exact ⟨Nat.zero_le _, Nat.le_refl _⟩
  · obtain ⟨b', n, off, heq, hp, _, hb, _, hle⟩ :=
      copyLoop_inv g (Nat.pos_of_ne_zero hz) ho b m o (PerExt.refl _ _) ⟨0, by rw [Nat.zero_mul, Nat.zero_add]⟩
        (by omega)
    have := hp.length_le
    rw [heq]
    exact ⟨show off ≤ b'.data.length by omega, hle⟩

end DecBuf

/-! # abstraction to an append-only byte log -/

namespace DecBuf

/-- Abstraction relation, data part (everything except `Off`): the buffer `b` represents the byte
    log `w` (everything written since Init/Reset) of which `d` bytes have been delivered. -/
structure AbsD (b : DecBuf) (w : List Byte) (d : Nat) : Prop where
  /-- `Data` is the suffix of the log of length `len(Data)` -/
  suffix : b.data <:+ w
  r_le : b.r ≤ b.data.length
  /-- delivered = dropped + R: unread bytes are never dropped -/
  deliv : d = w.length - b.data.length + b.r
  /-- the window stays addressable -/
  win : min b.ws w.length ≤ b.data.length
  ws_lt : b.ws < b.bs
  len_bs : b.data.length ≤ b.bs

/-- Abstraction relation including `Off = |written|`. -/
structure Abs (b : DecBuf) (w : List Byte) (d : Nat) : Prop extends AbsD b w d where
  off : b.off = w.length

theorem AbsD.len_le {b : DecBuf} {w : List Byte} {d : Nat} (h : AbsD b w d) :
    b.data.length ≤ w.length := h.suffix.length_le

theorem AbsD.data_eq {b : DecBuf} {w : List Byte} {d : Nat} (h : AbsD b w d) :
    b.data = w.drop (w.length - b.data.length) := List.suffix_iff_eq_drop.mp h.suffix

theorem AbsD.congr {b b' : DecBuf} {w : List Byte} {d : Nat} (h : AbsD b w d)
    (h1 : b'.data = b.data) (h2 : b'.r = b.r) (h3 : b'.ws = b.ws) (h4 : b'.bs = b.bs) :
    AbsD b' w d := by
  constructor
  · rw [h1]; exact h.suffix
  · rw [h1, h2]; exact h.r_le
  · rw [h1, h2]; exact h.deliv
  · rw [h1, h3]; exact h.win
  · rw [h3, h4]; exact h.ws_lt
  · rw [h1, h4]; exact h.len_bs

theorem AbsD.min_win {b : DecBuf} {w : List Byte} {d : Nat} (h : AbsD b w d) (x : Nat) :
    min (b.data.length + x) b.ws = min (w.length + x) b.ws := by
  have := h.win; have := h.len_le; omega

private theorem min_add_le {a b c m : Nat} (h : min a b ≤ c) : min a (b + m) ≤ c + m := by omega

theorem AbsD.append {b : DecBuf} {w : List Byte} {d : Nat} (h : AbsD b w d) (g : Grow)
    (p : List Byte) (hfit : b.data.length + p.length ≤ b.bs) : AbsD (b.append g p) (w ++ p) d := by
  obtain ⟨t, ht⟩ := h.suffix
  refine ⟨⟨t, by rw [append_data, ← List.append_assoc, ht]⟩, ?_, ?_, ?_, h.ws_lt, ?_⟩
  · rw [append_data, List.length_append]; exact Nat.le_trans h.r_le (Nat.le_add_right _ _)
  · rw [append_data, List.length_append, List.length_append, Nat.add_sub_add_right]; exact h.deliv
  · rw [append_data, List.length_append, List.length_append]; exact min_add_le h.win
  · rw [append_data, List.length_append]; exact hfit

/-! ### shrink -/

/-- `shrink` without nested tests: `BufferSize` becomes `max BufferSize cap`, and `D` bytes are dropped -/
theorem shrink_eq (b : DecBuf) (g D : Nat)
    (hD : D = if b.bs < b.cap ∧ g ≤ b.cap then 0 else min (b.data.length - b.ws) b.r) :
    b.shrink g = ({ b with bs := max b.bs b.cap, data := b.data.drop D, r := b.r - D }, D) := by
  subst hD
  unfold shrink
  by_cases h1 : b.bs < b.cap
  · by_cases h2 : g ≤ b.cap <;> by_cases h0 : min (b.data.length - b.ws) b.r = 0 <;>
      simp only [h0, h1, h2, Nat.max_eq_right (Nat.le_of_lt h1), and_self, and_false, if_true, if_false, decide_true,
        List.drop_zero, Nat.sub_zero]
  · by_cases h0 : min (b.data.length - b.ws) b.r = 0 <;>
      simp only [h0, h1, Nat.max_eq_left (Nat.le_of_not_lt h1), false_and, if_true, if_false, decide_false,
        Bool.false_eq_true, List.drop_zero, Nat.sub_zero]

theorem shrink_props (b : DecBuf) (g : Nat) :
    (b.shrink g).1.data = b.data.drop (b.shrink g).2 ∧
    (b.shrink g).1.r = b.r - (b.shrink g).2 ∧
    (b.shrink g).2 ≤ b.r ∧
    (b.shrink g).2 ≤ b.data.length - b.ws ∧
    (b.shrink g).1.off = b.off ∧
    (b.shrink g).1.ws = b.ws ∧
    b.bs ≤ (b.shrink g).1.bs := by
  rw [shrink_eq b g _ rfl]
  refine ⟨rfl, rfl, ?_, ?_, rfl, rfl, Nat.le_max_left _ _⟩ <;> dsimp only <;> split <;> omega

theorem shrink_data (b : DecBuf) (g : Nat) : (b.shrink g).1.data = b.data.drop (b.shrink g).2 :=
  (shrink_props b g).1
theorem shrink_r (b : DecBuf) (g : Nat) : (b.shrink g).1.r = b.r - (b.shrink g).2 := (shrink_props b g).2.1
theorem shrink_off (b : DecBuf) (g : Nat) : (b.shrink g).1.off = b.off := (shrink_props b g).2.2.2.2.1
theorem shrink_ws (b : DecBuf) (g : Nat) : (b.shrink g).1.ws = b.ws := (shrink_props b g).2.2.2.2.2.1
theorem shrink_bs_ge (b : DecBuf) (g : Nat) : b.bs ≤ (b.shrink g).1.bs := (shrink_props b g).2.2.2.2.2.2

theorem shrink_bs_le (b : DecBuf) (g : Nat) : (b.shrink g).1.bs ≤ max b.bs b.cap := by
  rw [shrink_eq b g _ rfl]
  exact Nat.le_refl _

theorem shrink_delta (b : DecBuf) (g : Nat) :
    ((b.shrink g).2 = 0 ∧ g ≤ (b.shrink g).1.bs) ∨ (b.shrink g).2 = min (b.data.length - b.ws) b.r := by
  rw [shrink_eq b g _ rfl]
  dsimp only
  by_cases hr : b.bs < b.cap ∧ g ≤ b.cap
  · rw [if_pos hr]; exact .inl ⟨rfl, by omega⟩
  · rw [if_neg hr]; exact .inr rfl

/-- `shrink` keeps at least `min len(Data) ws` bytes and never drops an unread byte -/
theorem shrink_keeps (b : DecBuf) (g : Nat) :
    min b.data.length b.ws ≤ (b.shrink g).1.data.length ∧ (b.shrink g).2 ≤ b.r ∧
    (b.shrink g).2 ≤ b.data.length - b.ws ∧
    (b.shrink g).1.data.length + (b.shrink g).2 = b.data.length := by
  obtain ⟨h1, _, h3, h4, _⟩ := shrink_props b g
  rw [h1, List.length_drop]; omega

theorem AbsD.shrink {b : DecBuf} {w : List Byte} {d : Nat} (h : AbsD b w d) (g : Nat) :
    AbsD (b.shrink g).1 w d := by
  have hk := shrink_keeps b g
  have hbs := shrink_bs_ge b g
  have hl := h.len_le
  refine ⟨?_, ?_, ?_, ?_, ?_, ?_⟩
  · rw [shrink_data]; exact (List.drop_suffix _ _).trans h.suffix
  · rw [shrink_r]; have := h.r_le; have := hk.2.2.2; omega
  · rw [shrink_r]; have := h.deliv; have := hk.2.1; have := hk.2.2.2; omega
  · rw [shrink_ws]; have := h.win; have := hk.1; omega
  · rw [shrink_ws]; exact Nat.lt_of_lt_of_le h.ws_lt hbs
  · have := h.len_bs; have := hk.2.2.2; omega

theorem Abs.shrink {b : DecBuf} {w : List Byte} {d : Nat} (h : Abs b w d) (g : Nat) :
    Abs (b.shrink g).1 w d :=
  ⟨h.toAbsD.shrink g, (shrink_off b g).trans h.off⟩

/-! ### init, reset -/

theorem decCfg_lt {ws bs : Int} {w b : Nat} (h : decCfg ws bs = some (w, b)) : w < b := by
  unfold decCfg at h
  simp only at h
  generalize (if ws = 0 then Facts.decDefWindowSize else ws) = ws' at h
  generalize (if bs = 0 then Facts.decBufFactor * ws' else bs) = bs' at h
  split at h
  · cases h; omega
  · cases h

theorem init_abs {ws bs : Int} {precap : Nat} {b : DecBuf} (h : init ws bs precap = some b) :
    Abs b [] 0 := by
  unfold init at h
  split at h
  · cases h
  · rename_i w' b' hc
    cases h
    have := decCfg_lt hc
    refine ⟨⟨List.suffix_refl _, by simp, by simp, by simp, ?_, by simp⟩, rfl⟩
    simp only
    split <;> omega

theorem reset_abs {b : DecBuf} {w : List Byte} {d : Nat} (h : AbsD b w d) : Abs b.reset [] 0 := by
  refine ⟨⟨List.suffix_refl _, by simp [reset], by simp [reset], by simp [reset], ?_, by simp [reset]⟩, rfl⟩
  have := h.ws_lt
  simp only [reset]
  split <;> omega

/-! ### WriteByte, Write -/

theorem Abs.appendOff {b : DecBuf} {w : List Byte} {d : Nat} (h : Abs b w d) (g : Grow)
    (p : List Byte) (hfit : b.data.length + p.length ≤ b.bs) :
    Abs { (b.append g p) with off := b.off + p.length } (w ++ p) d :=
  ⟨(h.toAbsD.append g p hfit).congr rfl rfl rfl rfl, by simp [h.off]⟩

/-- the "make room" step of `Write`, `WriteByte` and the trailing literals of `WriteBlock`: shrink if `n` more
    bytes do not fit; the second component is the number of bytes dropped -/
def roomFor (b : DecBuf) (n : Nat) : DecBuf × Nat :=
  if b.data.length + n > b.bs then b.shrink (b.data.length + n) else (b, 0)

/-- `roomFor` is a `shrink` or nothing: it keeps what every `shrink` keeps -/
theorem roomFor_keeps {P : DecBuf → Prop} (b : DecBuf) (n : Nat) (hs : ∀ g, P (b.shrink g).1) (h : P b) :
    P (roomFor b n).1 := by
  unfold roomFor; split
  · exact hs _
  · exact h

theorem roomFor_off (b : DecBuf) (n : Nat) : (roomFor b n).1.off = b.off :=
  roomFor_keeps (P := fun b' => b'.off = b.off) b n (shrink_off b) rfl

theorem roomFor_len (b : DecBuf) (n : Nat) : (roomFor b n).1.data.length + (roomFor b n).2 = b.data.length := by
  unfold roomFor; split
  · exact (shrink_keeps _ _).2.2.2
  · rfl

theorem AbsD.roomFor {b : DecBuf} {w : List Byte} {d : Nat} (h : AbsD b w d) (n : Nat) :
    AbsD (roomFor b n).1 w d := roomFor_keeps (P := fun b' => AbsD b' w d) b n h.shrink h

theorem write_def (g : Grow) (b : DecBuf) (p : List Byte) :
    write g b p =
      if (roomFor b p.length).1.data.length + p.length > (roomFor b p.length).1.bs then
        ((roomFor b p.length).1, 0, .full)
      else ({ ((roomFor b p.length).1.append g p) with off := (roomFor b p.length).1.off + p.length },
        p.length, .ok) := by
  unfold write roomFor
  by_cases hn : b.data.length + p.length > b.bs
  · simp only [hn, ↓reduceIte]
    -- `g -= b.shrink(g)` leaves the new `len(Data) + len(p)`
    have hk := (shrink_keeps b (b.data.length + p.length)).2.2.2
    rw [show b.data.length + p.length - (b.shrink (b.data.length + p.length)).2 =
      (b.shrink (b.data.length + p.length)).1.data.length + p.length by omega]
  · simp only [hn, ↓reduceIte]

theorem write_le (g : Grow) (b : DecBuf) (p : List Byte) : (write g b p).2.1 ≤ p.length := by
  rw [write_def]
  split
  · exact Nat.zero_le _
  · exact Nat.le_refl _

theorem writeByte_eq_write (g : Grow) (b : DecBuf) (c : Byte) :
    writeByte g b c = ((write g b [c]).1, (write g b [c]).2.2) := by
  unfold writeByte write
  by_cases hn : b.data.length + 1 > b.bs
  · simp only [List.length_singleton, hn, ↓reduceIte]
    split <;> rfl
  · simp only [List.length_singleton, hn, ↓reduceIte]

/-! ### WriteMatch -/

theorem AbsD.ofCopyMatch {b : DecBuf} {w : List Byte} {d : Nat} (h : AbsD b w d) (g : Grow)
    (m o : Nat) (hv : m = 0 ∨ (0 < o ∧ o ≤ b.data.length)) (hfit : b.data.length + m ≤ b.bs) :
    ∃ w', copyRef w o m = some w' ∧ AbsD (copyMatch g b m o) w' d ∧ w'.length = w.length + m ∧
      (copyMatch g b m o).data.length = b.data.length + m := by
  obtain ⟨t, ht⟩ := h.suffix
  have hcl := copyMatch_length g b m o hv
  obtain ⟨s1, -, s3, s4⟩ := copyMatch_sameCtl g b m o
  have htl : t.length + b.data.length = w.length := by rw [← ht, List.length_append]
  have hwl : (t ++ (copyMatch g b m o).data).length = w.length + m := by
    rw [List.length_append, hcl]; omega
  refine ⟨_, ?_, ⟨⟨t, rfl⟩, ?_, ?_, ?_, ?_, ?_⟩, hwl, hcl⟩
  · rw [← ht]; exact copyRef_append_left t (copyMatch_eq_copyRef g b m o hv)
  · rw [s1, hcl]; exact Nat.le_trans h.r_le (Nat.le_add_right _ _)
  · rw [s1, hwl, hcl, Nat.add_sub_add_right]; exact h.deliv
  · rw [s3, hwl, hcl]; exact min_add_le h.win
  · rw [s3, s4]; exact h.ws_lt
  · rw [s4, hcl]; exact hfit

theorem Abs.copyMatchOff {b : DecBuf} {w : List Byte} {d : Nat} (h : Abs b w d) (g : Grow)
    (m o : Nat) (hv : m = 0 ∨ (0 < o ∧ o ≤ b.data.length)) (hfit : b.data.length + m ≤ b.bs) :
    ∃ w', copyRef w o m = some w' ∧ Abs { (copyMatch g b m o) with off := b.off + m } w' d := by
  obtain ⟨w', h1, h2, h3, -⟩ := h.toAbsD.ofCopyMatch g m o hv hfit
  exact ⟨w', h1, h2.congr rfl rfl rfl rfl, by rw [h3, ← h.off]⟩

/-- the rejection condition of `WriteMatch` -/
def BadOffset (b : DecBuf) (m o : Nat) : Prop := (o = 0 ∧ m > 0) ∨ o > min b.data.length b.ws

/-- the "make room" step shared by `WriteMatch` and the sequence loop -/
def room (b : DecBuf) (need : Nat) : DecBuf × Bool × Nat :=
  if need > b.bs - b.data.length then
    ((b.shrink (need + b.data.length)).1,
      decide (need ≤ (b.shrink (need + b.data.length)).1.bs - (b.shrink (need + b.data.length)).1.data.length),
      (b.shrink (need + b.data.length)).2)
  else (b, true, 0)

/-- `room` is a `shrink` or nothing: it keeps what every `shrink` keeps -/
theorem room_keeps_of {P : DecBuf → Prop} (b : DecBuf) (need : Nat) (hs : ∀ g, P (b.shrink g).1) (h : P b) :
    P (room b need).1 := by
  unfold room; split
  · exact hs _
  · exact h

theorem room_off (b : DecBuf) (need : Nat) : (room b need).1.off = b.off :=
  room_keeps_of (P := fun b' => b'.off = b.off) b need (shrink_off b) rfl

theorem room_ws (b : DecBuf) (need : Nat) : (room b need).1.ws = b.ws :=
  room_keeps_of (P := fun b' => b'.ws = b.ws) b need (shrink_ws b) rfl

theorem room_bs_le (b : DecBuf) (need : Nat) : (room b need).1.bs ≤ max b.bs b.cap :=
  room_keeps_of (P := fun b' => b'.bs ≤ max b.bs b.cap) b need (shrink_bs_le b) (Nat.le_max_left _ _)

theorem room_len (b : DecBuf) (need : Nat) :
    (room b need).1.data.length + (room b need).2.2 = b.data.length := by
  unfold room; split
  · exact (shrink_keeps _ _).2.2.2
  · rfl

theorem room_keeps (b : DecBuf) (need : Nat) : min b.data.length b.ws ≤ (room b need).1.data.length :=
  room_keeps_of (P := fun b' => min b.data.length b.ws ≤ b'.data.length) b need (fun g => (shrink_keeps b g).1)
    (Nat.min_le_left _ _)

theorem room_fits (b : DecBuf) (need : Nat) :
    (room b need).2.1 = true ↔ need ≤ (room b need).1.bs - (room b need).1.data.length := by
  unfold room; split
  · exact decide_eq_true_iff
  · simp only [true_iff]; omega

theorem room_flushed (b : DecBuf) (need : Nat) (hr : b.r = b.data.length) :
    (room b need).2.1 = true ∨ (room b need).1.data.length ≤ b.ws := by
  unfold room; split
  · show decide _ = true ∨ (b.shrink (need + b.data.length)).1.data.length ≤ b.ws
    have hk := (shrink_keeps b (need + b.data.length)).2.2.2
    rcases shrink_delta b (need + b.data.length) with ⟨h0, hfit⟩ | hd
    · exact Or.inl (decide_eq_true (by omega))
    · exact Or.inr (by omega)
  · exact Or.inl rfl

theorem roomFor_eq_room {b : DecBuf} (h : b.data.length ≤ b.bs) (n : Nat) :
    roomFor b n = ((room b n).1, (room b n).2.2) := by
  unfold roomFor room
  rw [Nat.add_comm n]
  by_cases hc : b.data.length + n > b.bs
  · rw [if_pos hc, if_pos (by omega)]
  · rw [if_neg hc, if_neg (by omega)]

theorem AbsD.room {b : DecBuf} {w : List Byte} {d : Nat} (h : AbsD b w d) (need : Nat) :
    AbsD (room b need).1 w d := room_keeps_of (P := fun b' => AbsD b' w d) b need h.shrink h

theorem Abs.room {b : DecBuf} {w : List Byte} {d : Nat} (h : Abs b w d) (need : Nat) :
    Abs (room b need).1 w d :=
  ⟨h.toAbsD.room need, (room_off b need).trans h.off⟩

theorem writeMatch_def (g : Grow) (b : DecBuf) (m o : Nat) :
    writeMatch g b m o =
      if o = 0 ∧ m > 0 then (b, 0, .offset)
      else if o > min b.data.length b.ws then (b, 0, .offset)
      else if ¬ (room b m).2.1 then
        (if m > (room b m).1.bs - (room b m).1.ws then ((room b m).1, 0, .matchLen)
         else ((room b m).1, 0, .full))
      else ({ (copyMatch g (room b m).1 m o) with off := (room b m).1.off + m }, m, .ok) := by
  unfold writeMatch room
  by_cases h1 : o = 0 ∧ m > 0
  · rw [if_pos h1, if_pos h1]
  by_cases h2 : o > min b.data.length b.ws
  · rw [if_neg h1, if_pos h2, if_neg h1, if_pos h2]
  by_cases h3 : m > b.bs - b.data.length <;> simp only [h1, h2, h3, ↓reduceIte]

/-! ### WriteBlock -/

/-- the guards of the sequence loop that do not depend on the buffer geometry, stated on the log:
    `s` is acceptable on top of the log `w` with remaining literals `lits` and window `ws` -/
def SeqValid (w lits : List Byte) (ws : Nat) (s : Seq) : Prop :=
  s.litLen ≤ lits.length ∧ ¬ ((s.offset = 0 ∧ s.matchLen > 0) ∨ s.offset > min (w.length + s.litLen) ws)

/-- why sequence `s` was refused with error `e`; `b'` is the buffer after the attempt to make room,
    `w'`, `lits'` are the log and the remaining literals before the sequence -/
def SeqFail (b' : DecBuf) (w' lits' : List Byte) (s : Seq) (e : Err) : Prop :=
  (e = .litLen ∧ s.litLen > lits'.length) ∨
  (e = .offset ∧ s.litLen ≤ lits'.length ∧
      ((s.offset = 0 ∧ s.matchLen > 0) ∨ s.offset > min (w'.length + s.litLen) b'.ws)) ∨
  (e = .matchLen ∧ SeqValid w' lits' b'.ws s ∧ s.litLen + s.matchLen > b'.bs - b'.ws) ∨
  (e = .full ∧ SeqValid w' lits' b'.ws s ∧ s.litLen + s.matchLen ≤ b'.bs - b'.ws ∧
      s.litLen + s.matchLen > b'.bs - b'.data.length)

theorem SeqFail.ne_ok {b' : DecBuf} {w' lits' : List Byte} {s : Seq} {e : Err}
    (h : SeqFail b' w' lits' s e) : e ≠ .ok := by
  rcases h with ⟨rfl, _⟩ | ⟨rfl, _⟩ | ⟨rfl, _⟩ | ⟨rfl, _⟩ <;> exact Err.noConfusion

theorem SeqFail.invalid {b' : DecBuf} {w' lits' : List Byte} {s : Seq} (hv : ¬ SeqValid w' lits' b'.ws s) :
    SeqFail b' w' lits' s (if s.litLen > lits'.length then .litLen else .offset) := by
  split
  · exact Or.inl ⟨rfl, ‹_›⟩
  · exact Or.inr (Or.inl ⟨rfl, by omega, Decidable.of_not_not fun hn => hv ⟨by omega, hn⟩⟩)

theorem SeqFail.noRoom {b' : DecBuf} {w' lits' : List Byte} {s : Seq} (hv : SeqValid w' lits' b'.ws s)
    (hnf : s.litLen + s.matchLen > b'.bs - b'.data.length) :
    SeqFail b' w' lits' s (if s.litLen + s.matchLen > b'.bs - b'.ws then .matchLen else .full) := by
  split
  · exact Or.inr (Or.inr (Or.inl ⟨rfl, hv, ‹_›⟩))
  · exact Or.inr (Or.inr (Or.inr ⟨rfl, hv, by omega, hnf⟩))

/-- as long as the abstraction holds the guards on the buffer are the guards on the log -/
theorem AbsD.seqValid_iff {b : DecBuf} {w : List Byte} {d : Nat} (h : AbsD b w d) (lits : List Byte) (s : Seq) :
    SeqValid b.data lits b.ws s ↔ SeqValid w lits b.ws s := by
  unfold SeqValid; rw [h.min_win]

theorem seqLoop_cons (g : Grow) (b : DecBuf) (s : Seq) (rest : List Seq) (lits : List Byte) (k dl : Nat) :
    seqLoop g b (s :: rest) lits k dl =
      if s.litLen > lits.length then (b, k, lits, dl, .litLen)
      else if s.offset = 0 ∧ s.matchLen > 0 then (b, k, lits, dl, .offset)
      else if s.offset > min (b.data.length + s.litLen) b.ws then (b, k, lits, dl, .offset)
      else
        if ¬ (room b (s.litLen + s.matchLen)).2.1 then
          ((room b (s.litLen + s.matchLen)).1, k, lits, dl + (room b (s.litLen + s.matchLen)).2.2,
            if s.litLen + s.matchLen > (room b (s.litLen + s.matchLen)).1.bs - (room b (s.litLen + s.matchLen)).1.ws
            then .matchLen else .full)
        else
          seqLoop g (copyMatch g ((room b (s.litLen + s.matchLen)).1.append g (lits.take s.litLen)) s.matchLen s.offset)
            rest (lits.drop s.litLen) (k + 1) (dl + (room b (s.litLen + s.matchLen)).2.2) := by
  rfl

/-! The three outcomes of one iteration: the sequence fails the guards, it passes them but there is no room, or it
    is written. -/

theorem seqLoop_cons_invalid (g : Grow) {b : DecBuf} {s : Seq} {lits : List Byte} {rest : List Seq} {k dl : Nat}
    (hv : ¬ SeqValid b.data lits b.ws s) :
    seqLoop g b (s :: rest) lits k dl = (b, k, lits, dl, if s.litLen > lits.length then .litLen else .offset) := by
  rw [seqLoop_cons]
  by_cases h1 : s.litLen > lits.length
  · rw [if_pos h1, if_pos h1]
  rw [if_neg h1, if_neg h1]
  by_cases h2 : s.offset = 0 ∧ s.matchLen > 0
  · rw [if_pos h2]
  by_cases h3 : s.offset > min (b.data.length + s.litLen) b.ws
  · rw [if_neg h2, if_pos h3]
  exact absurd ⟨Nat.le_of_not_gt h1, not_or.mpr ⟨h2, h3⟩⟩ hv

theorem seqLoop_cons_noRoom (g : Grow) {b : DecBuf} {s : Seq} {lits : List Byte} {rest : List Seq} {k dl : Nat}
    (hv : SeqValid b.data lits b.ws s) (hf : ¬ (room b (s.litLen + s.matchLen)).2.1 = true) :
    seqLoop g b (s :: rest) lits k dl =
      ((room b (s.litLen + s.matchLen)).1, k, lits, dl + (room b (s.litLen + s.matchLen)).2.2,
        if s.litLen + s.matchLen > (room b (s.litLen + s.matchLen)).1.bs - (room b (s.litLen + s.matchLen)).1.ws
        then .matchLen else .full) := by
  obtain ⟨h1, h2⟩ := hv
  rw [seqLoop_cons, if_neg (by omega), if_neg (fun h => h2 (Or.inl h)), if_neg (fun h => h2 (Or.inr h)), if_pos hf]

theorem seqLoop_cons_accept (g : Grow) {b : DecBuf} {s : Seq} {lits : List Byte} {rest : List Seq} {k dl : Nat}
    (hv : SeqValid b.data lits b.ws s) (hf : (room b (s.litLen + s.matchLen)).2.1 = true) :
    seqLoop g b (s :: rest) lits k dl =
      seqLoop g (copyMatch g ((room b (s.litLen + s.matchLen)).1.append g (lits.take s.litLen)) s.matchLen s.offset)
        rest (lits.drop s.litLen) (k + 1) (dl + (room b (s.litLen + s.matchLen)).2.2) := by
  obtain ⟨h1, h2⟩ := hv
  rw [seqLoop_cons, if_neg (by omega), if_neg (fun h => h2 (Or.inl h)), if_neg (fun h => h2 (Or.inr h)),
    if_neg (not_not_intro hf)]

/-- a well-formed first sequence that is longer than `max(BufferSize, cap(Data)) - WindowSize` when the window is full:
    `errMatchLen`, nothing consumed (`shrink` raises `BufferSize` to at most `cap(Data)` and keeps the window) -/
theorem seqLoop_long_refused (g : Grow) (b : DecBuf) (s : Seq) (rest : List Seq) (lits : List Byte)
    (k dl : Nat) (h1 : s.litLen ≤ lits.length) (h2 : s.matchLen = 0 ∨ 1 ≤ s.offset)
    (h3 : s.offset ≤ min (b.data.length + s.litLen) b.ws) (hfull : b.ws ≤ b.data.length)
    (hlong : s.litLen + s.matchLen > max b.bs b.cap - b.ws) :
    ∃ b' d, seqLoop g b (s :: rest) lits k dl = (b', k, lits, dl + d, .matchLen) ∧
      b'.data.length + d = b.data.length ∧ b'.off = b.off := by
  have hbs := room_bs_le b (s.litLen + s.matchLen)
  have hws : b.ws ≤ (room b (s.litLen + s.matchLen)).1.data.length :=
    Nat.le_trans (Nat.le_min.mpr ⟨hfull, Nat.le_refl _⟩) (room_keeps b _)
  -- the window is kept, so even the raised `BufferSize` leaves no room:
  -- `need ≤ bs' - len' ≤ bs' - ws ≤ max bs cap - ws`
  have hnf : ¬ (room b (s.litLen + s.matchLen)).2.1 = true := fun hf =>
    Nat.not_le_of_gt hlong (Nat.le_trans ((room_fits b _).mp hf)
      (Nat.le_trans (Nat.sub_le_sub_left hws _) (Nat.sub_le_sub_right hbs _)))
  refine ⟨_, _, ?_, room_len b (s.litLen + s.matchLen), room_off b _⟩
  rw [seqLoop_cons_noRoom g ⟨h1, by omega⟩ hnf, room_ws,
    if_pos (Nat.lt_of_le_of_lt (Nat.sub_le_sub_right hbs _) hlong)]

/-- One accepted sequence on the log.  `s` has passed the guards of the loop in `b`, and `b₁`, the buffer after
    making room, has room for it: appending its literals and copying its match yields a buffer for the reference
    expansion of `s`. -/
theorem AbsD.acceptSeq {b b₁ : DecBuf} {w : List Byte} {d : Nat} (h₁ : AbsD b₁ w d) (g : Grow) {s : Seq}
    {lits : List Byte} (hv : SeqValid b.data lits b.ws s) (hk : min b.data.length b.ws ≤ b₁.data.length)
    (hfit : s.litLen + s.matchLen ≤ b₁.bs - b₁.data.length) :
    ∃ w', copyRef (w ++ lits.take s.litLen) s.offset s.matchLen = some w' ∧
      AbsD (copyMatch g (b₁.append g (lits.take s.litLen)) s.matchLen s.offset) w' d ∧
      w'.length = w.length + s.litLen + s.matchLen ∧
      (copyMatch g (b₁.append g (lits.take s.litLen)) s.matchLen s.offset).data.length =
        b₁.data.length + s.litLen + s.matchLen := by
  obtain ⟨hl, ho⟩ := hv
  have htl : (lits.take s.litLen).length = s.litLen := by rw [List.length_take]; omega
  have hlb := h₁.len_bs
  have hlen : (b₁.append g (lits.take s.litLen)).data.length = b₁.data.length + s.litLen := by
    rw [append_data, List.length_append, htl]
  obtain ⟨w', h1, h2, h3, h4⟩ := (h₁.append g (lits.take s.litLen) (by omega)).ofCopyMatch g s.matchLen s.offset
    (by omega) (by rw [hlen, append_bs]; omega)
  exact ⟨w', h1, h2, by rw [h3, List.length_append, htl], by rw [h4, hlen]⟩

theorem seqLoop_spec (g : Grow) (seqs : List Seq) :
    ∀ (b : DecBuf) (w : List Byte) (d : Nat) (lits : List Byte) (k dl : Nat)
      (b' : DecBuf) (k' : Nat) (lits' : List Byte) (dl' : Nat) (e : Err),
      AbsD b w d → seqLoop g b seqs lits k dl = (b', k', lits', dl', e) →
      ∃ j w', k' = k + j ∧ j ≤ seqs.length ∧
        expandSeqs w lits (seqs.take j) = some (w', lits') ∧
        AbsD b' w' d ∧ b'.off = b.off ∧ b'.ws = b.ws ∧
        w'.length + b.data.length + dl = w.length + b'.data.length + dl' ∧
        (e = .ok → j = seqs.length) ∧
        (e ≠ .ok → ∃ hj : j < seqs.length, SeqFail b' w' lits' seqs[j] e) ∧
        (e = .full → b.r = b.data.length → 0 < j) ∧
        -- every sequence consumed passed the guards in the state the reference expander reaches before it
        (∀ i, i < j → ∃ (_ : i < seqs.length) (wi li : List Byte),
          expandSeqs w lits (seqs.take i) = some (wi, li) ∧ SeqValid wi li b.ws seqs[i]) := by
  induction seqs with
  | nil =>
    intro b w d lits k dl b' k' lits' dl' e h hr
    cases hr
    exact ⟨0, w, rfl, Nat.le_refl _, rfl, h, rfl, rfl, rfl, fun _ => rfl, fun hh => absurd rfl hh, nofun, nofun⟩
  | cons s rest ih =>
    intro b w d lits k dl b' k' lits' dl' e h hr
    by_cases hv : SeqValid b.data lits b.ws s
    · have r1 := h.room (s.litLen + s.matchLen)
      have r3 := room_ws b (s.litLen + s.matchLen)
      have r4 := room_len b (s.litLen + s.matchLen)
      have r6 := room_fits b (s.litLen + s.matchLen)
      by_cases hf : (room b (s.litLen + s.matchLen)).2.1 = true
      · rw [seqLoop_cons_accept g hv hf] at hr
        obtain ⟨w₂, hw1, hw2, hw3, hcl⟩ := r1.acceptSeq g hv (room_keeps _ _) (r6.mp hf)
        obtain ⟨j, w', e1, e2, e3, e4, e5, e6, e7, e8, e9, -, e11⟩ := ih _ _ _ _ _ _ _ _ _ _ _ hw2 hr
        refine ⟨j + 1, w', by omega, Nat.succ_le_succ e2, ?_, e4, ?_, ?_, by omega, ?_, ?_, fun _ _ => Nat.succ_pos j,
          fun i hi => ?_⟩
        · simp only [List.take_succ_cons, expandSeqs, hv.1, ↓reduceIte, hw1]
          exact e3
        · rw [e5, (copyMatch_sameCtl g _ _ _).2.1]; exact room_off _ _
        · rw [e6, (copyMatch_sameCtl g _ _ _).2.2.1]; exact r3
        · intro hh; rw [e8 hh]; rfl
        · intro hh
          obtain ⟨hj, hsf⟩ := e9 hh
          exact ⟨Nat.succ_lt_succ hj, hsf⟩
        · cases i with
          | zero => exact ⟨Nat.succ_pos _, w, lits, rfl, (h.seqValid_iff lits s).mp hv⟩
          | succ i =>
            obtain ⟨hi', wi, li, hx, hv'⟩ := e11 i (Nat.lt_of_succ_lt_succ hi)
            refine ⟨Nat.succ_lt_succ hi', wi, li, ?_, ?_⟩
            · simp only [List.take_succ_cons, expandSeqs, hv.1, ↓reduceIte, hw1]
              exact hx
            · rw [(copyMatch_sameCtl g _ _ _).2.2.1, append_ws, r3] at hv'
              exact hv'
      · rw [seqLoop_cons_noRoom g hv hf] at hr
        cases hr
        have hsf := SeqFail.noRoom (r3 ▸ (h.seqValid_iff lits s).mp hv) (by have := mt r6.mpr hf; omega)
        refine ⟨0, w, rfl, Nat.zero_le _, rfl, r1, room_off _ _, r3, by omega, fun hh => absurd hh hsf.ne_ok,
          fun _ => ⟨Nat.succ_pos _, hsf⟩, fun hh hfl => ?_, nofun⟩
        -- a flushed buffer without room even for the window reports `errMatchLen`
        split at hh
        · cases hh
        · have := r1.len_bs
          exact absurd (r6.mpr (by have := (room_flushed b _ hfl).resolve_left hf; omega)) hf
    · rw [seqLoop_cons_invalid g hv] at hr
      cases hr
      have hsf := SeqFail.invalid (b' := b) (mt (h.seqValid_iff lits s).mpr hv)
      exact ⟨0, w, rfl, Nat.zero_le _, rfl, h, rfl, rfl, rfl, fun hh => absurd hh hsf.ne_ok,
        fun _ => ⟨Nat.succ_pos _, hsf⟩, (fun hh => by split at hh <;> cases hh), nofun⟩

/-- the common exit of `WriteBlock` (label `end:`) for the final buffer `b₂`, the literals `rest` not written and
    the accumulated shrink deltas `dl`; `ld`, `ll` are `len(Data)` and `len(blk.Literals)` at entry -/
def blockExit (ld ll k : Nat) (b₂ : DecBuf) (rest : List Byte) (dl : Nat) (e : Err) :
    DecBuf × Int × Nat × Nat × Err :=
  ({ b₂ with off := (b₂.off + ((b₂.data.length : Int) - ((ld : Int) - (dl : Int)))).toNat },
    (b₂.data.length : Int) - ((ld : Int) - (dl : Int)), k, ll - rest.length, e)

/-- `WriteBlock` from the result of its sequence loop: the trailing literals are written as by `Write` -/
theorem writeBlock_def (g : Grow) (b : DecBuf) (blk : Block) {b₁ : DecBuf} {k : Nat} {lits : List Byte} {dl : Nat}
    {e : Err} (hsl : seqLoop g b blk.seqs blk.lits 0 0 = (b₁, k, lits, dl, e)) :
    writeBlock g b blk =
      if e ≠ .ok then blockExit b.data.length blk.lits.length k b₁ lits dl e
      else if (roomFor b₁ lits.length).1.data.length + lits.length > (roomFor b₁ lits.length).1.bs then
        blockExit b.data.length blk.lits.length k (roomFor b₁ lits.length).1 lits
          (dl + (roomFor b₁ lits.length).2) .full
      else
        blockExit b.data.length blk.lits.length k ((roomFor b₁ lits.length).1.append g lits) []
          (dl + (roomFor b₁ lits.length).2) .ok := by
  unfold writeBlock blockExit roomFor
  rw [hsl]
  simp only
  by_cases he : e = .ok
  · simp only [he, ne_eq, not_true_eq_false, ↓reduceIte]
    by_cases hn : b₁.data.length + lits.length > b₁.bs
    · simp only [hn, ↓reduceIte]
      have hk := (shrink_keeps b₁ (b₁.data.length + lits.length)).2.2.2
      rw [show b₁.data.length + lits.length - (b₁.shrink (b₁.data.length + lits.length)).2 =
        (b₁.shrink (b₁.data.length + lits.length)).1.data.length + lits.length by omega]
    · simp only [hn, ↓reduceIte]
  · simp only [he, ne_eq, not_false_eq_true, ↓reduceIte]

/-- `DecoderBuffer.WriteBlock` refuses a block whose first sequence is long when the window is full:
    `errMatchLen`, `n = k = l = 0` -/
theorem writeBlock_long_refused (g : Grow) (b : DecBuf) (s : Seq) (rest : List Seq)
    (lits : List Byte) (h1 : s.litLen ≤ lits.length) (h2 : s.matchLen = 0 ∨ 1 ≤ s.offset)
    (h3 : s.offset ≤ min (b.data.length + s.litLen) b.ws) (hfull : b.ws ≤ b.data.length)
    (hlong : s.litLen + s.matchLen > max b.bs b.cap - b.ws) :
    (writeBlock g b ⟨s :: rest, lits⟩).2 = (0, 0, 0, .matchLen) := by
  obtain ⟨b', d, hs, hl, _⟩ := seqLoop_long_refused g b s rest lits 0 0 h1 h2 h3 hfull hlong
  rw [writeBlock_def g b _ hs, if_pos (by decide : Err.matchLen ≠ Err.ok)]
  simp only [blockExit, Nat.zero_add, Nat.sub_self, Prod.mk.injEq, and_true]
  omega

/-- `writeBlock_def` with the room-making written out as the Go text has it: `shrink`, then the test again -/
theorem writeBlock_of_shrink (g : Grow) (m : DecBuf) (blk : LZ.Block) {m1 : DecBuf} {k : Nat} {lits : List Byte} {dl : Nat}
    {e : LZ.Err} (hs : seqLoop g m blk.seqs blk.lits 0 0 = (m1, k, lits, dl, e)) {m2 : DecBuf} {d : Nat}
    (hsh : m1.shrink (m1.data.length + lits.length) = (m2, d)) :
    writeBlock g m blk =
      if e ≠ .ok then blockExit m.data.length blk.lits.length k m1 lits dl e
      else if m1.data.length + lits.length > m1.bs then
        if m1.data.length + lits.length - d > m2.bs then blockExit m.data.length blk.lits.length k m2 lits (dl + d) .full
        else blockExit m.data.length blk.lits.length k (m2.append g lits) [] (dl + d) .ok
      else blockExit m.data.length blk.lits.length k (m1.append g lits) [] dl .ok := by
  unfold writeBlock blockExit
  simp only [hs, hsh]
  by_cases he : e = .ok
  · subst he
    by_cases h1 : m1.data.length + lits.length > m1.bs
    · simp only [h1, if_true, ne_eq, not_true_eq_false, if_false]
    · simp only [h1, if_false, ne_eq, not_true_eq_false, Nat.add_zero]
  · simp only [he, ne_eq, not_false_eq_true, if_true]

/-- the exit of `WriteBlock` on the log: `n` is the growth of the log and `Off` is advanced by it -/
theorem AbsD.blockExit {b₂ : DecBuf} {w w₂ : List Byte} {d : Nat} (h₂ : AbsD b₂ w₂ d) {ld dl : Nat}
    (hoff : b₂.off = w.length) (hlen : w₂.length + ld = w.length + b₂.data.length + dl) :
    Abs { b₂ with off := (b₂.off + ((b₂.data.length : Int) - ((ld : Int) - (dl : Int)))).toNat } w₂ d ∧
    (b₂.data.length : Int) - ((ld : Int) - (dl : Int)) = (w₂.length : Int) - (w.length : Int) :=
  ⟨⟨h₂.congr rfl rfl rfl rfl, by simp only; omega⟩, by omega⟩

theorem writeBlock_spec (g : Grow) {b : DecBuf} {w : List Byte} {d : Nat} (h : Abs b w d) (blk : Block)
    {b' : DecBuf} {n : Int} {k l : Nat} {e : Err} (hr : writeBlock g b blk = (b', n, k, l, e)) :
    ∃ w1 rest, k ≤ blk.seqs.length ∧
      expandSeqs w blk.lits (blk.seqs.take k) = some (w1, rest) ∧
      (e = .ok → k = blk.seqs.length ∧ l = blk.lits.length ∧ Abs b' (w1 ++ rest) d ∧
          n = ((w1 ++ rest).length : Int) - (w.length : Int) ∧ expand w blk = some (w1 ++ rest)) ∧
      (e ≠ .ok → l + rest.length = blk.lits.length ∧ Abs b' w1 d ∧
          n = (w1.length : Int) - (w.length : Int) ∧
          ((∃ hk : k < blk.seqs.length, SeqFail b' w1 rest blk.seqs[k] e) ∨
           (k = blk.seqs.length ∧ e = .full ∧ b'.bs < b'.data.length + rest.length))) ∧
      -- every sequence counted as consumed passed the guards in the state the reference expander reaches before it
      (∀ i, i < k → ∃ (_ : i < blk.seqs.length) (wi li : List Byte),
        expandSeqs w blk.lits (blk.seqs.take i) = some (wi, li) ∧ SeqValid wi li b.ws blk.seqs[i]) := by
  generalize hsl : seqLoop g b blk.seqs blk.lits 0 0 = r
  obtain ⟨b1, k1, lits1, dl1, e1⟩ := r
  obtain ⟨j, w1, hj, e2, e3, e4, e5, -, e7, e8, e9, -, e11⟩ :=
    seqLoop_spec g blk.seqs b w d blk.lits 0 0 _ _ _ _ _ h.toAbsD hsl
  rw [Nat.zero_add] at hj; subst hj
  have hoff : b1.off = w.length := e5.trans h.off
  have hl1 : lits1.length ≤ blk.lits.length := by
    rw [(expandSeqs_counts e3).1, List.length_drop]; omega
  rw [writeBlock_def g b blk hsl] at hr
  by_cases he : e1 = .ok
  · subst he
    have hk := e8 rfl
    have hx : expand w blk = some (w1 ++ lits1) := by
      unfold expand; rw [hk, List.take_length] at e3; rw [e3]
    have hs := e4.roomFor lits1.length
    have hso := (roomFor_off b1 lits1.length).trans hoff
    have hlen := roomFor_len b1 lits1.length
    rw [if_neg (not_not_intro rfl)] at hr
    split at hr
    · rename_i hn
      cases hr
      obtain ⟨ha, hn'⟩ := hs.blockExit (ld := b.data.length) (dl := dl1 + (roomFor b1 lits1.length).2) hso
        (by omega)
      exact ⟨w1, lits1, e2, e3, nofun, fun _ => ⟨by omega, ha, hn', Or.inr ⟨hk, rfl, hn⟩⟩, e11⟩
    · cases hr
      obtain ⟨ha, hn'⟩ := (hs.append g lits1 (by omega)).blockExit (ld := b.data.length)
        (dl := dl1 + (roomFor b1 lits1.length).2) hso
        (by rw [append_data, List.length_append, List.length_append]; omega)
      exact ⟨w1, lits1, e2, e3, fun _ => ⟨hk, rfl, ha, hn', hx⟩, fun hh => absurd rfl hh, e11⟩
  · rw [if_pos he] at hr
    cases hr
    obtain ⟨ha, hn⟩ := e4.blockExit (ld := b.data.length) (dl := dl1) hoff (by omega)
    exact ⟨w1, lits1, e2, e3, fun hh => absurd hh he, fun _ => ⟨by omega, ha, hn, Or.inl (e9 he)⟩, e11⟩

/-! ### slice bounds (the model's "no panic") -/

theorem writeMatch_copySafe (g : Grow) (b : DecBuf) (m o : Nat) (hv : ¬ BadOffset b m o) :
    CopySafe g (room b m).1 m o := by
  have := room_keeps b m
  unfold BadOffset at hv
  exact copyMatch_safe g _ m o (by omega) (by omega)

/-- all slice expressions of the sequence loop are in bounds: `Literals[:LitLen]` and the
    copies -/
def seqLoopSafe (g : Grow) : DecBuf → List Seq → List Byte → Prop
  | _, [], _ => True
  | b, s :: rest, lits =>
    if s.litLen > lits.length then True
    else if s.offset = 0 ∧ s.matchLen > 0 then True
    else if s.offset > min (b.data.length + s.litLen) b.ws then True
    else if ¬ (room b (s.litLen + s.matchLen)).2.1 then True
    else
      s.litLen ≤ lits.length ∧
      CopySafe g ((room b (s.litLen + s.matchLen)).1.append g (lits.take s.litLen)) s.matchLen s.offset ∧
      seqLoopSafe g
        (copyMatch g ((room b (s.litLen + s.matchLen)).1.append g (lits.take s.litLen)) s.matchLen s.offset)
        rest (lits.drop s.litLen)

theorem seqLoop_safe (g : Grow) (seqs : List Seq) :
    ∀ (b : DecBuf) (w : List Byte) (d : Nat) (lits : List Byte), AbsD b w d → seqLoopSafe g b seqs lits := by
  induction seqs with
  | nil => intros; trivial
  | cons s rest ih =>
    intro b w d lits h
    unfold seqLoopSafe
    by_cases hv : SeqValid b.data lits b.ws s
    · rw [if_neg (Nat.not_lt.mpr hv.1), if_neg (fun h => hv.2 (Or.inl h)), if_neg (fun h => hv.2 (Or.inr h))]
      by_cases hf : (room b (s.litLen + s.matchLen)).2.1 = true
      · rw [if_neg (not_not_intro hf)]
        have hk := room_keeps b (s.litLen + s.matchLen)
        obtain ⟨w₂, -, hw2, -, -⟩ := (h.room _).acceptSeq g hv hk ((room_fits _ _).mp hf)
        obtain ⟨h1, h2⟩ := hv
        refine ⟨h1, copyMatch_safe g _ _ _ ?_ (by omega), ih _ _ _ _ hw2⟩
        rw [append_data, List.length_append, List.length_take]; omega
      · rw [if_pos hf]; trivial
    · -- one of the three guards fires
      by_cases h1 : s.litLen > lits.length
      · rw [if_pos h1]; trivial
      by_cases h2 : s.offset = 0 ∧ s.matchLen > 0
      · rw [if_neg h1, if_pos h2]; trivial
      rw [if_neg h1, if_neg h2,
        if_pos (Decidable.of_not_not fun h3 => hv ⟨Nat.le_of_not_gt h1, not_or.mpr ⟨h2, h3⟩⟩)]
      trivial

/-! ### properties kept by every write operation -/

/-- `P` is kept by the state changes out of which the write operations are built -/
structure Stable (g : Grow) (P : DecBuf → Prop) : Prop where
  append : ∀ b p, P b → P (b.append g p)
  shrink : ∀ b n, P b → P (b.shrink n).1
  setOff : ∀ b o, P b → P { b with off := o }

section Stable
variable {g : Grow} {P : DecBuf → Prop} (hP : Stable g P)
include hP

theorem Stable.copyMatch (b : DecBuf) (m o : Nat) (h : P b) : P (b.copyMatch g m o) := by
  rw [copyMatch_def]; exact hP.append _ _ (copyLoop_keeps hP.append b m o h)

theorem Stable.room (b : DecBuf) (need : Nat) (h : P b) : P (b.room need).1 :=
  room_keeps_of b need (fun g => hP.shrink b g h) h

theorem Stable.roomFor (b : DecBuf) (n : Nat) (h : P b) : P (b.roomFor n).1 :=
  roomFor_keeps b n (fun g => hP.shrink b g h) h

theorem Stable.write (b : DecBuf) (p : List Byte) (h : P b) : P (b.write g p).1 := by
  rw [write_def]; split
  · exact hP.roomFor _ _ h
  · exact hP.setOff _ _ (hP.append _ _ (hP.roomFor _ _ h))

theorem Stable.writeByte (b : DecBuf) (c : Byte) (h : P b) : P (b.writeByte g c).1 := by
  rw [writeByte_eq_write]; exact hP.write b [c] h

theorem Stable.writeMatch (b : DecBuf) (m o : Nat) (h : P b) : P (b.writeMatch g m o).1 := by
  rw [writeMatch_def]
  by_cases h1 : o = 0 ∧ m > 0
  · rw [if_pos h1]; exact h
  by_cases h2 : o > min b.data.length b.ws
  · rw [if_neg h1, if_pos h2]; exact h
  rw [if_neg h1, if_neg h2]
  split
  · split <;> exact hP.room _ _ h
  · exact hP.setOff _ _ (hP.copyMatch _ _ _ (hP.room _ _ h))

theorem Stable.seqLoop (seqs : List Seq) :
    ∀ (b : DecBuf) (lits : List Byte) (k dl : Nat), P b → P (b.seqLoop g seqs lits k dl).1 := by
  induction seqs with
  | nil => intro b lits k dl h; exact h
  | cons s rest ih =>
    intro b lits k dl h
    by_cases hv : SeqValid b.data lits b.ws s
    · by_cases hf : (b.room (s.litLen + s.matchLen)).2.1 = true
      · rw [seqLoop_cons_accept g hv hf]
        exact ih _ _ _ _ (hP.copyMatch _ _ _ (hP.append _ _ (hP.room _ _ h)))
      · rw [seqLoop_cons_noRoom g hv hf]
        exact hP.room _ _ h
    · rw [seqLoop_cons_invalid g hv]
      exact h

theorem Stable.writeBlock (b : DecBuf) (blk : Block) (h : P b) : P (b.writeBlock g blk).1 := by
  generalize hsl : b.seqLoop g blk.seqs blk.lits 0 0 = r
  obtain ⟨b₁, k, lits, dl, e⟩ := r
  have h₁ : P b₁ := by
    have := hP.seqLoop blk.seqs b blk.lits 0 0 h
    rwa [hsl] at this
  rw [writeBlock_def g b blk hsl]
  split
  · exact hP.setOff _ _ h₁
  · split
    · exact hP.setOff _ _ (hP.roomFor _ _ h₁)
    · exact hP.setOff _ _ (hP.append _ _ (hP.roomFor _ _ h₁))

end Stable

theorem stable_ws (g : Grow) (W : Nat) : Stable g (fun b => b.ws = W) :=
  ⟨fun _ _ h => h, fun b n h => (shrink_ws b n).trans h, fun _ _ h => h⟩

theorem stable_bs_ge (g : Grow) (B : Nat) : Stable g (fun b => B ≤ b.bs) :=
  ⟨fun _ _ h => h, fun b n h => Nat.le_trans h (shrink_bs_ge b n), fun _ _ h => h⟩

theorem writeBlock_ws (g : Grow) (b : DecBuf) (blk : Block) : (writeBlock g b blk).1.ws = b.ws :=
  (stable_ws g b.ws).writeBlock b blk rfl

/-! ### `len(Data) ≤ cap(Data)` — the only place where `n ≤ g c n` is needed -/

def CapOK (b : DecBuf) : Prop := b.data.length ≤ b.cap

theorem append_capOK {g : Grow} (hg : ∀ c n, n ≤ g c n) (b : DecBuf) (p : List Byte) :
    CapOK (b.append g p) := by
  unfold CapOK append
  simp only [List.length_append]
  split
  · assumption
  · exact hg _ _

theorem shrink_cap (b : DecBuf) (g : Nat) : (b.shrink g).1.cap = b.cap := by
  rw [shrink_eq b g _ rfl]

theorem shrink_capOK {b : DecBuf} (h : CapOK b) (g : Nat) : CapOK (b.shrink g).1 := by
  unfold CapOK at *
  rw [shrink_cap, shrink_data, List.length_drop]; omega

theorem stable_capOK {g : Grow} (hg : ∀ c n, n ≤ g c n) : Stable g CapOK :=
  ⟨fun b p _ => append_capOK hg b p, fun _ n h => shrink_capOK h n, fun _ _ h => h⟩

theorem copyLoop_capOK {g : Grow} (hg : ∀ c n, n ≤ g c n) (b : DecBuf) (n off : Nat) (h : CapOK b) :
    CapOK (copyLoop g b n off).1 :=
  copyLoop_keeps (fun b p _ => append_capOK hg b p) b n off h

end DecBuf

namespace GenBuf

/-- the buffer invariant `len(Data) ≤ BufferSize` that D08/D09 assume, on the model -/
def LenInv (m : DecBuf) : Prop := m.data.length ≤ m.bs

theorem model_shrink_lenInv (m : DecBuf) (g : Nat) (h : LenInv m) : LenInv (DecBuf.shrink m g).1 := by
  have h1 := (DecBuf.shrink_keeps m g).2.2.2
  have h2 := (DecBuf.shrink_props m g).2.2.2.2.2.2
  unfold LenInv at *; omega

theorem model_reset_lenInv (m : DecBuf) : LenInv m.reset := by
  unfold LenInv DecBuf.reset; simp

theorem model_write_lenInv (g : Grow) (m : DecBuf) (p : List Byte) (h : LenInv m) :
    LenInv (DecBuf.write g m p).1 := by
  have hr : LenInv (DecBuf.roomFor m p.length).1 :=
    DecBuf.roomFor_keeps m _ (fun g => model_shrink_lenInv m g h) h
  rw [DecBuf.write_def]
  split
  · exact hr
  · unfold LenInv
    simp only [DecBuf.append_data, DecBuf.append_bs, List.length_append]
    omega

theorem model_writeByte_lenInv (g : Grow) (m : DecBuf) (c : Byte) (h : LenInv m) :
    LenInv (DecBuf.writeByte g m c).1 := by
  rw [DecBuf.writeByte_eq_write]
  exact model_write_lenInv g m [c] h

end GenBuf

end LZ
