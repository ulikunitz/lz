/-
  LzProofs.PBufLemmas — helper lemmas about `LZ.PBuf` (model of Go's `ParserBuffer`).
  Invariant `PInv`, single-operation lemmas for `grow`, `write`, `shrink`, `reset`,
  the loop of `ReadFrom` (one iteration: `readLoop_eq` when there is room, `readLoop_read` for every buffer
  in terms of one `Read` of the scripted reader; `readLoop_consumes`), the description of a whole
  `ReadFrom` (`readFrom_master`), what an operation does to the buffer
  (`Appended` for `Write`/`ReadFrom`, `Dropped` for `Shrink`) and the invariants kept through
  it (`PInv`, the capacity invariant `CapOK`), chunking independence.
-/
import LzModel.PBuf
namespace LZ
namespace PBuf

/-! ## facts about the generated constants (proved by `decide`; names are stable under regeneration) -/

theorem margin_eq : Facts.margin = 7 := by decide
theorem chunkSize_pos : 0 < Facts.chunkSize := by decide

/-! ## the invariant -/

/-- `PInv b fed`: `b` is a sliding view of the stream `fed` (everything accepted since the last
    `Reset`): `b.data` is `fed` without its first `b.off` bytes; the parse position is inside the
    data; the data never exceed `BufferSize`; a non-empty buffer has the 7 byte margin. -/
structure PInv (b : PBuf) (fed : List Byte) : Prop where
  view : fed.drop b.off = b.data
  off_le : b.off ≤ fed.length
  w_le : b.w ≤ b.data.length
  len_le : b.data.length ≤ b.cfg.bufferSize
  margin : b.data = [] ∨ b.data.length + Facts.margin ≤ b.cap

theorem PInv.fed_eq {b : PBuf} {fed : List Byte} (h : PInv b fed) :
    fed = fed.take b.off ++ b.data := by
  rw [← h.view, List.take_append_drop]

theorem PInv.fed_length {b : PBuf} {fed : List Byte} (h : PInv b fed) :
    fed.length = b.off + b.data.length := by
  have := h.view
  have h2 := congrArg List.length this
  simp at h2
  have := h.off_le
  omega

theorem PInv.margin' {b : PBuf} {fed : List Byte} (h : PInv b fed) (hne : b.data ≠ []) :
    b.data.length + Facts.margin ≤ b.cap := by
  rcases h.margin with h | h
  · exact absurd h hne
  · exact h

theorem pinv_init (cfg : BufCfg) : PInv (init cfg) [] := by
  constructor <;> simp [init]

/-! ## grow -/

/-- the new capacity `grow(t)` chooses -/
def growCap (b : PBuf) (t : Nat) : Nat :=
  let c := 2 * t + Facts.margin
  let c := if c < Facts.growMin then Facts.growMin else c
  if c ≥ b.cfg.bufferSize + Facts.margin then b.cfg.bufferSize + Facts.margin else c

theorem grow_eq (b : PBuf) (t : Nat) :
    b.grow t = if t + Facts.margin ≤ b.cap then some b
      else if b.data.length ≤ growCap b t then some { b with cap := growCap b t } else none := rfl

theorem growCap_ge (b : PBuf) (t : Nat) (ht : t ≤ b.cfg.bufferSize) : t + Facts.margin ≤ growCap b t := by
  unfold growCap
  simp only []
  split <;> split <;> omega

/-- `growCap` with the constants of parser_buffer.go written out: twice the request plus the margin, at least the
    minimal allocation, at most `BufferSize` plus the margin -/
theorem growCap_eq_min (m : PBuf) (t : Nat) :
    growCap m t = min (max (2 * t + 7) 1024) (m.cfg.bufferSize + 7) := by
  have hm : Facts.margin = 7 := rfl
  have hg : Facts.growMin = 1024 := rfl
  unfold growCap
  simp only []
  split <;> split <;> omega

theorem grow_frame (b : PBuf) (t : Nat) (b' : PBuf) (h : b.grow t = some b') :
    b'.data = b.data ∧ b'.w = b.w ∧ b'.off = b.off ∧ b'.cfg = b.cfg ∧
      (t ≤ b.cfg.bufferSize → b.cap ≤ b'.cap ∧ t + Facts.margin ≤ b'.cap) := by
  rw [grow_eq] at h
  split at h
  · simp only [Option.some.injEq] at h; subst h
    exact ⟨rfl, rfl, rfl, rfl, fun _ => ⟨Nat.le_refl _, by assumption⟩⟩
  · split at h
    · simp only [Option.some.injEq] at h; subst h
      refine ⟨rfl, rfl, rfl, rfl, fun ht => ?_⟩
      have := growCap_ge b t ht
      simp only
      omega
    · simp at h

/-- the capacity after the `if t + 7 > cap then grow t` idiom of `Write`/`ReadFrom` -/
def ensureCap (b : PBuf) (t : Nat) : Nat := if t + Facts.margin ≤ b.cap then b.cap else growCap b t

theorem ensureCap_ge (b : PBuf) (t : Nat) (ht : t ≤ b.cfg.bufferSize) : t + Facts.margin ≤ ensureCap b t := by
  unfold ensureCap
  split
  · assumption
  · exact growCap_ge b t ht

/-- the idiom does not panic when the data fit under `t ≤ BufferSize`: only the capacity changes -/
theorem ensure_eq (b : PBuf) (t : Nat) (hlen : b.data.length ≤ t) (ht : t ≤ b.cfg.bufferSize) :
    (if t + Facts.margin > b.cap then b.grow t else some b) = some { b with cap := ensureCap b t } := by
  have := growCap_ge b t ht
  unfold ensureCap
  by_cases h1 : t + Facts.margin ≤ b.cap
  · rw [if_neg (by omega), if_pos h1]
  · rw [if_pos (by omega), grow_eq, if_neg h1, if_pos (by omega), if_neg h1]

/-! ## write -/

theorem write_spec (b : PBuf) (p : List Byte) (hlen : b.data.length ≤ b.cfg.bufferSize) :
    ∃ c, b.write p =
        ({ b with data := b.data ++ p.take (min p.length (b.cfg.bufferSize - b.data.length)),
                  cap := c },
         min p.length (b.cfg.bufferSize - b.data.length),
         if min p.length (b.cfg.bufferSize - b.data.length) < p.length then .full else .ok)
      ∧ b.data.length + min p.length (b.cfg.bufferSize - b.data.length) + Facts.margin ≤ c := by
  unfold write
  rw [if_neg (by omega)]
  -- the accepted prefix and the error, whichever branch `Write` takes
  have hp : (if b.cfg.bufferSize - b.data.length < p.length
        then (p.take (b.cfg.bufferSize - b.data.length), Err.full) else (p, Err.ok))
      = (p.take (min p.length (b.cfg.bufferSize - b.data.length)),
         if min p.length (b.cfg.bufferSize - b.data.length) < p.length then .full else .ok) := by
    by_cases hav : b.cfg.bufferSize - b.data.length < p.length
    · rw [if_pos hav, Nat.min_eq_right (by omega), if_pos hav]
    · rw [if_neg hav, Nat.min_eq_left (by omega), List.take_length, if_neg (Nat.lt_irrefl _)]
  have hm : min (min p.length (b.cfg.bufferSize - b.data.length)) p.length
      = min p.length (b.cfg.bufferSize - b.data.length) := by omega
  simp only [hp, List.length_take, hm]
  have hle : b.data.length + min p.length (b.cfg.bufferSize - b.data.length) ≤ b.cfg.bufferSize := by
    omega
  generalize min p.length (b.cfg.bufferSize - b.data.length) = m at hle ⊢
  have hcm := ensureCap_ge b (b.data.length + m) hle
  rw [ensure_eq b (b.data.length + m) (by omega) hle]
  exact ⟨_, by simp [show b.data.length + m ≤ ensureCap b (b.data.length + m) by omega], hcm⟩
/-- within `BufferSize`, `Write` does not panic: it returns `nil` or `ErrFullBuffer` -/
theorem write_err (b : PBuf) (p : List Byte) (hlen : b.data.length ≤ b.cfg.bufferSize) :
    (b.write p).2.2 = .ok ∨ (b.write p).2.2 = .full := by
  obtain ⟨c, hw, -⟩ := write_spec b p hlen
  rw [hw]
  show (if _ then Err.full else Err.ok) = .ok ∨ (if _ then Err.full else Err.ok) = .full
  split
  · exact Or.inr rfl
  · exact Or.inl rfl

/-! ## shrink -/

theorem shrink_spec (b : PBuf) :
    b.shrink = ({ b with data := b.data.drop (b.w - b.cfg.shrinkSize),
                         w := min b.cfg.shrinkSize b.w,
                         off := b.off + (b.w - b.cfg.shrinkSize) },
                b.w - b.cfg.shrinkSize) := by
  unfold shrink
  split
  · rename_i h
    have h1 : b.w - b.cfg.shrinkSize = 0 := by omega
    have h2 : min b.cfg.shrinkSize b.w = b.w := by omega
    simp [h1, h2]
  · rename_i h
    have h2 : min b.cfg.shrinkSize b.w = b.cfg.shrinkSize := by omega
    simp [h2]

theorem shrink_zero (b : PBuf) (h : b.shrink.2 = 0) : b.shrink.1 = b := by
  unfold shrink at h ⊢
  split
  · rfl
  · rw [if_neg ‹_›] at h; simp only [] at h; omega

/-! ## reset -/

theorem reset_oversize (b : PBuf) (data : List Byte) (capExtra : Nat)
    (h : b.cfg.bufferSize < data.length) : b.reset data capExtra = (b, .oversize) := by
  unfold reset; simp [h]

theorem reset_spec (b : PBuf) (data : List Byte) (capExtra : Nat)
    (h : data.length ≤ b.cfg.bufferSize) :
    ∃ c, b.reset data capExtra = ({ b with data := data, w := 0, off := 0, cap := c }, .ok)
      ∧ (data = [] ∨ data.length + Facts.margin ≤ c) := by
  unfold reset
  have h0 : ¬ data.length > b.cfg.bufferSize := by omega
  simp only [h0, if_false]
  by_cases h1 : data.length = 0
  · have : data = [] := List.eq_nil_of_length_eq_zero h1
    subst this
    exact ⟨b.cap, by simp, Or.inl rfl⟩
  · simp only [h1, if_false]
    split
    · split
      · exact ⟨_, rfl, Or.inr (Nat.le_refl _)⟩
      · exact ⟨_, rfl, Or.inr (by omega)⟩
    · exact ⟨_, rfl, Or.inr (by omega)⟩

theorem reset_err_iff (b : PBuf) (data : List Byte) (capExtra : Nat) :
    (b.reset data capExtra).2 = .oversize ↔ b.cfg.bufferSize < data.length := by
  by_cases h : b.cfg.bufferSize < data.length
  · simp [reset_oversize b data capExtra h, h]
  · obtain ⟨c, hc, -⟩ := reset_spec b data capExtra (by omega)
    simp [hc, h]

theorem pinv_reset (b : PBuf) (data : List Byte) (capExtra : Nat)
    (h : data.length ≤ b.cfg.bufferSize) : PInv (b.reset data capExtra).1 data := by
  obtain ⟨c, hc, hm⟩ := reset_spec b data capExtra h
  rw [hc]
  constructor <;> simp_all

/-! ## the loop of `ReadFrom` -/

/-- `readFrom` with the loop made explicit -/
theorem readFrom_eq (b : PBuf) (r : Reader) :
    readFrom b r = ((readLoop b r).1, (readLoop b r).2.1,
      (readLoop b r).1.data.length - b.data.length, (readLoop b r).2.2) := rfl

theorem readLoop_full (b : PBuf) (r : Reader) (h : b.cfg.bufferSize ≤ b.data.length) :
    readLoop b r = (b, r, .full) := by
  unfold readLoop; simp [h]

/-- the capacity one iteration of the `ReadFrom` loop leaves: the `grow` idiom for the next chunk.  It does not
    depend on the reader, and it is a fixed point (`stepCap_idem`). -/
def stepCap (b : PBuf) : Nat := ensureCap b (min (b.data.length + Facts.chunkSize) b.cfg.bufferSize)

theorem stepCap_ge (b : PBuf) :
    min (b.data.length + Facts.chunkSize) b.cfg.bufferSize + Facts.margin ≤ stepCap b :=
  ensureCap_ge b _ (Nat.min_le_right _ _)

theorem stepCap_idem (b : PBuf) : stepCap { b with cap := stepCap b } = stepCap b := by
  have := stepCap_ge b
  show ensureCap { b with cap := stepCap b } _ = _
  unfold ensureCap
  rw [if_pos this]

/-- One iteration of the `ReadFrom` loop when there is room: the slice handed to the reader is never empty and the Go
    code cannot panic.  A response with error code 0 always continues the loop, also when it delivered no byte
    (`(0, nil)`: "nothing happened"). -/
theorem readLoop_eq (b : PBuf) (r : Reader) (h : b.data.length < b.cfg.bufferSize) :
    readLoop b r =
      match r.resps with
      | [] => ({ b with cap := stepCap b }, r, .eof)
      | (mx, ec) :: rest =>
        let n := min3 mx (min (stepCap b - Facts.margin) b.cfg.bufferSize - b.data.length) r.payload.length
        let r' : Reader := ⟨r.payload.drop n, rest⟩
        let b'' : PBuf := { b with data := b.data ++ r.payload.take n, cap := stepCap b }
        if ec ≠ 0 then (b'', r', errOfCode ec) else readLoop b'' r' := by
  have hcm := stepCap_ge b
  rw [readLoop]
  have h0 : ¬ b.data.length ≥ b.cfg.bufferSize := by omega
  simp only [h0, if_false]
  rw [ensure_eq b _ (by omega) (Nat.min_le_right _ _)]
  simp only []
  have h1 : ¬ (ensureCap b (min (b.data.length + Facts.chunkSize) b.cfg.bufferSize) < Facts.margin ∨
      min (ensureCap b (min (b.data.length + Facts.chunkSize) b.cfg.bufferSize) - Facts.margin) b.cfg.bufferSize
        < b.data.length) := by
    unfold stepCap at hcm; omega
  simp only [h1, if_false]
  split <;> rename_i hr
  · simp [hr, stepCap]
  · simp [hr, stepCap]

/-! ## one `Read` of the scripted reader; the loop in terms of it -/

theorem _root_.LZ.Reader.read_cons (p : List Byte) (mx ec : Nat) (rest : List (Nat × Nat)) (sz : Nat) :
    Reader.read ⟨p, (mx, ec) :: rest⟩ sz = (⟨p.drop (min3 mx sz p.length), rest⟩, p.take (min3 mx sz p.length), ec) := rfl

theorem _root_.LZ.Reader.read_length_le (r : Reader) (sz : Nat) : (r.read sz).2.1.length ≤ sz := by
  obtain ⟨p, rs⟩ := r
  cases rs with
  | nil => exact Nat.zero_le _
  | cons x rest =>
    obtain ⟨mx, ec⟩ := x
    rw [Reader.read_cons]
    simp only [List.length_take, min3]
    omega

/-- the model loop, one iteration, in terms of `Reader.read` (both shapes of the script), for every buffer: the
    branches in which the Go code would panic are there; `readLoop_eq` is the closed form when there is room -/
theorem readLoop_read (b : PBuf) (r : Reader) :
    readLoop b r =
      if b.data.length ≥ b.cfg.bufferSize then (b, r, .full)
      else
        match (if Min.min (b.data.length + Facts.chunkSize) b.cfg.bufferSize + Facts.margin > b.cap
            then b.grow (Min.min (b.data.length + Facts.chunkSize) b.cfg.bufferSize) else some b) with
        | none => (b, r, .panic)
        | some b' =>
          if b'.cap < Facts.margin ∨ Min.min (b'.cap - Facts.margin) b'.cfg.bufferSize < b'.data.length
          then (b', r, .panic)
          else
            if (r.read (Min.min (b'.cap - Facts.margin) b'.cfg.bufferSize - b'.data.length)).2.2 ≠ 0 then
              ({ b' with data := b'.data ++ (r.read (Min.min (b'.cap - Facts.margin) b'.cfg.bufferSize - b'.data.length)).2.1 },
                (r.read (Min.min (b'.cap - Facts.margin) b'.cfg.bufferSize - b'.data.length)).1,
                errOfCode (r.read (Min.min (b'.cap - Facts.margin) b'.cfg.bufferSize - b'.data.length)).2.2)
            else readLoop
              { b' with data := b'.data ++ (r.read (Min.min (b'.cap - Facts.margin) b'.cfg.bufferSize - b'.data.length)).2.1 }
              (r.read (Min.min (b'.cap - Facts.margin) b'.cfg.bufferSize - b'.data.length)).1 := by
  obtain ⟨p, rs⟩ := r
  rw [readLoop]
  simp only []
  by_cases h0 : b.data.length ≥ b.cfg.bufferSize
  · rw [if_pos h0, if_pos h0]
  · rw [if_neg h0, if_neg h0]
    generalize (if Min.min (b.data.length + Facts.chunkSize) b.cfg.bufferSize + Facts.margin > b.cap
        then b.grow (Min.min (b.data.length + Facts.chunkSize) b.cfg.bufferSize) else some b) = o
    cases o with
    | none => rfl
    | some b' =>
      simp only []
      by_cases h1 : b'.cap < Facts.margin ∨ Min.min (b'.cap - Facts.margin) b'.cfg.bufferSize < b'.data.length
      · rw [if_pos h1, if_pos h1]
      · rw [if_neg h1, if_neg h1]
        cases rs with
        | nil => simp only [show Reader.read ⟨p, []⟩ _ = (⟨p, []⟩, [], 1) from rfl, List.append_nil]; rfl
        | cons x rest =>
          obtain ⟨mx, ec⟩ := x
          simp only [Reader.read_cons]
          rfl

theorem _root_.LZ.Reader.read_code_zero (r : Reader) (sz : Nat) (h : (r.read sz).2.2 = 0) :
    (r.read sz).1.resps.length + 1 = r.resps.length := by
  obtain ⟨p, rs⟩ := r
  cases rs with
  | nil => cases h
  | cons x rest =>
    obtain ⟨mx, ec⟩ := x
    simp [Reader.read_cons]

/-- a `readLoop` never hands responses back, and changes the data only by consuming one -/
theorem readLoop_consumes (b : PBuf) (r : Reader) :
    (b.readLoop r).2.1.resps.length ≤ r.resps.length ∧
    ((b.readLoop r).1.data = b.data ∨ (b.readLoop r).2.1.resps.length < r.resps.length) := by
  have grown {b b' : PBuf} {t : Nat}
      (h : (if t + Facts.margin > b.cap then b.grow t else some b) = some b') : b'.data = b.data := by
    split at h
    · exact (grow_frame b t b' h).1
    · cases h; rfl
  fun_induction readLoop b r with
  | case1 b r h => exact ⟨Nat.le_refl _, Or.inl rfl⟩
  | case2 b r h t hg => exact ⟨Nat.le_refl _, Or.inl rfl⟩
  | case3 b r h t b' hg e hb => exact ⟨Nat.le_refl _, Or.inl (grown hg)⟩
  | case4 b r h t b' hg e hb hr => exact ⟨Nat.le_refl _, Or.inl (grown hg)⟩
  | case5 b r h t b' hg e hb mx ec rest hr sz n r' b'' hec =>
    have : rest.length < r.resps.length := by rw [hr]; simp
    exact ⟨Nat.le_of_lt this, Or.inr this⟩
  | case6 b r h t b' hg e hb mx ec rest hr sz n r' b'' hec ih =>
    have : rest.length < r.resps.length := by rw [hr]; simp
    have h1 : (b''.readLoop r').2.1.resps.length ≤ rest.length := ih.1
    exact ⟨by omega, Or.inr (by omega)⟩

/-- `k ≠ 0` ⇒ at least one response of the script was consumed, for every buffer -/
theorem readFrom_consumes (b : PBuf) (r : Reader) (hk : (b.readFrom r).2.2.1 ≠ 0) :
    (b.readFrom r).2.1.resps.length < r.resps.length := by
  rw [readFrom_eq] at hk ⊢
  rcases (readLoop_consumes b r).2 with h | h
  · simp only [h] at hk; omega
  · exact h

/-- number of responses of a script that offer at least one byte -/
def offers (l : List (Nat × Nat)) : Nat := (l.filter (fun x => decide (1 ≤ x.1))).length

@[simp] theorem offers_nil : offers [] = 0 := rfl

theorem offers_cons (x : Nat × Nat) (l : List (Nat × Nat)) :
    offers (x :: l) = (if 1 ≤ x.1 then 1 else 0) + offers l := by
  unfold offers
  by_cases h : 1 ≤ x.1
  · simp [h]; omega
  · simp [h]

theorem offers_append (l₁ l₂ : List (Nat × Nat)) : offers (l₁ ++ l₂) = offers l₁ + offers l₂ := by
  unfold offers; simp

theorem offers_le_length (l : List (Nat × Nat)) : offers l ≤ l.length := by
  unfold offers; exact List.length_filter_le _ _

theorem offers_eq_length {l : List (Nat × Nat)} (h : ∀ x ∈ l, 1 ≤ x.1) : offers l = l.length := by
  unfold offers
  rw [List.filter_eq_self.2]
  intro x hx; simpa using h x hx

theorem with_self (b : PBuf) : ({ b with data := b.data ++ [], cap := b.cap } : PBuf) = b := by
  cases b; simp

/-- the number of bytes one `Read` delivers into the slice `Data[len : min(cap-7, BufferSize)]`
    offered by an iteration of the loop: at most what is asked for, offered and there; it fits under
    `BufferSize` and the margin; and it is 0 only if nothing is offered or nothing is there -/
theorem slice_bounds {mx c bs len pl : Nat} (hlen : len < bs)
    (hc : min (len + Facts.chunkSize) bs + Facts.margin ≤ c) :
    min3 mx (min (c - Facts.margin) bs - len) pl ≤ mx ∧
    min3 mx (min (c - Facts.margin) bs - len) pl ≤ pl ∧
    len + min3 mx (min (c - Facts.margin) bs - len) pl ≤ bs ∧
    len + min3 mx (min (c - Facts.margin) bs - len) pl + Facts.margin ≤ c ∧
    (min3 mx (min (c - Facts.margin) bs - len) pl = 0 → mx = 0 ∨ pl = 0) := by
  have hsz : 1 ≤ min (c - Facts.margin) bs - len ∧ len + (min (c - Facts.margin) bs - len) ≤ bs ∧
      len + (min (c - Facts.margin) bs - len) + Facts.margin ≤ c := by
    have := chunkSize_pos
    omega
  generalize min (c - Facts.margin) bs - len = sz at hsz
  simp only [min3]
  omega

theorem errOfCode_ne (c : Nat) (h : c ≠ 0) :
    errOfCode c ≠ .ok ∧ errOfCode c ≠ .panic ∧ errOfCode c ≠ .full ∧ errOfCode c ≠ .empty := by
  unfold errOfCode
  split <;> simp_all

theorem errOfCode_le_one (c : Nat) (h : c ≠ 0) (h1 : c ≤ 1) : errOfCode c = .eof := by
  have : c = 1 := by omega
  subst this; rfl

theorem readFrom_eta (b : PBuf) (r : Reader) : b.readFrom r =
    ((b.readFrom r).1, (b.readFrom r).2.1, (b.readFrom r).2.2.1, (b.readFrom r).2.2.2) := rfl

theorem readFrom_loop {b : PBuf} {r : Reader} {b' : PBuf} {r' : Reader} {n : Nat} {e : Err}
    (h : b.readFrom r = (b', r', n, e)) :
    readLoop b r = (b', r', e) ∧ n = b'.data.length - b.data.length := by
  rw [readFrom_eq] at h
  simp only [Prod.mk.injEq] at h
  obtain ⟨rfl, rfl, rfl, rfl⟩ := h
  exact ⟨rfl, rfl⟩

/-- `ReadFrom` in destructured form: what `b.readFrom r = (b', r', n, e)` means, for a buffer
    holding at most `BufferSize` bytes.  It appends the first `n` payload bytes and consumes a
    prefix of the script; all consumed responses but possibly the last (`pre`) carry error code 0
    (a response with code 0 never ends the loop, whether or not it delivered a byte); unless the
    payload ran out, every response of `pre` that offered a byte (`mx ≥ 1`) delivered at least one;
    and the loop stops for exactly one of three reasons: a full buffer, the script exhausted
    (io.EOF), or a response carrying a code `ec ≠ 0`. -/
theorem readFrom_master {b : PBuf} {r : Reader} (hlen : b.data.length ≤ b.cfg.bufferSize)
    {b' : PBuf} {r' : Reader} {n : Nat} {e : Err} (h : b.readFrom r = (b', r', n, e)) :
    ∃ (c : Nat) (pre : List (Nat × Nat)),
      b' = { b with data := b.data ++ r.payload.take n, cap := c } ∧
      r'.payload = r.payload.drop n ∧
      n ≤ r.payload.length ∧ b.data.length + n ≤ b.cfg.bufferSize ∧
      ((b.data = [] ∨ b.data.length + Facts.margin ≤ b.cap) →
        (b.data = [] ∧ n = 0) ∨ b.data.length + n + Facts.margin ≤ c) ∧
      (∀ x ∈ pre, x.2 = 0) ∧ (n = r.payload.length ∨ offers pre ≤ n) ∧
      ((e = .full ∧ r.resps = pre ++ r'.resps ∧ b.data.length + n = b.cfg.bufferSize ∧
          (pre = [] → n = 0)) ∨
       (e = .eof ∧ r.resps = pre ∧ r'.resps = [] ∧ b.data.length + n < b.cfg.bufferSize ∧
          (pre = [] → n = 0)) ∨
       (∃ mx ec, r.resps = pre ++ (mx, ec) :: r'.resps ∧ ec ≠ 0 ∧ e = errOfCode ec)) := by
  induction hlen' : r.resps.length using Nat.strongRecOn generalizing b r n with | _ len ih
  obtain ⟨hl, hn⟩ := readFrom_loop h
  by_cases hfull : b.cfg.bufferSize ≤ b.data.length
  · -- a full buffer does not call `Read`
    rw [readLoop_full b r hfull] at hl
    simp only [Prod.mk.injEq] at hl
    obtain ⟨rfl, rfl, rfl⟩ := hl
    obtain rfl : n = 0 := by omega
    exact ⟨b.cap, [], (with_self b).symm, rfl, Nat.zero_le _, hlen,
      fun h => h.imp (fun h => ⟨h, rfl⟩) id, by simp, Or.inr (Nat.zero_le _),
      Or.inl ⟨rfl, rfl, by omega, fun _ => rfl⟩⟩
  · have hroom : b.data.length < b.cfg.bufferSize := by omega
    have hc := stepCap_ge b
    have hrl := readLoop_eq b r hroom
    generalize stepCap b = c at hc hrl
    rw [hrl] at hl
    cases hr : r.resps with
    | nil =>
      rw [hr] at hl
      simp only [Prod.mk.injEq] at hl
      obtain ⟨rfl, rfl, rfl⟩ := hl
      obtain rfl : n = 0 := by rw [hn]; exact Nat.sub_self _
      exact ⟨c, [], by simp, rfl, Nat.zero_le _, hlen, fun _ => Or.inr (by omega), by simp,
        Or.inr (Nat.zero_le _), Or.inr (Or.inl ⟨rfl, rfl, hr, by omega, fun _ => rfl⟩)⟩
    | cons x rest =>
      obtain ⟨mx, ec⟩ := x
      rw [hr] at hl
      simp only [] at hl
      obtain ⟨-, hk1, hk2, hk3, hk4⟩ := slice_bounds (mx := mx) (pl := r.payload.length) hroom hc
      generalize min3 mx (min (c - Facts.margin) b.cfg.bufferSize - b.data.length)
        r.payload.length = k at hl hk1 hk2 hk3 hk4
      by_cases hec : ec ≠ 0
      · rw [if_pos hec] at hl
        simp only [Prod.mk.injEq] at hl
        obtain ⟨rfl, rfl, rfl⟩ := hl
        obtain rfl : n = k := by
          rw [hn]; simp only [List.length_append, List.length_take]; omega
        exact ⟨c, [], rfl, rfl, hk1, hk2, fun _ => Or.inr hk3, by simp,
          Or.inr (Nat.zero_le _), Or.inr (Or.inr ⟨mx, ec, rfl, hec, rfl⟩)⟩
      · -- code 0: the loop goes on with the longer buffer and the rest of the reader
        rw [if_neg hec] at hl
        have ih := ih rest.length (by rw [← hlen', hr]; exact Nat.lt_succ_self _)
          (b := { b with data := b.data ++ r.payload.take k, cap := c })
          (by simp only [List.length_append, List.length_take]; omega) (by rw [readFrom_eq, hl]) rfl
        generalize b'.data.length
          - ({ b with data := b.data ++ r.payload.take k, cap := c } : PBuf).data.length = m at ih
        obtain ⟨c', pre, rfl, hr', hm1, hm2, hm3, hpre, hoff, hcase⟩ := ih
        have hmin : min k r.payload.length = k := Nat.min_eq_left hk1
        simp only [List.length_append, List.length_take, List.length_drop, hmin]
          at hn hm1 hm2 hm3 hoff
        have hkm : n = k + m ∧ k + m ≤ r.payload.length ∧ b.data.length + (k + m) ≤ b.cfg.bufferSize := by
          clear hm3 hoff hcase hk4; omega
        obtain ⟨rfl, hkm1, hkm2⟩ := hkm
        refine ⟨c', (mx, ec) :: pre, ?_, ?_, hkm1, hkm2, fun _ => ?_, ?_, ?_, ?_⟩
        · simp only [List.append_assoc, ← List.take_add]
        · rw [hr', List.drop_drop]
        · clear hoff hcase hk4
          rcases hm3 (Or.inr hk3) with ⟨h1, hm0⟩ | h
          · have := congrArg List.length h1
            simp only [List.length_append, List.length_take, List.length_nil, hmin] at this
            exact Or.inl ⟨List.eq_nil_of_length_eq_zero (by omega), by omega⟩
          · exact Or.inr (by omega)
        · intro x hx
          rcases List.mem_cons.1 hx with hx | hx
          · rw [hx]; exact Decidable.not_not.1 hec
          · exact hpre x hx
        · rw [offers_cons]
          simp only []
          clear hcase hm3
          rcases hoff with h | h
          · left; omega
          · by_cases hk0 : k = 0
            · rcases hk4 hk0 with h' | h'
              · right; rw [if_neg (by omega)]; omega
              · left; omega
            · right; split <;> omega
        · simp only [List.length_append, List.length_take, hmin] at hcase
          rcases hcase with ⟨h1, h2, h3, _⟩ | ⟨h1, h2, h3, h4, _⟩ | ⟨mx', ec', h1, h2, h3⟩
          · exact Or.inl ⟨h1, by rw [h2]; rfl, by omega, fun h => by cases h⟩
          · exact Or.inr (Or.inl ⟨h1, by rw [h2], h3, by omega, fun h => by cases h⟩)
          · exact Or.inr (Or.inr ⟨mx', ec', by rw [h1]; rfl, h2, h3⟩)

/-- within `BufferSize`, `ReadFrom` never returns `nil` and never panics -/
theorem readFrom_err (b : PBuf) (r : Reader) (hlen : b.data.length ≤ b.cfg.bufferSize) :
    (b.readFrom r).2.2.2 ≠ .ok ∧ (b.readFrom r).2.2.2 ≠ .panic := by
  obtain ⟨c, pre, -, -, -, -, -, -, -, hcase⟩ := readFrom_master hlen (readFrom_eta b r)
  rcases hcase with ⟨h, -⟩ | ⟨h, -⟩ | ⟨mx, ec, -, hec, h⟩
  · rw [h]; exact ⟨nofun, nofun⟩
  · rw [h]; exact ⟨nofun, nofun⟩
  · rw [h]; exact ⟨(errOfCode_ne ec hec).1, (errOfCode_ne ec hec).2.1⟩

theorem readFrom_full (b : PBuf) (r : Reader) (h : b.cfg.bufferSize ≤ b.data.length) :
    b.readFrom r = (b, r, 0, .full) := by
  rw [readFrom_eq, readLoop_full b r h]; simp

/-! ## what an operation does to the buffer, and the invariants it keeps -/

/-- the capacity invariant: a non-empty buffer has 7 spare bytes behind `len(Data)` -/
def CapOK (b : PBuf) : Prop := b.data = [] ∨ b.data.length + Facts.margin ≤ b.cap

/-- What `Write` and `ReadFrom` do to a buffer `b`: `q` is appended and the capacity may change,
    nothing else; a buffer within `BufferSize` stays within it; the margin is kept. -/
structure Appended (b b' : PBuf) (q : List Byte) : Prop where
  data : b'.data = b.data ++ q
  w : b'.w = b.w
  off : b'.off = b.off
  cfg : b'.cfg = b.cfg
  len_le : b.data.length ≤ b.cfg.bufferSize → b'.data.length ≤ b.cfg.bufferSize
  cap : b.CapOK → b'.CapOK

theorem Appended.refl (b : PBuf) : Appended b b [] :=
  ⟨(List.append_nil _).symm, rfl, rfl, rfl, id, id⟩

theorem Appended.of_eq {b b' : PBuf} {q : List Byte} {c : Nat}
    (hb : b' = { b with data := b.data ++ q, cap := c })
    (hlen : b.data.length + q.length ≤ b.cfg.bufferSize)
    (hm : b.CapOK → (b.data = [] ∧ q = []) ∨ b.data.length + q.length + Facts.margin ≤ c) :
    Appended b b' q := by
  subst hb
  refine ⟨rfl, rfl, rfl, rfl, fun _ => by simpa using hlen, fun hc => ?_⟩
  rcases hm hc with ⟨h1, h2⟩ | hm
  · left; simp [h1, h2]
  · right; simpa using hm

theorem write_appended (b : PBuf) (p : List Byte) :
    Appended b (b.write p).1 (p.take (b.write p).2.1) := by
  by_cases hlen : b.data.length ≤ b.cfg.bufferSize
  · obtain ⟨c, hw, hc⟩ := write_spec b p hlen
    rw [hw]
    exact .of_eq rfl (by simp only [List.length_take]; omega)
      fun _ => Or.inr (by simp only [List.length_take]; omega)
  · -- more than `BufferSize` bytes buffered: `p[:available]` panics, nothing changes
    have : b.write p = (b, 0, .panic) := by unfold write; rw [if_pos (by omega)]
    rw [this]
    exact .refl b

theorem readFrom_appended (b : PBuf) (r : Reader) :
    Appended b (b.readFrom r).1 (r.payload.take (b.readFrom r).2.2.1) := by
  by_cases hlen : b.data.length ≤ b.cfg.bufferSize
  · obtain ⟨c, -, hb, -, hn1, hn2, hm, -⟩ := readFrom_master hlen (readFrom_eta b r)
    refine .of_eq hb (by simp only [List.length_take]; omega) fun hc => ?_
    rcases hm hc with ⟨h1, h2⟩ | h
    · left; exact ⟨h1, by rw [h2]; rfl⟩
    · right; simp only [List.length_take]; omega
  · -- more than `BufferSize` bytes buffered: the loop does not call `Read`
    rw [readFrom_full b r (by omega)]
    exact .refl b

/-- What `Shrink` does to a buffer `b`: the `d` oldest bytes go, `W` moves back and `Off` forward
    by `d`; nothing else changes. -/
structure Dropped (b b' : PBuf) (d : Nat) : Prop where
  data : b'.data = b.data.drop d
  w : b'.w + d = b.w
  off : b'.off = b.off + d
  cfg : b'.cfg = b.cfg
  cap : b'.cap = b.cap

theorem shrink_dropped (b : PBuf) : Dropped b b.shrink.1 b.shrink.2 := by
  rw [shrink_spec]
  exact ⟨rfl, by simp only []; omega, rfl, rfl, rfl⟩

theorem Dropped.length {b b' : PBuf} {d : Nat} (a : Dropped b b' d) :
    b'.data.length = b.data.length - d := by rw [a.data, List.length_drop]

theorem Dropped.capOK {b b' : PBuf} {d : Nat} (a : Dropped b b' d) (h : b.CapOK) : b'.CapOK := by
  unfold CapOK at h ⊢
  rw [a.length, a.data, a.cap]
  rcases h with h | h
  · left; rw [h, List.drop_nil]
  · right; omega

theorem Dropped.pinv {b b' : PBuf} {d : Nat} {fed : List Byte} (a : Dropped b b' d)
    (h : PInv b fed) : PInv b' fed := by
  have hl := h.fed_length
  have hw := h.w_le
  have ha := a.w
  refine ⟨by rw [a.off, a.data, ← h.view, List.drop_drop], by rw [a.off]; omega,
    by rw [a.length]; omega, ?_, a.capOK h.margin⟩
  rw [a.length, a.cfg]; have := h.len_le; omega

theorem pinv_shrink {b : PBuf} {fed : List Byte} (h : PInv b fed) : PInv b.shrink.1 fed :=
  (shrink_dropped b).pinv h

theorem Appended.pinv {b b' : PBuf} {q fed : List Byte} (a : Appended b b' q) (h : PInv b fed) :
    PInv b' (fed ++ q) where
  view := by rw [a.off, a.data, List.drop_append_of_le_length h.off_le, h.view]
  off_le := by rw [a.off, List.length_append]; exact Nat.le_add_right_of_le h.off_le
  w_le := by rw [a.w, a.data, List.length_append]; exact Nat.le_add_right_of_le h.w_le
  len_le := a.cfg ▸ a.len_le h.len_le
  margin := a.cap h.margin

theorem pinv_advance {b : PBuf} {fed : List Byte} (h : PInv b fed) (n : Nat)
    (hn : b.w + n ≤ b.data.length) : PInv { b with w := b.w + n } fed :=
  ⟨h.view, h.off_le, hn, h.len_le, h.margin⟩

/-! ## filling: the result of `ReadFrom` does not depend on how the reader chunks -/

/-- A script that is error free, never returns `(0, nil)` before the payload is exhausted, and
    has at least `m` responses. -/
def FillScript (resps : List (Nat × Nat)) (m : Nat) : Prop :=
  (∀ x ∈ resps, x.2 = 0 ∧ 1 ≤ x.1) ∧ m ≤ resps.length

/-- The nil-tolerant version of `FillScript`: an error-free script that may contain `(0, nil)`
    answers (`mx = 0`) anywhere, with at least `m` responses that offer a byte. -/
def FillScriptN (resps : List (Nat × Nat)) (m : Nat) : Prop :=
  (∀ x ∈ resps, x.2 = 0) ∧ m ≤ offers resps

theorem FillScript.toN {resps : List (Nat × Nat)} {m : Nat} (h : FillScript resps m) :
    FillScriptN resps m :=
  ⟨fun x hx => (h.1 x hx).1, by rw [offers_eq_length (fun x hx => (h.1 x hx).2)]; exact h.2⟩

theorem readFrom_err_full {b : PBuf} {r : Reader} (hlen : b.data.length ≤ b.cfg.bufferSize)
    {b' : PBuf} {r' : Reader} {n : Nat} (h : b.readFrom r = (b', r', n, .full)) :
    b.data.length + n = b.cfg.bufferSize := by
  obtain ⟨c, pre, -, -, -, -, -, -, -, hcase⟩ := readFrom_master hlen h
  rcases hcase with ⟨_, _, h3, _⟩ | ⟨h1, _⟩ | ⟨mx, ec, _, hec, h2⟩
  · exact h3
  · cases h1
  · exact absurd h2.symm (errOfCode_ne ec hec).2.2.1

theorem readFrom_fill_of_outcome {b : PBuf} {r : Reader} (hlen : b.data.length ≤ b.cfg.bufferSize)
    {b' : PBuf} {r' : Reader} {n : Nat} {e : Err} (h : b.readFrom r = (b', r', n, e))
    (hstop : e = .full ∨ r'.payload = []) :
    n = min r.payload.length (b.cfg.bufferSize - b.data.length) := by
  obtain ⟨c, pre, hb, hr, hn1, hn2, -⟩ := readFrom_master hlen h
  rcases hstop with hfull | hpl
  · subst hfull
    have := readFrom_err_full hlen h
    omega
  · rw [hr] at hpl
    have := congrArg List.length hpl
    simp only [List.length_drop, List.length_nil] at this
    omega

theorem readFrom_of_noerr {b : PBuf} {r : Reader} (hlen : b.data.length ≤ b.cfg.bufferSize)
    (hs : ∀ x ∈ r.resps, x.2 = 0)
    {b' : PBuf} {r' : Reader} {n : Nat} {e : Err} (h : b.readFrom r = (b', r', n, e)) :
    ∃ pre, (n = r.payload.length ∨ offers pre ≤ n) ∧ n ≤ r.payload.length ∧
      r'.payload.length = r.payload.length - n ∧ r.resps = pre ++ r'.resps ∧
      ((e = .full ∧ b.data.length + n = b.cfg.bufferSize) ∨
       (e = .eof ∧ r'.resps = [] ∧ b.data.length + n < b.cfg.bufferSize)) := by
  obtain ⟨c, pre, -, hr, hn1, -, -, -, hoff, hcase⟩ := readFrom_master hlen h
  refine ⟨pre, hoff, hn1, by rw [hr, List.length_drop], ?_⟩
  rcases hcase with ⟨h1, h2, h3, _⟩ | ⟨h1, h2, h3, h4, _⟩ | ⟨mx, ec, h1, hec, _⟩
  · exact ⟨h2, Or.inl ⟨h1, h3⟩⟩
  · exact ⟨by rw [h2, h3, List.append_nil], Or.inr ⟨h1, h3, h4⟩⟩
  · exact absurd (hs (mx, ec) (by rw [h1]; simp)) hec

theorem readFrom_stop_of_fillScriptN {b : PBuf} {r : Reader}
    (hlen : b.data.length ≤ b.cfg.bufferSize)
    (hs : FillScriptN r.resps (min r.payload.length (b.cfg.bufferSize - b.data.length)))
    {b' : PBuf} {r' : Reader} {n : Nat} {e : Err} (h : b.readFrom r = (b', r', n, e)) :
    (e = .full ∨ r'.payload = []) ∧ (e = .full ∨ e = .eof) ∧
    (e = .full ↔ b.cfg.bufferSize - b.data.length ≤ r.payload.length) := by
  obtain ⟨hs1, hs2⟩ := hs
  obtain ⟨pre, hoff, hn1, hpl, hpre, hcase⟩ := readFrom_of_noerr hlen hs1 h
  rcases hcase with ⟨h1, h3⟩ | ⟨h1, h2, h3⟩
  · refine ⟨Or.inl h1, Or.inl h1, ?_⟩
    simp only [h1, true_iff]; omega
  · -- the script ran out with room left: it offered enough, so the payload is exhausted
    rw [hpre, h2, List.append_nil] at hs2
    refine ⟨Or.inr (List.eq_nil_of_length_eq_zero (by omega)), Or.inr h1, ?_⟩
    simp only [h1, reduceCtorEq, false_iff]; omega

theorem readFrom_stop_of_fillScript {b : PBuf} {r : Reader}
    (hlen : b.data.length ≤ b.cfg.bufferSize)
    (hs : FillScript r.resps (min r.payload.length (b.cfg.bufferSize - b.data.length)))
    {b' : PBuf} {r' : Reader} {n : Nat} {e : Err} (h : b.readFrom r = (b', r', n, e)) :
    (e = .full ∨ r'.payload = []) ∧ (e = .full ∨ e = .eof) ∧
    (e = .full ↔ b.cfg.bufferSize - b.data.length ≤ r.payload.length) :=
  readFrom_stop_of_fillScriptN hlen hs.toN h

/-- A reader that never fails before its payload is exhausted, whatever room it is offered:
    error-free script, no `(0, nil)` answers while payload is left (`mx ≥ 1`), at least as many
    responses as payload bytes. -/
def FillR (r : Reader) : Prop :=
  (∀ x ∈ r.resps, x.2 = 0 ∧ 1 ≤ x.1) ∧ r.payload.length ≤ r.resps.length

/-- The nil-tolerant version of `FillR`: the script may contain `(0, nil)` answers anywhere; it
    is error free and at least as many responses as payload bytes offer a byte. -/
def FillRN (r : Reader) : Prop :=
  (∀ x ∈ r.resps, x.2 = 0) ∧ r.payload.length ≤ offers r.resps

theorem FillR.toN {r : Reader} (h : FillR r) : FillRN r :=
  ⟨fun x hx => (h.1 x hx).1, by rw [offers_eq_length (fun x hx => (h.1 x hx).2)]; exact h.2⟩

theorem FillR.fillScript {r : Reader} (h : FillR r) (m : Nat) :
    FillScript r.resps (min r.payload.length m) :=
  ⟨h.1, by have := h.2; omega⟩

theorem FillRN.fillScriptN {r : Reader} (h : FillRN r) (m : Nat) :
    FillScriptN r.resps (min r.payload.length m) :=
  ⟨h.1, by have := h.2; omega⟩

theorem fillRN_readFrom {b : PBuf} {r : Reader} (hlen : b.data.length ≤ b.cfg.bufferSize)
    (hf : FillRN r) {b' : PBuf} {r' : Reader} {n : Nat} {e : Err}
    (h : b.readFrom r = (b', r', n, e)) : FillRN r' := by
  obtain ⟨pre, hoff, hn1, hpl, hpre, -⟩ := readFrom_of_noerr hlen hf.1 h
  refine ⟨fun x hx => hf.1 x (by rw [hpre]; exact List.mem_append_right _ hx), ?_⟩
  have := hf.2
  rw [hpre, offers_append] at this
  omega

theorem fillR_readFrom {b : PBuf} {r : Reader} (hlen : b.data.length ≤ b.cfg.bufferSize)
    (hf : FillR r) {b' : PBuf} {r' : Reader} {n : Nat} {e : Err}
    (h : b.readFrom r = (b', r', n, e)) : FillR r' := by
  obtain ⟨pre, -, -, -, hpre, -⟩ := readFrom_of_noerr hlen (fun x hx => (hf.1 x hx).1) h
  have hsub : ∀ x ∈ r'.resps, x.2 = 0 ∧ 1 ≤ x.1 := fun x hx =>
    hf.1 x (by rw [hpre]; exact List.mem_append_right _ hx)
  refine ⟨hsub, ?_⟩
  rw [← offers_eq_length fun x hx => (hsub x hx).2]
  exact (fillRN_readFrom hlen hf.toN h).2

/-- A class `R` of readers that never fail before their payload is exhausted, whatever room they
    are offered: `ReadFrom` stops only with the buffer full or the payload exhausted, with
    `ErrFullBuffer` or `io.EOF`, and leaves a reader in `R`; once the payload is exhausted the
    script holds `nil` and `io.EOF` codes only. -/
structure Truthful (R : Reader → Prop) : Prop where
  readFrom : ∀ {b : PBuf} {r : Reader}, b.data.length ≤ b.cfg.bufferSize → R r →
    ∀ {b' : PBuf} {r' : Reader} {n : Nat} {e : Err}, b.readFrom r = (b', r', n, e) →
      (e = .full ∨ r'.payload = []) ∧ (e = .full ∨ e = .eof) ∧ R r'
  done : ∀ {r : Reader}, R r → r.payload = [] → ∀ x ∈ r.resps, x.2 ≤ 1

theorem truthful_fillR : Truthful FillR where
  readFrom := by
    intro b r hlen hf b' r' n e h
    obtain ⟨s1, s2, -⟩ := readFrom_stop_of_fillScript hlen (hf.fillScript _) h
    exact ⟨s1, s2, fillR_readFrom hlen hf h⟩
  done := by
    intro r hf _ x hx
    have := (hf.1 x hx).1
    omega

/-! ## `cap` is unobservable -/

/-- two buffers that differ at most in their capacity -/
def SameView (a b : PBuf) : Prop := a.data = b.data ∧ a.w = b.w ∧ a.off = b.off ∧ a.cfg = b.cfg

theorem SameView.refl (a : PBuf) : SameView a a := ⟨rfl, rfl, rfl, rfl⟩

theorem SameView.symm {a b : PBuf} (h : SameView a b) : SameView b a :=
  ⟨h.1.symm, h.2.1.symm, h.2.2.1.symm, h.2.2.2.symm⟩

theorem SameView.trans {a b c : PBuf} (h : SameView a b) (h' : SameView b c) : SameView a c :=
  ⟨h.1.trans h'.1, h.2.1.trans h'.2.1, h.2.2.1.trans h'.2.2.1, h.2.2.2.trans h'.2.2.2⟩

theorem sameView_write {a b : PBuf} (hv : SameView a b) (ha : a.data.length ≤ a.cfg.bufferSize)
    (p : List Byte) :
    SameView (a.write p).1 (b.write p).1 ∧ (a.write p).2 = (b.write p).2 := by
  obtain ⟨h1, h2, h3, h4⟩ := hv
  have hb : b.data.length ≤ b.cfg.bufferSize := by rw [← h1, ← h4]; exact ha
  obtain ⟨ca, hwa, -⟩ := write_spec a p ha
  obtain ⟨cb, hwb, -⟩ := write_spec b p hb
  rw [hwa, hwb]
  simp only [SameView, h1, h2, h3, h4, and_self]

theorem sameView_shrink {a b : PBuf} (hv : SameView a b) :
    SameView a.shrink.1 b.shrink.1 ∧ a.shrink.2 = b.shrink.2 := by
  obtain ⟨h1, h2, h3, h4⟩ := hv
  rw [shrink_spec a, shrink_spec b]
  simp only [SameView, h1, h2, h3, h4, and_self]

theorem sameView_reset {a b : PBuf} (hv : SameView a b) (data : List Byte) (ea eb : Nat) :
    SameView (a.reset data ea).1 (b.reset data eb).1 ∧ (a.reset data ea).2 = (b.reset data eb).2 := by
  obtain ⟨h1, h2, h3, h4⟩ := hv
  by_cases h : a.cfg.bufferSize < data.length
  · rw [reset_oversize a data ea h, reset_oversize b data eb (by rw [← h4]; exact h)]
    exact ⟨⟨h1, h2, h3, h4⟩, rfl⟩
  · obtain ⟨ca, hra, -⟩ := reset_spec a data ea (by omega)
    obtain ⟨cb, hrb, -⟩ := reset_spec b data eb (by rw [← h4]; omega)
    rw [hra, hrb]
    simp only [SameView, h4, and_self]

theorem sameView_peekAt {a b : PBuf} (hv : SameView a b) (n : Nat) (x : Int) :
    a.peekAt n x = b.peekAt n x := by
  obtain ⟨h1, h2, h3, h4⟩ := hv
  unfold peekAt; rw [h1, h3]

theorem sameView_readAt {a b : PBuf} (hv : SameView a b) (n : Nat) (x : Int) :
    a.readAt n x = b.readAt n x := by
  unfold readAt; rw [sameView_peekAt hv]

theorem sameView_byteAt {a b : PBuf} (hv : SameView a b) (x : Int) :
    a.byteAt x = b.byteAt x := by
  obtain ⟨h1, h2, h3, h4⟩ := hv
  unfold byteAt; rw [h1, h3]

theorem sameView_readFrom_of_stop {a b : PBuf} (hv : SameView a b)
    (ha : a.data.length ≤ a.cfg.bufferSize) {ra rb : Reader} (hp : ra.payload = rb.payload)
    (sa : (a.readFrom ra).2.2.2 = .full ∨ (a.readFrom ra).2.1.payload = [])
    (sb : (b.readFrom rb).2.2.2 = .full ∨ (b.readFrom rb).2.1.payload = []) :
    SameView (a.readFrom ra).1 (b.readFrom rb).1 ∧
    (a.readFrom ra).2.1.payload = (b.readFrom rb).2.1.payload ∧
    (a.readFrom ra).2.2.1 = (b.readFrom rb).2.2.1 := by
  obtain ⟨h1, h2, h3, h4⟩ := hv
  have hb : b.data.length ≤ b.cfg.bufferSize := by rw [← h1, ← h4]; exact ha
  have na := readFrom_fill_of_outcome ha (readFrom_eta a ra) sa
  have nb := readFrom_fill_of_outcome hb (readFrom_eta b rb) sb
  obtain ⟨ca, _, hba, hra, -⟩ := readFrom_master ha (readFrom_eta a ra)
  obtain ⟨cb, _, hbb, hrb, -⟩ := readFrom_master hb (readFrom_eta b rb)
  have hn : (a.readFrom ra).2.2.1 = (b.readFrom rb).2.2.1 := by
    rw [na, nb, hp, h1, h4]
  refine ⟨?_, ?_, hn⟩
  · rw [hba, hbb]
    simp only [SameView, h1, h2, h3, h4, hn, hp, and_self]
  · rw [hra, hrb, hn, hp]

theorem sameView_readFrom_fillN {a b : PBuf} (hv : SameView a b)
    (ha : a.data.length ≤ a.cfg.bufferSize) {ra rb : Reader} (hp : ra.payload = rb.payload)
    (hsa : FillScriptN ra.resps (min ra.payload.length (a.cfg.bufferSize - a.data.length)))
    (hsb : FillScriptN rb.resps (min rb.payload.length (b.cfg.bufferSize - b.data.length))) :
    SameView (a.readFrom ra).1 (b.readFrom rb).1 ∧
    (a.readFrom ra).2.1.payload = (b.readFrom rb).2.1.payload ∧
    (a.readFrom ra).2.2 = (b.readFrom rb).2.2 := by
  have hb : b.data.length ≤ b.cfg.bufferSize := by rw [← hv.1, ← hv.2.2.2]; exact ha
  obtain ⟨sa1, sa2, sa3⟩ := readFrom_stop_of_fillScriptN ha hsa (readFrom_eta a ra)
  obtain ⟨sb1, sb2, sb3⟩ := readFrom_stop_of_fillScriptN hb hsb (readFrom_eta b rb)
  obtain ⟨g1, g2, hn⟩ := sameView_readFrom_of_stop hv ha hp sa1 sb1
  refine ⟨g1, g2, Prod.ext hn ?_⟩
  -- the error says whether the payload fills the room, which is the same on both sides
  rw [hp, hv.1, hv.2.2.2] at sa3
  rcases sa2 with h | h
  · rw [h]; exact (sb3.2 (sa3.1 h)).symm
  · rcases sb2 with h' | h'
    · have := sa3.2 (sb3.1 h')
      rw [h] at this; cases this
    · rw [h, h']

theorem sameView_readFrom_fill {a b : PBuf} (hv : SameView a b)
    (ha : a.data.length ≤ a.cfg.bufferSize) {ra rb : Reader} (hp : ra.payload = rb.payload)
    (hsa : FillScript ra.resps (min ra.payload.length (a.cfg.bufferSize - a.data.length)))
    (hsb : FillScript rb.resps (min rb.payload.length (b.cfg.bufferSize - b.data.length))) :
    SameView (a.readFrom ra).1 (b.readFrom rb).1 ∧
    (a.readFrom ra).2.1.payload = (b.readFrom rb).2.1.payload ∧
    (a.readFrom ra).2.2 = (b.readFrom rb).2.2 :=
  sameView_readFrom_fillN hv ha hp hsa.toN hsb.toN

/-- `ReadFrom` with two readers of a truthful class that carry the same payload, on two buffers
    that differ at most in `cap`: the outcome is determined by the payload.  The errors (each
    `ErrFullBuffer` or `io.EOF`) can differ only when the last bytes read fill the buffer. -/
theorem Truthful.sameView_readFrom {R : Reader → Prop} (hR : Truthful R) {a b : PBuf}
    (hv : SameView a b) (ha : a.data.length ≤ a.cfg.bufferSize) {ra rb : Reader}
    (hp : ra.payload = rb.payload) (hra : R ra) (hrb : R rb) :
    SameView (a.readFrom ra).1 (b.readFrom rb).1 ∧
    (a.readFrom ra).2.1.payload = (b.readFrom rb).2.1.payload ∧
    (a.readFrom ra).2.2.1 = (b.readFrom rb).2.2.1 ∧
    ((a.readFrom ra).2.2.1 = 0 → (a.readFrom ra).2.2.2 = (b.readFrom rb).2.2.2) ∧
    R (a.readFrom ra).2.1 ∧ R (b.readFrom rb).2.1 := by
  have hb : b.data.length ≤ b.cfg.bufferSize := by rw [← hv.1, ← hv.2.2.2]; exact ha
  obtain ⟨sa1, sa2, sa3⟩ := hR.readFrom ha hra (readFrom_eta a ra)
  obtain ⟨sb1, sb2, sb3⟩ := hR.readFrom hb hrb (readFrom_eta b rb)
  obtain ⟨g1, g2, hn⟩ := sameView_readFrom_of_stop hv ha hp sa1 sb1
  refine ⟨g1, g2, hn, fun h0 => ?_, sa3, sb3⟩
  -- nothing read: `ErrFullBuffer` if the buffer was full already, else `io.EOF`, on both sides
  by_cases hfull : a.cfg.bufferSize ≤ a.data.length
  · rw [readFrom_full a ra hfull, readFrom_full b rb (by rw [← hv.1, ← hv.2.2.2]; exact hfull)]
  · have hea : (a.readFrom ra).2.2.2 = .eof := sa2.resolve_left fun h => by
      have ea := readFrom_eta a ra
      rw [h] at ea
      have := readFrom_err_full ha ea
      omega
    have heb : (b.readFrom rb).2.2.2 = .eof := sb2.resolve_left fun h => by
      have eb := readFrom_eta b rb
      rw [h] at eb
      have := readFrom_err_full hb eb
      rw [← hv.1, ← hv.2.2.2, ← hn] at this
      omega
    rw [hea, heb]

end PBuf
end LZ
