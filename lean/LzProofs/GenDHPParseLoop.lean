/-
  One iteration of the two greedy loops of dhp.go `Parse` (loop_1: both tables,
  `i < e2`; loop_5: the table of the short hash only, `e2 ≤ i < e1`) versus one step of
  `ProbeW.greedyLoopW (ProbeW.dhpProbeW … false …)`, and the two loops (instances of `GenParse.greedy_generic`).
-/
import LzProofs.GenDHPParseLemmas

set_option linter.unusedSimpArgs false
set_option linter.unusedVariables false

namespace LZ.GenDHPParse
open LZ LZ.Gen LZ.GenBuf LZ.GenHash LZ.GenHPParse LZ.GenParse

/-- the dictionary of the model a Go `doubleHashParser` stands for -/
def absD (s : Gen.doubleHashParser) : Hash2 :=
  ⟨ofHash s.doubleHashDictionary.h1, ofHash s.doubleHashDictionary.h2⟩

theorem test_ne {α : Type} {a b : α} (h : a ≠ b) : (a = b) = False ∧ (b = a) = False :=
  ⟨eq_false h, eq_false (Ne.symm h)⟩

theorem test_eq {α : Type} [DecidableEq α] {a b : α} (h : ¬ a ≠ b) : (a = b) = True ∧ (b = a) = True :=
  ⟨eq_true (Decidable.not_not.mp h), eq_true (Decidable.not_not.mp h).symm⟩

/-- decides a test of the stored value in the goal, spelled `a ≠ b`, `b ≠ a`, `¬ a = b`, … (either arm order), from
    `test_ne hv` / `test_eq hv` -/
local macro "val_test" h:term : tactic =>
  `(tactic| simp only [$h:term, ne_eq, not_false_eq_true, not_true_eq_false, if_true, if_false])

/-- one iteration of the SECOND loop (`for ; i < e1; i++`, entered with `e2 ≤ i`) -/
theorem loop5_step (grow : Nat → Nat → Nat) (e1I mm : Int) (A : List UInt8) (L E1 E2 mmN ws : Nat)
    (fuel i li : Nat) (ia lia : Int) (s : Gen.doubleHashParser) (blk : Block')
    (w1 : HOK s.doubleHashDictionary.h1)
    (hia : ia = (i : Int)) (hlia : lia = (li : Int)) (hE1 : e1I = (E1 : Int)) (hmm : mm = (mmN : Int))
    (hi : i < E1) (hi2 : ¬ i < E2) (hEL : E1 ≤ L) (hLA : L ≤ A.length) (hEA : E1 + 7 ≤ A.length)
    (hsm : E1 + 7 < 4294967296 + 8) (hli : li ≤ i)
    (hws : ws = s.DHPConfig.WindowSize.toNat) (hmm1 : 1 ≤ mmN) (hmm8 : mmN ≤ 8)
    (hfuel : L ≤ fuel + i) (hfuelE : E1 < fuel) :
    ∃ r, ProbeW.dhpProbeW ws mmN E1 E2 false (A.drop L) (absD s) (A.take L) i li = some r ∧
      ∃ t1', TOK s.doubleHashDictionary.h1.shift t1' ∧
        r.1 = ⟨ofHashT s.doubleHashDictionary.h1 t1', ofHash s.doubleHashDictionary.h2⟩ ∧
        doubleHashParser_Parse_loop_5 grow e1I { arr := A, len := E1 + 7 } { arr := A, len := L } mm (fuel + 1) ia s blk lia =
          (match r.2 with
          | none =>
            doubleHashParser_Parse_loop_5 grow e1I { arr := A, len := E1 + 7 } { arr := A, len := L } mm fuel (ia + 1)
              (setTT s t1' s.doubleHashDictionary.h2.table) blk lia
          | some (st, k, o) =>
            doubleHashParser_Parse_loop_5 grow e1I { arr := A, len := E1 + 7 } { arr := A, len := L } mm fuel
              ((st + k : Nat) : Int) (setTT s t1' s.doubleHashDictionary.h2.table)
              { Sequences := blk.Sequences ++ [seqRep { litLen := st - li, matchLen := k, offset := o }],
                Literals := Slice.append grow blk.Literals ((A.drop li).take (st - li)) }
              ((st + k : Nat) : Int)) ∧
        (∀ st k o, r.2 = some (st, k, o) → li ≤ st ∧ st ≤ i ∧ i < st + k ∧ st + k ≤ L) := by
  have hmem := BytesW.sliceTo_take_drop A L (E1 + 7) hEA
  have hpd : ({ arr := A, len := E1 + 7 } : Slice).data = A.take (E1 + 7) := rfl
  have hswf : SWF ({ arr := A, len := E1 + 7 } : Slice) := hEA
  -- the load at i, the table access
  obtain ⟨y, hy, hF⟩ := gen_load_ok { arr := A, len := E1 + 7 } hswf ia i hia (by show i + 8 ≤ E1 + 7; omega)
  rw [hpd] at hy
  obtain ⟨ent, t1, hidx, hset, ht1, hget, hofs⟩ := table_probe s.doubleHashDictionary.h1 s.doubleHashDictionary.h1.table
    w1.tok w1.sh1 w1.sh2 y ia i hia (by omega)
  rw [doubleHashParser_Parse_loop_5, if_pos (by omega), hF]
  dsimp only
  rw [hidx, bind_ok, hset, bind_ok]
  try simp only [LZ.GenProps.gen_min, Int.min_def]
  have hnf := ProbeW.dhpProbeW_nf2 ws mmN E1 E2 false (A.drop L) (absD s) (A.take L) i li (A.take (E1 + 7)) y hi2 hmem hy
    (y &&& s.doubleHashDictionary.h1.mask) (by rw [w1.mask]; rfl) (ofEntry ent) hget
    (ofHashT s.doubleHashDictionary.h1 t1) hofs
  -- A: the stored value differs
  by_cases hvA : (y &&& s.doubleHashDictionary.h1.mask).toUInt32 ≠ ent.value
  · refine ⟨(⟨ofHashT s.doubleHashDictionary.h1 t1, ofHash s.doubleHashDictionary.h2⟩, none),
      by rw [hnf, if_pos ((val_ne_iff _ _).mp hvA)]; rfl, t1, ht1, rfl, ?_, by intro st k o h; cases h⟩
    val_test (test_ne hvA)
    try rfl
  val_test (test_eq hvA)
  rw [if_neg (fun hc => hvA ((val_ne_iff _ _).mpr hc))] at hnf
  clear hvA hidx hset hget hofs hF
  unfold ProbeW.dhpTail2 ProbeW.candTail at hnf
  simp only [Bool.false_eq_true, if_false, Option.bind_some, Nat.sub_zero, Nat.add_zero] at hnf
  -- B: the candidate is outside the window
  have hj1 : (ofEntry ent).1 = ent.pos.toNat := rfl
  rw [hj1] at hnf
  generalize hjdef : ent.pos.toNat = j at hnf ⊢
  -- `omega` does not read `Int.ofNat j`: a variable for it
  generalize hjI : Int.ofNat j = jI
  have hjI : jI = (j : Int) := hjI.symm
  by_cases hw : ¬ (j < i ∧ i - j ≤ ws)
  · refine ⟨(⟨ofHashT s.doubleHashDictionary.h1 t1, ofHash s.doubleHashDictionary.h2⟩, none), by rw [hnf, if_pos hw]; rfl,
      t1, ht1, rfl, ?_, by intro st k o h; cases h⟩
    -- the window test of the text, in any spelling and with either arm first
    first | rw [if_pos (by omega)] | rw [if_neg (by omega)]
  rw [if_neg hw] at hnf
  have hji : j < i := by omega
  first | rw [if_pos (by omega)] | rw [if_neg (by omega)]
  -- (used-up facts with `toNat`, `if` or natural subtraction are cleared: every one costs `omega` case splits)
  clear hw hws
  -- C: the first word of the candidate
  obtain ⟨z, hz, hF2⟩ := gen_load_ok { arr := A, len := E1 + 7 } hswf jI j hjI (by show j + 8 ≤ E1 + 7; omega)
  rw [hpd] at hz
  rw [hF2, tz_shr]
  obtain ⟨k8, hk8le, hk8, hfw⟩ := first_word A L E1 mmN i j y z ia hia hy hz hji hi hEL hLA hEA
  rw [clamp_val (v := ((k8 : Nat) : Int)) (by omega)]
  clear hk8
  rcases hfw with ⟨hC1, hml⟩ | ⟨hC1, kk, hme, hml, hkk1, hkk2⟩
  · refine ⟨(⟨ofHashT s.doubleHashDictionary.h1 t1, ofHash s.doubleHashDictionary.h2⟩, none), by rw [hnf, hml]; rfl,
      t1, ht1, rfl, ?_, by intro st k o h; cases h⟩
    rw [if_pos (by omega)]
  rw [if_neg (by omega)]
  have hkL : i + kk ≤ L := by omega
  have hk8L : i + k8 ≤ L := by omega
  clear hkk2 hk8le
  -- the re-indexing loop (it starts at the match position j)
  obtain ⟨t2, ht2, hm7, hl7⟩ := loop7_eq grow A E1 i j kk fuel s (y &&& s.doubleHashDictionary.h1.mask)
    (Gen.hashValue (y &&& s.doubleHashDictionary.h1.mask) s.doubleHashDictionary.h1.shift) t1 w1 ht1 hji hi hEA hsm hfuelE
  refine ⟨(⟨ofHashT s.doubleHashDictionary.h1 t2, ofHash s.doubleHashDictionary.h2⟩, some (i, kk, i - j)), ?_,
    t2, ht2, rfl, ?_, fun st k o h => by cases h; exact ⟨hli, Nat.le_refl _, by omega, hkL⟩⟩
  · rw [hnf, hml, Option.bind_some]
    dsimp only
    rw [hm7]; rfl
  · have e1 : ia + (kk : Int) - 1 + 1 = ((i + kk : Nat) : Int) := by omega
    have e2 : ia + (kk : Int) = ((i + kk : Nat) : Int) := by omega
    have e3 : ia - jI = ((i - j : Nat) : Int) := by omega
    -- the forward extension `if k == 8 { … }` is `BytesW.matchExt`
    refine bind_trans (v := (kk : Int)) ?_ ?_
    · rcases matchExt_cases A L i j k8 kk hLA hk8L hji hme with ⟨rfl, hme'⟩ | ⟨h8, rfl⟩
      · rw [if_pos (by omega)]
        refine bind_trans (slice_okI _ _ _ (j + 8) L (by omega) rfl (by omega) hLA) ?_
        refine bind_trans (slice_okI _ _ _ (i + 8) L (by omega) rfl (by omega) hLA) ?_
        refine loop6_cont (L - i) fuel 8 kk (by show L - (i + 8) < _; omega) (by omega) rfl (swf_drop _ _ _ hLA)
          (swf_drop _ _ _ hLA) (by show L - (i + 8) ≤ L - (j + 8); omega) (by rw [data_drop, data_drop]; exact hme')
          (fun res done kN' r' q' hv hr' hq' h1 h0 => ?_)
        obtain ⟨hd, hk', hrr, hqq⟩ := hv
        simp only [hk', hrr, hqq, gen_getLE64 _ hr', gen_getLE64 _ hq', bind_ok, tz_shr, Int.ofNat_eq_natCast,
          ← apply_ite Res.ok]
        by_cases hdone : done
        · simp only [eq_true (hd.mpr hdone), not_true_eq_false, false_and, and_false, if_true, if_false, h1 hdone]
        · have hkk := h0 hdone
          simp only [eq_false (fun h => hdone (hd.mp h)), not_false_eq_true, true_and, and_true, if_true, if_false]
          exact congrArg Res.ok (by omega)
      · rw [if_neg (by omega)]
    dsimp only
    refine bind_trans (slice_okI _ lia ia li i hlia hia hli (by show i ≤ A.length; omega)) ?_
    dsimp only
    refine bind_trans (hl7 _ _ (by omega) hjI) ?_
    dsimp only
    rw [e1, e2, e3]
    rfl

/-- one iteration of the FIRST loop (`for ; i < e2; i++`: both tables are probed and updated) -/
theorem loop1_step (grow : Nat → Nat → Nat) (e2I mm e1I : Int) (A : List UInt8) (L E1 E2 mmN ws : Nat)
    (fuel i li : Nat) (ia lia : Int) (s : Gen.doubleHashParser) (blk : Block')
    (w1 : HOK s.doubleHashDictionary.h1) (w2 : HOK s.doubleHashDictionary.h2)
    (hia : ia = (i : Int)) (hlia : lia = (li : Int)) (hE1 : e1I = (E1 : Int)) (hE2 : e2I = (E2 : Int))
    (hmm : mm = (mmN : Int))
    (hi : i < E2) (hE21 : E2 ≤ E1) (hEL : E1 ≤ L) (hLA : L ≤ A.length) (hEA : E1 + 7 ≤ A.length)
    (hsm : E1 + 7 < 4294967296 + 8) (hli : li ≤ i)
    (hws : ws = s.DHPConfig.WindowSize.toNat) (hmm1 : 1 ≤ mmN) (hmm8 : mmN ≤ 8)
    (hfuel : L ≤ fuel + i) :
    ∃ r, ProbeW.dhpProbeW ws mmN E1 E2 false (A.drop L) (absD s) (A.take L) i li = some r ∧
      ∃ t1' t2', TOK s.doubleHashDictionary.h1.shift t1' ∧ TOK s.doubleHashDictionary.h2.shift t2' ∧
        r.1 = ⟨ofHashT s.doubleHashDictionary.h1 t1', ofHashT s.doubleHashDictionary.h2 t2'⟩ ∧
        doubleHashParser_Parse_loop_1 grow e2I { arr := A, len := E1 + 7 } { arr := A, len := L } mm e1I (fuel + 1) ia s blk lia =
          (match r.2 with
          | none =>
            doubleHashParser_Parse_loop_1 grow e2I { arr := A, len := E1 + 7 } { arr := A, len := L } mm e1I fuel (ia + 1)
              (setTT s t1' t2') blk lia
          | some (st, k, o) =>
            doubleHashParser_Parse_loop_1 grow e2I { arr := A, len := E1 + 7 } { arr := A, len := L } mm e1I fuel
              ((st + k : Nat) : Int) (setTT s t1' t2')
              { Sequences := blk.Sequences ++ [seqRep { litLen := st - li, matchLen := k, offset := o }],
                Literals := Slice.append grow blk.Literals ((A.drop li).take (st - li)) }
              ((st + k : Nat) : Int)) ∧
        (∀ st k o, r.2 = some (st, k, o) → li ≤ st ∧ st ≤ i ∧ i < st + k ∧ st + k ≤ L) := by
  have hmem := BytesW.sliceTo_take_drop A L (E1 + 7) hEA
  have hpd : ({ arr := A, len := E1 + 7 } : Slice).data = A.take (E1 + 7) := rfl
  have hswf : SWF ({ arr := A, len := E1 + 7 } : Slice) := hEA
  -- the load at i, the two table accesses
  obtain ⟨y, hy, hF⟩ := gen_load_ok { arr := A, len := E1 + 7 } hswf ia i hia (by show i + 8 ≤ E1 + 7; omega)
  rw [hpd] at hy
  obtain ⟨ent2, u1, hidx2, hset2, hu1, hget2, hofs2⟩ := table_probe s.doubleHashDictionary.h2 s.doubleHashDictionary.h2.table
    w2.tok w2.sh1 w2.sh2 y ia i hia (by omega)
  obtain ⟨ent1, t1, hidx1, hset1, ht1, hget1, hofs1⟩ := table_probe s.doubleHashDictionary.h1 s.doubleHashDictionary.h1.table
    w1.tok w1.sh1 w1.sh2 y ia i hia (by omega)
  rw [doubleHashParser_Parse_loop_1, if_pos (by omega), hF]
  dsimp only
  rw [hidx2, bind_ok, hset2, bind_ok]
  try dsimp only
  rw [hidx1, bind_ok, hset1, bind_ok]
  try dsimp only
  try simp only [LZ.GenProps.gen_min, Int.min_def]
  have hnf := ProbeW.dhpProbeW_nf1 ws mmN E1 E2 false (A.drop L) (absD s) (A.take L) i li (A.take (E1 + 7)) y hi hmem hy
    (y &&& s.doubleHashDictionary.h2.mask) (by rw [w2.mask]; rfl) (ofEntry ent2) hget2
    (ofHashT s.doubleHashDictionary.h2 u1) hofs2
    (y &&& s.doubleHashDictionary.h1.mask) (by rw [w1.mask]; rfl) (ofEntry ent1) hget1
    (ofHashT s.doubleHashDictionary.h1 t1) hofs1
  by_cases hv : (y &&& s.doubleHashDictionary.h2.mask).toUInt32 ≠ ent2.value ∧
      (y &&& s.doubleHashDictionary.h1.mask).toUInt32 ≠ ent1.value
  · -- neither table has the value: `continue`
    obtain ⟨hv2, hv1⟩ := hv
    refine ⟨(⟨ofHashT s.doubleHashDictionary.h1 t1, ofHashT s.doubleHashDictionary.h2 u1⟩, none),
      by rw [hnf, if_pos ((val_ne_iff _ _).mp hv2), if_pos ((val_ne_iff _ _).mp hv1)],
      t1, u1, ht1, hu1, rfl, ?_, by intro st k o h; cases h⟩
    val_test (test_ne hv2)
    val_test (test_ne hv1)
    try rfl
  -- the candidate `ent`: the entry of h1 (the value of h2 differs) or the entry of h2
  obtain ⟨ent, hnfE, hsel⟩ : ∃ ent,
      ProbeW.dhpProbeW ws mmN E1 E2 false (A.drop L) (absD s) (A.take L) i li =
        ProbeW.dhpTail1 ws mmN E1 E2 false (A.drop L) (A.take L) (A.take (E1 + 7)) i li
          (ofHashT s.doubleHashDictionary.h1 t1) (ofHashT s.doubleHashDictionary.h2 u1) (ofEntry ent) ∧
      (((y &&& s.doubleHashDictionary.h2.mask).toUInt32 ≠ ent2.value ∧
          ¬ (y &&& s.doubleHashDictionary.h1.mask).toUInt32 ≠ ent1.value ∧ ent1 = ent) ∨
        (¬ (y &&& s.doubleHashDictionary.h2.mask).toUInt32 ≠ ent2.value ∧ ent2 = ent)) := by
    by_cases hv2 : (y &&& s.doubleHashDictionary.h2.mask).toUInt32 ≠ ent2.value
    · have hv1 := fun h => hv ⟨hv2, h⟩
      exact ⟨ent1, by rw [hnf, if_pos ((val_ne_iff _ _).mp hv2), if_neg (fun hc => hv1 ((val_ne_iff _ _).mpr hc))],
        Or.inl ⟨hv2, hv1, rfl⟩⟩
    · exact ⟨ent2, by rw [hnf, if_neg (fun hc => hv2 ((val_ne_iff _ _).mpr hc))], Or.inr ⟨hv2, rfl⟩⟩
  -- behind the choice of the candidate the text is the same for either table: the statement `?G` about `ent` is
  -- what the first case leaves of the goal
  refine (?_ : ?G → _) ?_
  · intro g
    rcases hsel with ⟨hv2, hv1, he⟩ | ⟨hv2, he⟩
    · val_test (test_ne hv2)
      val_test (test_eq hv1)
      rw [he]
      exact g
    · val_test (test_eq hv2)
      rw [he]
      exact g
  clear hsel hv hnf hget1 hget2 hidx1 hidx2 hset1 hset2 hofs1 hofs2 hF ent1 ent2
  unfold ProbeW.dhpTail1 ProbeW.candTail at hnfE
  simp only [Bool.false_eq_true, if_false, Option.bind_some, Nat.sub_zero, Nat.add_zero] at hnfE
  -- B: the candidate is outside the window
  have hj1 : (ofEntry ent).1 = ent.pos.toNat := rfl
  rw [hj1] at hnfE
  generalize hjdef : ent.pos.toNat = j at hnfE ⊢
  -- `omega` does not read `Int.ofNat j`: a variable for it
  generalize hjI : Int.ofNat j = jI
  have hjI : jI = (j : Int) := hjI.symm
  by_cases hw : ¬ (j < i ∧ i - j ≤ ws)
  · refine ⟨(⟨ofHashT s.doubleHashDictionary.h1 t1, ofHashT s.doubleHashDictionary.h2 u1⟩, none),
      by rw [hnfE, if_pos hw], t1, u1, ht1, hu1, rfl, ?_, by intro st k o h; cases h⟩
    -- the window test of the text, in any spelling and with either arm first
    first | rw [if_pos (by omega)] | rw [if_neg (by omega)]
  rw [if_neg hw] at hnfE
  have hji : j < i := by omega
  first | rw [if_pos (by omega)] | rw [if_neg (by omega)]
  clear hw hws
  -- C: the first word of the candidate
  obtain ⟨z, hz, hF2⟩ := gen_load_ok { arr := A, len := E1 + 7 } hswf jI j hjI (by show j + 8 ≤ E1 + 7; omega)
  rw [hpd] at hz
  rw [hF2, tz_shr]
  obtain ⟨k8, hk8le, hk8, hfw⟩ := first_word A L E1 mmN i j y z ia hia hy hz hji (by omega) hEL hLA hEA
  rw [clamp_val (v := ((k8 : Nat) : Int)) (by omega)]
  clear hk8
  rcases hfw with ⟨hC1, hml⟩ | ⟨hC1, kk, hme, hml, hkk1, hkk2⟩
  · refine ⟨(⟨ofHashT s.doubleHashDictionary.h1 t1, ofHashT s.doubleHashDictionary.h2 u1⟩, none),
      by rw [hnfE, hml]; rfl, t1, u1, ht1, hu1, rfl, ?_, by intro st k o h; cases h⟩
    rw [if_pos (by omega)]
  rw [if_neg (by omega)]
  have hkL : i + kk ≤ L := by omega
  have hk8L : i + k8 ≤ L := by omega
  clear hkk2 hk8le
  -- the re-indexing loops
  obtain ⟨t1a, t2a, t1b, ht1b, ht2a, hm1, hm2, hl3, hl4, hsame⟩ := loop34_eq grow A E1 E2 i kk fuel s y
    (y &&& s.doubleHashDictionary.h1.mask)
    (Gen.hashValue (y &&& s.doubleHashDictionary.h1.mask) s.doubleHashDictionary.h1.shift) (UInt32.ofInt ia)
    t1 u1 w1 w2 ht1 hu1 hi (by omega) hE21 hEA hsm (by omega)
  refine ⟨(⟨ofHashT s.doubleHashDictionary.h1 t1b, ofHashT s.doubleHashDictionary.h2 t2a⟩, some (i, kk, i - j)), ?_,
    t1b, t2a, ht1b, ht2a, rfl, ?_,
    fun st k o h => by cases h; exact ⟨hli, Nat.le_refl _, by omega, hkL⟩⟩
  · rw [hnfE, hml, Option.bind_some]
    dsimp only
    rw [hm1, Option.bind_some, hm2]; rfl
  · have e1 : ia + (kk : Int) - 1 + 1 = ((i + kk : Nat) : Int) := by omega
    have e2 : ia + (kk : Int) = ((i + kk : Nat) : Int) := by omega
    have e3 : ia - jI = ((i - j : Nat) : Int) := by omega
    -- the forward extension `if k == 8 { … }` is `BytesW.matchExt`
    refine bind_trans (v := (kk : Int)) ?_ ?_
    · rcases matchExt_cases A L i j k8 kk hLA hk8L hji hme with ⟨rfl, hme'⟩ | ⟨h8, rfl⟩
      · rw [if_pos (by omega)]
        refine bind_trans (slice_okI _ _ _ (j + 8) L (by omega) rfl (by omega) hLA) ?_
        refine bind_trans (slice_okI _ _ _ (i + 8) L (by omega) rfl (by omega) hLA) ?_
        refine loop2_cont (L - i) fuel 8 kk (by show L - (i + 8) < _; omega) (by omega) rfl (swf_drop _ _ _ hLA)
          (swf_drop _ _ _ hLA) (by show L - (i + 8) ≤ L - (j + 8); omega) (by rw [data_drop, data_drop]; exact hme')
          (fun res done kN' r' q' hv hr' hq' h1 h0 => ?_)
        obtain ⟨hd, hk', hrr, hqq⟩ := hv
        simp only [hk', hrr, hqq, gen_getLE64 _ hr', gen_getLE64 _ hq', bind_ok, tz_shr, Int.ofNat_eq_natCast,
          ← apply_ite Res.ok]
        by_cases hdone : done
        · simp only [eq_true (hd.mpr hdone), not_true_eq_false, false_and, and_false, if_true, if_false, h1 hdone]
        · have hkk := h0 hdone
          simp only [eq_false (fun h => hdone (hd.mp h)), not_false_eq_true, true_and, and_true, if_true, if_false]
          exact congrArg Res.ok (by omega)
      · rw [if_neg (by omega)]
    dsimp only
    refine bind_trans (slice_okI _ lia ia li i hlia hia hli (by show i ≤ A.length; omega)) ?_
    dsimp only
    refine bind_trans (hl3 _ _ (by omega) (by omega)) ?_
    dsimp only
    by_cases hlong : E2 < i + kk
    · rw [if_pos (by omega)]
      refine bind_trans (bind_trans (hl4 hlong _ (by omega)) rfl) ?_
      dsimp only
      rw [e1, e2, e3]
      rfl
    · rw [if_neg (by omega), bind_ok]
      dsimp only
      rw [e1, e2, e3, hsame hlong]
      rfl

/-- the invariant of the two loops: only the tables change, they keep their invariant -/
def InvD (s0 s : Gen.doubleHashParser) : Prop :=
  ∃ t1 t2, s = setTT s0 t1 t2 ∧ TOK s0.doubleHashDictionary.h1.shift t1 ∧ TOK s0.doubleHashDictionary.h2.shift t2

/-- The two greedy loops of `Parse` (loop_1 up to `e2`, then loop_5 up to `e1`) are ONE run of
    `ProbeW.greedyLoopW` with the finder `ProbeW.dhpProbeW` up to `e1`: no panic, same final position, `litIndex`,
    sequences, literals; the final tables abstract to the model's.  `e1 = len(p) - inputLen1 + 1 > 0`,
    `e2 = len(p) - inputLen2 + 1 ≤ e1` (any sign).  Fuel `2·len(p) + 3`: the re-indexing loop of the second loop
    starts at the MATCH position `j < i`. -/
theorem loops_eq (grow : Nat → Nat → Nat) (e1I e2I mm : Int) (A : List UInt8) (L E1 P mmN ws : Nat)
    (hE1 : E1 = e1I.toNat) (he21 : e2I ≤ e1I) (hmm : mm = (mmN : Int))
    (hEL : E1 ≤ L) (hLA : L ≤ A.length) (hmm1 : 1 ≤ mmN) (hmm8 : mmN ≤ 8) (fuel W : Nat)
    (hP : W < E1 → P = E1 + 7 ∧ E1 + 7 ≤ A.length ∧ E1 + 7 < 4294967296 + 8)
    (s : Gen.doubleHashParser) (blk : Block')
    (w1 : HOK s.doubleHashDictionary.h1) (w2 : HOK s.doubleHashDictionary.h2)
    (hws : ws = s.DHPConfig.WindowSize.toNat) (hW : W ≤ L) (hfuel : 2 * L + 3 ≤ fuel)
    (hsq : blk.Sequences = []) (hlt : blk.Literals.data = []) (hswf : SWF blk.Literals) :
    ∃ (st1 st' : LoopSt Hash2) (s1 : Gen.doubleHashParser) (blk1 : Block') (t1 t2 : GSlice hashEntry) (blk' : Block'),
      ProbeW.greedyLoopW (ProbeW.dhpProbeW ws mmN E1 e2I.toNat false (A.drop L)) (A.take L) E1
        { dict := absD s, i := W, litIndex := W, seqs := [], lits := [] } = some st' ∧
      doubleHashParser_Parse_loop_1 grow e2I { arr := A, len := P } { arr := A, len := L } mm e1I fuel (W : Int) s blk (W : Int) =
        Res.ok ((st1.i : Int), s1, blk1, (st1.litIndex : Int)) ∧
      doubleHashParser_Parse_loop_5 grow e1I { arr := A, len := P } { arr := A, len := L } mm fuel (st1.i : Int) s1 blk1
        (st1.litIndex : Int) = Res.ok ((st'.i : Int), setTT s t1 t2, blk', (st'.litIndex : Int)) ∧
      TOK s.doubleHashDictionary.h1.shift t1 ∧ TOK s.doubleHashDictionary.h2.shift t2 ∧
      st'.dict = ⟨ofHashT s.doubleHashDictionary.h1 t1, ofHashT s.doubleHashDictionary.h2 t2⟩ ∧
      blk'.Sequences = st'.seqs.map seqRep ∧ blk'.Literals.data = st'.lits ∧ SWF blk'.Literals ∧
      W ≤ st'.litIndex ∧ st'.litIndex ≤ L := by
  by_cases hWE : E1 ≤ W
  · -- both loops are empty
    obtain ⟨f, rfl⟩ : ∃ f, fuel = f + 1 := ⟨fuel - 1, by omega⟩
    refine ⟨{ dict := absD s, i := W, litIndex := W, seqs := [], lits := [] }, _, s, blk, s.doubleHashDictionary.h1.table, s.doubleHashDictionary.h2.table, blk,
      ProbeW.greedyLoopW_done _ _ _ _ (Nat.not_lt.mpr hWE), ?_, ?_, w1.tok, w2.tok, rfl, by rw [hsq]; rfl, hlt, hswf,
      Nat.le_refl _, hW⟩
    · rw [doubleHashParser_Parse_loop_1, if_neg (by omega)]
    · rw [doubleHashParser_Parse_loop_5, if_neg (by show ¬ (W : Int) < e1I; omega)]
  obtain ⟨rfl, hEA, hsm⟩ := hP (by omega)
  replace hE1 : e1I = (E1 : Int) := by omega
  have hE2 : e2I.toNat ≤ E1 := by omega
  have hokOf : ∀ t1 t2, TOK s.doubleHashDictionary.h1.shift t1 → TOK s.doubleHashDictionary.h2.shift t2 →
      HOK (setTT s t1 t2).doubleHashDictionary.h1 ∧ HOK (setTT s t1 t2).doubleHashDictionary.h2 :=
    fun t1 t2 h1 h2 => ⟨⟨w1.il0, w1.mask, w1.sh1, w1.sh2, h1⟩, ⟨w2.il0, w2.mask, w2.sh1, w2.sh2, h2⟩⟩
  obtain ⟨st1, st', s1, _, blk1, blk', hgl, hl1, hl5, ⟨v1, v2, rfl, hv1, hv2⟩, hd', hsq', hlt', hswf', h1, h2⟩ :=
    greedy_two_phase (ProbeW.dhpProbeW ws mmN E1 e2I.toNat false (A.drop L))
      (doubleHashParser_Parse_loop_1 grow e2I { arr := A, len := E1 + 7 } { arr := A, len := L } mm e1I)
      (doubleHashParser_Parse_loop_5 grow e1I { arr := A, len := E1 + 7 } { arr := A, len := L } mm) absD (InvD s)
      grow A L E1 e2I.toNat (E1 + 1) hE2 hEL hLA
      (fun fuel ia s blk lia h => by rw [doubleHashParser_Parse_loop_1, if_neg (by omega)])
      (fun fuel ia s blk lia h => by rw [doubleHashParser_Parse_loop_5, if_neg (by omega)])
      (fun fuel i li ia lia s' blk hinv hia hlia hlo hi hli hf => by
        obtain ⟨t1, t2, rfl, ht1, ht2⟩ := hinv
        obtain ⟨w1', w2'⟩ := hokOf t1 t2 ht1 ht2
        obtain ⟨r, hr, t1', t2', ht1', ht2', hr1, hstp, hb⟩ := loop1_step grow e2I mm e1I A L E1 e2I.toNat mmN ws
          fuel i li ia lia (setTT s t1 t2) blk w1' w2' hia hlia hE1 (by omega) hmm hi hE2 hEL hLA hEA hsm hli hws
          hmm1 hmm8 (by omega)
        exact ⟨r, hr, setTT s t1' t2', ⟨t1', t2', rfl, ht1', ht2'⟩, hr1, hstp, hb⟩)
      (fun fuel i li ia lia s' blk hinv hia hlia hlo hi hli hf => by
        obtain ⟨t1, t2, rfl, ht1, ht2⟩ := hinv
        obtain ⟨w1'', w2''⟩ := hokOf t1 t2 ht1 ht2
        obtain ⟨r, hr, t1', ht1', hr1, hstp, hb⟩ := loop5_step grow e1I mm A L E1 e2I.toNat mmN ws
          fuel i li ia lia (setTT s t1 t2) blk w1'' hia hlia hE1 hmm hi (by omega) hEL hLA hEA hsm hli hws
          hmm1 hmm8 (by omega) (by omega)
        exact ⟨r, hr, setTT s t1' t2, ⟨t1', t2, rfl, ht1', ht2⟩, hr1, hstp, hb⟩)
      fuel W s blk hW (by omega) ⟨_, _, rfl, w1.tok, w2.tok⟩ hsq hlt hswf
  exact ⟨st1, st', s1, blk1, v1, v2, blk', hgl, hl1, hl5, hv1, hv2, hd', hsq', hlt', hswf', h1, h2⟩

end LZ.GenDHPParse

#print axioms LZ.GenDHPParse.loop5_step
#print axioms LZ.GenDHPParse.loop1_step
#print axioms LZ.GenDHPParse.loops_eq
