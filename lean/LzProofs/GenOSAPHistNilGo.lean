/-
  The theorems of LzProofs/GenOSAPHistNil.lean (histories of OSAP with `Parse(nil, flags)`) with the translated
  `(*optSuffixArrayParser).computeEdges` as the callee of the translated `Parse` (`…_ce_go`), as LzProofs/GenOSAPHistGo.lean
  does for the histories without `Parse(nil)`: `CESpec` is discharged by `cespec_go` for `ceW` (= the translated
  `computeEdges` wherever `WindowSize < 2^32`, i.e. on every state of a history), and running with `ceGo` is running with
  `ceW`.  Hypotheses left: `EdgeSpecs SS LCP SEG SRT` (the four callees outside osap.go), init returned nil,
  `MinMatchLen < 2^32`, fuel `BufferSize + 2^31 + 4` for `Parse`, `2^31` for `computeEdges`.
-/
import LzProofs.GenOSAPHistNil
import LzProofs.GenOSAPHistGo

set_option linter.unusedSimpArgs false
set_option linter.unusedVariables false

namespace LZ.GenOSAPHist
open LZ LZ.Gen LZ.GenBuf LZ.GenHash LZ.GenSuffix LZ.GenHPParse LZ.GenProps LZ.GenOSAP LZ.GenNil
open LZ.GenHPHist (GOpN GOpN.abs ResultsAgreeN ghostRunN)

section
variable {SS : Slice → GSlice Int32 → Res (GSlice Int32)}
  {LCP : Slice → GSlice Int32 → GSlice Int32 → GSlice Int32 → Res (GSlice Int32)}
  {SEG : GSlice Int32 → GSlice Int32 → Int → Int → Res (List (Int × GSlice Int32))}
  {SRT : GSlice Int32 → Res (GSlice Int32)}

theorem stepN_go {bc : BufCfg} (hbc : BCOKO bc) (grow : Nat → Nat → Nat) (fuelE : Nat) (extra fuel : Nat)
    {t : Gen.optSuffixArrayParser} (h : HistOKO bc 2147483647 t) (op : GOpN) :
    stepN extra grow fuel (ceGo grow fuelE SS LCP SEG SRT) t op = stepN extra grow fuel (ceW grow fuelE SS LCP SEG SRT) t op := by
  cases op with
  | r op =>
    simp only [stepN]
    rw [stepO_go hbc grow fuelE extra fuel h op]
  | parseNil ghost flags =>
    simp only [stepN]
    rw [parseNil_congr grow fuel (ceGo grow fuelE SS LCP SEG SRT) (ceW grow fuelE SS LCP SEG SRT)]

theorem runN_go {bc : BufCfg} (hbc : BCOKO bc) (sp : EdgeSpecs SS LCP SEG SRT) (grow : Nat → Nat → Nat) (fuelE : Nat)
    (hfE : 2147483648 ≤ fuelE) (extra fuel : Nat) (hfuel : bc.bufferSize + 2147483647 + 5 ≤ fuel)
    (raw : Cfg) (p0 : Parser) (h0 : newParser .OSAP raw = some p0) (ops : List GOpN) (t : Gen.optSuffixArrayParser)
    (sg : Parser × Ghost) (hS : SimO bc 2147483647 p0 t sg) (hwf : ∀ op ∈ ops, op.WF) :
    runN extra grow fuel (ceGo grow fuelE SS LCP SEG SRT) t ops = runN extra grow fuel (ceW grow fuelE SS LCP SEG SRT) t ops := by
  rw [runN_eq, runN_eq]
  exact GenHist.run_congr (stepN_sim hbc _ (cespec_go sp grow fuelE hfE) extra grow fuel hfuel raw p0 h0)
    (fun _ _ op h => stepN_go hbc grow fuelE extra fuel h.1.1 op) ops t sg hS hwf

theorem runN_go_init (cfg : Gen.OSAPConfig) (s0 : Gen.optSuffixArrayParser)
    (hinit : optSuffixArrayParser_init default cfg = Res.ok (s0, Gen.Err.ok))
    (h32 : s0.OSAPConfig.MinMatchLen < 4294967296) (sp : EdgeSpecs SS LCP SEG SRT)
    (grow : Nat → Nat → Nat) (fuelE : Nat) (hfE : 2147483648 ≤ fuelE) (extra fuel : Nat)
    (hfuel : s0.ParserBuffer.BufConfig.BufferSize.toNat + 2147483647 + 5 ≤ fuel)
    (ops : List GOpN) (hwf : ∀ op ∈ ops, op.WF) :
    runN extra grow fuel (ceGo grow fuelE SS LCP SEG SRT) s0 ops = runN extra grow fuel (ceW grow fuelE SS LCP SEG SRT) s0 ops := by
  obtain ⟨p, hp, -, hbc, hS, hf⟩ := init_sim 2147483647 cfg s0 hinit h32 fuel hfuel
  exact runN_go hbc sp grow fuelE hfE extra fuel hf (ofOSAP cfg) p hp ops s0 _ hS hwf

/-- `gen_osap_history_nil` with the translated `computeEdges`: every operation of the history (incl. `Parse(nil)`) is
    translated Go text of osap.go / parser_buffer.go -/
theorem gen_osap_history_nil_ce_go (cfg : Gen.OSAPConfig) (s0 : Gen.optSuffixArrayParser)
    (hinit : optSuffixArrayParser_init default cfg = Res.ok (s0, Gen.Err.ok))
    (h32 : s0.OSAPConfig.MinMatchLen < 4294967296) (sp : EdgeSpecs SS LCP SEG SRT)
    (grow : Nat → Nat → Nat) (fuelE : Nat) (hfE : 2147483648 ≤ fuelE) (extra fuel : Nat)
    (hfuel : s0.ParserBuffer.BufConfig.BufferSize.toNat + 2147483647 + 5 ≤ fuel)
    (ops : List GOpN) (hwf : ∀ op ∈ ops, op.WF) :
    ∃ p t rs, newParser .OSAP (ofOSAP cfg) = some p ∧ ofOSAPs s0 = p ∧
      runN extra grow fuel (ceGo grow fuelE SS LCP SEG SRT) s0 ops = Res.ok (t, rs) ∧ ParseOKO 2147483647 t ∧
      ofOSAPs t = (runOps (p, Ghost.init) (ops.map GOpN.abs)).1 ∧
      ghostRunN Ghost.init ops rs = (runOps (p, Ghost.init) (ops.map GOpN.abs)).2 ∧
      ResultsAgreeN (p, Ghost.init) ops rs := by
  rw [runN_go_init cfg s0 hinit h32 sp grow fuelE hfE extra fuel hfuel ops hwf]
  exact gen_osap_history_nil 2147483647 cfg s0 hinit h32 _ (cespec_go sp grow fuelE hfE) extra grow fuel hfuel ops hwf

/-- C01 about the Go text of OSAP, histories with `Parse(nil)`, `computeEdges` translated -/
theorem C01_go_text_osap_nil_ce_go (cfg : Gen.OSAPConfig) (s0 : Gen.optSuffixArrayParser)
    (hinit : optSuffixArrayParser_init default cfg = Res.ok (s0, Gen.Err.ok))
    (h32 : s0.OSAPConfig.MinMatchLen < 4294967296) (sp : EdgeSpecs SS LCP SEG SRT)
    (grow : Nat → Nat → Nat) (fuelE : Nat) (hfE : 2147483648 ≤ fuelE) (extra fuel : Nat)
    (hfuel : s0.ParserBuffer.BufConfig.BufferSize.toNat + 2147483647 + 5 ≤ fuel)
    (ops : List GOpN) (hwf : ∀ op ∈ ops, op.WF) :
    ∃ t rs, runN extra grow fuel (ceGo grow fuelE SS LCP SEG SRT) s0 ops = Res.ok (t, rs) ∧
      decode [] (ghostRunN Ghost.init ops rs).log =
        some ((ghostRunN Ghost.init ops rs).fed.take (ghostRunN Ghost.init ops rs).consumed) := by
  rw [runN_go_init cfg s0 hinit h32 sp grow fuelE hfE extra fuel hfuel ops hwf]
  exact C01_go_text_osap_nil 2147483647 cfg s0 hinit h32 _ (cespec_go sp grow fuelE hfE) extra grow fuel hfuel ops hwf

/-- C03 about the Go text of OSAP, histories with `Parse(nil)`, `computeEdges` translated -/
theorem C03_go_text_osap_nil_ce_go (cfg : Gen.OSAPConfig) (s0 : Gen.optSuffixArrayParser)
    (hinit : optSuffixArrayParser_init default cfg = Res.ok (s0, Gen.Err.ok))
    (h32 : s0.OSAPConfig.MinMatchLen < 4294967296) (sp : EdgeSpecs SS LCP SEG SRT)
    (grow : Nat → Nat → Nat) (fuelE : Nat) (hfE : 2147483648 ≤ fuelE) (extra fuel : Nat)
    (hfuel : s0.ParserBuffer.BufConfig.BufferSize.toNat + 2147483647 + 5 ≤ fuel)
    (ops : List GOpN) (hwf : ∀ op ∈ ops, op.WF) :
    ∃ t rs, runN extra grow fuel (ceGo grow fuelE SS LCP SEG SRT) s0 ops = Res.ok (t, rs) ∧
      let g := ghostRunN Ghost.init ops rs
      LogAll (fun pos e => 1 ≤ e.n ∧ e.n ≤ s0.ParserBuffer.BufConfig.BlockSize.toNat ∧
        pos + e.n ≤ g.fed.length ∧
        ∀ n fl blk, e = .block n fl blk →
          blk.len = n ∧ expand (g.fed.take pos) blk = some (g.fed.take (pos + n)) ∧
          (fl % 2 = 1 → blk.seqs ≠ [] → blk.lits.length = litSum blk.seqs ∧ n = seqsSpan blk.seqs)) 0 g.log ∧
      logSpan g.log = g.consumed ∧ g.consumed ≤ g.fed.length := by
  rw [runN_go_init cfg s0 hinit h32 sp grow fuelE hfE extra fuel hfuel ops hwf]
  exact C03_go_text_osap_nil 2147483647 cfg s0 hinit h32 _ (cespec_go sp grow fuelE hfE) extra grow fuel hfuel ops hwf

/-- C14 (skipped bytes verbatim) about the Go text of OSAP, `computeEdges` translated -/
theorem C14_skip_go_text_osap_ce_go (cfg : Gen.OSAPConfig) (s0 : Gen.optSuffixArrayParser)
    (hinit : optSuffixArrayParser_init default cfg = Res.ok (s0, Gen.Err.ok))
    (h32 : s0.OSAPConfig.MinMatchLen < 4294967296) (sp : EdgeSpecs SS LCP SEG SRT)
    (grow : Nat → Nat → Nat) (fuelE : Nat) (hfE : 2147483648 ≤ fuelE) (extra fuel : Nat)
    (hfuel : s0.ParserBuffer.BufConfig.BufferSize.toNat + 2147483647 + 5 ≤ fuel)
    (ops : List GOpN) (hwf : ∀ op ∈ ops, op.WF) :
    ∃ t rs, runN extra grow fuel (ceGo grow fuelE SS LCP SEG SRT) s0 ops = Res.ok (t, rs) ∧
      let g := ghostRunN Ghost.init ops rs
      LogAll (fun pos e => ∀ b, e = .skip b →
        1 ≤ b.length ∧ b.length ≤ s0.ParserBuffer.BufConfig.BlockSize.toNat ∧
        b = (g.fed.drop pos).take b.length) 0 g.log := by
  rw [runN_go_init cfg s0 hinit h32 sp grow fuelE hfE extra fuel hfuel ops hwf]
  exact C14_skip_go_text_osap 2147483647 cfg s0 hinit h32 _ (cespec_go sp grow fuelE hfE) extra grow fuel hfuel ops hwf

/-- C14 about the Go text of OSAP, `computeEdges` translated: the statement of `C14_go_text_osap` with the translated
    `computeEdges` as the callee of the history AND of the two final calls `Parse(nil, flags)` / `Parse(&blk, 0)`. -/
theorem C14_go_text_osap_ce_go (cfg : Gen.OSAPConfig) (s0 : Gen.optSuffixArrayParser)
    (hinit : optSuffixArrayParser_init default cfg = Res.ok (s0, Gen.Err.ok))
    (h32 : s0.OSAPConfig.MinMatchLen < 4294967296) (sp : EdgeSpecs SS LCP SEG SRT)
    (grow : Nat → Nat → Nat) (fuelE : Nat) (hfE : 2147483648 ≤ fuelE) (extra fuel : Nat)
    (hfuel : s0.ParserBuffer.BufConfig.BufferSize.toNat + 2147483647 + 5 ≤ fuel)
    (ops : List GOpN) (hwf : ∀ op ∈ ops, op.WF) (ghost blk : Gen.Block') (flags : Int) :
    ∃ t rs, runN extra grow fuel (ceGo grow fuelE SS LCP SEG SRT) s0 ops = Res.ok (t, rs) ∧
      ∃ t1 t2 blk' n e,
        optSuffixArrayParser_Parse_nilable grow fuel (ceGo grow fuelE SS LCP SEG SRT) t true ghost flags =
          Res.ok (t1, ghost, n, e) ∧
        optSuffixArrayParser_Parse grow fuel (ceGo grow fuelE SS LCP SEG SRT) t blk 0 = Res.ok (t2, blk', n, e) ∧
        t1.ParserBuffer.Data = t2.ParserBuffer.Data ∧
        t1.ParserBuffer.W = t2.ParserBuffer.W ∧
        t1.ParserBuffer.Data = t.ParserBuffer.Data ∧
        t1.ParserBuffer.W = t.ParserBuffer.W + n ∧
        n = Min.min t.OSAPConfig.BlockSize ((t.ParserBuffer.Data.len : Int) - t.ParserBuffer.W) ∧
        (n = 0 → e = Gen.ErrEmptyBuffer ∧ t1 = t) ∧ (n ≠ 0 → e = Gen.Err.ok) ∧
        t1 = { t with ParserBuffer := { t.ParserBuffer with W := t.ParserBuffer.W + n } } := by
  obtain ⟨p, t, rs, hp, h2, k1, hbc, hf, hS, -⟩ :=
    gen_osap_history_nil_inv 2147483647 cfg s0 hinit h32 _ (cespec_go sp grow fuelE hfE) extra grow fuel hfuel ops hwf
  obtain ⟨t1, t2, blk', n, e, c1, c2, rest⟩ :=
    c14_core hbc grow fuel _ (cespec_go sp grow fuelE hfE) (ofOSAP cfg) p hp t _ hS hf ghost blk flags
  refine ⟨t, rs, ?_, t1, t2, blk', n, e, ?_, ?_, rest⟩
  · rw [runN_go_init cfg s0 hinit h32 sp grow fuelE hfE extra fuel hfuel ops hwf]; exact k1
  · rw [parseNil_congr grow fuel _ (ceW grow fuelE SS LCP SEG SRT)]; exact c1
  · rw [parse_congr grow fuel _ _ t (ceW_eq hbc grow fuelE hS.1.1)]; exact c2

end

end LZ.GenOSAPHist

#print axioms LZ.GenOSAPHist.runN_go
#print axioms LZ.GenOSAPHist.gen_osap_history_nil_ce_go
#print axioms LZ.GenOSAPHist.C01_go_text_osap_nil_ce_go
#print axioms LZ.GenOSAPHist.C03_go_text_osap_nil_ce_go
#print axioms LZ.GenOSAPHist.C14_skip_go_text_osap_ce_go
#print axioms LZ.GenOSAPHist.C14_go_text_osap_ce_go
