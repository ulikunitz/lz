/-
  LzProofs.GenBHPParseLemmas — helper lemmas for LzProofs/GenBHPParse.lean (translated bhp.go
  `(*backwardHashParser).Parse` versus `ProbeW.parseW` for kind `.BHP`): the two inner loops of bhp.go (loop_2,
  loop_3), the backward extension `lcs(p[j-back:j], p[:i])` under a specification of the opaque `lcs`, and one
  iteration of the greedy loop.

  Proof style: no lemma spells a condition, a clamp or an argument of the generated text.
  Each `if` is resolved by `bhp_ifc` (first `if` of the goal, by unification, arms in either order, condition decided
  by `omega` after normalising `Int.ofNat`/`UInt32` equalities), each clamp `if k > x { k = x }` / `min(k, x)` by
  `bhp_val v` (replaced by the model's value `v`; `omega` shows both arms equal to `v`), slice bounds and the
  arguments of the loop functions through congruence lemmas (`slice_okB`, `GenParse.loop_congr`, …) whose
  side conditions are again closed by `omega`.  `x ^ y` / `y ^ x` and `y & mask` / `mask & y` are normalised by
  commutativity.  What remains visible: the order of the state tuple of a loop function (part of its type) and the
  data flow (which value is stored where) — a change there is a change of the statement.
-/
import LzModel.Generated.CodeBHPParse
import LzProofs.GenHPParse
import LzProofs.GenPropsCfgBHP
import LzProofs.BytesProps
import LzProofs.BytesLemmas

set_option linter.unusedSimpArgs false
set_option linter.unusedVariables false

namespace LZ.GenBHPParse
open LZ LZ.Gen LZ.GenBuf LZ.GenHash LZ.GenHPParse LZ.GenParse

/-- the specification of the opaque parameter `lcs` of the translation: the length of the longest common suffix
    of the elements of the two slices -/
def LcsSpec (lcs : Slice → Slice → Int) : Prop := ∀ p q : Slice, lcs p q = ((lcsLen p.data q.data : Nat) : Int)

/-! ## the table -/

@[reducible] def setTB (s : Gen.backwardHashParser) (t : GSlice hashEntry) : Gen.backwardHashParser :=
  { s with hashDictionary := { s.hashDictionary with hash := { s.hashDictionary.hash with table := t } } }


/-! ## shape-independent steps

  The lemmas below never spell a condition or a clamp of the generated text.  `bhp_cond` decides an arithmetic
  side condition in whatever spelling it comes (`a < b` / `b > a`, `¬(p ∧ q)` / `¬p ∨ ¬q`, `Int.ofNat`, `UInt32`
  (dis)equalities through `toNat`); `bhp_ifc` resolves the FIRST `if` of the goal (found by unification, arms in
  either order) when the context decides its condition; `bhp_val v` replaces the first `if … then a else b` of the
  type of `v` by the model's value `v` (both arms are shown equal to `v` by `bhp_cond`) — this covers
  `if k > x { k = x }`, `if x < k { k = x }`, `k = min(k, x)` (the builtin is translated to an `if`, the package's own
  `min` to `LZ.Gen.min`) and a hoisted `x`. -/

theorem ite_valB {α : Type} {c : Prop} [Decidable c] {a b : α} (v : α) (h1 : c → a = v) (h2 : ¬ c → b = v) :
    (if c then a else b) = v := by
  split
  · exact h1 ‹_›
  · exact h2 ‹_›

/-- the same for a call of the package's `min` (`LZ.Gen.min`, rewritten to `min` by `gen_min`) -/
theorem min_valB {a b : Int} (v : Int) (h : Min.min a b = v) : Min.min a b = v := h

/-- decide an arithmetic condition of the generated text in any spelling -/
macro "bhp_cond" : tactic =>
  `(tactic| first
    | omega
    | (simp only [← UInt32.toNat_inj, Int.ofNat_eq_natCast, ne_eq]; first | done | omega))

/-- resolve the first `if` of the goal (or of a hypothesis) whose condition the context decides -/
syntax "bhp_ifc" (Lean.Parser.Tactic.location)? : tactic
macro_rules
  | `(tactic| bhp_ifc $[$loc]?) =>
    `(tactic| first | rw [if_pos (by bhp_cond)] $[$loc]? | rw [if_neg (by bhp_cond)] $[$loc]?)

/-- replace the first `if` of the type of `v` by the value `v` -/
syntax "bhp_val" term:max (Lean.Parser.Tactic.location)? : tactic
macro_rules
  | `(tactic| bhp_val $v $[$loc]?) =>
    `(tactic| first
      | rw [ite_valB $v (by bhp_cond) (by bhp_cond)] $[$loc]?
      | (simp only [LZ.GenProps.gen_min] $[$loc]?; rw [min_valB $v (by bhp_cond)] $[$loc]?))

/-- the arguments of a slice expression in any spelling -/
theorem slice_okB (s : Slice) {a b : Int} (i j : Nat) (ha : a = (i : Int)) (hb : b = (j : Int))
    (hij : i ≤ j) (hj : j ≤ s.arr.length) :
    Slice.slice s a b = Res.ok { arr := s.arr.drop i, len := j - i } := slice_okI s a b i j ha hb hij hj

/-- loop_3 of `Parse` (`for j = i + 1; j < b; j++ { … }`), for every bound `b` with `n = b - a` iterations and whatever
    the two dead parameters `x`, `h` are -/
theorem loop3_eqB (grow : Nat → Nat → Nat) (lcs : Slice → Slice → Int) (_p : Slice) (n fuel j : Nat)
    (s : Gen.backwardHashParser) (hf : n < fuel) (hn : n = 0 ∨ j + n + 7 ≤ _p.len)
    (c : TCtx s.hashDictionary.hash.mask s.hashDictionary.hash.shift s.hashDictionary.hash.inputLen _p)
    (ht : TOK s.hashDictionary.hash.shift s.hashDictionary.hash.table) :
    ∃ t', TOK s.hashDictionary.hash.shift t' ∧
      ProbeW.insertRangeW (ofHash s.hashDictionary.hash) _p.data j n = some (ofHashT s.hashDictionary.hash t') ∧
      ∀ (a b : Int) (x : UInt64) (h : UInt32), a = (j : Int) → n = (b - a).toNat →
        backwardHashParser_Parse_loop_3 grow lcs b x _p h fuel a s = Res.ok (((j + n : Nat) : Int), setTB s t') := by
  obtain ⟨t', ht', hr, hl⟩ := reindex_loop (ι := Int × UInt64 × UInt32)
    (fun d => backwardHashParser_Parse_loop_3 grow lcs d.1 d.2.1 _p d.2.2) (·.1) _p
    (fun s => s.hashDictionary.hash) setTB (fun _ _ => rfl) (fun _ _ _ => rfl) (fun _ => rfl)
    (fun d fuel a s (h : ¬ a < d.1) => by
      rw [backwardHashParser_Parse_loop_3]
      bhp_ifc)
    (fun d fuel a s y t' (h : a < d.1) hF hset => by
      rw [backwardHashParser_Parse_loop_3]
      bhp_ifc
      rw [hF]
      dsimp only
      -- `y & s.mask` / `s.mask & y`
      have hand : s.hashDictionary.hash.mask &&& y = y &&& s.hashDictionary.hash.mask := UInt64.and_comm _ _
      try simp only [hand]
      rw [hset, bind_ok])
    n fuel j s hf hn c ht
  exact ⟨t', ht', hr, fun a b x h => hl (b, x, h) a⟩

/-! ## the match extension loop (loop_2 of `Parse`, with `goto match` as exit code 1) -/

theorem loop2_eqB (grow : Nat → Nat → Nat) (lcs : Slice → Slice → Int) (x : UInt64) :
    Loop2Spec (backwardHashParser_Parse_loop_2 grow lcs x) :=
  loop2_of_steps _
    (fun fuel k r q h => by
      rw [backwardHashParser_Parse_loop_2]
      bhp_ifc)
    (fun fuel k r q b hr hq h8 hqr hb => by
      have hrl : r.data.length = r.len := data_length hr
      have hql : q.data.length = q.len := data_length hq
      have hr' : r.len ≤ r.arr.length := hr
      have hq' : q.len ≤ q.arr.length := hq
      have hxc : BytesW.getLE64 q.data ^^^ BytesW.getLE64 r.data = BytesW.getLE64 r.data ^^^ BytesW.getLE64 q.data :=
        UInt64.xor_comm _ _
      by_cases hb8 : b < 8
      · rw [if_pos hb8, backwardHashParser_Parse_loop_2]
        bhp_ifc
        rw [gen_le64 r hr, gen_le64 q hq, BytesW.le64_eq_some _ (by omega), BytesW.le64_eq_some _ (by omega)]
        simp only [ofOpt, bind_ok, tz_shr, hxc, ← hb]
        bhp_ifc
      · rw [if_neg hb8, backwardHashParser_Parse_loop_2]
        bhp_ifc
        rw [gen_le64 r hr, gen_le64 q hq, BytesW.le64_eq_some _ (by omega), BytesW.le64_eq_some _ (by omega)]
        simp only [ofOpt, bind_ok, tz_shr, hxc, ← hb]
        bhp_ifc
        rw [slice_okB r 8 r.len (by bhp_cond) (by bhp_cond) (by omega) hr', bind_ok,
          slice_okB q 8 q.len (by bhp_cond) (by bhp_cond) (by omega) hq', bind_ok])

/-! ## the backward extension -/

/-- no literal is pending: nothing to extend over -/
theorem backExt_zero (p : List Byte) (i li j : Nat) (h : ¬ li < i) : backExt p i li j = 0 := by
  unfold backExt; rw [if_neg h]

/-- the two slices handed to `lcs` and its value under `LcsSpec` -/
theorem lcs_backExtB (lcs : Slice → Slice → Int) (hlcs : LcsSpec lcs) (A : List UInt8) (L i li j : Nat)
    (hb : i > li) (hj : j < i) (hi : i ≤ L) :
    lcs { arr := A.drop (j - Min.min (i - li) j), len := j - (j - Min.min (i - li) j) } { arr := A.drop 0, len := i - 0 } =
      ((backExt (A.take L) i li j : Nat) : Int) := by
  rw [hlcs]
  unfold backExt
  rw [if_pos hb, data_drop, data_mk]
  show ((lcsLen _ _ : Nat) : Int) = ((lcsLen (((A.take L).take j).drop (j - Min.min (i - li) j)) ((A.take L).take i) : Nat) : Int)
  rw [List.take_take, List.take_take, Nat.min_eq_left (show j ≤ L by omega), Nat.min_eq_left (show i ≤ L by omega)]
  simp only [List.drop_zero, Nat.sub_zero]

/-- `if back := i - litIndex; back > 0 { if back > j { back = j }; m := lcs(p[j-back:j], p[:i]); i -= m; k += m }`
    of bhp.go under the specification of `lcs`: no panic, `m` is the model's `backExt`.
    A closed statement about ONE spelling of the block (it does not mention the generated code); `loop1_stepB`
    evaluates the block as it comes (`lcs_backExtB`). -/
theorem gen_backExt (lcs : Slice → Slice → Int) (hlcs : LcsSpec lcs) (A : List UInt8) (L i li j : Nat)
    (ia lia kI : Int) (hia : ia = (i : Int)) (hlia : lia = (li : Int)) (hj : j < i) (hi : i ≤ L)
    (hLA : L ≤ A.length) (hli : li ≤ i) :
    (if ia - lia > 0 then
      Res.bind (Slice.slice { arr := A, len := L }
        (Int.ofNat j - (if ia - lia > Int.ofNat j then Int.ofNat j else ia - lia)) (Int.ofNat j)) fun t_14 =>
      Res.bind (Slice.slice { arr := A, len := L } 0 ia) fun t_15 =>
      Res.ok (ia - lcs t_14 t_15, kI + lcs t_14 t_15)
    else Res.ok (ia, kI)) =
      Res.ok (((i - backExt (A.take L) i li j : Nat) : Int), kI + ((backExt (A.take L) i li j : Nat) : Int)) := by
  have hle := backExt_le (A.take L) i li j
  by_cases hb : i > li
  · rw [if_pos (by omega)]
    have hback : (Int.ofNat j - (if ia - lia > Int.ofNat j then Int.ofNat j else ia - lia)) =
        ((j - Min.min (i - li) j : Nat) : Int) := by
      show ((j : Int) - (if ia - lia > (j : Int) then (j : Int) else ia - lia)) = _
      split <;> omega
    refine bind_trans (slice_okI _ _ (Int.ofNat j) (j - Min.min (i - li) j) j hback rfl (by omega)
      (by show j ≤ A.length; omega)) ?_
    refine bind_trans (slice_okI _ 0 ia 0 i rfl hia (Nat.zero_le _) (by show i ≤ A.length; omega)) ?_
    rw [lcs_backExtB lcs hlcs A L i li j hb hj hi, hia]
    have : ((i : Nat) : Int) - ((backExt (A.take L) i li j : Nat) : Int) = ((i - backExt (A.take L) i li j : Nat) : Int) := by
      omega
    rw [this]
  · rw [if_neg (by omega)]
    rw [backExt_zero _ i li j hb, hia]; simp

/-! ## one iteration of the greedy loop -/

/-- `_getLE64(_p[a:])` (`gen_load_ok`) with the two slice bounds in any spelling -/
theorem gen_load_okB (_p : Slice) (h : SWF _p) (i : Nat) (hi : i + 8 ≤ _p.len) :
    ∃ y, (BytesW.sliceFrom _p.data i).bind BytesW.le64 = some y ∧
      ∀ {β : Type} (a b : Int) (ha : a = (i : Int)) (hb : b = (_p.len : Int)) (F : UInt64 → Res β),
        Res.bind (Slice.slice _p a b) (fun t => Res.bind (Gen._getLE64 t) F) = F y := by
  obtain ⟨y, hy, hF⟩ := gen_load_ok _p h (i : Int) i rfl hi
  refine ⟨y, hy, ?_⟩
  intro β a b ha hb F
  subst ha hb
  exact hF F

theorem okpairB {α β : Type} {a c : α} {b d : β} (h1 : a = c) (h2 : b = d) : Res.ok (a, b) = Res.ok (c, d) := by
  subst h1 h2; rfl

theorem loop1_stepB (grow : Nat → Nat → Nat) (lcs : Slice → Slice → Int) (hlcs : LcsSpec lcs)
    (inputEnd mm : Int) (A : List UInt8) (L E mmN ws : Nat)
    (fuel i li : Nat) (ia lia : Int) (s : Gen.backwardHashParser) (blk : Block')
    (c : TCtx s.hashDictionary.hash.mask s.hashDictionary.hash.shift s.hashDictionary.hash.inputLen
      { arr := A, len := E + 7 })
    (ht : TOK s.hashDictionary.hash.shift s.hashDictionary.hash.table)
    (hia : ia = (i : Int)) (hlia : lia = (li : Int)) (hE : inputEnd = (E : Int)) (hmm : mm = (mmN : Int))
    (hi : i < E) (hEL : E ≤ L) (hLA : L ≤ A.length) (hEA : E + 7 ≤ A.length) (hli : li ≤ i)
    (hws : ws = s.BHPConfig.WindowSize.toNat) (hmm1 : 1 ≤ mmN) (hmm8 : mmN ≤ 8)
    (hfuel : L ≤ fuel + i) (hfuelE : E ≤ fuel) :
    ∃ r, ProbeW.hpProbeW ws mmN E true (A.drop L) (ofHash s.hashDictionary.hash) (A.take L) i li = some r ∧
      ∃ t', TOK s.hashDictionary.hash.shift t' ∧ r.1 = ofHashT s.hashDictionary.hash t' ∧
        backwardHashParser_Parse_loop_1 grow lcs inputEnd { arr := A, len := E + 7 } { arr := A, len := L } mm (fuel + 1) ia s blk lia =
          (match r.2 with
          | none =>
            backwardHashParser_Parse_loop_1 grow lcs inputEnd { arr := A, len := E + 7 } { arr := A, len := L } mm fuel (ia + 1)
              (setTB s t') blk lia
          | some (st, k, o) =>
            backwardHashParser_Parse_loop_1 grow lcs inputEnd { arr := A, len := E + 7 } { arr := A, len := L } mm fuel
              ((st + k : Nat) : Int) (setTB s t')
              { Sequences := blk.Sequences ++ [seqRep { litLen := st - li, matchLen := k, offset := o }],
                Literals := Slice.append grow blk.Literals ((A.drop li).take (st - li)) }
              ((st + k : Nat) : Int)) ∧
        (∀ st k o, r.2 = some (st, k, o) → li ≤ st ∧ st ≤ i ∧ i < st + k ∧ st + k ≤ L) := by
  have hmem := BytesW.sliceTo_take_drop A L (E + 7) hEA
  have hpl : (A.take L).length = L := by rw [List.length_take]; omega
  have hsmall : E + 7 < 4294967296 + 8 := c.small
  have hplen : (({ arr := A, len := E + 7 } : Slice).len : Int) = ((E + 7 : Nat) : Int) := rfl
  -- the load at i, the table access
  obtain ⟨y, hy, hF⟩ := gen_load_okB { arr := A, len := E + 7 } c.swf i (by show i + 8 ≤ E + 7; omega)
  have hy : (BytesW.sliceFrom (A.take (E + 7)) i).bind BytesW.le64 = some y := hy
  obtain ⟨ent, t1, hidx, hset, ht1, hget, hput⟩ := table_probe s.hashDictionary.hash s.hashDictionary.hash.table
    ht c.sh1 c.sh2 y ia i hia (by omega)
  rw [backwardHashParser_Parse_loop_1]
  bhp_ifc
  rw [hF _ _ (by bhp_cond) (by bhp_cond)]
  try dsimp only
  -- `y & s.mask` / `s.mask & y`
  have hand : s.hashDictionary.hash.mask &&& y = y &&& s.hashDictionary.hash.mask := UInt64.and_comm _ _
  try simp only [hand]
  rw [hidx, bind_ok, hset, bind_ok]
  have hnf := ProbeW.hpProbeW_nf ws mmN E true (A.drop L) (ofHash s.hashDictionary.hash) (A.take L) i li (A.take (E + 7)) y
    hmem hy (y &&& s.hashDictionary.hash.mask) (by rw [c.mask]; rfl) (ofEntry ent) hget
    (ofHashT s.hashDictionary.hash t1) hput
  simp only [ProbeW.candTail, eq_self, if_true] at hnf
  -- A: the stored value differs (the model's test decides the generated one through `toNat`)
  by_cases hA : lo32 (y &&& s.hashDictionary.hash.mask) ≠ (ofEntry ent).2
  · have hA' : (y &&& s.hashDictionary.hash.mask).toUInt32.toNat ≠ ent.value.toNat := by rw [lo32_eq]; exact hA
    refine ⟨(ofHashT s.hashDictionary.hash t1, none), by rw [hnf, if_pos hA], t1, ht1, rfl, ?_,
      by intro st k o h; cases h⟩
    bhp_ifc
  have hA' : (y &&& s.hashDictionary.hash.mask).toUInt32.toNat = ent.value.toNat := by
    rw [lo32_eq]; exact Decidable.not_not.mp hA
  bhp_ifc
  rw [if_neg hA] at hnf
  clear hA'
  -- B: the candidate is outside the window
  have hj1 : (ofEntry ent).1 = ent.pos.toNat := rfl
  rw [hj1] at hnf
  generalize hjdef : ent.pos.toNat = j at hnf ⊢
  by_cases hw : ¬ (j < i ∧ i - j ≤ ws)
  · refine ⟨(ofHashT s.hashDictionary.hash t1, none), by rw [hnf, if_pos hw], t1, ht1, rfl, ?_,
      by intro st k o h; cases h⟩
    bhp_ifc
  bhp_ifc
  rw [if_neg hw] at hnf
  -- (from here on the facts are kept free of `-`, `min` and `toNat`: `omega` splits on each one in the context)
  replace hw : j < i ∧ i ≤ j + ws := by omega
  clear hws
  -- C: the first word of the candidate
  obtain ⟨z, hz, hF2⟩ := gen_load_okB { arr := A, len := E + 7 } c.swf j (by show j + 8 ≤ E + 7; omega)
  have hz : (BytesW.sliceFrom (A.take (E + 7)) j).bind BytesW.le64 = some z := hz
  rw [hF2 _ _ (by bhp_cond) (by bhp_cond)]
  have hxc : y ^^^ z = z ^^^ y := UInt64.xor_comm _ _
  simp only [tz_shr, hxc]
  obtain ⟨k8, hk8le, hk8, hfw⟩ := first_word A L E mmN i j y z ia hia hy hz hw.1 hi hEL hLA hEA
  -- `k = min(k, len(p)-i)` in whatever form the text computes it
  generalize ((BytesW.tz64 (z ^^^ y) >>> 3 : Nat) : Int) = tz at hk8 ⊢
  bhp_val ((k8 : Nat) : Int)
  clear hk8
  replace hk8le : i + k8 ≤ L := by omega
  rcases hfw with ⟨hC1, hml⟩ | ⟨hC1, kk, hme, hml, hkk1, hkk2⟩
  · refine ⟨(ofHashT s.hashDictionary.hash t1, none), by rw [hnf, hml]; rfl, t1, ht1, rfl, ?_,
      by intro st k o h; cases h⟩
    bhp_ifc
  bhp_ifc
  replace hkk2 : i + kk ≤ L := by omega
  clear hC1 hmm8 hsmall hplen hmem hy hz hget hput hidx hset hF hF2 hand hxc
  -- the backward extension `m`
  obtain ⟨m, hm⟩ : ∃ m, m = backExt (A.take L) i li j := ⟨_, rfl⟩
  have hbe : ProbeW.backExtW (A.take L) (A.drop L) i li j = some m := by
    rw [hm]; exact ProbeW.backExtW_eq (A.take L) (A.drop L) i li j (by omega) (by rw [hpl]; omega)
  have hmle : li + m ≤ i ∧ m ≤ j := by
    have := backExt_le (A.take L) i li j
    rw [← hm] at this; omega
  -- the re-indexing loop
  obtain ⟨t2, ht2, hr3, hl3⟩ := loop3_eqB grow lcs { arr := A, len := E + 7 }
    (Min.min (i - m + (kk + m)) E - (i - m + 1)) fuel (i - m + 1) (setTB s t1) (by omega)
    (by show _ ∨ _ ≤ E + 7; omega) c ht1
  have hr3 : ProbeW.insertRangeW (ofHashT s.hashDictionary.hash t1) (List.take (E + 7) A) (i - m + 1)
      (Min.min (i - m + (kk + m)) E - (i - m + 1)) = some (ofHashT s.hashDictionary.hash t2) := hr3
  refine ⟨(ofHashT s.hashDictionary.hash t2, some (i - m, kk + m, i - j)), ?_, t2, ht2, rfl, ?_, ?_⟩
  · rw [hnf, hml, Option.bind_some]
    try dsimp only
    rw [hbe, Option.bind_some, hr3]; rfl
  · try dsimp only
    refine bind_trans (v := (kk : Int)) ?_ ?_
    · -- the match extension
      by_cases h8 : k8 = 8
      · subst h8
        bhp_ifc
        obtain ⟨e, kN', r', q', hl2, hr', hq', he1, he0⟩ := ext_loop_run _
          (loop2_eqB grow lcs (y &&& s.hashDictionary.hash.mask)) fuel A L i j kk hw.1 (by omega) hLA (by omega) hme
        -- `r := p[j+8:]`, `q := p[i+8:]` in either order
        first
          | (refine bind_trans (slice_okB _ (j + 8) L (by bhp_cond) (by bhp_cond) (by omega) hLA) ?_
             refine bind_trans (slice_okB _ (i + 8) L (by bhp_cond) (by bhp_cond) (by omega) hLA) ?_)
          | (refine bind_trans (slice_okB _ (i + 8) L (by bhp_cond) (by bhp_cond) (by omega) hLA) ?_
             refine bind_trans (slice_okB _ (j + 8) L (by bhp_cond) (by bhp_cond) (by omega) hLA) ?_)
        refine bind_trans hl2 ?_
        try dsimp only
        by_cases he : e = 1
        · bhp_ifc
          rw [he1 he]
        · bhp_ifc
          rw [he0 he]
          by_cases hq0 : q'.len > 0
          · bhp_ifc
            have hxc' : BytesW.getLE64 q'.data ^^^ BytesW.getLE64 r'.data =
                BytesW.getLE64 r'.data ^^^ BytesW.getLE64 q'.data := UInt64.xor_comm _ _
            simp only [gen_getLE64 r' hr', gen_getLE64 q' hq', bind_ok, tz_shr, hxc']
            have htv := BytesW.matchExtTail_min r'.data q'.data kN' (by rw [data_length hq']; exact hq0)
            rw [data_length hq'] at htv
            generalize BytesW.tz64 (BytesW.getLE64 r'.data ^^^ BytesW.getLE64 q'.data) >>> 3 = tzb at htv ⊢
            bhp_val ((Min.min tzb q'.len : Nat) : Int)
            rw [htv]
            exact congrArg Res.ok (by omega)
          · bhp_ifc
            rw [bind_ok, BytesW.matchExtTail_zero _ _ _ (by rw [data_length hq']; omega)]
      · bhp_ifc
        rw [Option.some.inj ((BytesW.matchExt_of_ne _ i j h8).symm.trans hme)]
    · try dsimp only
      -- `if back := i - litIndex; back > 0 { if back > j { back = j }; m := lcs(p[j-back:j], p[:i]); i -= m; k += m }`:
      -- the block is evaluated in both cases of the model's test to the same pair (whatever the order of its
      -- components), which the rest of the text consumes
      apply bind_trans
      · by_cases hb : i > li
        · have hl := lcs_backExtB lcs hlcs A L i li j hb hw.1 (by omega)
          rw [← hm] at hl
          bhp_ifc
          bhp_val ((Min.min (i - li) j : Nat) : Int)
          rw [slice_okB _ (j - Min.min (i - li) j) j (by bhp_cond) (by bhp_cond) (by omega)
            (by show j ≤ A.length; omega), bind_ok]
          try dsimp only
          -- (`rewrite`: the pair is to be read off after `lcs …` has become `↑m`)
          rewrite [slice_okB _ 0 i (by bhp_cond) (by bhp_cond) (Nat.zero_le _) (by show i ≤ A.length; omega), bind_ok]
          rw [hl]
        · have hm0 : m = 0 := hm.trans (backExt_zero _ i li j hb)
          bhp_ifc
          exact okpairB (by omega) (by omega)
      · try dsimp only
        refine bind_trans (slice_okB _ li (i - m) (by bhp_cond) (by bhp_cond) (by omega)
          (by show i - m ≤ A.length; omega)) ?_
        try dsimp only
        -- `b := min(litIndex, inputEnd)`
        bhp_val ((Min.min (i - m + (kk + m)) E : Nat) : Int)
        refine bind_trans (hl3 _ _ _ _ (by bhp_cond) (by bhp_cond)) ?_
        try dsimp only
        exact loop_congr _ (by bhp_cond) rfl
          (blk_eq (seq_eq (by bhp_cond) (by bhp_cond) (by bhp_cond)) (by first | rfl | (congr 2; bhp_cond)))
          (by bhp_cond)
  · intro st k o h
    cases h
    exact ⟨by omega, by omega, by omega, by omega⟩

end LZ.GenBHPParse

#print axioms LZ.GenBHPParse.loop3_eqB
#print axioms LZ.GenBHPParse.loop2_eqB
#print axioms LZ.GenBHPParse.gen_backExt
#print axioms LZ.GenBHPParse.loop1_stepB
