/-
  LzProofs.SuffixProps — properties C09 (suffix array / LCP table / InvertSA) and
  C10 (Segments reports every shared-prefix group completely, once, children first)
  for the model `LzModel/Suffix.lean`.

  C09 mostly restates what SuffixLemmas.lean and Kasai.lean prove.  C10 rests on one notion, `Reports`
  (Segments.lean): `scanLCP_reports` for the scan of any table, `segments_eq` for the argument checks
  of `Segments` and `segments_reports` for what it reports with any `0 ≤ minLen ≤ maxLen`, `segmentsOf_reports(_of_bound)` for the table of a text; the `scan_*`
  theorems and, through `cmin_clip_lcpSpec`, the `C10_*` theorems are read off it.  The `C10_*` here
  assume `maxLen ≤ MaxInt32`; SuffixAll.lean has them for every `maxLen`.
-/
import LzProofs.Segments
namespace LZ

/-! ## Lexicographic order -/

/-- `lexLe` is a total order on byte strings. -/
theorem lexLe_isTotalOrder :
    (∀ a : List Byte, lexLe a a = true) ∧
    (∀ a b : List Byte, lexLe a b = true ∨ lexLe b a = true) ∧
    (∀ a b c : List Byte, lexLe a b = true → lexLe b c = true → lexLe a c = true) ∧
    (∀ a b : List Byte, lexLe a b = true → lexLe b a = true → a = b) :=
  ⟨lexLe_refl, lexLe_total, lexLe_trans, lexLe_antisymm⟩

/-- Distinct suffixes of one text have different lengths, hence are different strings. -/
theorem suffixes_distinct (t : List Byte) {i j : Nat} (hi : i ≤ t.length) (hj : j ≤ t.length)
    (h : i ≠ j) : (t.drop i).length ≠ (t.drop j).length ∧ t.drop i ≠ t.drop j :=
  ⟨by simp only [List.length_drop]; omega, fun e => h (drop_injective_of_le hi hj e)⟩

/-- Sandwich lemma: for `a ≤ b ≤ c` the outer common prefix is the minimum of the inner ones. -/
theorem sandwich_eq (a b c : List Byte) (hab : lexLe a b = true) (hbc : lexLe b c = true) :
    lcpLen a c = min (lcpLen a b) (lcpLen b c) := lcpLen_sandwich_eq a b c hab hbc

/-! ## C09 — the suffix array specification -/

/-- `saSpec t` (the model of `suffix.Sort`) is a suffix array of `t`. -/
theorem saSpec_isSuffixArray (t : List Byte) : IsSuffixArray t (saSpec t) :=
  isSuffixArray_saSpec t

/-- There is exactly one suffix array ("the unique permutation"). -/
theorem suffixArray_unique {t : List Byte} {sa sa' : List Nat}
    (h : IsSuffixArray t sa) (h' : IsSuffixArray t sa') : sa = sa' := by
  refine List.Perm.eq_of_pairwise (le := fun i j => lexLe (t.drop i) (t.drop j) = true)
    ?_ h.2 h'.2 (h.1.trans h'.1.symm)
  intro a b ha hb hab hba
  have ha' := (h.mem_iff a).1 ha
  have hb' := (h'.mem_iff b).1 hb
  exact drop_injective_of_le (Nat.le_of_lt ha') (Nat.le_of_lt hb') (lexLe_antisymm _ _ hab hba)

theorem isSuffixArray_iff_eq_saSpec {t : List Byte} {sa : List Nat} :
    IsSuffixArray t sa ↔ sa = saSpec t :=
  ⟨fun h => suffixArray_unique h (saSpec_isSuffixArray t), fun h => h ▸ saSpec_isSuffixArray t⟩

/-- In a suffix array the order is strict: a larger rank has a strictly larger suffix. -/
theorem isSuffixArray_strict {t : List Byte} {sa : List Nat} (h : IsSuffixArray t sa) {a b : Nat}
    (hab : a < b) (hb : b < sa.length) :
    lexLe (t.drop (sa[a]'(by omega))) (t.drop sa[b]) = true ∧
    lexLe (t.drop sa[b]) (t.drop (sa[a]'(by omega))) = false :=
  ⟨h.mono (Nat.le_of_lt hab) hb, h.strict hab hb⟩

/-- The linear-condition checker (permutation + adjacent suffixes strictly increasing)
    certifies exactly the suffix arrays. -/
theorem checkSA_iff (t : List Byte) (sa : List Nat) : checkSA t sa = true ↔ IsSuffixArray t sa := by
  rw [isSuffixArray_iff_adjacent, checkSA, Bool.and_eq_true, isPerm_iff, sortedSuffixes_iff]

/-- Per-input certification of `suffix.Sort`: an output accepted by the checker is `saSpec t`. -/
theorem checkSA_eq_saSpec {t : List Byte} {sa : List Nat} (h : checkSA t sa = true) :
    sa = saSpec t :=
  isSuffixArray_iff_eq_saSpec.1 ((checkSA_iff t sa).1 h)

-- non-vacuity: "banana"
example : IsSuffixArray [98,97,110,97,110,97] [5,3,1,0,4,2] :=
  (checkSA_iff _ _).1 (by decide)
example : IsSuffixArray [] [] := (checkSA_iff _ _).1 (by decide)

/-! ## C09 — `InvertSA` -/

/-- `sainv[sa[j]] = j` -/
theorem invertSA_get_sa {sa : List Nat} (hp : sa.Perm (List.range sa.length)) (j : Nat)
    (hj : j < sa.length) : (invertSA sa.toArray)[sa[j]]? = some j :=
  invertSA_sa hp (List.getElem?_eq_getElem hj)

/-- `sa[sainv[i]] = i` -/
theorem sa_get_invertSA {sa : List Nat} (hp : sa.Perm (List.range sa.length)) (i : Nat)
    (hi : i < sa.length) :
    ∃ k, (invertSA sa.toArray)[i]? = some k ∧ k < sa.length ∧ sa[k]? = some i :=
  sa_invertSA hp hi

theorem invertSA_size_eq (sa : Array Nat) : (invertSA sa).size = sa.size := invertSA_size sa

example : ([5,3,1,0,4,2] : List Nat).Perm (List.range ([5,3,1,0,4,2] : List Nat).length) := by decide

/-! ## C09 — the LCP table (`_lcp`, Kasai / φ algorithm) -/

/-- `_lcp` computes the specified LCP table: `lcp[0] = 0`, `lcp[i] = lcp(suffix sa[i-1], suffix sa[i])`. -/
theorem kasai_correct {t : List Byte} {sa : List Nat} (h : IsSuffixArray t sa) :
    (lcpKasai t sa.toArray (invertSA sa.toArray)).toList = lcpSpec t sa := by
  rw [lcpKasai_eq h]

/-- The same for any inverse table and any previous contents of the `lcp` array
    (`LCP` receives the caller's array). -/
theorem kasai_correct_any_init {t : List Byte} {sa : List Nat} (h : IsSuffixArray t sa)
    {isa : Array Nat} (hinv : IsInverse sa isa) (lcp0 : Array Nat) (h0 : lcp0.size = t.length) :
    kasaiLoop t sa.toArray isa isa.size 0 0 lcp0 = (lcpSpec t sa).toArray :=
  kasaiLoop_correct h hinv lcp0 h0

/-- Model-level "no index/slice panic in `_lcp`": the loop with every index and slice operation
    checked (`sainv[i]`, `sa[k-1]`, `t[i+l:]`, `t[j+l:]`, `lcp[k] = …`; `kasaiLoopChk` returns `none`
    where Go would panic) succeeds and yields the specified table; in particular `i + l ≤ |t|` and
    `j + l ≤ |t|` at every step. -/
theorem kasai_no_panic {t : List Byte} {sa : List Nat} (h : IsSuffixArray t sa)
    (lcp0 : Array Nat) (h0 : lcp0.size = t.length) :
    kasaiLoopChk t sa.toArray (invertSA sa.toArray) (invertSA sa.toArray).size 0 0 lcp0
      = some (lcpSpec t sa).toArray :=
  kasaiChk_correct h (invertSA_isInverse h.isPermOfRange) lcp0 h0

/-- pointwise reading of the result -/
theorem kasai_entries {t : List Byte} {sa : List Nat} (h : IsSuffixArray t sa) (i : Nat)
    (hi : i < sa.length) :
    (lcpKasai t sa.toArray (invertSA sa.toArray))[i]? =
      some (if i = 0 then 0 else lcpLen (t.drop (sa.getD (i-1) 0)) (t.drop (sa.getD i 0))) := by
  rw [lcpKasai_eq h, lcpSpec]
  simp [hi]

/-- `LCP(t, nil, nil, lcp)`: with `sa`/`sainv` computed internally -/
theorem lcp_of_saSpec (t : List Byte) :
    (lcpKasai t (saSpec t).toArray (invertSA (saSpec t).toArray)).toList = lcpSpec t (saSpec t) :=
  kasai_correct (saSpec_isSuffixArray t)

/-- every LCP value is at most the text length (so it fits the `int32` of the Go code whenever `|t|` does) -/
theorem lcpSpec_le (t : List Byte) (sa : List Nat) : ∀ v ∈ lcpSpec t sa, v ≤ t.length := by
  intro v hv
  rw [lcpSpec_eq] at hv
  obtain ⟨k, _, e⟩ := List.mem_map.1 hv
  rw [← e]; exact specAt_le t sa k

example : lcpKasai [98,97,110,97,110,97] #[5,3,1,0,4,2] (invertSA #[5,3,1,0,4,2]) = #[0,1,3,0,0,2] := by
  decide

/-! ## C10 — `scanLCP` / `segments` on an arbitrary LCP table

  `clip lcp M x = min lcp[x] M`, `cmin f a b = min {f x | a < x ≤ b}`,
  `LcpInterval f size m lo hi` (Segments.lean): `lo < hi ≤ size`, all `f x ≥ m` for `lo < x < hi`,
  not extensible to the left (`lo = 0 ∨ f lo < m`) nor to the right (`hi = size ∨ f hi < m`),
  and `m` is attained inside (or it is the root `m = 0`, `lo = 0`). -/

section Scan
variable (lcp : Array Nat) (minLen maxLen : Int)

/-- `scanLCP_spec` over natural numbers: the callbacks are exactly the LCP-intervals of the clipped
    table whose value is at least `minLen`, children first. -/
theorem scanLCP_reports (hmin : 0 ≤ minLen) (hmm : minLen ≤ maxLen) (hsize : 0 < lcp.size) :
    Reports (clip lcp maxLen.toNat) lcp.size minLen.toNat (scanLCP lcp minLen maxLen) := by
  obtain ⟨h1, h2⟩ := scanLCP_spec lcp minLen maxLen (by omega) hsize
  refine ⟨fun m lo hi => ?_, h2⟩
  rw [h1, isLcpIv_iff (vclip_eq_clip lcp (by omega)), show minLen ≤ (m : Int) ↔ minLen.toNat ≤ m by omega]

/-- Exact characterisation. The callbacks are exactly the LCP-intervals of the clipped table
    whose value is at least `minLen`. -/
theorem scan_exact (hmin : 0 ≤ minLen) (hmm : minLen ≤ maxLen) (hsize : 0 < lcp.size)
    (m lo hi : Nat) :
    (m, lo, hi) ∈ scanLCP lcp minLen maxLen ↔
      minLen.toNat ≤ m ∧ LcpInterval (clip lcp maxLen.toNat) lcp.size m lo hi :=
  (scanLCP_reports lcp minLen maxLen hmin hmm hsize).mem m lo hi

/-- No callback is issued twice. -/
theorem scan_nodup (hmin : 0 ≤ minLen) (hmm : minLen ≤ maxLen) (hsize : 0 < lcp.size) :
    (scanLCP lcp minLen maxLen).Nodup :=
  (scanLCP_reports lcp minLen maxLen hmin hmm hsize).nodup

/-- Soundness. Every callback `(m, lo, hi)` (= `f(m, sa[lo:hi])`) has `minLen ≤ m ≤ maxLen`,
    a non-empty in-range segment (at least two suffixes if `m > 0`), all clipped LCP values
    strictly inside are `≥ m`, and the segment is maximal. -/
theorem scan_sound (hmin : 0 ≤ minLen) (hmm : minLen ≤ maxLen) (hsize : 0 < lcp.size)
    {m lo hi : Nat} (h : (m, lo, hi) ∈ scanLCP lcp minLen maxLen) :
    minLen ≤ (m : Int) ∧ (m : Int) ≤ maxLen ∧ lo < hi ∧ hi ≤ lcp.size ∧ (0 < m → lo + 1 < hi) ∧
    (∀ x, lo < x → x < hi → m ≤ clip lcp maxLen.toNat x) ∧
    (lo = 0 ∨ clip lcp maxLen.toNat lo < m) ∧
    (hi = lcp.size ∨ clip lcp maxLen.toNat hi < m) := by
  obtain ⟨h1, h2⟩ := (scan_exact lcp minLen maxLen hmin hmm hsize m lo hi).1 h
  have hle : m ≤ maxLen.toNat := h2.value_le (fun x => by unfold clip; omega)
  exact ⟨by omega, by omega, h2.lt, h2.le, h2.two, h2.ge, h2.left_max, h2.right_max⟩

/-- Completeness and uniqueness. For ranks `a < b` whose range minimum `c` of the clipped
    table is `≥ minLen` there is exactly one callback with `m = c` whose segment contains both. -/
theorem scan_complete_unique (hmin : 0 ≤ minLen) (hmm : minLen ≤ maxLen)
    {a b : Nat} (hab : a < b) (hb : b < lcp.size)
    (hc : minLen ≤ (cmin (clip lcp maxLen.toNat) a b : Int)) :
    ∃ cb : Callback, (cb ∈ scanLCP lcp minLen maxLen ∧
        cb.1 = cmin (clip lcp maxLen.toNat) a b ∧ cb.2.1 ≤ a ∧ b < cb.2.2) ∧
      ∀ cb' : Callback, (cb' ∈ scanLCP lcp minLen maxLen ∧
        cb'.1 = cmin (clip lcp maxLen.toNat) a b ∧ cb'.2.1 ≤ a ∧ b < cb'.2.2) → cb' = cb :=
  (scanLCP_reports lcp minLen maxLen hmin hmm (by omega)).complete_unique hab hb (by omega)

/-- … counted with multiplicity: exactly one position of the callback list. -/
theorem scan_complete_count (hmin : 0 ≤ minLen) (hmm : minLen ≤ maxLen)
    {a b : Nat} (hab : a < b) (hb : b < lcp.size)
    (hc : minLen ≤ (cmin (clip lcp maxLen.toNat) a b : Int)) :
    (scanLCP lcp minLen maxLen).countP
      (fun cb => cb.1 == cmin (clip lcp maxLen.toNat) a b && decide (cb.2.1 ≤ a) && decide (b < cb.2.2)) = 1 := by
  obtain ⟨cb, ⟨h1, h2, h3, h4⟩, hu⟩ := scan_complete_unique lcp minLen maxLen hmin hmm hab hb hc
  apply countP_eq_one_of_nodup (scan_nodup lcp minLen maxLen hmin hmm (by omega)) h1
  · simp [h2, h3, h4]
  · intro y hy hp
    simp only [Bool.and_eq_true, beq_iff_eq, decide_eq_true_eq] at hp
    exact hu y ⟨hy, hp.1.1, hp.1.2, hp.2⟩

/-- callbacks containing `a < b` never have a value above the range minimum -/
theorem scan_value_le (hmin : 0 ≤ minLen) (hmm : minLen ≤ maxLen) (hsize : 0 < lcp.size)
    {m lo hi a b : Nat} (h : (m, lo, hi) ∈ scanLCP lcp minLen maxLen) (hab : a < b)
    (hlo : lo ≤ a) (hhi : b < hi) : m ≤ cmin (clip lcp maxLen.toNat) a b :=
  ((scan_exact lcp minLen maxLen hmin hmm hsize m lo hi).1 h).2.value_le_cmin hab hlo hhi

/-- Children first. A callback with a larger value nested in another one is issued earlier
    (`[cb₁, cb₂]` is a sublist of the callback list, which has no duplicates). -/
theorem scan_children_first (hmin : 0 ≤ minLen) (hmm : minLen ≤ maxLen) (hsize : 0 < lcp.size)
    {m1 lo1 hi1 m2 lo2 hi2 : Nat}
    (h1 : (m1, lo1, hi1) ∈ scanLCP lcp minLen maxLen) (h2 : (m2, lo2, hi2) ∈ scanLCP lcp minLen maxLen)
    (_hlo : lo2 ≤ lo1) (hhi : hi1 ≤ hi2) (hm : m2 < m1) :
    [(m1, lo1, hi1), (m2, lo2, hi2)].Sublist (scanLCP lcp minLen maxLen) :=
  (scanLCP_reports lcp minLen maxLen hmin hmm hsize).children_first h1 h2 hhi hm

/-- the same as a split of the callback list: `cb₁` lies in the front part, `cb₂` in the rest -/
theorem scan_children_first_split (hmin : 0 ≤ minLen) (hmm : minLen ≤ maxLen) (hsize : 0 < lcp.size)
    {m1 lo1 hi1 m2 lo2 hi2 : Nat}
    (h1 : (m1, lo1, hi1) ∈ scanLCP lcp minLen maxLen) (h2 : (m2, lo2, hi2) ∈ scanLCP lcp minLen maxLen)
    (hlo : lo2 ≤ lo1) (hhi : hi1 ≤ hi2) (hm : m2 < m1) :
    ∃ r₁ r₂, scanLCP lcp minLen maxLen = r₁ ++ r₂ ∧ (m1, lo1, hi1) ∈ r₁ ∧ (m2, lo2, hi2) ∈ r₂ := by
  have hs := scan_children_first lcp minLen maxLen hmin hmm hsize h1 h2 hlo hhi hm
  obtain ⟨r₁, r₂, e, ha, hb⟩ := List.cons_sublist_iff.1 hs
  exact ⟨r₁, r₂, e, ha, List.singleton_sublist.1 hb⟩

/-- The root. For `minLen = 0` the whole range `[0, size)` is reported (once, by `scan_nodup`)
    with `m = 0`; no other callback has `m = 0`; for `minLen > 0` no callback has `m = 0`. -/
theorem scan_root (hmin : 0 ≤ minLen) (hmm : minLen ≤ maxLen) (hsize : 0 < lcp.size) :
    (minLen = 0 → (0, 0, lcp.size) ∈ scanLCP lcp minLen maxLen) ∧
    (∀ lo hi, (0, lo, hi) ∈ scanLCP lcp minLen maxLen → minLen = 0 ∧ lo = 0 ∧ hi = lcp.size) := by
  constructor
  · intro h0
    rw [scan_exact lcp minLen maxLen hmin hmm hsize]
    exact ⟨by omega, hsize, Nat.le_refl _, fun _ _ _ => Nat.zero_le _, Or.inl rfl, Or.inl rfl,
      Or.inl ⟨rfl, rfl⟩⟩
  · intro lo hi h
    obtain ⟨h1, h2⟩ := (scan_exact lcp minLen maxLen hmin hmm hsize 0 lo hi).1 h
    have := h2.left_max
    have := h2.right_max
    omega

/-- The argument checks of `Segments`.  On consistent arguments it does not panic; it returns at once
    in three cases; a `maxLen` above `MaxInt32` acts as `MaxInt32`. -/
theorem segments_eq (saLen : Nat) (hlen : saLen = lcp.size) (hmin : 0 ≤ minLen) :
    segments saLen lcp minLen maxLen =
      some (if maxLen < minLen ∨ saLen = 0 ∨ 2147483647 < minLen then []
            else scanLCP lcp minLen (min maxLen 2147483647)) := by
  subst hlen
  unfold segments
  have h2 : ¬ minLen < 0 := by omega
  have e : (if maxLen > 2147483647 then 2147483647 else maxLen) = min maxLen 2147483647 := by
    split <;> omega
  simp only [ne_eq, not_true_eq_false, if_false, h2, gt_iff_lt, e]
  split <;> rfl

/-- `Segments` never panics on consistent arguments and is the scan (or nothing for the empty text). -/
theorem segments_some (saLen : Nat) (hlen : saLen = lcp.size) (hmin : 0 ≤ minLen)
    (hmm : minLen ≤ maxLen) (hmax : maxLen ≤ 2147483647) :
    segments saLen lcp minLen maxLen =
      some (if saLen = 0 then [] else scanLCP lcp minLen maxLen) := by
  rw [segments_eq lcp minLen maxLen saLen hlen hmin, Int.min_eq_left hmax]
  simp only [show ¬ maxLen < minLen by omega, show ¬ 2147483647 < minLen by omega, false_or, or_false]

/-- `segments32` is `segments` unless `maxLen` does not fit an `int32` -/
theorem segments32_eq (saLen : Nat) (h : maxLen ≤ 2147483647) :
    segments32 saLen lcp minLen maxLen = segments saLen lcp minLen maxLen :=
  if_neg (by omega)

theorem segments32_none (saLen : Nat) (h : 2147483647 < maxLen) :
    segments32 saLen lcp minLen maxLen = none :=
  if_pos h

/-- What `Segments` reports, for every `0 ≤ minLen ≤ maxLen` and every table: the two cases in which
    it returns at once are cases in which no interval has a value `≥ minLen`. -/
theorem segments_reports (saLen : Nat) (hlen : saLen = lcp.size) (hmin : 0 ≤ minLen)
    (hmm : minLen ≤ maxLen) {cbs : List Callback} (hs : segments saLen lcp minLen maxLen = some cbs) :
    Reports (clip lcp (min maxLen 2147483647).toNat) lcp.size minLen.toNat cbs := by
  rw [segments_eq lcp minLen maxLen saLen hlen hmin] at hs
  cases hs
  split
  · next h0 =>
    refine Reports.nil fun m lo hi hiv => ?_
    have := hiv.lt
    have := hiv.le
    have := hiv.value_le (M := (min maxLen 2147483647).toNat) fun x => Nat.min_le_right _ _
    omega
  · exact scanLCP_reports lcp minLen _ hmin (by omega) (by omega)

/-- the empty text: no callbacks, no panic (D9) -/
theorem segments_empty (hmin : 0 ≤ minLen) (hmax : maxLen ≤ 2147483647) (hmin' : minLen ≤ 2147483647) :
    segments 0 #[] minLen maxLen = some [] :=
  (segments_eq #[] minLen maxLen 0 rfl hmin).trans (congrArg some (if_pos (Or.inr (Or.inl rfl))))

/-- an empty table: the scan itself reports nothing -/
theorem scanLCP_empty : scanLCP #[] minLen maxLen = [] := by
  simp [scanLCP, scanFrom]

/-- `maxLen < minLen`: nothing is reported -/
theorem segments_maxLen_lt (saLen : Nat) (hlen : saLen = lcp.size) (hmin : 0 ≤ minLen)
    (hmin' : minLen ≤ 2147483647) (hmax : maxLen ≤ 2147483647) (h : maxLen < minLen) :
    segments saLen lcp minLen maxLen = some [] :=
  (segments_eq lcp minLen maxLen saLen hlen hmin).trans (congrArg some (if_pos (Or.inl h)))

end Scan

-- non-vacuity / examples: "abcXabcYabd" has the LCP table below
example : scanLCP #[0,3,2] 1 10 = [(3,0,2),(2,0,3)] := by
  simp [scanLCP, scanFrom, popLoop, Int.min_def]
example : scanLCP #[0,0,0,3,2,0,2,1,0,1,0] 1 10 =
    [(3,2,4),(2,2,5),(2,5,7),(1,5,8),(1,8,10)] := by
  simp [scanLCP, scanFrom, popLoop, Int.min_def]
example : cmin (clip #[0,3,2] 10) 0 2 = 2 := by decide

/-! ### Counter-witness for the UNREPAIRED scan (DESIGN.md §2 D8) -/

/-- the inner loop as in the unrepaired `segments.go`: after pops the new interval is pushed with
    left boundary `j - 1` instead of the left boundary of the interval just closed -/
def popLoopOld (minLen : Int) (n : Int) (j : Nat) :
    List Item → List Callback → Option (List Item) × List Callback
  | [], out => (none, out)
  | top :: rest, out =>
    if n > top.n then (some (⟨n, j - 1⟩ :: top :: rest), out)
    else if n = top.n then (some (top :: rest), out)
    else
      let out' := if top.n ≥ minLen then out ++ [(top.n.toNat, top.j, j)] else out
      match rest with
      | [] => (none, out')
      | _ => popLoopOld minLen n j rest out'

/-- outer loop (explicit fuel `size` so that it evaluates by `decide`) -/
def scanFromOld (lcp : Array Nat) (minLen maxLen : Int) :
    Nat → Nat → List Item → List Callback → List Callback
  | 0, _, _, out => out
  | fuel+1, j, stack, out =>
    let n : Int := if j < lcp.size then min ((lcp.getD j 0 : Nat) : Int) maxLen else -1
    match popLoopOld minLen n j stack out with
    | (none, out') => out'
    | (some st, out') => scanFromOld lcp minLen maxLen fuel (j + 1) st out'

def scanLCPOld (lcp : Array Nat) (minLen maxLen : Int) : List Callback :=
  scanFromOld lcp minLen maxLen lcp.size 1 [⟨0, 0⟩] []

/-- On `lcp = [0,3,2]` the unrepaired scan reports `(2,1,3)` instead of `(2,0,3)` … -/
theorem scanLCPOld_witness : scanLCPOld #[0,3,2] 1 10 = [(3,0,2),(2,1,3)] := by decide

/-- … so the ranks `0 < 2` with range minimum `2 ≥ minLen` are in no reported group of value 2:
    completeness fails. -/
theorem scanLCPOld_incomplete :
    cmin (clip #[0,3,2] 10) 0 2 = 2 ∧
    ¬ ∃ cb ∈ scanLCPOld #[0,3,2] 1 10, cb.1 = 2 ∧ cb.2.1 ≤ 0 ∧ 2 < cb.2.2 := by decide

/-- "abcXabcYabd": the unrepaired scan reports `(2,3,5)`, losing rank 2 (suffix 0). -/
theorem scanLCPOld_witness' :
    scanLCPOld #[0,0,0,3,2,0,2,1,0,1,0] 1 10 = [(3,2,4),(2,3,5),(2,5,7),(1,6,8),(1,8,10)] := by decide


/-! ## C10 lifted to suffixes: the callbacks are the groups of suffixes sharing `m` bytes

  `sufLcp t sa a b` = common-prefix length of the suffixes at the ranks `a`, `b`. -/

section Groups
variable {t : List Byte} {sa : List Nat}

/-- The minimum of the LCP table over the ranks `(a, b]` is the common-prefix length of the
    suffixes at the ranks `a` and `b` (sandwich lemma + induction). -/
theorem lcp_range_min (h : IsSuffixArray t sa) {a b : Nat} (hab : a < b) (hb : b < sa.length) :
    cmin (fun x => (lcpSpec t sa).toArray.getD x 0) a b
      = lcpLen (t.drop (sa[a]'(by omega))) (t.drop sa[b]) := by
  rw [← sufLcp_of_some (List.getElem?_eq_getElem (Nat.lt_trans hab hb)) (List.getElem?_eq_getElem hb),
    ← cmin_specAt h a b hab hb]
  exact cmin_congr a b hab fun x _ hx => getD_lcpSpec t sa (by omega)

/-- the callbacks `Segments` issues for the text `t` (suffix array `sa`, LCP table by `_lcp`) -/
def segmentsOf (t : List Byte) (sa : List Nat) (minLen maxLen : Int) : Option (List Callback) :=
  segments sa.length (lcpKasai t sa.toArray (invertSA sa.toArray)) minLen maxLen

/-- C10, no panic, the exact result. For every `0 ≤ minLen ≤ maxLen`. -/
theorem segmentsOf_some_all (h : IsSuffixArray t sa) {minLen maxLen : Int} (hmin : 0 ≤ minLen)
    (hmm : minLen ≤ maxLen) :
    segmentsOf t sa minLen maxLen =
      some (if sa.length = 0 ∨ 2147483647 < minLen then []
            else scanLCP (lcpSpec t sa).toArray minLen (min maxLen 2147483647)) := by
  unfold segmentsOf
  rw [lcpKasai_eq h]
  rw [segments_eq _ _ _ _ (lcpSpec_size t sa).symm hmin]
  simp only [show ¬ maxLen < minLen by omega, false_or]

/-- no entry of the LCP table exceeds the text length -/
theorem getD_lcpSpec_le (t : List Byte) (sa : List Nat) (x : Nat) :
    (lcpSpec t sa).toArray.getD x 0 ≤ t.length := by
  by_cases hx : x < sa.length
  · rw [getD_lcpSpec t sa hx]; exact specAt_le t sa x
  · simp [lcpSpec_eq, hx]

/-- What `Segments` reports for the text `t`, for every `0 ≤ minLen ≤ maxLen`: the LCP-intervals of
    value `≥ minLen` of the LCP table clipped at `min maxLen MaxInt32`. -/
theorem segmentsOf_reports (h : IsSuffixArray t sa) {minLen maxLen : Int} (hmin : 0 ≤ minLen)
    (hmm : minLen ≤ maxLen) {cbs : List Callback} (hs : segmentsOf t sa minLen maxLen = some cbs) :
    Reports (clip (lcpSpec t sa).toArray (min maxLen 2147483647).toNat) sa.length minLen.toNat cbs := by
  unfold segmentsOf at hs
  rw [lcpKasai_eq h] at hs
  have := segments_reports _ _ _ _ (lcpSpec_size t sa).symm hmin hmm hs
  rwa [lcpSpec_size] at this

/-- The clamp of `maxLen` to `MaxInt32` is invisible when `maxLen` or the text length (which bounds
    the table entries; both are `int32` in the Go code) fits an `int32`. -/
theorem segmentsOf_reports_of_bound (h : IsSuffixArray t sa) {minLen maxLen : Int}
    (hb : t.length ≤ 2147483647 ∨ maxLen ≤ 2147483647) (hmin : 0 ≤ minLen) (hmm : minLen ≤ maxLen) {cbs : List Callback} (hs : segmentsOf t sa minLen maxLen = some cbs) :
    Reports (clip (lcpSpec t sa).toArray maxLen.toNat) sa.length minLen.toNat cbs := by
  have H := segmentsOf_reports h hmin hmm hs
  by_cases hmax : maxLen ≤ 2147483647
  · rwa [Int.min_eq_left hmax] at H
  -- otherwise both limits exceed every table entry
  · have e : clip (lcpSpec t sa).toArray maxLen.toNat =
        clip (lcpSpec t sa).toArray (min maxLen 2147483647).toNat := by
      funext x
      have := getD_lcpSpec_le t sa x
      rw [Int.min_eq_right (by omega)]
      unfold clip
      omega
    exact e ▸ H

/-! The reported intervals of the (clipped) LCP table of a suffix array, read as groups of suffixes:
    `cmin_clip_lcpSpec` turns range minima of the table into common-prefix lengths. -/

namespace Reports
variable {M μ : Nat} {cbs : List Callback}
  (H : Reports (clip (lcpSpec t sa).toArray M) sa.length μ cbs) (h : IsSuffixArray t sa)
include H h

theorem groups_sound {m lo hi : Nat} (hcb : (m, lo, hi) ∈ cbs) :
    μ ≤ m ∧ m ≤ M ∧ lo < hi ∧ hi ≤ sa.length ∧ (0 < m → lo + 1 < hi) ∧
    (∀ a b, lo ≤ a → a < b → b < hi → m ≤ sufLcp t sa a b) ∧
    (∀ a r, lo ≤ a → a < hi → r < sa.length → (r < lo ∨ hi ≤ r) → sufLcp t sa a r < m) := by
  obtain ⟨hμ, hiv⟩ := (H.mem m lo hi).1 hcb
  have hM : m ≤ M := hiv.value_le fun x => Nat.min_le_right _ _
  have hle := hiv.le
  -- a clipped table entry below `m` between two ranks: their suffixes share fewer than `m` bytes
  have out : ∀ a b x, a < x → x ≤ b → b < sa.length →
      clip (lcpSpec t sa).toArray M x < m → sufLcp t sa a b < m := by
    intro a b x hax hxb hb hx
    have := (cmin_spec (clip (lcpSpec t sa).toArray M) a b (by omega)).1 x hax hxb
    rw [cmin_clip_lcpSpec h _ (by omega) hb] at this
    omega
  refine ⟨hμ, hM, hiv.lt, hle, hiv.two, fun a b hla hab hbh => ?_, fun a r hla hah hr hout => ?_⟩
  · have := hiv.value_le_cmin hab hla hbh
    rw [cmin_clip_lcpSpec h _ hab (by omega)] at this
    omega
  · rcases hout with hrl | hhr
    · rw [sufLcp_comm]
      exact out r a lo hrl hla (by omega) (hiv.left_max.resolve_left (by omega))
    · exact out a r hi hah hhr hr (hiv.right_max.resolve_left (by omega))

theorem groups_complete_unique {a b : Nat} (hab : a < b) (hb : b < sa.length)
    (hc : μ ≤ min (sufLcp t sa a b) M) :
    ∃ cb : Callback, (cb ∈ cbs ∧ cb.1 = min (sufLcp t sa a b) M ∧ cb.2.1 ≤ a ∧ b < cb.2.2) ∧
      ∀ cb' : Callback, (cb' ∈ cbs ∧ cb'.1 = min (sufLcp t sa a b) M ∧ cb'.2.1 ≤ a ∧
        b < cb'.2.2) → cb' = cb := by
  rw [← cmin_clip_lcpSpec h M hab hb] at hc ⊢
  exact H.complete_unique hab hb hc

/-- symmetric form (any two different ranks) -/
theorem groups_complete_unique_sym {a b : Nat} (hne : a ≠ b) (ha : a < sa.length)
    (hb : b < sa.length) (hc : μ ≤ min (sufLcp t sa a b) M) :
    ∃ cb : Callback, (cb ∈ cbs ∧ cb.1 = min (sufLcp t sa a b) M ∧
        (cb.2.1 ≤ a ∧ a < cb.2.2) ∧ (cb.2.1 ≤ b ∧ b < cb.2.2)) ∧
      ∀ cb' : Callback, (cb' ∈ cbs ∧ cb'.1 = min (sufLcp t sa a b) M ∧
        (cb'.2.1 ≤ a ∧ a < cb'.2.2) ∧ (cb'.2.1 ≤ b ∧ b < cb'.2.2)) → cb' = cb := by
  rcases Nat.lt_or_gt_of_ne hne with hab | hba
  · obtain ⟨cb, ⟨h1, h2, h3, h4⟩, hu⟩ := H.groups_complete_unique h hab hb hc
    refine ⟨cb, ⟨h1, h2, ⟨h3, by omega⟩, ⟨by omega, h4⟩⟩, ?_⟩
    rintro cb' ⟨g1, g2, ⟨g3, _⟩, ⟨_, g4⟩⟩
    exact hu cb' ⟨g1, g2, g3, g4⟩
  · rw [sufLcp_comm] at hc ⊢
    obtain ⟨cb, ⟨h1, h2, h3, h4⟩, hu⟩ := H.groups_complete_unique h hba ha hc
    refine ⟨cb, ⟨h1, h2, ⟨by omega, h4⟩, ⟨h3, by omega⟩⟩, ?_⟩
    rintro cb' ⟨g1, g2, ⟨_, g4⟩, ⟨g3, _⟩⟩
    exact hu cb' ⟨g1, g2, g3, g4⟩

/-- in terms of text positions -/
theorem positions_complete_unique {p q : Nat} (hp : p < t.length) (hq : q < t.length)
    (hpq : p ≠ q) (hc : μ ≤ min (lcpLen (t.drop p) (t.drop q)) M) :
    ∃ cb : Callback, (cb ∈ cbs ∧ cb.1 = min (lcpLen (t.drop p) (t.drop q)) M ∧
        p ∈ segmentOf sa cb.2.1 cb.2.2 ∧ q ∈ segmentOf sa cb.2.1 cb.2.2) ∧
      ∀ cb' : Callback, (cb' ∈ cbs ∧ cb'.1 = min (lcpLen (t.drop p) (t.drop q)) M ∧
        p ∈ segmentOf sa cb'.2.1 cb'.2.2 ∧ q ∈ segmentOf sa cb'.2.1 cb'.2.2) → cb' = cb := by
  obtain ⟨a, ha⟩ := h.surj? hp
  obtain ⟨b, hb⟩ := h.surj? hq
  have hne : a ≠ b := by
    intro e; subst e; rw [ha] at hb; exact hpq (Option.some.inj hb)
  have hsuf : sufLcp t sa a b = lcpLen (t.drop p) (t.drop q) := sufLcp_of_some ha hb
  obtain ⟨cb, ⟨h1, h2, h3, h4⟩, hu⟩ := H.groups_complete_unique_sym h hne
    (h.some_lt ha).1 (h.some_lt hb).1 (by rw [hsuf]; exact hc)
  rw [hsuf] at h2 hu
  refine ⟨cb, ⟨h1, h2, mem_segmentOf.2 ⟨a, h3.1, h3.2, ha⟩, mem_segmentOf.2 ⟨b, h4.1, h4.2, hb⟩⟩, ?_⟩
  rintro cb' ⟨g1, g2, g3, g4⟩
  obtain ⟨a', g31, g32, g33⟩ := mem_segmentOf.1 g3
  obtain ⟨b', g41, g42, g43⟩ := mem_segmentOf.1 g4
  have ea := h.inj? g33 ha
  have eb := h.inj? g43 hb
  subst ea eb
  exact hu cb' ⟨g1, g2, ⟨g31, g32⟩, ⟨g41, g42⟩⟩

theorem positions_sound {m lo hi : Nat} (hcb : (m, lo, hi) ∈ cbs) :
    μ ≤ m ∧ m ≤ M ∧
    (segmentOf sa lo hi).Nodup ∧ (segmentOf sa lo hi).length = hi - lo ∧ 0 < hi - lo ∧
    (∀ p ∈ segmentOf sa lo hi, p < t.length ∧ m ≤ (t.drop p).length) ∧
    (∀ p ∈ segmentOf sa lo hi, ∀ q ∈ segmentOf sa lo hi, (t.drop p).take m = (t.drop q).take m) ∧
    (∀ p ∈ segmentOf sa lo hi, ∀ r, r < t.length → r ∉ segmentOf sa lo hi →
      lcpLen (t.drop p) (t.drop r) < m) := by
  obtain ⟨s1, s2, s3, s4, htwo, s5, s6⟩ := H.groups_sound h hcb
  -- different ranks inside share `m` bytes
  have hpair : ∀ {a b p q}, lo ≤ a → a < hi → lo ≤ b → b < hi → a ≠ b → sa[a]? = some p →
      sa[b]? = some q → m ≤ lcpLen (t.drop p) (t.drop q) := by
    intro a b p q a1 a2 b1 b2 hne ha hb
    rw [← sufLcp_of_some ha hb]
    rcases Nat.lt_or_gt_of_ne hne with c | c
    · exact s5 a b a1 c b2
    · rw [sufLcp_comm]; exact s5 b a b1 c a2
  refine ⟨s1, s2, segmentOf_nodup h.nodup lo hi, by simp [segmentOf]; omega, by omega, ?_, ?_, ?_⟩
  · intro p hp
    obtain ⟨a, a1, a2, ha⟩ := mem_segmentOf.1 hp
    refine ⟨(h.some_lt ha).2, ?_⟩
    by_cases hm : m = 0
    · omega
    · -- another rank in the segment (`htwo`)
      obtain ⟨b, b1, b2, hne⟩ : ∃ b, lo ≤ b ∧ b < hi ∧ a ≠ b := by
        by_cases e : a = lo
        · exact ⟨lo + 1, by omega, by omega, by omega⟩
        · exact ⟨lo, by omega, by omega, e⟩
      obtain ⟨q, hbs⟩ : ∃ q, sa[b]? = some q :=
        ⟨_, List.getElem?_eq_getElem (show b < sa.length by omega)⟩
      exact Nat.le_trans (hpair a1 a2 b1 b2 hne ha hbs) (lcpLen_le_left _ _)
  · intro p hp q hq
    obtain ⟨a, a1, a2, ha⟩ := mem_segmentOf.1 hp
    obtain ⟨b, b1, b2, hb⟩ := mem_segmentOf.1 hq
    by_cases e : a = b
    · subst e; rw [ha] at hb; rw [Option.some.inj hb]
    · exact ((le_lcpLen_iff _ _ _).1 (hpair a1 a2 b1 b2 e ha hb)).2.2
  · intro p hp r hr hnot
    obtain ⟨a, a1, a2, ha⟩ := mem_segmentOf.1 hp
    obtain ⟨k, hk⟩ := h.surj? hr
    have hout : k < lo ∨ hi ≤ k := by
      rcases Nat.lt_or_ge k lo with c | c
      · exact Or.inl c
      · exact Or.inr (Nat.le_of_not_lt fun c' => hnot (mem_segmentOf.2 ⟨k, c, c', hk⟩))
    exact sufLcp_of_some ha hk ▸ s6 a k a1 a2 (h.some_lt hk).1 hout

end Reports

/-! The same about `segmentsOf`, for `maxLen ≤ MaxInt32`, the case of the `int32` callers
    (SuffixAll.lean: every `maxLen`). -/

/-- C10, soundness for suffixes. Every callback `(m, lo, hi)` has `minLen ≤ m ≤ maxLen`, its
    segment `sa[lo:hi]` is a non-empty range of ranks (distinct suffixes, since `sa` has no
    duplicates), any two suffixes in it share their first `m` bytes, and the group is complete:
    no suffix outside the segment shares `m` bytes with a suffix inside. -/
theorem C10_groups_sound (h : IsSuffixArray t sa) {minLen maxLen : Int} (hmin : 0 ≤ minLen)
    (hmm : minLen ≤ maxLen) (hmax : maxLen ≤ 2147483647) {cbs : List Callback}
    (hs : segmentsOf t sa minLen maxLen = some cbs) {m lo hi : Nat} (hcb : (m, lo, hi) ∈ cbs) :
    minLen ≤ (m : Int) ∧ (m : Int) ≤ maxLen ∧ lo < hi ∧ hi ≤ sa.length ∧
    (∀ a b, lo ≤ a → a < b → b < hi → m ≤ sufLcp t sa a b) ∧
    (∀ a r, lo ≤ a → a < hi → r < sa.length → (r < lo ∨ hi ≤ r) → sufLcp t sa a r < m) := by
  obtain ⟨s1, s2, s3, s4, _, s5⟩ :=
    (segmentsOf_reports_of_bound h (Or.inr hmax) hmin hmm hs).groups_sound h hcb
  exact ⟨by omega, by omega, s3, s4, s5⟩

/-- C10, completeness and uniqueness for suffixes. For any two ranks `a < b` whose suffixes have
    a common prefix of length `c ≥ minLen` there is exactly one callback with `m = min c maxLen`
    whose segment contains both. -/
theorem C10_groups_complete_unique (h : IsSuffixArray t sa) {minLen maxLen : Int} (hmin : 0 ≤ minLen)
    (hmm : minLen ≤ maxLen) (hmax : maxLen ≤ 2147483647) {cbs : List Callback}
    (hs : segmentsOf t sa minLen maxLen = some cbs) {a b : Nat} (hab : a < b) (hb : b < sa.length)
    (hc : minLen ≤ (sufLcp t sa a b : Int)) :
    ∃ cb : Callback, (cb ∈ cbs ∧ cb.1 = min (sufLcp t sa a b) maxLen.toNat ∧ cb.2.1 ≤ a ∧ b < cb.2.2) ∧
      ∀ cb' : Callback, (cb' ∈ cbs ∧ cb'.1 = min (sufLcp t sa a b) maxLen.toNat ∧ cb'.2.1 ≤ a ∧
        b < cb'.2.2) → cb' = cb :=
  (segmentsOf_reports_of_bound h (Or.inr hmax) hmin hmm hs).groups_complete_unique h hab hb (by omega)

/-- C10, children first. Groups with a longer common prefix are reported before the groups that
    contain them. -/
theorem C10_groups_children_first (h : IsSuffixArray t sa) {minLen maxLen : Int} (hmin : 0 ≤ minLen)
    (hmm : minLen ≤ maxLen) (hmax : maxLen ≤ 2147483647) {cbs : List Callback}
    (hs : segmentsOf t sa minLen maxLen = some cbs) {m1 lo1 hi1 m2 lo2 hi2 : Nat}
    (h1 : (m1, lo1, hi1) ∈ cbs) (h2 : (m2, lo2, hi2) ∈ cbs)
    (hlo : lo2 ≤ lo1) (hhi : hi1 ≤ hi2) (hm : m2 < m1) :
    [(m1, lo1, hi1), (m2, lo2, hi2)].Sublist cbs :=
  (segmentsOf_reports_of_bound h (Or.inr hmax) hmin hmm hs).children_first h1 h2 hhi hm

/-- the whole pipeline `Sort` (specification) → `InvertSA` → `_lcp` → `Segments` never panics -/
theorem segmentsOf_saSpec_some (t : List Byte) {minLen maxLen : Int} (hmin : 0 ≤ minLen)
    (hmm : minLen ≤ maxLen) (hmax : maxLen ≤ 2147483647) :
    ∃ cbs, segmentsOf t (saSpec t) minLen maxLen = some cbs ∧ (t = [] → cbs = []) := by
  refine ⟨_, segmentsOf_some_all (saSpec_isSuffixArray t) hmin hmm, fun ht => if_pos (Or.inl ?_)⟩
  rw [(saSpec_isSuffixArray t).length_eq, ht, List.length_nil]

/-- C10 in terms of text positions (completeness, uniqueness). For every two different
    positions `p`, `q` of the text whose suffixes have a common prefix of length `c ≥ minLen` there is
    exactly one callback with `m = min c maxLen` whose segment `sa[lo:hi]` contains both. -/
theorem C10_positions_complete_unique (h : IsSuffixArray t sa) {minLen maxLen : Int} (hmin : 0 ≤ minLen)
    (hmm : minLen ≤ maxLen) (hmax : maxLen ≤ 2147483647) {cbs : List Callback}
    (hs : segmentsOf t sa minLen maxLen = some cbs) {p q : Nat} (hp : p < t.length) (hq : q < t.length)
    (hpq : p ≠ q) (hc : minLen ≤ (lcpLen (t.drop p) (t.drop q) : Int)) :
    ∃ cb : Callback, (cb ∈ cbs ∧ cb.1 = min (lcpLen (t.drop p) (t.drop q)) maxLen.toNat ∧
        p ∈ segmentOf sa cb.2.1 cb.2.2 ∧ q ∈ segmentOf sa cb.2.1 cb.2.2) ∧
      ∀ cb' : Callback, (cb' ∈ cbs ∧ cb'.1 = min (lcpLen (t.drop p) (t.drop q)) maxLen.toNat ∧
        p ∈ segmentOf sa cb'.2.1 cb'.2.2 ∧ q ∈ segmentOf sa cb'.2.1 cb'.2.2) → cb' = cb :=
  (segmentsOf_reports_of_bound h (Or.inr hmax) hmin hmm hs).positions_complete_unique h hp hq hpq
    (by omega)

/-- C10 in terms of text positions (soundness). Every callback `(m, lo, hi)` has
    `minLen ≤ m ≤ maxLen`; its segment `sa[lo:hi]` is a non-empty list of distinct positions whose
    suffixes all have at least `m` bytes and agree on their first `m` bytes; and no position outside
    the segment shares `m` bytes with a position inside (the group is complete). -/
theorem C10_positions_sound (h : IsSuffixArray t sa) {minLen maxLen : Int} (hmin : 0 ≤ minLen)
    (hmm : minLen ≤ maxLen) (hmax : maxLen ≤ 2147483647) {cbs : List Callback}
    (hs : segmentsOf t sa minLen maxLen = some cbs) {m lo hi : Nat} (hcb : (m, lo, hi) ∈ cbs) :
    minLen ≤ (m : Int) ∧ (m : Int) ≤ maxLen ∧
    (segmentOf sa lo hi).Nodup ∧ (segmentOf sa lo hi).length = hi - lo ∧ 0 < hi - lo ∧
    (∀ p ∈ segmentOf sa lo hi, p < t.length ∧ m ≤ (t.drop p).length) ∧
    (∀ p ∈ segmentOf sa lo hi, ∀ q ∈ segmentOf sa lo hi, (t.drop p).take m = (t.drop q).take m) ∧
    (∀ p ∈ segmentOf sa lo hi, ∀ r, r < t.length → r ∉ segmentOf sa lo hi →
      lcpLen (t.drop p) (t.drop r) < m) := by
  obtain ⟨s1, s2, s3⟩ :=
    (segmentsOf_reports_of_bound h (Or.inr hmax) hmin hmm hs).positions_sound h hcb
  exact ⟨by omega, by omega, s3⟩

end Groups

-- non-vacuity: "banana", minLen = 1, maxLen = 10: groups "a…" (ranks 0-2), "ana…" (1-2), "na…" (4-5)
example : segmentsOf [98,97,110,97,110,97] [5,3,1,0,4,2] 1 10 = some [(3,1,3),(1,0,3),(2,4,6)] := by
  have e : lcpKasai [98,97,110,97,110,97] #[5,3,1,0,4,2] (invertSA #[5,3,1,0,4,2]) = #[0,1,3,0,0,2] := by
    decide
  simp [segmentsOf, segments, e, scanLCP, scanFrom, popLoop, Int.min_def]

/-! ## axioms -/

#print axioms lexLe_isTotalOrder
#print axioms le_lcpLen_iff
#print axioms lcpLen_take
#print axioms lcpLen_append
#print axioms lcpLen_maximal
#print axioms suffixes_distinct
#print axioms sandwich
#print axioms sandwich_eq
#print axioms saSpec_isSuffixArray
#print axioms suffixArray_unique
#print axioms isSuffixArray_iff_eq_saSpec
#print axioms isSuffixArray_strict
#print axioms checkSA_iff
#print axioms checkSA_eq_saSpec
#print axioms invertSA_get_sa
#print axioms sa_get_invertSA
#print axioms invertSA_size_eq
#print axioms kasai_key
#print axioms kasai_correct
#print axioms kasai_correct_any_init
#print axioms kasai_no_panic
#print axioms kasai_entries
#print axioms lcp_of_saSpec
#print axioms lcpSpec_le
#print axioms scanLCP_spec
#print axioms scanLCP_reports
#print axioms scan_exact
#print axioms scan_nodup
#print axioms scan_sound
#print axioms scan_complete_unique
#print axioms scan_complete_count
#print axioms scan_value_le
#print axioms scan_children_first
#print axioms scan_children_first_split
#print axioms scan_root
#print axioms segments_some
#print axioms segments_empty
#print axioms segments_maxLen_lt
#print axioms scanLCP_empty
#print axioms segmentsOf_saSpec_some
#print axioms scanLCPOld_witness
#print axioms scanLCPOld_incomplete
#print axioms scanLCPOld_witness'
#print axioms lcp_range_min
#print axioms segments_eq
#print axioms segments32_eq
#print axioms segments_reports
#print axioms segmentsOf_reports
#print axioms segmentsOf_reports_of_bound
#print axioms Reports.complete_unique
#print axioms Reports.children_first
#print axioms Reports.groups_sound
#print axioms Reports.groups_complete_unique
#print axioms Reports.groups_complete_unique_sym
#print axioms Reports.positions_complete_unique
#print axioms Reports.positions_sound
#print axioms C10_groups_sound
#print axioms C10_groups_complete_unique
#print axioms C10_groups_children_first
#print axioms C10_positions_complete_unique
#print axioms C10_positions_sound

end LZ
