/-
  LzProofs.GenDecoderProps — the Decoder layer of decoder_buffer.go (`DecoderBuffer.WriteTo`, `(*Decoder).Flush`,
  `Reset`, `WriteByte`, `Write`, `WriteBlock`: the retry loops repaired for defect D12) as TRANSLATED by
  `tools/extract` (code_iface.go; module LzModel/Generated/CodeDecoder.lean) equals the hand-written
  executable model (LzModel/DecBuf.lean: `Decoder.writeTo/flush/reset/writeByte/write/writeBlock`).

  The destination `io.Writer` is an interface value: in the translation it is an abstract state of type `io_Writer`
  (a type parameter) and `w.Write(p)` is the opaque state-passing parameter
      io_Writer_Write : io_Writer → Slice → Res (io_Writer × Int × Err).
  Here it is instantiated with the model's scripted writer: `io_Writer := LZ.Writer` (script of responses + bytes
  accepted so far), `io_Writer_Write := mWrite` (`Writer.write` on the bytes of the slice, never panics).  Every
  theorem quantifies over ALL writer scripts (short writes, errors at any call), all growth functions `g` with
  `GrowOK g`, all bytes / blocks (valid or not).

  Abstraction: `absD gd = { buf := ofDB gd.buf, w := gd.w }` (`ofDB` from GenBufPropsD), `Rep gd d := absD gd = d ∧
  DBWF gd.buf`; errors by the total map `genErr : LZ.Err → Gen.Err` (inverse of `GenBuf.errOf` where that is defined;
  `.shortWrite ↦ io_ErrShortWrite`, `.writer c ↦ Err.error (3001 + 2c)` — distinct from nil and all error variables).

  Hang marker / fuel.  The model's retry loops return `hangErr` in the branch in which the Go loop would spin
  forever; the translated loops are fuel-indexed.  The `*_loop_eq` lemmas show "translated loop = model recursion" by
  the induction rules of the hand model (`Decoder.writeByte_ind`, `write_ind`, `writeBlock_ind`, DecoderLemmas.lean),
  in which the spinning branches no longer occur (C06), so the ONLY hypothesis on the state is `DecBuf.Inv d.buf`
  (`r ≤ |data| ∧ ws < bs ∧ |data| ≤ bs`, established by Init, preserved by every operation).  Fuel: `WriteByte`
  explicit (`d.unflushed < fuel`); `Write`, `WriteBlock`: `∃ N, ∀ fuel ≥ N` with `N` depending on the MODEL state and
  input only (not on the representation `gd`) — fuel is an artefact of the translation of loops.

  Lemmas that follow the generated text (first to break when decoder_buffer.go changes): `writeByte_loop_step`,
  `write_loop_step`, `writeBlock_loop_step` (one iteration of each retry loop in terms of the model operations).

  Shape independence.  The loop functions are never applied positionally: `wbLoop`, `wLoop`,
  `wkLoop` call them BY NAME of the Go variables (`gcall%` / `gproj%` below) and return the result in a fixed order,
  so the order / number of the loop-state components and whether the named result `err` is captured, carried or
  absent do not matter; `decoder_writeByte_eq`, `decoder_write_eq`, `decoder_writeBlock_eq` connect the translated
  methods with these wrappers.  The step lemmas unfold the loop function, rewrite each callee by its specification
  (`d.buf.WriteTo(d.w)` or `d.Flush()`: `rep_flush`), decide arithmetic conditions by `omega` whatever their spelling
  (`rw [if_pos (by omega)]`, `slice_okI … (by omega)`), error comparisons by `simp` with `genErr_*_iff` (both operand
  orders), and leave the value of the carried `err` existential (`∃ err'`, closed by `loop_step_close`).
-/
import LzProofs.GenCallByName
import LzModel.Generated.CodeDecoder
import LzProofs.GenBufPropsDCopy
import LzProofs.DecoderProps

set_option linter.unusedSimpArgs false
set_option linter.unusedVariables false

namespace LZ.GenDec
open LZ LZ.Gen LZ.GenBuf

/-! ## calling a generated loop function BY NAME

The translator emits one recursive function per Go loop; its explicit arguments are the read-only captured variables
(parameters before the colon), the fuel, and the loop STATE (the variables assigned in the loop) — the order and the
number of the state components follow the Go text (first assignment), the result is `(exit, state…)` in the same order.
A harmless rewrite (a local declared inside instead of outside the loop, two independent statements swapped, a named
result that is no longer shadowed) changes that order/arity.  So the lemmas below never apply a loop function
positionally: `gcall% f [x := e, …]` builds the application from the GO VARIABLE NAMES (read off the defining equation
of `f`: header binders and the pattern variables of the last `match` alternative), `gproj% f x r` is the component of
the result tuple `r` that belongs to the state variable `x`.  Names that `f` does not have are ignored (a variable that
is no longer captured), arguments that are not given are `_` (an error unless unification finds them).  Both are pure
notation: the elaborated term is an ordinary application / projection checked by the kernel. -/
-- (`gcall%` / `gproj%` live in LzProofs/GenCallByName.lean, shared with the OSAP modules)

theorem bind_eq_ok {α β : Type} {m : Res α} {f : α → Res β} {b : β} (h : Res.bind m f = Res.ok b) :
    ∃ a, m = Res.ok a ∧ f a = Res.ok b :=
  GenBuf.bind_eq_ok h

/-! ## errors, the scripted writer as the opaque callee -/

/-- the generated error value that stands for a model error (total; the inverse of `GenBuf.errOf` where
    that is defined).  Errors of the writer script (`.writer c`) are arbitrary values that differ from
    `nil` and from every error variable. -/
def genErr : LZ.Err → Gen.Err
  | .ok => Gen.Err.ok
  | .empty => Gen.ErrEmptyBuffer
  | .full => Gen.ErrFullBuffer
  | .eof => Gen.io_EOF
  | .outOfBuffer => Gen.ErrOutOfBuffer
  | .endOfBuffer => Gen.ErrEndOfBuffer
  | .litLen => Gen.errLitLen
  | .matchLen => Gen.errMatchLen
  | .offset => Gen.errOffset
  | .shortWrite => Gen.io_ErrShortWrite
  | .oversize => Gen.Err.error 2901
  | .cfg => Gen.Err.error 2902
  | .panic => Gen.Err.error 2903
  | .reader c => Gen.Err.error (3000 + 2 * c)
  | .writer c => Gen.Err.error (3001 + 2 * c)

theorem genErr_ok_iff (e : LZ.Err) : genErr e = Gen.Err.ok ↔ e = .ok := by
  cases e <;> simp [genErr, Gen.ErrEmptyBuffer, Gen.ErrFullBuffer, Gen.io_EOF, Gen.ErrOutOfBuffer, Gen.ErrEndOfBuffer,
    Gen.errLitLen, Gen.errMatchLen, Gen.errOffset, Gen.io_ErrShortWrite]

theorem genErr_full_iff (e : LZ.Err) : genErr e = Gen.ErrFullBuffer ↔ e = .full := by
  cases e <;> simp [genErr, Gen.ErrEmptyBuffer, Gen.ErrFullBuffer, Gen.io_EOF, Gen.ErrOutOfBuffer, Gen.ErrEndOfBuffer,
    Gen.errLitLen, Gen.errMatchLen, Gen.errOffset, Gen.io_ErrShortWrite] <;> omega

theorem genErr_ok_iff' (e : LZ.Err) : Gen.Err.ok = genErr e ↔ e = .ok := by
  rw [eq_comm]; exact genErr_ok_iff e

theorem genErr_full_iff' (e : LZ.Err) : Gen.ErrFullBuffer = genErr e ↔ e = .full := by
  rw [eq_comm]; exact genErr_full_iff e

theorem genErr_of_errOf {e : Gen.Err} {m : LZ.Err} (h : errOf e = some m) : e = genErr m := by
  unfold errOf at h
  iterate 7 (obtain ⟨rfl, rfl⟩ | h := ite_eq_some h; · rfl)
  cases h

/-- the scripted writer of the model (LzModel/DecBuf.lean: `Writer.write`) as the opaque callee
    `io_Writer_Write` of the translated code: state = the script, it never panics -/
def mWrite (w : Writer) (p : Slice) : Res (Writer × Int × Gen.Err) :=
  Res.ok ((w.write p.data).1, ((w.write p.data).2.1 : Int), genErr (w.write p.data).2.2)

def absD (gd : Gen.Decoder Writer) : LZ.Decoder := { buf := ofDB gd.buf, w := gd.w }

def Rep (gd : Gen.Decoder Writer) (d : LZ.Decoder) : Prop := absD gd = d ∧ DBWF gd.buf

/-- `DecoderBuffer.WriteTo(w)` -/
theorem gen_dbuf_writeTo (b : DecoderBuffer) (h : DBWF b) (hr : b.R ≤ b.Data.len) (w : Writer) :
    ∃ b', DecoderBuffer_WriteTo mWrite b w =
        Res.ok (b', (Decoder.writeTo ⟨ofDB b, w⟩).1.w, ((Decoder.writeTo ⟨ofDB b, w⟩).2.1 : Int),
          genErr (Decoder.writeTo ⟨ofDB b, w⟩).2.2) ∧
      ofDB b' = (Decoder.writeTo ⟨ofDB b, w⟩).1.buf ∧ DBWF b' := by
  obtain ⟨hd, hr0, ho0, hw0, hb0⟩ := h
  have hswf : b.Data.len ≤ b.Data.arr.length := hd
  obtain ⟨r, hrr⟩ : ∃ r : Nat, b.R = (r : Int) := ⟨b.R.toNat, by omega⟩
  have hrl : r ≤ b.Data.len := by omega
  unfold DecoderBuffer_WriteTo
  simp only [Int.ofNat_eq_natCast]
  rw [slice_okI b.Data _ _ r b.Data.len (by omega) (by omega) hrl hswf]
  simp only [bind_ok, mWrite]
  have hpd : ({ arr := b.Data.arr.drop r, len := b.Data.len - r } : Slice).data = (ofDB b).data.drop (ofDB b).r := by
    rw [(slice_from b.Data hd r hrl).2]
    simp only [ofDB, hrr, Int.toNat_natCast]
  have hpl : ((ofDB b).data.drop (ofDB b).r).length = b.Data.len - r := by
    simp only [ofDB, hrr, Int.toNat_natCast, List.length_drop, data_length hd]
  rw [hpd]
  unfold Decoder.writeTo
  simp only []
  generalize hwr : w.write ((ofDB b).data.drop (ofDB b).r) = wr
  have hk := (Decoder.writer_write_spec w ((ofDB b).data.drop (ofDB b).r)).1
  rw [hwr, hpl] at hk
  obtain ⟨w', k, e⟩ := wr
  simp only [] at hk ⊢
  refine ⟨{ b with R := b.R + (k : Int) }, ?_, ?_, ⟨hd, by show (0 : Int) ≤ b.R + (k : Int); omega, ho0, hw0, hb0⟩⟩
  · congr 1
    simp only [Prod.mk.injEq, true_and]
    -- the error component: the test `err == nil && k < len(p)` in any spelling / order of the conjuncts
    by_cases he : e = Err.ok <;> by_cases hk' : k < b.Data.len - r <;>
      simp only [he, hk', hpl, genErr_ok_iff, genErr_ok_iff', Int.ofNat_lt, gt_iff_lt, and_self, and_true, true_and,
        and_false, false_and, if_true, if_false] <;> rfl
  · simp only [ofDB, hrr]
    congr 1 <;> omega

theorem inv_r_le {b : DecoderBuffer} (h : DBWF b) (hinv : DecBuf.Inv (ofDB b)) : b.R ≤ b.Data.len := by
  have h1 := hinv.1
  have h2 := h.r
  simp only [ofDB, data_length h.data] at h1
  omega

/-- `d.buf.WriteTo(d.w)` and `d.Flush()` on a represented decoder: both spellings of the call give the same decoder -/
theorem rep_flush {gd : Gen.Decoder Writer} {d : LZ.Decoder} (hrep : Rep gd d) (hinv : DecBuf.Inv d.buf) :
    ∃ gd' : Gen.Decoder Writer, DecoderBuffer_WriteTo mWrite gd.buf gd.w =
        Res.ok (gd'.buf, gd'.w, (d.writeTo.2.1 : Int), genErr d.writeTo.2.2) ∧
      Decoder_Flush mWrite gd = Res.ok (gd', genErr d.writeTo.2.2) ∧ Rep gd' d.writeTo.1 := by
  obtain ⟨habs, hwf⟩ := hrep
  subst habs
  obtain ⟨b', e1, e2, e3⟩ := gen_dbuf_writeTo gd.buf hwf (inv_r_le hwf hinv) gd.w
  refine ⟨⟨b', (Decoder.writeTo ⟨ofDB gd.buf, gd.w⟩).1.w⟩, e1, ?_, ?_, e3⟩
  · unfold Decoder_Flush
    rw [e1]
    rfl
  · simp only [absD, e2]

/-- **`(*Decoder).Flush`**: translated = model, for every writer script -/
theorem gen_decoder_flush {gd : Gen.Decoder Writer} {d : LZ.Decoder} (hrep : Rep gd d) (hinv : DecBuf.Inv d.buf) :
    ∃ gd', Decoder_Flush mWrite gd = Res.ok (gd', genErr d.flush.2) ∧ Rep gd' d.flush.1 := by
  obtain ⟨gd', -, e, r⟩ := rep_flush hrep hinv
  exact ⟨gd', e, r⟩

/-- **`(*Decoder).Reset`** -/
theorem gen_decoder_reset {gd : Gen.Decoder Writer} {d : LZ.Decoder} (hrep : Rep gd d) (w : Writer) :
    ∃ gd', Decoder_Reset gd w = Res.ok gd' ∧ Rep gd' (d.reset w) := by
  obtain ⟨habs, hwf⟩ := hrep
  subst habs
  obtain ⟨b', e1, e2, e3⟩ := gen_dbuf_reset gd.buf hwf
  refine ⟨⟨b', w⟩, ?_, ?_, e3⟩
  · unfold Decoder_Reset
    rw [e1]; rfl
  · simp only [absD, Decoder.reset, e2]

/-- **`(*Decoder).Init`**: `DecoderBuffer.Init` (D01) followed by `d.w = w`; on a rejected configuration the
    decoder is unchanged and the error is not nil -/
theorem gen_decoder_init (gd : Gen.Decoder Writer) (w : Writer) (cfg : Gen.DecoderConfig) :
    match DecBuf.init cfg.WindowSize cfg.BufferSize gd.buf.Data.cap with
    | some m => ∃ gd', Decoder_Init gd w cfg = Res.ok (gd', Gen.Err.ok) ∧ Rep gd' { buf := m, w := w }
    | none => ∃ e, Decoder_Init gd w cfg = Res.ok (gd, e) ∧ e ≠ Gen.Err.ok := by
  have h := gen_dbuf_init gd.buf cfg
  split at h
  · next m hm =>
    obtain ⟨b', e1, e2, e3⟩ := h
    simp only [hm]
    refine ⟨⟨b', w⟩, ?_, ?_, e3⟩
    · unfold Decoder_Init
      rw [e1]; rfl
    · simp only [absD, e2]
  · next hm =>
    obtain ⟨e, e1, e2⟩ := h
    simp only [hm]
    refine ⟨e, ?_, e2⟩
    unfold Decoder_Init
    rw [e1]
    simp only [bind_ok, e2, ne_eq, not_false_eq_true, if_true, if_false]

/-! ## WriteByte -/

/-- `DecoderBuffer.WriteByte` on a represented decoder -/
theorem rep_buf_writeByte (g : Grow) (hg : GrowOK g) {gd : Gen.Decoder Writer} {d : LZ.Decoder} (hrep : Rep gd d) (c : UInt8) :
    ∃ b', DecoderBuffer_WriteByte g gd.buf c = Res.ok (b', genErr (d.buf.writeByte g c).2) ∧
      Rep ⟨b', gd.w⟩ { d with buf := (d.buf.writeByte g c).1 } := by
  obtain ⟨habs, hwf⟩ := hrep
  subst habs
  obtain ⟨b', e, e1, e2, e3, e4⟩ := gen_dbuf_writeByte g hg gd.buf hwf c
  refine ⟨b', ?_, ?_, e4⟩
  · rw [e1, genErr_of_errOf e3]; rfl
  · simp only [absD, e2]

/-- closes `∃ err', lhs = rhs` at the end of a loop-step lemma: `err'` is whatever the recursive call carries (found by
    unification), or irrelevant -/
macro "loop_step_close" : tactic =>
  `(tactic| first | exact ⟨_, rfl⟩ | exact ⟨Gen.Err.ok, rfl⟩ | exact ⟨Gen.Err.ok, trivial⟩)

/-- the retry loop of `WriteByte`, called by name (`err` is ignored when the loop does not carry it), with the result
    in the fixed order (exit, d, ret_1) -/
def wbLoop (g : Grow) (c : UInt8) (fuel : Nat) (gd : Gen.Decoder Writer) (err ret : Gen.Err) :
    Res (Nat × Gen.Decoder Writer × Gen.Err) :=
  Res.bind (gcall% Decoder_WriteByte_loop_1 [grow := g, io_Writer_Write := mWrite, c := c, fuel := fuel, d := gd,
      err := err, ret_1 := ret])
    fun r => Res.ok (r.1, gproj% Decoder_WriteByte_loop_1 d r, gproj% Decoder_WriteByte_loop_1 ret_1 r)

/-- `Decoder_WriteByte` = its loop + `return ret_1` -/
theorem decoder_writeByte_eq (g : Grow) (fuel : Nat) (gd : Gen.Decoder Writer) (c : UInt8) :
    Decoder_WriteByte g fuel mWrite gd c =
      Res.bind (wbLoop g c fuel gd Gen.Err.ok Gen.Err.ok) fun r => Res.ok (r.2.1, r.2.2) := by
  unfold Decoder_WriteByte wbLoop
  simp only [bind_bind, bind_ok]

/-- one iteration of the retry loop of `WriteByte`, one conjunct per case of `Decoder.writeByte_ind` -/
theorem writeByte_loop_step (g : Grow) (hg : GrowOK g) {gd : Gen.Decoder Writer} {d : LZ.Decoder} (hrep : Rep gd d)
    (hinv : DecBuf.Inv d.buf) (c : UInt8) :
    let d1 : LZ.Decoder := { d with buf := (d.buf.writeByte g c).1 }
    let e := (d.buf.writeByte g c).2
    ∃ gd1 gd2, Rep gd1 d1 ∧ Rep gd2 d1.writeTo.1 ∧
      ∀ (f : Nat) (err ret : Gen.Err),
        (e ≠ .full → wbLoop g c (f + 1) gd err ret = Res.ok (1, gd1, genErr e)) ∧
        (e = .full → d1.writeTo.2.2 ≠ .ok → wbLoop g c (f + 1) gd err ret = Res.ok (1, gd2, genErr d1.writeTo.2.2)) ∧
        (e = .full → d1.writeTo.2.2 = .ok → ∃ err', wbLoop g c (f + 1) gd err ret = wbLoop g c f gd2 err' ret) := by
  intro d1 e
  obtain ⟨b', e1, e2⟩ := rep_buf_writeByte g hg hrep c
  have hinv1 : DecBuf.Inv d1.buf := (C06_buf_writeByte_inv g d.buf c hinv).1
  obtain ⟨gd2, f1, fl1, f2⟩ := rep_flush e2 hinv1
  refine ⟨⟨b', gd.w⟩, gd2, e2, f2, ?_⟩
  intro f err ret
  unfold wbLoop
  rw [Decoder_WriteByte_loop_1]
  rw [e1]
  simp only [bind_ok]
  refine ⟨fun h1 => ?_, fun h1 h2 => ?_, fun h1 h2 => ?_⟩
  · simp only [e] at h1
    simp only [e, h1, ne_eq, genErr_full_iff, genErr_full_iff', genErr_ok_iff, genErr_ok_iff', not_true_eq_false,
      not_false_eq_true, if_true, if_false, bind_ok]
  all_goals
    simp only [e] at h1
    simp only [e, h1, ne_eq, genErr_full_iff, genErr_full_iff', genErr_ok_iff, genErr_ok_iff', not_true_eq_false,
      not_false_eq_true, if_true, if_false]
    simp only [] at f1
    first | rw [f1] | rw [fl1]
    simp only [bind_ok]
    simp only [d1] at h2
  · simp only [d1, h2, ne_eq, genErr_full_iff, genErr_full_iff', genErr_ok_iff, genErr_ok_iff', not_true_eq_false,
      not_false_eq_true, if_true, if_false, bind_ok]
  · simp only [d1, h2, ne_eq, genErr_full_iff, genErr_full_iff', genErr_ok_iff, genErr_ok_iff', not_true_eq_false,
      not_false_eq_true, if_true, if_false, reduceCtorEq]
    loop_step_close

/-- the retry loop of `WriteByte` = the model's recursion, for every fuel above the number of unflushed bytes: the
    cases of `Decoder.writeByte_ind`, each a conjunct of `writeByte_loop_step` -/
theorem writeByte_loop_eq (g : Grow) (hg : GrowOK g) (c : UInt8) (d : LZ.Decoder) (hinv : DecBuf.Inv d.buf) :
    ∀ (gd : Gen.Decoder Writer), Rep gd d → ∀ (fuel : Nat), d.unflushed < fuel →
    ∀ (err ret : Gen.Err), ∃ gd', wbLoop g c fuel gd err ret =
        Res.ok (1, gd', genErr (d.writeByte g c).2) ∧ Rep gd' (d.writeByte g c).1 := by
  refine Decoder.writeByte_ind g c (motive := fun d r => ∀ (gd : Gen.Decoder Writer), Rep gd d → ∀ (fuel : Nat),
    d.unflushed < fuel → ∀ (err ret : Gen.Err), ∃ gd', wbLoop g c fuel gd err ret = Res.ok (1, gd', genErr r.2) ∧
      Rep gd' r.1) ?_ ?_ ?_ d hinv
  · intro d b' hinv hb _ gd hrep fuel hf err ret
    obtain ⟨f, rfl⟩ : ∃ f, fuel = f + 1 := ⟨fuel - 1, by omega⟩
    obtain ⟨gd1, gd2, r1, r2, hstep⟩ := writeByte_loop_step g hg hrep hinv c
    rw [hb] at hstep r1
    exact ⟨gd1, (hstep f err ret).1 nofun, r1⟩
  · intro d b' d2 f' e2 hinv hb _ hw hne gd hrep fuel hf err ret
    obtain ⟨f, rfl⟩ : ∃ f, fuel = f + 1 := ⟨fuel - 1, by omega⟩
    obtain ⟨gd1, gd2, r1, r2, hstep⟩ := writeByte_loop_step g hg hrep hinv c
    rw [hb, hw] at hstep r2
    exact ⟨gd2, (hstep f err ret).2.1 rfl hne, r2⟩
  · intro d b' d2 f' r hinv hb _ hw hprog ih gd hrep fuel hf err ret
    obtain ⟨f, rfl⟩ : ∃ f, fuel = f + 1 := ⟨fuel - 1, by omega⟩
    obtain ⟨gd1, gd2, r1, r2, hstep⟩ := writeByte_loop_step g hg hrep hinv c
    rw [hb, hw] at hstep r2
    obtain ⟨err', hs⟩ := (hstep f err ret).2.2 rfl rfl
    rw [hs]
    exact ih gd2 r2 f (by omega) _ _

/-- **`(*Decoder).WriteByte`**: translated = model for every writer script, every growth function, every fuel
    above the number of unflushed bytes.  The only hypothesis on the state is `DecBuf.Inv` (C06: no hang). -/
theorem gen_decoder_writeByte (g : Grow) (hg : GrowOK g) {gd : Gen.Decoder Writer} {d : LZ.Decoder} (hrep : Rep gd d)
    (hinv : DecBuf.Inv d.buf) (c : UInt8) (fuel : Nat) (hf : d.unflushed < fuel) :
    ∃ gd', Decoder_WriteByte g fuel mWrite gd c = Res.ok (gd', genErr (d.writeByte g c).2) ∧
      Rep gd' (d.writeByte g c).1 := by
  obtain ⟨gd', h1, h2⟩ := writeByte_loop_eq g hg c d hinv gd hrep fuel hf Gen.Err.ok Gen.Err.ok
  refine ⟨gd', ?_, h2⟩
  rw [decoder_writeByte_eq, h1]
  rfl

/-! ## Write -/

/-- `DecoderBuffer.Write` on a represented decoder -/
theorem rep_buf_write (g : Grow) (hg : GrowOK g) {gd : Gen.Decoder Writer} {d : LZ.Decoder} (hrep : Rep gd d)
    (q : Slice) (hq : SWF q) :
    ∃ b', DecoderBuffer_Write g gd.buf q = Res.ok (b', ((d.buf.write g q.data).2.1 : Int), genErr (d.buf.write g q.data).2.2) ∧
      Rep ⟨b', gd.w⟩ { d with buf := (d.buf.write g q.data).1 } := by
  obtain ⟨habs, hwf⟩ := hrep
  subst habs
  obtain ⟨b', e, e1, e2, e3, e4⟩ := gen_dbuf_write g hg gd.buf hwf q hq
  refine ⟨b', ?_, ?_, e4⟩
  · rw [e1, genErr_of_errOf e3]; rfl
  · simp only [absD, e2]

/-- the loop of `Write`, called by name (`err`: the named result, captured or carried by the loop or neither), with
    the result in the fixed order (exit, d, n, p, ret_1, ret_2) -/
def wLoop (g : Grow) (fuel : Nat) (gd : Gen.Decoder Writer) (n : Int) (ps : Slice) (err : Gen.Err) (r1 : Int)
    (r2 : Gen.Err) : Res (Nat × Gen.Decoder Writer × Int × Slice × Int × Gen.Err) :=
  Res.bind (gcall% Decoder_Write_loop_1 [grow := g, io_Writer_Write := mWrite, err := err, fuel := fuel, d := gd,
      n := n, p := ps, ret_1 := r1, ret_2 := r2])
    fun r => Res.ok (r.1, gproj% Decoder_Write_loop_1 d r, gproj% Decoder_Write_loop_1 n r,
      gproj% Decoder_Write_loop_1 p r, gproj% Decoder_Write_loop_1 ret_1 r, gproj% Decoder_Write_loop_1 ret_2 r)

/-- what `Decoder_Write` does with the result of its loop (exit code 1 = `return n, err` inside the loop,
    0 = the loop ended: `return n, nil`) -/
def writeFin (r : Nat × Gen.Decoder Writer × Int × Slice × Int × Gen.Err) : Res (Gen.Decoder Writer × Int × Gen.Err) :=
  if r.1 = 1 then Res.ok (r.2.1, r.2.2.2.2.1, r.2.2.2.2.2) else Res.ok (r.2.1, r.2.2.1, Gen.Err.ok)

/-- `Decoder_Write` = its loop + `writeFin` -/
theorem decoder_write_eq (g : Grow) (fuel : Nat) (gd : Gen.Decoder Writer) (ps : Slice) :
    Decoder_Write g fuel mWrite gd ps = Res.bind (wLoop g fuel gd 0 ps Gen.Err.ok 0 Gen.Err.ok) writeFin := by
  unfold Decoder_Write wLoop
  simp only [bind_bind, bind_ok]
  apply bind_congr_ok
  intro r _
  unfold writeFin
  simp only []
  repeat' split
  all_goals first | rfl | omega

/-- one iteration of the loop of `Write`, one conjunct per case of `Decoder.write_ind` (a chunk goes in; the buffer
    is full and the flush fails; the buffer is full and the flush succeeds) -/
theorem write_loop_step (g : Grow) (hg : GrowOK g) {gd : Gen.Decoder Writer} {d : LZ.Decoder} (hrep : Rep gd d)
    (hinv : DecBuf.Inv d.buf) (ps : Slice) (hs : SWF ps) (p : List Byte) (hps : ps.data = p) (hne : p.length ≠ 0)
    (q : List Byte) (hq : q = if p.length > d.buf.bs - d.buf.ws then p.take (d.buf.bs - d.buf.ws) else p)
    (d1 : LZ.Decoder) (hd1 : d1 = { d with buf := (d.buf.write g q).1 }) :
    ∃ gd1 gd2 ps', Rep gd1 d1 ∧ Rep gd2 d1.writeTo.1 ∧ SWF ps' ∧ ps'.data = p.drop (d.buf.write g q).2.1 ∧
      ∀ (f : Nat) (err0 : Gen.Err) (n r1 : Int) (r2 : Gen.Err),
        ((d.buf.write g q).2.2 = .ok → ∃ err', wLoop g (f + 1) gd n ps err0 r1 r2 =
          wLoop g f gd1 (n + ((d.buf.write g q).2.1 : Int)) ps' err' r1 r2) ∧
        ((d.buf.write g q).2.2 = .full → d1.writeTo.2.2 ≠ .ok → wLoop g (f + 1) gd n ps err0 r1 r2 =
          Res.ok (1, gd2, n + ((d.buf.write g q).2.1 : Int), ps', n + ((d.buf.write g q).2.1 : Int), genErr d1.writeTo.2.2)) ∧
        ((d.buf.write g q).2.2 = .full → d1.writeTo.2.2 = .ok → ∃ err', wLoop g (f + 1) gd n ps err0 r1 r2 =
          wLoop g f gd2 (n + ((d.buf.write g q).2.1 : Int)) ps' err' r1 r2) ∧
        -- (`DecBuf.write` reports nothing else; the text returns any other error as it is)
        ((d.buf.write g q).2.2 ≠ .ok → (d.buf.write g q).2.2 ≠ .full → wLoop g (f + 1) gd n ps err0 r1 r2 =
          Res.ok (1, gd1, n + ((d.buf.write g q).2.1 : Int), ps', n + ((d.buf.write g q).2.1 : Int),
            genErr (d.buf.write g q).2.2)) := by
  subst hps
  have hl := data_length hs
  have hwf := hrep.2
  have habs := hrep.1
  have hswf : ps.len ≤ ps.arr.length := hs
  -- the configuration, for `omega`
  have hlt := hinv.2.1
  have hbs : gd.buf.DecoderConfig.BufferSize = (d.buf.bs : Int) := by
    have hb := hwf.bs
    simp only [← habs, absD, ofDB]; omega
  have hws : gd.buf.DecoderConfig.WindowSize = (d.buf.ws : Int) := by
    have hw := hwf.ws
    simp only [← habs, absD, ofDB]; omega
  -- the chunk, as a slice
  obtain ⟨qs, hqs, hq2, hq3⟩ : ∃ qs : Slice, (qs = if ps.len > d.buf.bs - d.buf.ws then
      { arr := ps.arr.drop 0, len := (d.buf.bs - d.buf.ws) - 0 } else ps) ∧ SWF qs ∧ qs.data = q := by
    refine ⟨_, rfl, ?_⟩
    rw [hq, hl]
    split
    · next hc => simpa only [List.drop_zero, Nat.sub_zero] using sub_spec ps hs 0 _ (Nat.zero_le _) (Nat.le_of_lt hc)
    · exact ⟨hs, rfl⟩
  obtain ⟨b', e1, e2⟩ := rep_buf_write g hg hrep qs hq2
  rw [hq3] at e1 e2
  rw [← hd1] at e2
  have hinv1 : DecBuf.Inv d1.buf := by rw [hd1]; exact (C06_buf_write_inv g d.buf q hinv).1
  obtain ⟨gd2, f1, fl1, f2⟩ := rep_flush e2 hinv1
  have hkq := DecBuf.write_le g d.buf q
  have hql : q.length ≤ ps.len := by
    rw [hq]; split
    · simp only [List.length_take]; omega
    · omega
  obtain ⟨hp2, hp3⟩ := slice_from ps hs (d.buf.write g q).2.1 (by omega)
  refine ⟨⟨b', gd.w⟩, gd2, _, e2, f2, hp2, hp3, ?_⟩
  intro f err0 n r1 r2
  unfold wLoop
  rw [Decoder_Write_loop_1]
  simp only [Int.ofNat_eq_natCast]
  -- the loop condition `len(p) > 0`
  rw [if_pos (by omega)]
  -- the chunk: the `if` is decided by arithmetic, in any spelling
  have hchunk : ∀ {β : Type} (X : Res Slice) (K : Slice → Res β), X = Res.ok qs → Res.bind X K = K qs := by
    intro β X K hX; rw [hX]; rfl
  rw [bind_bind, hchunk]
  rotate_left
  · by_cases hc : ps.len > d.buf.bs - d.buf.ws
    · rw [if_pos (by omega)]
      rw [slice_okI ps _ _ 0 (d.buf.bs - d.buf.ws) (by omega) (by omega) (by omega) (by omega)]
      simp only [bind_ok, hqs, hc, if_true]
    · rw [if_neg (by omega)]
      simp only [hqs, hc, if_false]
  rw [e1]
  simp only [bind_ok]
  rw [slice_okI ps _ _ (d.buf.write g q).2.1 ps.len (by omega) (by omega) (by omega) hswf]
  simp only [bind_ok]
  refine ⟨fun h0 => ?_, fun h1 h2 => ?_, fun h1 h2 => ?_, fun h0 h1 => ?_⟩
  · simp only [h0, ne_eq, genErr_full_iff, genErr_full_iff', genErr_ok_iff, genErr_ok_iff', not_true_eq_false,
      not_false_eq_true, if_true, if_false, reduceCtorEq]
    loop_step_close
  rotate_right
  · simp only [h0, h1, ne_eq, genErr_full_iff, genErr_full_iff', genErr_ok_iff, genErr_ok_iff', not_true_eq_false,
      not_false_eq_true, if_true, if_false, bind_ok]
  all_goals
    simp only [h1, ne_eq, genErr_full_iff, genErr_full_iff', genErr_ok_iff, genErr_ok_iff', not_true_eq_false,
      not_false_eq_true, if_true, if_false, reduceCtorEq]
    simp only [] at f1
    first | rw [f1] | rw [fl1]
    simp only [bind_ok]
  · simp only [h2, ne_eq, genErr_full_iff, genErr_full_iff', genErr_ok_iff, genErr_ok_iff', not_true_eq_false,
      not_false_eq_true, if_true, if_false, bind_ok]
  · simp only [h2, ne_eq, genErr_full_iff, genErr_full_iff', genErr_ok_iff, genErr_ok_iff', not_true_eq_false,
      not_false_eq_true, if_true, if_false, reduceCtorEq]
    loop_step_close

/-- the loop of `Write` followed by `writeFin` = the model's recursion, for every sufficient fuel (the bound `N`
    depends on the model state only): the cases of `Decoder.write_ind`, each a conjunct of `write_loop_step` -/
theorem write_loop_eq (g : Grow) (hg : GrowOK g) (d : LZ.Decoder) (p : List Byte) (acc : Nat) (hinv : DecBuf.Inv d.buf) :
    ∃ N, ∀ (gd : Gen.Decoder Writer), Rep gd d → ∀ (ps : Slice), SWF ps → ps.data = p →
    ∀ fuel, N ≤ fuel → ∀ (err0 : Gen.Err) (r1 : Int) (r2 : Gen.Err), ∃ gd',
      Res.bind (wLoop g fuel gd (acc : Int) ps err0 r1 r2) writeFin =
        Res.ok (gd', ((d.write g p acc).2.1 : Int), genErr (d.write g p acc).2.2) ∧ Rep gd' (d.write g p acc).1 := by
  refine Decoder.write_ind g (motive := fun d p acc r => ∃ N, ∀ (gd : Gen.Decoder Writer), Rep gd d → ∀ (ps : Slice),
    SWF ps → ps.data = p → ∀ fuel, N ≤ fuel → ∀ (err0 : Gen.Err) (r1 : Int) (r2 : Gen.Err), ∃ gd',
      Res.bind (wLoop g fuel gd (acc : Int) ps err0 r1 r2) writeFin = Res.ok (gd', (r.2.1 : Int), genErr r.2.2) ∧
        Rep gd' r.1) ?_ ?_ ?_ ?_ d p acc hinv
  · intro d acc _
    refine ⟨1, fun gd hrep ps hs hps fuel hf err0 r1 r2 => ?_⟩
    obtain ⟨f, rfl⟩ : ∃ f, fuel = f + 1 := ⟨fuel - 1, by omega⟩
    have hl := data_length hs
    rw [hps, List.length_nil] at hl
    unfold wLoop
    rw [Decoder_Write_loop_1]
    simp only [Int.ofNat_eq_natCast]
    rw [if_neg (by omega)]
    exact ⟨gd, rfl, hrep⟩
  · intro d p acc q b' r hinv hq hqne hb _ ⟨N, hN⟩
    have hp : p.length ≠ 0 := fun h0 => hqne (by rw [hq, List.eq_nil_of_length_eq_zero h0, List.take_nil])
    refine ⟨N + 1, fun gd hrep ps hs hps fuel hf err0 r1 r2 => ?_⟩
    obtain ⟨gd1, gd2, ps', q1, q2, hs', hps', hstep⟩ := write_loop_step g hg hrep hinv ps hs p hps hp q
      (hq.trans (Decoder.take_chunk p _).symm) { d with buf := b' } (by rw [hb])
    obtain ⟨f, rfl⟩ : ∃ f, fuel = f + 1 := ⟨fuel - 1, by omega⟩
    rw [hb] at hps' hstep
    obtain ⟨err', hs1⟩ := (hstep f err0 (acc : Int) r1 r2).1 rfl
    rw [hs1, ← Int.natCast_add]
    exact hN gd1 q1 ps' hs' hps' f (by omega) err' r1 r2
  · intro d p acc q b' d2 f' e2 hinv hpne hq hb _ _ hw hne2
    have hp : p.length ≠ 0 := fun h0 => hpne (List.eq_nil_of_length_eq_zero h0)
    refine ⟨1, fun gd hrep ps hs hps fuel hf err0 r1 r2 => ?_⟩
    obtain ⟨gd1, gd2, ps', q1, q2, hs', hps', hstep⟩ := write_loop_step g hg hrep hinv ps hs p hps hp q
      (hq.trans (Decoder.take_chunk p _).symm) { d with buf := b' } (by rw [hb])
    obtain ⟨f, rfl⟩ : ∃ f, fuel = f + 1 := ⟨fuel - 1, by omega⟩
    rw [hb, hw] at hstep
    rw [hw] at q2
    rw [(hstep f err0 (acc : Int) r1 r2).2.1 rfl hne2]
    exact ⟨gd2, by simp only [bind_ok, writeFin, if_true, Int.natCast_zero, Int.add_zero], q2⟩
  · intro d p acc q b' d2 f' r hinv hpne hq hb _ _ hw ⟨N, hN⟩
    have hp : p.length ≠ 0 := fun h0 => hpne (List.eq_nil_of_length_eq_zero h0)
    refine ⟨N + 1, fun gd hrep ps hs hps fuel hf err0 r1 r2 => ?_⟩
    obtain ⟨gd1, gd2, ps', q1, q2, hs', hps', hstep⟩ := write_loop_step g hg hrep hinv ps hs p hps hp q
      (hq.trans (Decoder.take_chunk p _).symm) { d with buf := b' } (by rw [hb])
    obtain ⟨f, rfl⟩ : ∃ f, fuel = f + 1 := ⟨fuel - 1, by omega⟩
    rw [hb, hw] at hstep
    rw [hb] at hps'
    rw [hw] at q2
    obtain ⟨err', hs1⟩ := (hstep f err0 (acc : Int) r1 r2).2.2.1 rfl rfl
    rw [hs1, Int.natCast_zero, Int.add_zero]
    exact hN gd2 q2 ps' hs' hps' f (by omega) err' r1 r2

/-- **`(*Decoder).Write`**: translated = model (`Decoder.write g d p 0`) for every writer script, every growth
    function and every sufficient fuel (`N` depends on the model state and the input only).  The only hypothesis
    on the state is `DecBuf.Inv` (C06: the model never reports a hang). -/
theorem gen_decoder_write (g : Grow) (hg : GrowOK g) (d : LZ.Decoder) (hinv : DecBuf.Inv d.buf) (p : List Byte) :
    ∃ N, ∀ (gd : Gen.Decoder Writer), Rep gd d → ∀ (ps : Slice), SWF ps → ps.data = p → ∀ fuel, N ≤ fuel →
      ∃ gd', Decoder_Write g fuel mWrite gd ps =
          Res.ok (gd', ((d.write g p 0).2.1 : Int), genErr (d.write g p 0).2.2) ∧
        Rep gd' (d.write g p 0).1 := by
  obtain ⟨N, hN⟩ := write_loop_eq g hg d p 0 hinv
  refine ⟨N, fun gd hrep ps hs hps fuel hf => ?_⟩
  obtain ⟨gd', h1, h2⟩ := hN gd hrep ps hs hps fuel hf Gen.Err.ok 0 Gen.Err.ok
  refine ⟨gd', ?_, h2⟩
  rw [decoder_write_eq]
  exact h1

/-! ## WriteBlock -/

/-- `DecoderBuffer.WriteBlock` on a represented decoder -/
theorem rep_buf_writeBlock (g : Grow) (hg : GrowOK g) {gd : Gen.Decoder Writer} {d : LZ.Decoder} (hrep : Rep gd d)
    (hinv : DecBuf.Inv d.buf) (blk : Block') (hl : SWF blk.Literals) (fuel : Nat) (hf : 4294967296 ≤ fuel) :
    ∃ b', DecoderBuffer_WriteBlock g fuel gd.buf blk =
        Res.ok (b', (d.buf.writeBlock g (ofBlock blk)).2.1, ((d.buf.writeBlock g (ofBlock blk)).2.2.1 : Int),
          ((d.buf.writeBlock g (ofBlock blk)).2.2.2.1 : Int), genErr (d.buf.writeBlock g (ofBlock blk)).2.2.2.2) ∧
      Rep ⟨b', gd.w⟩ { d with buf := (d.buf.writeBlock g (ofBlock blk)).1 } := by
  obtain ⟨habs, hwf⟩ := hrep
  subst habs
  have hml : ∀ s ∈ blk.Sequences, s.MatchLen.toNat < fuel := by
    intro s _
    have := s.MatchLen.toNat_lt
    omega
  obtain ⟨b', e, e1, e2, e3, e4, _⟩ := gen_dbuf_writeBlock g hg fuel gd.buf hwf ((lenInv_iff gd.buf hwf).mp hinv.2.2) blk hl hml
  refine ⟨b', ?_, ?_, e4⟩
  · rw [e1, genErr_of_errOf e3]; rfl
  · simp only [absD, e2]

/-- the retry loop of `WriteBlock`, called by name (`err`: the named result, captured or carried by the loop or
    neither), with the result in the fixed order (exit, d, n, k, l, blk, ret_1, ret_2, ret_3, ret_4) -/
def wkLoop (g : Grow) (fuel : Nat) (gd : Gen.Decoder Writer) (n k l : Int) (blk : Block') (err : Gen.Err)
    (r1 r2 r3 : Int) (r4 : Gen.Err) :
    Res (Nat × Gen.Decoder Writer × Int × Int × Int × Block' × Int × Int × Int × Gen.Err) :=
  Res.bind (gcall% Decoder_WriteBlock_loop_1 [grow := g, io_Writer_Write := mWrite, err := err, fuel := fuel, d := gd,
      n := n, k := k, l := l, blk := blk, ret_1 := r1, ret_2 := r2, ret_3 := r3, ret_4 := r4])
    fun r => Res.ok (r.1, gproj% Decoder_WriteBlock_loop_1 d r, gproj% Decoder_WriteBlock_loop_1 n r,
      gproj% Decoder_WriteBlock_loop_1 k r, gproj% Decoder_WriteBlock_loop_1 l r,
      gproj% Decoder_WriteBlock_loop_1 blk r, gproj% Decoder_WriteBlock_loop_1 ret_1 r,
      gproj% Decoder_WriteBlock_loop_1 ret_2 r, gproj% Decoder_WriteBlock_loop_1 ret_3 r,
      gproj% Decoder_WriteBlock_loop_1 ret_4 r)

/-- `Decoder_WriteBlock` = its loop + `return ret_1, ret_2, ret_3, ret_4` -/
theorem decoder_writeBlock_eq (g : Grow) (fuel : Nat) (gd : Gen.Decoder Writer) (blk : Block') :
    Decoder_WriteBlock g fuel mWrite gd blk =
      Res.bind (wkLoop g fuel gd 0 0 0 blk Gen.Err.ok 0 0 0 Gen.Err.ok) fun r =>
        Res.ok (r.2.1, r.2.2.2.2.2.2.1, r.2.2.2.2.2.2.2.1, r.2.2.2.2.2.2.2.2.1, r.2.2.2.2.2.2.2.2.2) := by
  unfold Decoder_WriteBlock wkLoop
  simp only [bind_bind, bind_ok]

/-- one iteration of the retry loop of `WriteBlock`, one conjunct per case of `Decoder.writeBlock_ind` -/
theorem writeBlock_loop_step (g : Grow) (hg : GrowOK g) {gd : Gen.Decoder Writer} {d : LZ.Decoder} (hrep : Rep gd d)
    (hinv : DecBuf.Inv d.buf) (blk : Block') (hl : SWF blk.Literals)
    (R : DecBuf × Int × Nat × Nat × LZ.Err) (hR : R = d.buf.writeBlock g (ofBlock blk))
    (W : LZ.Decoder × Nat × LZ.Err) (hW : W = Decoder.writeTo { d with buf := R.1 })
    (f : Nat) (hf : 4294967296 ≤ f) :
    ∃ gd1 gd2 blk', Rep gd1 { d with buf := R.1 } ∧ Rep gd2 W.1 ∧ SWF blk'.Literals ∧
      ofBlock blk' = ⟨(ofBlock blk).seqs.drop R.2.2.1, (ofBlock blk).lits.drop R.2.2.2.1⟩ ∧
      ∀ (err0 : Gen.Err) (n k l r1 r2 r3 : Int) (r4 : Gen.Err),
        (R.2.2.2.2 ≠ .full → wkLoop g (f + 1) gd n k l blk err0 r1 r2 r3 r4 =
          Res.ok (1, gd1, n + R.2.1, k + (R.2.2.1 : Int), l + (R.2.2.2.1 : Int), blk,
            n + R.2.1, k + (R.2.2.1 : Int), l + (R.2.2.2.1 : Int), genErr R.2.2.2.2)) ∧
        (R.2.2.2.2 = .full → ((ofBlock blk).seqs.drop R.2.2.1).length = 0 →
          wkLoop g (f + 1) gd n k l blk err0 r1 r2 r3 r4 =
            Res.bind (Decoder_Write g f mWrite gd1 blk'.Literals) fun r_4 =>
              Res.ok (1, r_4.1, n + R.2.1, k + (R.2.2.1 : Int), l + (R.2.2.2.1 : Int), blk',
                n + R.2.1 + r_4.2.1, k + (R.2.2.1 : Int), l + (R.2.2.2.1 : Int) + r_4.2.1, r_4.2.2)) ∧
        (R.2.2.2.2 = .full → ¬ ((ofBlock blk).seqs.drop R.2.2.1).length = 0 → W.2.2 ≠ .ok →
          wkLoop g (f + 1) gd n k l blk err0 r1 r2 r3 r4 =
            Res.ok (1, gd2, n + R.2.1, k + (R.2.2.1 : Int), l + (R.2.2.2.1 : Int), blk',
              n + R.2.1, k + (R.2.2.1 : Int), l + (R.2.2.2.1 : Int), genErr W.2.2)) ∧
        (R.2.2.2.2 = .full → ¬ ((ofBlock blk).seqs.drop R.2.2.1).length = 0 → W.2.2 = .ok → ∃ err',
          wkLoop g (f + 1) gd n k l blk err0 r1 r2 r3 r4 =
            wkLoop g f gd2 (n + R.2.1) (k + (R.2.2.1 : Int)) (l + (R.2.2.2.1 : Int)) blk' err' r1 r2 r3 r4) := by
  obtain ⟨_, st⟩ : ∃ x, DecBuf.BlockStep d.buf (ofBlock blk) R.1 R.2.1 R.2.2.1 R.2.2.2.1 R.2.2.2.2 x :=
    DecBuf.writeBlock_run g hinv _ hR.symm
  have hinv1 := st.step.inv
  have hkk := st.k_le
  have hll := st.l_le
  have hseql : (ofBlock blk).seqs.length = blk.Sequences.length := by simp only [ofBlock, List.length_map]
  have hlitl : (ofBlock blk).lits.length = blk.Literals.len := by simp only [ofBlock]; exact data_length hl
  rw [hseql] at hkk
  rw [hlitl] at hll
  have hswf : blk.Literals.len ≤ blk.Literals.arr.length := hl
  obtain ⟨hp2, hp3⟩ := slice_from blk.Literals hl R.2.2.2.1 hll
  obtain ⟨b', e1, e2⟩ := rep_buf_writeBlock g hg hrep hinv blk hl f hf
  rw [← hR] at e1 e2
  obtain ⟨gd2, f1, fl1, f2⟩ := rep_flush e2 hinv1
  rw [← hW] at f1 fl1 f2
  refine ⟨⟨b', gd.w⟩, gd2, (⟨blk.Sequences.drop R.2.2.1,
    ⟨blk.Literals.arr.drop R.2.2.2.1, blk.Literals.len - R.2.2.2.1⟩⟩ : Block'), e2, f2, hp2, ?_, ?_⟩
  · simp only [ofBlock, hp3, List.map_drop]
  intro err0 n k l r1 r2 r3 r4
  unfold wkLoop
  rw [Decoder_WriteBlock_loop_1]
  rw [e1]
  simp only [bind_ok]
  have hdrop : ((ofBlock blk).seqs.drop R.2.2.1).length = blk.Sequences.length - R.2.2.1 := by
    rw [List.length_drop, hseql]
  rw [hdrop]
  refine ⟨fun h1 => ?_, fun h1 h2 => ?_, fun h1 h2 h3 => ?_, fun h1 h2 h3 => ?_⟩
  · simp only [h1, ne_eq, genErr_full_iff, genErr_full_iff', genErr_ok_iff, genErr_ok_iff', not_true_eq_false,
      not_false_eq_true, if_true, if_false, bind_ok]
  all_goals
    simp only [h1, ne_eq, genErr_full_iff, genErr_full_iff', genErr_ok_iff, genErr_ok_iff', not_true_eq_false,
      not_false_eq_true, if_true, if_false, reduceCtorEq]
    rw [listSliceFrom_ok _ _ hkk]
    simp only [bind_ok, Int.ofNat_eq_natCast]
    rw [slice_okI blk.Literals _ _ R.2.2.2.1 blk.Literals.len (by omega) (by omega) (by omega) hswf]
    simp only [bind_ok, List.length_drop, hseql]
  · -- `len(blk.Sequences) == 0` in any spelling
    simp (disch := omega) only [h2, if_pos, if_true, bind_bind, bind_ok]
  all_goals
    simp (disch := omega) only [h2, if_neg, if_false]
    simp only [] at f1 fl1
    first | rw [f1] | rw [fl1]
    simp only [bind_ok]
  · simp only [h3, ne_eq, genErr_full_iff, genErr_full_iff', genErr_ok_iff, genErr_ok_iff', not_true_eq_false,
      not_false_eq_true, if_true, if_false, bind_ok]
  · simp only [h3, ne_eq, genErr_full_iff, genErr_full_iff', genErr_ok_iff, genErr_ok_iff', not_true_eq_false,
      not_false_eq_true, if_true, if_false, reduceCtorEq]
    loop_step_close

/-- the retry loop of `WriteBlock` = the model's recursion, for every sufficient fuel (`N` depends on the model
    state and the block only): the cases of `Decoder.writeBlock_ind`, each a conjunct of `writeBlock_loop_step` -/
theorem writeBlock_loop_eq (g : Grow) (hg : GrowOK g) (d : LZ.Decoder) (seqs : List LZ.Seq) (lits : List Byte)
    (n : Int) (k l : Nat) (hinv : DecBuf.Inv d.buf) :
    ∃ N, ∀ (gd : Gen.Decoder Writer), Rep gd d → ∀ (blk : Block'), SWF blk.Literals → ofBlock blk = ⟨seqs, lits⟩ →
    ∀ fuel, N ≤ fuel → ∀ (err0 : Gen.Err) (r1 r2 r3 : Int) (r4 : Gen.Err), ∃ gd' c n' k' l' blk',
      wkLoop g fuel gd n (k : Int) (l : Int) blk err0 r1 r2 r3 r4 =
        Res.ok (c, gd', n', k', l', blk', (d.writeBlock g seqs lits n k l).2.1, ((d.writeBlock g seqs lits n k l).2.2.1 : Int),
          ((d.writeBlock g seqs lits n k l).2.2.2.1 : Int), genErr (d.writeBlock g seqs lits n k l).2.2.2.2) ∧
      Rep gd' (d.writeBlock g seqs lits n k l).1 := by
  refine Decoder.writeBlock_ind g (motive := fun d seqs lits n k l r => ∃ N, ∀ (gd : Gen.Decoder Writer), Rep gd d →
    ∀ (blk : Block'), SWF blk.Literals → ofBlock blk = ⟨seqs, lits⟩ → ∀ fuel, N ≤ fuel →
    ∀ (err0 : Gen.Err) (r1 r2 r3 : Int) (r4 : Gen.Err), ∃ gd' c n' k' l' blk',
      wkLoop g fuel gd n (k : Int) (l : Int) blk err0 r1 r2 r3 r4 =
        Res.ok (c, gd', n', k', l', blk', r.2.1, (r.2.2.1 : Int), (r.2.2.2.1 : Int), genErr r.2.2.2.2) ∧ Rep gd' r.1)
    ?_ ?_ ?_ ?_ d seqs lits n k l hinv
  · intro d seqs lits n k l b' nn kk ll e x hinv hb _ he
    refine ⟨4294967297, fun gd hrep blk hl hob fuel hfu err0 r1 r2 r3 r4 => ?_⟩
    obtain ⟨f, rfl⟩ : ∃ f, fuel = f + 1 := ⟨fuel - 1, by omega⟩
    obtain ⟨gd1, gd2, blk', q1, q2, hl', hob', hstep⟩ :=
      writeBlock_loop_step g hg hrep hinv blk hl _ rfl _ rfl f (by omega)
    rw [hob, hb] at hstep q1
    exact ⟨gd1, _, _, _, _, _, (hstep err0 n (k : Int) (l : Int) r1 r2 r3 r4).1 he, q1⟩
  · intro d seqs lits n k l b' nn kk ll x d2 m e2 hinv hb hs hkk hw
    obtain ⟨Nw, hNw⟩ := gen_decoder_write g hg { d with buf := b' } hs.step.inv (lits.drop ll)
    refine ⟨Nw + 4294967297, fun gd hrep blk hl hob fuel hfu err0 r1 r2 r3 r4 => ?_⟩
    obtain ⟨f, rfl⟩ : ∃ f, fuel = f + 1 := ⟨fuel - 1, by omega⟩
    obtain ⟨gd1, gd2, blk', q1, q2, hl', hob', hstep⟩ :=
      writeBlock_loop_step g hg hrep hinv blk hl _ rfl _ rfl f (by omega)
    rw [hob, hb] at hstep q1 hob'
    have hs0 : (seqs.drop kk).length = 0 := by rw [hkk, List.drop_length]; rfl
    have hs1 := (hstep err0 n (k : Int) (l : Int) r1 r2 r3 r4).2.1 rfl hs0
    have hlit : blk'.Literals.data = lits.drop ll := by
      have := congrArg LZ.Block.lits hob'
      simpa only [ofBlock] using this
    obtain ⟨gd', w1, w2⟩ := hNw gd1 q1 blk'.Literals hl' hlit f (by omega)
    rw [hw] at w1 w2
    rw [w1] at hs1
    exact ⟨gd', _, _, _, _, _, hs1, w2⟩
  · intro d seqs lits n k l b' nn kk ll x d2 f' e2 hinv hb _ hkk hw hne2
    refine ⟨4294967297, fun gd hrep blk hl hob fuel hfu err0 r1 r2 r3 r4 => ?_⟩
    obtain ⟨f, rfl⟩ : ∃ f, fuel = f + 1 := ⟨fuel - 1, by omega⟩
    obtain ⟨gd1, gd2, blk', q1, q2, hl', hob', hstep⟩ :=
      writeBlock_loop_step g hg hrep hinv blk hl _ rfl _ rfl f (by omega)
    rw [hob, hb, hw] at hstep q2
    have hs0 : ¬ (seqs.drop kk).length = 0 := by rw [List.length_drop]; omega
    exact ⟨gd2, _, _, _, _, _, (hstep err0 n (k : Int) (l : Int) r1 r2 r3 r4).2.2.1 rfl hs0 hne2, q2⟩
  · intro d seqs lits n k l b' nn kk ll x d2 f' r hinv hb _ hkk hw ⟨N, hN⟩
    refine ⟨N + 4294967297, fun gd hrep blk hl hob fuel hfu err0 r1 r2 r3 r4 => ?_⟩
    obtain ⟨f, rfl⟩ : ∃ f, fuel = f + 1 := ⟨fuel - 1, by omega⟩
    obtain ⟨gd1, gd2, blk', q1, q2, hl', hob', hstep⟩ :=
      writeBlock_loop_step g hg hrep hinv blk hl _ rfl _ rfl f (by omega)
    rw [hob, hb, hw] at hstep q2
    rw [hob, hb] at hob'
    have hs0 : ¬ (seqs.drop kk).length = 0 := by rw [List.length_drop]; omega
    obtain ⟨err', hs1⟩ := (hstep err0 n (k : Int) (l : Int) r1 r2 r3 r4).2.2.2 rfl hs0 rfl
    rw [hs1]
    exact hN gd2 q2 blk' hl' hob' f (by omega) err' r1 r2 r3 r4

/-- **`(*Decoder).WriteBlock`**: translated = model (`Decoder.writeBlock g d seqs lits 0 0 0`) for every block
    (valid or not), every writer script, every growth function and every sufficient fuel (`N` depends on the
    model state and the block only).  The only hypothesis on the state is `DecBuf.Inv` (C06: no hang). -/
theorem gen_decoder_writeBlock (g : Grow) (hg : GrowOK g) (d : LZ.Decoder) (hinv : DecBuf.Inv d.buf)
    (seqs : List LZ.Seq) (lits : List Byte) :
    ∃ N, ∀ (gd : Gen.Decoder Writer), Rep gd d → ∀ (blk : Block'), SWF blk.Literals → ofBlock blk = ⟨seqs, lits⟩ →
    ∀ fuel, N ≤ fuel → ∃ gd', Decoder_WriteBlock g fuel mWrite gd blk =
        Res.ok (gd', (d.writeBlock g seqs lits 0 0 0).2.1, ((d.writeBlock g seqs lits 0 0 0).2.2.1 : Int),
          ((d.writeBlock g seqs lits 0 0 0).2.2.2.1 : Int), genErr (d.writeBlock g seqs lits 0 0 0).2.2.2.2) ∧
      Rep gd' (d.writeBlock g seqs lits 0 0 0).1 := by
  obtain ⟨N, hN⟩ := writeBlock_loop_eq g hg d seqs lits 0 0 0 hinv
  refine ⟨N, fun gd hrep blk hl hob fuel hf => ?_⟩
  obtain ⟨gd', c, n', k', l', blk', h1, h2⟩ := hN gd hrep blk hl hob fuel hf Gen.Err.ok 0 0 0 Gen.Err.ok
  refine ⟨gd', ?_, h2⟩
  have h0 : ((0 : Nat) : Int) = 0 := rfl
  rw [h0] at h1
  rw [decoder_writeBlock_eq, h1]
  rfl

end LZ.GenDec

/-! ### axiom audit (printed on every build) -/
#print axioms LZ.GenDec.gen_dbuf_writeTo
#print axioms LZ.GenDec.gen_decoder_flush
#print axioms LZ.GenDec.gen_decoder_reset
#print axioms LZ.GenDec.gen_decoder_init
#print axioms LZ.GenDec.writeByte_loop_eq
#print axioms LZ.GenDec.write_loop_eq
#print axioms LZ.GenDec.writeBlock_loop_eq
#print axioms LZ.GenDec.gen_decoder_writeByte
#print axioms LZ.GenDec.gen_decoder_write
#print axioms LZ.GenDec.gen_decoder_writeBlock
