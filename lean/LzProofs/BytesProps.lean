/-
  LzProofs.BytesProps — the word-at-a-time byte comparison of the Go library (`LzModel.BytesW`:
  `_getLE64`, `_getLE32`, `getLE64`, `lcp`, `lcs`, `suffix.matchLen`, the match length computation
  inlined in the hash parsers) is equal to the byte-level specification `lcpLen`, `lcsLen`,
  `le64At` of `LzModel.Basic` that the parser models use.

  `none` in the model = a Go panic (index or slice expression out of range); all theorems about
  the `…?` functions therefore also state that no panic occurs.

  At the end: the line protocol `stepLine` answers as `LzModel.Driver` does, and fixed evaluations
  of every function (non-vacuity of the hypotheses above among them).
-/
import LzModel.Hash
import LzModel.Driver
import LzProofs.BytesLemmas
namespace LZ.BytesW

/-! ## `math/bits`: the counting functions are characterised by divisibility / size -/

/-- `bits.TrailingZeros64`: `k ≤ tz64 x` iff `2^k` divides `x` (and `k ≤ 64`; `tz64 0 = 64`) -/
theorem le_tz64_iff (x : UInt64) (k : Nat) : k ≤ tz64 x ↔ k ≤ 64 ∧ x.toNat % 2 ^ k = 0 :=
  tz64_spec x k

/-- `bits.TrailingZeros32` -/
theorem le_tz32_iff (x : UInt32) (k : Nat) : k ≤ tz32 x ↔ k ≤ 32 ∧ x.toNat % 2 ^ k = 0 :=
  tz32_spec x k

/-- `bits.LeadingZeros64`: `k ≤ lz64 x` iff `x < 2^(64-k)` (and `k ≤ 64`; `lz64 0 = 64`) -/
theorem le_lz64_iff (x : UInt64) (k : Nat) : k ≤ lz64 x ↔ k ≤ 64 ∧ x.toNat < 2 ^ (64 - k) :=
  lz64_spec x k

/-- the core lemma: `tz(x ^ y) / 8` counts the low bytes in which `x` and `y` agree -/
theorem le_tz64_xor_div8_iff (x y : UInt64) (j : Nat) :
    j ≤ tz64 (x ^^^ y) / 8 ↔ j ≤ 8 ∧ x.toNat % 256 ^ j = y.toNat % 256 ^ j :=
  le_tz64_xor_iff x y j

/-- `lz(x ^ y) / 8` counts the high bytes in which `x` and `y` agree -/
theorem le_lz64_xor_div8_iff (x y : UInt64) (j : Nat) :
    j ≤ lz64 (x ^^^ y) / 8 ↔ j ≤ 8 ∧ x.toNat / 256 ^ (8 - j) = y.toNat / 256 ^ (8 - j) :=
  le_lz64_xor_iff x y j

/-! ## loads (`getLE64`, `_getLE64`, `_getLE32`) versus `le64At` -/

/-- `getLE64(p)` (the `switch len(p)`) is the zero-extended little-endian load of the model -/
theorem getLE64_eq_le64At (p : List Byte) : getLE64 p = le64At p 0 := by
  apply UInt64.toNat_inj.1
  rw [getLE64_toNat, le64At_toNat, List.drop_zero]

theorem le64At_eq_getLE64_drop (p : List Byte) (i : Nat) : le64At p i = getLE64 (p.drop i) := by
  apply UInt64.toNat_inj.1
  rw [getLE64_toNat, le64At_toNat]

/-- `_getLE64(p)` panics exactly for `len(p) < 8` and otherwise agrees with `getLE64` -/
theorem le64_eq_some_iff (p : List Byte) (x : UInt64) :
    le64 p = some x ↔ 8 ≤ p.length ∧ x = getLE64 p := by
  by_cases h : 8 ≤ p.length
  · rw [le64_eq_some p h, Option.some.injEq, eq_comm]
    exact ⟨fun e => ⟨h, e⟩, fun e => e.2⟩
  · rw [le64_eq_none p (by omega)]
    exact ⟨(fun e => nomatch e), fun e => absurd e.1 h⟩

/-- `_getLE64(p[i:])` inside the bounds is the model's `le64At p i` -/
theorem le64_drop_eq_le64At (p : List Byte) (i : Nat) (h : i + 8 ≤ p.length) :
    le64 (p.drop i) = some (le64At p i) := by
  rw [le64_eq_some _ (by rw [List.length_drop]; omega), le64At_eq_getLE64_drop]

theorem le64At_toNat_eq (p : List Byte) (i : Nat) :
    (le64At p i).toNat = leNat ((p.drop i).take 8) := le64At_toNat p i

/-- `_getLE32(p)`: panics exactly for `len(p) < 4`, value = the first 4 bytes little-endian -/
theorem le32_eq_some_iff (p : List Byte) (x : UInt32) :
    le32 p = some x ↔ 4 ≤ p.length ∧ x.toNat = leNat (p.take 4) := by
  constructor
  · intro hx
    match p, hx with
    | b0 :: b1 :: b2 :: b3 :: _, hx => cases hx; exact ⟨by simp, toNat_le32v b0 b1 b2 b3⟩
  · rintro ⟨h, hv⟩
    obtain ⟨x', hx', hv'⟩ := le32_eq_some p h
    rw [hx', UInt32.toNat_inj.1 (hv.trans hv'.symm)]

/-! ### the hash key does not depend on the memory behind the block

  The parsers compute `y := _getLE64(_p[i:])` on `_p = s.Data[:inputEnd+7]`, which may contain up
  to 7 bytes behind `p`, and use `y & mask`; the model uses `le64At p i &&& maskOf inputLen`
  (bytes behind `p` read as 0). For `i < inputEnd = len(p) - inputLen + 1` both are equal. -/

theorem maskOf_toNat (n : Nat) : (maskOf n).toNat = 256 ^ (min n 8) - 1 := by
  match n with
  | 0 | 1 | 2 | 3 | 4 | 5 | 6 | 7 => decide
  | n + 8 =>
    have : min (n + 8) 8 = 8 := by omega
    rw [this]; unfold maskOf; rw [if_pos (by omega)]; decide

theorem and_maskOf_toNat (x : UInt64) (n : Nat) :
    (x &&& maskOf n).toNat = x.toNat % 256 ^ (min n 8) := by
  rw [UInt64.toNat_and, maskOf_toNat, ← two_pow_mul8, Nat.and_two_pow_sub_one_eq_mod]

/-- the masked key reads only the first `min n 8` bytes of the loaded window `l` -/
theorem key_window {y : UInt64} {l : List Byte} (hy : y.toNat = leNat (l.take 8)) (p : List Byte)
    (i n : Nat) (hw : l.take (min n 8) = (p.drop i).take (min n 8)) :
    y &&& maskOf n = le64At p i &&& maskOf n := by
  apply UInt64.toNat_inj.1
  rw [and_maskOf_toNat, and_maskOf_toNat, hy, le64At_toNat, ← leNat_take, ← leNat_take,
    List.take_take, List.take_take, Nat.min_eq_left (Nat.min_le_right _ _), hw]

theorem key_behind_irrelevant (p behind : List Byte) (i n : Nat) (y : UInt64)
    (hy : le64 ((p ++ behind).drop i) = some y) (h : i + min n 8 ≤ p.length) :
    y &&& maskOf n = le64At p i &&& maskOf n := by
  obtain ⟨_, rfl⟩ := (le64_eq_some_iff _ _).1 hy
  exact key_window (getLE64_toNat _) p i n
    (by rw [List.take_drop, List.take_drop, List.take_append_of_le_length h])

theorem HashT_key_eq (hsh : HashT) (p behind : List Byte) (i : Nat) (y : UInt64)
    (hy : le64 ((p ++ behind).drop i) = some y) (h : i + min hsh.inputLen 8 ≤ p.length) :
    hsh.key p i = y &&& maskOf hsh.inputLen :=
  (key_behind_irrelevant p behind i hsh.inputLen y hy h).symm

/-! ## one word -/

/-- two `_getLE64` loads: trailing zero bytes of the xor = common prefix, capped at 8 -/
theorem tz64_xor_le64 {a b : List Byte} {x y : UInt64} (ha : le64 a = some x)
    (hb : le64 b = some y) : tz64 (x ^^^ y) / 8 = min 8 (lcpLen a b) := by
  obtain ⟨ha8, rfl⟩ := (le64_eq_some_iff _ _).1 ha
  obtain ⟨hb8, rfl⟩ := (le64_eq_some_iff _ _).1 hb
  exact tz64_xor_take8 _ _ a b ha8 hb8 (getLE64_toNat a) (getLE64_toNat b)

/-- two `_getLE32` loads -/
theorem tz32_xor_le32 {a b : List Byte} {x y : UInt32} (ha : le32 a = some x)
    (hb : le32 b = some y) : tz32 (x ^^^ y) / 8 = min 4 (lcpLen a b) :=
  have ha := (le32_eq_some_iff a x).1 ha
  have hb := (le32_eq_some_iff b y).1 hb
  tz32_xor_take4 x y a b ha.1 hb.1 ha.2 hb.2

/-- two `getLE64` loads of byte strings of any length (short ones are zero-extended, which may
    fake agreement behind the end: hence the `min` with the lengths, the `if b > len(q)` in Go) -/
theorem tz64_xor_getLE64 (a b : List Byte) :
    min (min a.length b.length) (tz64 (getLE64 a ^^^ getLE64 b) / 8) = min 8 (lcpLen a b) :=
  tz64_xor_leNat _ _ a b (getLE64_toNat a) (getLE64_toNat b)

/-- leading zero bytes of the xor of two `_getLE64` loads = common suffix of the 8-byte windows -/
theorem lz64_xor_le64 {a b : List Byte} {x y : UInt64} (ha : le64 a = some x)
    (hb : le64 b = some y) : lz64 (x ^^^ y) / 8 = lcsLen (a.take 8) (b.take 8) := by
  obtain ⟨ha8, rfl⟩ := (le64_eq_some_iff _ _).1 ha
  obtain ⟨hb8, rfl⟩ := (le64_eq_some_iff _ _).1 hb
  exact lz64_xor_leNat _ _ _ _ (getLE64_toNat a) (getLE64_toNat b)
    (by rw [List.length_take]; omega) (by rw [List.length_take]; omega)

theorem lz64_xor_le64_8 {a b : List Byte} (ha : a.length = 8) (hb : b.length = 8) :
    lz64 (getLE64 a ^^^ getLE64 b) / 8 = min 8 (lcsLen a b) := by
  have := lz64_xor_le64 (le64_eq_some a (by omega)) (le64_eq_some b (by omega))
  rw [List.take_of_length_le (by omega), List.take_of_length_le (by omega)] at this
  have := lcsLen_le_left a b
  omega

/-! ## `lcp`, `suffix.matchLen`, `lcs` -/

/-- `lcp(p, q)` (and `suffix.matchLen(p, q)`, the same text) never panics and returns the length of
    the longest common prefix -/
theorem lcpW?_eq (p q : List Byte) : lcpW? p q = some (lcpLen p q) := by
  unfold lcpW?
  split
  · rw [lcpLoop_eq q p 0 (by omega), lcpLen_comm]; simp
  · rw [lcpLoop_eq p q 0 (by omega)]; simp

theorem lcpW_eq (p q : List Byte) : lcpW p q = lcpLen p q := by
  simp [lcpW, lcpW?_eq]

/-- `lcs(p, q)` never panics and returns the length of the longest common suffix -/
theorem lcsW?_eq (p q : List Byte) : lcsW? p q = some (lcsLen p q) := by
  unfold lcsW?
  split
  · rw [lcsMain_eq q p (by omega), lcsLen_comm]
  · rw [lcsMain_eq p q (by omega)]

theorem lcsW_eq (p q : List Byte) : lcsW p q = lcsLen p q := by
  simp [lcsW, lcsW?_eq]

/-! ## the match length inlined in the hash parsers (HP, BHP, DHP, BDHP)

  Calling conditions in the parsers: `j < i` (`0 < o = i - j`), `i < inputEnd`,
  `inputEnd = len(p) - inputLen + 1 ≤ len(p)`, and `_p = s.Data[:inputEnd+7]` exists, i.e.
  `inputEnd + 7 ≤ cap(s.Data)`; `behind` = the `cap(s.Data) - len(p)` bytes behind `p`. -/

/-- first word: `k8 = min(8, true match length)`, independent of `behind` -/
theorem matchLen8_eq' (p behind : List Byte) (inputEnd i j : Nat)
    (hj : j < i) (hi : i < inputEnd) (hE : inputEnd ≤ p.length)
    (hcap : inputEnd + 7 ≤ (p ++ behind).length) :
    matchLen8 ((p ++ behind).take (inputEnd + 7)) p i j =
      some (min 8 (lcpLen (p.drop j) (p.drop i))) :=
  matchLen8_eq p behind _ i j (by omega) (by omega) (by omega) hcap

/-- the extension runs only for `k8 = 8` and completes the true match length -/
theorem matchExt_eq' (p : List Byte) (i j : Nat) (hj : j < i) :
    matchExt p i j (min 8 (lcpLen (p.drop j) (p.drop i))) = some (lcpLen (p.drop j) (p.drop i)) :=
  matchExt_eq p i j (by omega)

/-- the complete computation: no panic; the candidate is skipped iff `min 8 L < minMatchLen`,
    otherwise the sequence gets `L = lcpLen (p.drop j) (p.drop i)` -/
theorem matchLenInline_eq (p behind : List Byte) (inputEnd minMatchLen i j : Nat)
    (hj : j < i) (hi : i < inputEnd) (hE : inputEnd ≤ p.length)
    (hcap : inputEnd + 7 ≤ (p ++ behind).length) :
    matchLenInline p behind inputEnd minMatchLen i j =
      some (if min 8 (lcpLen (p.drop j) (p.drop i)) < minMatchLen then none
            else some (lcpLen (p.drop j) (p.drop i))) := by
  unfold matchLenInline
  rw [sliceTo_eq_some _ _ _ hcap]
  simp only [bind, Option.bind]
  rw [matchLen8_eq p behind _ i j (by omega) (by omega) (by omega) hcap]
  simp only []
  split
  · rfl
  · rw [matchExt_eq p i j (by omega)]; rfl

/-- the form used by `LZ.hpProbe`, `LZ.dhpProbe`: `let k := lcpLen (p.drop j) (p.drop i);
    if k < minMatch then none else …` (the parsers have `minMatchLen = min inputLen 3 ≤ 8`) -/
theorem matchLenInline_eq_probe (p behind : List Byte) (inputEnd minMatchLen i j : Nat)
    (hj : j < i) (hi : i < inputEnd) (hE : inputEnd ≤ p.length)
    (hcap : inputEnd + 7 ≤ (p ++ behind).length) (hmm : minMatchLen ≤ 8) :
    matchLenInline p behind inputEnd minMatchLen i j =
      some (let k := lcpLen (p.drop j) (p.drop i); if k < minMatchLen then none else some k) := by
  rw [matchLenInline_eq p behind inputEnd minMatchLen i j hj hi hE hcap]
  simp only []
  congr 1
  split <;> split <;> first | rfl | omega

/-- the result does not depend on the memory behind `p` -/
theorem matchLenInline_behind_irrelevant (p b1 b2 : List Byte) (inputEnd minMatchLen i j : Nat)
    (hj : j < i) (hi : i < inputEnd) (hE : inputEnd ≤ p.length)
    (h1 : inputEnd + 7 ≤ (p ++ b1).length) (h2 : inputEnd + 7 ≤ (p ++ b2).length) :
    matchLenInline p b1 inputEnd minMatchLen i j = matchLenInline p b2 inputEnd minMatchLen i j := by
  rw [matchLenInline_eq _ _ _ _ _ _ hj hi hE h1, matchLenInline_eq _ _ _ _ _ _ hj hi hE h2]

/-- without enough capacity behind the block the reslice `s.Data[:inputEnd+7]` panics -/
theorem matchLenInline_panic (p behind : List Byte) (inputEnd minMatchLen i j : Nat)
    (hcap : (p ++ behind).length < inputEnd + 7) :
    matchLenInline p behind inputEnd minMatchLen i j = none := by
  unfold matchLenInline sliceTo
  rw [if_neg (by omega)]; rfl

/-- with the 7 bytes margin behind `s.Data` that the parser buffer guarantees -/
theorem matchLenInline_eq_margin (p behind : List Byte) (inputEnd minMatchLen i j : Nat)
    (hj : j < i) (hi : i < inputEnd) (hE : inputEnd ≤ p.length)
    (hmargin : 7 ≤ behind.length) (hmm : minMatchLen ≤ 8) :
    matchLenInline p behind inputEnd minMatchLen i j =
      some (let k := lcpLen (p.drop j) (p.drop i); if k < minMatchLen then none else some k) :=
  matchLenInline_eq_probe p behind inputEnd minMatchLen i j hj hi hE
    (by rw [List.length_append]; omega) hmm

/-! ## line protocol: `BytesW.stepLine` gives the answers the driver gives

  (`Driver.stepStateless` answers `ulcp`, `ulcs`, `ule64` with `lcpLen`, `lcsLen`, `le64At`.) -/

theorem hexDigit_eq_driver : hexDigit = Driver.hexDigit := rfl

theorem unhexAux_eq_driver (l : List Char) (acc : List Byte) :
    unhexAux l acc = Driver.unhexAux l acc := by
  fun_induction unhexAux l acc <;> simp_all [Driver.unhexAux, hexDigit_eq_driver]

theorem unhex_eq_driver (s : String) : unhex s = Driver.unhex s := by
  simp [unhex, Driver.unhex, unhexAux_eq_driver]

theorem stepLine_ulcp (a b : String) :
    stepLine ["ulcp", a, b] = some (toString (lcpLen (Driver.unhex a) (Driver.unhex b))) := by
  simp [stepLine, showRes, lcpW?_eq, unhex_eq_driver]

theorem stepLine_ulcs (a b : String) :
    stepLine ["ulcs", a, b] = some (toString (lcsLen (Driver.unhex a) (Driver.unhex b))) := by
  simp [stepLine, showRes, lcsW?_eq, unhex_eq_driver]

theorem stepLine_ule64 (a : String) :
    stepLine ["ule64", a] = some (toString (le64At (Driver.unhex a) 0).toNat) := by
  simp [stepLine, getLE64_eq_le64At, unhex_eq_driver]

/-! ## non-vacuity and concrete evaluations (kernel-checked, no `native_decide`) -/

section Examples

-- math/bits
example : tz64 0 = 64 := by decide
example : tz64 1 = 0 := by decide
example : tz64 0x0100 = 8 := by decide
example : tz64 0x8000000000000000 = 63 := by decide
example : tz32 0 = 32 := by decide
example : tz32 0x00010000 = 16 := by decide
example : lz64 0 = 64 := by decide
example : lz64 1 = 63 := by decide
example : lz64 0x00ffffffffffffff = 8 := by decide
example : lz64 0xffffffffffffffff = 0 := by decide
example : shl64 0x0102 56 = 0x0200000000000000 := by decide
example : shl64 0x0102 64 = 0 := by decide

-- loads
example : getLE64 [] = 0 := by decide
example : getLE64 [1, 2, 3] = 0x030201 := by decide
example : getLE64 [1, 2, 3, 4, 5] = 0x0504030201 := by decide
example : getLE64 [1, 2, 3, 4, 5, 6, 7] = 0x07060504030201 := by decide
example : getLE64 [1, 2, 3, 4, 5, 6, 7, 8, 9] = 0x0807060504030201 := by decide
example : le64 [1, 2, 3, 4, 5, 6, 7, 8, 9] = some 0x0807060504030201 := by decide
example : le64 [1, 2, 3, 4, 5, 6, 7] = none := by decide
example : le32 [0xff, 2, 3, 0x80, 5] = some 0x800302ff := by decide
example : le32 [1, 2, 3] = none := by decide
example : le64At [9, 1, 2, 3] 1 = 0x030201 := by decide

-- one word: bytes 0..2 agree, byte 3 differs
example : tz64 (getLE64 [1, 2, 3, 4, 5, 6, 7, 8] ^^^ getLE64 [1, 2, 3, 9, 5, 6, 7, 8]) / 8 = 3 := by
  decide
example : lcpLen [1, 2, 3, 4, 5, 6, 7, 8] [1, 2, 3, 9, 5, 6, 7, 8] = 3 := by decide
-- bytes 5..7 agree, byte 4 differs
example : lz64 (getLE64 [1, 2, 3, 4, 5, 6, 7, 8] ^^^ getLE64 [1, 2, 3, 4, 0, 6, 7, 8]) / 8 = 3 := by
  decide
example : lcsLen [1, 2, 3, 4, 5, 6, 7, 8] [1, 2, 3, 4, 0, 6, 7, 8] = 3 := by decide
-- zero extension fakes agreement: the clamp with the lengths is necessary
example : tz64 (getLE64 [1] ^^^ getLE64 [1, 0, 0]) / 8 = 8 ∧ lcpLen [1] [1, 0, 0] = 1 := by decide
-- non-vacuity of `tz64_xor_le64`, `tz32_xor_le32`, `lz64_xor_le64`
example : ∃ x y, le64 [1, 2, 3, 4, 5, 6, 7, 8, 9] = some x ∧ le64 [1, 2, 3, 4, 5, 0, 7, 8] = some y ∧
    tz64 (x ^^^ y) / 8 = 5 := ⟨_, _, rfl, rfl, by decide⟩
example : ∃ x y, le32 [1, 2, 3, 4, 5] = some x ∧ le32 [1, 2, 0, 4] = some y ∧
    tz32 (x ^^^ y) / 8 = 2 := ⟨_, _, rfl, rfl, by decide⟩

-- `lcp`: 8-byte loop (one round), 4-byte step, byte loop; swap of the arguments
example : lcpW? [1, 2, 3, 4, 5, 6, 7, 8, 9, 10, 11, 12, 13] [1, 2, 3, 4, 5, 6, 7, 8, 9, 10, 11, 12, 14, 15]
    = some 12 := by decide +kernel
example : lcpW? [1, 2, 3, 4, 5, 6, 7, 8, 9, 10, 11, 12, 14, 15] [1, 2, 3, 4, 5, 6, 7, 8, 9, 10, 11, 12, 13]
    = some 12 := by decide +kernel
example : lcpW? [1, 2, 3, 4, 5, 6, 7, 8, 9] [1, 2, 3, 4, 5, 0, 7, 8, 9] = some 5 := by decide +kernel
example : lcpW? [1, 2, 3, 4, 5, 6, 7] [1, 2, 3, 4, 5, 6, 7] = some 7 := by decide +kernel
example : lcpW? [] [1, 2] = some 0 := by decide +kernel
example : lcpW [7, 7, 7] [7, 7, 8] = 2 := by decide +kernel
-- the internal loop called with the longer list second would panic (`p[i]` in the byte loop):
-- the swap at the start of `lcp` is needed
example : lcpLoop [1, 2] [1, 2, 3] 0 = none := by decide +kernel

-- `lcs`: loop and shifted tail
example : lcsW? [1, 2, 3, 4, 5, 6, 7, 8, 9, 10, 11, 12, 13] [0, 2, 3, 4, 5, 6, 7, 8, 9, 10, 11, 12, 13]
    = some 12 := by decide +kernel
example : lcsW? [9, 9, 0, 2, 3, 4, 5, 6, 7, 8, 9, 10, 11, 12, 13] [1, 2, 3, 4, 5, 6, 7, 8, 9, 10, 11, 12, 13]
    = some 12 := by decide +kernel
example : lcsW? [1, 2, 3] [4, 2, 3] = some 2 := by decide +kernel
example : lcsW? [1, 2, 3] [1, 2, 3] = some 3 := by decide +kernel
example : lcsW? [1, 2, 3, 4, 5, 6, 7, 8, 9, 10] [1, 2, 3, 4, 0, 6, 7, 8, 9, 10] = some 5 := by
  decide +kernel
example : lcsW? [5] [] = some 0 := by decide +kernel

-- the inlined computation: p = "abcabcabcabcabcabcXXXX", inputLen = 3, inputEnd = 22 - 3 + 1 = 20
def exP : List Byte := [1, 2, 3, 1, 2, 3, 1, 2, 3, 1, 2, 3, 1, 2, 3, 1, 2, 3, 9, 9, 9, 9]
/-- hypotheses of `matchLenInline_eq` are satisfiable -/
example : (0 : Nat) < 3 ∧ 3 < 20 ∧ 20 ≤ exP.length ∧ 20 + 7 ≤ (exP ++ [0, 0, 0, 0, 0, 0, 0]).length := by
  decide
-- i = 3, j = 0: first word full, one more 8-byte round (7 bytes), result 15
example : matchLenInline exP [0, 0, 0, 0, 0, 0, 0] 20 3 3 0 = some (some 15) := by decide +kernel
example : matchLenInline exP [1, 2, 3, 1, 2, 3, 1] 20 3 3 0 = some (some 15) := by decide +kernel
example : lcpLen (exP.drop 0) (exP.drop 3) = 15 := by decide
-- i = 2, j = 1 … tail with `getLE64`: i = 6, j = 0 gives 12 = 8 + 4 (4 bytes left behind i+8)
example : matchLenInline exP [0, 0, 0, 0, 0, 0, 0] 20 3 6 0 = some (some 12) := by decide +kernel
-- near the end of the block the first loads read behind `p`; i = 19, j = 18: the 9s behind the
-- block would extend the agreement of the first words to 8 bytes, the clamp cuts it to 3
example : matchLenInline exP [9, 9, 9, 9, 9, 9, 9] 20 3 19 18 = some (some 3) := by decide +kernel
example : matchLenInline exP [0, 0, 0, 0, 0, 0, 0] 20 3 19 18 = some (some 3) := by decide +kernel
example : matchLen8 ((exP ++ [9, 9, 9, 9, 9, 9, 9]).take 27) exP 19 18 = some 3 := by decide +kernel
example : lcpLen (exP.drop 18) (exP.drop 19) = 3 := by decide
-- a candidate below `minMatchLen` is skipped
example : matchLenInline exP [0, 0, 0, 0, 0, 0, 0] 20 3 4 0 = some none := by decide +kernel
-- no margin: the reslice panics
example : matchLenInline exP [] 20 3 3 0 = none := by decide +kernel

-- the hash key with garbage behind the block
example : ∃ y, le64 (([1, 2, 3, 4] ++ [0xaa, 0xbb, 0xcc, 0xdd, 0xee, 0xff, 0x11] : List Byte).drop 1) = some y ∧
    y &&& maskOf 3 = 0x040302 ∧ le64At [1, 2, 3, 4] 1 &&& maskOf 3 = 0x040302 :=
  ⟨_, rfl, by decide, by decide⟩

-- line protocol
#guard stepLine ["ulcp", "0102030405060708090a", "0102030405060708090b"] = some "9"
#guard stepLine ["ulcs", "ff02030405060708090a", "0102030405060708090a"] = some "9"
#guard stepLine ["ulcp", "-", "01"] = some "0"
#guard stepLine ["ule64", "010203"] = some "197121"
#guard stepLine ["ule64", "-"] = some "0"
#guard stepLine ["umatch", "01020301020301020301020301020301020309090909", "00000000000000", "20", "3", "3", "0"]
  = some "15"
#guard stepLine ["uhash", "1", "2"] = none

end Examples

#print axioms le_tz64_iff
#print axioms le_tz32_iff
#print axioms le_lz64_iff
#print axioms le_tz64_xor_div8_iff
#print axioms le_lz64_xor_div8_iff
#print axioms getLE64_eq_le64At
#print axioms le64At_eq_getLE64_drop
#print axioms le64_eq_some_iff
#print axioms le64_drop_eq_le64At
#print axioms le32_eq_some_iff
#print axioms key_window
#print axioms key_behind_irrelevant
#print axioms HashT_key_eq
#print axioms tz64_xor_le64
#print axioms tz32_xor_le32
#print axioms tz64_xor_getLE64
#print axioms lz64_xor_le64
#print axioms lz64_xor_le64_8
#print axioms lcpW?_eq
#print axioms lcpW_eq
#print axioms lcsW?_eq
#print axioms lcsW_eq
#print axioms matchLen8_eq'
#print axioms matchExt_eq'
#print axioms matchLenInline_eq
#print axioms matchLenInline_eq_probe
#print axioms matchLenInline_eq_margin
#print axioms matchLenInline_behind_irrelevant
#print axioms matchLenInline_panic
#print axioms unhex_eq_driver
#print axioms stepLine_ulcp
#print axioms stepLine_ulcs
#print axioms stepLine_ule64

end LZ.BytesW
