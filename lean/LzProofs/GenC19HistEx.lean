/-
  Non-vacuity of LzProofs/GenC19Hist.lean: the instances of `C19_go_text_*` for the
  kernel-evaluated example histories (GenHPHistEx, GenBHPHistEx, GenDHPHistEx, GenBDHPHistEx), and the C19 guarantee
  checked directly on the block the translated `bdhp.Parse` returned in GenBDHPHistEx (a backward extension that stops
  at differing bytes: the third alternative of the left clause).
-/
import LzProofs.GenC19Hist
import LzProofs.GenBDHPHistEx

namespace LZ.GenC19Hist
open LZ LZ.Gen LZ.GenBuf LZ.GenProps

example := C19_go_text_hp GenHPHist.exCfg GenHPHist.exS0 GenHPHist.exInit GenHPHist.exGrow 40 (by decide +kernel)
  GenHPHist.exOps GenHPHist.exWF
example := C19_go_text_bhp GenBHPHist.exCfg GenBHPHist.exS0 GenBHPHist.exInit GenHPHist.exGrow 70 GenBHPHist.exLcs
  GenBHPHist.exLcs_spec (by decide +kernel) GenBHPHist.exOps GenBHPHist.exWF
example := C19_go_text_dhp GenDHPHist.exCfg GenDHPHist.exS0 GenDHPHist.exInit GenHPHist.exGrow 140 (by decide +kernel)
  GenDHPHist.exOps GenDHPHist.exWF
example := C19_go_text_bdhp GenBDHPHist.exCfg GenBDHPHist.exS0 GenBDHPHist.exInit GenHPHist.exGrow 140
  GenBHPHist.exLcs GenBHPHist.exLcs_spec (by decide +kernel) GenBDHPHist.exOps GenBDHPHist.exWF

/-- the block the translated `bdhp.Parse` returned first in `GenBDHPHist.exRun` -/
def exBlk : Gen.Block' :=
  { Sequences := [{ LitLen := 15, MatchLen := 7, Offset := 14, Aux := 0 }],
    Literals := { arr := [90, 97, 98, 99, 100, 101, 102, 103, 104, 49, 51, 55, 49, 53, 49, 88], len := 16 } }

/-- the first block of the BDHP example (stream position 0, `n = 23`, flags 0; read through `ofBlock`) against the
    23 bytes fed: block prefix end `lim = 23`, buffer start `base = 0`; the match (15 literals, 7 bytes, offset 14)
    ends before 'X' ≠ 'h' (right clause) and starts behind '1' ≠ 'Z' with `LitLen ≠ 0`, `Offset ≠ 15` (left clause,
    third alternative) -/
theorem exBDHP_block_max :
    EventMax (GenBDHPHist.exE ++ GenBDHPHist.exF) true 48 0
      (.block 23 0 (ofBlock exBlk)) := by
  refine ⟨0, 23, by decide, by decide, by decide, by decide, fun _ => rfl, ?_⟩
  show SeqMaxStream _ true 0 23 0 ⟨15, 7, 14, 0⟩ ∧ True
  refine ⟨?_, trivial⟩
  unfold SeqMaxStream
  decide +kernel

/-- … and the left clause holds through its THIRD alternative only -/
theorem exBDHP_left_third :
    let fed := GenBDHPHist.exE ++ GenBDHPHist.exF
    (15 : Nat) ≠ 0 ∧ (14 : Nat) ≠ 0 + 15 - 0 ∧ fed[0 + 15 - 1]? ≠ fed[0 + 15 - 1 - 14]? := by decide +kernel

end LZ.GenC19Hist

#print axioms LZ.GenC19Hist.exBDHP_block_max
#print axioms LZ.GenC19Hist.exBDHP_left_third
