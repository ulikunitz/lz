/-
  C14 "repeated `Parse(nil)` drains the buffer" about the Go text of OSAP: `C14_drains` (LzProofs/ParseProps.lean)
  transported along `stepN_sim` of LzProofs/GenOSAPHistNil.lean by `GenDrain.drain_go`; `nilOps`, `drainRes`, `nSum` are
  those of LzProofs/GenDrainShared.lean for the call type `GOpN` of LZ.GenHPHist.  Stated under `CESpec B ce` and,
  `…_ce_go`, with the translated `computeEdges` under `EdgeSpecs` (the drain calls themselves never call
  `computeEdges`; the history before them may).
-/
import LzProofs.GenOSAPHistNilGo
import LzProofs.GenDrainShared

set_option linter.unusedSimpArgs false
set_option linter.unusedVariables false

namespace LZ.GenOSAPHist
open LZ LZ.Gen LZ.GenBuf LZ.GenHash LZ.GenSuffix LZ.GenHPParse LZ.GenProps LZ.GenOSAP LZ.GenNil
open LZ.GenHPHist (GOpN GOpN.WF nilOps drainRes nSum nilOps_eq drainRes_eq nSum_eq nilCalls)

theorem drain_core {bc : BufCfg} {B : Nat} (hbc : BCOKO bc) (ce : CEFun) (hCE : CESpec B ce) (extra : Nat)
    (grow : Nat → Nat → Nat) (fuel : Nat) (hfuel : bc.bufferSize + B + 5 ≤ fuel)
    (raw : Cfg) (p0 : Parser) (h0 : newParser .OSAP raw = some p0)
    (t : Gen.optSuffixArrayParser) (sg : Parser × Ghost) (hS : SimO bc B p0 t sg) (hbc0 : bc = p0.buf.cfg)
    (fl : List (Gen.Block' × Int)) :
    let bs := t.ParserBuffer.BufConfig.BlockSize.toNat
    let u := t.ParserBuffer.Data.len - t.ParserBuffer.W.toNat
    let r := (u + bs - 1) / bs
    ∃ t', runN extra grow fuel ce t (nilOps fl) = Res.ok (t', drainRes bs u 0 fl) ∧
      nSum (drainRes bs u 0 fl) = ((Min.min u (fl.length * bs) : Nat) : Int) ∧
      t'.ParserBuffer.Data.len = t.ParserBuffer.Data.len ∧
      t'.ParserBuffer.W = ((Min.min t.ParserBuffer.Data.len (t.ParserBuffer.W.toNat + fl.length * bs) : Nat) : Int) ∧
      (r ≤ fl.length → nSum (drainRes bs u 0 fl) = (u : Int) ∧ t'.ParserBuffer.W = (t.ParserBuffer.Data.len : Int)) := by
  have hbs : 1 ≤ t.ParserBuffer.BufConfig.BlockSize.toNat := by
    have := (newParser_inv .OSAP raw p0 h0).2.2
    rw [← hbc0, ← hS.1.1.cfg] at this; exact this
  rw [runN_eq, nilOps_eq, drainRes_eq, nSum_eq]
  exact GenDrain.drain_go (bufHost hbc) nilCalls (stepN_sim hbc ce hCE extra grow fuel hfuel raw p0 h0) t sg hS hbs fl

/-- C14 (repeated `Parse(nil)` drains the buffer) about the Go text of OSAP.  After any history `ops` of the translated
    `Write`, `ReadFrom`, `Parse(&blk)`, `Parse(nil)`, `Shrink`, `Reset` from `init` (`computeEdges` under `CESpec B ce`), with
    `t` the Go state reached, `u = len(Data) − W`, `bs = BlockSize`, `r = ⌈u / bs⌉`: ANY further sequence of translated
    `Parse(nil, flags_k)` calls runs without panic and returns exactly `drainRes bs u 0 fl` — call `k < r` returns
    `(min(bs, u − k·bs), nil)`, every call `k ≥ r` returns `(0, ErrEmptyBuffer)`, the ghost blocks come back —; the `n` sum to
    `min(u, m·bs)`, `W` ends at `min(len(Data), W + m·bs)`; for `m ≥ r` the `n` sum to `u` and `W = len(Data)`. -/
theorem C14_drains_go_text_osap (B : Nat) (cfg : Gen.OSAPConfig) (s0 : Gen.optSuffixArrayParser)
    (hinit : optSuffixArrayParser_init default cfg = Res.ok (s0, Gen.Err.ok))
    (h32 : s0.OSAPConfig.MinMatchLen < 4294967296) (ce : CEFun) (hCE : CESpec B ce)
    (extra : Nat) (grow : Nat → Nat → Nat) (fuel : Nat)
    (hfuel : s0.ParserBuffer.BufConfig.BufferSize.toNat + B + 5 ≤ fuel)
    (ops : List GOpN) (hwf : ∀ op ∈ ops, op.WF) (fl : List (Gen.Block' × Int)) :
    ∃ t rs, runN extra grow fuel ce s0 ops = Res.ok (t, rs) ∧
      let bs := t.ParserBuffer.BufConfig.BlockSize.toNat
      let u := t.ParserBuffer.Data.len - t.ParserBuffer.W.toNat
      let r := (u + bs - 1) / bs
      ∃ t', runN extra grow fuel ce t (nilOps fl) = Res.ok (t', drainRes bs u 0 fl) ∧
        nSum (drainRes bs u 0 fl) = ((Min.min u (fl.length * bs) : Nat) : Int) ∧
        t'.ParserBuffer.Data.len = t.ParserBuffer.Data.len ∧
        t'.ParserBuffer.W = ((Min.min t.ParserBuffer.Data.len (t.ParserBuffer.W.toNat + fl.length * bs) : Nat) : Int) ∧
        (r ≤ fl.length → nSum (drainRes bs u 0 fl) = (u : Int) ∧ t'.ParserBuffer.W = (t.ParserBuffer.Data.len : Int)) := by
  obtain ⟨p, t, rs, hp, h2, k1, hbc, hf, hS, -⟩ :=
    gen_osap_history_nil_inv B cfg s0 hinit h32 ce hCE extra grow fuel hfuel ops hwf
  exact ⟨t, rs, k1, drain_core hbc ce hCE extra grow fuel hf (ofOSAP cfg) p hp t _ hS rfl fl⟩

section
variable {SS : Slice → GSlice Int32 → Res (GSlice Int32)}
  {LCP : Slice → GSlice Int32 → GSlice Int32 → GSlice Int32 → Res (GSlice Int32)}
  {SEG : GSlice Int32 → GSlice Int32 → Int → Int → Res (List (Int × GSlice Int32))}
  {SRT : GSlice Int32 → Res (GSlice Int32)}

/-- C14 (drain) about the Go text of OSAP, `computeEdges` translated -/
theorem C14_drains_go_text_osap_ce_go (cfg : Gen.OSAPConfig) (s0 : Gen.optSuffixArrayParser)
    (hinit : optSuffixArrayParser_init default cfg = Res.ok (s0, Gen.Err.ok))
    (h32 : s0.OSAPConfig.MinMatchLen < 4294967296) (sp : EdgeSpecs SS LCP SEG SRT)
    (grow : Nat → Nat → Nat) (fuelE : Nat) (hfE : 2147483648 ≤ fuelE) (extra fuel : Nat)
    (hfuel : s0.ParserBuffer.BufConfig.BufferSize.toNat + 2147483647 + 5 ≤ fuel)
    (ops : List GOpN) (hwf : ∀ op ∈ ops, op.WF) (fl : List (Gen.Block' × Int)) :
    ∃ t rs, runN extra grow fuel (ceGo grow fuelE SS LCP SEG SRT) s0 ops = Res.ok (t, rs) ∧
      let bs := t.ParserBuffer.BufConfig.BlockSize.toNat
      let u := t.ParserBuffer.Data.len - t.ParserBuffer.W.toNat
      let r := (u + bs - 1) / bs
      ∃ t', runN extra grow fuel (ceGo grow fuelE SS LCP SEG SRT) t (nilOps fl) = Res.ok (t', drainRes bs u 0 fl) ∧
        nSum (drainRes bs u 0 fl) = ((Min.min u (fl.length * bs) : Nat) : Int) ∧
        t'.ParserBuffer.Data.len = t.ParserBuffer.Data.len ∧
        t'.ParserBuffer.W = ((Min.min t.ParserBuffer.Data.len (t.ParserBuffer.W.toNat + fl.length * bs) : Nat) : Int) ∧
        (r ≤ fl.length → nSum (drainRes bs u 0 fl) = (u : Int) ∧ t'.ParserBuffer.W = (t.ParserBuffer.Data.len : Int)) := by
  obtain ⟨p, t, rs, hp, h2, k1, hbc, hf, hS, -⟩ :=
    gen_osap_history_nil_inv 2147483647 cfg s0 hinit h32 _ (cespec_go sp grow fuelE hfE) extra grow fuel hfuel ops hwf
  refine ⟨t, rs, ?_, ?_⟩
  · rw [runN_go_init cfg s0 hinit h32 sp grow fuelE hfE extra fuel hfuel ops hwf]; exact k1
  · rw [runN_go hbc sp grow fuelE hfE extra fuel hf (ofOSAP cfg) p hp (nilOps fl) t _ hS (nilCalls.wf_nilOps fl)]
    exact drain_core hbc _ (cespec_go sp grow fuelE hfE) extra grow fuel hf (ofOSAP cfg) p hp t _ hS rfl fl

end

end LZ.GenOSAPHist

#print axioms LZ.GenOSAPHist.drain_core
#print axioms LZ.GenOSAPHist.C14_drains_go_text_osap
#print axioms LZ.GenOSAPHist.C14_drains_go_text_osap_ce_go
