/-
  LzProofs.GenBUPParseNil — the NIL PATH of the mechanical translation of bup.go `(*bucketParser).Parse`:
  `bucketParser_Parse_nilable grow fuel lcp s true blk flags` (LzModel/Generated/CodeBUPParse.lean; the pointer
  parameter `blk` is modelled by a flag plus a value, tools/extract/code_nil.go) is the call `Parse(nil, flags)`; with
  `false` it is `bucketParser_Parse` (`gen_bup_parse_nonnil`, the generated wrapper).  The nil path ignores `flags` and
  never calls `lcp` (no `LcpSpec` hypothesis); fuel `len + 2` suffices.  The result is that of `parseNilW` with THE SAME
  `blk` (nothing is written), and only `W` and the table of the Go state change.
-/
import LzProofs.GenBUPParse

set_option linter.unusedSimpArgs false
set_option linter.unusedVariables false

namespace LZ.GenBUPParse
open LZ LZ.Gen LZ.GenBuf LZ.GenHash LZ.GenHPParse LZ.GenParse LZ.GenProps

theorem gen_bup_parse_nonnil (grow : Nat → Nat → Nat) (fuel : Nat) (lcp : Slice → Slice → Int) (s : Gen.bucketParser)
    (blk : Gen.Block') (flags : Int) :
    bucketParser_Parse grow fuel lcp s blk flags = bucketParser_Parse_nilable grow fuel lcp s false blk flags := rfl

/-- the straight-line prefix of the nil path: nothing buffered ⇒ `(0, ErrEmptyBuffer)`, the parser and the ghost block
    unchanged; for every `grow`, `fuel`, `lcp`, `flags` -/
theorem gen_bup_parseNil_empty (grow : Nat → Nat → Nat) (fuel : Nat) (lcp : Slice → Slice → Int) (s : Gen.bucketParser)
    (blk : Gen.Block') (flags : Int) (h : Min.min s.BUPConfig.BlockSize
      ((s.bucketDictionary.ParserBuffer.Data.len : Int) - s.bucketDictionary.ParserBuffer.W) = 0) :
    bucketParser_Parse_nilable grow fuel lcp s true blk flags = Res.ok (s, blk, (0 : Int), ErrEmptyBuffer) := by
  unfold bucketParser_Parse_nilable
  simp only [if_true, gt_iff_lt, ge_iff_le, ite_lt_min, ite_le_min]
  split
  all_goals first
    | rfl
    | (exfalso; int_omega)

theorem gen_bup_parseNil (grow : Nat → Nat → Nat) (fuel : Nat) (lcp : Slice → Slice → Int) (s : Gen.bucketParser)
    (blk : Gen.Block') (flags : Int)
    (h : ParseOKU s) (hfuel : s.bucketDictionary.ParserBuffer.Data.len + 2 ≤ fuel) :
    match ProbeW.parseNilW (ofBUPs s) (staleOfU s) with
    | none => bucketParser_Parse_nilable grow fuel lcp s true blk flags = Res.panic
    | some (s', n, e) =>
      ∃ t, bucketParser_Parse_nilable grow fuel lcp s true blk flags = Res.ok (t, blk, (n : Int), parseErr e) ∧
        ofBUPs t = s' ∧ staleOfU t = staleOfU s ∧ (e = .ok ∨ e = .empty) ∧ ParseOKU t ∧
        SameCfg s.bucketDictionary.bucketHash t.bucketDictionary.bucketHash ∧
        ∃ g', t = withWB s ((s'.buf.w : Nat) : Int) g' := by
  by_cases hn : (ofBUPs s).blockN = 0
  · rw [gen_bup_parseNil_empty grow fuel lcp s blk flags (h.frame.clamp.trans (by rw [hn]; rfl))]
    rw [ProbeW.parseNilW_empty _ _ hn]
    refine ⟨s, rfl, rfl, rfl, Or.inr rfl, h, SameCfg.refl _, s.bucketDictionary.bucketHash, ?_⟩
    rw [h.frame.w_cast]
  rw [ProbeW.parseNilW_bucket_nf (ofBUPs s) (staleOfU s) (ofBucket s.bucketDictionary.bucketHash) rfl hn, Int.natCast_add,
    h.frame.w_cast, h.il_cast]
  generalize hG : bucketParser_Parse_nilable grow fuel lcp s true blk flags = G
  unfold bucketParser_Parse_nilable at hG
  simp only [if_true, Int.ofNat_eq_natCast, gt_iff_lt, ge_iff_le, ite_lt_min, ite_le_min, h.frame.clamp, h.frame.clamp'] at hG
  -- `if n == 0 { return … }` or `if n != 0 { … }` with the arms swapped
  first | rw [if_neg (by omega)] at hG | rw [if_pos (by omega)] at hG
  -- `t := s.W + n` with the summands either way round
  try rw [Int.add_comm (((ofBUPs s).blockN : Nat) : Int) s.bucketDictionary.ParserBuffer.W] at hG
  have hps := h.pseg fuel hfuel (s.bucketDictionary.ParserBuffer.W + (((ofBUPs s).blockN : Nat) : Int))
  split at hps
  · rename_i hp1
    rw [hp1]
    rw [hps] at hG
    exact hG.symm
  rename_i bk' hp1
  obtain ⟨g0, hb0, hsc0, rfl, hps⟩ := hps
  rw [hp1, Option.bind_some]
  rw [hps, bind_ok] at hG
  dsimp only at hG ⊢
  have hwt : s.bucketDictionary.ParserBuffer.W + (((ofBUPs s).blockN : Nat) : Int) =
      (((ofBUPs s).buf.w + (ofBUPs s).blockN : Nat) : Int) := by rw [Int.natCast_add, h.frame.w_cast]
  rw [hwt] at hG
  exact ⟨withWB s (((ofBUPs s).buf.w + (ofBUPs s).blockN : Nat) : Int) g0, hG.symm, by
    show ofBUPs (withWB s _ g0) = _
    unfold ofBUPs ofBDict ofPB
    simp only [Int.toNat_natCast], rfl, Or.inl rfl, h.update _ h.frame.blockN_le hb0 hsc0, hsc0, g0, rfl⟩

/-- Go text → list-level model, nil path: where the buffer is within its capacity and `inputLen` within the model's
    bounds (`ProbeW.parseNilW_eq`; both hold along every history) no panic, the result of `Parser.parseNil`. -/
theorem gen_bup_parseNil_model (grow : Nat → Nat → Nat) (fuel : Nat) (lcp : Slice → Slice → Int) (s : Gen.bucketParser)
    (blk : Gen.Block') (flags : Int)
    (h : ParseOKU s) (hfuel : s.bucketDictionary.ParserBuffer.Data.len + 2 ≤ fuel)
    (hcap : (ofBUPs s).buf.CapOK) (hd : ProbeW.HashDictOK (ofBUPs s).dict) :
    ∃ t, bucketParser_Parse_nilable grow fuel lcp s true blk flags =
        Res.ok (t, blk, (((ofBUPs s).parseNil).2.1 : Int), parseErr ((ofBUPs s).parseNil).2.2) ∧
      ofBUPs t = ((ofBUPs s).parseNil).1 ∧ staleOfU t = staleOfU s ∧ ParseOKU t ∧
      SameCfg s.bucketDictionary.bucketHash t.bucketDictionary.bucketHash ∧
      ∃ g', t = withWB s ((((ofBUPs s).parseNil).1.buf.w : Nat) : Int) g' := by
  have hW := ProbeW.parseNilW_eq (ofBUPs s) (staleOfU s) h.backing hcap hd
  have hm := gen_bup_parseNil grow fuel lcp s blk flags h hfuel
  rw [hW] at hm
  obtain ⟨t, h1, h2, h3, _, h5, h6⟩ := hm
  exact ⟨t, h1, h2, h3, h5, h6⟩

end LZ.GenBUPParse

#print axioms LZ.GenBUPParse.gen_bup_parse_nonnil
#print axioms LZ.GenBUPParse.gen_bup_parseNil_empty
#print axioms LZ.GenBUPParse.gen_bup_parseNil
#print axioms LZ.GenBUPParse.gen_bup_parseNil_model
