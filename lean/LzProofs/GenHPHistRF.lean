/-
  LzProofs.GenHPHistRF — histories of the hash parser HP that also contain `ReadFrom`, with `ParserBuffer.ReadFrom` as
  an OPAQUE callee under a named specification.  No sorry, no axioms of its own.

  This file treats `ParserBuffer.ReadFrom(r io.Reader)` the way the translation of bhp.go treats `lcs` and the
  translation of wrap.go treats the methods of the wrapped `Parser`
  (GenWrapProps `mReadFrom`): a parameter `RF` of `runGR`, and a hypothesis
      `RFSpec RF`:  on every well-formed buffer (`len ≤ BufferSize`, empty or 7 spare bytes) on which the model's `PBuf.readFrom` (scripted reader, LzModel/PBuf.lean)
                    does not report a Go panic, `RF` returns the model's `(reader', n, err)` and a buffer that abstracts
                    to the model's.
  Everything else is as in GenHPHistRun: the other four operations are executed on the translated functions.
  The theorems say: IF `ReadFrom` does what its hand model says (what the correspondence scripts test), then histories
  with `ReadFrom` never panic, keep `ParseOK`, and satisfy C01.  The hypothesis `RFSpec` is the exact residue of the
  tie for HP; LzProofs/GenHPHistRF2.lean discharges it for the translated `ParserBuffer_ReadFrom` (`rfGo_spec`).

    C01_go_text_hp_rf   C01 for histories of Write / ReadFrom / Parse / Shrink / Reset
-/
import LzProofs.GenHPHistRun

set_option linter.unusedSimpArgs false
set_option linter.unusedVariables false

namespace LZ.GenHPHist
open LZ LZ.Gen LZ.GenBuf LZ.GenHash LZ.GenHPParse LZ.GenProps
open LZ.GenHist (HistInv FRel BufHost)

/-- model error ↦ Go error value, as `GenWrap.genErr` (LzProofs/GenWrapProps.lean, not imported here) on the
    errors `ReadFrom` can return: `ErrFullBuffer`, `io.EOF`,
    the reader's own error `c ≥ 2` as a fresh code -/
def genErr : LZ.Err → Gen.Err
  | .ok => Gen.Err.ok
  | .full => Gen.ErrFullBuffer
  | .eof => Gen.io_EOF
  | .reader c => Gen.Err.error (3000 + 2 * c)
  | _ => Gen.Err.error 2903

/-- the type of (a Lean rendering of) `(*ParserBuffer).ReadFrom` against the scripted reader -/
abbrev RFun := Gen.ParserBuffer → Reader → Res (Gen.ParserBuffer × Reader × Int × Gen.Err)

/-- the specification of the opaque `ReadFrom`: it is the model's `PBuf.readFrom` -/
def RFSpec (RF : RFun) : Prop :=
  ∀ (b : Gen.ParserBuffer) (r : Reader), PBWF b → (ofPB b).CapOK → (ofPB b).data.length ≤ (ofPB b).cfg.bufferSize →
    (PBuf.readFrom (ofPB b) r).2.2.2 ≠ .panic →
    ∃ b', RF b r = Res.ok (b', (PBuf.readFrom (ofPB b) r).2.1, ((PBuf.readFrom (ofPB b) r).2.2.1 : Int),
        genErr (PBuf.readFrom (ofPB b) r).2.2.2) ∧
      ofPB b' = (PBuf.readFrom (ofPB b) r).1 ∧ PBWF b'

/-- `RFSpec` is satisfiable: the model's `readFrom`, written back into a Go buffer (fresh backing array of the
    model's capacity, zero behind the data) -/
def rfWitness : RFun := fun b r =>
  let x := PBuf.readFrom (ofPB b) r
  Res.ok ({ b with Data := { arr := x.1.data ++ List.replicate (x.1.cap - x.1.data.length) 0, len := x.1.data.length } },
    x.2.1, (x.2.2.1 : Int), genErr x.2.2.2)

theorem ofPB_mk (b : Gen.ParserBuffer) (d : List UInt8) (c : Nat) (h : d.length ≤ c) :
    ofPB { b with Data := { arr := d ++ List.replicate (c - d.length) 0, len := d.length } } =
      { ofPB b with data := d, cap := c } := by
  simp only [ofPB, Slice.data, Slice.cap, List.take_left', List.length_append, List.length_replicate]
  congr 1; omega

theorem rfWitness_spec : RFSpec rfWitness := by
  intro b r hwf hcap hlen hnp
  obtain ⟨c, pre, hb, -, hn1, hn2, hm, -⟩ :=
    PBuf.readFrom_master hlen (PBuf.readFrom_eta (ofPB b) r)
  have hc : (PBuf.readFrom (ofPB b) r).1.data.length ≤ (PBuf.readFrom (ofPB b) r).1.cap := by
    rw [hb]
    simp only [List.length_append, List.length_take]
    rcases hm hcap with ⟨h1, h2⟩ | h2
    · rw [h1, h2]; simp
    · omega
  refine ⟨_, rfl, ?_, ?_⟩
  · generalize PBuf.readFrom (ofPB b) r = x at hb hc ⊢
    obtain ⟨x1, x2, x3, x4⟩ := x
    simp only at hb hc ⊢
    rw [ofPB_mk b _ _ hc, hb]
  · obtain ⟨hd, hw0, ho0, hs0, hb0⟩ := hwf
    refine ⟨?_, hw0, ho0, hs0, hb0⟩
    show (PBuf.readFrom (ofPB b) r).1.data.length ≤
      ((PBuf.readFrom (ofPB b) r).1.data ++ List.replicate _ (0 : UInt8)).length
    simp only [List.length_append]; omega

/-- a translated `ReadFrom` is simulated by the model's under `Rel` (as `WriteRel` … of LzProofs/GenHistBuf.lean) -/
def _root_.LZ.GenHist.ReadFromRel {σ : Type} (Rel : σ → Parser → Prop)
    (rf : σ → Reader → Res (σ × Reader × Int × Gen.Err)) : Prop :=
  ∀ t m r, Rel t m → ∃ t', rf t r = Res.ok (t', (m.readFrom r).2.1, ((m.readFrom r).2.2.1 : Int),
    genErr (m.readFrom r).2.2.2) ∧ Rel t' (m.readFrom r).1

open LZ.GenHist (ReadFromRel)

/-- `s.ReadFrom(r)` for `s *hashParser`: promoted from the embedded `ParserBuffer` -/
def hp_ReadFrom (RF : RFun) (s : Gen.hashParser) (r : Reader) : Res (Gen.hashParser × Reader × Int × Gen.Err) :=
  Res.bind (RF s.hashDictionary.ParserBuffer r) fun x =>
  Res.ok ({ s with hashDictionary := { s.hashDictionary with ParserBuffer := x.1 } }, x.2.1, x.2.2.1, x.2.2.2)

/-- a rendering `RF` of `ParserBuffer.ReadFrom` with `RFSpec` on a Go buffer whose abstraction has `BufOK`: the model's
    `readFrom` reports no panic there, so `RF` returns the model's results; and the buffer keeps `BufOK` -/
theorem pbuf_readFrom {bc : BufCfg} (RF : RFun) (hRF : RFSpec RF) (b : Gen.ParserBuffer) (hwf : PBWF b)
    (h : GenHist.BufOK bc (ofPB b)) (r : Reader) :
    ∃ b', RF b r = Res.ok (b', ((ofPB b).readFrom r).2.1, (((ofPB b).readFrom r).2.2.1 : Int),
        genErr ((ofPB b).readFrom r).2.2.2) ∧ PBWF b' ∧ ofPB b' = ((ofPB b).readFrom r).1 ∧ GenHist.BufOK bc (ofPB b') ∧
      (ofPB b').w = (ofPB b).w ∧ (ofPB b).data.length ≤ (ofPB b').data.length := by
  obtain ⟨k1, hnp, k3, k4⟩ := h.readFrom r
  obtain ⟨b', hrf, hof, hwf'⟩ := hRF b r hwf h.cap h.mlen hnp
  exact ⟨b', hrf, hwf', hof, by rw [hof]; exact k1, by rw [hof]; exact k3, by rw [hof]; exact k4⟩

/-- the promoted `ReadFrom` of a state that holds its `ParserBuffer` -/
theorem _root_.LZ.GenHist.BufHost.readFrom {σ : Type} {bc : BufCfg} {Rel : σ → Parser → Prop} (B : BufHost bc Rel)
    (RF : RFun) (hRF : RFSpec RF) {rf : σ → Reader → Res (σ × Reader × Int × Gen.Err)}
    (hrf : ∀ t r, rf t r = Res.bind (RF (B.pb t) r) fun x => Res.ok (B.setPB t x.1, x.2.1, x.2.2.1, x.2.2.2)) :
    ReadFromRel Rel rf := by
  intro t m r h
  obtain ⟨hwf, hb, hm⟩ := B.get h
  obtain ⟨b', h1, hwf', hof, hb', hW, hl⟩ := pbuf_readFrom RF hRF (B.pb t) hwf hb r
  rw [Parser.readFrom_def, hm, ← hof]
  exact ⟨B.setPB t b', by rw [hrf, h1]; rfl, B.put b' h hwf' hb' hW hl⟩

theorem hist_readFrom {bc : BufCfg} (hbc : BCOK bc) (RF : RFun) (hRF : RFSpec RF) :
    ReadFromRel (FRel (HistOK bc) ofHPs) (hp_ReadFrom RF) :=
  (bufHost hbc).readFrom RF hRF fun _ _ => rfl

/-! ## histories with ReadFrom -/

inductive GOpR where
  | base (op : GOp)
  | readFrom (r : Reader)

inductive GResR where
  | base (r : GRes)
  /-- `n` and the error; the reader after the call is not an input of any later call -/
  | readFrom (n : Int) (err : Gen.Err)

def GOpR.WF : GOpR → Prop
  | .base op => op.WF
  | .readFrom _ => True

def GOpR.abs : GOpR → POp
  | .base op => op.abs
  | .readFrom r => .readFrom r

def stepGR (RF : RFun) (grow : Nat → Nat → Nat) (fuel : Nat) (s : Gen.hashParser) : GOpR → Res (Gen.hashParser × GResR)
  | .base op => Res.bind (stepG grow fuel s op) fun x => Res.ok (x.1, .base x.2)
  | .readFrom r => Res.bind (hp_ReadFrom RF s r) fun x => Res.ok (x.1, .readFrom x.2.2.1 x.2.2.2)

def runGR (RF : RFun) (grow : Nat → Nat → Nat) (fuel : Nat) : Gen.hashParser → List GOpR → Res (Gen.hashParser × List GResR)
  | s, [] => Res.ok (s, [])
  | s, op :: ops =>
    Res.bind (stepGR RF grow fuel s op) fun x =>
    Res.bind (runGR RF grow fuel x.1 ops) fun q => Res.ok (q.1, x.2 :: q.2)

def resAgreeR (m : Parser) : GOpR → GResR → Prop
  | .base op, .base r => resAgree m op r
  | .readFrom rd, .readFrom n e => n = ((m.readFrom rd).2.2.1 : Int) ∧ e = genErr (m.readFrom rd).2.2.2
  | _, _ => False

def ResultsAgreeR : Parser × Ghost → List GOpR → List GResR → Prop
  | _, [], [] => True
  | sg, op :: ops, r :: rs => resAgreeR sg.1 op r ∧ ResultsAgreeR (step sg op.abs) ops rs
  | _, _, _ => False

def ghostStepR (g : Ghost) : GOpR → GResR → Ghost
  | .base op, .base r => ghostStep g op r
  | .readFrom rd, .readFrom n _ => { g with fed := g.fed ++ rd.payload.take n.toNat }
  | _, _ => g

def ghostRunR : Ghost → List GOpR → List GResR → Ghost
  | g, op :: ops, r :: rs => ghostRunR (ghostStepR g op r) ops rs
  | g, _, _ => g

def callsR : GenHist.Calls GOpR GResR := ⟨GOpR.WF, GOpR.abs, ghostStepR, resAgreeR⟩

theorem ghostRunR_eq : ghostRunR = callsR.ghostRun :=
  GenHist.ghostRun_unique (fun _ _ _ _ _ => rfl) (fun _ _ => rfl) (fun _ _ _ => rfl)

theorem resultsAgreeR_eq : ResultsAgreeR = callsR.ResultsAgree :=
  GenHist.resultsAgree_unique (fun _ _ _ _ _ => rfl) (fun _ => rfl) (fun _ _ _ => rfl) (fun _ _ _ => rfl)

theorem ghost_readFrom (m : Parser) (gh : Ghost) (rd : Reader) (e : Gen.Err) :
    ghostStepR gh (.readFrom rd) (.readFrom ((m.readFrom rd).2.2.1 : Int) e) = (step (m, gh) (.readFrom rd)).2 := by
  simp only [ghostStepR, step, Int.toNat_natCast]

/-- A machine over `GOpR` that is a simulated machine `stpG` over `GOp` plus a simulated `ReadFrom` is simulated. -/
theorem stepRel_R {σ : Type} {Rel : σ → Parser → Prop} {Q : Parser × Ghost → Prop} {stpG : σ → GOp → Res (σ × GRes)}
    {stp : σ → GOpR → Res (σ × GResR)} {rf : σ → Reader → Res (σ × Reader × Int × Gen.Err)}
    (hQ : ∀ sg op, Q sg → Q (step sg op))
    (hG : GenHist.StepSim calls stpG (HistInv Rel Q)) (hrf : ReadFromRel Rel rf)
    (eb : ∀ s op, stp s (.base op) = Res.bind (stpG s op) fun x => Res.ok (x.1, .base x.2))
    (er : ∀ s r, stp s (.readFrom r) = Res.bind (rf s r) fun x => Res.ok (x.1, .readFrom x.2.2.1 x.2.2.2)) :
    GenHist.StepSim callsR stp (HistInv Rel Q) := by
  intro t sg op h hop
  cases op with
  | base op =>
    obtain ⟨t', r, h1, h2, h3, h4⟩ := hG t sg op h hop
    exact ⟨t', .base r, by rw [eb, h1]; rfl, h2, h3, h4⟩
  | readFrom rd =>
    obtain ⟨m, g⟩ := sg
    obtain ⟨t', h1, h2⟩ := hrf t m rd h.1
    exact ⟨t', .readFrom _ _, by rw [er, h1]; rfl, ⟨h2, hQ _ _ h.2⟩,
      ghost_readFrom m g rd (genErr (m.readFrom rd).2.2.2), rfl, rfl⟩

/-! ## histories of HP with ReadFrom -/

theorem runGR_eq (RF : RFun) (grow : Nat → Nat → Nat) (fuel : Nat) :
    runGR RF grow fuel = GenHist.run (stepGR RF grow fuel) :=
  GenHist.run_unique (fun _ => rfl) (fun _ _ _ => rfl)

theorem stepGR_sim {bc : BufCfg} (hbc : BCOK bc) (RF : RFun) (hRF : RFSpec RF) (grow : Nat → Nat → Nat) (fuel : Nat)
    (hfuel : bc.bufferSize + 3 ≤ fuel) :
    GenHist.StepSim callsR (stepGR RF grow fuel) (GenHist.FInv (HistOK bc) ofHPs) :=
  stepRel_R (fun _ _ _ => trivial) (stepG_sim hbc grow fuel hfuel) (hist_readFrom hbc RF hRF) (fun _ _ => rfl) (fun _ _ => rfl)

/-- the simulation from `hashParser.init`, for histories with `ReadFrom` (relative to `RFSpec`) -/
theorem gen_hp_history_rf (cfg : Gen.HPConfig) (s0 : Gen.hashParser)
    (hinit : hashParser_init default cfg = Res.ok (s0, Gen.Err.ok))
    (RF : RFun) (hRF : RFSpec RF) (grow : Nat → Nat → Nat) (fuel : Nat)
    (hfuel : s0.hashDictionary.ParserBuffer.BufConfig.BufferSize.toNat + 3 ≤ fuel)
    (ops : List GOpR) (hwf : ∀ op ∈ ops, op.WF) :
    ∃ p t rs, newParser .HP (ofHP cfg) = some p ∧ ofHPs s0 = p ∧
      runGR RF grow fuel s0 ops = Res.ok (t, rs) ∧ ParseOK t ∧
      ofHPs t = (runOps (p, Ghost.init) (ops.map GOpR.abs)).1 ∧
      ghostRunR Ghost.init ops rs = (runOps (p, Ghost.init) (ops.map GOpR.abs)).2 ∧
      ResultsAgreeR (p, Ghost.init) ops rs := by
  obtain ⟨p, hp, hbc, hf, h0⟩ := init_inv cfg s0 hinit fuel hfuel
  rw [runGR_eq, ghostRunR_eq, resultsAgreeR_eq]
  obtain ⟨t, rs, k1, ⟨⟨k2, k3⟩, -⟩, k4, k5⟩ :=
    GenHist.run_sim (stepGR_sim hbc RF hRF grow fuel hf) ops s0 _ h0 hwf
  exact ⟨p, t, rs, hp, h0.1.2, k1, k2.pok, k3, k4, k5⟩

/-- **C01 about the Go text of HP, histories with `ReadFrom`** — relative to `RFSpec RF` (the callee
    `ParserBuffer.ReadFrom` behaves as its hand model); `Write`, `Parse`, `Shrink`, `Reset`, `init` are the translated
    functions. -/
theorem C01_go_text_hp_rf (cfg : Gen.HPConfig) (s0 : Gen.hashParser)
    (hinit : hashParser_init default cfg = Res.ok (s0, Gen.Err.ok))
    (RF : RFun) (hRF : RFSpec RF) (grow : Nat → Nat → Nat) (fuel : Nat)
    (hfuel : s0.hashDictionary.ParserBuffer.BufConfig.BufferSize.toNat + 3 ≤ fuel)
    (ops : List GOpR) (hwf : ∀ op ∈ ops, op.WF) :
    ∃ t rs, runGR RF grow fuel s0 ops = Res.ok (t, rs) ∧
      decode [] (ghostRunR Ghost.init ops rs).log =
        some ((ghostRunR Ghost.init ops rs).fed.take (ghostRunR Ghost.init ops rs).consumed) := by
  obtain ⟨p, t, rs, hp, -, h1, -, -, h4, -⟩ := gen_hp_history_rf cfg s0 hinit RF hRF grow fuel hfuel ops hwf
  exact ⟨t, rs, h1, GenHist.C01_ghost hp (histHyp_of_ne .HP p (by decide)) h4⟩

end LZ.GenHPHist

#print axioms LZ.GenHPHist.rfWitness_spec
#print axioms LZ.GenHist.BufHost.readFrom
#print axioms LZ.GenHPHist.stepRel_R
#print axioms LZ.GenHPHist.hist_readFrom
#print axioms LZ.GenHPHist.gen_hp_history_rf
#print axioms LZ.GenHPHist.C01_go_text_hp_rf
