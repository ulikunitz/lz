/-
  LzProofs.GenOSAPInit — the translated `(*optSuffixArrayParser).resetEdges`, `Reset`, `Shrink` and `init` of osap.go
  (topic OSAPInit of tools/extract; LzModel/Generated/CodeOSAPInit.lean) against the buffer model (`PBuf.reset`,
  `PBuf.shrink`, `PBuf.init`: GenBufPropsP) and the model dictionary `OsapD` (LzModel/Sap.lean): `resetEdges` leaves
  `OsapD.empty`, as `Parser.reset` / `Parser.shrink` / `newParser .OSAP` do (LzModel/Parser.lean).  The exact analogue of
  GenGSAPInit.lean.  Nothing is opaque here.

    gen_osap_resetEdges  resetEdges(): never panics; edgeBuf, edges, tmp truncated (backing arrays kept), start = nEdges = 0
    gen_osap_reset       Reset(data): buffer = PBuf.reset; on success the dictionary is `OsapD.empty`, on error unchanged
    gen_osap_shrink      Shrink(): buffer = PBuf.shrink; the dictionary is emptied iff delta > 0
    gen_osap_init        init(cfg): the error paths, and on success buffer = PBuf.init, dictionary empty, cost = XZCost,
                         config stored
    osap_init_bc         after an accepted Verify the ParserBuffer.Init error path of init is dead
    gen_osap_reset_model / gen_osap_shrink_model   the same against `Parser.reset` / `Parser.shrink` on `osapOf s`
    gen_osap_init_model  init(toOSAP raw) vs `newParser .OSAP raw`; gen_osap_init_fresh for the zero receiver
    gen_osap_init_inv    the facts `init` establishes (the fields of `ParseOKO` except `MinMatchLen < 2^32`, which
                         `Verify` does not check)
  No sorry, no axioms of its own.
-/
import LzModel.Generated.CodeOSAPInit
import LzModel.Parser
import LzProofs.GenOSAPLemmas
import LzProofs.GenHashPropsDict
import LzProofs.GenDictFrame
import LzProofs.GenPropsCfgOSAP

set_option linter.unusedSimpArgs false
set_option linter.unusedVariables false

namespace LZ.GenOSAP
open LZ LZ.Gen LZ.GenBuf LZ.GenHash LZ.GenSuffix LZ.GenProps

/-- the model dictionary a Go `optSuffixArrayParser` stands for (the same abstraction as `ofOD` of GenOSAPParseLemmas) -/
def odOf (s : Gen.optSuffixArrayParser) : OsapD := ⟨edgesAbs s.edges, s.start.toNat, s.nEdges.toNat⟩

theorem edgesAbs_len0 (es : GSlice (GSlice Gen.edge)) (h : es.len = 0) : edgesAbs es = #[] := by
  unfold edgesAbs GSlice.data
  rw [h]
  rfl

theorem odOf_empty (s : Gen.optSuffixArrayParser) (he : s.edges.len = 0) (hs : s.start = 0) (hn : s.nEdges = 0) :
    odOf s = OsapD.empty := by
  unfold odOf OsapD.empty
  rw [edgesAbs_len0 _ he, hs, hn]
  rfl

/-- what `resetEdges()` leaves behind: the empty dictionary; `edgeBuf`, `edges`, `tmp` truncated to length 0 with
    their backing arrays (and so their capacities) kept -/
structure EdgesReset (s s' : Gen.optSuffixArrayParser) : Prop where
  od : odOf s' = OsapD.empty
  start : s'.start = 0
  nEdges : s'.nEdges = 0
  lbuf : s'.edgeBuf.len = 0
  ledges : s'.edges.len = 0
  ltmp : s'.tmp.len = 0
  abuf : s'.edgeBuf.arr = s.edgeBuf.arr
  aedges : s'.edges.arr = s.edges.arr
  atmp : s'.tmp.arr = s.tmp.arr
  wbuf : GWF s'.edgeBuf
  wedges : GWF s'.edges
  wtmp : GWF s'.tmp

/-- the five fields `resetEdges()` writes are untouched -/
structure EdgesKept (s s' : Gen.optSuffixArrayParser) : Prop where
  buf : s'.edgeBuf = s.edgeBuf
  edges : s'.edges = s.edges
  start : s'.start = s.start
  nEdges : s'.nEdges = s.nEdges
  tmp : s'.tmp = s.tmp

theorem EdgesKept.od {s s' : Gen.optSuffixArrayParser} (h : EdgesKept s s') : odOf s' = odOf s := by
  unfold odOf
  rw [h.edges, h.start, h.nEdges]

/-- `resetEdges()` on a state whose `ParserBuffer` is `b` -/
theorem resetEdges_pb (s : Gen.optSuffixArrayParser) (b : Gen.ParserBuffer) :
    ∃ s', optSuffixArrayParser_resetEdges { s with ParserBuffer := b } = Res.ok s' ∧
      s'.ParserBuffer = b ∧ s'.cost = s.cost ∧ s'.OSAPConfig = s.OSAPConfig ∧ EdgesReset s s' := by
  refine ⟨⟨b, { arr := s.edgeBuf.arr, len := 0 }, { arr := s.edges.arr, len := 0 }, 0, 0,
    { arr := s.tmp.arr, len := 0 }, s.cost, s.OSAPConfig⟩, ?_, rfl, rfl, rfl,
    ⟨odOf_empty _ rfl rfl rfl, rfl, rfl, rfl, rfl, rfl, rfl, rfl, rfl,
      gtrunc0_wf _, gtrunc0_wf _, gtrunc0_wf _⟩⟩
  -- the five statements are evaluated as they come, in whatever order the text has them (the fields are independent)
  unfold optSuffixArrayParser_resetEdges
  simp only [gtrunc0_eq, bind_ok]
  try rfl

/-- **`resetEdges()`**: `s.edgeBuf = s.edgeBuf[:0]; s.edges = s.edges[:0]; s.start = 0; s.nEdges = 0; s.tmp = s.tmp[:0]` -/
theorem gen_osap_resetEdges (s : Gen.optSuffixArrayParser) :
    ∃ s', optSuffixArrayParser_resetEdges s = Res.ok s' ∧
      s'.ParserBuffer = s.ParserBuffer ∧ s'.cost = s.cost ∧ s'.OSAPConfig = s.OSAPConfig ∧
      EdgesReset s s' :=
  resetEdges_pb s s.ParserBuffer

/-- **`Reset(data)`** -/
theorem gen_osap_reset (s : Gen.optSuffixArrayParser) (hpb : PBWF s.ParserBuffer) (data : Slice) (hdat : SWF data) :
    ∃ s' e, optSuffixArrayParser_Reset s data = Res.ok (s', e) ∧
      ofPB s'.ParserBuffer = (PBuf.reset (ofPB s.ParserBuffer) data.data (data.cap - data.len)).1 ∧
      errOfReset e = some (PBuf.reset (ofPB s.ParserBuffer) data.data (data.cap - data.len)).2 ∧
      PBWF s'.ParserBuffer ∧ s'.OSAPConfig = s.OSAPConfig ∧ s'.cost = s.cost ∧
      (e = Gen.Err.ok → EdgesReset s s') ∧
      (e ≠ Gen.Err.ok → EdgesKept s s') := by
  obtain ⟨b', e, hb, hof, herr, hwf⟩ := gen_pbuf_reset s.ParserBuffer hpb data hdat
  -- the test on the error is decided in either spelling (`err != nil`, `nil == err`, `err == nil` with swapped arms)
  by_cases he : e = Gen.Err.ok
  · subst he
    obtain ⟨s', h1, h2, h3, h4, h5⟩ := resetEdges_pb s b'
    refine ⟨s', Gen.Err.ok, ?_, by rw [h2]; exact hof, herr, by rw [h2]; exact hwf, h4, h3,
      fun _ => h5, fun hc => absurd rfl hc⟩
    unfold optSuffixArrayParser_Reset
    rw [hb, bind_ok]
    simp only [ne_eq, eq_self, not_true_eq_false, not_false_eq_true, if_true, if_false, h1, bind_ok]
    try rfl
  · have he' : ¬ Gen.Err.ok = e := fun h => he h.symm
    refine ⟨{ s with ParserBuffer := b' }, e, ?_, hof, herr, hwf, rfl, rfl, fun hc => absurd hc he,
      fun _ => ⟨rfl, rfl, rfl, rfl, rfl⟩⟩
    unfold optSuffixArrayParser_Reset
    rw [hb, bind_ok]
    simp only [he, he', ne_eq, eq_self, not_true_eq_false, not_false_eq_true, if_true, if_false]
    try rfl

/-- **`Shrink()`** -/
theorem gen_osap_shrink (s : Gen.optSuffixArrayParser) (hpb : PBWF s.ParserBuffer)
    (hw : s.ParserBuffer.W - s.ParserBuffer.BufConfig.ShrinkSize ≤ s.ParserBuffer.Data.len) :
    ∃ s', optSuffixArrayParser_Shrink s = Res.ok (s', ((PBuf.shrink (ofPB s.ParserBuffer)).2 : Int)) ∧
      ofPB s'.ParserBuffer = (PBuf.shrink (ofPB s.ParserBuffer)).1 ∧ PBWF s'.ParserBuffer ∧
      s'.OSAPConfig = s.OSAPConfig ∧ s'.cost = s.cost ∧
      ((PBuf.shrink (ofPB s.ParserBuffer)).2 > 0 → EdgesReset s s') ∧
      ((PBuf.shrink (ofPB s.ParserBuffer)).2 = 0 → EdgesKept s s') := by
  obtain ⟨b', hb, hof, hwf⟩ := gen_pbuf_shrink s.ParserBuffer hpb hw
  generalize (PBuf.shrink (ofPB s.ParserBuffer)).2 = d at hb ⊢
  -- the test on `delta` is decided by omega in whatever spelling / arm order
  by_cases hd : d > 0
  · obtain ⟨s', h1, h2, h3, h4, h5⟩ := resetEdges_pb s b'
    refine ⟨s', ?_, by rw [h2]; exact hof, by rw [h2]; exact hwf, h4, h3, fun _ => h5, fun hc => by omega⟩
    unfold optSuffixArrayParser_Shrink
    rw [hb, bind_ok]
    try dsimp only
    decide_ite
    simp only [h1, bind_ok]
    try rfl
  · refine ⟨{ s with ParserBuffer := b' }, ?_, hof, hwf, rfl, rfl, fun hc => absurd hc hd,
      fun _ => ⟨rfl, rfl, rfl, rfl, rfl⟩⟩
    unfold optSuffixArrayParser_Shrink
    rw [hb, bind_ok]
    try dsimp only
    decide_ite
    try simp only [bind_ok]
    try rfl

/-! ## `init` -/

/-- what an accepted `OSAPConfig` says: the buffer part is accepted, the cost function is `XZCost` -/
theorem osap_verify_parts (c : Gen.OSAPConfig) (h : OSAPConfig_Verify c = Gen.Err.ok) :
    BufConfig_Verify ⟨c.ShrinkSize, c.BufferSize, c.WindowSize, c.BlockSize⟩ = Gen.Err.ok ∧ c.Cost = "XZCost" ∧
      2 ≤ c.MinMatchLen ∧ c.MinMatchLen ≤ c.MaxMatchLen ∧ c.BufferSize ≤ 2147483647 := by
  -- through the tie `gen_verify_OSAP` and the model's `verify`: the text of `OSAPConfig.Verify` is not looked at here
  obtain ⟨hb, hm1, hm2, hc, hs⟩ := verify_osap.mp ((gen_verify_OSAP c).mp h)
  exact ⟨(gen_bufVerify _).mpr hb, hc, hm1, hm2, hs⟩

/-- after an accepted `cfg.Verify()` the call `s.ParserBuffer.Init(bufferConfig(&cfg))` cannot fail: its own
    `SetDefaults` changes nothing and its `Verify` is the one already passed -/
theorem osap_init_bc (cfg : Gen.OSAPConfig) (h : OSAPConfig_Verify (OSAPConfig_SetDefaults cfg) = Gen.Err.ok) :
    let c := OSAPConfig_SetDefaults cfg
    BufConfig_SetDefaults ⟨c.ShrinkSize, c.BufferSize, c.WindowSize, c.BlockSize⟩ =
        ⟨c.ShrinkSize, c.BufferSize, c.WindowSize, c.BlockSize⟩ ∧
      BufConfig_Verify (BufConfig_SetDefaults ⟨c.ShrinkSize, c.BufferSize, c.WindowSize, c.BlockSize⟩) = Gen.Err.ok :=
  have hr := tieOSAP.buf_ready h
  ⟨hr.1, (congrArg BufConfig_Verify hr.1).trans hr.2⟩

/-- **`init(cfg)`**: the parser configuration (defaults completed) is rejected ⇒ that error, parser unchanged;
    accepted but `ParserBuffer.Init` fails (dead: `osap_init_bc`) ⇒ that error, parser unchanged; both accepted ⇒ `nil`,
    the buffer is `PBuf.init` of the buffer configuration, the dictionary is empty, `cost` is `XZCost`, the
    defaults-completed configuration is stored. -/
theorem gen_osap_init (s : Gen.optSuffixArrayParser) (cfg : Gen.OSAPConfig) :
    let c := OSAPConfig_SetDefaults cfg
    let bc : Gen.BufConfig := ⟨c.ShrinkSize, c.BufferSize, c.WindowSize, c.BlockSize⟩
    (OSAPConfig_Verify c ≠ Gen.Err.ok → optSuffixArrayParser_init s cfg = Res.ok (s, OSAPConfig_Verify c)) ∧
    (OSAPConfig_Verify c = Gen.Err.ok →
      (BufConfig_Verify (BufConfig_SetDefaults bc) ≠ Gen.Err.ok →
        optSuffixArrayParser_init s cfg = Res.ok (s, BufConfig_Verify (BufConfig_SetDefaults bc))) ∧
      (BufConfig_Verify (BufConfig_SetDefaults bc) = Gen.Err.ok →
        ∃ s', optSuffixArrayParser_init s cfg = Res.ok (s', Gen.Err.ok) ∧
          ofPB s'.ParserBuffer =
            { PBuf.init (ofCfg (BufConfig_SetDefaults bc)) with cap := s.ParserBuffer.Data.cap } ∧
          PBWF s'.ParserBuffer ∧ s'.OSAPConfig = c ∧ s'.cost = 1 ∧ EdgesReset s s')) := by
  intro c bc
  obtain ⟨hbad, hgood⟩ := gen_pbuf_init s.ParserBuffer bc
  refine ⟨fun hne => ?_, fun hok => ⟨fun hne => ?_, fun hok2 => ?_⟩⟩
  · -- the tests on the two errors are decided in either spelling / arm order
    have hne0 : ¬ OSAPConfig_Verify (OSAPConfig_SetDefaults cfg) = Gen.Err.ok := hne
    have hne0' : ¬ Gen.Err.ok = OSAPConfig_Verify (OSAPConfig_SetDefaults cfg) := fun h => hne h.symm
    unfold optSuffixArrayParser_init
    simp only []
    simp only [hne0, hne0', ne_eq, eq_self, not_true_eq_false, not_false_eq_true, if_true, if_false]
    try rfl
  · have hk0 : OSAPConfig_Verify (OSAPConfig_SetDefaults cfg) = Gen.Err.ok := hok
    have hne' : ¬ Gen.Err.ok = BufConfig_Verify (BufConfig_SetDefaults bc) := fun h => hne h.symm
    unfold optSuffixArrayParser_init
    simp only []
    simp only [hk0, ne_eq, eq_self, not_true_eq_false, not_false_eq_true, if_true, if_false]
    rw [hbad hne, bind_ok]
    simp only [hne, hne', ne_eq, eq_self, not_true_eq_false, not_false_eq_true, if_true, if_false]
    try rfl
  · obtain ⟨b', hb, hof, hwf⟩ := hgood hok2
    obtain ⟨s', h1, h2, h3, h4, h5⟩ := resetEdges_pb s b'
    have hcost : (OSAPConfig_SetDefaults cfg).Cost = "XZCost" := (osap_verify_parts c hok).2.1
    refine ⟨{ s' with cost := 1, OSAPConfig := c }, ?_, by rw [← h2] at hof; exact hof, by rw [← h2] at hwf; exact hwf,
      rfl, rfl, ⟨odOf_empty _ h5.ledges h5.start h5.nEdges, h5.start, h5.nEdges, h5.lbuf, h5.ledges, h5.ltmp, h5.abuf,
        h5.aedges, h5.atmp, h5.wbuf, h5.wedges, h5.wtmp⟩⟩
    have hk0 : OSAPConfig_Verify (OSAPConfig_SetDefaults cfg) = Gen.Err.ok := hok
    unfold optSuffixArrayParser_init
    simp only []
    simp only [hk0, ne_eq, eq_self, not_true_eq_false, not_false_eq_true, if_true, if_false]
    rw [hb, bind_ok]
    simp only [ne_eq, eq_self, not_true_eq_false, not_false_eq_true, if_true, if_false, h1, bind_ok, hcost]
    try rfl

/-! ## the model parser (`LzModel/Parser.lean`): `newParser .OSAP`, `Parser.reset`, `Parser.shrink` -/

/-- the model parser state a Go `optSuffixArrayParser` stands for (the same as `ofOSAPs` of GenOSAPParseLemmas) -/
def osapOf (s : Gen.optSuffixArrayParser) : Parser :=
  ⟨.OSAP, ofOSAP s.OSAPConfig, ofPB s.ParserBuffer, .osap (odOf s)⟩

/-- **`Reset(data)` vs `Parser.reset`** -/
theorem gen_osap_reset_model (s : Gen.optSuffixArrayParser) (hpb : PBWF s.ParserBuffer) (data : Slice)
    (hdat : SWF data) :
    ∃ s' e, optSuffixArrayParser_Reset s data = Res.ok (s', e) ∧
      osapOf s' = (Parser.reset (osapOf s) data.data (data.cap - data.len)).1 ∧
      errOfReset e = some (Parser.reset (osapOf s) data.data (data.cap - data.len)).2 ∧
      PBWF s'.ParserBuffer ∧ s'.cost = s.cost ∧
      (e = Gen.Err.ok → EdgesReset s s') ∧ (e ≠ Gen.Err.ok → EdgesKept s s') := by
  obtain ⟨s', e, h1, hof, herr, hwf, hcfg, hcost, hr1, hr2⟩ := gen_osap_reset s hpb data hdat
  obtain ⟨a, b⟩ := Parser.reset_lift (P := osapOf s) (P' := osapOf s') (errOfReset_ok herr) rfl
    (congrArg ofOSAP hcfg) hof (fun he => congrArg Dict.osap (hr1 he).od) (fun he => congrArg Dict.osap (hr2 he).od)
  exact ⟨s', e, h1, a, b ▸ herr, hwf, hcost, hr1, hr2⟩

/-- **`Shrink()` vs `Parser.shrink`** -/
theorem gen_osap_shrink_model (s : Gen.optSuffixArrayParser) (hpb : PBWF s.ParserBuffer)
    (hw : s.ParserBuffer.W - s.ParserBuffer.BufConfig.ShrinkSize ≤ s.ParserBuffer.Data.len) :
    ∃ s', optSuffixArrayParser_Shrink s = Res.ok (s', ((Parser.shrink (osapOf s)).2 : Int)) ∧
      osapOf s' = (Parser.shrink (osapOf s)).1 ∧ PBWF s'.ParserBuffer ∧ s'.cost = s.cost ∧
      ((Parser.shrink (osapOf s)).2 > 0 → EdgesReset s s') ∧
      ((Parser.shrink (osapOf s)).2 = 0 → EdgesKept s s') := by
  obtain ⟨s', h1, hof, hwf, hcfg, hcost, hr1, hr2⟩ := gen_osap_shrink s hpb hw
  obtain ⟨a, b⟩ := Parser.shrink_lift (P := osapOf s) (P' := osapOf s') rfl (congrArg ofOSAP hcfg) hof
    (fun hd => congrArg Dict.osap (hr1 (Nat.pos_of_ne_zero hd)).od) (fun hd => congrArg Dict.osap (hr2 hd).od)
  rw [b]
  exact ⟨s', h1, a, hwf, hcost, hr1, hr2⟩

/-- **`init(cfg)` vs `newParser .OSAP`**: `raw` is the configuration as the model sees it (`toOSAP raw` the Go struct
    with the fields of `raw` that OSAPConfig has).  Rejected ⇒ an error, the receiver unchanged; accepted ⇒ the model's
    fresh parser (with the capacity of the receiver's old buffer), `cost` is `XZCost`. -/
theorem gen_osap_init_model (s : Gen.optSuffixArrayParser) (raw : Cfg) :
    match newParser .OSAP raw with
    | none => ∃ e, optSuffixArrayParser_init s (toOSAP raw) = Res.ok (s, e) ∧ e ≠ Gen.Err.ok
    | some p => ∃ s', optSuffixArrayParser_init s (toOSAP raw) = Res.ok (s', Gen.Err.ok) ∧
        osapOf s' = { p with buf := { p.buf with cap := s.ParserBuffer.Data.cap } } ∧
        PBWF s'.ParserBuffer ∧ s'.cost = 1 ∧ EdgesReset s s' := by
  obtain ⟨hbad, hgood⟩ := gen_osap_init s (toOSAP raw)
  rcases tieOSAP.newParser_cases raw with ⟨hne, hn⟩ | ⟨hok, -, hn⟩ <;> rw [hn]
  · exact ⟨_, hbad hne, hne⟩
  · obtain ⟨hi, hvb⟩ := tieOSAP.buf_ready hok
    obtain ⟨s', h1, hof, hwf, hcfg, hcost, hr⟩ := (hgood hok).2 ((congrArg BufConfig_Verify hi).trans hvb)
    have hof' := hof.trans (congrArg (fun b => { PBuf.init (ofCfg b) with cap := s.ParserBuffer.Data.cap }) hi)
    exact ⟨s', h1, congr (congr (congrArg (Parser.mk .OSAP) (congrArg ofOSAP hcfg)) hof') (congrArg Dict.osap hr.od),
      hwf, hcost, hr⟩

/-- … for the receiver `new(optSuffixArrayParser)` (all fields zero): exactly the model's fresh parser -/
theorem gen_osap_init_fresh (raw : Cfg) (p : Parser) (hp : newParser .OSAP raw = some p) :
    ∃ s', optSuffixArrayParser_init default (toOSAP raw) = Res.ok (s', Gen.Err.ok) ∧ osapOf s' = p ∧
      PBWF s'.ParserBuffer ∧ s'.cost = 1 ∧ EdgesReset default s' := by
  have := gen_osap_init_model default raw
  rw [hp] at this
  obtain ⟨s', h1, h2, h3⟩ := this
  exact ⟨s', h1, h2.trans (fresh_cap0 hp), h3⟩

/-- **what `init` establishes** (the representation invariant `ParseOKO` of GenOSAPParseLemmas, field by field — except
    its `mm32 : MinMatchLen < 2^32`, which `Verify` does NOT guarantee: it only checks `2 ≤ MinMatchLen ≤ MaxMatchLen`).
    Every accepted configuration, every receiver. -/
theorem gen_osap_init_inv (s : Gen.optSuffixArrayParser) (cfg : Gen.OSAPConfig)
    (hok : OSAPConfig_Verify (OSAPConfig_SetDefaults cfg) = Gen.Err.ok) :
    ∃ s', optSuffixArrayParser_init s cfg = Res.ok (s', Gen.Err.ok) ∧
      s'.OSAPConfig = OSAPConfig_SetDefaults cfg ∧
      PBWF s'.ParserBuffer ∧ GWF s'.edges ∧ s'.edges.data = [] ∧ GWF s'.tmp ∧ s'.cost = 1 ∧
      s'.start = 0 ∧ s'.nEdges = 0 ∧ s'.ParserBuffer.W = 0 ∧ s'.ParserBuffer.Data.len = 0 ∧
      s'.OSAPConfig.BlockSize.toNat = s'.ParserBuffer.BufConfig.BlockSize.toNat ∧ 1 ≤ s'.OSAPConfig.BlockSize ∧
      s'.OSAPConfig.WindowSize.toNat = s'.ParserBuffer.BufConfig.WindowSize.toNat ∧ 0 ≤ s'.OSAPConfig.WindowSize ∧
      2 ≤ s'.OSAPConfig.MinMatchLen ∧ s'.OSAPConfig.MinMatchLen ≤ s'.OSAPConfig.MaxMatchLen ∧
      s'.OSAPConfig.BufferSize ≤ 2147483647 ∧ s'.OSAPConfig.Cost = "XZCost" := by
  obtain ⟨hi, hvb⟩ := osap_init_bc cfg hok
  obtain ⟨s', h1, hof, hwf, hcfg, hcost, hr⟩ := ((gen_osap_init s cfg).2 hok).2 hvb
  rw [hi] at hof
  obtain ⟨hvb', hxz, hm2, hmm, hbs⟩ := osap_verify_parts _ hok
  have hbv := (bufVerify_iff _).mp ((gen_bufVerify _).mp hvb')
  simp only [ofBuf] at hbv
  obtain ⟨hws, hbl, hw, hdl⟩ := fresh_pbuf (c := ofOSAP (OSAPConfig_SetDefaults cfg)) hwf hof
  refine ⟨s', h1, hcfg, hwf, hr.wedges, ?_, hr.wtmp, hcost, hr.start, hr.nEdges, hw, hdl, ?_, ?_, ?_, ?_,
    ?_, ?_, ?_, ?_⟩
  · unfold GSlice.data; rw [hr.ledges]; rfl
  all_goals rw [hcfg]
  · exact hbl.symm
  · exact hbv.2.2.2.1
  · exact hws.symm
  · exact hbv.2.2.1.1
  · exact hm2
  · exact hmm
  · exact hbs
  · exact hxz

end LZ.GenOSAP

#print axioms LZ.GenOSAP.gen_osap_resetEdges
#print axioms LZ.GenOSAP.gen_osap_reset
#print axioms LZ.GenOSAP.gen_osap_shrink
#print axioms LZ.GenOSAP.osap_init_bc
#print axioms LZ.GenOSAP.gen_osap_init
#print axioms LZ.GenOSAP.gen_osap_reset_model
#print axioms LZ.GenOSAP.gen_osap_shrink_model
#print axioms LZ.GenOSAP.gen_osap_init_model
#print axioms LZ.GenOSAP.gen_osap_init_fresh
#print axioms LZ.GenOSAP.gen_osap_init_inv
