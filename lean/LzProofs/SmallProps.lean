/-
  LzProofs.SmallProps — complements to C05 and C07 on the decoder side
  (the parser side is LzProofs/SmallPropsParser.lean).

  C05  every sequence `WriteBlock` reports as consumed was valid at its point; a stop that is
       not a capacity error (`full`, `matchLen`) is at a sequence that is NOT valid
       (`C05_consumed_valid`, `C05_ok_all_valid`, `C05_stop_classified`, `C05_stop_invalid`).
  C07  the refusal of a well-formed long sequence for every geometry
       (`C07_refused_when_window_full`) and kernel-checked counter-witnesses at the DEFAULT
       decoder geometry (`C07_counter_default_fresh`, `C07_counter_default`).
-/
import LzProofs.DecBufProps
import LzProofs.AcceptProps

/-! # C05: no malformed sequence is consumed -/

namespace LZ.DecBuf

/-- The validity of a sequence in the words of property C05, for the log `wi` (everything written
    before the sequence), the remaining literals `li` and the window size `ws`:
    `MatchLen = 0 ∨ 1 ≤ Offset`, `Offset ≤ min(WindowSize, bytes available before the match)`
    (the bytes before the match are the log plus the sequence's own literals) and
    `LitLen ≤` remaining literals.  NOTE the Go semantics for `MatchLen = 0`: the offset is NOT
    irrelevant — `Offset = 0` is fine, but an offset beyond the window / the available bytes is
    refused with `ErrOffset` also for an empty match. -/
def SeqValidAt (wi li : List Byte) (ws : Nat) (s : Seq) : Prop :=
  (s.matchLen = 0 ∨ 1 ≤ s.offset) ∧ s.offset ≤ min ws (wi.length + s.litLen) ∧
  s.litLen ≤ li.length

/-- `SeqValidAt` is the predicate `SeqValid` of DecBufLemmas (the negation of the loop's guards) -/
theorem seqValidAt_iff (wi li : List Byte) (ws : Nat) (s : Seq) :
    SeqValidAt wi li ws s ↔ SeqValid wi li ws s := by
  unfold SeqValidAt SeqValid
  constructor
  · intro ⟨h1, h2, h3⟩
    exact ⟨h3, by omega⟩
  · intro ⟨h1, h2⟩
    exact ⟨by omega, by omega, h1⟩

/-- on the buffer: as long as the abstraction holds, `min(WindowSize, len(Data) + LitLen)` — what
    the Go code compares the offset with — is `min(WindowSize, |log| + LitLen)` -/
theorem seqValidAt_buffer {b : DecBuf} {w : List Byte} {d : Nat} (h : AbsD b w d) (li : List Byte)
    (s : Seq) :
    SeqValidAt w li b.ws s ↔
      ((s.matchLen = 0 ∨ 1 ≤ s.offset) ∧ s.offset ≤ min b.ws (b.data.length + s.litLen) ∧
        s.litLen ≤ li.length) := by
  unfold SeqValidAt
  rw [Nat.min_comm b.ws (w.length + s.litLen), ← h.min_win, Nat.min_comm]

/-- C05, no malformed sequence is consumed.  If `WriteBlock` reports `k` sequences as consumed
    (whatever the error), then every one of them was valid at its point: for `i < k`, with
    `(wi, li)` the log and the remaining literals the reference expander reaches after the first
    `i` sequences — the state before sequence `i` —, `SeqValidAt wi li WindowSize seqs[i]`. -/
theorem C05_consumed_valid (g : Grow) {b : DecBuf} {w : List Byte} {d : Nat} (h : Abs b w d)
    (blk : Block) {b' : DecBuf} {n : Int} {k l : Nat} {e : Err}
    (hr : writeBlock g b blk = (b', n, k, l, e)) :
    ∀ i, i < k → ∃ (_ : i < blk.seqs.length) (wi li : List Byte),
      expandSeqs w blk.lits (blk.seqs.take i) = some (wi, li) ∧
      SeqValidAt wi li b.ws blk.seqs[i] := by
  intro i hi
  obtain ⟨_, _, _, _, _, _, hall⟩ := writeBlock_spec g h blk hr
  obtain ⟨hlt, wi, li, hx, hv⟩ := hall i hi
  exact ⟨hlt, wi, li, hx, (seqValidAt_iff _ _ _ _).2 hv⟩

/-- on `nil` every sequence of the block was valid at its point -/
theorem C05_ok_all_valid (g : Grow) {b : DecBuf} {w : List Byte} {d : Nat} (h : Abs b w d)
    (blk : Block) {b' : DecBuf} {n : Int} {k l : Nat}
    (hr : writeBlock g b blk = (b', n, k, l, .ok)) :
    ∀ i (hi : i < blk.seqs.length), ∃ (wi li : List Byte),
      expandSeqs w blk.lits (blk.seqs.take i) = some (wi, li) ∧
      SeqValidAt wi li b.ws blk.seqs[i] := by
  intro i hi
  obtain ⟨_, _, _, _, hok, _, -⟩ := writeBlock_spec g h blk hr
  have hk := (hok rfl).1
  obtain ⟨_, wi, li, hx, hv⟩ := C05_consumed_valid g h blk hr i (by omega)
  exact ⟨wi, li, hx, hv⟩

/-- C05, converse: what stops the loop.  If `WriteBlock` stops with an error at sequence `k`
    (`k < len(seqs)`), let `(w1, rest)` be the log and the remaining literals before that sequence
    (the buffer represents exactly `w1`: nothing of sequence `k` was written).  Then the error is
    one of four, and precisely:
    * `ErrLitLen`  iff `LitLen >` remaining literals;
    * `ErrOffset`  iff (not that and) `Offset = 0 ∧ MatchLen > 0` or
                   `Offset > min(|w1| + LitLen, WindowSize)`;
    * `errMatchLen` / `ErrFullBuffer` (the two capacity errors) iff the sequence IS valid; then
      `LitLen + MatchLen` exceeds `BufferSize − WindowSize` (`errMatchLen`: can never fit) resp.
      fits there but not into `BufferSize − len(Data)` after the shrink (`ErrFullBuffer`);
    so an error other than the two capacity errors means `seqs[k]` violates `SeqValidAt`. -/
theorem C05_stop_classified (g : Grow) {b : DecBuf} {w : List Byte} {d : Nat} (h : Abs b w d)
    (blk : Block) {b' : DecBuf} {n : Int} {k l : Nat} {e : Err}
    (hr : writeBlock g b blk = (b', n, k, l, e)) (he : e ≠ .ok) (hk : k < blk.seqs.length) :
    ∃ w1 rest, expandSeqs w blk.lits (blk.seqs.take k) = some (w1, rest) ∧ Abs b' w1 d ∧
      (e = .litLen ∨ e = .offset ∨ e = .matchLen ∨ e = .full) ∧
      (e = .litLen ↔ blk.seqs[k].litLen > rest.length) ∧
      (e = .offset ↔ blk.seqs[k].litLen ≤ rest.length ∧
        ((blk.seqs[k].offset = 0 ∧ blk.seqs[k].matchLen > 0) ∨
          blk.seqs[k].offset > min (w1.length + blk.seqs[k].litLen) b.ws)) ∧
      ((e = .matchLen ∨ e = .full) ↔ SeqValidAt w1 rest b.ws blk.seqs[k]) ∧
      ((e ≠ .matchLen ∧ e ≠ .full) ↔ ¬ SeqValidAt w1 rest b.ws blk.seqs[k]) ∧
      (e = .matchLen → blk.seqs[k].litLen + blk.seqs[k].matchLen > b'.bs - b.ws) ∧
      (e = .full → blk.seqs[k].litLen + blk.seqs[k].matchLen ≤ b'.bs - b.ws ∧
        blk.seqs[k].litLen + blk.seqs[k].matchLen > b'.bs - b'.data.length) := by
  obtain ⟨w1, rest, _, hx, _, herr, -⟩ := writeBlock_spec g h blk hr
  obtain ⟨_, ha, _, hc⟩ := herr he
  have hws : b'.ws = b.ws := writeBlock_ws g b blk ▸ (by rw [hr])
  refine ⟨w1, rest, hx, ha, ?_⟩
  rcases hc with ⟨_, hs⟩ | ⟨hk', _, _⟩
  · obtain ⟨k1, k2, k3, k4, k5, k6⟩ := C05_seqFail_kinds hs
    rw [hws] at k3 k4 k5 k6
    have hvalid := k6.trans (seqValidAt_iff w1 rest b.ws blk.seqs[k]).symm
    exact ⟨k1, k2, k3, hvalid, by rw [← hvalid, not_or], k4, k5⟩
  · omega

/-- the same as one sentence: a stop at sequence `k` with an error that is not a capacity error
    means that sequence `k` is malformed in the state before it -/
theorem C05_stop_invalid (g : Grow) {b : DecBuf} {w : List Byte} {d : Nat} (h : Abs b w d)
    (blk : Block) {b' : DecBuf} {n : Int} {k l : Nat} {e : Err}
    (hr : writeBlock g b blk = (b', n, k, l, e)) (he : e ≠ .ok) (hk : k < blk.seqs.length)
    (hcap : e ≠ .full ∧ e ≠ .matchLen) :
    ∃ w1 rest, expandSeqs w blk.lits (blk.seqs.take k) = some (w1, rest) ∧
      ¬ SeqValidAt w1 rest b.ws blk.seqs[k] := by
  obtain ⟨w1, rest, hx, _, _, _, _, _, hv, _⟩ := C05_stop_classified g h blk hr he hk
  exact ⟨w1, rest, hx, hv.1 ⟨hcap.2, hcap.1⟩⟩

/-! ### non-vacuity (the buffer `b23` = WindowSize 2, BufferSize 3 of DecBufProps) -/

section Examples
set_option linter.unusedSimpArgs false

/-- `WriteBlock` stops at sequence 1 with `ErrOffset` (offset 5 > window): sequence 0 was valid
    in the initial state, sequence 1 is not valid on top of the log `[4, 4]` -/
example :
    (writeBlock gId b23 ⟨[⟨1, 1, 1, 0⟩, ⟨0, 1, 5, 0⟩], [4, 5]⟩).2 = (2, 1, 1, .offset) ∧
      expandSeqs [] [4, 5] [⟨1, 1, 1, 0⟩] = some ([4, 4], [5]) ∧
      SeqValidAt [] [4, 5] 2 ⟨1, 1, 1, 0⟩ ∧ ¬ SeqValidAt [4, 4] [5] 2 ⟨0, 1, 5, 0⟩ := by
  exact ⟨b23_reject_offset, by decide, by unfold SeqValidAt; decide, by unfold SeqValidAt; decide⟩

/-- an EMPTY match with an offset beyond the available bytes is refused too -/
example : (writeBlock gId b23 ⟨[⟨1, 0, 2, 0⟩], [4]⟩).2 = (0, 0, 0, .offset) := by
  simp [writeBlock, seqLoop, b23, shrink, copyMatch, copyLoop, append, gId]

/-- … while an empty match with offset 0 is accepted -/
example : (writeBlock gId b23 ⟨[⟨1, 0, 0, 0⟩], [4]⟩).2 = (1, 1, 1, .ok) := by
  simp [writeBlock, seqLoop, b23, shrink, copyMatch, copyLoop, append, gId]

end Examples

end LZ.DecBuf

/-! # C07: the refusal at the DEFAULT decoder geometry

  `DecoderConfig{}` gives WindowSize 8 MiB and BufferSize 16 MiB, so
  `BufferSize − WindowSize = 8388608`.  The witnesses (`C07_counter`,
  `C07_parser_emits_long_sequence`) use WindowSize 4, BufferSize 6.  Here:

  * `C07_refused_when_window_full` — for EVERY geometry: once at least `WindowSize` bytes have been
    decoded (the window is full), a block whose first sequence is well-formed but has
    `LitLen + MatchLen > max(BufferSize, cap(Data)) − WindowSize` is refused with `errMatchLen`
    and nothing is consumed (`max(…, cap)`: `shrink` raises `BufferSize` to `cap(Data)`);
  * `C07_counter_default_fresh` — the freshly initialised default decoder refuses the well-formed
    block "1 literal + a match of 16 MiB at offset 1";
  * `C07_counter_default` — the default decoder after 8 MiB of zeros have been written and flushed
    refuses "1 literal + match of 8 MiB at offset 1", i.e. `LitLen + MatchLen = 8388609 =
    BufferSize − WindowSize + 1`: the threshold of the finding is sharp at the default geometry
    (`C07_accepts_partial` accepts everything up to `BufferSize − WindowSize`).
  No list of megabytes is ever evaluated: the 8 MiB are `List.replicate`, used through its length. -/

namespace LZ
open DecBuf Decoder

/-- C07, the refusal for every geometry.  `Good d` (any state reached from `Init`/`Reset`), at
    least `WindowSize` bytes decoded so far, a block that is well-formed for the decoder's window
    over its log; if the FIRST sequence has `LitLen + MatchLen > max(BufferSize, cap(Data)) −
    WindowSize`, `Decoder.WriteBlock` returns `errMatchLen` with `n = k = l = 0`, for every growth
    function and every writer.  (With `cap(Data) ≤ BufferSize`, as after `Init` with an
    unallocated buffer and a non-over-allocating `append`, this is `BufferSize − WindowSize`.) -/
theorem C07_refused_when_window_full (g : Grow) (d : Decoder) (h : Good d)
    (hlog : d.buf.ws ≤ d.log.length) (s : Seq) (rest : List Seq) (lits : List Byte)
    (hwf : WellFormedBlock d.buf.ws d.log ⟨s :: rest, lits⟩)
    (hlong : s.litLen + s.matchLen > max d.buf.bs d.buf.cap - d.buf.ws) :
    (d.writeBlock g (s :: rest) lits 0 0 0).2 = (0, 0, 0, Err.matchLen) := by
  obtain ⟨w1, w2, w3, _⟩ := hwf
  have hmw := h.toAbsD.min_win s.litLen
  have hwin := h.win
  have hb := DecBuf.writeBlock_long_refused g d.buf s rest lits w1 w2
    (by omega) (by omega) hlong
  rw [Decoder.writeBlock]
  generalize DecBuf.writeBlock g d.buf ⟨s :: rest, lits⟩ = r at hb
  obtain ⟨b', n, k, l, e⟩ := r
  simp only [Prod.mk.injEq] at hb
  obtain ⟨rfl, rfl, rfl, rfl⟩ := hb
  simp

namespace AcceptEx

/-- the default geometry: `DecoderConfig{}.SetDefaults()` = WindowSize 8388608, BufferSize 16777216 -/
def dDef : Decoder := { buf := ⟨[], 0, 0, 8388608, 16777216, 0⟩, w := ⟨[], []⟩ }

example : DecBuf.init 0 0 0 = some dDef.buf := by rfl
theorem dDef_good : Good dDef := (good_init (ws := 0) (bs := 0) (precap := 0) (by rfl) ⟨[], []⟩ rfl).1

/-- 1 literal `a` + a match of `BufferSize` = 16 MiB bytes at offset 1 -/
def blkHuge : Block := ⟨[⟨1, 16777216, 1, 0⟩], [97]⟩

theorem blkHuge_wf : WellFormedBlock dDef.buf.ws dDef.log blkHuge := by
  simp [WellFormedBlock, WFSeqs, blkHuge, dDef, Decoder.log, DecBuf.pending]

/-- 8 MiB of zeros (never evaluated) -/
def zeros8M : List Byte := List.replicate 8388608 0
theorem zeros8M_length : zeros8M.length = 8388608 := List.length_replicate
attribute [irreducible] zeros8M

/-- the default decoder after `Write` of 8 MiB zeros and `Flush` (writer accepts everything):
    `Data` = the 8 MiB, all of them handed to the writer (`R = Off = 8388608`), `cap(Data)` = 8 MiB -/
def dFull : Decoder :=
  { buf := ⟨zeros8M, 8388608, 8388608, 8388608, 16777216, 8388608⟩, w := ⟨[], zeros8M⟩ }

theorem dFull_log : dFull.log = zeros8M := by
  show zeros8M ++ zeros8M.drop 8388608 = zeros8M
  rw [List.drop_eq_nil_of_le (by rw [zeros8M_length]; exact Nat.le_refl _), List.append_nil]

/-- 1 literal + a match of `WindowSize` = 8 MiB bytes at offset 1:
    `LitLen + MatchLen = 8388609 = BufferSize − WindowSize + 1` -/
def blkDef : Block := ⟨[⟨1, 8388608, 1, 0⟩], [97]⟩

theorem blkDef_wf : WellFormedBlock dFull.buf.ws dFull.log blkDef := by
  rw [dFull_log]
  unfold WellFormedBlock
  rw [zeros8M_length]
  simp [WFSeqs, blkDef, dFull]

/-- `Write` of any 8 MiB on the fresh default decoder (growth function `gId`: `append` allocates
    exactly what is needed): one chunk, all accepted -/
theorem dDef_write (z : List Byte) (hl : z.length = 8388608) :
    dDef.write AcceptEx.gId z 0 =
      (⟨⟨z, 0, 8388608, 8388608, 16777216, 8388608⟩, ⟨[], []⟩⟩, 8388608, .ok) := by
  rw [Decoder.write]
  have h0 : ¬ z.length = 0 := by omega
  simp only [h0, ↓reduceDIte]
  have e1 : dDef.buf.bs - dDef.buf.ws = 8388608 := by decide
  have e2 : ¬ z.length > 8388608 := by omega
  simp only [e1, e2, ↓reduceIte]
  have e3 : dDef.buf.write AcceptEx.gId z =
      (⟨z, 0, 8388608, 8388608, 16777216, 8388608⟩, 8388608, .ok) := by
    unfold DecBuf.write
    simp [dDef, hl, DecBuf.append, AcceptEx.gId]
  rw [e3]
  simp only [hl]
  have h1 : (0 : Nat) < 8388608 ∧ 8388608 ≤ 8388608 := by decide
  simp only [h1, and_self, ↓reduceDIte, ↓reduceIte]
  rw [Decoder.write]
  have h2 : (List.drop 8388608 z).length = 0 := by rw [List.length_drop, hl]
  simp only [h2, ↓reduceDIte]
  rfl

/-- … and the `Flush` after it hands all of them to the writer -/
theorem dDef_flush (z : List Byte) (hl : z.length = 8388608) :
    (⟨⟨z, 0, 8388608, 8388608, 16777216, 8388608⟩, ⟨[], []⟩⟩ : Decoder).flush =
      (⟨⟨z, 8388608, 8388608, 8388608, 16777216, 8388608⟩, ⟨[], z⟩⟩, .ok) := by
  simp [Decoder.flush, Decoder.writeTo, Writer.write, hl]

/-- `dFull` is reachable: it is the state of the default decoder after `Write(zeros8M)` (returns
    `(8388608, nil)`) and `Flush` (returns `nil`) -/
theorem dFull_reached :
    (dDef.write AcceptEx.gId zeros8M 0).2 = (8388608, .ok) ∧
    (dDef.write AcceptEx.gId zeros8M 0).1.flush = (dFull, .ok) := by
  rw [dDef_write zeros8M zeros8M_length]
  exact ⟨rfl, dDef_flush zeros8M zeros8M_length⟩

/-- `dFull` is reached from `Init` by calls, so it is `Good` -/
theorem dFull_good : Good dFull := by
  have := good_flush (good_write AcceptEx.gId dDef zeros8M 0 dDef_good)
  rwa [dFull_reached.2] at this

end AcceptEx

open AcceptEx in
/-- C07, counter-witness at the default geometry, fresh decoder.  `DecoderConfig{}` (WindowSize
    8 MiB, BufferSize 16 MiB), nothing written yet, a writer that accepts everything: the block
    `[⟨LitLen 1, MatchLen 16777216, Offset 1⟩]` with literal `"a"` is well-formed and has a reference
    expansion, but `Decoder.WriteBlock` refuses it with `errMatchLen`, consuming nothing. -/
theorem C07_counter_default_fresh :
    DecBuf.init 0 0 0 = some dDef.buf ∧ Good dDef ∧ dDef.w.resps = [] ∧
    WellFormedBlock dDef.buf.ws dDef.log blkHuge ∧ (expand dDef.log blkHuge).isSome = true ∧
    (dDef.writeBlock AcceptEx.gId blkHuge.seqs blkHuge.lits 0 0 0).2 = (0, 0, 0, Err.matchLen) := by
  refine ⟨by rfl, dDef_good, rfl, blkHuge_wf, ?_, ?_⟩
  · obtain ⟨out, ho⟩ := blkHuge_wf.expand_defined
    rw [ho]; rfl
  · simp [Decoder.writeBlock, DecBuf.writeBlock, DecBuf.seqLoop, DecBuf.shrink, dDef, blkHuge]

open AcceptEx in
/-- C07, counter-witness at the default geometry, sharp threshold.  The default decoder
    (WindowSize 8388608, BufferSize 16777216) in the `Good` state `dFull` — reached from `Init` by
    `Write` of 8 MiB and `Flush` (`dFull_reached`) — refuses, for EVERY growth function, the well-formed block
    `[⟨LitLen 1, MatchLen 8388608, Offset 1⟩]` + literal `"a"` with `errMatchLen`, consuming nothing:
    `LitLen + MatchLen = 8388609 > BufferSize − WindowSize = 8388608`.  By `C07_accepts_partial`
    every well-formed block with sequences of at most 8388608 bytes is accepted in this state. -/
theorem C07_counter_default (g : Grow) :
    DecBuf.init 0 0 0 = some dDef.buf ∧
    (dDef.write AcceptEx.gId zeros8M 0).1.flush = (dFull, .ok) ∧
    Good dFull ∧ dFull.w.resps = [] ∧ dFull.buf.ws = 8388608 ∧ dFull.buf.bs = 16777216 ∧
    WellFormedBlock dFull.buf.ws dFull.log blkDef ∧ (expand dFull.log blkDef).isSome = true ∧
    ¬ SeqsFit (dFull.buf.bs - dFull.buf.ws) blkDef.seqs ∧
    SeqsFit (dFull.buf.bs - dFull.buf.ws + 1) blkDef.seqs ∧
    (dFull.writeBlock g blkDef.seqs blkDef.lits 0 0 0).2 = (0, 0, 0, Err.matchLen) := by
  refine ⟨by rfl, dFull_reached.2, dFull_good, rfl, rfl, rfl, blkDef_wf, ?_, ?_, ?_, ?_⟩
  · obtain ⟨out, ho⟩ := blkDef_wf.expand_defined
    rw [ho]; rfl
  · simp [SeqsFit, blkDef, dFull]
  · simp [SeqsFit, blkDef, dFull]
  · refine C07_refused_when_window_full g dFull dFull_good ?_ _ _ _ blkDef_wf ?_
    · rw [dFull_log, zeros8M_length]; exact Nat.le_refl _
    · show 1 + 8388608 > max 16777216 8388608 - 8388608
      decide

end LZ

#print axioms LZ.DecBuf.seqValidAt_iff
#print axioms LZ.DecBuf.seqValidAt_buffer
#print axioms LZ.DecBuf.C05_consumed_valid
#print axioms LZ.DecBuf.C05_ok_all_valid
#print axioms LZ.DecBuf.C05_stop_classified
#print axioms LZ.DecBuf.C05_stop_invalid
#print axioms LZ.DecBuf.writeBlock_long_refused
#print axioms LZ.C07_refused_when_window_full
#print axioms LZ.AcceptEx.dFull_reached
#print axioms LZ.C07_counter_default_fresh
#print axioms LZ.C07_counter_default
