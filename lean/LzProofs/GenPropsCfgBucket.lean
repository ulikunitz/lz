/-
  bucket_hash.go: bucketConfig.  The hand-written model equals the code that `tools/extract -code` regenerates from the Go source
  (LzModel/Generated/Code<Topic>.lean, one file per topic).  Every theorem quantifies over all inputs; Go `int`/`int64`
  are unbounded `Int` on both sides (overflow is out of scope), `uint32`/`uint64` wrap around.  The proofs do not
  depend on the shape of the generated term (see GenPropsBase).
-/
import LzModel.Generated.CodeCfgBucket
import LzProofs.GenPropsBase

set_option linter.unusedSimpArgs false

namespace LZ.GenProps
open LZ

def ofBucket (b : Gen.bucketConfig) : Cfg :=
  { inputLen := b.InputLen, hashBits := b.HashBits, bucketSize := b.BucketSize }

theorem bucketConfig_eq_mk (x : Gen.bucketConfig) (il hb bs : Int) :
    x = ⟨il, hb, bs⟩ ↔ x.InputLen = il ∧ x.HashBits = hb ∧ x.BucketSize = bs := by
  cases x; exact Gen.bucketConfig.mk.injEq .. ▸ Iff.rfl

/-- `(*bucketConfig).SetDefaults`: the bucket part of `setDefaults .BUP` -/
theorem gen_bucketDefaults (b : Gen.bucketConfig) : Gen.bucketConfig_SetDefaults b =
    ⟨(setDefaults .BUP (ofBucket b)).inputLen, (setDefaults .BUP (ofBucket b)).hashBits,
     (setDefaults .BUP (ofBucket b)).bucketSize⟩ := by
  obtain ⟨il, hb, bs⟩ := b
  dsimp only [Gen.bucketConfig_SetDefaults, gen_helper, ofBucket, setDefaults, bufDefaults,
    Facts.defBucketInputLen, Facts.defBucketHashBits, Facts.defBucketSize]
  simp only [bucketConfig_eq_mk, apply_ite Gen.bucketConfig.InputLen, apply_ite Gen.bucketConfig.HashBits,
    apply_ite Gen.bucketConfig.BucketSize, ite_self, and_true, true_and] <;> omega

/-- `(*bucketConfig).Verify`: the bucket part of `verify .BUP` -/
theorem gen_bucketVerify (b : Gen.bucketConfig) :
    Gen.bucketConfig_Verify b = .ok ↔
      hashVerify b.InputLen b.HashBits Facts.maxBucketHashBits = true ∧
      Facts.minBucketSize ≤ b.BucketSize ∧ b.BucketSize ≤ Facts.maxBucketSize := by
  rw [hashVerify_iff]
  dsimp only [Gen.bucketConfig_Verify, gen_helper, Facts.maxBucketHashBits, Facts.minBucketSize,
    Facts.maxBucketSize]
  gen_ifs

end LZ.GenProps
