/-
  LzProofs.ParseProbeBup — the match finder of BUP for ARBITRARY bucket tables: the scan over the
  slots of one bucket returns the longest verified candidate, on a tie the nearest
  (`bupScan_best`, `bupBest_spec`); hence the finder satisfies the probe contract.
-/
import LzProofs.ParseProbe
namespace LZ

/-- slot `s` of the bucket at `base` holds a candidate for position `i`: the value `v` of the key
    of `i`, an earlier position, inside the window -/
def SlotValid (bk : BucketT) (i ws v base s : Nat) : Prop :=
  v = (bk.buckets.getD (base + s) (0, 0)).2 ∧ (bk.buckets.getD (base + s) (0, 0)).1 < i ∧
    i - (bk.buckets.getD (base + s) (0, 0)).1 ≤ ws

/-- the match length slot `s` offers -/
def slotLen (bk : BucketT) (p : List Byte) (i base s : Nat) : Nat :=
  lcpLen (p.drop (bk.buckets.getD (base + s) (0, 0)).1) (p.drop i)

theorem bupScan_cons (bk : BucketT) (p : List Byte) (i ws v base s : Nat) (rest : List Nat) (o k : Nat) :
    (bupScan bk p i ws v base (s :: rest) o k = bupScan bk p i ws v base rest o k ∧
      (SlotValid bk i ws v base s → slotLen bk p i base s < k ∨
        (slotLen bk p i base s = k ∧ o ≤ i - (bk.buckets.getD (base + s) (0, 0)).1))) ∨
    (bupScan bk p i ws v base (s :: rest) o k =
        bupScan bk p i ws v base rest (i - (bk.buckets.getD (base + s) (0, 0)).1) (slotLen bk p i base s) ∧
      SlotValid bk i ws v base s ∧
      ¬ (slotLen bk p i base s < k ∨
        (slotLen bk p i base s = k ∧ o ≤ i - (bk.buckets.getD (base + s) (0, 0)).1))) := by
  unfold SlotValid slotLen
  rw [bupScan]
  simp only []
  split
  · rename_i hv
    exact Or.inl ⟨rfl, fun h => absurd h.1 hv⟩
  split
  · rename_i hw
    exact Or.inl ⟨rfl, fun h => absurd h.2 hw⟩
  split
  · -- quick reject: the byte at `k - 1` differs, so the candidate is shorter than `k`
    rename_i hq
    refine Or.inl ⟨rfl, fun _ => Or.inl (Nat.lt_of_not_le fun hge => hq.2 ?_)⟩
    have := lcpLen_getElem? (p.drop (bk.buckets.getD (base + s) (0, 0)).1) (p.drop i) (k - 1)
      (by omega)
    rwa [List.getElem?_drop, List.getElem?_drop, ← Nat.add_sub_assoc hq.1, ← Nat.add_sub_assoc hq.1]
      at this
  split
  · rename_i hb
    exact Or.inl ⟨rfl, fun _ => by omega⟩
  · rename_i hv hw _ hb
    exact Or.inr ⟨rfl, ⟨Decidable.not_not.mp hv, Decidable.not_not.mp hw⟩, by omega⟩

/-- bucket `h` holds the entry `en` in one of its `bucketSize` slots -/
def BucketT.Has (bk : BucketT) (h : Nat) (en : Nat × Nat) : Prop :=
  ∃ s, s < bk.bucketSize ∧ bk.buckets.getD (h * bk.bucketSize + s) (0, 0) = en

/-- `j` is a candidate of the BUP probe at `i`: a slot of the bucket of the key of `i` holds position
    `j` with the value of that key -/
def BucketT.Cand (bk : BucketT) (p : List Byte) (i j : Nat) : Prop :=
  bk.Has (hashValue (bk.key p i) bk.hashBits) (j, lo32 (bk.key p i))

/-- `r = (offset, length)` is a correct result of scanning `slots` with running best `(o, k)`:
    it is the running best or a valid candidate of the scanned slots, at least as good as the
    running best (longer, or equally long and not farther), and at least as good as every valid
    candidate of the scanned slots -/
def ScanGood (bk : BucketT) (p : List Byte) (i ws v base : Nat) (slots : List Nat) (o k : Nat)
    (r : Nat × Nat) : Prop :=
  (k < r.2 ∨ (k = r.2 ∧ r.1 ≤ o)) ∧
  (r = (o, k) ∨ ∃ s, s ∈ slots ∧ SlotValid bk i ws v base s ∧
      r.1 = i - (bk.buckets.getD (base + s) (0, 0)).1 ∧ r.2 = slotLen bk p i base s) ∧
  ∀ s, s ∈ slots → SlotValid bk i ws v base s →
    slotLen bk p i base s < r.2 ∨
      (slotLen bk p i base s = r.2 ∧ r.1 ≤ i - (bk.buckets.getD (base + s) (0, 0)).1)

theorem ScanGood.skip {bk : BucketT} {p : List Byte} {i ws v base s : Nat} {rest : List Nat}
    {o k : Nat} {r : Nat × Nat} (h : ScanGood bk p i ws v base rest o k r)
    (hhead : SlotValid bk i ws v base s → slotLen bk p i base s < k ∨
      (slotLen bk p i base s = k ∧ o ≤ i - (bk.buckets.getD (base + s) (0, 0)).1)) :
    ScanGood bk p i ws v base (s :: rest) o k r := by
  obtain ⟨a1, a2, a3⟩ := h
  refine ⟨a1, ?_, ?_⟩
  · rcases a2 with a2 | ⟨s', hs', b⟩
    · exact Or.inl a2
    · exact Or.inr ⟨s', List.mem_cons_of_mem _ hs', b⟩
  · intro s' hs' hv
    rcases List.mem_cons.1 hs' with h | h
    · subst h
      have := hhead hv
      omega
    · exact a3 s' h hv

theorem ScanGood.take {bk : BucketT} {p : List Byte} {i ws v base s : Nat} {rest : List Nat}
    {o k : Nat} {r : Nat × Nat} (hv : SlotValid bk i ws v base s)
    (h : ScanGood bk p i ws v base rest (i - (bk.buckets.getD (base + s) (0, 0)).1)
      (slotLen bk p i base s) r)
    (hb : ¬ (slotLen bk p i base s < k ∨
      (slotLen bk p i base s = k ∧ i - (bk.buckets.getD (base + s) (0, 0)).1 ≥ o))) :
    ScanGood bk p i ws v base (s :: rest) o k r := by
  obtain ⟨a1, a2, a3⟩ := h
  refine ⟨by omega, ?_, ?_⟩
  · right
    rcases a2 with a2 | ⟨s', hs', b⟩
    · exact ⟨s, List.mem_cons_self, hv, by rw [a2], by rw [a2]⟩
    · exact ⟨s', List.mem_cons_of_mem _ hs', b⟩
  · intro s' hs' hv'
    rcases List.mem_cons.1 hs' with h | h
    · subst h; exact a1
    · exact a3 s' h hv'

/-- the scan of a bucket keeps the longest candidate and on a tie the nearest one -/
theorem bupScan_best (bk : BucketT) (p : List Byte) (i ws v base : Nat) :
    ∀ (slots : List Nat) (o k : Nat),
      ScanGood bk p i ws v base slots o k (bupScan bk p i ws v base slots o k) := by
  intro slots
  induction slots with
  | nil =>
    intro o k
    exact ⟨Or.inr ⟨rfl, Nat.le_refl _⟩, Or.inl rfl, fun s hs => by simp at hs⟩
  | cons s rest ih =>
    intro o k
    rcases bupScan_cons bk p i ws v base s rest o k with ⟨e, hskip⟩ | ⟨e, hv, hb⟩
    · rw [e]; exact (ih o k).skip hskip
    · rw [e]; exact ScanGood.take hv (ih _ _) hb

/-- the running best candidate of the bucket scan: nothing yet, or a verified candidate -/
def BupScanInv (p : List Byte) (i ws o k : Nat) : Prop :=
  (o = 0 ∧ k = 0) ∨ ∃ j, j < i ∧ i - j ≤ ws ∧ o = i - j ∧ k = lcpLen (p.drop j) (p.drop i)

theorem bupScan_inv (bk : BucketT) (p : List Byte) (i ws v base : Nat) (slots : List Nat) (o k : Nat)
    (h : BupScanInv p i ws o k) :
    BupScanInv p i ws (bupScan bk p i ws v base slots o k).1 (bupScan bk p i ws v base slots o k).2 := by
  rcases (bupScan_best bk p i ws v base slots o k).2.1 with e | ⟨s, -, hv, e1, e2⟩
  · rw [e]; exact h
  · exact Or.inr ⟨_, hv.2.1, hv.2.2, e1, e2⟩

/-- the best candidate of the bucket of position `i` -/
def bupBest (bk : BucketT) (p : List Byte) (i ws : Nat) : Nat × Nat :=
  bupScan bk p i ws (lo32 (bk.key p i)) (hashValue (bk.key p i) bk.hashBits * bk.bucketSize)
    (List.range bk.bucketSize) 0 0

theorem bupProbe_eq (ws mm ie : Nat) (bk : BucketT) (p : List Byte) (i li : Nat) :
    bupProbe ws mm ie bk p i li =
      if (bupBest bk p i ws).2 < mm then (bk.insert p i, none)
      else ((bk.insert p i).insertRange p (i + 1) (min (i + (bupBest bk p i ws).2) ie - (i + 1)),
            some (i, (bupBest bk p i ws).2, (bupBest bk p i ws).1)) := by
  unfold bupProbe bupBest BucketT.insert
  rfl

/-- what the scan of the bucket of `i` returns: nothing (`(0, 0)`), or offset and full common prefix of
    a candidate `j` of the bucket at an earlier position inside the window; and no such candidate is
    longer, or equally long and nearer -/
theorem bupBest_spec (bk : BucketT) (p : List Byte) (i ws : Nat) :
    (bupBest bk p i ws = (0, 0) ∨ ∃ j, bk.Cand p i j ∧ j < i ∧ i - j ≤ ws ∧
      (bupBest bk p i ws).1 = i - j ∧ (bupBest bk p i ws).2 = lcpLen (p.drop j) (p.drop i)) ∧
    ∀ j', bk.Cand p i j' → j' < i → i - j' ≤ ws →
      lcpLen (p.drop j') (p.drop i) < (bupBest bk p i ws).2 ∨
        (lcpLen (p.drop j') (p.drop i) = (bupBest bk p i ws).2 ∧ (bupBest bk p i ws).1 ≤ i - j') := by
  obtain ⟨-, a2, a3⟩ := bupScan_best bk p i ws (lo32 (bk.key p i))
    (hashValue (bk.key p i) bk.hashBits * bk.bucketSize) (List.range bk.bucketSize) 0 0
  constructor
  · rcases a2 with a2 | ⟨s, hs, hv, b1, b2⟩
    · exact Or.inl a2
    · exact Or.inr ⟨_, ⟨s, List.mem_range.1 hs, Prod.ext rfl hv.1.symm⟩, hv.2.1, hv.2.2, b1, b2⟩
  · intro j' ⟨s, hs, he⟩ hj hw
    have := a3 s (List.mem_range.2 hs) (by unfold SlotValid; rw [he]; exact ⟨rfl, hj, hw⟩)
    unfold slotLen at this
    rwa [he] at this

theorem bupBest_le (bk : BucketT) (p : List Byte) (i ws : Nat) : (bupBest bk p i ws).2 ≤ p.length - i := by
  rcases (bupBest_spec bk p i ws).1 with h0 | ⟨j, -, -, -, -, h4⟩
  · rw [h0]; exact Nat.zero_le _
  · rw [h4]
    have := lcpLen_le_right (p.drop j) (p.drop i)
    simpa using this

theorem bupBest_ge (bk : BucketT) (p : List Byte) (i ws j : Nat)
    (hh : bk.Has (hashValue (bk.key p i) bk.hashBits) (j, lo32 (bk.key p i)))
    (hj : j < i) (hw : i - j ≤ ws) :
    lcpLen (p.drop j) (p.drop i) ≤ (bupBest bk p i ws).2 := by
  have := (bupBest_spec bk p i ws).2 j hh hj hw
  omega

theorem bupProbe_verifying (ws mm inputEnd : Nat) (hmm : 1 ≤ mm) (p : List Byte) :
    Verifying ⟨bupProbe ws mm inputEnd⟩ p ws mm false := by
  intro bk i li d' s k o hp
  have hp : bupProbe ws mm inputEnd bk p i li = (d', some (s, k, o)) := hp
  rw [bupProbe_eq] at hp
  split at hp
  · cases hp
  cases hp
  rcases (bupBest_spec bk p i ws).1 with h0 | ⟨j, -, h1, h2, h3, h4⟩
  · have : (bupBest bk p i ws).2 = 0 := by rw [h0]
    omega
  · exact ⟨j, ⟨h1, h2, by omega⟩, Prod.ext rfl (Prod.ext h4 h3)⟩

end LZ
