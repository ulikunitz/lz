/-
  LzProofs.ReaderNil — `(0, nil)` answers of an `io.Reader` under `ParserBuffer.ReadFrom`.

  The io.Reader contract: "(0, nil) means nothing happened"; the loop of `ReadFrom`
  (`if err != nil { break }`) simply calls `Read` again.  In the model a response `(mx, 0)` of the
  script that delivers no byte (`mx = 0`, or the payload is exhausted) therefore CONTINUES the
  loop; the loop ends only with a full buffer, an exhausted script (io.EOF) or a response with a
  code `≠ 0`.
-/
import LzProofs.PBufProps
namespace LZ
namespace PBuf

/-! ## skipping a response that delivers `(0, nil)` -/

/-- the capacity chosen by the `grow` idiom of one loop iteration is a fixed point: running the
    loop on the grown buffer is running it on the original one -/
theorem readLoop_regrow (b : PBuf) (r : Reader) (h : b.data.length < b.cfg.bufferSize) :
    readLoop { b with cap := stepCap b } r = readLoop b r := by
  rw [readLoop_eq b r h, readLoop_eq { b with cap := stepCap b } r h, stepCap_idem]

/-- a response that delivers `(0, nil)` is skipped: with room in the buffer, a response with
    code 0 that offers no byte (`mx = 0`) or meets an exhausted payload changes nothing; the loop
    goes on with the rest of the script. -/
theorem readLoop_skip_zero (b : PBuf) (p : List Byte) (mx : Nat) (rs : List (Nat × Nat))
    (h : b.data.length < b.cfg.bufferSize) (hz : mx = 0 ∨ p = []) :
    readLoop b ⟨p, (mx, 0) :: rs⟩ = readLoop b ⟨p, rs⟩ := by
  rw [readLoop_eq b _ h]
  have hn : min3 mx (min (stepCap b - Facts.margin) b.cfg.bufferSize - b.data.length) p.length = 0 := by
    unfold min3
    rcases hz with hz | hz
    · omega
    · subst hz; simp
  simp only [hn, ne_eq, not_true_eq_false, if_false, List.take_zero, List.append_nil,
    List.drop_zero]
  exact readLoop_regrow b ⟨p, rs⟩ h

/-- `(0, 0)` in front of a script, buffer not full: the response is consumed without effect.
    Buffer, returned reader (payload and the script behind the responses consumed) and error are
    those of the script without it. -/
theorem readLoop_skip_nil (b : PBuf) (p : List Byte) (rs : List (Nat × Nat))
    (h : b.data.length < b.cfg.bufferSize) :
    readLoop b ⟨p, (0, 0) :: rs⟩ = readLoop b ⟨p, rs⟩ :=
  readLoop_skip_zero b p 0 rs h (Or.inl rfl)

/-- the complement: a full buffer does not call `Read`; the script keeps its `(0, 0)` -/
theorem readLoop_skip_nil_full (b : PBuf) (p : List Byte) (rs : List (Nat × Nat))
    (h : b.cfg.bufferSize ≤ b.data.length) :
    readLoop b ⟨p, (0, 0) :: rs⟩ = (b, ⟨p, (0, 0) :: rs⟩, .full) ∧
    readLoop b ⟨p, rs⟩ = (b, ⟨p, rs⟩, .full) :=
  ⟨readLoop_full b _ h, readLoop_full b _ h⟩

theorem readFrom_skip_nil (b : PBuf) (p : List Byte) (rs : List (Nat × Nat))
    (h : b.data.length < b.cfg.bufferSize) :
    b.readFrom ⟨p, (0, 0) :: rs⟩ = b.readFrom ⟨p, rs⟩ := by
  unfold readFrom; rw [readLoop_skip_nil b p rs h]

/-- with the payload exhausted an error-free script is skipped entirely and `ReadFrom` reports
    io.EOF without touching the data -/
theorem readLoop_drained (rs : List (Nat × Nat)) : ∀ (b : PBuf), b.data.length < b.cfg.bufferSize →
    (∀ x ∈ rs, x.2 = 0) →
    ∃ c, readLoop b ⟨[], rs⟩ = ({ b with cap := c }, ⟨[], []⟩, .eof) := by
  induction rs with
  | nil =>
    intro b h _
    exact ⟨_, readLoop_eq b ⟨[], []⟩ h⟩
  | cons x rs ih =>
    intro b h hx
    obtain ⟨mx, ec⟩ := x
    have : ec = 0 := hx (mx, ec) List.mem_cons_self
    subst this
    rw [readLoop_skip_zero b [] mx rs h (Or.inr rfl)]
    exact ih b h (fun y hy => hx y (List.mem_cons_of_mem _ hy))

/-! ## `(0, 0)` responses anywhere in a script -/

/-- the script without its `(0, 0)` responses -/
def stripNil (l : List (Nat × Nat)) : List (Nat × Nat) := l.filter (fun x => decide (x ≠ (0, 0)))

@[simp] theorem stripNil_nil : stripNil [] = [] := rfl

theorem stripNil_cons_nil (l : List (Nat × Nat)) : stripNil ((0, 0) :: l) = stripNil l := by
  simp [stripNil]

theorem stripNil_cons_of_ne {x : Nat × Nat} (hx : x ≠ (0, 0)) (l : List (Nat × Nat)) :
    stripNil (x :: l) = x :: stripNil l := by
  simp [stripNil, hx]

theorem stripNil_append (l₁ l₂ : List (Nat × Nat)) :
    stripNil (l₁ ++ l₂) = stripNil l₁ ++ stripNil l₂ := by
  simp [stripNil]

theorem stripNil_idem (l : List (Nat × Nat)) : stripNil (stripNil l) = stripNil l := by
  simp [stripNil]

theorem mem_stripNil {x : Nat × Nat} {l : List (Nat × Nat)} :
    x ∈ stripNil l ↔ x ∈ l ∧ x ≠ (0, 0) := by
  simp [stripNil]

theorem offers_stripNil (l : List (Nat × Nat)) : offers (stripNil l) = offers l := by
  induction l with
  | nil => rfl
  | cons x l ih =>
    by_cases hx : x = (0, 0)
    · subst hx; rw [stripNil_cons_nil, ih, offers_cons]; simp
    · rw [stripNil_cons_of_ne hx, offers_cons, offers_cons, ih]

/-- `(0, 0)` responses do not matter, for any script whatsoever: the loop of `ReadFrom` on a
    script and on the script without its `(0, 0)` responses ends with the same buffer (capacity
    included), the same remaining payload, the same error, and at corresponding script positions. -/
theorem readLoop_stripNil (rs : List (Nat × Nat)) : ∀ (b : PBuf) (p : List Byte),
    (readLoop b ⟨p, rs⟩).1 = (readLoop b ⟨p, stripNil rs⟩).1 ∧
    (readLoop b ⟨p, rs⟩).2.1.payload = (readLoop b ⟨p, stripNil rs⟩).2.1.payload ∧
    stripNil (readLoop b ⟨p, rs⟩).2.1.resps = (readLoop b ⟨p, stripNil rs⟩).2.1.resps ∧
    (readLoop b ⟨p, rs⟩).2.2 = (readLoop b ⟨p, stripNil rs⟩).2.2 := by
  induction rs with
  | nil =>
    -- the loop returns the reader it was given
    intro b p
    refine ⟨rfl, rfl, ?_, rfl⟩
    rw [stripNil_nil]
    by_cases hfull : b.cfg.bufferSize ≤ b.data.length
    · rw [readLoop_full b _ hfull]; rfl
    · rw [readLoop_eq b ⟨p, []⟩ (by omega)]; rfl
  | cons x rs ih =>
    intro b p
    by_cases hfull : b.cfg.bufferSize ≤ b.data.length
    · rw [readLoop_full b _ hfull, readLoop_full b _ hfull]
      exact ⟨rfl, rfl, rfl, rfl⟩
    · have hroom : b.data.length < b.cfg.bufferSize := by omega
      by_cases hx : x = (0, 0)
      · subst hx
        rw [readLoop_skip_nil b p rs hroom, stripNil_cons_nil]
        exact ih b p
      · rw [stripNil_cons_of_ne hx]
        obtain ⟨mx, ec⟩ := x
        rw [readLoop_eq b ⟨p, (mx, ec) :: rs⟩ hroom, readLoop_eq b ⟨p, (mx, ec) :: stripNil rs⟩ hroom]
        simp only []
        by_cases hec : ec ≠ 0
        · rw [if_pos hec, if_pos hec]
          exact ⟨rfl, rfl, rfl, rfl⟩
        · rw [if_neg hec, if_neg hec]
          exact ih _ _

theorem readFrom_stripNil (b : PBuf) (p : List Byte) (rs : List (Nat × Nat)) :
    (b.readFrom ⟨p, rs⟩).1 = (b.readFrom ⟨p, stripNil rs⟩).1 ∧
    (b.readFrom ⟨p, rs⟩).2.1.payload = (b.readFrom ⟨p, stripNil rs⟩).2.1.payload ∧
    stripNil (b.readFrom ⟨p, rs⟩).2.1.resps = (b.readFrom ⟨p, stripNil rs⟩).2.1.resps ∧
    (b.readFrom ⟨p, rs⟩).2.2 = (b.readFrom ⟨p, stripNil rs⟩).2.2 := by
  obtain ⟨h1, h2, h3, h4⟩ := readLoop_stripNil rs b p
  refine ⟨h1, h2, h3, ?_⟩
  show ((readLoop b ⟨p, rs⟩).1.data.length - b.data.length, (readLoop b ⟨p, rs⟩).2.2) =
    ((readLoop b ⟨p, stripNil rs⟩).1.data.length - b.data.length,
      (readLoop b ⟨p, stripNil rs⟩).2.2)
  rw [h1, h4]

/-- Two scripts that differ only by inserted `(0, 0)` responses — error free or not —
    carrying the same payload: `ReadFrom` yields the same buffer, the same count and error, the
    same remaining payload, and remaining scripts that again differ only by `(0, 0)` responses. -/
theorem readFrom_nil_insensitive (b : PBuf) {ra rb : Reader} (hp : ra.payload = rb.payload)
    (hs : stripNil ra.resps = stripNil rb.resps) :
    (b.readFrom ra).1 = (b.readFrom rb).1 ∧
    (b.readFrom ra).2.1.payload = (b.readFrom rb).2.1.payload ∧
    stripNil (b.readFrom ra).2.1.resps = stripNil (b.readFrom rb).2.1.resps ∧
    (b.readFrom ra).2.2 = (b.readFrom rb).2.2 := by
  obtain ⟨pa, sa⟩ := ra
  obtain ⟨pb, sb⟩ := rb
  simp only [] at hp hs
  subst hp
  obtain ⟨a1, a2, a3, a4⟩ := readFrom_stripNil b pa sa
  obtain ⟨b1, b2, b3, b4⟩ := readFrom_stripNil b pa sb
  rw [hs] at a1 a2 a3 a4
  exact ⟨a1.trans b1.symm, a2.trans b2.symm, a3.trans b3.symm, a4.trans b4.symm⟩

/-! ## chunking independence with `(0, nil)` answers -/

/-- a `FillScript` with `(0, 0)` responses inserted anywhere is a `FillScriptN` -/
theorem FillScriptN.of_stripNil {rs : List (Nat × Nat)} {m : Nat}
    (h : FillScript (stripNil rs) m) : FillScriptN rs m := by
  obtain ⟨h1, h2⟩ := h.toN
  refine ⟨fun x hx => ?_, by rw [← offers_stripNil]; exact h2⟩
  by_cases hx0 : x = (0, 0)
  · subst hx0; rfl
  · exact h1 x (mem_stripNil.2 ⟨hx, hx0⟩)

/-- Chunking independence of `ReadFrom` (`readFrom_fill`) for error-free scripts with `(0, nil)`
    answers: the outcome is determined by the payload alone. -/
theorem readFrom_fillN {b : PBuf} {fed : List Byte} (h : PInv b fed) (r : Reader)
    (hs : FillScriptN r.resps (min r.payload.length (b.cfg.bufferSize - b.data.length)))
    {b' : PBuf} {r' : Reader} {n : Nat} {e : Err} (hr : b.readFrom r = (b', r', n, e)) :
    let m := min r.payload.length (b.cfg.bufferSize - b.data.length)
    b'.data = b.data ++ r.payload.take m ∧ n = m ∧ r'.payload = r.payload.drop m ∧
    b'.w = b.w ∧ b'.off = b.off ∧ b'.cfg = b.cfg ∧
    e = (if b.cfg.bufferSize - b.data.length ≤ r.payload.length then .full else .eof) :=
  readFrom_fill_scriptN h r hs hr

/-- `readFrom_chunking_independent` for readers with interspersed `(0, nil)` answers: two
    error-free readers with the same payload, chunked differently and answering `(0, nil)` at
    different places, on buffers that differ at most in `cap`: same data, count, error and rest. -/
theorem readFrom_chunking_independentN {a b : PBuf} {fa fb : List Byte}
    (ha : PInv a fa) (_hb : PInv b fb) (hv : SameView a b)
    {ra rb : Reader} (hp : ra.payload = rb.payload)
    (hsa : FillScriptN ra.resps (min ra.payload.length (a.cfg.bufferSize - a.data.length)))
    (hsb : FillScriptN rb.resps (min rb.payload.length (b.cfg.bufferSize - b.data.length))) :
    SameView (a.readFrom ra).1 (b.readFrom rb).1 ∧
    (a.readFrom ra).2.1.payload = (b.readFrom rb).2.1.payload ∧
    (a.readFrom ra).2.2 = (b.readFrom rb).2.2 :=
  sameView_readFrom_fillN hv ha.len_le hp hsa hsb

/-! ## examples -/

section Examples

def cfg8 : BufCfg := { shrinkSize := 2, bufferSize := 8, windowSize := 8, blockSize := 8 }

/-- "abcde" -/
def abcde : List Byte := [97, 98, 99, 100, 101]

/-- two bytes, `(0, nil)`, three bytes -/
def rdNil : Reader := ⟨abcde, [(2, 0), (0, 0), (3, 0)]⟩

attribute [local simp] readFrom readLoop init grow cfg8 cfg4 abcde rdNil Facts.margin
  Facts.chunkSize Facts.growMin min3 errOfCode

/-- Script `[(2,0),(0,0),(3,0)]` on payload "abcde": ONE `ReadFrom` reads all five bytes and
    ends with io.EOF because the script is exhausted. -/
example : (init cfg8).readFrom rdNil =
    ({ data := abcde, w := 0, off := 0, cap := 15, cfg := cfg8 }, ⟨[], []⟩, 5, .eof) := by
  simp

/-- with a `BufferSize` of 4 the same reader fills the buffer: `ErrFullBuffer`, one byte and the
    rest of the script stay in the reader -/
example : (init cfg4).readFrom rdNil =
    ({ data := [97, 98, 99, 100], w := 0, off := 0, cap := 11, cfg := cfg4 }, ⟨[101], []⟩, 4,
      .full) := by
  simp

/-- a transient `(0, nil)` in front of an error: the error is the reader's, not io.EOF -/
example : ((init cfg8).readFrom ⟨abcde, [(0, 0), (1, 7)]⟩).2.2 = (1, .reader 7) := by
  simp

/-- the same via the theorems, without evaluation: `rdNil` against the reader that delivers
    "abcde" in one piece -/
example : (init cfg8).readFrom rdNil =
    (((init cfg8).readFrom ⟨abcde, [(2, 0), (3, 0)]⟩).1,
     ((init cfg8).readFrom rdNil).2.1,
     ((init cfg8).readFrom ⟨abcde, [(2, 0), (3, 0)]⟩).2.2) := by
  obtain ⟨h1, -, -, h4⟩ := readFrom_nil_insensitive (init cfg8)
    (ra := rdNil) (rb := ⟨abcde, [(2, 0), (3, 0)]⟩) rfl (by decide)
  rw [← h1, ← h4]

/-- single bytes with `(0, nil)` answers in between -/
def rdNilBytes : Reader :=
  ⟨abcde, [(1, 0), (0, 0), (1, 0), (1, 0), (0, 0), (0, 0), (1, 0), (9, 0), (0, 0)]⟩

/-- one piece, then `(0, nil)` answers -/
def rdNilPiece : Reader := ⟨abcde, [(0, 0), (5, 0), (0, 0), (1, 0), (1, 0), (1, 0), (1, 0)]⟩

theorem fillScriptN_rdNilBytes (m : Nat) : FillScriptN rdNilBytes.resps (min rdNilBytes.payload.length m) :=
  FillRN.fillScriptN (by unfold FillRN offers; decide) m

theorem fillScriptN_rdNilPiece (m : Nat) : FillScriptN rdNilPiece.resps (min rdNilPiece.payload.length m) :=
  FillRN.fillScriptN (by unfold FillRN offers; decide) m

/-- neither is in the class without `(0, nil)` answers -/
example : ¬ FillR rdNilBytes ∧ ¬ FillR rdNilPiece := by unfold FillR; decide

/-- chunking independence for the two readers, on buffers with different capacities, without
    evaluating `ReadFrom` -/
example : SameView ((init cfg8).readFrom rdNilBytes).1
      (({ init cfg8 with cap := 100 } : PBuf).readFrom rdNilPiece).1 ∧
    ((init cfg8).readFrom rdNilBytes).2.2 =
      (({ init cfg8 with cap := 100 } : PBuf).readFrom rdNilPiece).2.2 := by
  have h := readFrom_chunking_independentN (a := init cfg8)
    (b := ({ init cfg8 with cap := 100 } : PBuf)) (fa := []) (fb := [])
    (pinv_init _) (by constructor <;> simp [init, cfg8]) ⟨rfl, rfl, rfl, rfl⟩
    (ra := rdNilBytes) (rb := rdNilPiece) rfl (fillScriptN_rdNilBytes _) (fillScriptN_rdNilPiece _)
  exact ⟨h.1, h.2.2⟩

/-- … and evaluated: five bytes, io.EOF -/
example : ((init cfg8).readFrom rdNilBytes).2.2 = (5, .eof) := by
  simp [rdNilBytes]

end Examples

end PBuf
end LZ

#print axioms LZ.PBuf.readLoop_skip_nil
#print axioms LZ.PBuf.readLoop_skip_zero
#print axioms LZ.PBuf.readLoop_drained
#print axioms LZ.PBuf.readLoop_stripNil
#print axioms LZ.PBuf.readFrom_nil_insensitive
#print axioms LZ.PBuf.readFrom_fillN
#print axioms LZ.PBuf.readFrom_chunking_independentN
