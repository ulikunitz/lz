/-
  LzProofs.RunsFresh — the *freshness invariant* of the hash tables of HP / BHP (single table):

    `h.Fresh data w` : every position `q` with `q + inputLen ≤ w` (all key bytes parsed) is indexed
    and the slot of its key holds a position `≥ q`.

  It holds for the table of a fresh parser and is preserved by `Write`, `ReadFrom`, `Parse` (any
  flags), `Parse(nil)`, `Shrink` and `Reset`.
-/
import LzProofs.RunsLemmas
namespace LZ
open PBuf

/-- the freshness invariant of one table -/
def HashT.Fresh (h : HashT) (data : List Byte) (w : Nat) : Prop :=
  ∀ q, q + h.inputLen ≤ w → q ≤ (h.slot (h.key data q)).1

theorem HashT.Fresh.cov {h : HashT} {data : List Byte} {w : Nat} (hf : h.Fresh data w) :
    h.Cov data (w + 1 - h.inputLen) := fun q hq => hf q (by omega)

theorem HashT.Cov.fresh {h : HashT} {data : List Byte} {w : Nat}
    (hc : h.Cov data (w + 1 - h.inputLen)) : h.Fresh data w := fun q hq => hc q (by omega)

theorem HashT.Fresh.zero (h : HashT) (data : List Byte) (hil : 1 ≤ h.inputLen) : h.Fresh data 0 := by
  intro q hq; omega

/-- `Write` / `ReadFrom` only append -/
theorem HashT.Fresh.append {h : HashT} {data : List Byte} {w : Nat} (hf : h.Fresh data w)
    (hw : w ≤ data.length) (x : List Byte) : h.Fresh (data ++ x) w := by
  intro q hq
  rw [key_append h data x q (by omega)]
  exact hf q hq

/-- … stated for a buffer `b'` that extends `b` without moving `W` -/
theorem HashT.Fresh.grow {h : HashT} {b b' : PBuf} (hf : h.Fresh b.data b.w) (hw : b.w ≤ b.data.length)
    {x : List Byte} (hd : b'.data = b.data ++ x) (hw' : b'.w = b.w) : h.Fresh b'.data b'.w := by
  rw [hd, hw']; exact hf.append hw x

theorem HashT.Cov.fresh_of_take {h : HashT} {data : List Byte} {L a w : Nat}
    (hc : h.Cov (data.take L) a) (ha : L + 1 - h.inputLen ≤ a) (hw : w ≤ L) : h.Fresh data w := by
  intro q hq
  rw [← key_take h data L q (by omega)]
  exact hc q (by omega)

/-! ### `shiftOffsets` -/

theorem HashT.shiftOffsets_hashBits (h : HashT) (delta : Nat) :
    (h.shiftOffsets delta).hashBits = h.hashBits := by
  unfold HashT.shiftOffsets; split <;> rfl

theorem HashT.slot_shiftOffsets (h : HashT) (delta : Nat) (hd : delta ≠ 0) (x : UInt64) :
    (h.shiftOffsets delta).slot x =
      if (h.slot x).1 < delta then (0, 0) else ((h.slot x).1 - delta, (h.slot x).2) := by
  unfold HashT.shiftOffsets
  rw [if_neg hd]
  unfold HashT.slot
  simp only
  rw [Array.getD_eq_getD_getElem?, Array.getElem?_map, Array.getD_eq_getD_getElem?]
  cases h.tbl[hashValue x h.hashBits]? with
  | none =>
    simp only [Option.map_none, Option.getD_none]
    rw [if_pos (by omega)]
  | some e => simp only [Option.map_some, Option.getD_some]

theorem HashT.Fresh.shift {h : HashT} {data : List Byte} {w : Nat} (hf : h.Fresh data w)
    (delta : Nat) (hd : delta ≠ 0) (hdw : delta ≤ w) :
    (h.shiftOffsets delta).Fresh (data.drop delta) (w - delta) := by
  intro q hq
  rw [HashT.shiftOffsets_inputLen] at hq
  have hk : (h.shiftOffsets delta).key (data.drop delta) q = h.key data (delta + q) := by
    rw [← key_drop]
    unfold HashT.key
    rw [HashT.shiftOffsets_inputLen]
  have := hf (delta + q) (by omega)
  rw [hk, HashT.slot_shiftOffsets h delta hd, if_neg (by omega)]
  simp only
  omega

/-! ### `clear` -/

theorem HashT.clear_inputLen (h : HashT) : h.clear.inputLen = h.inputLen := rfl

/-! ### `Parse(nil)` -/

theorem processSegment1_fresh (h : HashT) (data : List Byte) (w n : Nat) (hs : h.SizeOK)
    (hil : 1 ≤ h.inputLen) (hf : h.Fresh data w) (hwn : w + n ≤ data.length) :
    (processSegment1 h data ((w : Int) - h.inputLen + 1) ((w + n : Nat) : Int)).Fresh data (w + n) := by
  apply HashT.Cov.fresh
  rw [processSegment1_inputLen]
  exact processSegment1_cov h data w _ _ hs hf.cov (by omega) (by omega)

theorem HashT.Fresh.entry_cov {h : HashT} {data : List Byte} {w : Nat} (hf : h.Fresh data w)
    (hs : h.SizeOK) (N : Nat) (hN : w + N ≤ data.length) :
    (processSegment1 h data ((w : Int) - h.inputLen + 1) w).Cov (data.take (w + N))
      (min w (w + N + 1 - h.inputLen)) := by
  apply (processSegment1_cov h data w w _ hs hf.cov (by omega) (by omega)).congr
  intro q hq
  exact key_take _ data _ q (by rw [processSegment1_inputLen]; omega)

/-! ### `Parse`: the probe keeps the coverage -/

theorem hpProbe_inputLen (ws mm ie : Nat) (back : Bool) (h : HashT) (p : List Byte) (i li : Nat) :
    (hpProbe ws mm ie back h p i li).1.inputLen = h.inputLen :=
  hpProbe_kept (HashT.inputLen_kept _) ws mm ie back rfl p i li

/-- the dictionary invariant of the HP / BHP loop at loop position `a` -/
def HpC (p : List Byte) (d : HashT) (a : Nat) : Prop := d.SizeOK ∧ d.Cov p a

theorem hp_loop_cov (ws mm ie : Nat) (back : Bool) (hmm : 1 ≤ mm) (p : List Byte)
    (st : LoopSt HashT) (hli : st.litIndex ≤ st.i) (hC : HpC p st.dict (min st.i ie)) :
    HpC p (greedyLoop ⟨hpProbe ws mm ie back⟩ p ie st).dict ie :=
  greedyLoop_cov ⟨hpProbe ws mm ie back⟩ p ie (HpC p)
    (fun d i li d' hli _ hC hp => (hpProbe_cov ws mm ie back hmm d p i li hli hC.1 hC.2).1 d' hp)
    (fun d i li d' s k o hli _ hC hp => (hpProbe_cov ws mm ie back hmm d p i li hli hC.1 hC.2).2 d' s k o hp)
    st hli hC

namespace Parser

theorem parse_single_fresh (s : Parser) (flags : Nat) (h : HashT) (hd : s.dict = .single h)
    (hs : h.SizeOK) (hf : h.Fresh s.buf.data s.buf.w)
    (hw : s.buf.w ≤ s.buf.data.length) (hn : s.blockN ≠ 0) (hm : s.MarginOK) (hmm : 1 ≤ s.minMatch) :
    ∃ h', (s.parse flags).1.dict = .single h' ∧ h'.SizeOK ∧ h'.inputLen = h.inputLen ∧
      h'.Fresh s.buf.data (s.parse flags).1.buf.w := by
  rw [parse_single s flags h hd hn hm]
  dsimp only
  have hl := s.blockPrefix_length hw
  have hN := s.blockN_le
  have hil1 := processSegment1_inputLen h s.buf.data ((s.buf.w : Int) - h.inputLen + 1) s.buf.w
  have hs1 := sizeOK_processSegment1 hs s.buf.data ((s.buf.w : Int) - h.inputLen + 1) s.buf.w
  have hc1 : (processSegment1 h s.buf.data ((s.buf.w : Int) - h.inputLen + 1) s.buf.w).Cov s.blockPrefix _ :=
    hf.entry_cov hs s.blockN (by omega)
  generalize processSegment1 h s.buf.data ((s.buf.w : Int) - h.inputLen + 1) s.buf.w = h1 at hil1 hs1 hc1
  rw [hil1, hl]
  generalize hie : s.buf.w + s.blockN + 1 - h.inputLen = ie at hc1
  have hle := runGreedy_w_le (hpProbe_verifying s.buf.cfg.windowSize s.minMatch
    ie (s.kind == .BHP) s.blockPrefix) hmm h1 s.buf.w ie flags (by omega)
  obtain ⟨f1, f3⟩ := hp_loop_cov s.buf.cfg.windowSize s.minMatch ie (s.kind == .BHP) hmm s.blockPrefix
    { dict := h1, i := s.buf.w, litIndex := s.buf.w, seqs := [], lits := [] } (Nat.le_refl _) ⟨hs1, hc1⟩
  rw [← runGreedy_fst _ _ _ _ _ flags] at f1 f3
  have f2 := runGreedy_dict ⟨hpProbe s.buf.cfg.windowSize s.minMatch ie (s.kind == .BHP)⟩
    (fun t => t.inputLen = h.inputLen)
    (fun d p i li hd => hpProbe_kept (HashT.inputLen_kept h.inputLen) _ _ _ _ hd p i li)
    h1 s.blockPrefix s.buf.w ie flags hil1
  exact ⟨_, rfl, f1, f2, f3.fresh_of_take (by rw [f2]; omega) (by omega)⟩

end Parser

end LZ
