/-
  LzProofs.GenGSAPLoop — one iteration of the translated greedy loop of `(*gsap).Parse` (gsap_Parse_loop_1 with its inner
  loop gsap_Parse_loop_2, LzModel/Generated/CodeGSAPParse.lean) is one step of the word-level probe `GsapBits.gsapProbeW`,
  and the whole loop is `ProbeW.greedyLoopW (gsapProbeW ws mm)` (instance of `GenParse.greedy_generic`).

  The word-level model reads `sa`, `isa` with TOTAL accessors (`getD`), the Go text panics on an index out of range.  The
  loop invariant `Marks` (LzProofs/GsapBits.lean; position-independent, so that `greedy_generic` applies) makes the two agree:
    every member `r` of the bitset is a rank `< N = len(sa) = len(isa)` of a position `sa[r] < e = len(p)`,
    `isa[i] < N` and `sa[isa[i]] = i` for every position `i < e`,
    and the word span `off + len(a)` of the bitset is at most `N/64 + 1` (bounds the fuel of `memberBefore/After`).
  No sorry, no axioms of its own.
-/
import LzProofs.GenGSAPLemmas
import LzProofs.GenParseShared
import LzProofs.GenHPParse
import LzProofs.GenCallByName

set_option linter.unusedSimpArgs false
set_option linter.unusedVariables false

namespace LZ.GenGSAP
open LZ LZ.Gen LZ.GenDec LZ.GenBuf LZ.GenHash LZ.GenSuffix LZ.GenBitset LZ.GsapBits LZ.GenHPParse LZ.GenParse LZ.GenBUPParse

/-! ## the fixed part of the Go state during the loop -/

/-- what the loop does not change, and what is known about it -/
structure LoopFix (PB : Gen.ParserBuffer) (SA ISA : GSlice Int32) (CFG : Gen.GSAPConfig) (N e mm ws : Nat) : Prop where
  wsa : GWF SA
  wisa : GWF ISA
  nsa : NonNeg SA
  nisa : NonNeg ISA
  lsa : SA.len = N
  lisa : ISA.len = N
  eN : e ≤ N
  rk : ∀ i, i < N → (absI32 ISA).getD i 0 < N ∧ (absI32 SA).getD ((absI32 ISA).getD i 0) 0 = i
  cmm : CFG.MinMatchLen = (mm : Int)
  mm1 : 1 ≤ mm
  cws : ws = CFG.WindowSize.toNat
  ws0 : 0 ≤ CFG.WindowSize

/-- the invariant of the Go state for `greedy_generic` -/
def LInv (PB : Gen.ParserBuffer) (SA ISA : GSlice Int32) (CFG : Gen.GSAPConfig) (N e : Nat) (s : Gen.gsap) : Prop :=
  s.ParserBuffer = PB ∧ s.sa = SA ∧ s.isa = ISA ∧ s.GSAPConfig = CFG ∧ BSWF s.bits ∧ Marks N e (absI32 SA) (ofBS s.bits)

/-- `f = int(s.sa[k]); m = lcp(p[f:], p[i:])` for a member `k` of the bitset -/
theorem cand_one (lcp : Slice → Slice → Int) (hlcp : LcpSpec lcp) (SA : GSlice Int32) (hw : GWF SA) (hn : NonNeg SA)
    (A : List UInt8) (e i k : Nat) (hk : k < SA.len) (hf : (absI32 SA).getD k 0 ≤ e) (hi : i ≤ e) (he : e ≤ A.length)
    {β : Type} (F : Int × Int → Res β) :
    (Res.bind (GSlice.index (0 : Int32) SA (k : Int)) fun t_5 =>
      Res.bind (Slice.slice ({ arr := A, len := e } : Slice) t_5.toInt (Int.ofNat e)) fun t_6 =>
      Res.bind (Slice.slice ({ arr := A, len := e } : Slice) (i : Int) (Int.ofNat e)) fun t_7 =>
      F (t_5.toInt, lcp t_6 t_7)) =
    F ((((absI32 SA).getD k 0 : Nat) : Int),
       ((lcpLen ((A.take e).drop ((absI32 SA).getD k 0)) ((A.take e).drop i) : Nat) : Int)) := by
  rw [gindex_ok (0 : Int32) SA (k : Int) k rfl hk, bind_ok, read_i32 SA hw hn k hk]
  rw [slice_okI _ _ (Int.ofNat e) ((absI32 SA).getD k 0) e rfl rfl hf he, bind_ok,
    slice_okI _ (i : Int) (Int.ofNat e) i e rfl rfl hi he, bind_ok, hlcp]
  simp only [Slice.data, List.drop_take]

/-- the Go text of one iteration, in continuation form: after the insert of the rank `jn` of position `i` (bitset `b1`,
    standing for `w1`) the candidate is `c = candW …`; either the loop goes on at `i + 1`, or the ranks of the
    positions the match covers are inserted and it goes on behind the match.
    (The type of `R` is the result type of the loop function, whatever the order of its state tuple.) -/
theorem loop1_go (grow : Nat → Nat → Nat) (lcp : Slice → Slice → Int) (hlcp : LcpSpec lcp)
    (SS : Slice → GSlice Int32 → Res (GSlice Int32)) (BI : Gen.bitset → List Int → Res Gen.bitset)
    (pb : Gen.ParserBuffer) (sa isa : GSlice Int32) (cfg : Gen.GSAPConfig) (N e mm ws : Nat)
    (hfix : LoopFix pb sa isa cfg N e mm ws) (A : List UInt8) (he : e ≤ A.length)
    (fuel i li jn : Nat) (lia : Int) (bits b1 : Gen.bitset) (blk : Block') (c : Nat × Nat)
    (hlia : lia = (li : Int)) (hi : i < e) (hli : li ≤ i)
    (hjn : (absI32 isa).getD i 0 = jn) (r1 : BI bits [(jn : Int)] = Res.ok b1) (hb1 : BSWF b1)
    (hb1len : b1.a.len + 1 < fuel) (m1 : Marks N e (absI32 sa) (ofBS b1))
    (hc : c = candW (absI32 sa) (ofBS b1) (A.take e) i jn) (R : Res _)
    (h1 : c.2 < mm ∨ ¬ (c.1 < i ∧ i - c.1 < ws) →
      (gcall% gsap_Parse_loop_1 [grow := grow, lcp := lcp, suffix_Sort := SS, bitset_insert := BI,
          p := ({ arr := A, len := e } : Slice), fuel := fuel, s := ⟨pb, sa, isa, b1, cfg⟩, blk := blk,
          i := (i : Int) + 1, litIndex := lia]) = R)
    (h3 : ¬ c.2 < mm → (c.1 < i ∧ i - c.1 < ws) →
      (Res.bind (gcall% gsap_Parse_loop_2 [grow := grow, lcp := lcp, suffix_Sort := SS, bitset_insert := BI,
          litIndex := (i : Int) + (c.2 : Int), fuel := fuel, s := ⟨pb, sa, isa, b1, cfg⟩, i := (i : Int) + 1]) fun r =>
        (gcall% gsap_Parse_loop_1 [grow := grow, lcp := lcp, suffix_Sort := SS, bitset_insert := BI,
          p := ({ arr := A, len := e } : Slice), fuel := fuel, s := (gproj% gsap_Parse_loop_2 s ((), r)),
          blk := { Sequences := blk.Sequences ++ [seqRep { litLen := i - li, matchLen := c.2, offset := i - c.1 }],
                   Literals := Slice.append grow blk.Literals ((A.drop li).take (i - li)) },
          i := (gproj% gsap_Parse_loop_2 i ((), r)) - 1 + 1, litIndex := (i : Int) + (c.2 : Int)])) = R) :
    (gcall% gsap_Parse_loop_1 [grow := grow, lcp := lcp, suffix_Sort := SS, bitset_insert := BI,
        p := ({ arr := A, len := e } : Slice), fuel := fuel + 1, s := ⟨pb, sa, isa, bits, cfg⟩, blk := blk,
        i := (i : Int), litIndex := lia]) = R := by
  have hil : i < isa.len := by rw [hfix.lisa]; exact Nat.lt_of_lt_of_le hi hfix.eN
  have hk : ∀ k, (ofBS b1).mem k → k < sa.len ∧ (absI32 sa).getD k 0 ≤ e := fun k hk => by
    rw [hfix.lsa]; exact ⟨(m1.mark k hk).1, Nat.le_of_lt (m1.mark k hk).2⟩
  have hk1 : ∀ k, (ofBS b1).memberBefore jn = some k → k < sa.len ∧ (absI32 sa).getD k 0 ≤ e := fun k h =>
    hk k (by have := BitsetW.memberBefore_isPred (ofBS b1) jn; rw [h] at this; exact this.1)
  have hk2 : ∀ k, (ofBS b1).memberAfter jn = some k → k < sa.len ∧ (absI32 sa).getD k 0 ≤ e := fun k h =>
    hk k (by have := BitsetW.memberAfter_isGE (ofBS b1) jn; rw [h] at this; exact this.1)
  rw [gsap_Parse_loop_1]
  have hc1 : (i : Int) < Int.ofNat ({ arr := A, len := e } : Slice).len := by show (i : Int) < (e : Int); omega
  rw [if_pos hc1]
  rw [gindex_ok (0 : Int32) isa (i : Int) i rfl hil, bind_ok]
  simp only [read_i32 isa hfix.wisa hfix.nisa i hil, hjn, r1, bind_ok,
    gen_bitset_memberBefore fuel b1 hb1 jn hb1len, gen_bitset_memberAfter fuel b1 hb1 jn hb1len]
  -- the rank neighbour below
  refine bind_trans (v := (((cand1 (absI32 sa) (A.take e) i ((ofBS b1).memberBefore jn)).1 : Int),
    ((cand1 (absI32 sa) (A.take e) i ((ofBS b1).memberBefore jn)).2 : Int))) ?_ ?_
  · cases hmb : (ofBS b1).memberBefore jn with
    | none => simp only [ans, cand1]; rfl
    | some k1 =>
      simp only [ans, if_true, cand1]
      exact cand_one lcp hlcp sa hfix.wsa hfix.nsa A e i k1 (hk1 k1 hmb).1 (hk1 k1 hmb).2 (by omega) he Res.ok
  dsimp only
  rw [candW_eq2] at hc
  generalize cand1 (absI32 sa) (A.take e) i ((ofBS b1).memberBefore jn) = fm1 at hc ⊢
  -- the rank neighbour above
  refine bind_trans (v := ((c.1 : Int), (c.2 : Int))) ?_ ?_
  · cases hma : (ofBS b1).memberAfter jn with
    | none =>
      rw [hma] at hc
      simp only [ans, cand2] at hc ⊢
      rw [hc]; rfl
    | some k2 =>
      rw [hma] at hc
      have hx := gindex_ok (0 : Int32) sa (k2 : Int) k2 rfl (hk2 k2 hma).1
      have hxi := read_i32 sa hfix.wsa hfix.nsa k2 (hk2 k2 hma).1
      have hs1 := slice_okI ({ arr := A, len := e } : Slice) (((absI32 sa).getD k2 0 : Nat) : Int) (Int.ofNat e)
        ((absI32 sa).getD k2 0) e rfl rfl (hk2 k2 hma).2 he
      have hs2 := slice_okI ({ arr := A, len := e } : Slice) (i : Int) (Int.ofNat e) i e rfl rfl (by omega) he
      have hlcpv : ∀ p q, lcp p q = ((lcpLen p.data q.data : Nat) : Int) := hlcp
      simp only [ans, if_true, hx, bind_ok, hxi, hs1, hs2, hlcpv, Slice.data, List.drop_take]
      simp only [cand2, List.drop_take] at hc
      generalize (absI32 sa).getD k2 0 = f2 at hc ⊢
      generalize lcpLen (List.take (e - f2) (List.drop f2 A)) (List.take (e - i) (List.drop i A)) = m2 at hc ⊢
      -- the tie rule, in whatever (linear) spelling the Go text has
      by_cases hcc : m2 > fm1.2 ∨ m2 = fm1.2 ∧ f2 > fm1.1
      · rw [if_pos hcc] at hc
        rw [if_pos (by omega)]; rw [hc]
      · rw [if_neg hcc] at hc
        rw [if_neg (by omega)]; rw [hc]
  dsimp only
  by_cases hA : c.2 < mm
  · rw [if_pos (by rw [hfix.cmm]; omega)]
    exact h1 (Or.inl hA)
  rw [if_neg (by rw [hfix.cmm]; omega)]
  have hws := hfix.cws
  have hws0 := hfix.ws0
  by_cases hB : c.1 < i ∧ i - c.1 < ws
  · rw [if_neg (by omega)]
    rw [hlia, slice_okI _ _ _ li i rfl rfl hli (by show i ≤ A.length; omega), bind_ok]
    have ho : (i : Int) - (c.1 : Int) = ((i - c.1 : Nat) : Int) := by omega
    rw [ho]
    exact h3 hA hB
  · rw [if_pos (by omega)]
    exact h1 (Or.inr hB)

/-- **one iteration of the greedy loop = one step of `gsapProbeW`**, the loop function applied BY GO VARIABLE NAME
    (`gcall%`, LzProofs/GenCallByName.lean): this is the form `loops_eq` uses; the audited `loop1_step` below is the same
    statement with the positional application -/
theorem loop1_step_n (grow : Nat → Nat → Nat) (lcp : Slice → Slice → Int) (hlcp : LcpSpec lcp)
    (SS : Slice → GSlice Int32 → Res (GSlice Int32)) (BI : Gen.bitset → List Int → Res Gen.bitset) (hBI : InsertSpec BI)
    (PB : Gen.ParserBuffer) (SA ISA : GSlice Int32) (CFG : Gen.GSAPConfig) (N e mm ws : Nat)
    (hfix : LoopFix PB SA ISA CFG N e mm ws) (A : List UInt8) (he : e ≤ A.length)
    (fuel i li : Nat) (ia lia : Int) (s : Gen.gsap) (blk : Block')
    (hinv : LInv PB SA ISA CFG N e s) (hia : ia = (i : Int)) (hlia : lia = (li : Int)) (hi : i < e) (hli : li ≤ i)
    (hfuel : e + (N / 64 + 3) ≤ fuel + i) :
    ∃ r, gsapProbeW ws mm (ofGW s) (A.take e) i li = some r ∧
      ∃ s', LInv PB SA ISA CFG N e s' ∧ r.1 = ofGW s' ∧
        (gcall% gsap_Parse_loop_1 [grow := grow, lcp := lcp, suffix_Sort := SS, bitset_insert := BI,
            p := ({ arr := A, len := e } : Slice), fuel := fuel + 1, s := s, blk := blk, i := ia, litIndex := lia]) =
          (match r.2 with
          | none => (gcall% gsap_Parse_loop_1 [grow := grow, lcp := lcp, suffix_Sort := SS, bitset_insert := BI,
            p := ({ arr := A, len := e } : Slice), fuel := fuel, s := s', blk := blk, i := ia + 1, litIndex := lia])
          | some (st, k, o) =>
            (gcall% gsap_Parse_loop_1 [grow := grow, lcp := lcp, suffix_Sort := SS, bitset_insert := BI,
            p := ({ arr := A, len := e } : Slice), fuel := fuel, s := s', blk := 
              { Sequences := blk.Sequences ++ [seqRep { litLen := st - li, matchLen := k, offset := o }],
                Literals := Slice.append grow blk.Literals ((A.drop li).take (st - li)) }, i := ((st + k : Nat) : Int), litIndex := ((st + k : Nat) : Int)])) ∧
        (∀ st k o, r.2 = some (st, k, o) → st = i ∧ 1 ≤ k ∧ i + k ≤ e) := by
  obtain ⟨hpb, hsa, hisa, hcfg, hbs, hmk⟩ := hinv
  obtain ⟨pb, sa, isa, bits, cfg⟩ := s
  simp only at hpb hsa hisa hcfg hbs hmk
  subst hpb hsa hisa hcfg
  subst hia
  have hmm1 := hfix.mm1
  have hpl : (A.take e).length = e := by rw [List.length_take]; omega
  obtain ⟨hj1, hj2⟩ := hfix.rk i (Nat.lt_of_lt_of_le hi hfix.eN)
  generalize hjn : (absI32 isa).getD i 0 = jn at hj1 hj2
  obtain ⟨w1, e1, m1⟩ := marks_insert hmk jn hj1 (by rw [hj2]; exact hi)
  obtain ⟨b1, r1, e1', hb1⟩ := insert_one BI hBI bits hbs jn
  obtain rfl : w1 = ofBS b1 := by rw [e1] at e1'; exact Option.some.inj e1'
  have heN := hfix.eN
  have hb1len : b1.a.len + 1 < fuel := by
    have : b1.a.len = (ofBS b1).len := rfl
    have hsp := m1.span
    omega
  obtain ⟨c, hc⟩ : ∃ c, c = candW (absI32 sa) (ofBS b1) (A.take e) i jn := ⟨_, rfl⟩
  have hcle : c.2 ≤ e - i := by
    rw [hc]
    refine candW_le _ _ _ _ _ _ fun f => ?_
    have := BytesW.lcpLen_le_right ((A.take e).drop f) ((A.take e).drop i)
    rwa [List.length_drop, hpl] at this
  have hGo := loop1_go grow lcp hlcp SS BI pb sa isa cfg N e mm ws hfix A he fuel i li jn lia bits b1 blk c hlia hi hli
    hjn r1 hb1 hb1len m1 hc
  rw [gsapProbeW_eq]
  simp only [ofGW, hjn, e1]
  rw [← hc]
  by_cases hA : c.2 < mm
  · rw [if_pos hA]
    refine ⟨_, rfl, ⟨pb, sa, isa, b1, cfg⟩, ⟨rfl, rfl, rfl, rfl, hb1, m1⟩, rfl, ?_, ?_⟩
    · exact hGo _ (fun _ => rfl) (fun h => absurd hA h)
    · intro st k o h; cases h
  rw [if_neg hA]
  by_cases hB : c.1 < i ∧ i - c.1 < ws
  · rw [if_neg (fun hh => hh hB)]
    have hk : i + 1 + (c.2 - 1) = i + c.2 := by omega
    obtain ⟨bits', r6, k2, k4⟩ := ranks_loop_eq BI hBI (fun fuel s i0 => (gcall% gsap_Parse_loop_2 [grow := grow, lcp := lcp, suffix_Sort := SS, bitset_insert := BI,
            litIndex := (i : Int) + (c.2 : Int), fuel := fuel, s := s, i := i0]))
      (fun _ => (i : Int) + (c.2 : Int)) (fun _ _ => rfl) (i + c.2) (fun fuel s i => by rw [gsap_Parse_loop_2])
      (c.2 - 1) fuel (i + 1) ((i : Int) + 1) ⟨pb, sa, isa, b1, cfg⟩ (Int.natCast_add i c.2).symm hk rfl (by omega)
      hfix.wisa hfix.nisa (by show i + c.2 ≤ isa.len; rw [hfix.lisa]; omega) hb1
    obtain ⟨w'', k5, k6⟩ := marks_insertRanks (fun a ha => hfix.rk a (Nat.lt_of_lt_of_le ha heN)) (c.2 - 1) (i + 1)
      (ofBS b1) m1 (by omega)
    obtain rfl : w'' = ofBS bits' := by rw [k5] at k2; exact Option.some.inj k2
    rw [k5]
    refine ⟨_, rfl, ⟨pb, sa, isa, bits', cfg⟩, ⟨rfl, rfl, rfl, rfl, k4, k6⟩, rfl, ?_, ?_⟩
    · refine hGo _ (fun h => h.elim (absurd · hA) (absurd hB)) (fun _ _ => ?_)
      have r6' : (gcall% gsap_Parse_loop_2 [grow := grow, lcp := lcp, suffix_Sort := SS, bitset_insert := BI,
            litIndex := (i : Int) + (c.2 : Int), fuel := fuel, s := ⟨pb, sa, isa, b1, cfg⟩, i := (i : Int) + 1]) =
          Res.ok (gstate% gsap_Parse_loop_2 [s := ⟨pb, sa, isa, bits', cfg⟩, i := ((i + 1 + (c.2 - 1) : Nat) : Int)]) := r6
      rw [r6', bind_ok]
      dsimp only
      rw [hk, Int.sub_add_cancel, Int.natCast_add]
    · intro st k o h
      injection h with h
      injection h with h1 h
      injection h with h2 h3
      subst h1 h2
      exact ⟨rfl, by omega, by omega⟩
  · rw [if_pos hB]
    refine ⟨_, rfl, ⟨pb, sa, isa, b1, cfg⟩, ⟨rfl, rfl, rfl, rfl, hb1, m1⟩, rfl, ?_, ?_⟩
    · exact hGo _ (fun _ => rfl) (fun _ h => absurd h hB)
    · intro st k o h; cases h

/-- **one iteration of the greedy loop = one step of `gsapProbeW`** -/
theorem loop1_step (grow : Nat → Nat → Nat) (lcp : Slice → Slice → Int) (hlcp : LcpSpec lcp)
    (SS : Slice → GSlice Int32 → Res (GSlice Int32)) (BI : Gen.bitset → List Int → Res Gen.bitset) (hBI : InsertSpec BI)
    (PB : Gen.ParserBuffer) (SA ISA : GSlice Int32) (CFG : Gen.GSAPConfig) (N e mm ws : Nat)
    (hfix : LoopFix PB SA ISA CFG N e mm ws) (A : List UInt8) (he : e ≤ A.length)
    (fuel i li : Nat) (ia lia : Int) (s : Gen.gsap) (blk : Block')
    (hinv : LInv PB SA ISA CFG N e s) (hia : ia = (i : Int)) (hlia : lia = (li : Int)) (hi : i < e) (hli : li ≤ i)
    (hfuel : e + (N / 64 + 3) ≤ fuel + i) :
    ∃ r, gsapProbeW ws mm (ofGW s) (A.take e) i li = some r ∧
      ∃ s', LInv PB SA ISA CFG N e s' ∧ r.1 = ofGW s' ∧
        gsap_Parse_loop_1 grow lcp SS BI { arr := A, len := e } (fuel + 1) s blk ia lia =
          (match r.2 with
          | none => gsap_Parse_loop_1 grow lcp SS BI { arr := A, len := e } fuel s' blk (ia + 1) lia
          | some (st, k, o) =>
            gsap_Parse_loop_1 grow lcp SS BI { arr := A, len := e } fuel s'
              { Sequences := blk.Sequences ++ [seqRep { litLen := st - li, matchLen := k, offset := o }],
                Literals := Slice.append grow blk.Literals ((A.drop li).take (st - li)) }
              ((st + k : Nat) : Int) ((st + k : Nat) : Int)) ∧
        (∀ st k o, r.2 = some (st, k, o) → st = i ∧ 1 ≤ k ∧ i + k ≤ e) :=
  loop1_step_n grow lcp hlcp SS BI hBI PB SA ISA CFG N e mm ws hfix A he fuel i li ia lia s blk hinv hia hlia hi hli hfuel

/-! ## the whole loop -/

/-- **The greedy loop of `Parse`** (gsap_Parse_loop_1) is `ProbeW.greedyLoopW (gsapProbeW ws mm)` on the block
    `A[:e]`; instance of `GenParse.greedy_generic` (the state tuple of the generated loop is `(s, blk, i, litIndex)`,
    reordered for the generic lemma); every iteration may need `N/64 + 3` extra fuel (the word scans of
    `memberBefore` / `memberAfter`). -/
theorem loops_eq (grow : Nat → Nat → Nat) (lcp : Slice → Slice → Int) (hlcp : LcpSpec lcp)
    (SS : Slice → GSlice Int32 → Res (GSlice Int32)) (BI : Gen.bitset → List Int → Res Gen.bitset) (hBI : InsertSpec BI)
    (PB : Gen.ParserBuffer) (SA ISA : GSlice Int32) (CFG : Gen.GSAPConfig) (N e mm ws : Nat)
    (hfix : LoopFix PB SA ISA CFG N e mm ws) (A : List UInt8) (he : e ≤ A.length)
    (fuel w : Nat) (s : Gen.gsap) (blk : Block') (hinv : LInv PB SA ISA CFG N e s) (hw : w ≤ e)
    (hfuel : e + (N / 64 + 3) + 1 ≤ fuel + w)
    (hsq : blk.Sequences = []) (hlt : blk.Literals.data = []) (hswf : SWF blk.Literals) :
    ∃ (st' : LoopSt GsapDW) (s' : Gen.gsap) (blk' : Block'),
      ProbeW.greedyLoopW (gsapProbeW ws mm) (A.take e) e
        { dict := ofGW s, i := w, litIndex := w, seqs := [], lits := [] } = some st' ∧
      (gcall% gsap_Parse_loop_1 [grow := grow, lcp := lcp, suffix_Sort := SS, bitset_insert := BI,
            p := ({ arr := A, len := e } : Slice), fuel := fuel, s := s, blk := blk, i := (w : Int), litIndex := (w : Int)]) =
        Res.ok (gstate% gsap_Parse_loop_1 [s := s', blk := blk', i := (e : Int), litIndex := (st'.litIndex : Int)]) ∧
      LInv PB SA ISA CFG N e s' ∧ st'.dict = ofGW s' ∧ st'.i = e ∧ st'.litIndex ≤ e ∧ w ≤ st'.litIndex ∧
      blk'.Sequences = st'.seqs.map seqRep ∧ blk'.Literals.data = st'.lits ∧ SWF blk'.Literals := by
  let loopF : Nat → Int → Gen.gsap → Block' → Int → Res (Int × Gen.gsap × Block' × Int) :=
    fun fuel ia s blk lia =>
      Res.bind (gcall% gsap_Parse_loop_1 [grow := grow, lcp := lcp, suffix_Sort := SS, bitset_insert := BI,
            p := ({ arr := A, len := e } : Slice), fuel := fuel, s := s, blk := blk, i := ia, litIndex := lia]) fun r =>
        Res.ok (gproj% gsap_Parse_loop_1 i ((), r), gproj% gsap_Parse_loop_1 s ((), r),
          gproj% gsap_Parse_loop_1 blk ((), r), gproj% gsap_Parse_loop_1 litIndex ((), r))
  obtain ⟨st', s', blk', h1, h2, h3, h4, h5, h6, h7, h8, h9, h10, h11⟩ :=
    greedy_generic (gsapProbeW ws mm) loopF ofGW (LInv PB SA ISA CFG N e) grow A e e e (N / 64 + 3) 0
      (Nat.le_refl _) (Nat.le_refl _) he
      (fun fuel ia s blk lia hia => by
        show Res.bind _ _ = _
        rw [gsap_Parse_loop_1, if_neg (by show ¬ ia < (e : Int); exact hia)]
        rfl)
      (fun fuel i li ia lia s blk hI hia hlia _ hi hli hf => by
        obtain ⟨r, hr, s1, hI1, hr1, hstp, hb⟩ := loop1_step_n grow lcp hlcp SS BI hBI PB SA ISA CFG N e mm ws hfix A he
          fuel i li ia lia s blk hI hia hlia hi hli hf
        refine ⟨r, hr, s1, hI1, hr1, ?_, ?_⟩
        · show Res.bind _ _ = _
          rw [hstp]
          cases r.2 with
          | none => rfl
          | some x => rfl
        · intro st k o hh
          obtain ⟨a1, a2, a3⟩ := hb st k o hh
          subst a1
          exact ⟨hli, Nat.le_refl _, by omega, a3⟩)
      (e - w) fuel w w (w : Int) (w : Int) s blk [] [] (by omega) (Nat.zero_le _) hw (Nat.le_refl _) rfl rfl
      (by omega) hinv (by rw [hsq]; rfl) hlt hswf
  have hi' : st'.i = e := by omega
  have hdone : ProbeW.greedyLoopW (gsapProbeW ws mm) (A.take e) e st' = some st' :=
    ProbeW.greedyLoopW_done _ _ _ _ (by omega)
  refine ⟨st', s', blk', by rw [h1, hdone], ?_, h3, h4, hi', by omega, h11, h8, h9, h10⟩
  -- the components of the result by name; the tuple is put together again by eta
  obtain ⟨r, hL, hr⟩ := bind_eq_ok h2
  simp only [Res.ok.injEq, Prod.mk.injEq] at hr
  obtain ⟨q1, q2, q3, q4⟩ := hr
  rw [hi'] at q1
  rw [hL, ← q1, ← q2, ← q3, ← q4]

/-! ## from `greedyLoopW` to the loop `gsapParseW` runs -/

/-- the loop state of `Parser.runGreedy ⟨probeW ws mm⟩` for a panic-free run -/
def liftSt (st : LoopSt GsapDW) : LoopSt (Option GsapDW) :=
  { dict := some st.dict, i := st.i, litIndex := st.litIndex, seqs := st.seqs, lits := st.lits }

theorem greedyLoopW_lift (ws mm : Nat) (p : List Byte) (stop : Nat) :
    ∀ (n : Nat) (st st' : LoopSt GsapDW), stop - st.i ≤ n →
      ProbeW.greedyLoopW (gsapProbeW ws mm) p stop st = some st' →
      greedyLoop ⟨probeW ws mm⟩ p stop (liftSt st) = liftSt st' := by
  intro n
  induction n with
  | zero =>
    intro st st' hn h
    have hi : ¬ st.i < stop := by omega
    rw [ProbeW.greedyLoopW_done _ _ _ _ hi] at h
    injection h with h; subst h
    exact greedyLoop_done _ _ _ _ hi
  | succ n ih =>
    intro st st' hn h
    by_cases hi : st.i < stop
    · cases hp : gsapProbeW ws mm st.dict p st.i st.litIndex with
      | none => rw [ProbeW.greedyLoopW_noneP _ _ _ _ hi hp] at h; cases h
      | some r =>
        obtain ⟨d, m⟩ := r
        cases m with
        | none =>
          rw [ProbeW.greedyLoopW_none _ _ _ _ d hi hp] at h
          have hp' : (⟨probeW ws mm⟩ : Finder (Option GsapDW)).probe (liftSt st).dict p (liftSt st).i (liftSt st).litIndex =
              (some d, none) := by
            show probeW ws mm (some st.dict) p st.i st.litIndex = _
            simp only [probeW, hp]
          rw [greedyLoop_none _ _ _ _ (some d) hi hp']
          exact ih { st with dict := d, i := st.i + 1 } st' (by show stop - (st.i + 1) ≤ n; omega) h
        | some x =>
          obtain ⟨s0, k, o⟩ := x
          have hp' : (⟨probeW ws mm⟩ : Finder (Option GsapDW)).probe (liftSt st).dict p (liftSt st).i (liftSt st).litIndex =
              (some d, some (s0, k, o)) := by
            show probeW ws mm (some st.dict) p st.i st.litIndex = _
            simp only [probeW, hp]
          by_cases hk : s0 + k > st.i
          · rw [ProbeW.greedyLoopW_some _ _ _ _ d s0 k o hi hp hk] at h
            rw [greedyLoop_some _ _ _ _ (some d) s0 k o hi hp' hk]
            exact ih _ st' (by show stop - (s0 + k) ≤ n; omega) h
          · rw [ProbeW.greedyLoopW_bad _ _ _ _ d s0 k o hi hp hk] at h
            injection h with h; subst h
            rw [greedyLoop_bad _ _ _ _ (some d) s0 k o hi hp' hk]
            rfl
    · rw [ProbeW.greedyLoopW_done _ _ _ _ hi] at h
      injection h with h; subst h
      exact greedyLoop_done _ _ _ _ hi

end LZ.GenGSAP

#print axioms LZ.GenGSAP.loop1_step_n
#print axioms LZ.GenGSAP.loop1_step
#print axioms LZ.GenGSAP.loops_eq
#print axioms LZ.GenGSAP.greedyLoopW_lift
