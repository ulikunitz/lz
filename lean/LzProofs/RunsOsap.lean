/-
  LzProofs.RunsOsap — C19, run clause, for the optimizing suffix-array parser OSAP:

    a block of at least 32 bytes that lies inside a run of one repeated byte carries at most
    MinMatchLen literal bytes.

  The clause holds universally (for every accepted configuration, every reachable state, every run
  block: `C19_run_osap_of_reachable` — the bound `32 ≤ n` is not even needed, `1 ≤ n` suffices).  Proof: C11 (`Sap.C11_optimal_hist`: the emitted block has minimum `XZCost`
  among all LZ77 parses of the block) + the exchange lemma `Sap.run_improve` of
  RunsOsapLemmas.lean (a parse of a run block with more than MinMatchLen literals is not optimal)
  + `Sap.osap_block_cost` / `Sap.osap_block_lits` (cost and literal count of the emitted block are
  those of the emitted path).

  Environment: `GlueSuffix` (C11 with the suffix-array hypotheses discharged) + `Runs` (`RunBlock`,
  `newParser_windowSize`, the histories of the parser topic); both notions of history end in
  `Reachable` states, over which the history-level statements are proved.
-/
import LzProofs.GlueSuffix
import LzProofs.Runs
import LzProofs.RunsOsapLemmas
namespace LZ

/-! ## block level -/

theorem runBlock_take (data : List Byte) (w n : Nat) (b : Byte) (hn : 32 ≤ n)
    (hle : w + n ≤ data.length) (hrun : ∀ t, t < n → data[w + t]? = some b) :
    RunBlock (data.take (w + n)) w n b := by
  refine ⟨by rw [List.length_take]; omega, hn, ?_⟩
  intro t ht
  rw [List.getElem?_take_of_lt (by omega)]
  exact hrun t ht

/-! ## what `Parse` returns for OSAP -/

theorem Sap.parse_osap_n (s : Parser) (o : OsapD) (hd : s.dict = .osap o) (flags : Nat)
    (hn : s.blockN ≠ 0) (hf : flags % 2 = 0) :
    (s.parse flags).2.1 = s.blockN ∧ (s.parse flags).2.2.1 = .ok := by
  have hle := Sap.blockN_le s hn
  have hf' : ¬ (flags % 2 = 1) := by omega
  rw [Sap.parse_osap_eq s o hd flags hn]
  by_cases h0 : (Sap.osapEdges s o).nEdges = 0
  · rw [if_pos h0]
    exact ⟨rfl, rfl⟩
  · rw [if_neg h0]
    refine ⟨?_, rfl⟩
    simp only [hf', false_and, if_false, List.length_take]
    omega

/-! ## state level -/

/-- C19, run clause, OSAP, state level (projection form).  For a state whose stored edge table
    satisfies the history invariant `OsapHist` and whose buffer satisfies the suffix-array facts
    `CEAt`, with `1 ≤ WindowSize` and `2 ≤ MinMatchLen ≤ MaxMatchLen`: a block emitted with even
    flags whose bytes are all `b` carries at most `MinMatchLen` literal bytes. -/
theorem C19_run_osap_block (s : Parser) (o : OsapD) (hd : s.dict = .osap o) (hist : Sap.OsapHist s o)
    (hce : Sap.CEAt s) (hws : 1 ≤ s.buf.cfg.windowSize) (hmm : 2 ≤ s.minMatch)
    (hmx : s.minMatch ≤ s.cfg.maxMatchLen.toNat)
    (flags : Nat) (hf : flags % 2 = 0) (hn : s.blockN ≠ 0) (b : Byte)
    (hrun : ∀ t, t < s.blockN → s.buf.data[s.buf.w + t]? = some b) :
    (s.parse flags).2.2.2.lits.length ≤ s.minMatch := by
  -- C11: the emitted path is an LZ77 parse, and no LZ77 parse is cheaper than the emitted block
  obtain ⟨hpath, hopt⟩ := Sap.C11_optimal_hist s o hd flags hn hf hist hce
  have hle := Sap.blockN_le s hn
  have hlen : (s.buf.data.take (s.buf.w + s.blockN)).length = s.buf.w + s.blockN := by
    rw [List.length_take]; omega
  have hrun' : ∀ t, t < s.blockN → (s.buf.data.take (s.buf.w + s.blockN))[s.buf.w + t]? = some b := by
    intro t ht
    rw [List.getElem?_take_of_lt (by omega)]
    exact hrun t ht
  -- cost and literal count of the block are those of a parse: all literals, or the emitted path
  rw [Sap.osap_block_cost s o hd flags hn hf] at hopt
  rw [Sap.osap_block_lits s o hd flags hn hf]
  by_cases h0 : (Sap.osapEdges s o).nEdges = 0
  · rw [if_pos h0] at hopt ⊢
    have h := Sap.run_optimal_lits _ _ _ hlen hrun' hws hmm hmx (List.replicate s.blockN (1, 0))
      (Sap.lz_all_literals _ _ _ _ _ _ s.blockN 0 (Nat.zero_add _))
      (fun π hπ => by rw [Sap.pathCost_replicate]; exact hopt π hπ)
    rwa [Sap.litBytes_replicate] at h
  · rw [if_neg h0] at hopt ⊢
    exact Sap.run_optimal_lits _ _ _ hlen hrun' hws hmm hmx _ hpath hopt

/-- C19, run clause, OSAP, state level in the shape of `C19_run_hp`: if `Parse(&blk, flags)`
    without `NoTrailingLiterals` returns a block of `n ≥ 32` bytes, all equal to `b`, the block
    carries at most `MinMatchLen` literal bytes. -/
theorem C19_run_osap (s : Parser) (o : OsapD) (hd : s.dict = .osap o) (hist : Sap.OsapHist s o)
    (hce : Sap.CEAt s) (hws : 1 ≤ s.buf.cfg.windowSize) (hmm : 2 ≤ s.minMatch)
    (hmx : s.minMatch ≤ s.cfg.maxMatchLen.toNat)
    (flags : Nat) (s' : Parser) (n : Nat) (blk : Block) (b : Byte)
    (hp : s.parse flags = (s', n, .ok, blk)) (hf : flags % 2 = 0) (_hn : 32 ≤ n)
    (hrun : ∀ t, t < n → s.buf.data[s.buf.w + t]? = some b) :
    blk.lits.length ≤ s.minMatch := by
  have hbn : s.blockN ≠ 0 := by
    intro h0
    rw [Parser.parse_empty s flags h0] at hp
    cases hp
  have hnn := (Sap.parse_osap_n s o hd flags hbn hf).1
  have h := C19_run_osap_block s o hd hist hce hws hmm hmx flags hf hbn b
  rw [hp] at hnn h
  exact h (by rw [← hnn]; exact hrun)

theorem C19_run_osap_runBlock (s : Parser) (o : OsapD) (hd : s.dict = .osap o) (hist : Sap.OsapHist s o)
    (hce : Sap.CEAt s) (hws : 1 ≤ s.buf.cfg.windowSize) (hmm : 2 ≤ s.minMatch)
    (hmx : s.minMatch ≤ s.cfg.maxMatchLen.toNat)
    (flags : Nat) (hf : flags % 2 = 0) (hn : s.blockN ≠ 0) (b : Byte)
    (hR : RunBlock (s.buf.data.take (s.buf.w + s.blockN)) s.buf.w s.blockN b) :
    (s.parse flags).2.2.2.lits.length ≤ s.minMatch := by
  apply C19_run_osap_block s o hd hist hce hws hmm hmx flags hf hn b
  intro t ht
  have := hR.run t ht
  rw [List.getElem?_take_of_lt (by omega)] at this
  exact this

/-! ## configuration facts -/

theorem newParser_osap_matchLens {raw : Cfg} {s0 : Parser} (h0 : newParser .OSAP raw = some s0) :
    s0.kind = .OSAP ∧ 2 ≤ s0.cfg.minMatchLen.toNat ∧
      s0.cfg.minMatchLen.toNat ≤ s0.cfg.maxMatchLen.toNat := by
  obtain ⟨hv, rfl⟩ := newParser_eq_some h0
  obtain ⟨-, h1, h2, -⟩ := verify_osap.mp hv
  refine ⟨rfl, ?_⟩
  simp only []
  omega

/-! ## history level -/

/-- every reachable OSAP state satisfies the hypotheses of `C19_run_osap` -/
theorem reachable_osap_sap {raw : Cfg} {s0 : Parser} (h0 : newParser .OSAP raw = some s0)
    {s : Parser} (hr : Reachable s0 s) :
    ∃ o, s.dict = .osap o ∧ Sap.OsapHist s o ∧ Sap.CEAt s ∧ 1 ≤ s.buf.cfg.windowSize ∧
      s.minMatch = s0.cfg.minMatchLen.toNat ∧ 2 ≤ s.minMatch ∧
      s.minMatch ≤ s.cfg.maxMatchLen.toNat := by
  obtain ⟨o, hd, hist, hce, hR⟩ := Sap.osap_reachable h0 hr
  obtain ⟨h00, -⟩ := newParser_rinv .OSAP raw s0 h0
  obtain ⟨-, m1, m2⟩ := newParser_osap_matchLens h0
  have hmm : s.minMatch = s0.cfg.minMatchLen.toNat := by
    unfold Parser.minMatch
    rw [hR.kind, hR.cfg]
  rw [hmm, hR.bcfg, ← h00.bcfg, hR.cfg]
  exact ⟨o, hd, hist, hce, newParser_windowSize h0, rfl, m1, m2⟩

/-- C19, run clause, OSAP, in every reachable state of an accepted configuration: a block of `n ≥ 32`
    bytes, all equal to one byte, emitted without `NoTrailingLiterals` carries at most `MinMatchLen`
    literal bytes.  The history-level statements are this one at `reachable_runOps`,
    `Sap.reachable_sapRunOps`. -/
theorem C19_run_osap_of_reachable {raw : Cfg} {s0 : Parser} (h0 : newParser .OSAP raw = some s0)
    {s : Parser} (hr : Reachable s0 s) (flags : Nat) (s' : Parser) (n : Nat) (blk : Block) (b : Byte)
    (hp : s.parse flags = (s', n, .ok, blk)) (hf : flags % 2 = 0) (hn : 32 ≤ n)
    (hrun : ∀ t, t < n → s.buf.data[s.buf.w + t]? = some b) : blk.lits.length ≤ s.minMatch := by
  obtain ⟨o, hd, hist, hce, hws, -, hmm, hmx⟩ := reachable_osap_sap h0 hr
  exact C19_run_osap s o hd hist hce hws hmm hmx flags s' n blk b hp hf hn hrun

/-- C19, run clause, history level, OSAP.  For every accepted OSAP configuration with
    `BufferSize ≤ MaxInt32` or `MaxMatchLen ≤ MaxInt32` (`Sap.Int32OK`, the D18 bound under which
    C11 holds), every history of `Write`, `ReadFrom`, `Parse` (any flags), `Parse(nil)`, `Shrink`,
    `Reset`: if the next `Parse(&blk, flags)` without `NoTrailingLiterals` returns a block of
    `n ≥ 32` bytes, all equal to one byte `b`, the block carries at most `MinMatchLen` literal
    bytes. -/
theorem C19_run_osap_reachable (raw : Cfg) (s0 : Parser) (h0 : newParser .OSAP raw = some s0)
    (hb : Sap.Int32OK s0) (ops : List POp)
    (flags : Nat) (s' : Parser) (n : Nat) (blk : Block) (b : Byte) :
    let s := (runOps (s0, Ghost.init) ops).1
    s.parse flags = (s', n, .ok, blk) → flags % 2 = 0 → 32 ≤ n →
    (∀ t, t < n → s.buf.data[s.buf.w + t]? = some b) →
    blk.lits.length ≤ s.minMatch :=
  C19_run_osap_of_reachable h0 (reachable_runOps s0 ops) flags s' n blk b

/-! ## non-vacuity -/

section Examples

/-- WindowSize 64, BufferSize 64, BlockSize 32, MinMatchLen 3, MaxMatchLen 273 -/
def runOsapCfg : Cfg :=
  { windowSize := 64, bufferSize := 64, blockSize := 32, shrinkSize := 16,
    minMatchLen := 3, maxMatchLen := 273 }

def runOsap0 : Parser := (newParser .OSAP runOsapCfg).getD default
theorem runOsap0_new : newParser .OSAP runOsapCfg = some runOsap0 := Sap.eq_some_getD (by decide +kernel) _
theorem runOsap0_int32 : Sap.Int32OK runOsap0 := by unfold Sap.Int32OK; decide +kernel

/-- the history: `Write("x")`, `Parse(nil)`, `Write` of 40 bytes `a` -/
def runOsapOps : List POp := [.write [120], .parseNil, .write (List.replicate 40 97)]

theorem runOsapOps_data : (runOps (runOsap0, Ghost.init) runOsapOps).1.buf.data = 120 :: List.replicate 40 97 := by
  decide +kernel
theorem runOsapOps_w : (runOps (runOsap0, Ghost.init) runOsapOps).1.buf.w = 1 := by decide +kernel
theorem runOsapOps_blockN : (runOps (runOsap0, Ghost.init) runOsapOps).1.blockN = 32 := by decide +kernel
theorem runOsapOps_mm : (runOps (runOsap0, Ghost.init) runOsapOps).1.minMatch = 3 := by decide +kernel

/-- all hypotheses of `C19_run_osap_reachable` are satisfiable: after `"x"` has been skipped and 40
    equal bytes written, `Parse` returns a block of `n = 32 = BlockSize` equal bytes; it carries
    at most `MinMatchLen = 3` literal bytes -/
example : ∃ s' blk,
    let s := (runOps (runOsap0, Ghost.init) runOsapOps).1
    newParser .OSAP runOsapCfg = some runOsap0 ∧ Sap.Int32OK runOsap0 ∧
    s.parse 0 = (s', 32, .ok, blk) ∧ (∀ t, t < 32 → s.buf.data[s.buf.w + t]? = some 97) ∧
    blk.lits.length ≤ 3 := by
  obtain ⟨o, hd, -⟩ := reachable_osap_sap runOsap0_new (reachable_runOps runOsap0 runOsapOps)
  obtain ⟨p1, p2⟩ := Sap.parse_osap_n _ o hd 0 (by rw [runOsapOps_blockN]; decide) rfl
  rw [runOsapOps_blockN] at p1
  have hp : (runOps (runOsap0, Ghost.init) runOsapOps).1.parse 0 =
      (((runOps (runOsap0, Ghost.init) runOsapOps).1.parse 0).1, 32, .ok,
        ((runOps (runOsap0, Ghost.init) runOsapOps).1.parse 0).2.2.2) := by
    rw [← p1, ← p2]
  have hrun : ∀ t, t < 32 → (runOps (runOsap0, Ghost.init) runOsapOps).1.buf.data[
      (runOps (runOsap0, Ghost.init) runOsapOps).1.buf.w + t]? = some 97 := by
    intro t ht
    rw [runOsapOps_data, runOsapOps_w, Nat.add_comm, List.getElem?_cons_succ,
      List.getElem?_replicate, if_pos (by omega)]
  have h := C19_run_osap_reachable runOsapCfg runOsap0 runOsap0_new runOsap0_int32 runOsapOps 0 _ 32 _ 97
    hp rfl (Nat.le_refl _) hrun
  rw [runOsapOps_mm] at h
  exact ⟨_, _, runOsap0_new, runOsap0_int32, hp, hrun, h⟩

end Examples

end LZ
