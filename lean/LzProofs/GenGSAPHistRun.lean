/-
  LzProofs.GenGSAPHistRun — HISTORIES of translated operations of the greedy suffix-array parser GSAP, and C01 / C02 /
  C03 / C12 stated about the translation of the Go text.  No sorry, no axioms of its own.

  Operations (`GenHPHist.GOpR`): `Write(p)`, `Parse(&blk, flags)`, `Shrink()`, `Reset(data)`, `ReadFrom(r)` — the
  translated `gsap_Parse / gsap_Shrink / gsap_Reset` (gsap.go), the promoted `ParserBuffer_Write` and the translated
  `ParserBuffer_ReadFrom` run against the scripted reader (`rfGo extra`).  `Parse(nil, …)` is not an operation here
  (`gsap_Parse` is `gsap_Parse_nilable … false`; histories with it: GenGSAPHistNil), so the quantifier "histories
  without Parse(nil)" of C12 is the quantifier over ALL histories here.
  `runG extra grow fuel lcp SS BI s ops` executes the translated functions one after the other.
  The three opaque callees `lcp`, `suffix.Sort` (`SS`), `bitset.insert` (`BI`) enter under `GsapSpecs lcp SS BI`
  (LzProofs/GenGSAPHist.lean) — the ONLY hypotheses besides "init returned nil", well-formed arguments and the fuel.

    stepG_sim        one call from any Go state with `HistOKG` whose model state is reachable (`SimG`), as
                     `GenHist.StepSim` (LzProofs/GenHistMachine.lean): no panic, `SimG` again, the result the model's,
                     the C01 ghost
    runG_sim         … hence every history (`GenHist.run_sim`; `runG` is `GenHist.run stepG`)
    gen_gsap_history   the same from `gsap.init` on `new(gsap)` for every configuration it accepts; the state reached
                     satisfies `ParseOKG` — in particular the INDEX invariant `len(sa) = 0 ∨ SaIdx`, which is thereby
                     derived for every reachable Go state
    gen_gsap_history_states   `ParseOKG` after every prefix
    C01_go_text_gsap, C02_go_text_gsap, C03_go_text_gsap   as for HP
    C12_go_text_gsap   the greedy-longest-match clause for the block the translated `Parse` returns after ANY history
    C12_literal_go_text_gsap   the literal clause for `BufferSize ≤ WindowSize`
-/
import LzProofs.GenGSAPHist
import LzProofs.RunsOsap

set_option linter.unusedSimpArgs false
set_option linter.unusedVariables false

namespace LZ.GenGSAPHist
open LZ LZ.Gen LZ.GenBuf LZ.GenHash LZ.GenSuffix LZ.GenBitset LZ.GsapBits LZ.GenHPParse LZ.GenParse LZ.GenBUPParse
  LZ.GenProps LZ.GenGSAP
open LZ.GenHPHist (GOpR GResR GOpR.WF GOpR.abs ResultsAgreeR ghostRunR callsR ghostRunR_eq resultsAgreeR_eq rfGo
  rfGo_spec stepOf stepRel_G stepRel_R)
open LZ.GenHist (HistInv)

section
variable {lcp : Slice → Slice → Int} {SS : Slice → GSlice Int32 → Res (GSlice Int32)}
  {BI : Gen.bitset → List Int → Res Gen.bitset}

def stepG (extra : Nat) (grow : Nat → Nat → Nat) (fuel : Nat) (lcp : Slice → Slice → Int)
    (SS : Slice → GSlice Int32 → Res (GSlice Int32)) (BI : Gen.bitset → List Int → Res Gen.bitset) (s : Gen.gsap) :
    GOpR → Res (Gen.gsap × GResR)
  | .base (.write p) => Res.bind (gsap_Write grow s p) fun r => Res.ok (r.1, .base (.write r.2.1 r.2.2))
  | .base (.parse blk flags) =>
    Res.bind (gsap_Parse grow fuel lcp SS BI s blk flags) fun r => Res.ok (r.1, .base (.parse r.2.1 r.2.2.1 r.2.2.2))
  | .base .shrink => Res.bind (gsap_Shrink s) fun r => Res.ok (r.1, .base (.shrink r.2))
  | .base (.reset data) => Res.bind (gsap_Reset s data) fun r => Res.ok (r.1, .base (.reset r.2))
  | .readFrom r => Res.bind (gsap_ReadFrom (rfGo extra) s r) fun x => Res.ok (x.1, .readFrom x.2.2.1 x.2.2.2)

def runG (extra : Nat) (grow : Nat → Nat → Nat) (fuel : Nat) (lcp : Slice → Slice → Int)
    (SS : Slice → GSlice Int32 → Res (GSlice Int32)) (BI : Gen.bitset → List Int → Res Gen.bitset) :
    Gen.gsap → List GOpR → Res (Gen.gsap × List GResR)
  | s, [] => Res.ok (s, [])
  | s, op :: ops =>
    Res.bind (stepG extra grow fuel lcp SS BI s op) fun r =>
    Res.bind (runG extra grow fuel lcp SS BI r.1 ops) fun q => Res.ok (q.1, r.2 :: q.2)

theorem runOps_append (sg : Parser × Ghost) (a b : List POp) : runOps sg (a ++ b) = runOps (runOps sg a) b := by
  simp [runOps, List.foldl_append]

/-! ## the machine -/

theorem runG_eq (extra : Nat) (grow : Nat → Nat → Nat) (fuel : Nat) (lcp : Slice → Slice → Int)
    (SS : Slice → GSlice Int32 → Res (GSlice Int32)) (BI : Gen.bitset → List Int → Res Gen.bitset) :
    runG extra grow fuel lcp SS BI = GenHist.run (stepG extra grow fuel lcp SS BI) :=
  GenHist.run_unique (fun _ => rfl) (fun _ _ _ => rfl)

/-- the Go state satisfies the invariant and abstracts — with a rank array that stands for the same set as the Go
    bitset — to the model state (`RelG`), and the model state is reachable from `p0` (`gen_gsap_parse_model` needs that) -/
def SimG (bc : BufCfg) (p0 : Parser) : Gen.gsap → Parser × Ghost → Prop := HistInv (RelG bc) (GenHist.Reach p0)

/-- `stepG` is the machine of the four methods wrapped in `.base`, plus `ReadFrom` -/
theorem stepG_sim {bc : BufCfg} (hbc : BCOKG bc) (sp : GsapSpecs lcp SS BI) (extra : Nat) (grow : Nat → Nat → Nat)
    (fuel : Nat) (hfuel : 2 * bc.bufferSize + 5 ≤ fuel)
    (raw : Cfg) (p0 : Parser) (h0 : newParser .GSAP raw = some p0) :
    GenHist.StepSim callsR (stepG extra grow fuel lcp SS BI) (SimG bc p0) :=
  stepRel_R (fun _ op h => h.step op)
    (stepRel_G (stp := stepOf (gsap_Write grow) (gsap_Parse grow fuel lcp SS BI) gsap_Shrink gsap_Reset)
      (fun _ op h => h.step op) (fun _ h => h.fst) (hist_write hbc grow) (hist_parse hbc grow fuel sp hfuel raw p0 h0)
      (hist_shrink hbc) (hist_reset hbc) (fun _ _ => rfl) (fun _ _ _ => rfl) (fun _ => rfl) (fun _ _ => rfl))
    (hist_readFrom hbc (rfGo extra) (rfGo_spec extra))
    (fun _ op => by cases op <;> (show _ = Res.bind (Res.bind _ _) _; rw [bind_bind]; rfl)) (fun _ _ => rfl)

/-- **Simulation**, from any Go state with `HistOKG` whose model state (with a rank array for the Go bitset) is reachable
    from `NewParser`. -/
theorem runG_sim {bc : BufCfg} (hbc : BCOKG bc) (sp : GsapSpecs lcp SS BI) (extra : Nat) (grow : Nat → Nat → Nat)
    (fuel : Nat) (hfuel : 2 * bc.bufferSize + 5 ≤ fuel)
    (raw : Cfg) (p0 : Parser) (h0 : newParser .GSAP raw = some p0)
    (ops : List GOpR) (t : Gen.gsap) (sg : Parser × Ghost) (h : SimG bc p0 t sg) (hwf : ∀ op ∈ ops, op.WF) :
    ∃ t' rs, runG extra grow fuel lcp SS BI t ops = Res.ok (t', rs) ∧ SimG bc p0 t' (runOps sg (ops.map GOpR.abs)) ∧
      ghostRunR sg.2 ops rs = (runOps sg (ops.map GOpR.abs)).2 ∧ ResultsAgreeR sg ops rs := by
  rw [runG_eq, ghostRunR_eq, resultsAgreeR_eq]
  exact GenHist.run_sim (stepG_sim hbc sp extra grow fuel hfuel raw p0 h0) ops t sg h hwf

/-! ## histories -/

/-- `gsap.init` establishes the relation; the fuel bound in the model's terms -/
theorem init_sim (cfg : Gen.GSAPConfig) (s0 : Gen.gsap) (hinit : gsap_init default cfg = Res.ok (s0, Gen.Err.ok))
    (fuel : Nat) (hfuel : 2 * s0.ParserBuffer.BufConfig.BufferSize.toNat + 5 ≤ fuel) :
    ∃ p, newParser .GSAP (ofGSAP cfg) = some p ∧ ofGSAPs s0 GsapD.empty = p ∧ BCOKG p.buf.cfg ∧
      SimG p.buf.cfg p s0 (p, Ghost.init) ∧ 2 * p.buf.cfg.bufferSize + 5 ≤ fuel := by
  obtain ⟨p, hp, h2, hG0, hbc, hH⟩ := hist_init cfg s0 hinit
  refine ⟨p, hp, h2, hbc, ⟨⟨hH, _, hG0, h2⟩, GenHist.Reach.init p⟩, ?_⟩
  rw [← hH.cfg]; exact hfuel

/-- the history theorem with the full relation (`SimG`: `HistOKG`, the rank array, reachability) exported;
    `gen_gsap_history` is its public face -/
theorem gen_gsap_history_inv (cfg : Gen.GSAPConfig) (s0 : Gen.gsap)
    (hinit : gsap_init default cfg = Res.ok (s0, Gen.Err.ok)) (sp : GsapSpecs lcp SS BI)
    (extra : Nat) (grow : Nat → Nat → Nat) (fuel : Nat)
    (hfuel : 2 * s0.ParserBuffer.BufConfig.BufferSize.toNat + 5 ≤ fuel)
    (ops : List GOpR) (hwf : ∀ op ∈ ops, op.WF) :
    ∃ p t rs, newParser .GSAP (ofGSAP cfg) = some p ∧ ofGSAPs s0 GsapD.empty = p ∧
      runG extra grow fuel lcp SS BI s0 ops = Res.ok (t, rs) ∧ BCOKG p.buf.cfg ∧
      2 * p.buf.cfg.bufferSize + 5 ≤ fuel ∧ SimG p.buf.cfg p t (runOps (p, Ghost.init) (ops.map GOpR.abs)) ∧
      ghostRunR Ghost.init ops rs = (runOps (p, Ghost.init) (ops.map GOpR.abs)).2 ∧
      ResultsAgreeR (p, Ghost.init) ops rs := by
  obtain ⟨p, hp, h2, hbc, hS, hf⟩ := init_sim cfg s0 hinit fuel hfuel
  obtain ⟨t, rs, k1, k2, k4, k5⟩ := runG_sim hbc sp extra grow fuel hf (ofGSAP cfg) p hp ops s0 _ hS hwf
  exact ⟨p, t, rs, hp, h2, k1, hbc, hf, k2, k4, k5⟩

/-- **`gen_gsap_history`.**  `gsap.init(cfg)` on `new(gsap)` returned `nil`; the three opaque callees satisfy their
    specifications.  Then for every history of well-formed calls (`Write`, `ReadFrom`, `Parse(&blk, flags)`, `Shrink`,
    `Reset`) the translated functions never panic and never run out of fuel; the state reached satisfies `ParseOKG` —
    incl. the index invariant `len(sa) = 0 ∨ SaIdx` —; with a rank array `g` that stands for the same set as the Go
    bitset it abstracts to the state the model reaches from `NewParser` with the abstracted history; every returned
    value — `n`, the error, the block — is the model's. -/
theorem gen_gsap_history (cfg : Gen.GSAPConfig) (s0 : Gen.gsap)
    (hinit : gsap_init default cfg = Res.ok (s0, Gen.Err.ok)) (sp : GsapSpecs lcp SS BI)
    (extra : Nat) (grow : Nat → Nat → Nat) (fuel : Nat)
    (hfuel : 2 * s0.ParserBuffer.BufConfig.BufferSize.toNat + 5 ≤ fuel)
    (ops : List GOpR) (hwf : ∀ op ∈ ops, op.WF) :
    ∃ p t rs g, newParser .GSAP (ofGSAP cfg) = some p ∧ ofGSAPs s0 GsapD.empty = p ∧
      runG extra grow fuel lcp SS BI s0 ops = Res.ok (t, rs) ∧ ParseOKG t ∧ GSim g (ofGW t) ∧
      ofGSAPs t g = (runOps (p, Ghost.init) (ops.map GOpR.abs)).1 ∧
      ghostRunR Ghost.init ops rs = (runOps (p, Ghost.init) (ops.map GOpR.abs)).2 ∧
      ResultsAgreeR (p, Ghost.init) ops rs := by
  obtain ⟨p, t, rs, hp, h2, k1, -, -, ⟨⟨k2, g, kG, k3⟩, -⟩, k4, k5⟩ :=
    gen_gsap_history_inv cfg s0 hinit sp extra grow fuel hfuel ops hwf
  exact ⟨p, t, rs, g, hp, h2, k1, k2.pok, kG, k3, k4, k5⟩

/-- … and `ParseOKG` (incl. `SaIdx`) holds in EVERY state the history passes through: after every prefix `ops.take k`
    the run is `Res.ok` with a state satisfying `ParseOKG`, and the whole run continues from that state. -/
theorem gen_gsap_history_states (cfg : Gen.GSAPConfig) (s0 : Gen.gsap)
    (hinit : gsap_init default cfg = Res.ok (s0, Gen.Err.ok)) (sp : GsapSpecs lcp SS BI)
    (extra : Nat) (grow : Nat → Nat → Nat) (fuel : Nat)
    (hfuel : 2 * s0.ParserBuffer.BufConfig.BufferSize.toNat + 5 ≤ fuel)
    (ops : List GOpR) (hwf : ∀ op ∈ ops, op.WF) (k : Nat) :
    ∃ tk rk t rs', runG extra grow fuel lcp SS BI s0 (ops.take k) = Res.ok (tk, rk) ∧ ParseOKG tk ∧
      (tk.sa.len = 0 ∨ SaIdx tk) ∧
      runG extra grow fuel lcp SS BI tk (ops.drop k) = Res.ok (t, rs') ∧
      runG extra grow fuel lcp SS BI s0 ops = Res.ok (t, rk ++ rs') := by
  obtain ⟨p, hp, -, hbc, hS, hf⟩ := init_sim cfg s0 hinit fuel hfuel
  rw [runG_eq]
  obtain ⟨tk, rk, t, rs', k1, ⟨⟨k2, -⟩, -⟩, j1, j2⟩ :=
    GenHist.run_states (stepG_sim hbc sp extra grow fuel hf (ofGSAP cfg) p hp) ops s0 _ hS hwf k
  exact ⟨tk, rk, t, rs', k1, k2.pok, k2.pok.idx, j1, j2⟩

/-! ## the property theorems about the translation -/

/-- **C01 about the Go text of GSAP.**  `cfg` is any configuration for which the translated `gsap.init`, called on the
    zero value, returns `nil`; `lcp`, `suffix.Sort`, `bitset.insert` satisfy `GsapSpecs`.  Run any history of `Write(p)`,
    `ReadFrom(r)`, `Parse(&blk, flags)`, `Shrink()`, `Reset(data)` (slices with `len ≤ cap`, `flags ≥ 0`) on the TRANSLATED
    functions, with any capacity policy for `append` and any `fuel ≥ 2·BufferSize + 5`.  Then no call panics or runs out
    of fuel, and the reference decoder, applied to the blocks the translated `Parse` returned since the last successful
    `Reset`, yields exactly the first `consumed` bytes of what the translated `Write` / `ReadFrom` / `Reset` accepted. -/
theorem C01_go_text_gsap (cfg : Gen.GSAPConfig) (s0 : Gen.gsap)
    (hinit : gsap_init default cfg = Res.ok (s0, Gen.Err.ok)) (sp : GsapSpecs lcp SS BI)
    (extra : Nat) (grow : Nat → Nat → Nat) (fuel : Nat)
    (hfuel : 2 * s0.ParserBuffer.BufConfig.BufferSize.toNat + 5 ≤ fuel)
    (ops : List GOpR) (hwf : ∀ op ∈ ops, op.WF) :
    ∃ t rs, runG extra grow fuel lcp SS BI s0 ops = Res.ok (t, rs) ∧
      decode [] (ghostRunR Ghost.init ops rs).log =
        some ((ghostRunR Ghost.init ops rs).fed.take (ghostRunR Ghost.init ops rs).consumed) := by
  obtain ⟨p, t, rs, g, hp, -, h1, -, -, -, h4, -⟩ := gen_gsap_history cfg s0 hinit sp extra grow fuel hfuel ops hwf
  exact ⟨t, rs, h1, GenHist.C01_ghost hp (histHyp_of_ne .GSAP p (by decide)) h4⟩

/-- **C02 about the Go text of GSAP**: every sequence of every block the translated `Parse` returned has
    `1 ≤ Offset ≤ WindowSize`, `Offset ≤` the stream bytes before its match, `MatchLen ≥ MinMatchLen`, `Aux = 0`, and the
    `LitLen`s of a block do not exceed its literals. -/
theorem C02_go_text_gsap (cfg : Gen.GSAPConfig) (s0 : Gen.gsap)
    (hinit : gsap_init default cfg = Res.ok (s0, Gen.Err.ok)) (sp : GsapSpecs lcp SS BI)
    (extra : Nat) (grow : Nat → Nat → Nat) (fuel : Nat)
    (hfuel : 2 * s0.ParserBuffer.BufConfig.BufferSize.toNat + 5 ≤ fuel)
    (ops : List GOpR) (hwf : ∀ op ∈ ops, op.WF) :
    ∃ t rs, runG extra grow fuel lcp SS BI s0 ops = Res.ok (t, rs) ∧
      LogAll (fun pos e => ∀ n fl blk, e = .block n fl blk →
        SeqsAll (SeqWF s0.ParserBuffer.BufConfig.WindowSize.toNat s0.GSAPConfig.MinMatchLen.toNat) pos blk.seqs ∧
        litSum blk.seqs ≤ blk.lits.length) 0 (ghostRunR Ghost.init ops rs).log := by
  obtain ⟨p, t, rs, g, hp, h0, h1, -, -, -, h4, -⟩ := gen_gsap_history cfg s0 hinit sp extra grow fuel hfuel ops hwf
  subst h0
  exact ⟨t, rs, h1, GenHist.C02_ghost hp (histHyp_of_ne .GSAP _ (by decide)) h4⟩

/-- **C03 about the Go text of GSAP**: the blocks tile the consumed stream. -/
theorem C03_go_text_gsap (cfg : Gen.GSAPConfig) (s0 : Gen.gsap)
    (hinit : gsap_init default cfg = Res.ok (s0, Gen.Err.ok)) (sp : GsapSpecs lcp SS BI)
    (extra : Nat) (grow : Nat → Nat → Nat) (fuel : Nat)
    (hfuel : 2 * s0.ParserBuffer.BufConfig.BufferSize.toNat + 5 ≤ fuel)
    (ops : List GOpR) (hwf : ∀ op ∈ ops, op.WF) :
    ∃ t rs, runG extra grow fuel lcp SS BI s0 ops = Res.ok (t, rs) ∧
      let g := ghostRunR Ghost.init ops rs
      LogAll (fun pos e => 1 ≤ e.n ∧ e.n ≤ s0.ParserBuffer.BufConfig.BlockSize.toNat ∧
        pos + e.n ≤ g.fed.length ∧
        ∀ n fl blk, e = .block n fl blk →
          blk.len = n ∧ expand (g.fed.take pos) blk = some (g.fed.take (pos + n)) ∧
          (fl % 2 = 1 → blk.seqs ≠ [] → blk.lits.length = litSum blk.seqs ∧ n = seqsSpan blk.seqs)) 0 g.log ∧
      logSpan g.log = g.consumed ∧ g.consumed ≤ g.fed.length := by
  obtain ⟨p, t, rs, g, hp, h0, h1, -, -, -, h4, -⟩ := gen_gsap_history cfg s0 hinit sp extra grow fuel hfuel ops hwf
  subst h0
  exact ⟨t, rs, h1, GenHist.C03_ghost hp (histHyp_of_ne .GSAP _ (by decide)) h4⟩

/-! ## C12 -/

theorem abs_notNil (ops : List GOpR) : ∀ op ∈ (ops.map GOpR.abs).map POp.toSap, op.notNil := by
  intro op hop
  simp only [List.mem_map] at hop
  obtain ⟨a, ⟨o, _, rfl⟩, rfl⟩ := hop
  cases o with
  | base b => cases b <;> exact trivial
  | readFrom r => exact trivial

/-- the number of bytes the next block covers, from the Go state: `min(len(s.Data) - s.W, BlockSize)` -/
def blockLen (t : Gen.gsap) : Nat :=
  Min.min (t.ParserBuffer.Data.data.length - t.ParserBuffer.W.toNat) t.ParserBuffer.BufConfig.BlockSize.toNat

/-- **C12 about the Go text of GSAP, greedy-longest-match clause.**  After ANY history of the translated operations
    (there is no `Parse(nil)` among them) the next `Parse(&blk, flags)` of the translated `gsap.Parse` returns a block
    whose sequences, read from the window head `W` over the buffered bytes `p = Data[:W+n]` (`n = min(len(Data) - W,
    BlockSize)`), satisfy `GreedySpec`: every emitted match is real (`1 ≤ Offset ≤` its position, inside the window,
    the two suffixes of `p` share exactly `MatchLen` bytes), has at least `MinMatchLen` bytes and EXACTLY the length
    `lpm p pos` of the longest match any earlier buffered position offers there (clipped at the block end); and if the
    block ends inside the window (`W + n ≤ WindowSize`) every literal position — in front of a match or behind the last
    one — had no earlier position offering `MinMatchLen` bytes. -/
theorem C12_go_text_gsap (cfg : Gen.GSAPConfig) (s0 : Gen.gsap)
    (hinit : gsap_init default cfg = Res.ok (s0, Gen.Err.ok)) (sp : GsapSpecs lcp SS BI)
    (extra : Nat) (grow : Nat → Nat → Nat) (fuel : Nat)
    (hfuel : 2 * s0.ParserBuffer.BufConfig.BufferSize.toNat + 5 ≤ fuel)
    (ops : List GOpR) (hwf : ∀ op ∈ ops, op.WF) (blk : Gen.Block') (flags : Int) (hfl : 0 ≤ flags) :
    ∃ t rs t' blk' n e, runG extra grow fuel lcp SS BI s0 ops = Res.ok (t, rs) ∧
      gsap_Parse grow fuel lcp SS BI t blk flags = Res.ok (t', blk', n, e) ∧
      (blockLen t ≠ 0 →
        let W := t.ParserBuffer.W.toNat
        let p := t.ParserBuffer.Data.data.take (W + blockLen t)
        let ws := t.ParserBuffer.BufConfig.WindowSize.toNat
        let mm := t.GSAPConfig.MinMatchLen.toNat
        Sap.GreedySpec p ws mm (W + blockLen t ≤ ws) W (ofBlock blk').seqs ∧
        (W + blockLen t ≤ ws → ∀ q, Sap.endPos W (ofBlock blk').seqs ≤ q → q < W + blockLen t → Sap.lpm p q < mm)) := by
  obtain ⟨p, t, rs, hp, h2, k1, hbc, hf, ⟨⟨k2, g, kG, hr1⟩, -⟩, -⟩ :=
    gen_gsap_history_inv cfg s0 hinit sp extra grow fuel hfuel ops hwf
  obtain ⟨t', blk', j1, -, j4, -, -⟩ := hist_parse hbc grow fuel sp hf (ofGSAP cfg) p hp t _ blk flags
    ⟨k2, g, kG, hr1⟩ ⟨ops.map GOpR.abs, rfl⟩ hfl
  rw [← hr1] at j4
  refine ⟨t, rs, t', blk', _, _, k1, j1, ?_⟩
  intro hn
  have hs : ofGSAPs t g = Sap.runOps p ((ops.map GOpR.abs).map POp.toSap) := by
    rw [hr1]; exact runOps_toSap _ (p, Ghost.init)
  have hC := Sap.C12_longest_unconditional (ofGSAP cfg) p hp ((ops.map GOpR.abs).map POp.toSap) (abs_notNil ops)
    flags.toNat (by rw [← hs]; exact hn)
  rw [← hs] at hC
  rw [j4]
  exact hC

/-- **C12 about the Go text of GSAP, literal clause.**  "When the buffer is no larger than the window, a byte is
    emitted as a literal only if no earlier buffered position offers a match of at least `MinMatchLen` there": for a
    configuration with `BufferSize ≤ WindowSize` (after `SetDefaults`, as stored by `init`), after any history, in the
    block the translated `Parse` returns the sequences satisfy `GreedySpec` with the literal clause switched on, and for
    every position `q` emitted as a literal and every earlier buffered position `f < q` the common prefix of the
    block-clipped suffixes at `f` and `q` is shorter than `MinMatchLen`. -/
theorem C12_literal_go_text_gsap (cfg : Gen.GSAPConfig) (s0 : Gen.gsap)
    (hinit : gsap_init default cfg = Res.ok (s0, Gen.Err.ok)) (sp : GsapSpecs lcp SS BI)
    (hbw : s0.ParserBuffer.BufConfig.BufferSize.toNat ≤ s0.ParserBuffer.BufConfig.WindowSize.toNat)
    (extra : Nat) (grow : Nat → Nat → Nat) (fuel : Nat)
    (hfuel : 2 * s0.ParserBuffer.BufConfig.BufferSize.toNat + 5 ≤ fuel)
    (ops : List GOpR) (hwf : ∀ op ∈ ops, op.WF) (blk : Gen.Block') (flags : Int) (hfl : 0 ≤ flags) :
    ∃ t rs t' blk' n e, runG extra grow fuel lcp SS BI s0 ops = Res.ok (t, rs) ∧
      gsap_Parse grow fuel lcp SS BI t blk flags = Res.ok (t', blk', n, e) ∧
      (blockLen t ≠ 0 →
        let W := t.ParserBuffer.W.toNat
        let p := t.ParserBuffer.Data.data.take (W + blockLen t)
        let ws := t.ParserBuffer.BufConfig.WindowSize.toNat
        let mm := t.GSAPConfig.MinMatchLen.toNat
        Sap.GreedySpec p ws mm True W (ofBlock blk').seqs ∧
        ∀ q, q < W + blockLen t → Sap.LitPos W (ofBlock blk').seqs q →
          ∀ f, f < q → lcpLen (p.drop f) (p.drop q) < mm) := by
  obtain ⟨p, t, rs, hp, h2, k1, hbc, hf, ⟨⟨k2, g, kG, hr1⟩, -⟩, -⟩ :=
    gen_gsap_history_inv cfg s0 hinit sp extra grow fuel hfuel ops hwf
  obtain ⟨t', blk', j1, -, j4, -, -⟩ := hist_parse hbc grow fuel sp hf (ofGSAP cfg) p hp t _ blk flags
    ⟨k2, g, kG, hr1⟩ ⟨ops.map GOpR.abs, rfl⟩ hfl
  rw [← hr1] at j4
  refine ⟨t, rs, t', blk', _, _, k1, j1, ?_⟩
  intro hn
  have hs : ofGSAPs t g = Sap.runOps p ((ops.map GOpR.abs).map POp.toSap) := by
    rw [hr1]; exact runOps_toSap _ (p, Ghost.init)
  have hbw' : p.buf.cfg.bufferSize ≤ p.buf.cfg.windowSize := by rw [← h2]; exact hbw
  have hC := Sap.C12_literal_only_if_buffer (ofGSAP cfg) p hp hbw' ((ops.map GOpR.abs).map POp.toSap)
    (abs_notNil ops) flags.toNat (by rw [← hs]; exact hn)
  rw [← hs] at hC
  rw [j4]
  exact hC

end

end LZ.GenGSAPHist

#print axioms LZ.GenGSAPHist.stepG_sim
#print axioms LZ.GenGSAPHist.runG_sim
#print axioms LZ.GenGSAPHist.gen_gsap_history
#print axioms LZ.GenGSAPHist.gen_gsap_history_states
#print axioms LZ.GenGSAPHist.C01_go_text_gsap
#print axioms LZ.GenGSAPHist.C02_go_text_gsap
#print axioms LZ.GenGSAPHist.C03_go_text_gsap
#print axioms LZ.GenGSAPHist.C12_go_text_gsap
#print axioms LZ.GenGSAPHist.C12_literal_go_text_gsap
