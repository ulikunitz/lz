/-
  LzProofs.BitsetLemmas — the word-level bitset model (LzModel/BitsetW.lean) seen as a set.
  * arrays as total functions: one `rd_…` equation per slice primitive (`tabulate`, `zeroRange`, `goCopy`, `a`, …);
    bits of a word (`tb` of `|||`, `&&&` with the masks the Go code builds);
  * `IsPred S i o` / `IsGE S lo o`: `o` answers the predecessor / successor query on the set `S`; unique, and
    established for any downward / upward scan once (`IsPred.scan`, `IsGE.scan`), word by word (`IsPred.word`,
    `IsGE.word`);
  * the invariant `WInv` (`len ≤ cap`, nothing about stale words) and membership `mem`; `support` is characterised by
    `support_cases` (unchanged, or `Shifted`: the old words moved by `d`, zeros elsewhere), then `setBit`, `setBits`,
    `insert_spec`;
  * the abstraction `members` (ascending); `slice` computes it (`wordLoop_eq`); an ascending list is determined by
    its elements (`sorted_ext`); the set-level `insertOne`;
  * both models answer the queries with `IsPred` / `IsGE` (`model_before_isPred`, `memberBefore_isPred`, …), so they
    agree by uniqueness.
-/
import LzModel.BitsetW
import LzProofs.ArrayLemmas
namespace LZ
namespace BitsetW

/-! ## arrays as total functions (`rd`) -/

@[simp] theorem size_tabulate (n : Nat) (f : Nat → UInt64) : (tabulate n f).size = n := by
  simp [tabulate]

theorem rd_tabulate (n : Nat) (f : Nat → UInt64) (i : Nat) :
    rd (tabulate n f) i = if i < n then f i else 0 := by
  unfold rd tabulate
  by_cases h : i < n <;> simp [Array.getD_eq_getD_getElem?, h]

theorem rd_of_size_le {arr : Array UInt64} {i : Nat} (h : arr.size ≤ i) : rd arr i = 0 := by
  unfold rd
  simp [Array.getD_eq_getD_getElem?, h]

@[simp] theorem size_make (n : Nat) : (make n).size = n := by simp [make]

theorem rd_make (n i : Nat) : rd (make n) i = 0 := by
  simp [make, rd_tabulate]

@[simp] theorem size_zeroRange (arr : Array UInt64) (lo hi : Nat) :
    (zeroRange arr lo hi).size = arr.size := by simp [zeroRange]

theorem rd_zeroRange (arr : Array UInt64) (lo hi i : Nat) :
    rd (zeroRange arr lo hi) i = if lo ≤ i ∧ i < hi then 0 else rd arr i := by
  simp only [zeroRange, rd_tabulate]
  by_cases h : i < arr.size
  · simp [h]
  · simp [h, rd_of_size_le (Nat.le_of_not_lt h)]

@[simp] theorem size_goCopy (arr : Array UInt64) (lo hi : Nat) (src : Array UInt64) :
    (goCopy arr lo hi src).1.size = arr.size := by simp [goCopy]

@[simp] theorem goCopy_snd (arr : Array UInt64) (lo hi : Nat) (src : Array UInt64) :
    (goCopy arr lo hi src).2 = min (hi - lo) src.size := rfl

theorem rd_goCopy (arr : Array UInt64) (lo hi : Nat) (src : Array UInt64) (i : Nat) :
    rd (goCopy arr lo hi src).1 i =
      if i < arr.size then
        (if lo ≤ i ∧ i < lo + min (hi - lo) src.size then rd src (i - lo) else rd arr i)
      else 0 := by
  simp only [goCopy, rd_tabulate]

theorem size_a (b : BitsetW) : b.a.size = min b.len b.backing.size := by
  simp [a]

theorem rd_a (b : BitsetW) (i : Nat) : rd b.a i = if i < b.len then rd b.backing i else 0 := by
  unfold rd a
  simp only [Array.getD_eq_getD_getElem?]
  by_cases h : i < b.len
  · simp [h]
  · simp [h, List.getElem?_take]

theorem rd_setIfInBounds (arr : Array UInt64) (k : Nat) (v : UInt64) (i : Nat) :
    rd (arr.setIfInBounds k v) i = if i = k ∧ k < arr.size then v else rd arr i := by
  unfold rd
  exact getD_setIfInBounds arr k i v 0

theorem rd_eq_getElem {arr : Array UInt64} {i : Nat} (h : i < arr.size) : rd arr i = arr[i] := by
  unfold rd
  simp [Array.getD_eq_getD_getElem?, h]

theorem array_ext_rd {a₁ a₂ : Array UInt64} (hs : a₁.size = a₂.size)
    (h : ∀ i, i < a₁.size → rd a₁ i = rd a₂ i) : a₁ = a₂ := by
  apply Array.ext hs
  intro i h1 h2
  have := h i h1
  rwa [rd_eq_getElem h1, rd_eq_getElem h2] at this

theorem zeroRange_empty (arr : Array UInt64) (lo : Nat) : zeroRange arr lo lo = arr := by
  apply array_ext_rd (by simp)
  intro i _
  rw [rd_zeroRange]
  have : ¬ (lo ≤ i ∧ i < lo) := by omega
  simp [this]

/-! ## bits of a word -/

theorem shr6 (i : Nat) : i >>> 6 = i / 64 := by
  rw [Nat.shiftRight_eq_div_pow]
theorem and63 (i : Nat) : i &&& 63 = i % 64 := by
  have := Nat.and_two_pow_sub_one_eq_mod i 6
  simpa using this
theorem shl6 (i : Nat) : i <<< 6 = i * 64 := by
  rw [Nat.shiftLeft_eq]

theorem tb_ge (w : UInt64) {p : Nat} (h : 64 ≤ p) : tb w p = false := by
  unfold tb
  apply Nat.testBit_lt_two_pow
  have := w.toNat_lt
  calc w.toNat < 2^64 := this
    _ ≤ 2^p := Nat.pow_le_pow_right (by decide) h

theorem lt_of_tb {w : UInt64} {p : Nat} (h : tb w p = true) : p < 64 :=
  Nat.lt_of_not_le fun h64 => by simp [tb_ge w h64] at h

@[simp] theorem tb_zero (p : Nat) : tb 0 p = false := by
  simp [tb]

theorem toNat_one_shl (s : Nat) (hs : s < 64) : ((1 : UInt64) <<< s.toUInt64).toNat = 2 ^ s := by
  rw [UInt64.toNat_shiftLeft]
  have h1 : s.toUInt64.toNat = s := by
    simp [Nat.toUInt64]; omega
  rw [h1, Nat.mod_eq_of_lt hs]
  simp [Nat.shiftLeft_eq]
  exact Nat.pow_lt_pow_right (a := 2) (by decide) hs

theorem tb_or_bit (w : UInt64) (s p : Nat) (hs : s < 64) :
    tb (w ||| ((1 : UInt64) <<< s.toUInt64)) p = (tb w p || decide (p = s)) := by
  unfold tb
  rw [UInt64.toNat_or, Nat.testBit_or, toNat_one_shl s hs, Nat.testBit_two_pow]
  simp [eq_comm]

theorem toNat_mask (s : Nat) (hs : s < 64) :
    (((1 : UInt64) <<< s.toUInt64) - 1).toNat = 2 ^ s - 1 := by
  rw [UInt64.toNat_sub_of_le, toNat_one_shl s hs]
  · rfl
  · rw [UInt64.le_iff_toNat_le, toNat_one_shl s hs]
    exact Nat.one_le_two_pow

theorem tb_and_mask (w : UInt64) (s p : Nat) (hs : s < 64) :
    tb (w &&& (((1 : UInt64) <<< s.toUInt64) - 1)) p = (tb w p && decide (p < s)) := by
  unfold tb
  rw [UInt64.toNat_and, Nat.testBit_and, toNat_mask s hs, Nat.testBit_two_pow_sub_one]

theorem tb_and_not_mask (w : UInt64) (s p : Nat) (hs : s < 64) :
    tb (w &&& ~~~(((1 : UInt64) <<< s.toUInt64) - 1)) p = (tb w p && decide (s ≤ p)) := by
  by_cases hp : p < 64
  · unfold tb
    rw [UInt64.toNat_and, Nat.testBit_and, UInt64.toNat_not, toNat_mask s hs]
    have : UInt64.size - 1 - (2 ^ s - 1) = 2 ^ 64 - ((2^s - 1) + 1) := by
      simp [UInt64.size]
    rw [this, Nat.testBit_two_pow_sub_succ, Nat.testBit_two_pow_sub_one]
    · by_cases hps : p < s
      · have : ¬ s ≤ p := by omega
        simp [hp, hps, this]
      · have : s ≤ p := by omega
        simp [hp, hps, this]
    · have := Nat.pow_lt_pow_right (a := 2) (by decide) hs
      omega
  · rw [tb_ge _ (Nat.le_of_not_lt hp), tb_ge _ (Nat.le_of_not_lt hp)]
    rfl

theorem tb_and_not_bit (w : UInt64) (s p : Nat) (hs : s < 64) :
    tb (w &&& ~~~((1 : UInt64) <<< s.toUInt64)) p = (tb w p && !decide (p = s)) := by
  by_cases hp : p < 64
  · unfold tb
    rw [UInt64.toNat_and, Nat.testBit_and, UInt64.toNat_not, toNat_one_shl s hs]
    have hlt := Nat.pow_lt_pow_right (a := 2) (by decide) hs
    have : UInt64.size - 1 - 2 ^ s = 2 ^ 64 - (2^s + 1) := by
      simp [UInt64.size]
    rw [this, Nat.testBit_two_pow_sub_succ hlt, Nat.testBit_two_pow]
    simp [hp, eq_comm]
  · rw [tb_ge _ (Nat.le_of_not_lt hp), tb_ge _ (Nat.le_of_not_lt hp)]
    rfl


/-! ## predecessor / successor answers -/

/-- `o` is the answer to "largest element of `S` below `i`" -/
def IsPred (S : Nat → Prop) (i : Nat) : Option Nat → Prop
  | none => ∀ x, S x → ¬ x < i
  | some j => S j ∧ j < i ∧ ∀ x, S x → x < i → x ≤ j

/-- `o` is the answer to "smallest element of `S` at or above `lo`" -/
def IsGE (S : Nat → Prop) (lo : Nat) : Option Nat → Prop
  | none => ∀ x, S x → ¬ lo ≤ x
  | some j => S j ∧ lo ≤ j ∧ ∀ x, S x → lo ≤ x → j ≤ x

theorem IsPred.unique {S : Nat → Prop} {i : Nat} {o₁ o₂ : Option Nat}
    (h₁ : IsPred S i o₁) (h₂ : IsPred S i o₂) : o₁ = o₂ := by
  cases o₁ <;> cases o₂ <;> simp only [IsPred] at h₁ h₂
  · rfl
  · exact absurd h₂.2.1 (h₁ _ h₂.1)
  · exact absurd h₁.2.1 (h₂ _ h₁.1)
  · have := h₁.2.2 _ h₂.1 h₂.2.1
    have := h₂.2.2 _ h₁.1 h₁.2.1
    congr 1; omega

theorem IsGE.unique {S : Nat → Prop} {i : Nat} {o₁ o₂ : Option Nat}
    (h₁ : IsGE S i o₁) (h₂ : IsGE S i o₂) : o₁ = o₂ := by
  cases o₁ <;> cases o₂ <;> simp only [IsGE] at h₁ h₂
  · rfl
  · exact absurd h₂.2.1 (h₁ _ h₂.1)
  · exact absurd h₁.2.1 (h₂ _ h₁.1)
  · have := h₁.2.2 _ h₂.1 h₂.2.1
    have := h₂.2.2 _ h₁.1 h₁.2.1
    congr 1; omega

/-- the answer depends only on the part of the set below the bound -/
theorem IsPred.congr {S T : Nat → Prop} {i₀ i : Nat} {o : Option Nat} (h : IsPred S i₀ o)
    (hst : ∀ x, S x ∧ x < i₀ ↔ T x ∧ x < i) : IsPred T i o := by
  cases o with
  | none => exact fun x hx hlt => h x ((hst x).2 ⟨hx, hlt⟩).1 ((hst x).2 ⟨hx, hlt⟩).2
  | some j =>
    exact ⟨((hst j).1 ⟨h.1, h.2.1⟩).1, ((hst j).1 ⟨h.1, h.2.1⟩).2,
      fun x hx hlt => h.2.2 x ((hst x).2 ⟨hx, hlt⟩).1 ((hst x).2 ⟨hx, hlt⟩).2⟩

/-- … at or above the bound -/
theorem IsGE.congr {S T : Nat → Prop} {lo₀ lo : Nat} {o : Option Nat} (h : IsGE S lo₀ o)
    (hst : ∀ x, S x ∧ lo₀ ≤ x ↔ T x ∧ lo ≤ x) : IsGE T lo o := by
  cases o with
  | none => exact fun x hx hlo => h x ((hst x).2 ⟨hx, hlo⟩).1 ((hst x).2 ⟨hx, hlo⟩).2
  | some j =>
    exact ⟨((hst j).1 ⟨h.1, h.2.1⟩).1, ((hst j).1 ⟨h.1, h.2.1⟩).2,
      fun x hx hlo => h.2.2 x ((hst x).2 ⟨hx, hlo⟩).1 ((hst x).2 ⟨hx, hlo⟩).2⟩

/-! ## word scans -/

/-- a downward scan `f (p+1) = if S p then some p else f p` answers the predecessor query -/
theorem IsPred.scan {S : Nat → Prop} [DecidablePred S] {f : Nat → Option Nat} (h0 : f 0 = none)
    (hs : ∀ p, f (p + 1) = if S p then some p else f p) : ∀ p, IsPred S p (f p)
  | 0 => h0 ▸ fun x _ h => Nat.not_lt_zero x h
  | p + 1 => by
    rw [hs]
    split
    · next hb => exact ⟨hb, Nat.lt_succ_self p, fun x _ hx => Nat.le_of_lt_succ hx⟩
    · next hb =>
      refine (IsPred.scan h0 hs p).congr fun x => ⟨fun h => ⟨h.1, Nat.lt_succ_of_lt h.2⟩,
        fun h => ⟨h.1, ?_⟩⟩
      exact (Nat.lt_or_eq_of_le (Nat.le_of_lt_succ h.2)).resolve_right fun e => hb (e ▸ h.1)

/-- an upward scan over `n` positions `f p (n+1) = if S p then some p else f (p+1) n` answers the
    successor query for the part of the set it looks at -/
theorem IsGE.scan {S : Nat → Prop} [DecidablePred S] {f : Nat → Nat → Option Nat}
    (h0 : ∀ p, f p 0 = none) (hs : ∀ p n, f p (n + 1) = if S p then some p else f (p + 1) n) :
    ∀ n p, IsGE (fun q => S q ∧ q < p + n) p (f p n)
  | 0, p => h0 p ▸ fun x hx h => by omega
  | n + 1, p => by
    rw [hs]
    split
    · next hb => exact ⟨⟨hb, by omega⟩, Nat.le_refl p, fun x _ hx => hx⟩
    · next hb =>
      refine (IsGE.scan h0 hs n (p + 1)).congr fun x => ⟨fun h => ⟨⟨h.1.1, by omega⟩, by omega⟩,
        fun h => ⟨⟨h.1.1, by omega⟩, ?_⟩⟩
      exact (Nat.lt_or_eq_of_le h.2).resolve_right fun e => hb (e ▸ h.1.1)

theorem hiBit_isPred (w : UInt64) : IsPred (tb w · = true) 64 (hiBit w) :=
  IsPred.scan (f := hiBitBelow w) rfl (fun _ => rfl) 64

theorem loBit_isGE (w : UInt64) : IsGE (tb w · = true) 0 (loBit w) :=
  (IsGE.scan (f := loBitFrom w) (fun _ => rfl) (fun _ _ => rfl) 64 0).congr fun _ => ⟨fun h => ⟨h.1.1, h.2⟩,
    fun h => ⟨⟨h.1, lt_of_tb h.1⟩, h.2⟩⟩

/-- `loBit` found bit `j`: it is set, inside the word, and the lowest -/
theorem loBit_some {w : UInt64} {j : Nat} (h : loBit w = some j) :
    j < 64 ∧ tb w j = true ∧ ∀ q, q < j → tb w q = false := by
  have := loBit_isGE w
  rw [h] at this
  refine ⟨lt_of_tb this.1, this.1, fun q hq => ?_⟩
  cases hb : tb w q
  · rfl
  · have := this.2.2 q hb (Nat.zero_le _); omega

theorem loBit_none {w : UInt64} (h : loBit w = none) (q : Nat) : tb w q = false := by
  have := loBit_isGE w
  rw [h] at this
  cases hb : tb w q
  · rfl
  · exact absurd (Nat.zero_le _) (this q hb)

/-! ## invariant, membership, `support` -/

/-- the only invariant needed: `len(a) ≤ cap(a)`.  The contents of the backing array —
    in particular everything at and behind position `len` — are arbitrary. -/
def WInv (b : BitsetW) : Prop := b.len ≤ b.backing.size

instance (b : BitsetW) : Decidable (WInv b) := by unfold WInv; infer_instance

/-- `i` is a member: bit `i % 64` of word `a[i/64 - off]` is set -/
def mem (b : BitsetW) (i : Nat) : Prop :=
  b.off ≤ i / 64 ∧ i / 64 - b.off < b.len ∧ tb (rd b.backing (i / 64 - b.off)) (i % 64) = true

instance (b : BitsetW) (i : Nat) : Decidable (mem b i) := by unfold mem; infer_instance

/-- what `support` has to achieve for the words: the new array `a'` (length `n`, offset `yoff`)
    contains the old words shifted by `d` and zeros elsewhere -/
structure Shifted (b b' : BitsetW) (d : Nat) : Prop where
  inv : WInv b'
  len_ge : d + b.len ≤ b'.len
  off_eq : b.len ≠ 0 → b'.off + d = b.off
  words : ∀ idx, idx < b'.len →
    rd b'.backing idx = if d ≤ idx ∧ idx < d + b.len then rd b.backing (idx - d) else 0

theorem Shifted.mem_iff {b b' : BitsetW} {d : Nat} (h : Shifted b b' d) (i : Nat) :
    mem b' i ↔ mem b i := by
  unfold mem
  by_cases hl : b.len = 0
  · have h1 : ¬ (i / 64 - b.off < b.len) := by omega
    constructor
    · rintro ⟨h2, h3, h4⟩
      rw [h.words _ h3] at h4
      have : ¬ (d ≤ i / 64 - b'.off ∧ i / 64 - b'.off < d + b.len) := by omega
      simp [this] at h4
    · rintro ⟨_, h3, _⟩
      exact absurd h3 h1
  · have ho := h.off_eq hl
    have hlen := h.len_ge
    constructor
    · rintro ⟨h2, h3, h4⟩
      rw [h.words _ h3] at h4
      split at h4
      · next hc =>
        have : i / 64 - b'.off - d = i / 64 - b.off := by omega
        rw [this] at h4
        exact ⟨by omega, by omega, h4⟩
      · simp at h4
    · rintro ⟨h2, h3, h4⟩
      have h3' : i / 64 - b'.off < b'.len := by omega
      refine ⟨by omega, h3', ?_⟩
      rw [h.words _ h3']
      have hc : d ≤ i / 64 - b'.off ∧ i / 64 - b'.off < d + b.len := by omega
      have : i / 64 - b'.off - d = i / 64 - b.off := by omega
      simp only [hc, and_self, if_true, this]
      exact h4

theorem support_cases (b : BitsetW) (hb : WInv b) (mn mx : Nat) :
    (b.off ≤ mn / 64 ∧ mx / 64 < b.off + b.len ∧ b.support mn mx = b) ∨
    (¬ (b.off ≤ mn / 64 ∧ mx / 64 < b.off + b.len) ∧
      (b.support mn mx).off = (supportOffD b (mn / 64)).1 ∧
      (b.support mn mx).len =
        supportN b (mx / 64) (supportOffD b (mn / 64)).1 (supportOffD b (mn / 64)).2 ∧
      Shifted b (b.support mn mx) (supportOffD b (mn / 64)).2) := by
  by_cases hc : b.off ≤ mn / 64 ∧ mx / 64 < b.off + b.len
  · left
    refine ⟨hc.1, hc.2, ?_⟩
    simp [support, shr6, hc]
  · right
    refine ⟨hc, ?_⟩
    generalize hyd : supportOffD b (mn / 64) = yd
    obtain ⟨yoff, d⟩ := yd
    have hoff : b.len ≠ 0 → yoff + d = b.off := by
      intro hl
      unfold supportOffD at hyd
      simp only [hl, if_false] at hyd
      split at hyd <;> cases hyd <;> omega
    have hn : d + b.len ≤ supportN b (mx / 64) yoff d := by
      unfold supportN; simp only; split <;> omega
    generalize hnn : supportN b (mx / 64) yoff d = n at hn
    have hsz : b.a.size = b.len := by rw [size_a]; exact Nat.min_eq_left hb
    have hk : min (n - d) b.a.size = b.len := by rw [hsz]; omega
    by_cases hcap : n > b.cap
    · have e : b.support mn mx =
          { backing := (goCopy (make n) d n b.a).1, len := n, off := yoff } := by
        simp [support, shr6, hc, hyd, hnn, hcap]
      rw [e]
      refine ⟨rfl, rfl, ⟨?_, hn, hoff, ?_⟩⟩
      · simp [WInv]
      · intro idx hidx
        simp only at hidx
        simp only [rd_goCopy, size_make, hidx, if_true, hk, rd_make, rd_a]
        split
        · next h1 => have : idx - d < b.len := by omega
                     simp [this]
        · rfl
    · have e : b.support mn mx =
          { backing := zeroRange (zeroRange (goCopy b.backing d n b.a).1 0 d)
                         (d + (goCopy b.backing d n b.a).2) n, len := n, off := yoff } := by
        simp [support, shr6, hc, hyd, hnn, hcap]
      rw [e]
      have hcap' : n ≤ b.backing.size := by unfold cap at hcap; omega
      refine ⟨rfl, rfl, ⟨?_, hn, hoff, ?_⟩⟩
      · simp [WInv, hcap']
      · intro idx hidx
        simp only at hidx
        have hi : idx < b.backing.size := by omega
        simp only [rd_zeroRange, rd_goCopy, goCopy_snd, hk, hi, if_true, rd_a]
        by_cases h1 : d + b.len ≤ idx
        · have c1 : d + b.len ≤ idx ∧ idx < n := ⟨h1, hidx⟩
          have c2 : ¬ (d ≤ idx ∧ idx < d + b.len) := by omega
          simp [c1, c2]
        · have c1 : ¬ (d + b.len ≤ idx ∧ idx < n) := by omega
          by_cases h2 : idx < d
          · have c2 : ¬ (d ≤ idx ∧ idx < d + b.len) := by omega
            simp [c1, c2, h2]
          · have c2 : d ≤ idx ∧ idx < d + b.len := by omega
            have c3 : idx - d < b.len := by omega
            simp [c1, c2, h2, c3]


theorem support_inv (b : BitsetW) (hb : WInv b) (mn mx : Nat) : WInv (b.support mn mx) := by
  rcases support_cases b hb mn mx with ⟨_, _, e⟩ | ⟨_, _, _, h⟩
  · rw [e]; exact hb
  · exact h.inv

theorem support_mem (b : BitsetW) (hb : WInv b) (mn mx i : Nat) :
    mem (b.support mn mx) i ↔ mem b i := by
  rcases support_cases b hb mn mx with ⟨_, _, e⟩ | ⟨_, _, _, h⟩
  · rw [e]
  · exact h.mem_iff i

theorem support_covers (b : BitsetW) (hb : WInv b) (mn mx : Nat) (hmm : mn ≤ mx) :
    (b.support mn mx).off ≤ mn / 64 ∧
      mx / 64 < (b.support mn mx).off + (b.support mn mx).len := by
  have hdiv : mn / 64 ≤ mx / 64 := Nat.div_le_div_right hmm
  rcases support_cases b hb mn mx with ⟨h1, h2, e⟩ | ⟨hc, ho, hl, _⟩
  · rw [e]; exact ⟨h1, h2⟩
  · rw [ho, hl]
    have h1 : (supportOffD b (mn / 64)).1 ≤ mn / 64 := by
      unfold supportOffD
      (repeat' split) <;> simp only <;> omega
    have h2 : ∀ yoff d, mx / 64 + 1 - yoff ≤ supportN b (mx / 64) yoff d := by
      intro yoff d
      unfold supportN
      simp only
      split <;> omega
    have := h2 (supportOffD b (mn / 64)).1 (supportOffD b (mn / 64)).2
    exact ⟨h1, by omega⟩

/-! ### setting bits -/

theorem setBit_spec (b : BitsetW) (hb : WInv b) (j : Nat)
    (hj : b.off ≤ j / 64 ∧ j / 64 < b.off + b.len) :
    ∃ b', setBit b j = some b' ∧ WInv b' ∧ b'.off = b.off ∧ b'.len = b.len ∧
      ∀ i, mem b' i ↔ (mem b i ∨ i = j) := by
  have hk : j / 64 - b.off < b.len := by omega
  have hk' : j / 64 - b.off < b.backing.size := Nat.lt_of_lt_of_le hk hb
  have hj64 : j % 64 < 64 := Nat.mod_lt _ (by decide)
  refine ⟨{ b with backing := (b.backing.setIfInBounds (j / 64 - b.off)
            (rd b.backing (j / 64 - b.off) ||| ((1 : UInt64) <<< (j % 64).toUInt64))) },
    by simp only [setBit, shr6, and63]; rw [if_pos ⟨hj.1, hk⟩], ?_, rfl, rfl, ?_⟩
  · simpa [WInv] using hb
  · intro i
    unfold mem
    simp only [rd_setIfInBounds]
    by_cases hik : i / 64 - b.off = j / 64 - b.off
    · simp only [hik, hk', and_self, if_true, tb_or_bit _ _ _ hj64, Bool.or_eq_true,
        decide_eq_true_eq]
      constructor
      · rintro ⟨h1, h2, h3 | h3⟩
        · exact Or.inl ⟨h1, h2, h3⟩
        · right; omega
      · rintro (⟨h1, h2, h3⟩ | h)
        · exact ⟨h1, h2, Or.inl h3⟩
        · subst h; exact ⟨hj.1, hk, Or.inr rfl⟩
    · simp only [hik, false_and, if_false]
      constructor
      · intro h; exact Or.inl h
      · rintro (h | h)
        · exact h
        · subst h; exact absurd rfl hik

theorem setBits_spec (js : List Nat) (b : BitsetW) (hb : WInv b)
    (hj : ∀ j ∈ js, b.off ≤ j / 64 ∧ j / 64 < b.off + b.len) :
    ∃ b', setBits b js = some b' ∧ WInv b' ∧ b'.off = b.off ∧ b'.len = b.len ∧
      ∀ i, mem b' i ↔ (mem b i ∨ i ∈ js) := by
  induction js generalizing b with
  | nil => exact ⟨b, rfl, hb, rfl, rfl, by simp⟩
  | cons j js ih =>
    obtain ⟨b1, e1, inv1, o1, l1, m1⟩ := setBit_spec b hb j (hj j (by simp))
    obtain ⟨b2, e2, inv2, o2, l2, m2⟩ := ih b1 inv1 (fun x hx => by
      rw [o1, l1]; exact hj x (List.mem_cons_of_mem _ hx))
    refine ⟨b2, by simp [setBits, e1, e2], inv2, by omega, by omega, fun i => ?_⟩
    rw [m2, m1, List.mem_cons, or_assoc]

theorem minOf_le (i0 : Nat) (rest : List Nat) :
    minOf i0 rest ≤ i0 ∧ ∀ j ∈ rest, minOf i0 rest ≤ j := by
  unfold minOf
  induction rest generalizing i0 with
  | nil => simp
  | cons x xs ih =>
    simp only [List.foldl_cons, List.mem_cons]
    have hm : (if x < i0 then x else i0) ≤ i0 ∧ (if x < i0 then x else i0) ≤ x := by
      split <;> omega
    generalize (if x < i0 then x else i0) = m at hm ⊢
    obtain ⟨h1, h2⟩ := ih m
    exact ⟨by omega, fun j hj => hj.elim (fun e => by omega) (h2 j)⟩

theorem le_maxOf (i0 : Nat) (rest : List Nat) :
    i0 ≤ maxOf i0 rest ∧ ∀ j ∈ rest, j ≤ maxOf i0 rest := by
  unfold maxOf
  induction rest generalizing i0 with
  | nil => simp
  | cons x xs ih =>
    simp only [List.foldl_cons, List.mem_cons]
    have hm : i0 ≤ (if x > i0 then x else i0) ∧ x ≤ (if x > i0 then x else i0) := by
      split <;> omega
    generalize (if x > i0 then x else i0) = m at hm ⊢
    obtain ⟨h1, h2⟩ := ih m
    exact ⟨by omega, fun j hj => hj.elim (fun e => by omega) (h2 j)⟩

theorem insert_spec (b : BitsetW) (hb : WInv b) (is : List Nat) :
    ∃ b', b.insert is = some b' ∧ WInv b' ∧ ∀ i, mem b' i ↔ (mem b i ∨ i ∈ is) := by
  cases is with
  | nil => exact ⟨b, rfl, hb, by simp⟩
  | cons i0 rest =>
    have hmin := minOf_le i0 rest
    have hmax := le_maxOf i0 rest
    have hmm : minOf i0 rest ≤ maxOf i0 rest := by omega
    have hcov := support_covers b hb _ _ hmm
    have hinv := support_inv b hb (minOf i0 rest) (maxOf i0 rest)
    obtain ⟨b', e, inv', _, _, m'⟩ := setBits_spec (i0 :: rest) _ hinv (fun j hj => by
      have h1 : minOf i0 rest ≤ j := by
        rcases List.mem_cons.mp hj with rfl | h
        · exact hmin.1
        · exact hmin.2 j h
      have h2 : j ≤ maxOf i0 rest := by
        rcases List.mem_cons.mp hj with rfl | h
        · exact hmax.1
        · exact hmax.2 j h
      have := Nat.div_le_div_right (c := 64) h1
      have := Nat.div_le_div_right (c := 64) h2
      omega)
    refine ⟨b', e, inv', fun i => ?_⟩
    rw [m', support_mem b hb]


/-- one insert of `j` with `j / 64 < K`: the word span stays below `K` -/
theorem insert_span (b : BitsetW) (hb : WInv b) (j K : Nat) (hj : j / 64 < K)
    (h : b.len = 0 ∨ b.off + b.len ≤ K) :
    ∃ b', b.insert [j] = some b' ∧ WInv b' ∧ (∀ i, mem b' i ↔ (mem b i ∨ i = j)) ∧
      b'.off + b'.len ≤ K := by
  have hcov := support_covers b hb j j (Nat.le_refl _)
  have hinv := support_inv b hb j j
  obtain ⟨b', e, inv', o', l', m'⟩ := setBits_spec [j] _ hinv (fun x hx => by
    have : x = j := by simpa using hx
    subst this; exact hcov)
  refine ⟨b', e, inv', ?_, ?_⟩
  · intro i
    rw [m', support_mem b hb]
    simp
  · rw [o', l']
    rcases support_cases b hb j j with ⟨h1, h2, e1⟩ | ⟨hc, ho, hl, _⟩
    · rw [e1]; omega
    · rw [ho, hl]
      unfold supportN supportOffD
      simp only
      split <;> split <;> (try split) <;> simp only <;> omega


/-! ## the abstraction `members` and sorted lists -/

/-- the set bits of a word, ascending -/
def wordBits (w : UInt64) : List Nat := (List.range 64).filter (tb w)

/-- the abstraction function: all members, ascending -/
def members (b : BitsetW) : List Nat :=
  (List.range b.len).flatMap fun k =>
    (wordBits (rd b.backing k)).map fun p => (b.off + k) * 64 + p

theorem mem_wordBits {w : UInt64} {p : Nat} : p ∈ wordBits w ↔ p < 64 ∧ tb w p = true := by
  simp [wordBits]

theorem mem_word {b : BitsetW} {k p : Nat} (hk : k < b.len) (hp : p < 64) :
    mem b ((b.off + k) * 64 + p) ↔ tb (rd b.backing k) p = true := by
  unfold mem
  have e1 : ((b.off + k) * 64 + p) / 64 = b.off + k := by omega
  have e2 : ((b.off + k) * 64 + p) % 64 = p := by omega
  have e3 : b.off + k - b.off = k := by omega
  rw [e1, e2, e3]
  constructor
  · exact fun h => h.2.2
  · exact fun h => ⟨by omega, hk, h⟩

theorem mem_decomp {b : BitsetW} {x : Nat} (h : mem b x) :
    ∃ k p, k < b.len ∧ p < 64 ∧ x = (b.off + k) * 64 + p ∧ tb (rd b.backing k) p = true := by
  obtain ⟨h1, h2, h3⟩ := h
  exact ⟨x / 64 - b.off, x % 64, h2, Nat.mod_lt _ (by decide), by omega, h3⟩

theorem mem_members {b : BitsetW} {i : Nat} : i ∈ members b ↔ mem b i := by
  unfold members
  simp only [List.mem_flatMap, List.mem_range, List.mem_map, mem_wordBits]
  constructor
  · rintro ⟨k, hk, p, ⟨hp, hb⟩, rfl⟩
    exact (mem_word hk hp).2 hb
  · intro h
    obtain ⟨k, p, hk, hp, rfl, hb⟩ := mem_decomp h
    exact ⟨k, hk, p, ⟨hp, hb⟩, rfl⟩

theorem members_sorted (b : BitsetW) : (members b).Pairwise (· < ·) := by
  unfold members
  rw [List.pairwise_flatMap]
  constructor
  · intro k _
    rw [List.pairwise_map]
    unfold wordBits
    apply List.Pairwise.filter
    exact List.pairwise_lt_range.imp (fun h => by omega)
  · apply List.pairwise_lt_range.imp
    intro k1 k2 hk x hx y hy
    simp only [List.mem_map, mem_wordBits] at hx hy
    obtain ⟨p, ⟨hp, _⟩, rfl⟩ := hx
    obtain ⟨q, ⟨hq, _⟩, rfl⟩ := hy
    omega

/-! ### `slice` enumerates `members` -/

/-- The loop of `slice` on one word lists its set bits in ascending order.  Stated from position `p` on: the bits below
    `p` are clear and `fuel` iterations suffice for the rest. -/
theorem wordLoop_from (base : Nat) : ∀ (fuel : Nat) (x : UInt64) (p : Nat), (∀ q, q < p → tb x q = false) →
    p ≤ 64 → 64 ≤ p + fuel →
    wordLoop base x fuel = ((List.range' p (64 - p)).filter (tb x)).map (base + ·)
  | 0, x, p, _, h64, hf => by
    have : 64 - p = 0 := by omega
    rw [this]; rfl
  | f + 1, x, p, hlow, h64, hf => by
    unfold wordLoop
    split
    · next hn =>
      rw [List.filter_eq_nil_iff.mpr fun q _ => by rw [loBit_none hn q]; exact Bool.false_ne_true]
      rfl
    · next i hi =>
      obtain ⟨hi1, hi2, hi3⟩ := loBit_some hi
      have hpi : p ≤ i := Nat.le_of_not_lt fun hlt => by rw [hlow i hlt] at hi2; cases hi2
      -- positions `p … i-1` are clear, `i` is set, above `i` the word with bit `i` removed has the same bits
      rw [show 64 - p = (i - p) + ((64 - (i + 1)) + 1) by omega, ← List.range'_append, Nat.one_mul,
        show p + (i - p) = i by omega, List.range'_succ, List.filter_append,
        List.filter_eq_nil_iff.mpr fun q hq => by
          rw [hi3 q (by have := List.mem_range'_1.mp hq; omega)]; exact Bool.false_ne_true,
        List.nil_append, List.filter_cons_of_pos hi2, List.map_cons,
        wordLoop_from base f _ (i + 1) (fun q hq => by
          rw [tb_and_not_bit x i q hi1]
          by_cases hqi : q = i
          · simp [hqi]
          · simp [hi3 q (by omega)]) (by omega) (by omega)]
      congr 2
      apply List.filter_congr
      intro q hq
      have := List.mem_range'_1.mp hq
      rw [tb_and_not_bit x i q hi1]
      simp [show q ≠ i by omega]

theorem wordLoop_eq (base : Nat) (x : UInt64) : wordLoop base x 64 = (wordBits x).map (base + ·) := by
  rw [wordLoop_from base 64 x 0 (fun _ h => absurd h (Nat.not_lt_zero _)) (by omega) (by omega), wordBits,
    List.range_eq_range']

theorem slice_eq_members (b : BitsetW) : b.slice = members b := by
  unfold slice members
  simp only [wordLoop_eq, shl6]

theorem sorted_ext {l₁ l₂ : List Nat} (h₁ : l₁.Pairwise (· < ·)) (h₂ : l₂.Pairwise (· < ·))
    (h : ∀ x, x ∈ l₁ ↔ x ∈ l₂) : l₁ = l₂ := by
  induction l₁ generalizing l₂ with
  | nil =>
    cases l₂ with
    | nil => rfl
    | cons y ys => exact absurd ((h y).2 List.mem_cons_self) List.not_mem_nil
  | cons x xs ih =>
    cases l₂ with
    | nil => exact absurd ((h x).1 List.mem_cons_self) List.not_mem_nil
    | cons y ys =>
      rw [List.pairwise_cons] at h₁ h₂
      -- the heads are both the minimum
      have hxy : x = y := by
        rcases List.mem_cons.mp ((h x).1 List.mem_cons_self) with e | hx
        · exact e
        · rcases List.mem_cons.mp ((h y).2 List.mem_cons_self) with e | hy
          · exact e.symm
          · have := h₂.1 x hx
            have := h₁.1 y hy
            omega
      subst hxy
      congr 1
      refine ih h₁.2 h₂.2 fun z => ⟨fun hz => ?_, fun hz => ?_⟩
      · exact (List.mem_cons.mp ((h z).1 (List.mem_cons_of_mem _ hz))).resolve_left
          (Nat.ne_of_gt (h₁.1 z hz))
      · exact (List.mem_cons.mp ((h z).2 (List.mem_cons_of_mem _ hz))).resolve_left
          (Nat.ne_of_gt (h₂.1 z hz))

/-! ### the set-level `insertOne` -/

theorem mem_insertOne (l : List Nat) (x y : Nat) :
    y ∈ BitsetM.insertOne l x ↔ y ∈ l ∨ y = x := by
  induction l with
  | nil => simp [BitsetM.insertOne]
  | cons z zs ih =>
    unfold BitsetM.insertOne
    split
    · simp only [List.mem_cons, or_comm]
    · split
      · next h =>
        subst h; simp only [List.mem_cons]
        exact ⟨Or.inl, fun h => h.elim id fun e => Or.inl e⟩
      · simp only [List.mem_cons, ih, or_assoc]

theorem sorted_insertOne (l : List Nat) (x : Nat) (h : l.Pairwise (· < ·)) :
    (BitsetM.insertOne l x).Pairwise (· < ·) := by
  induction l with
  | nil => simp [BitsetM.insertOne]
  | cons z zs ih =>
    rw [List.pairwise_cons] at h
    unfold BitsetM.insertOne
    split
    · next hxz =>
      rw [List.pairwise_cons]
      refine ⟨fun a ha => ?_, List.pairwise_cons.mpr h⟩
      rcases List.mem_cons.mp ha with e | ha
      · omega
      · have := h.1 a ha; omega
    · split
      · exact List.pairwise_cons.mpr h
      · next h1 h2 =>
        rw [List.pairwise_cons]
        refine ⟨fun a ha => ?_, ih h.2⟩
        rw [mem_insertOne] at ha
        rcases ha with ha | e
        · exact h.1 a ha
        · omega

theorem mem_foldl_insertOne (is : List Nat) (l : List Nat) (y : Nat) :
    y ∈ is.foldl BitsetM.insertOne l ↔ y ∈ l ∨ y ∈ is := by
  induction is generalizing l with
  | nil => simp
  | cons i is ih => simp only [List.foldl_cons, ih, mem_insertOne, List.mem_cons, or_assoc]

theorem sorted_foldl_insertOne (is : List Nat) (l : List Nat) (h : l.Pairwise (· < ·)) :
    (is.foldl BitsetM.insertOne l).Pairwise (· < ·) := by
  induction is generalizing l with
  | nil => exact h
  | cons i is ih => exact ih _ (sorted_insertOne l i h)


/-! ## predecessor / successor queries -/

/-! ### set level -/

theorem le_getLast?_of_sorted {l : List Nat} (h : l.Pairwise (· < ·)) {j : Nat}
    (hj : l.getLast? = some j) : ∀ x ∈ l, x ≤ j := by
  induction l with
  | nil => simp at hj
  | cons y ys ih =>
    rw [List.pairwise_cons] at h
    cases ys with
    | nil =>
      simp at hj
      intro x hx
      simp at hx
      omega
    | cons z zs =>
      rw [List.getLast?_cons_cons] at hj
      intro x hx
      rcases List.mem_cons.mp hx with rfl | hx
      · have h1 := ih h.2 hj z (by simp)
        have h2 := h.1 z (by simp)
        omega
      · exact ih h.2 hj x hx

theorem model_before_isPred {l : List Nat} (h : l.Pairwise (· < ·)) (i : Nat) :
    IsPred (· ∈ l) i (BitsetM.memberBefore ⟨l⟩ i) := by
  unfold BitsetM.memberBefore
  simp only
  have hs : (l.filter (· < i)).Pairwise (· < ·) := h.filter _
  cases hg : (l.filter (· < i)).getLast? with
  | none =>
    simp only [IsPred]
    rw [List.getLast?_eq_none_iff, List.filter_eq_nil_iff] at hg
    intro x hx hlt
    exact hg x hx (by simpa using hlt)
  | some j =>
    simp only [IsPred]
    have hjm : j ∈ l.filter (· < i) := List.mem_of_getLast? hg
    rw [List.mem_filter] at hjm
    refine ⟨hjm.1, by simpa using hjm.2, fun x hx hlt => ?_⟩
    exact le_getLast?_of_sorted hs hg x (List.mem_filter.mpr ⟨hx, by simpa using hlt⟩)

theorem model_after_isGE {l : List Nat} (h : l.Pairwise (· < ·)) (i : Nat) :
    IsGE (· ∈ l) (i + 1) (BitsetM.memberAfter ⟨l⟩ i) := by
  unfold BitsetM.memberAfter
  simp only
  cases hg : l.find? (· > i) with
  | none =>
    simp only [IsGE]
    rw [List.find?_eq_none] at hg
    intro x hx hlo
    have := hg x hx
    simp at this
    omega
  | some j =>
    simp only [IsGE]
    rw [List.find?_eq_some_iff_append] at hg
    obtain ⟨hj, as, bs, rfl, has⟩ := hg
    simp at hj
    refine ⟨by simp, by omega, fun x hx hlo => ?_⟩
    rw [List.pairwise_append] at h
    rcases List.mem_append.mp hx with hx | hx
    · have := has x hx
      simp at this
      omega
    · rcases List.mem_cons.mp hx with rfl | hx
      · exact Nat.le_refl _
      · have := (List.pairwise_cons.mp h.2.1).1 x hx
        omega

/-! ### word level -/

theorem mem_lt_end {b : BitsetW} {x : Nat} (h : mem b x) : x < (b.off + b.len) * 64 := by
  obtain ⟨h1, h2, _⟩ := h
  omega

theorem mem_ge_start {b : BitsetW} {x : Nat} (h : mem b x) : b.off * 64 ≤ x := by
  obtain ⟨h1, h2, _⟩ := h
  omega

theorem IsPred.word {b : BitsetW} {k s : Nat} {o olow : Option Nat} (hk : k < b.len) (hs : s ≤ 64)
    (hw : IsPred (tb (rd b.backing k) · = true) s o)
    (hlow : IsPred (mem b) ((b.off + k) * 64) olow) :
    IsPred (mem b) ((b.off + k) * 64 + s)
      (match (generalizing := false) o with
       | some j => some ((b.off + k) * 64 + j)
       | none => olow) := by
  cases o with
  | none =>
    refine hlow.congr fun x => ⟨fun h => ⟨h.1, by omega⟩,
      fun h => ⟨h.1, Nat.lt_of_not_le fun hge => ?_⟩⟩
    have hk' : x / 64 - b.off = k := by have := h.1.1; omega
    exact hw (x % 64) (by rw [← hk']; exact h.1.2.2) (by omega)
  | some j =>
    obtain ⟨hj, hjs, hmax⟩ := hw
    refine ⟨(mem_word hk (by omega)).2 hj, by omega, fun x hx hlt => ?_⟩
    obtain ⟨k', p, hk1, hp, rfl, hb⟩ := mem_decomp hx
    by_cases hkk : k' = k
    · subst hkk
      have := hmax p hb (by omega)
      omega
    · omega

theorem IsGE.word {b : BitsetW} {k s : Nat} {o ohigh : Option Nat} (hk : k < b.len) (hs : s ≤ 64)
    (hw : IsGE (tb (rd b.backing k) · = true) s o)
    (hhigh : IsGE (mem b) ((b.off + (k + 1)) * 64) ohigh) :
    IsGE (mem b) ((b.off + k) * 64 + s)
      (match (generalizing := false) o with
       | some j => some ((b.off + k) * 64 + j)
       | none => ohigh) := by
  cases o with
  | none =>
    refine hhigh.congr fun x => ⟨fun h => ⟨h.1, by omega⟩,
      fun h => ⟨h.1, Nat.le_of_not_lt fun hlt => ?_⟩⟩
    have hk' : x / 64 - b.off = k := by have := h.1.1; omega
    exact hw (x % 64) (by rw [← hk']; exact h.1.2.2) (by omega)
  | some j =>
    obtain ⟨hj, hjs, hmin⟩ := hw
    have hj64 := lt_of_tb hj
    refine ⟨(mem_word hk hj64).2 hj, by omega, fun x hx hle => ?_⟩
    obtain ⟨k', p, hk1, hp, rfl, hb⟩ := mem_decomp hx
    by_cases hkk : k' = k
    · subst hkk
      have := hmin p hb (by omega)
      omega
    · omega

theorem scanDown_isPred (b : BitsetW) (k : Nat) (hk : k ≤ b.len) :
    IsPred (mem b) ((b.off + k) * 64) (scanDown b k) := by
  induction k with
  | zero => exact fun x hx => by have := mem_ge_start hx; omega
  | succ k ih =>
    have := IsPred.word (Nat.lt_of_succ_le hk) (Nat.le_refl 64) (hiBit_isPred _) (ih (by omega))
    rw [show (b.off + (k + 1)) * 64 = (b.off + k) * 64 + 64 by omega]
    simp only [scanDown, shl6]
    exact this

theorem scanUpAux_isGE (b : BitsetW) (fuel k : Nat) (hf : b.len - k ≤ fuel) :
    IsGE (mem b) ((b.off + k) * 64) (scanUpAux b k fuel) := by
  have hend : ∀ k, b.len ≤ k → IsGE (mem b) ((b.off + k) * 64) none := fun k hk x hx => by
    have := mem_lt_end hx
    have : (b.off + b.len) * 64 ≤ (b.off + k) * 64 := Nat.mul_le_mul_right _ (by omega)
    omega
  induction fuel generalizing k with
  | zero => exact hend k (by omega)
  | succ f ih =>
    unfold scanUpAux
    split
    · next hk => exact hend k hk
    · next hk =>
      have := IsGE.word (s := 0) (Nat.lt_of_not_le hk) (Nat.zero_le _) (loBit_isGE _)
        (ih (k + 1) (by omega))
      simp only [shl6]
      exact this

theorem hiBit_mask_isPred (w : UInt64) (s : Nat) (hs : s < 64) :
    IsPred (tb w · = true) s (hiBit (w &&& (((1 : UInt64) <<< s.toUInt64) - 1))) :=
  (hiBit_isPred _).congr fun x => by
    rw [tb_and_mask _ _ _ hs, Bool.and_eq_true, decide_eq_true_eq]
    exact ⟨fun h => h.1, fun h => ⟨h, by omega⟩⟩

theorem loBit_mask_isGE (w : UInt64) (s : Nat) (hs : s < 64) :
    IsGE (tb w · = true) s (loBit (w &&& ~~~(((1 : UInt64) <<< s.toUInt64) - 1))) :=
  (loBit_isGE _).congr fun x => by
    rw [tb_and_not_mask _ _ _ hs, Bool.and_eq_true, decide_eq_true_eq]
    exact ⟨fun h => h.1, fun h => ⟨h, Nat.zero_le _⟩⟩

theorem memberBefore_isPred (b : BitsetW) (i : Nat) :
    IsPred (mem b) i (b.memberBefore i) := by
  unfold memberBefore
  simp only [shr6, and63, shl6]
  have hi64 : i % 64 < 64 := Nat.mod_lt _ (by decide)
  split
  · next hlt => exact fun x hx => by have := mem_ge_start hx; omega
  · next hge =>
    split
    · next hk =>
      have := IsPred.word hk (Nat.le_of_lt hi64) (hiBit_mask_isPred _ _ hi64)
        (scanDown_isPred b _ (Nat.le_of_lt hk))
      rw [show (b.off + (i / 64 - b.off)) * 64 + i % 64 = i by omega] at this
      exact this
    · next hk =>
      exact (scanDown_isPred b _ (Nat.le_refl _)).congr fun x =>
        ⟨fun h => ⟨h.1, by omega⟩, fun h => ⟨h.1, mem_lt_end h.1⟩⟩

theorem memberAfter_isGE (b : BitsetW) (i : Nat) :
    IsGE (mem b) (i + 1) (b.memberAfter i) := by
  unfold memberAfter
  simp only [shr6, and63, shl6]
  generalize i + 1 = i
  have hi64 : i % 64 < 64 := Nat.mod_lt _ (by decide)
  split
  · next hge =>
    intro x hx
    have := mem_lt_end hx
    have : (b.off + b.len) * 64 ≤ i / 64 * 64 := Nat.mul_le_mul_right _ hge
    omega
  · next hlt =>
    split
    · next hoff' =>
      have := IsGE.word (by omega : i / 64 - b.off < b.len) (Nat.le_of_lt hi64)
        (loBit_mask_isGE _ _ hi64) (scanUpAux_isGE b _ (i / 64 - b.off + 1) (Nat.le_refl _))
      rw [show (b.off + (i / 64 - b.off)) * 64 + i % 64 = i by omega] at this
      exact this
    · next hoff' =>
      exact (scanUpAux_isGE b _ 0 (Nat.le_refl _)).congr fun x =>
        ⟨fun h => ⟨h.1, by have := mem_ge_start h.1; omega⟩,
         fun h => ⟨h.1, by have := mem_ge_start h.1; omega⟩⟩

end BitsetW
end LZ
