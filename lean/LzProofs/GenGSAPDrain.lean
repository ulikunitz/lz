/-
  C14 "repeated `Parse(nil)` drains the buffer" about the Go text of GSAP: `C14_drains`
  (LzProofs/ParseProps.lean) transported along `stepN_sim` of LzProofs/GenGSAPHistNil.lean by `GenDrain.drain_go`.  The
  histories of GSAP are over the `GOpN` / `GResN` of LZ.GenHPHist, so `nilOps`, `drainRes`, `nSum` are those of
  LzProofs/GenDrainShared.lean for that call type.  Stated under
  `GsapSpecs lcp SS BI` on the callees outside gsap.go (the drain calls never call them; the history before them may).
-/
import LzProofs.GenGSAPHistNil
import LzProofs.GenDrainShared

set_option linter.unusedSimpArgs false
set_option linter.unusedVariables false

namespace LZ.GenGSAPHist
open LZ LZ.Gen LZ.GenBuf LZ.GenHash LZ.GenSuffix LZ.GenBitset LZ.GsapBits LZ.GenHPParse LZ.GenParse LZ.GenBUPParse
  LZ.GenProps LZ.GenGSAP LZ.GenNil
open LZ.GenHPHist (GOpN GResN GOpN.WF nilOps drainRes nSum nilOps_eq drainRes_eq nSum_eq nilCalls)

section
variable {lcp : Slice → Slice → Int} {SS : Slice → GSlice Int32 → Res (GSlice Int32)}
  {BI : Gen.bitset → List Int → Res Gen.bitset}

/-- C14 (repeated `Parse(nil)` drains the buffer) about the Go text of GSAP.  After any history `ops` of the translated
    `Write`, `ReadFrom`, `Parse(&blk)`, `Parse(nil)`, `Shrink`, `Reset` from `init` (callees under `GsapSpecs lcp SS BI`), with
    `t` the Go state reached, `u = len(Data) − W`, `bs = BlockSize`, `r = ⌈u / bs⌉`: ANY further sequence of translated
    `Parse(nil, flags_k)` calls runs without panic and returns exactly `drainRes bs u 0 fl` — call `k < r` returns
    `(min(bs, u − k·bs), nil)`, every call `k ≥ r` returns `(0, ErrEmptyBuffer)`, the ghost blocks come back —; the `n` sum to
    `min(u, m·bs)`, `W` ends at `min(len(Data), W + m·bs)`; for `m ≥ r` the `n` sum to `u` and `W = len(Data)`. -/
theorem C14_drains_go_text_gsap (cfg : Gen.GSAPConfig) (s0 : Gen.gsap)
    (hinit : gsap_init default cfg = Res.ok (s0, Gen.Err.ok)) (sp : GsapSpecs lcp SS BI)
    (extra : Nat) (grow : Nat → Nat → Nat) (fuel : Nat)
    (hfuel : 2 * s0.ParserBuffer.BufConfig.BufferSize.toNat + 5 ≤ fuel)
    (ops : List GOpN) (hwf : ∀ op ∈ ops, op.WF) (fl : List (Gen.Block' × Int)) :
    ∃ t rs, runN extra grow fuel lcp SS BI s0 ops = Res.ok (t, rs) ∧
      let bs := t.ParserBuffer.BufConfig.BlockSize.toNat
      let u := t.ParserBuffer.Data.len - t.ParserBuffer.W.toNat
      let r := (u + bs - 1) / bs
      ∃ t', runN extra grow fuel lcp SS BI t (nilOps fl) = Res.ok (t', drainRes bs u 0 fl) ∧
        nSum (drainRes bs u 0 fl) = ((Min.min u (fl.length * bs) : Nat) : Int) ∧
        t'.ParserBuffer.Data.len = t.ParserBuffer.Data.len ∧
        t'.ParserBuffer.W = ((Min.min t.ParserBuffer.Data.len (t.ParserBuffer.W.toNat + fl.length * bs) : Nat) : Int) ∧
        (r ≤ fl.length → nSum (drainRes bs u 0 fl) = (u : Int) ∧ t'.ParserBuffer.W = (t.ParserBuffer.Data.len : Int)) := by
  obtain ⟨p, t, rs, hp, h0, h1, hbc, hf, hS, -⟩ :=
    gen_gsap_history_nil cfg s0 hinit sp extra grow fuel hfuel ops hwf
  refine ⟨t, rs, h1, ?_⟩
  have hbs : 1 ≤ t.ParserBuffer.BufConfig.BlockSize.toNat := by
    have := (newParser_inv .GSAP (ofGSAP cfg) p hp).2.2
    rw [← hS.1.1.cfg] at this; exact this
  rw [runN_eq, nilOps_eq, drainRes_eq, nSum_eq]
  exact GenDrain.drain_go (bufHost hbc) nilCalls (stepN_sim hbc sp extra grow fuel hf (ofGSAP cfg) p hp) t _ hS hbs fl

end

end LZ.GenGSAPHist

#print axioms LZ.GenGSAPHist.C14_drains_go_text_gsap
