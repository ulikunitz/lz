/-
  `ParseOKD` (GenDHPParse) as an INVARIANT of the translated operations of the double hash parser DHP, operation by
  operation, as LzProofs/GenHPHist.lean does for HP.

  Subject: the functions `tools/extract` regenerates from the Go text
      dhp.go              doubleHashParser.init / Parse           Gen.doubleHashParser_init / _Parse (CodeDHPInit, CodeDHPParse)
      hash.go             doubleHashDictionary.Reset / Shrink     Gen.doubleHashDictionary_Reset / _Shrink (CodeDHashDict)
      parser_buffer.go    ParserBuffer.Write                      Gen.ParserBuffer_Write     (CodePBuf)
  `Write`, `Reset`, `Shrink` of a `*doubleHashParser` are the PROMOTED methods of the embedded `doubleHashDictionary` /
  `ParserBuffer` (dhp.go declares only `init`, `Parse`, `ParserConfig`); `dhp_Write`, `dhp_Reset`, `dhp_Shrink` below
  are the translated function on the embedded field followed by a record update, as for HP.
  `ReadFrom` is added in GenDHPHistRF, `Parse(nil)` in GenDHPHistNil.

  Invariant `HistOKD bc t` on the GENERATED state `t : Gen.doubleHashParser`: `ParseOKD t`, the buffer configuration is
  `bc`, `len(Data) ≤ BufferSize`, `CapOK`, `inputLen2 ≤ 8` (on the table of the long hash: `ParseOKD` does not tie
  `DHPConfig.InputLen2` to it, and nothing reads that field after `init`).

    hist_write / hist_shrink / hist_reset / hist_parse / hist_init    as in GenHPHist; `hist_parse` needs
                 `fuel ≥ 2·len(Data) + 3` (`gen_dhp_parse`)
  The parser-independent lemmas (`BCOK`, `mparse_hist`, …) are those of GenHPHist, the buffer part of the
  invariant is `GenHist.BufOK` (LzProofs/GenHistBuf.lean); every operation keeps the input lengths and hash bits of
  both tables (`double_kept_eq`, from `Parser.double_kept`) — stated on `Parser`, shared with BDHP.
-/
import LzProofs.GenHPHist
import LzProofs.GenDHPInit

set_option linter.unusedSimpArgs false
set_option linter.unusedVariables false

namespace LZ.GenDHPHist
open LZ LZ.Gen LZ.GenBuf LZ.GenHash LZ.GenHPParse LZ.GenDHPParse LZ.GenProps LZ.GenDHPInit
open LZ.GenHPHist (BCOK newParser_fresh hash_same mparse_hist)
open LZ.GenHist (FRel WriteRel ParseRel ShrinkRel ResetRel BufHost)

/-! ## the promoted methods -/

/-- `s.Write(p)` for `s *doubleHashParser`: `ParserBuffer.Write` on the embedded buffer -/
def dhp_Write (grow : Nat → Nat → Nat) (s : Gen.doubleHashParser) (p : Slice) : Res (Gen.doubleHashParser × Int × Gen.Err) :=
  Res.bind (ParserBuffer_Write grow s.doubleHashDictionary.ParserBuffer p) fun r =>
  Res.ok ({ s with doubleHashDictionary := { s.doubleHashDictionary with ParserBuffer := r.1 } }, r.2.1, r.2.2)

/-- `s.Reset(data)` for `s *doubleHashParser`: `doubleHashDictionary.Reset` on the embedded dictionary -/
def dhp_Reset (s : Gen.doubleHashParser) (data : Slice) : Res (Gen.doubleHashParser × Gen.Err) :=
  Res.bind (doubleHashDictionary_Reset s.doubleHashDictionary data) fun r =>
  Res.ok ({ s with doubleHashDictionary := r.1 }, r.2)

/-- `s.Shrink()` for `s *doubleHashParser`: `doubleHashDictionary.Shrink` on the embedded dictionary -/
def dhp_Shrink (s : Gen.doubleHashParser) : Res (Gen.doubleHashParser × Int) :=
  Res.bind (doubleHashDictionary_Shrink s.doubleHashDictionary) fun r =>
  Res.ok ({ s with doubleHashDictionary := r.1 }, r.2)

/-! ## the invariant -/

/-- the invariant of a history of translated operations on a Go `doubleHashParser` -/
structure HistOKD (bc : BufCfg) (t : Gen.doubleHashParser) : Prop where
  pok : ParseOKD t
  cfg : ofCfg t.doubleHashDictionary.ParserBuffer.BufConfig = bc
  len : t.doubleHashDictionary.ParserBuffer.Data.len ≤ bc.bufferSize
  cap : (ofPB t.doubleHashDictionary.ParserBuffer).CapOK
  il8 : t.doubleHashDictionary.h2.inputLen.toNat ≤ 8

theorem HistOKD.buf {bc : BufCfg} {t : Gen.doubleHashParser} (h : HistOKD bc t) : GenHist.BufOK bc (ofDHPs t).buf :=
  GenHist.BufOK.ofGo h.pok.wf.1 h.cfg h.pok.w h.len h.cap

/-- the bounds on the two `InputLen` as the model's parsers ask for them -/
theorem HistOKD.dictOK {bc : BufCfg} {t : Gen.doubleHashParser} (h : HistOKD bc t) :
    ProbeW.HashDictOK (ofDHPs t).dict ∧ 1 ≤ (ofDHPs t).minMatch ∧ (ofDHPs t).minMatch ≤ 8 := by
  have hil1 := h.pok.il1
  have hil12 := h.pok.il12
  have hcil := h.pok.cil
  have hil8 := h.il8
  have hi02 := h.pok.wf.2.2.2.1
  show (1 ≤ t.doubleHashDictionary.h1.inputLen.toNat ∧
      t.doubleHashDictionary.h1.inputLen.toNat ≤ t.doubleHashDictionary.h2.inputLen.toNat ∧
      t.doubleHashDictionary.h2.inputLen.toNat ≤ 8) ∧
    1 ≤ Min.min 3 t.DHPConfig.InputLen1.toNat ∧ Min.min 3 t.DHPConfig.InputLen1.toNat ≤ 8
  omega

theorem histOK_update {bc : BufCfg} (hbc : BCOK bc) {t : Gen.doubleHashParser} (h : HistOKD bc t)
    (f' : Gen.doubleHashDictionary) (hwf : DDictWF f')
    (hil1 : (ofHash f'.h1).inputLen = (ofHash t.doubleHashDictionary.h1).inputLen)
    (hhb1 : (ofHash f'.h1).hashBits = (ofHash t.doubleHashDictionary.h1).hashBits)
    (hil2 : (ofHash f'.h2).inputLen = (ofHash t.doubleHashDictionary.h2).inputLen)
    (hhb2 : (ofHash f'.h2).hashBits = (ofHash t.doubleHashDictionary.h2).hashBits)
    (hb : GenHist.BufOK bc (ofPB f'.ParserBuffer)) :
    HistOKD bc { t with doubleHashDictionary := f' } := by
  obtain ⟨hw, hlen⟩ := hb.go hwf.1
  obtain ⟨ei1, es1⟩ := hash_same hwf.2.1 h.pok.wf.2.1 hil1 hhb1
  obtain ⟨ei2, es2⟩ := hash_same hwf.2.2 h.pok.wf.2.2 hil2 hhb2
  have hc : ofCfg f'.ParserBuffer.BufConfig = ofCfg t.doubleHashDictionary.ParserBuffer.BufConfig :=
    hb.cfg.trans h.cfg.symm
  exact ⟨⟨hwf, h.pok.cws.trans (congrArg BufCfg.windowSize hc).symm, h.pok.cbs.trans (congrArg BufCfg.blockSize hc).symm,
    ei1 ▸ h.pok.cil, h.pok.bs0, hw, ei1 ▸ h.pok.il1, ei1 ▸ ei2 ▸ h.pok.il12, es1 ▸ h.pok.sh1, es2 ▸ h.pok.sh2,
    Nat.lt_of_le_of_lt (Nat.le_trans hlen hbc.bmax) (by decide)⟩, hb.cfg, hlen, hb.cap, ei2 ▸ h.il8⟩

/-! ## the tables of a `.double` dictionary keep their parameters (`Parser.double_kept`, for a given dictionary after) -/

theorem double_kept_eq {s : Parser} (op : POp) {d d' : Hash2} (hd : s.dict = .double d)
    (hd' : (s.stepOut op).1.dict = .double d') :
    d'.h1.inputLen = d.h1.inputLen ∧ d'.h1.hashBits = d.h1.hashBits ∧
      d'.h2.inputLen = d.h2.inputLen ∧ d'.h2.hashBits = d.h2.hashBits := by
  obtain ⟨_, e, r⟩ := Parser.double_kept s op d hd
  rw [hd'] at e
  injection e with e
  exact e ▸ r

/-! ## `Parse` keeps the input lengths of a `.double` dictionary (an instance of `Parser.double_kept`) -/

theorem mparse_dict2 (s : Parser) (flags : Nat) (d : Hash2) (hd : s.dict = .double d) :
    ∃ d', (s.parse flags).1.dict = .double d' ∧ d'.h1.inputLen = d.h1.inputLen ∧ d'.h2.inputLen = d.h2.inputLen :=
  let ⟨d', a, b, _, c, _⟩ := Parser.double_kept s (.parse flags) d hd
  ⟨d', a, b, c⟩

/-! ## Write -/

/-- the Go state holds its `ParserBuffer` inside the embedded dictionary -/
def bufHost {bc : BufCfg} (hbc : BCOK bc) : BufHost bc (FRel (HistOKD bc) ofDHPs) where
  pb t := t.doubleHashDictionary.ParserBuffer
  setPB t b := { t with doubleHashDictionary := { t.doubleHashDictionary with ParserBuffer := b } }
  get := fun ⟨h, e⟩ => ⟨h.pok.wf.1, h.buf, e ▸ rfl⟩
  put := fun {t m} b' ⟨h, e⟩ hwf hb _ _ =>
    ⟨histOK_update hbc h { t.doubleHashDictionary with ParserBuffer := b' } ⟨hwf, h.pok.wf.2⟩ rfl rfl rfl rfl hb, e ▸ rfl⟩

theorem hist_write {bc : BufCfg} (hbc : BCOK bc) (grow : Nat → Nat → Nat) :
    WriteRel (FRel (HistOKD bc) ofDHPs) (dhp_Write grow) :=
  (bufHost hbc).write grow fun _ _ => rfl

/-! ## Shrink -/

theorem hist_shrink {bc : BufCfg} (hbc : BCOK bc) : ShrinkRel (FRel (HistOKD bc) ofDHPs) dhp_Shrink := by
  rintro t _ ⟨h, rfl⟩
  have hW := h.pok.w
  have hS := h.pok.small
  have hss := h.pok.wf.1.ss
  obtain ⟨f', hf, hof, hwf⟩ := gen_dhp_shrink .DHP (ofDHP t.DHPConfig) t.doubleHashDictionary h.pok.wf (by omega) (by omega)
  unfold dhp_Shrink
  rw [hf]
  refine ⟨_, rfl, ?_, hof⟩
  obtain ⟨a, b, c, d⟩ := double_kept_eq .shrink (s := ofDHPs t) rfl (congrArg Parser.dict hof).symm
  have hbuf : ofPB f'.ParserBuffer = (ofDHPs t).shrink.1.buf := congrArg Parser.buf hof
  exact histOK_update hbc h f' hwf a b c d (hbuf ▸ h.buf.pshrink)

/-! ## Reset -/

theorem hist_reset {bc : BufCfg} (hbc : BCOK bc) : ResetRel (FRel (HistOKD bc) ofDHPs) dhp_Reset := by
  rintro t _ data ⟨h, rfl⟩ hdat
  obtain ⟨f', e, hf, hof, herr, hwf⟩ := gen_dhp_reset .DHP (ofDHP t.DHPConfig) t.doubleHashDictionary h.pok.wf data hdat
  unfold dhp_Reset
  rw [hf]
  refine ⟨_, e, rfl, ⟨?_, hof⟩, herr⟩
  obtain ⟨a, b, c, d⟩ := double_kept_eq (.reset data.data (data.cap - data.len)) (s := ofDHPs t) rfl
    (congrArg Parser.dict hof).symm
  have hbuf : ofPB f'.ParserBuffer = ((ofDHPs t).reset data.data (data.cap - data.len)).1.buf := congrArg Parser.buf hof
  exact histOK_update hbc h f' hwf a b c d (hbuf ▸ h.buf.preset _ _)

/-! ## Parse -/

theorem hist_parse {bc : BufCfg} (hbc : BCOK bc) (grow : Nat → Nat → Nat) (fuel : Nat)
    (hfuel : 2 * bc.bufferSize + 3 ≤ fuel) :
    ParseRel (FRel (HistOKD bc) ofDHPs) (fun _ => True) (doubleHashParser_Parse grow fuel) := by
  rintro t _ blk flags ⟨h, rfl⟩ - hfl
  have hfuel : 2 * t.doubleHashDictionary.ParserBuffer.Data.len + 3 ≤ fuel := by have := h.len; omega
  obtain ⟨hd, hm1, hm8⟩ := h.dictOK
  have hW := ProbeW.parseW_eq (ofDHPs t) (staleOfD t) flags.toNat h.buf.w h.pok.backing h.cap hd hm8
  have hnot : ∀ o, (ofDHPs t).dict ≠ .osap o := by intro o ho; cases ho
  obtain ⟨-, f2, -, f4⟩ := mparse_hist (ofDHPs t) flags.toNat h.buf hm1 hnot hbc.bmax hbc.wmax
  obtain ⟨d', f5, f6, f7⟩ := mparse_dict2 (ofDHPs t) flags.toNat
    ⟨ofHash t.doubleHashDictionary.h1, ofHash t.doubleHashDictionary.h2⟩ rfl
  have hm := gen_dhp_parse grow fuel t blk flags h.pok hfl hfuel
  rw [hW] at hm
  generalize (ofDHPs t).parse flags.toNat = R at hm f2 f4 f5 ⊢
  obtain ⟨t', blk', h1, h2, h3, h4, h5, h6, h7, h8⟩ := hm
  refine ⟨t', blk', h1, ⟨?_, h2⟩, f4 blk' h5 h6, h7, h4⟩
  rw [← h2] at f2 f5
  have hdict : Dict.double ⟨ofHash t'.doubleHashDictionary.h1, ofHash t'.doubleHashDictionary.h2⟩ = Dict.double d' := f5
  injection hdict with hdict
  have hi2 : t'.doubleHashDictionary.h2.inputLen.toNat = t.doubleHashDictionary.h2.inputLen.toNat :=
    (congrArg (fun x : Hash2 => x.h2.inputLen) hdict).trans f7
  have hb : GenHist.BufOK bc (ofPB t'.doubleHashDictionary.ParserBuffer) := f2
  exact ⟨h8, hb.cfg, data_length h8.wf.1.data ▸ hb.len, hb.cap, by rw [hi2]; exact h.il8⟩

/-! ## init -/

/-- `doubleHashParser.init(cfg)` on `new(doubleHashParser)`: if it returns `nil`, the configuration is one the model's
    `NewParser` accepts, the Go state abstracts to the model's fresh parser, and `HistOKD` holds for its buffer
    configuration -/
theorem hist_init (cfg : Gen.DHPConfig) (s0 : Gen.doubleHashParser)
    (hinit : doubleHashParser_init default cfg = Res.ok (s0, Gen.Err.ok)) :
    ∃ p, newParser .DHP (ofDHP cfg) = some p ∧ ofDHPs s0 = p ∧ BCOK p.buf.cfg ∧ HistOKD p.buf.cfg s0 := by
  have hg := gen_dhp_init default (ofDHP cfg) (by unfold GWF; exact Nat.le_refl 0) (by unfold GWF; exact Nat.le_refl 0)
  rw [toDHP_ofDHP] at hg
  cases hp : newParser .DHP (ofDHP cfg) with
  | none =>
    rw [hp] at hg
    obtain ⟨e, he, hne⟩ := hg
    rw [hinit] at he
    injection he with he
    injection he with _ he
    exact absurd he.symm hne
  | some p =>
    obtain ⟨s', h1, h2, h3⟩ := gen_dhp_init_parseOK (ofDHP cfg) p hp
    rw [toDHP_ofDHP, hinit] at h1
    injection h1 with h1
    injection h1 with h1 _
    subst h1
    subst h2
    obtain ⟨hBC, c, hv, -, hbuf, hdict⟩ := newParser_fresh .DHP _ _ hp
    obtain ⟨-, -, hhv', -⟩ := verify_dh_bounds (k := .DHP) (.inl rfl) hv
    have hI : s0.doubleHashDictionary.h2.inputLen.toNat = c.inputLen2.toNat :=
      congrArg (fun x : Dict => match x with | .double d => d.h2.inputLen | _ => 0) hdict
    refine ⟨_, rfl, rfl, hBC, h3, rfl, ?_, Or.inl (congrArg PBuf.data hbuf), ?_⟩
    · rw [(fresh_pbuf (cap := 0) h3.wf.1 hbuf).2.2.2]; exact Nat.zero_le _
    · rw [hI]; omega

end LZ.GenDHPHist

#print axioms LZ.GenDHPHist.mparse_dict2
#print axioms LZ.GenDHPHist.hist_write
#print axioms LZ.GenDHPHist.hist_shrink
#print axioms LZ.GenDHPHist.hist_reset
#print axioms LZ.GenDHPHist.hist_parse
#print axioms LZ.GenDHPHist.hist_init
