/-
  LzProofs.Int32AllGlue — the C11 theorems of GlueProps.lean without the hypothesis `Sap.Int32OK`
  (a consequence of `newParser .OSAP raw = some s0`, see Int32All.lean).
-/
import LzProofs.Int32All
import LzProofs.GlueProps
namespace LZ

/-- C11, unconditional, for every accepted OSAP configuration.  Start from a new OSAP parser,
    apply any sequence of `Write`, `ReadFrom`, `Parse(&blk, flags)`, `Parse(nil)`, `Shrink`,
    `Reset`; the next block emitted with flags 0 is an LZ77 parse of its bytes (lengths in
    `[MinMatchLen, MaxMatchLen]`, offsets `≤ WindowSize`, sources in the buffer) and costs no
    more (`XZCost`) than any such parse. -/
theorem C11_optimal_unconditional_all (raw : Cfg) (s0 : Parser)
    (h0 : newParser .OSAP raw = some s0)
    (ops : List Sap.POp) (flags : Nat) (hf : flags % 2 = 0)
    (hn : (Sap.runOps s0 ops).blockN ≠ 0) :
    let s := Sap.runOps s0 ops
    ∃ o, s.dict = .osap o ∧
      Sap.LzParse (s.buf.data.take (s.buf.w + s.blockN)) s.buf.w s.buf.cfg.windowSize
        s.minMatch s.cfg.maxMatchLen.toNat s.blockN (Sap.osapPath s o) ∧
      ∀ π, Sap.LzParse (s.buf.data.take (s.buf.w + s.blockN)) s.buf.w s.buf.cfg.windowSize
          s.minMatch s.cfg.maxMatchLen.toNat s.blockN π →
        Sap.blockCost (s.parse flags).2.2.2 ≤ Sap.pathCost π :=
  C11_optimal_unconditional raw s0 h0 (Sap.int32OK_of_newParser raw s0 h0) ops flags hf hn

/-- C11 over the histories of the parser topic, for every accepted OSAP configuration (the
    same histories `C01_roundtrip_osap`, `C02_wellformed_osap`, `C03_contiguous_osap` speak
    about): after any history, the next block an OSAP parser emits with flags 0 is a minimum-cost
    LZ77 parse of its bytes. -/
theorem C11_optimal_history_all (raw : Cfg) (s0 : Parser)
    (h0 : newParser .OSAP raw = some s0)
    (ops : List POp) (flags : Nat) (hf : flags % 2 = 0)
    (hn : (runOps (s0, Ghost.init) ops).1.blockN ≠ 0) :
    let s := (runOps (s0, Ghost.init) ops).1
    ∃ o, s.dict = .osap o ∧
      Sap.LzParse (s.buf.data.take (s.buf.w + s.blockN)) s.buf.w s.buf.cfg.windowSize
        s.minMatch s.cfg.maxMatchLen.toNat s.blockN (Sap.osapPath s o) ∧
      ∀ π, Sap.LzParse (s.buf.data.take (s.buf.w + s.blockN)) s.buf.w s.buf.cfg.windowSize
          s.minMatch s.cfg.maxMatchLen.toNat s.blockN π →
        Sap.blockCost (s.parse flags).2.2.2 ≤ Sap.pathCost π :=
  C11_optimal_history raw s0 h0 (Sap.int32OK_of_newParser raw s0 h0) ops flags hf hn

/-! ## non-vacuity -/

example := C11_optimal_unconditional_all Sap.glueOsapCfg Sap.glueOsap0 Sap.glueOsap0_new
  Sap.glueOps 0 rfl Sap.glueOps_blockN

/-! ## axioms -/

#print axioms C11_optimal_unconditional_all
#print axioms C11_optimal_history_all

end LZ
