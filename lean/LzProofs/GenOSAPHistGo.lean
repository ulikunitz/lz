/-
  `CESpec` discharged for the translated `(*optSuffixArrayParser).computeEdges` (topic OSAPEdges,
  LzProofs/GenOSAPEdges.lean `gen_osap_computeEdges`), and the theorems of LzProofs/GenOSAPHistRun.lean with the translated
  `computeEdges` as the callee of the translated `Parse` (`…_ce_go`): histories of OSAP run on translated Go text only.
  What remains as hypotheses are the specifications of the four callees outside osap.go, `EdgeSpecs SS LCP SEG SRT`:
  `suffix.Sort` (SortSpec), `suffix.LCP(t, sa, nil, lcp)` (LCPSpec), `suffix.Segments` as the function that returns the
  log of its callback calls (SegSpec; by `segSpec_go` it holds for the translation of segments.go), `slices.Sort`
  (SliceSortSpec).

  `computeEdges` reads `uint32(s.WindowSize)`; `ParseOKO` has no upper bound for it, `BufConfig.Verify` has
  (`WindowSize ≤ 2^32 − 8`), and the history invariant carries it (`BCOKO.wmax`).  So `CESpec` is proved for `ceW`, which
  is the translation `ceGo` for `WindowSize < 2^32` and the hand model `ceK` beyond, and along a history running with
  `ceGo` is running with `ceW` (`Parse` calls `computeEdges` on the state it is given and nowhere else).
-/
import LzProofs.GenOSAPEdges
import LzProofs.GenOSAPHistEx

set_option linter.unusedSimpArgs false
set_option linter.unusedVariables false

namespace LZ.GenOSAPHist
open LZ LZ.Gen LZ.GenBuf LZ.GenHash LZ.GenSuffix LZ.GenHPParse LZ.GenProps LZ.GenOSAP
open LZ.GenGSAP (SortSpec)
open LZ.GenHPHist (GOpR GOpR.abs ResultsAgreeR ghostRunR)

/-- the specifications of the callees of `computeEdges` outside osap.go -/
structure EdgeSpecs (SS : Slice → GSlice Int32 → Res (GSlice Int32))
    (LCP : Slice → GSlice Int32 → GSlice Int32 → GSlice Int32 → Res (GSlice Int32))
    (SEG : GSlice Int32 → GSlice Int32 → Int → Int → Res (List (Int × GSlice Int32)))
    (SRT : GSlice Int32 → Res (GSlice Int32)) : Prop where
  sort : SortSpec SS
  lcp : LCPSpec LCP
  seg : SegSpec SEG
  ssort : SliceSortSpec SRT

section
variable {SS : Slice → GSlice Int32 → Res (GSlice Int32)}
  {LCP : Slice → GSlice Int32 → GSlice Int32 → GSlice Int32 → Res (GSlice Int32)}
  {SEG : GSlice Int32 → GSlice Int32 → Int → Int → Res (List (Int × GSlice Int32))}
  {SRT : GSlice Int32 → Res (GSlice Int32)}

/-- the translated `computeEdges` as the callee of the translated `Parse` (`fuelE`: its own fuel) -/
def ceGo (grow : Nat → Nat → Nat) (fuelE : Nat) (SS : Slice → GSlice Int32 → Res (GSlice Int32))
    (LCP : Slice → GSlice Int32 → GSlice Int32 → GSlice Int32 → Res (GSlice Int32))
    (SEG : GSlice Int32 → GSlice Int32 → Int → Int → Res (List (Int × GSlice Int32)))
    (SRT : GSlice Int32 → Res (GSlice Int32)) : CEFun :=
  optSuffixArrayParser_computeEdges grow fuelE SS LCP SEG SRT

theorem cespec_go_small (sp : EdgeSpecs SS LCP SEG SRT) (grow : Nat → Nat → Nat) (fuelE : Nat) (hf : 2147483648 ≤ fuelE)
    (s : Gen.optSuffixArrayParser) (o : OsapD) (hP : ParseOKO 2147483647 s) (hws : s.OSAPConfig.WindowSize < 4294967296)
    (hchk : Idx.computeEdgesChk (ofOSAPs s).buf.data (ofOSAPs s).buf.w (ofOSAPs s).buf.cfg.windowSize (ofOSAPs s).minMatch
      (ofOSAPs s).cfg.maxMatchLen.toNat = some o) :
    ∃ s', ceGo grow fuelE SS LCP SEG SRT s = Res.ok s' ∧ ofOD s' = o ∧ s'.ParserBuffer = s.ParserBuffer ∧
      s'.OSAPConfig = s.OSAPConfig ∧ s'.cost = s.cost ∧ s'.tmp = s.tmp ∧ 0 ≤ s'.start ∧ 0 ≤ s'.nEdges ∧ GWF s'.edges ∧
      (∀ q ∈ s'.edges.data, GWF q ∧ q.len ≤ 2147483647) := by
  obtain ⟨hw, hlen, ho⟩ := hP.computeEdges_eq hchk
  obtain ⟨s', h1, h2, h3, h4, h5, h6, h7⟩ := gen_osap_computeEdges grow fuelE SS LCP SEG SRT sp.sort sp.lcp sp.seg sp.ssort s
    hP.pb hP.w hP.small hP.ws0 hws hP.mm0 hP.mmx (by have := hP.small; omega)
  have hod : ofOD s' = o := by
    rw [ho]
    show (⟨edgesAbs s'.edges, s'.start.toNat, s'.nEdges.toNat⟩ : OsapD) = _
    rw [h2]
    show computeEdges s.ParserBuffer.Data.data s.ParserBuffer.W.toNat s.OSAPConfig.WindowSize.toNat _ _ =
      computeEdges s.ParserBuffer.Data.data s.ParserBuffer.W.toNat s.ParserBuffer.BufConfig.WindowSize.toNat _ _
    rw [hP.cws]
    rfl
  unfold CEFrame at h3
  refine ⟨s', h1, hod, by rw [h3], by rw [h3], by rw [h3], by rw [h3], h4, h5, h6,
    fun q hq => ⟨h7 q hq, edgesAbs_len_le h6 h7 (B := 2147483647) (fun i => ?_) q hq⟩⟩
  have hbound := Sap.computeEdges_len_le (ofOSAPs s).buf.data (ofOSAPs s).buf.w (ofOSAPs s).buf.cfg.windowSize
    (ofOSAPs s).minMatch (ofOSAPs s).cfg.maxMatchLen.toNat hw hlen i
  rw [← ho, ← hod] at hbound
  exact Nat.le_trans hbound hlen

/-- the callee that is the translated `computeEdges` wherever its `uint32(s.WindowSize)` is the model's window size, and
    the hand model beyond (no history reaches such a state: `BufConfig.Verify`) -/
def ceW (grow : Nat → Nat → Nat) (fuelE : Nat) (SS : Slice → GSlice Int32 → Res (GSlice Int32))
    (LCP : Slice → GSlice Int32 → GSlice Int32 → GSlice Int32 → Res (GSlice Int32))
    (SEG : GSlice Int32 → GSlice Int32 → Int → Int → Res (List (Int × GSlice Int32)))
    (SRT : GSlice Int32 → Res (GSlice Int32)) : CEFun :=
  fun s => if s.OSAPConfig.WindowSize < 4294967296 then ceGo grow fuelE SS LCP SEG SRT s else ceK s

theorem cespec_go (sp : EdgeSpecs SS LCP SEG SRT) (grow : Nat → Nat → Nat) (fuelE : Nat) (hf : 2147483648 ≤ fuelE) :
    CESpec 2147483647 (ceW grow fuelE SS LCP SEG SRT) := by
  intro s o hP hchk
  unfold ceW
  by_cases hws : s.OSAPConfig.WindowSize < 4294967296
  · rw [if_pos hws]
    exact cespec_go_small sp grow fuelE hf s o hP hws hchk
  · rw [if_neg hws]
    exact cespec_ceK s o hP hchk

theorem ceW_eq {bc : BufCfg} (hbc : BCOKO bc) (grow : Nat → Nat → Nat) (fuelE : Nat) {t : Gen.optSuffixArrayParser}
    (h : HistOKO bc 2147483647 t) : ceGo grow fuelE SS LCP SEG SRT t = ceW grow fuelE SS LCP SEG SRT t := by
  unfold ceW
  have h1 := h.pok.cws
  have h3 : t.ParserBuffer.BufConfig.WindowSize.toNat = bc.windowSize := congrArg BufCfg.windowSize h.cfg
  have h4 := hbc.wmax
  rw [if_pos (by omega)]

theorem stepO_go {bc : BufCfg} (hbc : BCOKO bc) (grow : Nat → Nat → Nat) (fuelE : Nat) (extra fuel : Nat)
    {t : Gen.optSuffixArrayParser} (h : HistOKO bc 2147483647 t) (op : GOpR) :
    stepO extra grow fuel (ceGo grow fuelE SS LCP SEG SRT) t op = stepO extra grow fuel (ceW grow fuelE SS LCP SEG SRT) t op := by
  cases op with
  | base op =>
    cases op with
    | write p => rfl
    | parse blk flags =>
      simp only [stepO]
      rw [parse_congr grow fuel _ _ t (ceW_eq hbc grow fuelE h)]
    | shrink => rfl
    | reset data => rfl
  | readFrom r => rfl

theorem runO_go {bc : BufCfg} (hbc : BCOKO bc) (sp : EdgeSpecs SS LCP SEG SRT) (grow : Nat → Nat → Nat) (fuelE : Nat)
    (hfE : 2147483648 ≤ fuelE) (extra fuel : Nat) (hfuel : bc.bufferSize + 2147483647 + 5 ≤ fuel)
    (raw : Cfg) (p0 : Parser) (h0 : newParser .OSAP raw = some p0) (ops : List GOpR) (t : Gen.optSuffixArrayParser)
    (sg : Parser × Ghost) (hS : SimO bc 2147483647 p0 t sg) (hwf : ∀ op ∈ ops, op.WF) :
    runO extra grow fuel (ceGo grow fuelE SS LCP SEG SRT) t ops = runO extra grow fuel (ceW grow fuelE SS LCP SEG SRT) t ops := by
  rw [runO_eq, runO_eq]
  exact GenHist.run_congr (stepO_sim hbc _ (cespec_go sp grow fuelE hfE) extra grow fuel hfuel raw p0 h0)
    (fun _ _ op h => stepO_go hbc grow fuelE extra fuel h.1.1 op) ops t sg hS hwf

theorem runO_go_init (cfg : Gen.OSAPConfig) (s0 : Gen.optSuffixArrayParser)
    (hinit : optSuffixArrayParser_init default cfg = Res.ok (s0, Gen.Err.ok))
    (h32 : s0.OSAPConfig.MinMatchLen < 4294967296) (sp : EdgeSpecs SS LCP SEG SRT)
    (grow : Nat → Nat → Nat) (fuelE : Nat) (hfE : 2147483648 ≤ fuelE) (extra fuel : Nat)
    (hfuel : s0.ParserBuffer.BufConfig.BufferSize.toNat + 2147483647 + 5 ≤ fuel)
    (ops : List GOpR) (hwf : ∀ op ∈ ops, op.WF) :
    runO extra grow fuel (ceGo grow fuelE SS LCP SEG SRT) s0 ops = runO extra grow fuel (ceW grow fuelE SS LCP SEG SRT) s0 ops := by
  obtain ⟨p, hp, -, hbc, hS, hf⟩ := init_sim 2147483647 cfg s0 hinit h32 fuel hfuel
  exact runO_go hbc sp grow fuelE hfE extra fuel hf (ofOSAP cfg) p hp ops s0 _ hS hwf

/-- `gen_osap_history` with the translated `computeEdges`: every operation of the history is translated Go text of
    osap.go / parser_buffer.go; hypotheses: `EdgeSpecs` (callees outside osap.go), init returned nil, `MinMatchLen < 2^32`,
    fuel `BufferSize + 2^31 + 4` for `Parse` and `2^31` for `computeEdges`. -/
theorem gen_osap_history_ce_go (cfg : Gen.OSAPConfig) (s0 : Gen.optSuffixArrayParser)
    (hinit : optSuffixArrayParser_init default cfg = Res.ok (s0, Gen.Err.ok))
    (h32 : s0.OSAPConfig.MinMatchLen < 4294967296) (sp : EdgeSpecs SS LCP SEG SRT)
    (grow : Nat → Nat → Nat) (fuelE : Nat) (hfE : 2147483648 ≤ fuelE) (extra fuel : Nat)
    (hfuel : s0.ParserBuffer.BufConfig.BufferSize.toNat + 2147483647 + 5 ≤ fuel)
    (ops : List GOpR) (hwf : ∀ op ∈ ops, op.WF) :
    ∃ p t rs, newParser .OSAP (ofOSAP cfg) = some p ∧ ofOSAPs s0 = p ∧
      runO extra grow fuel (ceGo grow fuelE SS LCP SEG SRT) s0 ops = Res.ok (t, rs) ∧ ParseOKO 2147483647 t ∧
      ofOSAPs t = (runOps (p, Ghost.init) (ops.map GOpR.abs)).1 ∧
      ghostRunR Ghost.init ops rs = (runOps (p, Ghost.init) (ops.map GOpR.abs)).2 ∧
      ResultsAgreeR (p, Ghost.init) ops rs := by
  rw [runO_go_init cfg s0 hinit h32 sp grow fuelE hfE extra fuel hfuel ops hwf]
  exact gen_osap_history 2147483647 cfg s0 hinit h32 _ (cespec_go sp grow fuelE hfE) extra grow fuel hfuel ops hwf

/-- C01 about the Go text of OSAP, `computeEdges` translated -/
theorem C01_go_text_osap_ce_go (cfg : Gen.OSAPConfig) (s0 : Gen.optSuffixArrayParser)
    (hinit : optSuffixArrayParser_init default cfg = Res.ok (s0, Gen.Err.ok))
    (h32 : s0.OSAPConfig.MinMatchLen < 4294967296) (sp : EdgeSpecs SS LCP SEG SRT)
    (grow : Nat → Nat → Nat) (fuelE : Nat) (hfE : 2147483648 ≤ fuelE) (extra fuel : Nat)
    (hfuel : s0.ParserBuffer.BufConfig.BufferSize.toNat + 2147483647 + 5 ≤ fuel)
    (ops : List GOpR) (hwf : ∀ op ∈ ops, op.WF) :
    ∃ t rs, runO extra grow fuel (ceGo grow fuelE SS LCP SEG SRT) s0 ops = Res.ok (t, rs) ∧
      decode [] (ghostRunR Ghost.init ops rs).log =
        some ((ghostRunR Ghost.init ops rs).fed.take (ghostRunR Ghost.init ops rs).consumed) := by
  rw [runO_go_init cfg s0 hinit h32 sp grow fuelE hfE extra fuel hfuel ops hwf]
  exact C01_go_text_osap 2147483647 cfg s0 hinit h32 _ (cespec_go sp grow fuelE hfE) extra grow fuel hfuel ops hwf

/-- C02 about the Go text of OSAP, `computeEdges` translated -/
theorem C02_go_text_osap_ce_go (cfg : Gen.OSAPConfig) (s0 : Gen.optSuffixArrayParser)
    (hinit : optSuffixArrayParser_init default cfg = Res.ok (s0, Gen.Err.ok))
    (h32 : s0.OSAPConfig.MinMatchLen < 4294967296) (sp : EdgeSpecs SS LCP SEG SRT)
    (grow : Nat → Nat → Nat) (fuelE : Nat) (hfE : 2147483648 ≤ fuelE) (extra fuel : Nat)
    (hfuel : s0.ParserBuffer.BufConfig.BufferSize.toNat + 2147483647 + 5 ≤ fuel)
    (ops : List GOpR) (hwf : ∀ op ∈ ops, op.WF) :
    ∃ t rs, runO extra grow fuel (ceGo grow fuelE SS LCP SEG SRT) s0 ops = Res.ok (t, rs) ∧
      LogAll (fun pos e => ∀ n fl blk, e = .block n fl blk →
        SeqsAll (SeqWF s0.ParserBuffer.BufConfig.WindowSize.toNat s0.OSAPConfig.MinMatchLen.toNat) pos blk.seqs ∧
        litSum blk.seqs ≤ blk.lits.length) 0 (ghostRunR Ghost.init ops rs).log := by
  rw [runO_go_init cfg s0 hinit h32 sp grow fuelE hfE extra fuel hfuel ops hwf]
  exact C02_go_text_osap 2147483647 cfg s0 hinit h32 _ (cespec_go sp grow fuelE hfE) extra grow fuel hfuel ops hwf

/-- C03 about the Go text of OSAP, `computeEdges` translated -/
theorem C03_go_text_osap_ce_go (cfg : Gen.OSAPConfig) (s0 : Gen.optSuffixArrayParser)
    (hinit : optSuffixArrayParser_init default cfg = Res.ok (s0, Gen.Err.ok))
    (h32 : s0.OSAPConfig.MinMatchLen < 4294967296) (sp : EdgeSpecs SS LCP SEG SRT)
    (grow : Nat → Nat → Nat) (fuelE : Nat) (hfE : 2147483648 ≤ fuelE) (extra fuel : Nat)
    (hfuel : s0.ParserBuffer.BufConfig.BufferSize.toNat + 2147483647 + 5 ≤ fuel)
    (ops : List GOpR) (hwf : ∀ op ∈ ops, op.WF) :
    ∃ t rs, runO extra grow fuel (ceGo grow fuelE SS LCP SEG SRT) s0 ops = Res.ok (t, rs) ∧
      let g := ghostRunR Ghost.init ops rs
      LogAll (fun pos e => 1 ≤ e.n ∧ e.n ≤ s0.ParserBuffer.BufConfig.BlockSize.toNat ∧
        pos + e.n ≤ g.fed.length ∧
        ∀ n fl blk, e = .block n fl blk →
          blk.len = n ∧ expand (g.fed.take pos) blk = some (g.fed.take (pos + n)) ∧
          (fl % 2 = 1 → blk.seqs ≠ [] → blk.lits.length = litSum blk.seqs ∧ n = seqsSpan blk.seqs)) 0 g.log ∧
      logSpan g.log = g.consumed ∧ g.consumed ≤ g.fed.length := by
  rw [runO_go_init cfg s0 hinit h32 sp grow fuelE hfE extra fuel hfuel ops hwf]
  exact C03_go_text_osap 2147483647 cfg s0 hinit h32 _ (cespec_go sp grow fuelE hfE) extra grow fuel hfuel ops hwf

/-- C11 about the Go text of OSAP, `computeEdges` translated: the statement of `C11_go_text_osap` with the translated
    `computeEdges` as the callee of the history and of the final `Parse`. -/
theorem C11_go_text_osap_ce_go (cfg : Gen.OSAPConfig) (s0 : Gen.optSuffixArrayParser)
    (hinit : optSuffixArrayParser_init default cfg = Res.ok (s0, Gen.Err.ok))
    (h32 : s0.OSAPConfig.MinMatchLen < 4294967296) (sp : EdgeSpecs SS LCP SEG SRT)
    (grow : Nat → Nat → Nat) (fuelE : Nat) (hfE : 2147483648 ≤ fuelE) (extra fuel : Nat)
    (hfuel : s0.ParserBuffer.BufConfig.BufferSize.toNat + 2147483647 + 5 ≤ fuel)
    (ops : List GOpR) (hwf : ∀ op ∈ ops, op.WF) (blk : Gen.Block') (flags : Int) (hfl : 0 ≤ flags)
    (hev : flags % 2 = 0) :
    ∃ t rs t' blk' n e, runO extra grow fuel (ceGo grow fuelE SS LCP SEG SRT) s0 ops = Res.ok (t, rs) ∧
      optSuffixArrayParser_Parse grow fuel (ceGo grow fuelE SS LCP SEG SRT) t blk flags = Res.ok (t', blk', n, e) ∧
      (blockLen t ≠ 0 →
        let W := t.ParserBuffer.W.toNat
        let p := t.ParserBuffer.Data.data.take (W + blockLen t)
        let ws := t.ParserBuffer.BufConfig.WindowSize.toNat
        let mm := t.OSAPConfig.MinMatchLen.toNat
        let mx := t.OSAPConfig.MaxMatchLen.toNat
        n = (blockLen t : Int) ∧ e = Gen.Err.ok ∧
        ∃ π, Sap.LzParse p W ws mm mx (blockLen t) π ∧ ofBlock blk' = renderPath p W π ∧
          Sap.blockCost (ofBlock blk') = Sap.pathCost π ∧
          ∀ π', Sap.LzParse p W ws mm mx (blockLen t) π' → Sap.pathCost π ≤ Sap.pathCost π') := by
  obtain ⟨t, rs, t', blk', n, e, k1, k2, k3⟩ := C11_go_text_osap 2147483647 cfg s0 hinit h32 _ (cespec_go sp grow fuelE hfE)
    extra grow fuel hfuel ops hwf blk flags hfl hev
  obtain ⟨p, t2, rs2, hp, h2, j1, hbc, -, ⟨⟨j2, -⟩, -⟩, -⟩ := gen_osap_history_inv 2147483647 cfg s0 hinit h32 _ (cespec_go sp grow fuelE hfE)
    extra grow fuel hfuel ops hwf
  rw [k1] at j1
  injection j1 with j1
  injection j1 with j1 _
  subst j1
  refine ⟨t, rs, t', blk', n, e, ?_, ?_, k3⟩
  · rw [runO_go_init cfg s0 hinit h32 sp grow fuelE hfE extra fuel hfuel ops hwf]; exact k1
  · rw [parse_congr grow fuel _ _ t (ceW_eq hbc grow fuelE j2)]; exact k2

end

end LZ.GenOSAPHist

#print axioms LZ.GenOSAPHist.cespec_go_small
#print axioms LZ.GenOSAPHist.cespec_go
#print axioms LZ.GenOSAPHist.runO_go
#print axioms LZ.GenOSAPHist.gen_osap_history_ce_go
#print axioms LZ.GenOSAPHist.C01_go_text_osap_ce_go
#print axioms LZ.GenOSAPHist.C02_go_text_osap_ce_go
#print axioms LZ.GenOSAPHist.C03_go_text_osap_ce_go
#print axioms LZ.GenOSAPHist.C11_go_text_osap_ce_go
