/-
  LzProofs.GenHPHist — `ParseOK` (GenHPParse) as an INVARIANT of the translated operations of the hash
  parser HP, operation by operation.  No sorry, no axioms of its own.

  Subject: the functions `tools/extract` regenerates from the Go text
      hp.go               hashParser.Parse                 Gen.hashParser_Parse       (CodeHPParse)
      hash.go             hashDictionary.Reset / Shrink    Gen.hashDictionary_Reset / _Shrink (CodeHashDict)
      parser_buffer.go    ParserBuffer.Write               Gen.ParserBuffer_Write     (CodePBuf)
  `Write`, `Reset`, `Shrink` of a `*hashParser` are the PROMOTED methods of the embedded `hashDictionary` /
  `ParserBuffer` (hp.go declares only `init`, `Parse`, `ParserConfig`; hash.go declares `Reset`, `Shrink`,
  `processSegment`); a promoted call `s.M(x)` is `(&s.field).M(x)`, here: the translated function on the embedded
  field followed by a record update (`hp_Write`, `hp_Reset`, `hp_Shrink` below — three lines each, the same
  shape the translator itself emits for the promoted call `s.processSegment(…)` inside `Parse`).
  `ParserBuffer.ReadFrom` and `Parse(nil)` are not operations here: LzProofs/GenHPHistRF.lean, GenHPHistRF2.lean
  (the translated `ParserBuffer_ReadFrom`) and GenHPHistNil.lean (`hashParser_Parse_nilable`).

  Invariant `HistOK bc t` on the GENERATED state `t : Gen.hashParser`: `ParseOK t`, the buffer configuration is
  `bc`, `len(Data) ≤ BufferSize`, the capacity invariant `CapOK` (empty or 7 spare bytes), `InputLen ≤ 8`.
  `BCOK bc`: `BufferSize, WindowSize ≤ 2^32 - 8` (what `BufConfig.Verify` enforces).

  Results (each for every growth policy of `append`, every state with `HistOK`; stated as `WriteRel` / `ShrinkRel` /
  `ResetRel` / `ParseRel` (LzProofs/GenHistBuf.lean) of the relation `FRel (HistOK bc) ofHPs`: the Go state satisfies
  `HistOK bc` and abstracts by `ofHPs` to the model state; `Write` through `bufHost`, the buffer embedded in the state):
    hist_write   `hp_Write` does not panic, returns the model's `(n, err)`, abstracts to `Parser.write`, keeps `HistOK`
    hist_shrink  `hp_Shrink` …  `Parser.shrink`    (the hypotheses `hw`, `hW` of `gen_hp_shrink` follow from `HistOK`)
    hist_reset   `hp_Reset`  …  `Parser.reset`     for every Go slice `data` (`len ≤ cap`)
    hist_parse   `hashParser_Parse` … `Parser.parse` for `flags ≥ 0`, `fuel ≥ len(Data) + 3`; the block returned
                 ABSTRACTS (`ofBlock`: fields as natural numbers) to the model's block — the `uint32` conversions of
                 `Seq{LitLen, MatchLen, Offset}` lose nothing because every length is `< 2^32`
    hist_init    `hashParser.init` on `new(hashParser)` with an accepted configuration establishes `HistOK`
  The history-level statements are in LzProofs/GenHPHistRun.lean.
-/
import LzProofs.GenHistBuf

set_option linter.unusedSimpArgs false
set_option linter.unusedVariables false

namespace LZ.GenHPHist
open LZ LZ.Gen LZ.GenBuf LZ.GenHash LZ.GenHPParse LZ.GenProps
open LZ.GenHist (ofBlock_rep FRel WriteRel ParseRel ShrinkRel ResetRel BufHost)

/-! ## the promoted methods -/

/-- `s.Write(p)` for `s *hashParser`: `ParserBuffer.Write` on the embedded buffer -/
def hp_Write (grow : Nat → Nat → Nat) (s : Gen.hashParser) (p : Slice) : Res (Gen.hashParser × Int × Gen.Err) :=
  Res.bind (ParserBuffer_Write grow s.hashDictionary.ParserBuffer p) fun r =>
  Res.ok ({ s with hashDictionary := { s.hashDictionary with ParserBuffer := r.1 } }, r.2.1, r.2.2)

/-- `s.Reset(data)` for `s *hashParser`: `hashDictionary.Reset` on the embedded dictionary -/
def hp_Reset (s : Gen.hashParser) (data : Slice) : Res (Gen.hashParser × Gen.Err) :=
  Res.bind (hashDictionary_Reset s.hashDictionary data) fun r =>
  Res.ok ({ s with hashDictionary := r.1 }, r.2)

/-- `s.Shrink()` for `s *hashParser`: `hashDictionary.Shrink` on the embedded dictionary -/
def hp_Shrink (s : Gen.hashParser) : Res (Gen.hashParser × Int) :=
  Res.bind (hashDictionary_Shrink s.hashDictionary) fun r =>
  Res.ok ({ s with hashDictionary := r.1 }, r.2)

/-! ## the invariant -/

/-- what `BufConfig.Verify` enforces and the proofs below use -/
structure BCOK (bc : BufCfg) : Prop where
  bmax : bc.bufferSize ≤ 4294967288
  wmax : bc.windowSize ≤ 4294967288

structure HistOK (bc : BufCfg) (t : Gen.hashParser) : Prop where
  pok : ParseOK t
  cfg : ofCfg t.hashDictionary.ParserBuffer.BufConfig = bc
  len : t.hashDictionary.ParserBuffer.Data.len ≤ bc.bufferSize
  cap : (ofPB t.hashDictionary.ParserBuffer).CapOK
  il8 : t.HPConfig.InputLen.toNat ≤ 8

theorem HistOK.buf {bc : BufCfg} {t : Gen.hashParser} (h : HistOK bc t) : GenHist.BufOK bc (ofHPs t).buf :=
  GenHist.BufOK.ofGo h.pok.wf.1 h.cfg h.pok.w h.len h.cap

/-- the bounds on `InputLen` as the model's parsers ask for them -/
theorem HistOK.dictOK {bc : BufCfg} {t : Gen.hashParser} (h : HistOK bc t) :
    ProbeW.HashDictOK (ofHPs t).dict ∧ 1 ≤ (ofHPs t).minMatch ∧ (ofHPs t).minMatch ≤ 8 := by
  have hil1 := h.pok.il1
  have hcil := h.pok.cil
  have hil8 := h.il8
  show (1 ≤ t.hashDictionary.hash.inputLen.toNat ∧ t.hashDictionary.hash.inputLen.toNat ≤ 8) ∧
    1 ≤ Min.min 3 t.HPConfig.InputLen.toNat ∧ Min.min 3 t.HPConfig.InputLen.toNat ≤ 8
  omega

theorem hash_same {g' g : Gen.hash} (hw' : HashWF g') (hw : HashWF g)
    (hil : (ofHash g').inputLen = (ofHash g).inputLen) (hhb : (ofHash g').hashBits = (ofHash g).hashBits) :
    g'.inputLen = g.inputLen ∧ g'.shift.toNat = g.shift.toNat := by
  have a : g'.inputLen.toNat = g.inputLen.toNat := hil
  have b : 64 - g'.shift.toNat = 64 - g.shift.toNat := hhb
  have := hw'.2.1
  have := hw.2.1
  have := hw'.2.2.2.1
  have := hw.2.2.2.1
  omega

/-- `HistOK` after an operation that replaced the embedded dictionary: what has to be known about the new one -/
theorem histOK_update {bc : BufCfg} (hbc : BCOK bc) {t : Gen.hashParser} (h : HistOK bc t)
    (f' : Gen.hashDictionary) (hwf : DictWF f')
    (hil : (ofHash f'.hash).inputLen = (ofHash t.hashDictionary.hash).inputLen)
    (hhb : (ofHash f'.hash).hashBits = (ofHash t.hashDictionary.hash).hashBits)
    (hb : GenHist.BufOK bc (ofPB f'.ParserBuffer)) :
    HistOK bc { t with hashDictionary := f' } := by
  obtain ⟨hw, hlen⟩ := hb.go hwf.1
  obtain ⟨ei, es⟩ := hash_same hwf.2 h.pok.wf.2 hil hhb
  have hc : ofCfg f'.ParserBuffer.BufConfig = ofCfg t.hashDictionary.ParserBuffer.BufConfig := hb.cfg.trans h.cfg.symm
  exact ⟨⟨hwf, h.pok.cws.trans (congrArg BufCfg.windowSize hc).symm, h.pok.cbs.trans (congrArg BufCfg.blockSize hc).symm,
    ei ▸ h.pok.cil, h.pok.bs0, hw, ei ▸ h.pok.il1, es ▸ h.pok.sh,
    Nat.lt_of_le_of_lt (Nat.le_trans hlen hbc.bmax) (by decide)⟩, hb.cfg, hlen, hb.cap, h.il8⟩

/-- a Go slice is its data, the bytes behind its length, and nothing else -/
theorem slice_ext (a b : Slice) (ha : SWF a) (hb : SWF b) (hd : a.data = b.data)
    (hs : a.arr.drop a.len = b.arr.drop b.len) : a = b := by
  have la : a.data.length = a.len := data_length ha
  have lb : b.data.length = b.len := data_length hb
  have hl : a.len = b.len := by rw [← la, ← lb, hd]
  have harr : a.arr = b.arr := by
    rw [← List.take_append_drop a.len a.arr, ← List.take_append_drop b.len b.arr]
    rw [hs]
    show a.data ++ _ = b.data ++ _
    rw [hd]
  cases a; cases b
  simp only at hl harr
  subst hl harr
  rfl

/-! ## Write -/

/-- the Go state holds its `ParserBuffer` inside the embedded dictionary -/
def bufHost {bc : BufCfg} (hbc : BCOK bc) : BufHost bc (FRel (HistOK bc) ofHPs) where
  pb t := t.hashDictionary.ParserBuffer
  setPB t b := { t with hashDictionary := { t.hashDictionary with ParserBuffer := b } }
  get := fun ⟨h, e⟩ => ⟨h.pok.wf.1, h.buf, e ▸ rfl⟩
  put := fun {t m} b' ⟨h, e⟩ hwf hb _ _ =>
    ⟨histOK_update hbc h { t.hashDictionary with ParserBuffer := b' } ⟨hwf, h.pok.wf.2⟩ rfl rfl hb, e ▸ rfl⟩

theorem hist_write {bc : BufCfg} (hbc : BCOK bc) (grow : Nat → Nat → Nat) :
    WriteRel (FRel (HistOK bc) ofHPs) (hp_Write grow) :=
  (bufHost hbc).write grow fun _ _ => rfl

/-! ## Shrink -/

theorem hist_shrink {bc : BufCfg} (hbc : BCOK bc) : ShrinkRel (FRel (HistOK bc) ofHPs) hp_Shrink := by
  rintro t _ ⟨h, rfl⟩
  have hW := h.pok.w
  have hS := h.pok.small
  have hss := h.pok.wf.1.ss
  obtain ⟨f', hf, hof, hwf⟩ := gen_hp_shrink .HP (ofHP t.HPConfig) t.hashDictionary h.pok.wf (by omega) (by omega)
  unfold hp_Shrink
  rw [hf]
  refine ⟨_, rfl, ?_, hof⟩
  obtain ⟨h', hd', hi', hb'⟩ := Parser.single_kept (ofHPs t) .shrink (ofHash t.hashDictionary.hash) rfl
  have hdict : Dict.single (ofHash f'.hash) = Dict.single h' := (congrArg Parser.dict hof).trans hd'
  injection hdict with hdict
  have hbuf : ofPB f'.ParserBuffer = (ofHPs t).shrink.1.buf := congrArg Parser.buf hof
  exact histOK_update hbc h f' hwf (by rw [hdict]; exact hi') (by rw [hdict]; exact hb') (hbuf ▸ h.buf.pshrink)

/-! ## Reset -/

theorem hist_reset {bc : BufCfg} (hbc : BCOK bc) : ResetRel (FRel (HistOK bc) ofHPs) hp_Reset := by
  rintro t _ data ⟨h, rfl⟩ hdat
  obtain ⟨f', e, hf, hof, herr, hwf⟩ := gen_hp_reset .HP (ofHP t.HPConfig) t.hashDictionary h.pok.wf data hdat
  unfold hp_Reset
  rw [hf]
  refine ⟨_, e, rfl, ⟨?_, hof⟩, herr⟩
  obtain ⟨h', hd', hi', hb'⟩ := Parser.single_kept (ofHPs t) (.reset data.data (data.cap - data.len)) (ofHash t.hashDictionary.hash) rfl
  have hdict : Dict.single (ofHash f'.hash) = Dict.single h' := (congrArg Parser.dict hof).trans hd'
  injection hdict with hdict
  have hbuf : ofPB f'.ParserBuffer = ((ofHPs t).reset data.data (data.cap - data.len)).1.buf := congrArg Parser.buf hof
  exact histOK_update hbc h f' hwf (by rw [hdict]; exact hi') (by rw [hdict]; exact hb') (hbuf ▸ h.buf.preset _ _)

/-! ## Parse -/

/-- the facts about one model `parse` the simulation uses, for a parser with a greedy dictionary on a buffer with `BufOK`
    whose sizes are at most `2^32 - 8`: the configuration stays, the buffer keeps `BufOK` (only `W` moves), the error is
    `ok` or `empty`, and a Go block that renders the model's block (`seqRep`: the fields as `uint32`) abstracts back to it -/
theorem mparse_hist {bc : BufCfg} (s : Parser) (flags : Nat) (hb : GenHist.BufOK bc s.buf) (hmm : 1 ≤ s.minMatch)
    (hnot : ∀ o, s.dict ≠ .osap o) (hbm : bc.bufferSize ≤ 4294967288) (hwm : bc.windowSize ≤ 4294967288) :
    (s.parse flags).1.cfg = s.cfg ∧ GenHist.BufOK bc (s.parse flags).1.buf ∧
    ((s.parse flags).2.2.1 = .ok ∨ (s.parse flags).2.2.1 = .empty) ∧
    ∀ blk' : Gen.Block', blk'.Sequences = (s.parse flags).2.2.2.seqs.map seqRep →
      blk'.Literals.data = (s.parse flags).2.2.2.lits → ofBlock blk' = (s.parse flags).2.2.2 := by
  by_cases hn : s.blockN = 0
  · rw [Parser.parse_empty s flags hn]
    exact ⟨rfl, hb, Or.inr rfl, fun blk' h5 h6 => ofBlock_rep h5 h6 fun q hq => nomatch hq⟩
  · obtain ⟨s', n, blk, hp, hok, -⟩ :=
      Parser.parse_greedy_ok s flags hb.w hn hmm (Parser.marginOK_of_cap s hb.cap hn) hnot
    rw [hp]
    exact ⟨hok.cfg, hok.buf ▸ hb.setW _ (hok.w_le hb.w), Or.inl rfl, fun blk' h5 h6 => ofBlock_rep h5 h6
      (hok.seqs_fit hb.w (fun _ _ h => h.1) (Nat.le_trans hb.len hbm) (by rw [hb.cfg]; exact hwm))⟩

theorem hist_parse {bc : BufCfg} (hbc : BCOK bc) (grow : Nat → Nat → Nat) (fuel : Nat)
    (hfuel : bc.bufferSize + 3 ≤ fuel) :
    ParseRel (FRel (HistOK bc) ofHPs) (fun _ => True) (hashParser_Parse grow fuel) := by
  rintro t _ blk flags ⟨h, rfl⟩ - hfl
  have hfuel : t.hashDictionary.ParserBuffer.Data.len + 3 ≤ fuel := Nat.le_trans (Nat.add_le_add_right h.len 3) hfuel
  obtain ⟨hd, hm1, hm8⟩ := h.dictOK
  have hW := ProbeW.parseW_eq (ofHPs t) (staleOf t) flags.toNat h.buf.w h.pok.backing h.cap hd hm8
  have hnot : ∀ o, (ofHPs t).dict ≠ .osap o := by intro o ho; cases ho
  obtain ⟨f1, f2, -, f4⟩ := mparse_hist (ofHPs t) flags.toNat h.buf hm1 hnot hbc.bmax hbc.wmax
  have hm := gen_hp_parse grow fuel t blk flags h.pok hfl hfuel
  rw [hW] at hm
  generalize (ofHPs t).parse flags.toNat = R at hm f1 f2 f4 ⊢
  obtain ⟨t', blk', h1, h2, h3, h4, h5, h6, h7, h8⟩ := hm
  refine ⟨t', blk', h1, ⟨?_, h2⟩, f4 blk' h5 h6, h7, h4⟩
  rw [← h2] at f1 f2
  have hHP : t'.HPConfig = t.HPConfig := by
    have := congrArg toHP (show ofHP t'.HPConfig = ofHP t.HPConfig from f1)
    rw [toHP_ofHP, toHP_ofHP] at this; exact this
  have hb : GenHist.BufOK bc (ofPB t'.hashDictionary.ParserBuffer) := f2
  exact ⟨h8, hb.cfg, data_length h8.wf.1.data ▸ hb.len, hb.cap, by rw [hHP]; exact h.il8⟩

/-! ## init -/

/-- what `NewParser` guarantees of the parser it returns: it is the fresh parser of a verified configuration `c`, whose
    buffer sizes are within `BCOK` -/
theorem newParser_fresh (k : Kind) (raw : Cfg) (p : Parser) (hp : newParser k raw = some p) :
    BCOK p.buf.cfg ∧ ∃ c, verify k c = true ∧ p.cfg = c ∧ p.buf = PBuf.init c.bufCfg ∧ p.dict = freshDict k c := by
  obtain ⟨hv, rfl⟩ := newParser_eq_some hp
  generalize setDefaults k (raw.restrict k) = c at hv ⊢
  have hbv := verify_buf k c hv
  simp only [bufVerify, Facts.maxUint32, Facts.margin] at hbv
  replace hbv := of_decide_eq_true hbv
  obtain ⟨⟨_, a⟩, _, ⟨_, b⟩, _⟩ := hbv
  exact ⟨⟨by show c.bufferSize.toNat ≤ _; omega, by show c.windowSize.toNat ≤ _; omega⟩, c, hv, rfl, rfl, rfl⟩

/-- `hashParser.init(cfg)` on `new(hashParser)`: if it returns `nil`, the configuration is one the model's `NewParser`
    accepts, the Go state abstracts to the model's fresh parser, and `HistOK` holds for its buffer configuration -/
theorem hist_init (cfg : Gen.HPConfig) (s0 : Gen.hashParser)
    (hinit : hashParser_init default cfg = Res.ok (s0, Gen.Err.ok)) :
    ∃ p, newParser .HP (ofHP cfg) = some p ∧ ofHPs s0 = p ∧ BCOK p.buf.cfg ∧ HistOK p.buf.cfg s0 := by
  have hg := gen_hp_init default (ofHP cfg) (by unfold GWF; exact Nat.le_refl 0)
  rw [toHP_ofHP] at hg
  cases hp : newParser .HP (ofHP cfg) with
  | none =>
    rw [hp] at hg
    obtain ⟨e, he, hne⟩ := hg
    rw [hinit] at he
    injection he with he
    injection he with _ he
    exact absurd he.symm hne
  | some p =>
    obtain ⟨s', h1, h2, h3⟩ := gen_hp_init_parseOK (ofHP cfg) p hp
    rw [toHP_ofHP, hinit] at h1
    injection h1 with h1
    injection h1 with h1 _
    subst h1
    subst h2
    obtain ⟨hBC, c, hv, hcf, hbuf, -⟩ := newParser_fresh .HP _ _ hp
    have hil8 := (verify_hash_bounds (.inl rfl) hv).2.1
    have hI : s0.HPConfig.InputLen = c.inputLen := congrArg Cfg.inputLen hcf
    refine ⟨_, rfl, rfl, hBC, h3, rfl, ?_, Or.inl (congrArg PBuf.data hbuf), ?_⟩
    · rw [(fresh_pbuf (cap := 0) h3.wf.1 hbuf).2.2.2]; exact Nat.zero_le _
    · rw [hI]; omega

end LZ.GenHPHist

#print axioms LZ.GenHPHist.hist_write
#print axioms LZ.GenHPHist.hist_shrink
#print axioms LZ.GenHPHist.hist_reset
#print axioms LZ.GenHPHist.hist_parse
#print axioms LZ.GenHPHist.hist_init
