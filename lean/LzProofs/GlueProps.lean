/-
  C11 and the OSAP clauses of C01/C02/C03/C14 over the histories of the parser
  topic (`LZ.POp`, `LZ.runOps`, with ghost state), without named hypotheses.

  The hypothesis `ComputeEdgesSound` of the parser topic (`HistHyp`) is discharged from the
  suffix-array theorems through GlueSuffix.lean; the two notions of history (`LZ.runOps` and
  `LZ.Sap.runOps`) are connected by `runOps_toSap`.
-/
import LzProofs.GlueLemmas
import LzProofs.GlueSuffix
import LzProofs.ParseProps
namespace LZ

/-! ## `CEHyps` -/

/-- `CEHyps` holds for every buffer of at most `MaxInt32` bytes (any window head, window size,
    `MinMatchLen`, `MaxMatchLen`) — the D18 bound: `Segments` refuses `maxLen > MaxInt32`. -/
theorem ceHyps_holds (data : List Byte) (w ws mm maxM : Nat) (hlen : data.length ≤ 2147483647) :
    Sap.CEHyps data w ws mm maxM :=
  Sap.ceHyps_holds data w ws mm maxM hlen

/-- … and for every buffer whatsoever when `MaxMatchLen ≤ MaxInt32` -/
theorem ceHyps_holds_maxMatch (data : List Byte) (w ws mm maxM : Nat) (hmax : maxM ≤ 2147483647) :
    Sap.CEHyps data w ws mm maxM :=
  Sap.ceHyps_holds_maxMatch data w ws mm maxM hmax

/-! ## C11 -/

/-- C11, unconditional.  Start from a new OSAP parser whose configuration has
    `BufferSize ≤ MaxInt32` or `MaxMatchLen ≤ MaxInt32` (`Sap.Int32OK`, the D18 bound), apply any
    sequence of `Write`, `ReadFrom`, `Parse(&blk, flags)`, `Parse(nil)`, `Shrink`, `Reset`; the
    next block emitted with flags 0 is an LZ77 parse of its bytes (lengths in
    `[MinMatchLen, MaxMatchLen]`, offsets `≤ WindowSize`, sources in the buffer) and costs no
    more (`XZCost`) than any such parse. -/
theorem C11_optimal_unconditional (raw : Cfg) (s0 : Parser)
    (h0 : newParser .OSAP raw = some s0) (hb : Sap.Int32OK s0)
    (ops : List Sap.POp) (flags : Nat) (hf : flags % 2 = 0)
    (hn : (Sap.runOps s0 ops).blockN ≠ 0) :
    let s := Sap.runOps s0 ops
    ∃ o, s.dict = .osap o ∧
      Sap.LzParse (s.buf.data.take (s.buf.w + s.blockN)) s.buf.w s.buf.cfg.windowSize
        s.minMatch s.cfg.maxMatchLen.toNat s.blockN (Sap.osapPath s o) ∧
      ∀ π, Sap.LzParse (s.buf.data.take (s.buf.w + s.blockN)) s.buf.w s.buf.cfg.windowSize
          s.minMatch s.cfg.maxMatchLen.toNat s.blockN π →
        Sap.blockCost (s.parse flags).2.2.2 ≤ Sap.pathCost π :=
  Sap.C11_optimal_unconditional raw s0 h0 hb ops flags hf hn

/-! ## the hypothesis `ComputeEdgesSound` of the parser topic -/

/-- `ComputeEdgesSound` holds for all window sizes, `MinMatchLen`, `MaxMatchLen` and all
    buffers (no length bound: when `Segments` would refuse its arguments, `computeEdges` stores
    no edge at all): every edge `computeEdges` stores for a position of a block behind the window
    head is a genuine match inside the window. -/
theorem computeEdgesSound_holds (ws mm mx : Nat) : ComputeEdgesSound ws mm mx :=
  fun data w _ _ hw hn => Sap.computeEdges_sound_holds data w ws mm mx hw hn

theorem histHyp_holds (k : Kind) (s0 : Parser) : HistHyp k s0 :=
  fun _ => computeEdgesSound_holds _ _ _

/-- The history invariant of the parser topic holds after any sequence of operations on a parser
    created by `NewParser` — for all seven kinds (for OSAP, `history_inv` is relative to
    `ComputeEdgesSound`). -/
theorem history_inv_all (k : Kind) (raw : Cfg) (s0 : Parser) (h0 : newParser k raw = some s0)
    (ops : List POp) : Inv k s0.cfg s0.buf.cfg (runOps (s0, Ghost.init) ops) :=
  history_inv k raw s0 h0 (histHyp_holds k s0) ops

/-- C01 for OSAP at history level, unconditional: decoding the log of all blocks emitted since
    the last Reset (skipped segments contribute their bytes verbatim) with the reference expander
    yields exactly the consumed prefix of the bytes fed since that Reset — for every input, every
    accepted OSAP configuration, every interleaving of Write, ReadFrom, Parse (both flags),
    Parse(nil), Shrink and Reset. -/
theorem C01_roundtrip_osap (raw : Cfg) (s0 : Parser) (h0 : newParser .OSAP raw = some s0)
    (ops : List POp) :
    let g := (runOps (s0, Ghost.init) ops).2
    decode [] g.log = some (g.fed.take g.consumed) :=
  C01_roundtrip .OSAP raw s0 h0 (histHyp_holds _ s0) ops

/-- C02 for OSAP at history level, unconditional: every sequence of every emitted block has
    `1 ≤ Offset ≤ WindowSize`, `Offset ≤` number of stream bytes since the last Reset that precede
    the match, `MatchLen ≥ MinMatchLen`, `Aux = 0`; and the `LitLen`s of a block do not exceed its
    literals. -/
theorem C02_wellformed_osap (raw : Cfg) (s0 : Parser) (h0 : newParser .OSAP raw = some s0)
    (ops : List POp) :
    let g := (runOps (s0, Ghost.init) ops).2
    LogAll (fun pos e => ∀ n fl blk, e = .block n fl blk →
      SeqsAll (SeqWF s0.buf.cfg.windowSize (mmOf .OSAP s0.cfg)) pos blk.seqs ∧
      litSum blk.seqs ≤ blk.lits.length) 0 g.log :=
  C02_wellformed .OSAP raw s0 h0 (histHyp_holds _ s0) ops

/-- C03 for OSAP at history level, unconditional: the events tile the consumed stream without
    gap or overlap (see `C03_contiguous`). -/
theorem C03_contiguous_osap (raw : Cfg) (s0 : Parser) (h0 : newParser .OSAP raw = some s0)
    (ops : List POp) :
    let sg := runOps (s0, Ghost.init) ops
    LogAll (fun pos e => 1 ≤ e.n ∧ e.n ≤ s0.buf.cfg.blockSize ∧ pos + e.n ≤ sg.2.fed.length ∧
      ∀ n fl blk, e = .block n fl blk →
        blk.len = n ∧ expand (sg.2.fed.take pos) blk = some (sg.2.fed.take (pos + n)) ∧
        (fl % 2 = 1 → blk.seqs ≠ [] →
          blk.lits.length = litSum blk.seqs ∧ n = seqsSpan blk.seqs)) 0 sg.2.log ∧
    logSpan sg.2.log = sg.2.consumed ∧
    sg.2.consumed = sg.1.buf.off + sg.1.buf.w ∧
    sg.2.consumed ≤ sg.2.fed.length :=
  C03_contiguous .OSAP raw s0 h0 (histHyp_holds _ s0) ops

/-- C14 for OSAP at history level, unconditional -/
theorem C14_skip_verbatim_osap (raw : Cfg) (s0 : Parser) (h0 : newParser .OSAP raw = some s0)
    (ops : List POp) :
    let g := (runOps (s0, Ghost.init) ops).2
    LogAll (fun pos e => ∀ b, e = .skip b →
      1 ≤ b.length ∧ b.length ≤ s0.buf.cfg.blockSize ∧ b = (g.fed.drop pos).take b.length) 0 g.log :=
  C14_skip_verbatim .OSAP raw s0 h0 (histHyp_holds _ s0) ops

/-- the buffer of an OSAP parser always holds the tail of the stream -/
theorem stream_buffer_osap (raw : Cfg) (s0 : Parser) (h0 : newParser .OSAP raw = some s0)
    (ops : List POp) :
    let sg := runOps (s0, Ghost.init) ops
    ∃ dropped, sg.2.fed = dropped ++ sg.1.buf.data ∧ dropped.length = sg.1.buf.off :=
  stream_buffer .OSAP raw s0 h0 (histHyp_holds _ s0) ops

/-- C01 at history level for every kind at once, without side condition. -/
theorem C01_roundtrip_all_kinds (k : Kind) (raw : Cfg) (s0 : Parser) (h0 : newParser k raw = some s0)
    (ops : List POp) :
    let g := (runOps (s0, Ghost.init) ops).2
    decode [] g.log = some (g.fed.take g.consumed) :=
  C01_roundtrip k raw s0 h0 (histHyp_holds k s0) ops

/-! ### state level: `C01_osap_partial` without the hypothesis on the edge table -/

/-- C01 (and C02, C03) for one `Parse` call of OSAP, for every state whose stored edge table
    satisfies the history invariant `OsapOK` (it is empty, or it was computed by `computeEdges`
    for a prefix of the present buffer): the statement of `C01_osap_partial` with the hypothesis
    `EdgesSoundBlock` discharged. -/
theorem C01_osap (s : Parser) (flags : Nat) (o : OsapD) (hd : s.dict = .osap o)
    (hw : s.buf.w ≤ s.buf.data.length) (hmm : 1 ≤ s.minMatch) (hbs : 1 ≤ s.buf.cfg.blockSize)
    (hlt : s.buf.w < s.buf.data.length)
    (hO : OsapOK s.buf.data s.buf.w s.buf.cfg.windowSize s.cfg.maxMatchLen.toNat o) :
    ∃ s' n blk, s.parse flags = (s', n, .ok, blk) ∧
      s'.buf = { s.buf with w := s.buf.w + n } ∧
      1 ≤ n ∧ n ≤ s.buf.cfg.blockSize ∧ s.buf.w + n ≤ s.buf.data.length ∧
      expand (s.buf.data.take s.buf.w) blk = some (s.buf.data.take (s.buf.w + n)) ∧
      blk.len = n ∧
      SeqsAll (SeqWFmax s.buf.cfg.windowSize s.minMatch s.cfg.maxMatchLen.toNat) s.buf.w blk.seqs ∧
      litSum blk.seqs ≤ blk.lits.length :=
  C01_osap_partial s flags o hd hw hmm hbs hlt
    (OsapOK.next s o hw (computeEdgesSound_holds _ _ _) hO).1

/-- … in particular for every state reachable from `NewParser` by any history: with unparsed
    data, `Parse` of an OSAP parser returns a block that expands to the next `n` bytes, with
    well-formed sequences (`MinMatchLen ≤ MatchLen ≤ MaxMatchLen`, `1 ≤ Offset ≤ WindowSize`). -/
theorem C01_osap_reachable (raw : Cfg) (s0 : Parser) (h0 : newParser .OSAP raw = some s0)
    (ops : List POp) (flags : Nat) (o : OsapD)
    (hd : (runOps (s0, Ghost.init) ops).1.dict = .osap o)
    (hlt : (runOps (s0, Ghost.init) ops).1.buf.w < (runOps (s0, Ghost.init) ops).1.buf.data.length) :
    let s := (runOps (s0, Ghost.init) ops).1
    ∃ s' n blk, s.parse flags = (s', n, .ok, blk) ∧
      s'.buf = { s.buf with w := s.buf.w + n } ∧
      1 ≤ n ∧ n ≤ s.buf.cfg.blockSize ∧ s.buf.w + n ≤ s.buf.data.length ∧
      expand (s.buf.data.take s.buf.w) blk = some (s.buf.data.take (s.buf.w + n)) ∧
      blk.len = n ∧
      SeqsAll (SeqWFmax s.buf.cfg.windowSize s.minMatch s.cfg.maxMatchLen.toNat) s.buf.w blk.seqs ∧
      litSum blk.seqs ≤ blk.lits.length := by
  intro s
  have h := history_inv_all .OSAP raw s0 h0 ops
  obtain ⟨-, hmm, hbs⟩ := newParser_inv .OSAP raw s0 h0
  refine C01_osap s flags o hd h.hw ?_ ?_ hlt (h.dict.osap hd).2
  · rw [minMatch_eq, h.kind, h.cfg]; exact hmm
  · rw [h.bcfg]; exact hbs

/-! ## the two notions of history agree -/

/-- the operations of the parser topic (`LZ.POp`, with ghost state) and of the OSAP/GSAP topic
    (`LZ.Sap.POp`) are the same -/
def POp.toSap : POp → Sap.POp
  | .write p => .write p
  | .readFrom r => .readFrom r
  | .parse f => .parse f
  | .parseNil => .parseNil
  | .shrink => .shrink
  | .reset d c => .reset d c

theorem step_toSap (sg : Parser × Ghost) (op : POp) : (step sg op).1 = op.toSap.apply sg.1 :=
  (step_stepOut sg.1 sg.2 op).trans (by cases op <;> rfl)

/-- the parser state after a history does not depend on the ghost bookkeeping -/
theorem runOps_toSap (ops : List POp) : ∀ (sg : Parser × Ghost),
    (runOps sg ops).1 = Sap.runOps sg.1 (ops.map POp.toSap) := by
  induction ops with
  | nil => intro sg; rfl
  | cons op ops ih =>
    intro sg
    show (runOps (step sg op) ops).1 = Sap.runOps (op.toSap.apply sg.1) (ops.map POp.toSap)
    rw [ih, step_toSap]

/-- C11 over the histories of the parser topic (the same histories `C01_roundtrip_osap`,
    `C02_wellformed_osap`, `C03_contiguous_osap` speak about): after any history, the next block
    an OSAP parser emits with flags 0 is a minimum-cost LZ77 parse of its bytes. -/
theorem C11_optimal_history (raw : Cfg) (s0 : Parser)
    (h0 : newParser .OSAP raw = some s0) (hb : Sap.Int32OK s0)
    (ops : List POp) (flags : Nat) (hf : flags % 2 = 0)
    (hn : (runOps (s0, Ghost.init) ops).1.blockN ≠ 0) :
    let s := (runOps (s0, Ghost.init) ops).1
    ∃ o, s.dict = .osap o ∧
      Sap.LzParse (s.buf.data.take (s.buf.w + s.blockN)) s.buf.w s.buf.cfg.windowSize
        s.minMatch s.cfg.maxMatchLen.toNat s.blockN (Sap.osapPath s o) ∧
      ∀ π, Sap.LzParse (s.buf.data.take (s.buf.w + s.blockN)) s.buf.w s.buf.cfg.windowSize
          s.minMatch s.cfg.maxMatchLen.toNat s.blockN π →
        Sap.blockCost (s.parse flags).2.2.2 ≤ Sap.pathCost π :=
  Sap.C11_optimal_reachable h0 (reachable_runOps s0 ops) flags hf hn

/-! ## non-vacuity -/

example : Sap.CEHyps Sap.exData 2 8 2 4 := ceHyps_holds _ _ _ _ _ (by decide +kernel)

example := C11_optimal_unconditional Sap.glueOsapCfg Sap.glueOsap0 Sap.glueOsap0_new
  Sap.glueOsap0_int32 Sap.glueOps 0 rfl Sap.glueOps_blockN

/-- the history of the parser topic corresponding to `Sap.glueOps` -/
def glueOpsP : List POp :=
  [.write [97, 98, 97, 98, 97, 98], .parseNil, .shrink, .write [97, 98, 97, 98]]

example : glueOpsP.map POp.toSap = Sap.glueOps := rfl

theorem glueOpsP_lt : (runOps (Sap.glueOsap0, Ghost.init) glueOpsP).1.buf.w <
    (runOps (Sap.glueOsap0, Ghost.init) glueOpsP).1.buf.data.length := by decide +kernel

theorem glueOpsP_dict : (runOps (Sap.glueOsap0, Ghost.init) glueOpsP).1.dict = .osap OsapD.empty := by rfl

example := C01_osap_reachable Sap.glueOsapCfg Sap.glueOsap0 Sap.glueOsap0_new glueOpsP 0 _
  glueOpsP_dict glueOpsP_lt

example := C01_roundtrip_osap Sap.glueOsapCfg Sap.glueOsap0 Sap.glueOsap0_new glueOpsP
example (data : List Byte) (w ws mx : Nat) : OsapOK data w ws mx OsapD.empty := OsapOK.empty _ _ _ _

#print axioms Sap.saok_gsapSort
#print axioms ceHyps_holds
#print axioms ceHyps_holds_maxMatch
#print axioms C11_optimal_unconditional
#print axioms C11_optimal_history
#print axioms Sap.C12_longest_unconditional
#print axioms Sap.C12_literal_only_if_buffer
#print axioms computeEdgesSound_holds
#print axioms histHyp_holds
#print axioms history_inv_all
#print axioms C01_roundtrip_osap
#print axioms C02_wellformed_osap
#print axioms C03_contiguous_osap
#print axioms C14_skip_verbatim_osap
#print axioms stream_buffer_osap
#print axioms C01_roundtrip_all_kinds
#print axioms C01_osap
#print axioms C01_osap_reachable

end LZ
