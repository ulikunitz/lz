/-
  LzProofs.GenBUPParseLemmas — lemmas for "translated `(*bucketParser).Parse` (bup.go; topic BUPParse,
  LzModel/Generated/CodeBUPParse.lean) = `ProbeW.parseW` for kind BUP": the bucket table.  Under the table invariant
  `BOK` no table access of `add` / `bucket` panics.  `bucketHash.add` is translated with the pointer alias
  `pi := &bh.indexes[h]` eliminated at source level, the bucket scan `for _, e := range s.bucket(h) { … }` with the view
  inlined at source level (loop_2); `lcp` is opaque under `LcpSpec`.  One insertion is `binsert_step`,
  `bucketDictionary.processSegment` = `ProbeW.processSegmentBW` incl. its panic is `gen_processSegmentB` (its loop
  through `GenParse.insert_loop`), the bucket scan = `ProbeW.bupScanW` is `scan_eq`.
-/
import LzModel.Generated.CodeBUPParse
import LzProofs.GenHashPropsDict2
import LzProofs.GenParseShared

set_option linter.unusedSimpArgs false
set_option linter.unusedVariables false

namespace LZ.GenBUPParse
open LZ LZ.Gen LZ.GenBuf LZ.GenHash LZ.GenHPParse LZ.GenParse

/-- the specification of the opaque callee `lcp` (bytes.go): the length of the common prefix — what
    `BytesW.lcpW?_eq` proves of the word-level model of `lcp` -/
def LcpSpec (lcp : Slice → Slice → Int) : Prop := ∀ p q, lcp p q = (lcpLen p.data q.data : Int)

/-- the invariant of the bucket table -/
structure BOK (g : Gen.bucketHash) : Prop where
  gwf : GWF g.buckets
  swf : SWF g.indexes
  bs1 : 1 ≤ g.bucketSize
  bs2 : g.bucketSize ≤ 256
  ilen : g.indexes.len = 2 ^ (64 - g.shift.toNat)
  blen : g.buckets.len = 2 ^ (64 - g.shift.toNat) * g.bucketSize.toNat
  ring : ∀ h, h < g.indexes.len → (g.indexes.arr.getD h 0).toNat < g.bucketSize.toNat

/-- the scalar fields of the table are never written -/
def SameCfg (g g' : Gen.bucketHash) : Prop :=
  g'.mask = g.mask ∧ g'.shift = g.shift ∧ g'.inputLen = g.inputLen ∧ g'.bucketSize = g.bucketSize

theorem SameCfg.refl (g : Gen.bucketHash) : SameCfg g g := ⟨rfl, rfl, rfl, rfl⟩

theorem SameCfg.trans {a b c : Gen.bucketHash} (h1 : SameCfg a b) (h2 : SameCfg b c) : SameCfg a c :=
  ⟨h2.1.trans h1.1, h2.2.1.trans h1.2.1, h2.2.2.1.trans h1.2.2.1, h2.2.2.2.trans h1.2.2.2⟩

theorem slot_lt (h n b i : Nat) (hh : h < n) (hi : i < b) : h * b + i < n * b := by
  have h1 : (h + 1) * b ≤ n * b := Nat.mul_le_mul_right b hh
  have h2 : (h + 1) * b = h * b + b := Nat.succ_mul h b
  omega

theorem toNat_ofInt8 (n : Nat) (a : Int) (ha : a = (n : Int)) (h : n < 256) : (UInt8.ofInt a).toNat = n := by
  subst ha
  unfold UInt8.ofInt
  simp only [UInt8.toNat_ofNat', Nat.reducePow, Int.reducePow] at *
  omega

theorem bindex_ok (s : Slice) (k : Int) (i : Nat) (hk : k = (i : Int)) (hi : i < s.len) :
    Slice.index s k = Res.ok (s.arr.getD i 0) := by
  subst hk
  unfold Slice.index
  have : (0 : Int) ≤ (i : Int) ∧ (i : Int) < Int.ofNat s.len := by
    refine ⟨by omega, ?_⟩; show (i : Int) < (s.len : Int); omega
  simp only [this, and_self, if_true, Int.toNat_natCast]

theorem bindex_panic (s : Slice) (k : Int) (h : k < 0 ∨ (s.len : Int) ≤ k) : Slice.index s k = Res.panic := by
  unfold Slice.index
  rw [if_neg (by show ¬ ((0 : Int) ≤ k ∧ k < (s.len : Int)); omega)]

theorem take_getElem? (A : List UInt8) (L m : Nat) (hLA : L ≤ A.length) (h : m < L) :
    (A.take L)[m]? = some (A.getD m 0) := by
  rw [List.getElem?_take, if_pos h, List.getD_eq_getElem?_getD, List.getElem?_eq_getElem (by omega)]
  rfl

theorem ofBucket_set (g : Gen.bucketHash) (k : Nat) (e : bucketEntry) (h : Nat) (v : UInt8) :
    ofBucket { g with buckets := { g.buckets with arr := g.buckets.arr.set k e },
                      indexes := { g.indexes with arr := g.indexes.arr.set h v } } =
      { ofBucket g with buckets := (ofBucket g).buckets.setIfInBounds k (ofBEntry e),
                        indexes := (ofBucket g).indexes.setIfInBounds h v.toNat } := by
  unfold ofBucket
  simp only [GSlice.data, Slice.data, List.take_set, List.map_set, List.setIfInBounds_toArray]

theorem ofBucket_index (g : Gen.bucketHash) (hs : SWF g.indexes) (h : Nat) (hh : h < g.indexes.len) :
    (ofBucket g).indexes.getD h 0 = (g.indexes.arr.getD h 0).toNat := by
  have h' : h < g.indexes.arr.length := by unfold SWF at hs; omega
  simp [ofBucket, Slice.data, List.getElem?_take, hh, h', List.getD_eq_getElem?_getD]

/-- `bucketHash.add` -/
theorem gen_add (g : Gen.bucketHash) (hb : BOK g) (h pos val : UInt32) (hh : h.toNat < g.indexes.len) :
    ∃ g', bucketHash_add g h pos val = Res.ok g' ∧
      ofBucket g' = (ofBucket g).add h.toNat pos.toNat val.toNat ∧ BOK g' ∧ SameCfg g g' := by
  obtain ⟨hgwf, hswf, hbs1, hbs2, hil, hbl, hring⟩ := hb
  obtain ⟨bsN, hbsN⟩ : ∃ n : Nat, g.bucketSize = (n : Int) := ⟨g.bucketSize.toNat, by omega⟩
  have hbsN' : g.bucketSize.toNat = bsN := by omega
  have hi := hring h.toNat hh
  rw [hbsN'] at hi hbl
  generalize hiv : (g.indexes.arr.getD h.toNat 0).toNat = i at hi
  have hk : h.toNat * bsN + i < g.buckets.len := by
    rw [hbl, ← hil]; exact slot_lt _ _ _ _ hh hi
  have hkI : ((Int.ofNat h.toNat) * g.bucketSize) + Int.ofNat i = ((h.toNat * bsN + i : Nat) : Int) := by
    rw [hbsN]
    show ((h.toNat : Nat) : Int) * (bsN : Int) + (i : Int) = _
    rw [Int.natCast_add, Int.natCast_mul]
  have hwrap : (if (Int.ofNat i) + 1 ≥ g.bucketSize then (0 : Int) else (Int.ofNat i) + 1) =
      (((if i + 1 ≥ bsN then 0 else i + 1 : Nat)) : Int) := by
    rw [hbsN]
    show (if (i : Int) + 1 ≥ (bsN : Int) then (0 : Int) else (i : Int) + 1) = _
    split <;> split <;> omega
  have hwlt : (if i + 1 ≥ bsN then 0 else i + 1) < bsN := by split <;> omega
  unfold bucketHash_add
  rw [bindex_ok g.indexes (Int.ofNat h.toNat) h.toNat rfl hh, bind_ok, bind_ok]
  simp only [hiv]
  rw [hkI, gset_ok g.buckets _ _ rfl hk, bind_ok]
  rw [hwrap, bset_ok g.indexes (Int.ofNat h.toNat) h.toNat rfl hh, bind_ok]
  refine ⟨_, rfl, ?_, ?_, ⟨rfl, rfl, rfl, rfl⟩⟩
  · rw [ofBucket_set]
    unfold BucketT.add
    simp only []
    rw [ofBucket_index g hswf _ hh, hiv]
    have e1 : (ofBucket g).bucketSize = bsN := hbsN'
    rw [e1, toNat_ofInt8 _ _ rfl (by omega)]
    rfl
  · refine ⟨?_, ?_, hbs1, hbs2, hil, hbl.trans (by rw [hbsN']), ?_⟩
    · show g.buckets.len ≤ (g.buckets.arr.set _ _).length
      rw [List.length_set]; exact hgwf
    · show g.indexes.len ≤ (g.indexes.arr.set _ _).length
      rw [List.length_set]; exact hswf
    · intro h2 hh2
      show ((g.indexes.arr.set h.toNat _).getD h2 0).toNat < g.bucketSize.toNat
      rw [hbsN']
      by_cases he : h2 = h.toNat
      · subst he
        have hl : h.toNat < g.indexes.arr.length := by unfold SWF at hswf; omega
        rw [List.getD_eq_getElem?_getD, List.getElem?_set_self hl, Option.getD_some,
          toNat_ofInt8 _ _ rfl (by omega)]
        exact hwlt
      · rw [List.getD_eq_getElem?_getD, List.getElem?_set_ne (fun hc => he hc.symm), ← List.getD_eq_getElem?_getD]
        have := hring h2 hh2
        rw [hbsN'] at this; exact this

/-- what the loops need to know about the fixed part of the table and the resliced buffer `_p` -/
structure BCtx (g : Gen.bucketHash) (_p : Slice) : Prop where
  swf : SWF _p
  il0 : 0 ≤ g.inputLen
  mask : g.mask = maskOf g.inputLen.toNat
  sh1 : 32 ≤ g.shift.toNat
  sh2 : g.shift.toNat ≤ 64
  small : _p.len < 4294967296 + 8

theorem BCtx.of_same {g g' : Gen.bucketHash} {_p : Slice} (c : BCtx g _p) (h : SameCfg g g') : BCtx g' _p := by
  obtain ⟨h1, h2, h3, h4⟩ := h
  exact ⟨c.swf, by rw [h3]; exact c.il0, by rw [h1, h3]; exact c.mask, by rw [h2]; exact c.sh1,
    by rw [h2]; exact c.sh2, c.small⟩

theorem ofBucket_inputLen (g : Gen.bucketHash) : (ofBucket g).inputLen = g.inputLen.toNat := rfl
theorem ofBucket_hashBits (g : Gen.bucketHash) : (ofBucket g).hashBits = 64 - g.shift.toNat := rfl
theorem ofBucket_bucketSize (g : Gen.bucketHash) : (ofBucket g).bucketSize = g.bucketSize.toNat := rfl

/-- one insertion: `x := _getLE64(_p[j:]) & mask; add(hashValue(x, shift), uint32(j), uint32(x))` -/
theorem binsert_step (g : Gen.bucketHash) (_p : Slice) (c : BCtx g _p) (hb : BOK g) (a : Int) (j : Nat)
    (ha : a = (j : Int)) (hj : j + 8 ≤ _p.len) :
    ∃ y g', (BytesW.sliceFrom _p.data j).bind BytesW.le64 = some y ∧
      (∀ {β : Type} (F : UInt64 → Res β),
        Res.bind (Slice.slice _p a (Int.ofNat _p.len)) (fun u => Res.bind (Gen._getLE64 u) F) = F y) ∧
      bucketHash_add g (Gen.hashValue (y &&& g.mask) g.shift) (UInt32.ofInt a) (y &&& g.mask).toUInt32 = Res.ok g' ∧
      BOK g' ∧ SameCfg g g' ∧ ProbeW.binsertW (ofBucket g) _p.data j = some (ofBucket g') := by
  obtain ⟨y, hy, hF⟩ := gen_load_ok _p c.swf a j ha hj
  obtain ⟨hv, hlt⟩ := gen_hashValue_shift (y &&& g.mask) g.shift c.sh1 c.sh2
  have hs := c.small
  obtain ⟨g', h1, h2, h3, h4⟩ := gen_add g hb (Gen.hashValue (y &&& g.mask) g.shift) (UInt32.ofInt a)
    (y &&& g.mask).toUInt32 (by rw [hv, hb.ilen]; exact hlt)
  refine ⟨y, g', hy, hF, h1, h3, h4, ?_⟩
  unfold ProbeW.binsertW ProbeW.loadKey
  simp only [Option.bind_eq_bind, Option.pure_def] at hy ⊢
  cases hsf : BytesW.sliceFrom _p.data j with
  | none => rw [hsf] at hy; cases hy
  | some l =>
    rw [hsf, Option.bind_some] at hy
    simp only [Option.bind_some, hy]
    rw [h2, hv]
    simp only [ofBucket_inputLen, ofBucket_hashBits, c.mask, lo32_eq, toNat_ofInt32 j a ha (by omega)]

/-- `processSegment(a, b)` of bucket_hash.go, translated, versus `ProbeW.processSegmentBW` on the elements of
    `f.Data` and the stale bytes behind them: same panic (the reslice `f.Data[:b+7]`), same table -/
theorem gen_processSegmentB (fuel : Nat) (f : Gen.bucketDictionary) (a b : Int)
    (hD : SWF f.ParserBuffer.Data) (hil : 0 ≤ f.bucketHash.inputLen)
    (hmask : f.bucketHash.mask = maskOf f.bucketHash.inputLen.toNat) (sh1 : 32 ≤ f.bucketHash.shift.toNat)
    (sh2 : f.bucketHash.shift.toNat ≤ 64) (ht : BOK f.bucketHash)
    (hsmall : f.ParserBuffer.Data.len < 4294967296) (hfuel : f.ParserBuffer.Data.len + 2 ≤ fuel) :
    match ProbeW.processSegmentBW (ofBucket f.bucketHash) f.ParserBuffer.Data.data
        (f.ParserBuffer.Data.arr.drop f.ParserBuffer.Data.len) a b with
    | none => bucketDictionary_processSegment fuel f a b = Res.panic
    | some bk' => ∃ g', BOK g' ∧ SameCfg f.bucketHash g' ∧ bk' = ofBucket g' ∧
        bucketDictionary_processSegment fuel f a b = Res.ok { f with bucketHash := g' } := by
  have hlen : f.ParserBuffer.Data.data.length = f.ParserBuffer.Data.len := data_length hD
  unfold ProbeW.processSegmentBW bucketDictionary_processSegment
  simp only [Option.bind_eq_bind]
  have hc : ((f.ParserBuffer.Data.data.length : Nat) : Int) - ((ofBucket f.bucketHash).inputLen : Nat) + 1 =
      ((Int.ofNat f.ParserBuffer.Data.len) - f.bucketHash.inputLen) + 1 := by
    rw [hlen]; show _ - ((f.bucketHash.inputLen.toNat : Nat) : Int) + 1 = _
    rw [Int.toNat_of_nonneg hil]; rfl
  rw [hc]
  have hb' : (if ((Int.ofNat f.ParserBuffer.Data.len) - f.bucketHash.inputLen) + 1 < b then
      ((Int.ofNat f.ParserBuffer.Data.len) - f.bucketHash.inputLen) + 1 else b) ≤ (f.ParserBuffer.Data.len : Int) + 1 := by
    split
    · show (f.ParserBuffer.Data.len : Int) - _ + 1 ≤ _; omega
    · rename_i h; have : b ≤ (f.ParserBuffer.Data.len : Int) - f.bucketHash.inputLen + 1 := Int.not_lt.mp h
      omega
  generalize (if ((Int.ofNat f.ParserBuffer.Data.len) - f.bucketHash.inputLen) + 1 < b then
      ((Int.ofNat f.ParserBuffer.Data.len) - f.bucketHash.inputLen) + 1 else b) = b' at hb' ⊢
  have ha' : 0 ≤ (if a < 0 then 0 else a) := by split <;> omega
  generalize (if a < 0 then 0 else a) = a' at ha' ⊢
  by_cases hb0 : b' ≤ 0
  · simp only [if_pos hb0]
    exact ⟨f.bucketHash, ht, SameCfg.refl _, rfl, rfl⟩
  simp only [if_neg hb0]
  unfold BytesW.sliceTo
  rw [take_append_drop_data]
  by_cases hcap : b'.toNat + 7 ≤ f.ParserBuffer.Data.arr.length
  · rw [if_pos hcap, Option.bind_some]
    rw [slice_okI f.ParserBuffer.Data 0 (b' + 7) 0 (b'.toNat + 7) rfl (by omega) (by omega) hcap, bind_ok]
    simp only [List.drop_zero, Nat.sub_zero]
    have c : BCtx f.bucketHash { arr := f.ParserBuffer.Data.arr, len := b'.toNat + 7 } :=
      ⟨hcap, hil, hmask, sh1, sh2, by show b'.toNat + 7 < _; omega⟩
    obtain ⟨_, ⟨g', rfl, ht', hsc⟩, hr, hl⟩ := insert_loop (ι := Unit)
      (fun _ => bucketDictionary_processSegment_loop_1 b' { arr := f.ParserBuffer.Data.arr, len := b'.toNat + 7 })
      (fun _ => b') (fun f' : Gen.bucketDictionary => ofBucket f'.bucketHash)
      (fun d i => ProbeW.binsertW d (f.ParserBuffer.Data.arr.take (b'.toNat + 7)) i)
      (fun d i n => ProbeW.binsertRangeW d (f.ParserBuffer.Data.arr.take (b'.toNat + 7)) i n) (fun _ _ => rfl)
      (fun _ _ _ => rfl)
      (fun f' => ∃ g, f' = { f with bucketHash := g } ∧ BOK g ∧ SameCfg f.bucketHash g) a'.toNat
      (a'.toNat + (b'.toNat - a'.toNat))
      (fun _ fuel a f' (h : ¬ a < b') => by
        rw [bucketDictionary_processSegment_loop_1]
        first | rw [if_neg (by omega)] | rw [if_pos (by omega)])
      (fun i f' ⟨g, hf', hg, hsg⟩ hlo hhi => by
        subst hf'
        obtain ⟨y, g1, hy, hF, hadd, hg1, hsc1, hins⟩ := binsert_step g _ (c.of_same hsg) hg (i : Int) i rfl
          (by show i + 8 ≤ b'.toNat + 7; omega)
        refine ⟨_, ⟨g1, rfl, hg1, hsg.trans hsc1⟩, hins, fun _ fuel (hb : (i : Int) < b') => ?_⟩
        rw [bucketDictionary_processSegment_loop_1]
        first | rw [if_pos (by omega)] | rw [if_neg (by omega)]
        rw [hF]
        try dsimp only
        rw [hadd, bind_ok])
      (b'.toNat - a'.toNat) fuel a'.toNat f (by omega) (Nat.le_refl _) (Nat.le_refl _)
      ⟨f.bucketHash, rfl, ht, SameCfg.refl _⟩
    rw [hr, hl () a' (by omega) (by omega), bind_ok]
    exact ⟨g', ht', hsc, rfl, rfl⟩
  · rw [if_neg hcap]
    rw [slice_panic _ _ _ (by right; right; omega)]
    rfl

/-! ## the bucket scan -/

/-- the Go outcome a model outcome of the scan stands for (`none` = panic) -/
def scanRes : Option (Nat × Nat) → Res (Int × Int)
  | none => Res.panic
  | some r => Res.ok ((r.1 : Int), (r.2 : Int))

/-- the text behind the two slices of the bucket scan against the canonical decision: split every `if` (of the text and of
    the canonical form), the consistent leaves are `rfl`, the others contradictory by omega -/
macro "tail_close" : tactic =>
  `(tactic| ((repeat' split) <;> first | rfl | (exfalso; omega) | (simp_all; done)))

/-- the bucket scan `for _, e := range s.bucket(h) { … }` (loop_2; the view `{arr := V, len := bsN}` is the
    sub-slice `bh.buckets[h·bucketSize : (h+1)·bucketSize]`) is `ProbeW.bupScanW` over the slots `idx, …, bsN-1`:
    same panic (`p[j+k-1]`, `p[i+k-1]` out of range), same `(o, k)` -/
theorem scan_eq (grow : Nat → Nat → Nat) (fuel : Nat) (lcp : Slice → Slice → Int) (hlcp : LcpSpec lcp)
    (bk : BucketT) (V : List bucketEntry) (bsN base : Nat) (hVl : bsN ≤ V.length)
    (hV : ∀ t, t < bsN → bk.buckets.getD (base + t) (0, 0) = ofBEntry ((V[t]?).getD { pos := 0, val := 0 }))
    (v : UInt32) (ia : Int) (iN : Nat) (hia : ia = (iN : Int)) (s : Gen.bucketParser)
    (hws : 0 ≤ s.BUPConfig.WindowSize) (A : List UInt8) (L : Nat) (hLA : L ≤ A.length) (hi : iN ≤ L) :
    ∀ (n idx o k : Nat), idx + n = bsN →
      bucketParser_Parse_loop_2 grow fuel lcp { arr := V, len := bsN } v ia s { arr := A, len := L } n (idx : Int)
          (o : Int) (k : Int) =
        scanRes (ProbeW.bupScanW bk (A.take L) iN s.BUPConfig.WindowSize.toNat v.toNat base (List.range' idx n) o k) := by
  intro n
  induction n with
  | zero =>
    intro idx o k _
    rw [bucketParser_Parse_loop_2]
    rfl
  | succ n ih =>
    intro idx o k hn
    have hpl : (A.take L).length = L := by rw [List.length_take]; omega
    rw [bucketParser_Parse_loop_2, List.range'_succ, ProbeW.bupScanW_cons]
    rw [gindex_ok _ { arr := V, len := bsN } (idx : Int) idx rfl (by show idx < bsN; omega), bind_ok]
    have hV' : bk.buckets.getD (base + idx) (0, 0) = _ := hV idx (by omega)
    generalize (V[idx]?).getD { pos := 0, val := 0 } = e at hV' ⊢
    rw [show bk.buckets.getD (base + idx) (0, 0) = (e.pos.toNat, e.val.toNat) from hV']
    have hnext := fun o' k' => ih (idx + 1) o' k' (by omega)
    simp only [Int.ofNat_eq_natCast]
    rw [show ((idx : Int) + 1) = ((idx + 1 : Nat) : Int) from rfl]
    by_cases hv : v = e.val
    · have hv1 : ¬ (v ≠ e.val) := fun hc => hc hv
      have hv2 : ¬ (v.toNat ≠ e.val.toNat) := fun hc => hc (by rw [hv])
      have hv1' : ¬ (e.val ≠ v) := fun hc => hc hv.symm
      -- the value test of the Go text with the operands either way round, `!=` with `continue` or `==` with the arms swapped
      first | rw [if_neg hv1] | rw [if_neg hv1'] | rw [if_pos hv] | rw [if_pos hv.symm]
      rw [if_neg hv2]
      generalize e.pos.toNat = j
      -- the window test of the Go text, whatever its spelling, is decided from the model's test
      by_cases hwin : j < iN ∧ iN - j ≤ s.BUPConfig.WindowSize.toNat
      · first | rw [if_neg (by omega)] | rw [if_pos (by omega)]
        rw [if_neg (show ¬ ¬ (j < iN ∧ iN - j ≤ s.BUPConfig.WindowSize.toNat) from fun hc => hc hwin)]
        obtain ⟨hji, hjw⟩ := hwin
        -- the part behind the byte check (the same text in both arms of `if k > 0`)
        -- stated for ANY text `F t_4 t_5` behind the two slices that agrees with the canonical decision (`continue` with
        -- `(o, k)` when `ke < k ∨ (ke = k ∧ oe ≥ o)`, else with `(oe, ke)`): the Go text may spell the test negated with
        -- the assignment in the then-arm (a join tuple), with swapped operands, …; `tail_close` proves the agreement
        have tail : ∀ F : Slice → Slice → Res (Int × Int),
            (∀ t_4 t_5, F t_4 t_5 =
              if (lcp t_4 t_5 < (k : Int)) ∨ ((lcp t_4 t_5 = (k : Int)) ∧ (ia - (j : Int) ≥ (o : Int))) then
                bucketParser_Parse_loop_2 grow fuel lcp { arr := V, len := bsN } v ia s { arr := A, len := L } n
                  ((idx + 1 : Nat) : Int) (o : Int) (k : Int)
              else
                bucketParser_Parse_loop_2 grow fuel lcp { arr := V, len := bsN } v ia s { arr := A, len := L } n
                  ((idx + 1 : Nat) : Int) (ia - (j : Int)) (lcp t_4 t_5)) →
            (Res.bind (Slice.slice { arr := A, len := L } (j : Int) (L : Int)) fun t_4 =>
              Res.bind (Slice.slice { arr := A, len := L } ia (L : Int)) fun t_5 => F t_4 t_5) =
            scanRes (ProbeW.scanTail bk (A.take L) iN s.BUPConfig.WindowSize.toNat v.toNat base (List.range' (idx + 1) n) o k j) := by
          intro F hF
          simp only [hF]
          unfold ProbeW.scanTail
          rw [slice_okI { arr := A, len := L } (j : Int) (L : Int) j L rfl rfl (by omega) hLA, bind_ok,
            slice_okI { arr := A, len := L } ia (L : Int) iN L hia rfl hi hLA, bind_ok]
          rw [hlcp { arr := List.drop j A, len := L - j } { arr := List.drop iN A, len := L - iN }, data_drop, data_drop,
            BytesW.sliceFrom_eq_some _ _ (by rw [hpl]; omega), BytesW.sliceFrom_eq_some _ _ (by rw [hpl]; omega)]
          simp only [Option.bind_some, BytesW.lcpW?_eq]
          generalize lcpLen ((A.take L).drop j) ((A.take L).drop iN) = ke
          rw [show ia - (j : Int) = ((iN - j : Nat) : Int) by omega]
          by_cases hc : ke < k ∨ (ke = k ∧ iN - j ≥ o)
          · rw [if_pos hc, if_pos (by omega)]
            exact hnext o k
          · rw [if_neg hc, if_neg (by omega)]
            exact hnext (iN - j) ke
        by_cases hk : k > 0
        · rw [if_pos (by omega : (k : Int) > 0), if_pos hk]
          unfold ProbeW.index
          by_cases h1 : j + k - 1 < L
          · rw [show ((j : Int) + (k : Int)) - 1 = ((j + k - 1 : Nat) : Int) by omega,
              bindex_ok _ _ (j + k - 1) rfl h1, bind_ok, take_getElem? A L _ hLA h1, Option.bind_some]
            by_cases h2 : iN + k - 1 < L
            · rw [show (ia + (k : Int)) - 1 = ((iN + k - 1 : Nat) : Int) by omega,
                bindex_ok _ _ (iN + k - 1) rfl h2, bind_ok, take_getElem? A L _ hLA h2, Option.bind_some]
              by_cases hd : A.getD (j + k - 1) 0 = A.getD (iN + k - 1) 0
              · have hd1 : ¬ (A.getD (j + k - 1) 0 ≠ A.getD (iN + k - 1) 0) := fun hc => hc hd
                have hd2 : ¬ ((A.getD (j + k - 1) 0 != A.getD (iN + k - 1) 0) = true) := fun hc => (bne_iff_ne.mp hc) hd
                rw [if_neg hd1, if_neg hd2]
                exact tail _ (fun t_4 t_5 => by tail_close)
              · rw [if_pos hd, if_pos (bne_iff_ne.mpr hd)]
                exact hnext o k
            · rw [List.getElem?_eq_none (by rw [hpl]; omega), Option.bind_none,
                bindex_panic _ _ (by right; show (L : Int) ≤ _; omega)]
              rfl
          · rw [List.getElem?_eq_none (by rw [hpl]; omega), Option.bind_none,
              bindex_panic _ _ (by right; show (L : Int) ≤ _; omega)]
            rfl
        · rw [if_neg (by omega : ¬ (k : Int) > 0), if_neg hk]
          exact tail _ (fun t_4 t_5 => by tail_close)
      · first | rw [if_pos (by omega)] | rw [if_neg (by omega)]
        rw [if_pos hwin]
        exact hnext o k
    · have hv2 : v.toNat ≠ e.val.toNat := fun hc => hv (UInt32.toNat_inj.mp hc)
      have hv' : e.val ≠ v := fun hc => hv hc.symm
      first | rw [if_pos hv] | rw [if_pos hv'] | rw [if_neg hv] | rw [if_neg (fun hc => hv' hc)]
      rw [if_pos hv2]
      exact hnext o k

end LZ.GenBUPParse

#print axioms LZ.GenBUPParse.gen_add
#print axioms LZ.GenBUPParse.gen_processSegmentB
#print axioms LZ.GenBUPParse.scan_eq
