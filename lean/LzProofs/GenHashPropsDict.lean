/-
  LzProofs.GenHashPropsDict — initialisation, `Reset` and `Shrink` of the hash parser (HP):
  the model (`newParser .HP`, `Parser.reset`, `Parser.shrink`; LzModel/Parser.lean) equals the
  mechanical translation of
      hash.go  hashDictionary.init / Reset / Shrink   (CodeHashDict.lean) — `Reset` and `Shrink`
               of `hashParser` ARE these methods (hashParser embeds hashDictionary and does
               not override them),
      hp.go    hashParser.init                        (CodeHPInit.lean).

  Abstraction: `ofDict k c f` — the model `Parser` of kind `k` (HP; the backward hash parser BHP
  embeds the same Go type) with configuration `c`, buffer
  `ofPB f.ParserBuffer` (GenBufPropsP) and dictionary `.single (ofHash f.hash)` (GenHashProps);
  `ofHPs s = ofDict .HP (ofHP s.HPConfig) s.hashDictionary` for the whole Go `hashParser` struct.
  Invariant: `DictWF f = PBWF f.ParserBuffer ∧ HashWF f.hash`.

      P01 gen_hp_init     hashParser.init(cfg) vs newParser .HP: rejected configurations leave the
                          receiver unchanged and return an error; accepted ones yield the
                          model's fresh parser (the buffer capacity is that of the receiver's
                          old array — 0 for `new(hashParser)`, see gen_hp_init_fresh)
      P02 gen_hp_reset    hashDictionary.Reset(data) vs Parser.reset
      P03 gen_hp_shrink   hashDictionary.Shrink()   vs Parser.shrink
  The proofs compose the buffer frame (`reset_frame`, `shrink_frame`, `CfgTie.buf_ready`: GenDictFrame),
  the tie of the configuration (`tieHP`, `CfgTie.newParser_cases`, `CfgTie.hash_ready`) and H01–H03.  They
  unfold the wrapper functions `hashDictionary.Reset` / `Shrink` / `init` and `hashParser.init`, and no
  configuration function: what the helper configurations satisfy after `SetDefaults` / `Verify` comes
  from the model (`hashOf_ready`).  `gen_hdict_init` and `hash_ready` serve the backward hash parser too.
-/
import LzModel.Generated.CodeHashDict
import LzModel.Generated.CodeHPInit
import LzModel.Parser
import LzProofs.GenHashProps
import LzProofs.GenDictFrame
import LzProofs.GenPropsCfgHP

set_option linter.unusedSimpArgs false
set_option linter.unusedVariables false

namespace LZ.GenHash
open LZ LZ.Gen LZ.GenBuf LZ.GenProps

def DictWF (f : Gen.hashDictionary) : Prop := PBWF f.ParserBuffer ∧ HashWF f.hash

/-- the model parser state a Go `hashDictionary` (plus the configuration kept next to it) stands for -/
def ofDict (k : Kind) (c : Cfg) (f : Gen.hashDictionary) : Parser :=
  { kind := k, cfg := c, buf := ofPB f.ParserBuffer, dict := .single (ofHash f.hash) }

/-- the model parser state a Go `hashParser` stands for -/
def ofHPs (s : Gen.hashParser) : Parser := ofDict .HP (ofHP s.HPConfig) s.hashDictionary

/-! ## P02 Reset -/

/-- P02 `Reset(data)` of the hash parser -/
theorem gen_hp_reset (k : Kind) (c : Cfg) (f : Gen.hashDictionary) (h : DictWF f) (data : Slice) (hdat : SWF data) :
    ∃ f' e, hashDictionary_Reset f data = Res.ok (f', e) ∧
      ofDict k c f' = (Parser.reset (ofDict k c f) data.data (data.cap - data.len)).1 ∧
      errOfReset e = some (Parser.reset (ofDict k c f) data.data (data.cap - data.len)).2 ∧ DictWF f' := by
  obtain ⟨hpb, hh⟩ := h
  obtain ⟨b', e, hb, hwf, herr, hok, hbad⟩ := reset_frame (ofDict k c f) f.ParserBuffer rfl hpb data hdat
  unfold hashDictionary_Reset
  rw [hb]
  by_cases he : e = Gen.Err.ok
  · obtain ⟨g', hg, hofg, hwg⟩ := gen_hash_reset f.hash hh
    simp only [bind_ok, he, ne_eq, not_true_eq_false, if_false, hg]
    rw [he] at herr
    exact ⟨_, _, rfl, by rw [hok he]; exact congrArg (fun t => Parser.mk k c (ofPB b') (.single t)) hofg, herr, hwf, hwg⟩
  · simp only [bind_ok, he, ne_eq, not_false_eq_true, if_true]
    exact ⟨_, _, rfl, by rw [(hbad he).2]; exact congrArg (fun t => Parser.mk k c t _) (hbad he).1, herr, hwf, hh⟩

/-! ## P03 Shrink -/

theorem toNat_ofInt32_small (n : Nat) (h : n < 2 ^ 32) : (UInt32.ofInt (n : Int)).toNat = n :=
  toNat_ofInt32 n _ rfl h

/-- P03 `Shrink()` of the hash parser; `hw`: the write position minus ShrinkSize lies inside the
    data (otherwise ParserBuffer.Shrink panics, `gen_pbuf_shrink_panic`), `hW`: positions fit
    `uint32` (BufferSize ≤ 2^32 - 8 is enforced by Verify) -/
theorem gen_hp_shrink (k : Kind) (c : Cfg) (f : Gen.hashDictionary) (h : DictWF f)
    (hw : f.ParserBuffer.W - f.ParserBuffer.BufConfig.ShrinkSize ≤ f.ParserBuffer.Data.len)
    (hW : f.ParserBuffer.W < 4294967296) :
    ∃ f', hashDictionary_Shrink f = Res.ok (f', ((Parser.shrink (ofDict k c f)).2 : Int)) ∧
      ofDict k c f' = (Parser.shrink (ofDict k c f)).1 ∧ DictWF f' := by
  obtain ⟨hpb, hh⟩ := h
  obtain ⟨b', d, hb, hwf, hd2, hdlt, hzero, hpos⟩ := shrink_frame (ofDict k c f) f.ParserBuffer rfl hpb hw
  unfold hashDictionary_Shrink
  rw [hb, ← hd2]
  simp only [bind_ok]
  -- the test `delta > 0` (or `delta <= 0` with an early return) is decided from the value of `d`
  by_cases hd : d = 0
  · rw [(hzero hd).2]
    decide_ite
    exact ⟨_, rfl, congrArg (fun t => Parser.mk k c t _) (hzero hd).1, hwf, hh⟩
  · obtain ⟨g', hg, hofg, hwg⟩ := gen_hash_shiftOffsets f.hash (UInt32.ofInt (d : Int)) hh
    rw [toNat_ofInt32_small d (hdlt hW)] at hofg
    rw [hpos hd]
    decide_ite
    simp only [hg, bind_ok]
    exact ⟨_, rfl, congrArg (fun t => Parser.mk k c (ofPB b') (.single t)) hofg, hwf, hwg⟩

/-! ## P01 init -/

theorem hashVerify_initOK (c : Gen.hashConfig) (h : hashConfig_Verify c = Gen.Err.ok) : InitOK c.InputLen c.HashBits := by
  have := hashVerify_bounds ((gen_hashVerify c).mp h)
  have := FactsOb.minInputLen_ge_two
  have := FactsOb.maxInputLen_le_eight
  have := FactsOb.maxHashBits_le
  unfold InitOK
  omega

/-- `hashCfg(&cfg)` on the union record -/
def hashOf (c : Cfg) : Gen.hashConfig := ⟨c.inputLen, c.hashBits⟩

/-- the hash part of a defaults-completed, verified configuration of a single-hash kind: a fixed point of
    `hashConfig.SetDefaults`, accepted by `hashConfig.Verify` (from the model, through the ties) -/
theorem hashOf_ready {k : Kind} (hk : k = .HP ∨ k = .BHP) (x : Cfg) (hv : verify k (setDefaults k x) = true) :
    hashConfig_SetDefaults (hashOf (setDefaults k x)) = hashOf (setDefaults k x) ∧
    hashConfig_Verify (hashOf (setDefaults k x)) = Gen.Err.ok := by
  have h := setDefaults_idem' k x
  have e1 := congrArg Cfg.inputLen h
  have e2 := congrArg Cfg.hashBits h
  rw [gen_hashDefaults', gen_hashVerify]
  refine ⟨?_, ((verify_hash hk).mp hv).2⟩
  rcases hk with rfl | rfl <;> exact congr (congrArg Gen.hashConfig.mk e1) e2

theorem _root_.LZ.GenProps.CfgTie.hash_ready {k : Kind} {γ : Type} {abs : γ → Cfg} {conc : Cfg → γ} {sd : γ → γ}
    {vf : γ → Gen.Err} (t : CfgTie k abs conc sd vf) (hk : k = .HP ∨ k = .BHP) {g : γ}
    (hok : vf (sd g) = Gen.Err.ok) :
    hashConfig_SetDefaults (hashOf (abs (sd g))) = hashOf (abs (sd g)) ∧
    hashConfig_Verify (hashOf (abs (sd g))) = Gen.Err.ok := by
  have hv := (t.vf_ok _).mp hok
  rw [t.abs_sd] at hv ⊢
  exact hashOf_ready hk _ hv

/-- hash.go `hashDictionary.init(cfg, bcfg)` for configurations that `SetDefaults` leaves alone and `Verify`
    accepts (what `hashParser.init` / `backwardHashParser.init` pass after their own `SetDefaults` / `Verify`) -/
theorem gen_hdict_init (f : Gen.hashDictionary) (hc : Gen.hashConfig) (bc : Gen.BufConfig) (hw : GWF f.hash.table)
    (hb : BufConfig_SetDefaults bc = bc ∧ BufConfig_Verify bc = Gen.Err.ok)
    (hh : hashConfig_SetDefaults hc = hc ∧ hashConfig_Verify hc = Gen.Err.ok) :
    ∃ f', hashDictionary_init f hc bc = Res.ok (f', Gen.Err.ok) ∧
      ofPB f'.ParserBuffer = { PBuf.init (ofCfg bc) with cap := f.ParserBuffer.Data.cap } ∧
      ofHash f'.hash = HashT.new hc.InputLen.toNat hc.HashBits.toNat ∧ DictWF f' := by
  obtain ⟨pb', hpi, hofpb, hpwf⟩ := (gen_pbuf_init f.ParserBuffer bc).2 (by rw [hb.1]; exact hb.2)
  obtain ⟨g', hgi, hofg, hgwf⟩ := gen_hash_init f.hash hc.InputLen hc.HashBits hw (hashVerify_initOK _ hh.2)
  unfold hashDictionary_init
  simp only [hpi, bind_ok, ne_eq, not_true_eq_false, if_false, hh.1, hh.2, hgi]
  rw [hb.1] at hofpb
  exact ⟨_, rfl, hofpb, hofg, hpwf, hgwf⟩

/-- P01 `hashParser.init(cfg)`: `raw` is the configuration as the model sees it (`toHP raw` the Go
    struct with the fields of `raw` that HPConfig has) -/
theorem gen_hp_init (s : Gen.hashParser) (raw : Cfg) (hw : GWF s.hashDictionary.hash.table) :
    match newParser .HP raw with
    | none => ∃ e, hashParser_init s (toHP raw) = Res.ok (s, e) ∧ e ≠ Gen.Err.ok
    | some p => ∃ s', hashParser_init s (toHP raw) = Res.ok (s', Gen.Err.ok) ∧
        ofHPs s' = { p with buf := { p.buf with cap := s.hashDictionary.ParserBuffer.Data.cap } } ∧
        DictWF s'.hashDictionary := by
  rcases tieHP.newParser_cases raw with ⟨hbad, hn⟩ | ⟨hok, -, hn⟩ <;> rw [hn] <;> unfold hashParser_init
  · simp only [hbad, ne_eq, not_false_eq_true, if_true]
    exact ⟨_, rfl, hbad⟩
  · have hb := tieHP.buf_ready hok
    have hh := tieHP.hash_ready (.inl rfl) hok
    generalize HPConfig_SetDefaults (toHP raw) = c' at *
    obtain ⟨f', hf, hofpb, hofg, hwf⟩ := gen_hdict_init s.hashDictionary ⟨c'.InputLen, c'.HashBits⟩
      ⟨c'.ShrinkSize, c'.BufferSize, c'.WindowSize, c'.BlockSize⟩ hw hb hh
    simp only [hok, ne_eq, not_true_eq_false, if_false, hf, bind_ok]
    exact ⟨_, rfl, congr (congrArg (Parser.mk .HP _) hofpb) (congrArg Dict.single hofg), hwf⟩

/-- P01 for the receiver `new(hashParser)` (all fields zero): exactly the model's fresh parser -/
theorem gen_hp_init_fresh (raw : Cfg) (p : Parser) (hp : newParser .HP raw = some p) :
    ∃ s', hashParser_init default (toHP raw) = Res.ok (s', Gen.Err.ok) ∧ ofHPs s' = p ∧ DictWF s'.hashDictionary := by
  have := gen_hp_init default raw (by unfold GWF; exact Nat.le_refl 0)
  rw [hp] at this
  obtain ⟨s', h1, h2, h3⟩ := this
  exact ⟨s', h1, h2.trans (fresh_cap0 hp), h3⟩

end LZ.GenHash

#print axioms LZ.GenHash.gen_hp_init
#print axioms LZ.GenHash.gen_hp_init_fresh
#print axioms LZ.GenHash.gen_hp_reset
#print axioms LZ.GenHash.gen_hp_shrink
#print axioms LZ.GenHash.hashOf_ready
#print axioms LZ.GenHash.gen_hdict_init
