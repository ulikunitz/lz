/-
  Non-vacuity of LzProofs/GenOSAPHist.lean / GenOSAPHistRun.lean.  `ceK` instantiates the opaque callee `computeEdges` of
  the translated `Parse` by the range-checked hand model `Idx.computeEdgesChk` written back into the Go representation
  (`none` ↦ panic); `CESpec 2147483647 ceK` holds, the bound `B = MaxInt32` on the number of edges per position coming
  from `Sap.computeEdges_len_le` (at most `len(Data)`, because the offsets stored for one position are strictly
  decreasing and lie in `[1, len(Data)]`).  An 11-call history is run on the translated functions with `ceK` and checked
  by `#guard` (the evaluator, not the kernel: `saSpec` / `List.mergeSort` are defined by well-founded recursion and do
  not reduce in the kernel; a test, no theorem depends on it); the first four `Parse` results are the values the real Go
  run printed (notes/osap-translate.md §6).
-/
import LzProofs.GenOSAPHistRun
import LzProofs.OsapEdgeBound

set_option linter.unusedSimpArgs false
set_option linter.unusedVariables false

namespace LZ.GenOSAPHist
open LZ LZ.Gen LZ.GenBuf LZ.GenHash LZ.GenSuffix LZ.GenHPParse LZ.GenProps LZ.GenOSAP
open LZ.GenHPHist (GOpR GOpR.WF)

/-! ## the instance of `computeEdges` -/

/-- a model edge as a Go `edge` -/
def toEdgeG (e : Edge) : Gen.edge := ⟨UInt32.ofNat e.1, UInt32.ofNat e.2⟩

/-- a model edge table as a Go `[][]edge` (every slice with `cap = len`) -/
def edgesRep (es : Array (List Edge)) : GSlice (GSlice Gen.edge) :=
  ⟨es.toList.map (fun l => ⟨l.map toEdgeG, l.length⟩), es.size⟩

/-- the range-checked hand model of `computeEdges`, written back into the Go state -/
def ceK : CEFun := fun s =>
  match Idx.computeEdgesChk (ofOSAPs s).buf.data (ofOSAPs s).buf.w (ofOSAPs s).buf.cfg.windowSize (ofOSAPs s).minMatch
      (ofOSAPs s).cfg.maxMatchLen.toNat with
  | some o => Res.ok { s with edges := edgesRep o.edges, start := (o.start : Int), nEdges := (o.nEdges : Int) }
  | none => Res.panic

theorem edgeAbs_toEdgeG (e : Edge) (h1 : e.1 < 4294967296) (h2 : e.2 < 4294967296) : edgeAbs (toEdgeG e) = e := by
  obtain ⟨a, b⟩ := e
  simp only at h1 h2
  unfold edgeAbs toEdgeG
  simp only [UInt32.toNat_ofNat']
  rw [Nat.mod_eq_of_lt h1, Nat.mod_eq_of_lt h2]

theorem edgesRep_data (es : Array (List Edge)) :
    (edgesRep es).data = es.toList.map (fun l => (⟨l.map toEdgeG, l.length⟩ : GSlice Gen.edge)) := by
  unfold edgesRep GSlice.data
  simp only
  rw [List.take_of_length_le (by simp)]

theorem edgesAbs_rep (es : Array (List Edge))
    (h : ∀ l ∈ es.toList, ∀ e ∈ l, e.1 < 4294967296 ∧ e.2 < 4294967296) : edgesAbs (edgesRep es) = es := by
  unfold edgesAbs
  rw [edgesRep_data, List.map_map]
  apply Array.ext'
  simp only []
  conv => rhs; rw [← List.map_id es.toList]
  apply List.map_congr_left
  intro l hl
  show (GSlice.data ⟨l.map toEdgeG, l.length⟩).map edgeAbs = l
  unfold GSlice.data
  simp only
  rw [List.take_of_length_le (by simp), List.map_map]
  conv => rhs; rw [← List.map_id l]
  apply List.map_congr_left
  intro e he
  exact edgeAbs_toEdgeG e (h l hl e he).1 (h l hl e he).2

theorem cespec_ceK : CESpec 2147483647 ceK := by
  intro s o hP hchk
  obtain ⟨hw, hlen, ho⟩ := hP.computeEdges_eq hchk
  have hget : ∀ l ∈ o.edges.toList, ∃ k, o.edges.getD k [] = l := by
    intro l hl
    obtain ⟨k, hk, rfl⟩ := List.mem_iff_getElem.1 hl
    refine ⟨k, ?_⟩
    simp only [Array.length_toList] at hk
    rw [Array.getD_eq_getD_getElem?, Array.getElem?_eq_getElem hk]
    simp
  have hent : ∀ l ∈ o.edges.toList, ∀ e ∈ l, e.1 < 4294967296 ∧ e.2 < 4294967296 := by
    intro l hl e he
    obtain ⟨k, rfl⟩ := hget l hl
    rw [ho] at he
    obtain ⟨-, a, b⟩ := Sap.computeEdges_entry_le _ _ _ _ _ hw hlen k e.1 e.2 he
    omega
  have hlens : ∀ l ∈ o.edges.toList, l.length ≤ 2147483647 := by
    intro l hl
    obtain ⟨k, rfl⟩ := hget l hl
    have := Sap.computeEdges_len_le (ofOSAPs s).buf.data (ofOSAPs s).buf.w (ofOSAPs s).buf.cfg.windowSize
      (ofOSAPs s).minMatch (ofOSAPs s).cfg.maxMatchLen.toNat hw hlen k
    rw [← ho] at this
    omega
  refine ⟨{ s with edges := edgesRep o.edges, start := (o.start : Int), nEdges := (o.nEdges : Int) }, ?_, ?_, rfl, rfl,
    rfl, rfl, Int.natCast_nonneg _, Int.natCast_nonneg _, ?_, ?_⟩
  · unfold ceK
    rw [hchk]
  · show (⟨edgesAbs (edgesRep o.edges), ((o.start : Nat) : Int).toNat, ((o.nEdges : Nat) : Int).toNat⟩ : OsapD) = o
    rw [edgesAbs_rep _ hent]
    simp only [Int.toNat_natCast]
  · show GWF (edgesRep o.edges)
    unfold GWF edgesRep; simp
  · intro q hq
    have hq' : q ∈ (edgesRep o.edges).data := hq
    rw [edgesRep_data] at hq'
    obtain ⟨l, hl, rfl⟩ := List.mem_map.1 hq'
    refine ⟨?_, hlens l hl⟩
    unfold GWF; simp

/-! ## a history -/

/-- BufferSize 64, WindowSize 16, BlockSize 12, ShrinkSize 8, MinMatchLen 2 (MaxMatchLen, Cost: defaults) -/
def exCfg : Gen.OSAPConfig :=
  { ShrinkSize := 8, BufferSize := 64, WindowSize := 16, BlockSize := 12, MinMatchLen := 2, MaxMatchLen := 0, Cost := "" }

def exGrow : Nat → Nat → Nat := fun _ n => n

def sliceOf (l : List UInt8) : Slice := { arr := l, len := l.length }

/-- "abcabcabcabxyzxyzabcabQQQQabcab" -/
def exA : List UInt8 :=
  [97, 98, 99, 97, 98, 99, 97, 98, 99, 97, 98, 120, 121, 122, 120, 121, 122, 97, 98, 99, 97, 98, 81, 81, 81, 81, 97, 98,
    99, 97, 98]
/-- "abcabQQQQxyzxyz" -/
def exB : List UInt8 := [97, 98, 99, 97, 98, 81, 81, 81, 81, 120, 121, 122, 120, 121, 122]
/-- "hello hello hello" -/
def exC : List UInt8 := [104, 101, 108, 108, 111, 32, 104, 101, 108, 108, 111, 32, 104, 101, 108, 108, 111]

/-- a reader delivering `exB` in answers of at most 4, 0 (`(0, nil)`) and 100 bytes, then `io.EOF` -/
def exRd : Reader := ⟨exB, [(4, 0), (0, 0), (100, 0)]⟩

def exOps : List GOpR :=
  [ .base (.write (sliceOf exA)), .base (.parse default 0), .base (.parse default 1), .base (.parse default 1),
    .base (.parse default 0), .base .shrink, .readFrom exRd, .base (.parse default 0), .base (.parse default 0),
    .base (.reset (sliceOf exC)), .base (.parse default 0) ]

/-- the state `init(exCfg)` leaves in `new(optSuffixArrayParser)` -/
def exS0 : Gen.optSuffixArrayParser :=
  match optSuffixArrayParser_init default exCfg with
  | .ok (s, _) => s
  | _ => default

theorem exInit : optSuffixArrayParser_init default exCfg = Res.ok (exS0, Gen.Err.ok) := by decide +kernel

theorem ex32 : exS0.OSAPConfig.MinMatchLen < 4294967296 := by decide +kernel

theorem exWF : ∀ op ∈ exOps, op.WF := by
  intro op hop
  simp only [exOps, List.mem_cons, List.not_mem_nil, or_false] at hop
  rcases hop with rfl | rfl | rfl | rfl | rfl | rfl | rfl | rfl | rfl | rfl | rfl <;>
    first | trivial | exact Nat.le_refl _ | (show (0 : Int) ≤ _; decide)

/-- the fuel: `BufferSize + B + 5` with `B = MaxInt32` -/
def exFuelN : Nat := 64 + 2147483647 + 5

theorem exFuel : exS0.ParserBuffer.BufConfig.BufferSize.toNat + 2147483647 + 5 ≤ exFuelN := by decide +kernel

/-- `(n, err = nil, sequences, literals)` of the `Parse` calls, `n` of the others — as a test (see the header) -/
def exShow : Res (List (Int × Bool × List (UInt32 × UInt32 × UInt32) × List UInt8)) :=
  Res.bind (runO 0 exGrow exFuelN ceK exS0 exOps) fun r =>
  Res.ok (r.2.map fun
    | .base (.write n e) => (n, e == Gen.Err.ok, [], [])
    | .base (.parse b n e) => (n, e == Gen.Err.ok, b.Sequences.map (fun q => (q.LitLen, q.MatchLen, q.Offset)), b.Literals.data)
    | .base (.shrink d) => (d, true, [], [])
    | .base (.reset e) => (0, e == Gen.Err.ok, [], [])
    | .readFrom n _ => (n, true, [], []))

-- Write 31; Parse(0): n=12 (3,8,3) "abcx"; Parse(NTL): n=10 (2,3,3)(0,5,11) "yz"; Parse(NTL): n=9 (1,3,1)(0,5,9) "Q";
-- Parse(0): 0, ErrEmptyBuffer  — the values of the real Go run (notes/osap-translate.md §6); then Shrink, ReadFrom,
-- two Parse, Reset, Parse
#guard (match exShow with
  | .ok l => l.take 5 == [(31, true, [], []), (12, true, [(3, 8, 3)], [97, 98, 99, 120]),
      (10, true, [(2, 3, 3), (0, 5, 11)], [121, 122]), (9, true, [(1, 3, 1), (0, 5, 9)], [81]), (0, false, [], [])] &&
      l.length == 11 && (l.drop 5).map (·.1) == [23, 15, 12, 3, 0, 12]
  | _ => false)

/-! ## the theorems instantiated -/

example := gen_osap_history 2147483647 exCfg exS0 exInit ex32 ceK cespec_ceK 0 exGrow exFuelN exFuel exOps exWF
example := gen_osap_history_states 2147483647 exCfg exS0 exInit ex32 ceK cespec_ceK 0 exGrow exFuelN exFuel exOps exWF 7
example := C01_go_text_osap 2147483647 exCfg exS0 exInit ex32 ceK cespec_ceK 0 exGrow exFuelN exFuel exOps exWF
example := C02_go_text_osap 2147483647 exCfg exS0 exInit ex32 ceK cespec_ceK 0 exGrow exFuelN exFuel exOps exWF
example := C03_go_text_osap 2147483647 exCfg exS0 exInit ex32 ceK cespec_ceK 0 exGrow exFuelN exFuel exOps exWF
example := C11_go_text_osap 2147483647 exCfg exS0 exInit ex32 ceK cespec_ceK 0 exGrow exFuelN exFuel (exOps.take 1)
  (fun o ho => exWF o (List.mem_of_mem_take ho)) default 0 (by decide) (by decide)

end LZ.GenOSAPHist

#print axioms LZ.GenOSAPHist.cespec_ceK
#print axioms LZ.GenOSAPHist.exInit
