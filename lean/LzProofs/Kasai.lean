/-
  LzProofs.Kasai — correctness of the φ/Kasai loop `lcpKasai` (`_lcp` in lcp.go).

  There is one proof, `kasaiLoopChk_spec`, about the loop with every index and slice operation
  checked (`kasaiLoopChk`): on a suffix array and its inverse, from any start table, it does not fail
  and returns `lcpSpec` (`kasaiChk_correct`).  It rests on Kasai's lemma `kasai_key`.
  `kasaiLoop_of_chk` carries the result over to the model's unchecked loop (`kasaiLoop_correct`,
  `lcpKasai_eq`); the translated Go code is compared with the checked loop (GenSuffixProps.lean).
-/
import LzProofs.SuffixLemmas
namespace LZ

/-- the specified LCP value at rank `k` (the body of `lcpSpec`) -/
def specAt (t : List Byte) (sa : List Nat) (k : Nat) : Nat :=
  if k = 0 then 0 else lcpLen (t.drop (sa.getD (k-1) 0)) (t.drop (sa.getD k 0))

theorem lcpSpec_eq (t : List Byte) (sa : List Nat) :
    lcpSpec t sa = (List.range sa.length).map (specAt t sa) := rfl

theorem specAt_le (t : List Byte) (sa : List Nat) (k : Nat) : specAt t sa k ≤ t.length := by
  unfold specAt
  split
  · omega
  · exact Nat.le_trans (lcpLen_le_left _ _) (by simp)

theorem specAt_pos {t : List Byte} {sa : List Nat} {k i j : Nat} (hk : k ≠ 0)
    (hki : sa[k]? = some i) (hkj : sa[k-1]? = some j) :
    specAt t sa k = lcpLen (t.drop j) (t.drop i) := by
  simp [specAt, hk, hki, hkj]

/-- Kasai's lemma (`lcp[rank(i+1)] ≥ lcp[rank i] − 1`): if `j` precedes `i` in the suffix
    array, then the suffix `i+1` shares at least `lcp(j,i) − 1` bytes with *its* predecessor. -/
theorem kasai_key {t : List Byte} {sa : List Nat} (h : IsSuffixArray t sa) {k k2 i j : Nat}
    (hk : k ≠ 0) (hki : sa[k]? = some i) (hkj : sa[k-1]? = some j)
    (hk2 : sa[k2]? = some (i+1)) :
    lcpLen (t.drop j) (t.drop i) - 1 ≤ specAt t sa k2 := by
  by_cases hL : lcpLen (t.drop j) (t.drop i) ≤ 1
  · omega
  have hji : lexLe (t.drop j) (t.drop i) = true := h.mono? (Nat.sub_le k 1) hkj hki
  have hle1 : lexLe (t.drop (j+1)) (t.drop (i+1)) = true := by
    rw [← List.drop_drop, ← List.drop_drop]; exact lexLe_drop_one _ _ hji (by omega)
  have hl1 : lcpLen (t.drop j) (t.drop i) = 1 + lcpLen (t.drop (j+1)) (t.drop (i+1)) := by
    rw [← List.drop_drop, ← List.drop_drop]; exact lcpLen_drop 1 _ _ (by omega)
  -- `j+1` is a position of the text
  have hj1 : j + 1 < t.length := by
    have := lcpLen_le_left (t.drop (j+1)) (t.drop (i+1))
    simp only [List.length_drop] at this
    omega
  obtain ⟨k3, hk3⟩ := h.surj? hj1
  have h32 : k3 ≤ k2 := h.rank_le? hk3 hk2 hle1
  have hne : k3 ≠ k2 := by
    rintro rfl
    cases hk3.symm.trans hk2
    have := h.inj? hki hkj
    omega
  have hk2pos : k2 ≠ 0 := by omega
  have hk2lt := (h.some_lt hk2).1
  have hp : k2 - 1 < sa.length := by omega
  have hk2p : sa[k2-1]? = some sa[k2-1] := List.getElem?_eq_getElem hp
  rw [specAt_pos hk2pos hk2 hk2p]
  have s := sandwich (t.drop (j+1)) (t.drop sa[k2-1]) (t.drop (i+1))
    (h.mono? (by omega) hk3 hk2p) (h.mono? (Nat.sub_le k2 1) hk2p hk2)
  omega

/-! ### the loop with explicit range checks -/

/-- `kasaiLoop` with every index / slice operation of `_lcp` checked: `none` = Go would panic
    (`sainv[i]`, `sa[k-1]`, `t[i+l:]`, `t[j+l:]`, `lcp[k] = …`). -/
def kasaiLoopChk (t : List Byte) (sa isa : Array Nat) : Nat → Nat → Nat → Array Nat → Option (Array Nat)
  | 0, _, _, lcp => some lcp
  | fuel+1, i, l, lcp =>
    match isa[i]? with
    | none => none
    | some k =>
      if k = 0 then
        if 0 < lcp.size then kasaiLoopChk t sa isa fuel (i+1) 0 (lcp.setIfInBounds 0 0) else none
      else
        match sa[k-1]? with
        | none => none
        | some j =>
          if i + l ≤ t.length ∧ j + l ≤ t.length ∧ k < lcp.size then
            let l' := l + lcpLen (t.drop (i + l)) (t.drop (j + l))
            kasaiLoopChk t sa isa fuel (i+1) (l' - 1) (lcp.setIfInBounds k l')
          else none

theorem kasaiLoop_of_chk (t : List Byte) (sa isa : Array Nat) :
    ∀ fuel i l lcp r, kasaiLoopChk t sa isa fuel i l lcp = some r →
      kasaiLoop t sa isa fuel i l lcp = r := by
  intro fuel
  induction fuel with
  | zero => intro i l lcp r h; simpa [kasaiLoopChk, kasaiLoop] using h
  | succ fuel ih =>
    intro i l lcp r h
    unfold kasaiLoopChk at h
    unfold kasaiLoop
    split at h
    · exact absurd h (by simp)
    · rename_i k hk
      have hk' : isa.getD i 0 = k := by simp [hk]
      simp only [hk']
      by_cases hk0 : k = 0
      · simp only [hk0, if_true] at h ⊢
        split at h
        · exact ih _ _ _ _ h
        · exact absurd h (by simp)
      · simp only [hk0, if_false] at h ⊢
        split at h
        · exact absurd h (by simp)
        · rename_i j hj
          have hj' : sa.getD (k-1) 0 = j := by simp [hj]
          simp only [hj']
          split at h
          · exact ih _ _ _ _ h
          · exact absurd h (by simp)

/-- the second half of the invariant of `kasaiLoopChk_spec` survives the store at the rank of `i` -/
theorem done_step {t : List Byte} {sa : List Nat} (h : IsSuffixArray t sa) {lcp : Array Nat}
    {i k : Nat} (hki : sa[k]? = some i) (hk : k < lcp.size)
    (hdone : ∀ k j, sa[k]? = some j → j < i → lcp[k]? = some (specAt t sa k)) :
    ∀ k' j, sa[k']? = some j → j < i + 1 →
      (lcp.setIfInBounds k (specAt t sa k))[k']? = some (specAt t sa k') := by
  intro k' j hkj hj
  by_cases e : k = k'
  · subst e; exact Array.getElem?_setIfInBounds_self_of_lt hk
  · rw [Array.getElem?_setIfInBounds_ne e]
    refine hdone k' j hkj ?_
    have : j ≠ i := fun e' => e (h.inj? hki (e' ▸ hkj))
    omega

/-- loop invariant ⇒ result: the running value `l` is a lower bound of the value at the rank of
    `i` (Kasai's lemma), and the entries at the ranks of all positions `< i` are final -/
theorem kasaiLoopChk_spec {t : List Byte} {sa : List Nat} (h : IsSuffixArray t sa)
    (isa : Array Nat) (hsize : isa.size = t.length)
    (hisa : ∀ i, i < t.length → ∃ k, isa[i]? = some k ∧ sa[k]? = some i) :
    ∀ fuel i l lcp, i + fuel = t.length → lcp.size = t.length →
      (∀ k, isa[i]? = some k → l ≤ specAt t sa k) →
      (∀ k j, sa[k]? = some j → j < i → lcp[k]? = some (specAt t sa k)) →
      kasaiLoopChk t sa.toArray isa fuel i l lcp = some (lcpSpec t sa).toArray := by
  intro fuel
  induction fuel with
  | zero =>
    intro i l lcp hi hsz _ hdone
    have hlen := h.length_eq
    refine congrArg some (Array.ext_getElem? fun k => ?_)
    by_cases hk : k < sa.length
    · rw [hdone k sa[k] (List.getElem?_eq_getElem hk) (by have := h.getElem_lt k hk; omega), lcpSpec_eq]
      simp [hk]
    · rw [Array.getElem?_eq_none (by omega), Array.getElem?_eq_none (by simp [lcpSpec_eq]; omega)]
  | succ fuel ih =>
    intro i l lcp hi hsz hl hdone
    obtain ⟨k, hik, hki⟩ := hisa i (by omega)
    have hklt : k < t.length := h.length_eq ▸ (h.some_lt hki).1
    -- both branches store `specAt t sa k` at `k` and go on with a lower bound for position `i + 1`
    have next : ∀ l', (∀ k2, isa[i+1]? = some k2 → l' ≤ specAt t sa k2) →
        kasaiLoopChk t sa.toArray isa fuel (i+1) l' (lcp.setIfInBounds k (specAt t sa k)) =
          some (lcpSpec t sa).toArray :=
      fun l' hl' => ih (i+1) l' _ (by omega) (by simpa using hsz) hl'
        (done_step h hki (by omega) hdone)
    unfold kasaiLoopChk
    simp only [hik]
    by_cases hk0 : k = 0
    · subst hk0
      simp only [if_true, hsz, show 0 < t.length by omega]
      exact next 0 (fun _ _ => Nat.zero_le _)
    · simp only [hk0, if_false]
      obtain ⟨j, hkj⟩ : ∃ j, sa[k-1]? = some j :=
        ⟨_, List.getElem?_eq_getElem (show k - 1 < sa.length by rw [h.length_eq]; omega)⟩
      simp only [List.getElem?_toArray, hkj]
      have hspec := specAt_pos (t := t) hk0 hki hkj
      have hl' := hl k hik
      rw [hspec, lcpLen_comm] at hl'
      -- the running value never exceeds the true value, hence the slices are in range
      have hil : i + l ≤ t.length := by
        have := lcpLen_le_left (t.drop i) (t.drop j)
        simp only [List.length_drop] at this; omega
      have hjl : j + l ≤ t.length := by
        have := (h.some_lt hkj).2
        have := lcpLen_le_right (t.drop i) (t.drop j)
        simp only [List.length_drop] at this; omega
      simp only [hil, hjl, hsz, hklt, and_self, if_true]
      have hval : l + lcpLen (t.drop (i + l)) (t.drop (j + l)) = specAt t sa k := by
        rw [hspec, lcpLen_comm (t.drop j) (t.drop i), lcpLen_drop l _ _ hl', List.drop_drop, List.drop_drop]
      rw [hval]
      refine next _ fun k2 hk2 => ?_
      obtain ⟨k2', hk2', hk2s⟩ := hisa (i+1) (by have := (Array.getElem?_eq_some_iff.1 hk2).1; omega)
      cases hk2.symm.trans hk2'
      rw [hspec]
      exact kasai_key h hk0 hki hkj hk2s

/-- `isa` is the inverse permutation of `sa` (as produced by `invertSA`) -/
def IsInverse (sa : List Nat) (isa : Array Nat) : Prop :=
  isa.size = sa.length ∧ ∀ i, i < sa.length → ∃ k : Nat, isa[i]? = some k ∧ sa[k]? = some i

theorem invertSA_isInverse {sa : List Nat} (hp : IsPermOfRange sa) :
    IsInverse sa (invertSA sa.toArray) := by
  refine ⟨by simp [invertSA_size], fun i hi => ?_⟩
  obtain ⟨k, h1, _, h3⟩ := sa_invertSA hp hi
  exact ⟨k, h1, h3⟩

/-- The checked Kasai loop, started on *any* `lcp` array of the right length (previous contents
    are irrelevant), never fails and produces exactly the specified LCP table. -/
theorem kasaiChk_correct {t : List Byte} {sa : List Nat} (h : IsSuffixArray t sa)
    {isa : Array Nat} (hinv : IsInverse sa isa) (lcp0 : Array Nat) (h0 : lcp0.size = t.length) :
    kasaiLoopChk t sa.toArray isa isa.size 0 0 lcp0 = some (lcpSpec t sa).toArray :=
  have hsize : isa.size = t.length := by rw [hinv.1, h.length_eq]
  kasaiLoopChk_spec h isa hsize (fun i hi => hinv.2 i (by have := h.length_eq; omega)) isa.size 0 0 lcp0
    (by omega) h0 (fun k _ => Nat.zero_le _) (fun k j _ hj => absurd hj (Nat.not_lt_zero _))

theorem kasaiLoop_correct {t : List Byte} {sa : List Nat} (h : IsSuffixArray t sa)
    {isa : Array Nat} (hinv : IsInverse sa isa) (lcp0 : Array Nat) (h0 : lcp0.size = t.length) :
    kasaiLoop t sa.toArray isa isa.size 0 0 lcp0 = (lcpSpec t sa).toArray :=
  kasaiLoop_of_chk _ _ _ _ _ _ _ _ (kasaiChk_correct h hinv lcp0 h0)

/-- the table computed by `_lcp` (with the inverse from `InvertSA`) is the specified one -/
theorem lcpKasai_eq {t : List Byte} {sa : List Nat} (h : IsSuffixArray t sa) :
    lcpKasai t sa.toArray (invertSA sa.toArray) = (lcpSpec t sa).toArray :=
  kasaiLoop_correct h (invertSA_isInverse h.isPermOfRange) _ (by simp)

theorem lcpSpec_size (t : List Byte) (sa : List Nat) : (lcpSpec t sa).toArray.size = sa.length := by
  simp [lcpSpec_eq]

theorem getD_lcpSpec (t : List Byte) (sa : List Nat) {x : Nat} (hx : x < sa.length) :
    (lcpSpec t sa).toArray.getD x 0 = specAt t sa x := by
  simp [lcpSpec_eq, hx]

end LZ
