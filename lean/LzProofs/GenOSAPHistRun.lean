/-
  LzProofs.GenOSAPHistRun — HISTORIES of translated operations of the optimizing suffix-array parser OSAP, and C01 / C02 /
  C03 / C11 stated about the translation of the Go text.  No sorry, no axioms of its own.

  Operations (`GenHPHist.GOpR`): `Write(p)`, `Parse(&blk, flags)`, `Shrink()`, `Reset(data)`, `ReadFrom(r)` — the
  translated `optSuffixArrayParser_Parse / _Shrink / _Reset` (osap.go; `Parse` calls the translated `shortestPath`),
  the promoted `ParserBuffer_Write` and the translated `ParserBuffer_ReadFrom` run against the scripted reader
  (`rfGo extra`).  `Parse(nil, …)` is not an operation here (histories with it: GenOSAPHistNil).
  `runO extra grow fuel ce s ops` executes the translated functions one after the other; `ce` is the rendering of the
  callee `computeEdges` of `Parse`, constrained by `CESpec B ce` (GenOSAPParseLemmas) — the ONLY hypothesis besides
  "init returned nil", `MinMatchLen < 2^32` (notes/osap-translate.md §6 (a)), well-formed arguments and the fuel
  `BufferSize + B + 5`.  LzProofs/GenOSAPHistEx.lean: the hypothesis is satisfiable; LzProofs/GenOSAPHistGo.lean:
  it holds for the TRANSLATED `computeEdges`.

    stepO_sim        one call from any Go state with `HistOKO` whose model state is reachable (`SimO`), as `GenHist.StepSim`
                     (LzProofs/GenHistMachine.lean): no panic, `SimO` again, the result the model's, the C01 ghost;
                     `GenHist.run_sim` / `run_states` lift it to histories (`runO` is `GenHist.run stepO`)
    gen_osap_history   the same from `init` on `new(optSuffixArrayParser)` for every configuration it accepts; the state
                     reached satisfies `ParseOKO B`
    gen_osap_history_states   `ParseOKO B` after every prefix
    C01_go_text_osap, C02_go_text_osap, C03_go_text_osap   as for HP / GSAP
    C11_go_text_osap   after ANY history the next translated `Parse(&blk, flags)` with even flags returns a block that
                     is the rendering of an LZ77 parse of its bytes, of MINIMUM `XZCost` among all LZ77 parses
-/
import LzProofs.GenOSAPHist
import LzProofs.RunsOsap

set_option linter.unusedSimpArgs false
set_option linter.unusedVariables false

namespace LZ.GenOSAPHist
open LZ LZ.Gen LZ.GenBuf LZ.GenHash LZ.GenSuffix LZ.GenHPParse LZ.GenProps LZ.GenOSAP
open LZ.GenHPHist (GOpR GResR GOpR.WF GOpR.abs ResultsAgreeR ghostRunR callsR ghostRunR_eq resultsAgreeR_eq rfGo
  rfGo_spec stepOf stepRel_G stepRel_R)
open LZ.GenHist (HistInv FRel)

/-- the rendering of the callee `computeEdges` of the translated `Parse` -/
abbrev CEFun := Gen.optSuffixArrayParser → Res Gen.optSuffixArrayParser

def stepO (extra : Nat) (grow : Nat → Nat → Nat) (fuel : Nat) (ce : CEFun) (s : Gen.optSuffixArrayParser) :
    GOpR → Res (Gen.optSuffixArrayParser × GResR)
  | .base (.write p) => Res.bind (osap_Write grow s p) fun r => Res.ok (r.1, .base (.write r.2.1 r.2.2))
  | .base (.parse blk flags) =>
    Res.bind (optSuffixArrayParser_Parse grow fuel ce s blk flags) fun r =>
      Res.ok (r.1, .base (.parse r.2.1 r.2.2.1 r.2.2.2))
  | .base .shrink => Res.bind (optSuffixArrayParser_Shrink s) fun r => Res.ok (r.1, .base (.shrink r.2))
  | .base (.reset data) => Res.bind (optSuffixArrayParser_Reset s data) fun r => Res.ok (r.1, .base (.reset r.2))
  | .readFrom r => Res.bind (osap_ReadFrom (rfGo extra) s r) fun x => Res.ok (x.1, .readFrom x.2.2.1 x.2.2.2)

def runO (extra : Nat) (grow : Nat → Nat → Nat) (fuel : Nat) (ce : CEFun) :
    Gen.optSuffixArrayParser → List GOpR → Res (Gen.optSuffixArrayParser × List GResR)
  | s, [] => Res.ok (s, [])
  | s, op :: ops =>
    Res.bind (stepO extra grow fuel ce s op) fun r =>
    Res.bind (runO extra grow fuel ce r.1 ops) fun q => Res.ok (q.1, r.2 :: q.2)

/-! ## the machine -/

theorem runO_eq (extra : Nat) (grow : Nat → Nat → Nat) (fuel : Nat) (ce : CEFun) :
    runO extra grow fuel ce = GenHist.run (stepO extra grow fuel ce) :=
  GenHist.run_unique (fun _ => rfl) (fun _ _ _ => rfl)

/-- the Go state satisfies the invariant and abstracts to the model state, which is reachable from `p0`
    (`gen_osap_parse_model` needs that) -/
def SimO (bc : BufCfg) (B : Nat) (p0 : Parser) : Gen.optSuffixArrayParser → Parser × Ghost → Prop :=
  HistInv (FRel (HistOKO bc B) ofOSAPs) (GenHist.Reach p0)

/-- `stepO` is the machine of the four methods wrapped in `.base`, plus `ReadFrom` -/
theorem stepO_sim {bc : BufCfg} {B : Nat} (hbc : BCOKO bc) (ce : CEFun) (hCE : CESpec B ce) (extra : Nat)
    (grow : Nat → Nat → Nat) (fuel : Nat) (hfuel : bc.bufferSize + B + 5 ≤ fuel)
    (raw : Cfg) (p0 : Parser) (h0 : newParser .OSAP raw = some p0) :
    GenHist.StepSim callsR (stepO extra grow fuel ce) (SimO bc B p0) :=
  stepRel_R (fun _ op h => h.step op)
    (stepRel_G (stp := stepOf (osap_Write grow) (optSuffixArrayParser_Parse grow fuel ce) optSuffixArrayParser_Shrink
        optSuffixArrayParser_Reset)
      (fun _ op h => h.step op) (fun _ h => h.fst) (hist_write hbc grow) (hist_parse hbc grow fuel ce hCE hfuel raw p0 h0)
      (hist_shrink hbc) (hist_reset hbc) (fun _ _ => rfl) (fun _ _ _ => rfl) (fun _ => rfl) (fun _ _ => rfl))
    (hist_readFrom hbc (rfGo extra) (rfGo_spec extra))
    (fun _ op => by cases op <;> (show _ = Res.bind (Res.bind _ _) _; rw [bind_bind]; rfl)) (fun _ _ => rfl)

/-- **Simulation**, from any Go state with `HistOKO` whose model state is reachable from `NewParser`. -/
theorem runO_sim {bc : BufCfg} {B : Nat} (hbc : BCOKO bc) (ce : CEFun) (hCE : CESpec B ce) (extra : Nat)
    (grow : Nat → Nat → Nat) (fuel : Nat) (hfuel : bc.bufferSize + B + 5 ≤ fuel)
    (raw : Cfg) (p0 : Parser) (h0 : newParser .OSAP raw = some p0)
    (ops : List GOpR) (t : Gen.optSuffixArrayParser) (sg : Parser × Ghost) (h : SimO bc B p0 t sg)
    (hwf : ∀ op ∈ ops, op.WF) :
    ∃ t' rs, runO extra grow fuel ce t ops = Res.ok (t', rs) ∧ SimO bc B p0 t' (runOps sg (ops.map GOpR.abs)) ∧
      ghostRunR sg.2 ops rs = (runOps sg (ops.map GOpR.abs)).2 ∧ ResultsAgreeR sg ops rs := by
  rw [runO_eq, ghostRunR_eq, resultsAgreeR_eq]
  exact GenHist.run_sim (stepO_sim hbc ce hCE extra grow fuel hfuel raw p0 h0) ops t sg h hwf

/-! ## histories -/

/-- `init` establishes the relation; the fuel bound in the model's terms -/
theorem init_sim (B : Nat) (cfg : Gen.OSAPConfig) (s0 : Gen.optSuffixArrayParser)
    (hinit : optSuffixArrayParser_init default cfg = Res.ok (s0, Gen.Err.ok))
    (h32 : s0.OSAPConfig.MinMatchLen < 4294967296) (fuel : Nat)
    (hfuel : s0.ParserBuffer.BufConfig.BufferSize.toNat + B + 5 ≤ fuel) :
    ∃ p, newParser .OSAP (ofOSAP cfg) = some p ∧ ofOSAPs s0 = p ∧ BCOKO p.buf.cfg ∧
      SimO p.buf.cfg B p s0 (p, Ghost.init) ∧ p.buf.cfg.bufferSize + B + 5 ≤ fuel := by
  obtain ⟨p, hp, h2, hbc, hH⟩ := hist_init B cfg s0 hinit h32
  refine ⟨p, hp, h2, hbc, ⟨⟨hH, h2⟩, GenHist.Reach.init p⟩, ?_⟩
  rw [← hH.cfg]; exact hfuel

/-- the history theorem with the full relation (`SimO`: `HistOKO`, reachability) exported; `gen_osap_history` is its
    public face -/
theorem gen_osap_history_inv (B : Nat) (cfg : Gen.OSAPConfig) (s0 : Gen.optSuffixArrayParser)
    (hinit : optSuffixArrayParser_init default cfg = Res.ok (s0, Gen.Err.ok))
    (h32 : s0.OSAPConfig.MinMatchLen < 4294967296) (ce : CEFun) (hCE : CESpec B ce)
    (extra : Nat) (grow : Nat → Nat → Nat) (fuel : Nat)
    (hfuel : s0.ParserBuffer.BufConfig.BufferSize.toNat + B + 5 ≤ fuel)
    (ops : List GOpR) (hwf : ∀ op ∈ ops, op.WF) :
    ∃ p t rs, newParser .OSAP (ofOSAP cfg) = some p ∧ ofOSAPs s0 = p ∧
      runO extra grow fuel ce s0 ops = Res.ok (t, rs) ∧ BCOKO p.buf.cfg ∧
      p.buf.cfg.bufferSize + B + 5 ≤ fuel ∧ SimO p.buf.cfg B p t (runOps (p, Ghost.init) (ops.map GOpR.abs)) ∧
      ghostRunR Ghost.init ops rs = (runOps (p, Ghost.init) (ops.map GOpR.abs)).2 ∧
      ResultsAgreeR (p, Ghost.init) ops rs := by
  obtain ⟨p, hp, h2, hbc, hS, hf⟩ := init_sim B cfg s0 hinit h32 fuel hfuel
  obtain ⟨t, rs, k1, k2, k4, k5⟩ := runO_sim hbc ce hCE extra grow fuel hf (ofOSAP cfg) p hp ops s0 _ hS hwf
  exact ⟨p, t, rs, hp, h2, k1, hbc, hf, k2, k4, k5⟩

/-- **`gen_osap_history`.**  `init(cfg)` on `new(optSuffixArrayParser)` returned `nil` and stored a `MinMatchLen` below
    `2^32`; the opaque callee `computeEdges` satisfies `CESpec B ce`.  Then for every history of well-formed calls
    (`Write`, `ReadFrom`, `Parse(&blk, flags)`, `Shrink`, `Reset`) the translated functions never panic and never run
    out of fuel; the state reached satisfies `ParseOKO B`; it abstracts to the state the model reaches from `NewParser`
    with the abstracted history; every returned value — `n`, the error, the block — is the model's. -/
theorem gen_osap_history (B : Nat) (cfg : Gen.OSAPConfig) (s0 : Gen.optSuffixArrayParser)
    (hinit : optSuffixArrayParser_init default cfg = Res.ok (s0, Gen.Err.ok))
    (h32 : s0.OSAPConfig.MinMatchLen < 4294967296) (ce : CEFun) (hCE : CESpec B ce)
    (extra : Nat) (grow : Nat → Nat → Nat) (fuel : Nat)
    (hfuel : s0.ParserBuffer.BufConfig.BufferSize.toNat + B + 5 ≤ fuel)
    (ops : List GOpR) (hwf : ∀ op ∈ ops, op.WF) :
    ∃ p t rs, newParser .OSAP (ofOSAP cfg) = some p ∧ ofOSAPs s0 = p ∧
      runO extra grow fuel ce s0 ops = Res.ok (t, rs) ∧ ParseOKO B t ∧
      ofOSAPs t = (runOps (p, Ghost.init) (ops.map GOpR.abs)).1 ∧
      ghostRunR Ghost.init ops rs = (runOps (p, Ghost.init) (ops.map GOpR.abs)).2 ∧
      ResultsAgreeR (p, Ghost.init) ops rs := by
  obtain ⟨p, t, rs, hp, h2, k1, -, -, ⟨⟨k2, k3⟩, -⟩, k4, k5⟩ :=
    gen_osap_history_inv B cfg s0 hinit h32 ce hCE extra grow fuel hfuel ops hwf
  exact ⟨p, t, rs, hp, h2, k1, k2.pok, k3, k4, k5⟩

/-- … and `ParseOKO B` holds in EVERY state the history passes through: after every prefix `ops.take k` the run is
    `Res.ok` with a state satisfying `ParseOKO B`, and the whole run continues from that state. -/
theorem gen_osap_history_states (B : Nat) (cfg : Gen.OSAPConfig) (s0 : Gen.optSuffixArrayParser)
    (hinit : optSuffixArrayParser_init default cfg = Res.ok (s0, Gen.Err.ok))
    (h32 : s0.OSAPConfig.MinMatchLen < 4294967296) (ce : CEFun) (hCE : CESpec B ce)
    (extra : Nat) (grow : Nat → Nat → Nat) (fuel : Nat)
    (hfuel : s0.ParserBuffer.BufConfig.BufferSize.toNat + B + 5 ≤ fuel)
    (ops : List GOpR) (hwf : ∀ op ∈ ops, op.WF) (k : Nat) :
    ∃ tk rk t rs', runO extra grow fuel ce s0 (ops.take k) = Res.ok (tk, rk) ∧ ParseOKO B tk ∧
      runO extra grow fuel ce tk (ops.drop k) = Res.ok (t, rs') ∧
      runO extra grow fuel ce s0 ops = Res.ok (t, rk ++ rs') := by
  obtain ⟨p, hp, -, hbc, hS, hf⟩ := init_sim B cfg s0 hinit h32 fuel hfuel
  rw [runO_eq]
  obtain ⟨tk, rk, t, rs', k1, ⟨⟨k2, -⟩, -⟩, j1, j2⟩ :=
    GenHist.run_states (stepO_sim hbc ce hCE extra grow fuel hf (ofOSAP cfg) p hp) ops s0 _ hS hwf k
  exact ⟨tk, rk, t, rs', k1, k2.pok, j1, j2⟩

/-! ## the property theorems about the translation -/

/-- **C01 about the Go text of OSAP.**  `cfg` is any configuration for which the translated `init`, called on the zero
    value, returns `nil` (with `MinMatchLen < 2^32`); `computeEdges` satisfies `CESpec B ce`.  Run any history of
    `Write(p)`, `ReadFrom(r)`, `Parse(&blk, flags)`, `Shrink()`, `Reset(data)` (slices with `len ≤ cap`, `flags ≥ 0`) on
    the TRANSLATED functions, with any capacity policy for `append` and any `fuel ≥ BufferSize + B + 5`.  Then no call
    panics or runs out of fuel, and the reference decoder, applied to the blocks the translated `Parse` returned since the
    last successful `Reset`, yields exactly the first `consumed` bytes of what the translated `Write` / `ReadFrom` /
    `Reset` accepted. -/
theorem C01_go_text_osap (B : Nat) (cfg : Gen.OSAPConfig) (s0 : Gen.optSuffixArrayParser)
    (hinit : optSuffixArrayParser_init default cfg = Res.ok (s0, Gen.Err.ok))
    (h32 : s0.OSAPConfig.MinMatchLen < 4294967296) (ce : CEFun) (hCE : CESpec B ce)
    (extra : Nat) (grow : Nat → Nat → Nat) (fuel : Nat)
    (hfuel : s0.ParserBuffer.BufConfig.BufferSize.toNat + B + 5 ≤ fuel)
    (ops : List GOpR) (hwf : ∀ op ∈ ops, op.WF) :
    ∃ t rs, runO extra grow fuel ce s0 ops = Res.ok (t, rs) ∧
      decode [] (ghostRunR Ghost.init ops rs).log =
        some ((ghostRunR Ghost.init ops rs).fed.take (ghostRunR Ghost.init ops rs).consumed) := by
  obtain ⟨p, t, rs, hp, -, h1, -, -, h4, -⟩ := gen_osap_history B cfg s0 hinit h32 ce hCE extra grow fuel hfuel ops hwf
  exact ⟨t, rs, h1, GenHist.C01_ghost hp (histHyp_osap p) h4⟩

/-- **C02 about the Go text of OSAP**: every sequence of every block the translated `Parse` returned has
    `1 ≤ Offset ≤ WindowSize`, `Offset ≤` the stream bytes before its match, `MatchLen ≥ MinMatchLen`, `Aux = 0`, and the
    `LitLen`s of a block do not exceed its literals. -/
theorem C02_go_text_osap (B : Nat) (cfg : Gen.OSAPConfig) (s0 : Gen.optSuffixArrayParser)
    (hinit : optSuffixArrayParser_init default cfg = Res.ok (s0, Gen.Err.ok))
    (h32 : s0.OSAPConfig.MinMatchLen < 4294967296) (ce : CEFun) (hCE : CESpec B ce)
    (extra : Nat) (grow : Nat → Nat → Nat) (fuel : Nat)
    (hfuel : s0.ParserBuffer.BufConfig.BufferSize.toNat + B + 5 ≤ fuel)
    (ops : List GOpR) (hwf : ∀ op ∈ ops, op.WF) :
    ∃ t rs, runO extra grow fuel ce s0 ops = Res.ok (t, rs) ∧
      LogAll (fun pos e => ∀ n fl blk, e = .block n fl blk →
        SeqsAll (SeqWF s0.ParserBuffer.BufConfig.WindowSize.toNat s0.OSAPConfig.MinMatchLen.toNat) pos blk.seqs ∧
        litSum blk.seqs ≤ blk.lits.length) 0 (ghostRunR Ghost.init ops rs).log := by
  obtain ⟨p, t, rs, hp, h0, h1, -, -, h4, -⟩ := gen_osap_history B cfg s0 hinit h32 ce hCE extra grow fuel hfuel ops hwf
  subst h0
  exact ⟨t, rs, h1, GenHist.C02_ghost hp (histHyp_osap _) h4⟩

/-- **C03 about the Go text of OSAP**: the blocks tile the consumed stream. -/
theorem C03_go_text_osap (B : Nat) (cfg : Gen.OSAPConfig) (s0 : Gen.optSuffixArrayParser)
    (hinit : optSuffixArrayParser_init default cfg = Res.ok (s0, Gen.Err.ok))
    (h32 : s0.OSAPConfig.MinMatchLen < 4294967296) (ce : CEFun) (hCE : CESpec B ce)
    (extra : Nat) (grow : Nat → Nat → Nat) (fuel : Nat)
    (hfuel : s0.ParserBuffer.BufConfig.BufferSize.toNat + B + 5 ≤ fuel)
    (ops : List GOpR) (hwf : ∀ op ∈ ops, op.WF) :
    ∃ t rs, runO extra grow fuel ce s0 ops = Res.ok (t, rs) ∧
      let g := ghostRunR Ghost.init ops rs
      LogAll (fun pos e => 1 ≤ e.n ∧ e.n ≤ s0.ParserBuffer.BufConfig.BlockSize.toNat ∧
        pos + e.n ≤ g.fed.length ∧
        ∀ n fl blk, e = .block n fl blk →
          blk.len = n ∧ expand (g.fed.take pos) blk = some (g.fed.take (pos + n)) ∧
          (fl % 2 = 1 → blk.seqs ≠ [] → blk.lits.length = litSum blk.seqs ∧ n = seqsSpan blk.seqs)) 0 g.log ∧
      logSpan g.log = g.consumed ∧ g.consumed ≤ g.fed.length := by
  obtain ⟨p, t, rs, hp, h0, h1, -, -, h4, -⟩ := gen_osap_history B cfg s0 hinit h32 ce hCE extra grow fuel hfuel ops hwf
  subst h0
  exact ⟨t, rs, h1, GenHist.C03_ghost hp (histHyp_osap _) h4⟩

/-! ## C11 -/

/-- the number of bytes the next block covers, from the Go state: `min(len(s.Data) - s.W, BlockSize)` -/
def blockLen (t : Gen.optSuffixArrayParser) : Nat :=
  Min.min (t.ParserBuffer.Data.data.length - t.ParserBuffer.W.toNat) t.ParserBuffer.BufConfig.BlockSize.toNat

theorem lzPathOK_lits (p : List Byte) (w ws mm mx n : Nat) :
    ∀ (k a : Nat), a + k = n → Sap.LzPathOK p w ws mm mx n a n (List.replicate k ((1, 0) : Edge))
  | 0, a, h => by
    show a = n
    omega
  | k + 1, a, h => by
    show Sap.LzStep p w ws mm mx n a 1 0 ∧ Sap.LzPathOK p w ws mm mx n (a + 1) n (List.replicate k ((1, 0) : Edge))
    exact ⟨Or.inl ⟨rfl, rfl, by omega⟩, lzPathOK_lits p w ws mm mx n k (a + 1) (by omega)⟩

theorem pathCost_lits : ∀ k : Nat, Sap.pathCost (List.replicate k ((1, 0) : Edge)) = 9 * k
  | 0 => rfl
  | k + 1 => by
    rw [List.replicate_succ, Sap.pathCost_cons, pathCost_lits k]
    show xzCost 1 0 + 9 * k = 9 * (k + 1)
    have : xzCost 1 0 = 9 := by decide
    omega

/-- the rendering of a path as a block: `pathToSeqs` from the window head, the literals behind the last match appended -/
def renderPath (p : List Byte) (W : Nat) (π : List Edge) : Block :=
  let r := pathToSeqs p π W W [] []
  ⟨r.1, r.2.1 ++ p.drop r.2.2.2⟩

theorem pathToSeqs_lits (p : List Byte) : ∀ (k i li : Nat) (seqs : List Seq) (lits : List Byte),
    pathToSeqs p (List.replicate k ((1, 0) : Edge)) i li seqs lits = (seqs, lits, i + k, li)
  | 0, i, li, seqs, lits => rfl
  | k + 1, i, li, seqs, lits => by
    rw [List.replicate_succ]
    show (if (0 : Nat) = 0 then pathToSeqs p (List.replicate k ((1, 0) : Edge)) (i + 1) li seqs lits else _) = _
    rw [if_pos rfl, pathToSeqs_lits p k (i + 1) li seqs lits]
    congr 3
    omega

/-- **C11 about the Go text of OSAP.**  After ANY history of the translated operations (there is no `Parse(nil)` among
    them), the next `Parse(&blk, flags)` of the translated `Parse` with EVEN flags (no `NoTrailingLiterals`) on a
    non-empty buffer (`blockLen t ≠ 0`) returns `n = min(len(Data) − W, BlockSize)`, `nil`, and a block for which there
    is a path `π` (list of `(length, offset)` steps, offset 0 = a literal) such that
    * `π` is an LZ77 parse of the block bytes `p[W : W+n]`, `p = Data[:W+n]`: every step is a literal or a genuine match of
      the buffered bytes with `MinMatchLen ≤ m ≤ MaxMatchLen`, `1 ≤ o ≤ WindowSize`, source inside the buffer, staying
      inside the block (`Sap.LzParse`),
    * the block IS the rendering of `π` (`renderPath`: the literal steps in front of a match become its `LitLen` and its
      literal bytes, a match step `(m, o)` becomes `MatchLen = m`, `Offset = o`, the literals behind the last match are
      appended),
    * the block costs what `π` costs: `Σ XZCost(MatchLen, Offset)` + 9 bits per literal byte,
    * and NO LZ77 parse of these bytes is cheaper.
    The statement mentions the translated functions, `ofBlock` and the specification predicates `Sap.LzParse`,
    `Sap.blockCost`, `Sap.pathCost` only. -/
theorem C11_go_text_osap (B : Nat) (cfg : Gen.OSAPConfig) (s0 : Gen.optSuffixArrayParser)
    (hinit : optSuffixArrayParser_init default cfg = Res.ok (s0, Gen.Err.ok))
    (h32 : s0.OSAPConfig.MinMatchLen < 4294967296) (ce : CEFun) (hCE : CESpec B ce)
    (extra : Nat) (grow : Nat → Nat → Nat) (fuel : Nat)
    (hfuel : s0.ParserBuffer.BufConfig.BufferSize.toNat + B + 5 ≤ fuel)
    (ops : List GOpR) (hwf : ∀ op ∈ ops, op.WF) (blk : Gen.Block') (flags : Int) (hfl : 0 ≤ flags)
    (hev : flags % 2 = 0) :
    ∃ t rs t' blk' n e, runO extra grow fuel ce s0 ops = Res.ok (t, rs) ∧
      optSuffixArrayParser_Parse grow fuel ce t blk flags = Res.ok (t', blk', n, e) ∧
      (blockLen t ≠ 0 →
        let W := t.ParserBuffer.W.toNat
        let p := t.ParserBuffer.Data.data.take (W + blockLen t)
        let ws := t.ParserBuffer.BufConfig.WindowSize.toNat
        let mm := t.OSAPConfig.MinMatchLen.toNat
        let mx := t.OSAPConfig.MaxMatchLen.toNat
        n = (blockLen t : Int) ∧ e = Gen.Err.ok ∧
        ∃ π, Sap.LzParse p W ws mm mx (blockLen t) π ∧ ofBlock blk' = renderPath p W π ∧
          Sap.blockCost (ofBlock blk') = Sap.pathCost π ∧
          ∀ π', Sap.LzParse p W ws mm mx (blockLen t) π' → Sap.pathCost π ≤ Sap.pathCost π') := by
  obtain ⟨p, t, rs, hp, h2, k1, hbc, hf, ⟨⟨k2, hr1⟩, -⟩, -⟩ :=
    gen_osap_history_inv B cfg s0 hinit h32 ce hCE extra grow fuel hfuel ops hwf
  obtain ⟨t', blk', j1, -, j4, -, -⟩ := hist_parse hbc grow fuel ce hCE hf (ofOSAP cfg) p hp t (ofOSAPs t) blk flags
    ⟨k2, rfl⟩ ⟨ops.map GOpR.abs, hr1⟩ hfl
  refine ⟨t, rs, t', blk', _, _, k1, j1, ?_⟩
  intro hn
  have hs : ofOSAPs t = Sap.runOps p ((ops.map GOpR.abs).map POp.toSap) := by
    rw [hr1]; exact runOps_toSap _ (p, Ghost.init)
  have hf2 : flags.toNat % 2 = 0 := by omega
  have hnM : (ofOSAPs t).blockN ≠ 0 := hn
  have hC := Sap.C11_optimal_unconditional_all (ofOSAP cfg) p hp
    ((ops.map GOpR.abs).map POp.toSap) flags.toNat hf2 (by rw [← hs]; exact hnM)
  rw [← hs] at hC
  obtain ⟨o, hd, hlz, hmin⟩ := hC
  have ho : o = ofOD t := by
    have hd' : Dict.osap (ofOD t) = Dict.osap o := hd
    injection hd' with hd'
    exact hd'.symm
  subst ho
  obtain ⟨hnn, hee⟩ := Sap.parse_osap_n (ofOSAPs t) (ofOD t) rfl flags.toNat hnM hf2
  have hcost := Sap.osap_block_cost (ofOSAPs t) (ofOD t) rfl flags.toNat hnM hf2
  have hblk := Sap.parse_osap_block (ofOSAPs t) (ofOD t) rfl flags.toNat hnM hf2
  rw [j4]
  refine ⟨by rw [hnn]; rfl, by rw [hee]; rfl, ?_⟩
  by_cases h0 : (Sap.osapEdges (ofOSAPs t) (ofOD t)).nEdges = 0
  · rw [if_pos h0] at hcost hblk
    refine ⟨List.replicate (blockLen t) ((1, 0) : Edge), lzPathOK_lits _ _ _ _ _ _ _ 0 (by omega), ?_, ?_, ?_⟩
    · rw [hblk]
      unfold renderPath
      rw [pathToSeqs_lits]
      simp only [List.nil_append]
      refine congrArg (fun l => (⟨[], l⟩ : Block)) ?_
      rw [List.drop_take, Nat.add_sub_cancel_left]
      rfl
    · rw [hcost, pathCost_lits]; rfl
    · intro π' hπ'
      have := hmin π' hπ'
      rw [hcost] at this
      rw [pathCost_lits]; exact this
  · rw [if_neg h0] at hcost hblk
    refine ⟨Sap.osapPath (ofOSAPs t) (ofOD t), hlz, hblk, hcost, ?_⟩
    intro π' hπ'
    have := hmin π' hπ'
    rw [hcost] at this
    exact this

end LZ.GenOSAPHist

#print axioms LZ.GenOSAPHist.stepO_sim
#print axioms LZ.GenOSAPHist.runO_sim
#print axioms LZ.GenOSAPHist.gen_osap_history
#print axioms LZ.GenOSAPHist.gen_osap_history_states
#print axioms LZ.GenOSAPHist.C01_go_text_osap
#print axioms LZ.GenOSAPHist.C02_go_text_osap
#print axioms LZ.GenOSAPHist.C03_go_text_osap
#print axioms LZ.GenOSAPHist.C11_go_text_osap
