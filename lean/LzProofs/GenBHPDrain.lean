/-
  LzProofs.GenBHPDrain — C14 "repeated `Parse(nil)` drains the buffer" about the Go text of BHP: `C14_drains`
  (LzProofs/ParseProps.lean) transported along the history simulation of LzProofs/GenBHPHistNil.lean by `GenDrain.drain_go`.
  The histories of BHP are over the `GOpN` / `GResN` of LZ.GenHPHist, so `nilOps`, `drainRes`, `nSum` are those of
  LzProofs/GenDrainShared.lean for that call type.  `lcs` stays the opaque parameter of the translation of bhp.go under
  `LcsSpec` (the drain calls never call it; the history before them may).
-/
import LzProofs.GenBHPHistNil
import LzProofs.GenDrainShared

set_option linter.unusedSimpArgs false
set_option linter.unusedVariables false

namespace LZ.GenBHPHist
open LZ LZ.Gen LZ.GenBuf LZ.GenHash LZ.GenHPParse LZ.GenBHPParse LZ.GenProps LZ.GenNil
open LZ.GenHPHist (rfGo rfGo_spec GOpN GResN GOpN.WF nilOps drainRes nSum nilOps_eq drainRes_eq nSum_eq nilCalls)

/-- C14 (repeated `Parse(nil)` drains the buffer) about the Go text of BHP.  Run any history `ops` of the translated
    `Write`, `ReadFrom`, `Parse(&blk)`, `Parse(nil)`, `Shrink`, `Reset` from `backwardHashParser.init` (`lcs` under
    `LcsSpec`); let `t` be the Go state reached, `u = len(Data) − W` its unparsed bytes, `bs = BlockSize`, `r = ⌈u / bs⌉`.
    Then ANY further sequence of translated `Parse(nil, flags_k)` calls (`fl`: ghost values and flags, all arbitrary) runs
    without panic and returns exactly `drainRes bs u 0 fl`: call `k < r` returns `n = min(bs, u − k·bs) > 0` and `nil`, every
    call `k ≥ r` returns `(0, ErrEmptyBuffer)` — `ErrEmptyBuffer` is reached after exactly `r` calls —, each hands its ghost
    block back; the returned `n` sum to `min(u, m·bs)` (`m` = number of calls), `W` ends at `min(len(Data), W + m·bs)` with
    `len(Data)` unchanged; once `m ≥ r` the `n` sum to the unparsed length `u` and `W = len(Data)`. -/
theorem C14_drains_go_text_bhp (cfg : Gen.BHPConfig) (s0 : Gen.backwardHashParser)
    (hinit : backwardHashParser_init default cfg = Res.ok (s0, Gen.Err.ok))
    (extra : Nat) (grow : Nat → Nat → Nat) (fuel : Nat) (lcs : Slice → Slice → Int) (hlcs : LcsSpec lcs)
    (hfuel : 2 * s0.hashDictionary.ParserBuffer.BufConfig.BufferSize.toNat + 3 ≤ fuel)
    (ops : List GOpN) (hwf : ∀ op ∈ ops, op.WF) (fl : List (Gen.Block' × Int)) :
    ∃ t rs, runN (rfGo extra) grow fuel lcs s0 ops = Res.ok (t, rs) ∧
      let bs := t.hashDictionary.ParserBuffer.BufConfig.BlockSize.toNat
      let u := t.hashDictionary.ParserBuffer.Data.len - t.hashDictionary.ParserBuffer.W.toNat
      let r := (u + bs - 1) / bs
      ∃ t', runN (rfGo extra) grow fuel lcs t (nilOps fl) = Res.ok (t', drainRes bs u 0 fl) ∧
        nSum (drainRes bs u 0 fl) = ((Min.min u (fl.length * bs) : Nat) : Int) ∧
        t'.hashDictionary.ParserBuffer.Data.len = t.hashDictionary.ParserBuffer.Data.len ∧
        t'.hashDictionary.ParserBuffer.W =
          ((Min.min t.hashDictionary.ParserBuffer.Data.len (t.hashDictionary.ParserBuffer.W.toNat + fl.length * bs) : Nat) : Int) ∧
        (r ≤ fl.length → nSum (drainRes bs u 0 fl) = (u : Int) ∧
          t'.hashDictionary.ParserBuffer.W = (t.hashDictionary.ParserBuffer.Data.len : Int)) := by
  obtain ⟨p, t, rs, hp, -, h1, hH, hbc, hf, -⟩ :=
    gen_bhp_history_nil cfg s0 hinit extra grow fuel lcs hlcs hfuel ops hwf
  refine ⟨t, rs, h1, ?_⟩
  have hbs : 1 ≤ t.hashDictionary.ParserBuffer.BufConfig.BlockSize.toNat := by
    have := (newParser_inv .BHP (ofBHP cfg) p hp).2.2
    rw [← hH.cfg] at this; exact this
  rw [runN_eq, nilOps_eq, drainRes_eq, nSum_eq]
  exact GenDrain.drain_go (bufHost hbc) nilCalls (stepN_sim hbc (rfGo extra) (rfGo_spec extra) grow fuel lcs hlcs hf) t (_, Ghost.init)
    ⟨⟨hH, rfl⟩, trivial⟩ hbs fl
end LZ.GenBHPHist

#print axioms LZ.GenBHPHist.C14_drains_go_text_bhp
