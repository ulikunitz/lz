/-
  The bucket hash of the BUP parser: `BucketT.clear`
  (LzModel/Hash.lean) equals the mechanical translation of `bucketHash.reset` (bucket_hash.go;
  LzModel/Generated/CodeBucketTab.lean).

  Abstraction: `ofBucket g` — buckets as pairs (pos, val) of naturals, the ring indexes as
  naturals, `hashBits := 64 - shift`.  Invariant: len ≤ cap for both slices.

      K01 gen_bucketHash_reset   ofBucket (reset g) = (ofBucket g).clear

  `bucketHash.init` and `add` are translated under other topics (CodeBucketInit, CodeBUPParse);
  `shiftOffsets` is not translated.
-/
import LzModel.Generated.CodeBucketTab
import LzModel.Hash
import LzProofs.GenHashPropsBase

set_option linter.unusedSimpArgs false
set_option linter.unusedVariables false

namespace LZ.GenHash
open LZ LZ.Gen LZ.GenBuf

def zeroB : bucketEntry := { pos := 0, val := 0 }

def ofBEntry (e : bucketEntry) : Nat × Nat := (e.pos.toNat, e.val.toNat)

/-- the model state a Go `bucketHash` value stands for -/
def ofBucket (g : Gen.bucketHash) : BucketT :=
  { buckets := (g.buckets.data.map ofBEntry).toArray, indexes := (g.indexes.data.map UInt8.toNat).toArray,
    inputLen := g.inputLen.toNat, hashBits := 64 - g.shift.toNat, bucketSize := g.bucketSize.toNat }

def BucketWF (g : Gen.bucketHash) : Prop := GWF g.buckets ∧ SWF g.indexes

theorem bucketT_ext (a b : BucketT) (h1 : a.buckets.toList = b.buckets.toList) (h2 : a.indexes.toList = b.indexes.toList)
    (h3 : a.inputLen = b.inputLen) (h4 : a.hashBits = b.hashBits) (h5 : a.bucketSize = b.bucketSize) : a = b := by
  cases a; cases b
  simp only [BucketT.mk.injEq]
  exact ⟨Array.toList_inj.mp h1, Array.toList_inj.mp h2, h3, h4, h5⟩

theorem ofBEntry_zero' : ofBEntry { pos := 0, val := 0 } = (0, 0) := rfl

/-- K01 `bucketHash.reset` -/
theorem gen_bucketHash_reset (g : Gen.bucketHash) (h : BucketWF g) :
    ∃ g', bucketHash_reset g = Res.ok g' ∧ ofBucket g' = (ofBucket g).clear ∧ BucketWF g' := by
  obtain ⟨hb, hi⟩ := h
  unfold bucketHash_reset
  (try simp only [gen_helper, bind_ok])
  refine ⟨_, rfl, ?_, ?_⟩
  · apply bucketT_ext
    · simp only [ofBucket, BucketT.clear, gclear_data _ _ hb, List.map_replicate, ofBEntry_zero',
        Array.toList_replicate, List.size_toArray, List.length_map, gdata_length hb]
    · simp only [ofBucket, BucketT.clear, bclear_data _ hi, List.map_replicate, UInt8.toNat_zero,
        Array.toList_replicate, List.size_toArray, List.length_map, data_length hi]
    · rfl
    · rfl
    · rfl
  · exact ⟨gclear_wf _ _ hb, bclear_wf _ hi⟩

end LZ.GenHash

#print axioms LZ.GenHash.gen_bucketHash_reset
