/-
  `Reset` and `Shrink` of the double hash parsers (DHP, BDHP:
  both embed `doubleHashDictionary`) and `Reset` of the bucket parser (BUP: `bucketDictionary`):
  the model (`Parser.reset`, `Parser.shrink`; LzModel/Parser.lean) equals the mechanical
  translation of hash.go `doubleHashDictionary.Reset / Shrink` (CodeDHashDict.lean) and
  bucket_hash.go `bucketDictionary.Reset` (CodeBucketDict.lean).

      P04 gen_dhp_reset    doubleHashDictionary.Reset(data) vs Parser.reset (dict = .double)
      P05 gen_dhp_shrink   doubleHashDictionary.Shrink()    vs Parser.shrink
      P06 gen_bup_reset    bucketDictionary.Reset(data)     vs Parser.reset (dict = .bucket)
  The `init` methods are in GenDHPInit (`gen_ddict_init`, `gen_dhp_init`, `gen_bdhp_init`) and GenBHPHist
  (`gen_bhp_init`).
-/
import LzModel.Generated.CodeDHashDict
import LzModel.Generated.CodeBucketDict
import LzProofs.GenHashPropsDict
import LzProofs.GenHashPropsBucket

set_option linter.unusedSimpArgs false
set_option linter.unusedVariables false

namespace LZ.GenHash
open LZ LZ.Gen LZ.GenBuf LZ.GenProps

def DDictWF (f : Gen.doubleHashDictionary) : Prop := PBWF f.ParserBuffer ∧ HashWF f.h1 ∧ HashWF f.h2

/-- the model parser state (kind DHP or BDHP) a Go `doubleHashDictionary` stands for -/
def ofDDict (k : Kind) (c : Cfg) (f : Gen.doubleHashDictionary) : Parser :=
  { kind := k, cfg := c, buf := ofPB f.ParserBuffer, dict := .double { h1 := ofHash f.h1, h2 := ofHash f.h2 } }

/-- P04 `Reset(data)` of the double hash parsers -/
theorem gen_dhp_reset (k : Kind) (c : Cfg) (f : Gen.doubleHashDictionary) (h : DDictWF f) (data : Slice) (hdat : SWF data) :
    ∃ f' e, doubleHashDictionary_Reset f data = Res.ok (f', e) ∧
      ofDDict k c f' = (Parser.reset (ofDDict k c f) data.data (data.cap - data.len)).1 ∧
      errOfReset e = some (Parser.reset (ofDDict k c f) data.data (data.cap - data.len)).2 ∧ DDictWF f' := by
  obtain ⟨hpb, hh1, hh2⟩ := h
  obtain ⟨b', e, hb, hwf, herr, hok, hbad⟩ := reset_frame (ofDDict k c f) f.ParserBuffer rfl hpb data hdat
  unfold doubleHashDictionary_Reset
  rw [hb]
  by_cases he : e = Gen.Err.ok
  · obtain ⟨g1, hg1, hofg1, hwg1⟩ := gen_hash_reset f.h1 hh1
    obtain ⟨g2, hg2, hofg2, hwg2⟩ := gen_hash_reset f.h2 hh2
    simp only [bind_ok, he, ne_eq, not_true_eq_false, if_false, hg1, hg2]
    rw [he] at herr
    refine ⟨_, _, rfl, ?_, herr, hwf, hwg1, hwg2⟩
    rw [hok he]
    exact congr (congrArg (fun t u => Parser.mk k c (ofPB b') (.double ⟨t, u⟩)) hofg1) hofg2
  · simp only [bind_ok, he, ne_eq, not_false_eq_true, if_true]
    exact ⟨_, _, rfl, by rw [(hbad he).2]; exact congrArg (fun t => Parser.mk k c t _) (hbad he).1, herr, hwf, hh1, hh2⟩

/-- P05 `Shrink()` of the double hash parsers (hypotheses as in `gen_hp_shrink`) -/
theorem gen_dhp_shrink (k : Kind) (c : Cfg) (f : Gen.doubleHashDictionary) (h : DDictWF f)
    (hw : f.ParserBuffer.W - f.ParserBuffer.BufConfig.ShrinkSize ≤ f.ParserBuffer.Data.len)
    (hW : f.ParserBuffer.W < 4294967296) :
    ∃ f', doubleHashDictionary_Shrink f = Res.ok (f', ((Parser.shrink (ofDDict k c f)).2 : Int)) ∧
      ofDDict k c f' = (Parser.shrink (ofDDict k c f)).1 ∧ DDictWF f' := by
  obtain ⟨hpb, hh1, hh2⟩ := h
  obtain ⟨b', d, hb, hwf, hd2, hdlt, hzero, hpos⟩ := shrink_frame (ofDDict k c f) f.ParserBuffer rfl hpb hw
  unfold doubleHashDictionary_Shrink
  rw [hb, ← hd2]
  simp only [bind_ok]
  -- the test `delta > 0` (or `delta <= 0` with an early return) is decided from the value of `d`
  by_cases hd : d = 0
  · rw [(hzero hd).2]
    decide_ite
    exact ⟨_, rfl, congrArg (fun t => Parser.mk k c t _) (hzero hd).1, hwf, hh1, hh2⟩
  · obtain ⟨g1, hg1, hofg1, hwg1⟩ := gen_hash_shiftOffsets f.h1 (UInt32.ofInt (d : Int)) hh1
    obtain ⟨g2, hg2, hofg2, hwg2⟩ := gen_hash_shiftOffsets f.h2 (UInt32.ofInt (d : Int)) hh2
    rw [toNat_ofInt32_small d (hdlt hW)] at hofg1 hofg2
    rw [hpos hd]
    decide_ite
    simp only [hg1, hg2, bind_ok]
    exact ⟨_, rfl, congr (congrArg (fun t u => Parser.mk k c (ofPB b') (.double ⟨t, u⟩)) hofg1) hofg2, hwf, hwg1, hwg2⟩

/-! ## the bucket parser -/

def BDictWF (f : Gen.bucketDictionary) : Prop := PBWF f.ParserBuffer ∧ BucketWF f.bucketHash

/-- the model parser state (kind BUP) a Go `bucketDictionary` stands for -/
def ofBDict (c : Cfg) (f : Gen.bucketDictionary) : Parser :=
  { kind := .BUP, cfg := c, buf := ofPB f.ParserBuffer, dict := .bucket (ofBucket f.bucketHash) }

/-- P06 `Reset(data)` of the bucket parser -/
theorem gen_bup_reset (c : Cfg) (f : Gen.bucketDictionary) (h : BDictWF f) (data : Slice) (hdat : SWF data) :
    ∃ f' e, bucketDictionary_Reset f data = Res.ok (f', e) ∧
      ofBDict c f' = (Parser.reset (ofBDict c f) data.data (data.cap - data.len)).1 ∧
      errOfReset e = some (Parser.reset (ofBDict c f) data.data (data.cap - data.len)).2 ∧ BDictWF f' := by
  obtain ⟨hpb, hh⟩ := h
  obtain ⟨b', e, hb, hwf, herr, hok, hbad⟩ := reset_frame (ofBDict c f) f.ParserBuffer rfl hpb data hdat
  unfold bucketDictionary_Reset
  rw [hb]
  by_cases he : e = Gen.Err.ok
  · obtain ⟨g', hg, hofg, hwg⟩ := gen_bucketHash_reset f.bucketHash hh
    simp only [bind_ok, he, ne_eq, not_true_eq_false, if_false, hg]
    rw [he] at herr
    exact ⟨_, _, rfl, by rw [hok he]; exact congrArg (fun t => Parser.mk .BUP c (ofPB b') (.bucket t)) hofg, herr, hwf, hwg⟩
  · simp only [bind_ok, he, ne_eq, not_false_eq_true, if_true]
    exact ⟨_, _, rfl, by rw [(hbad he).2]; exact congrArg (fun t => Parser.mk .BUP c t _) (hbad he).1, herr, hwf, hh⟩

end LZ.GenHash

#print axioms LZ.GenHash.gen_dhp_reset
#print axioms LZ.GenHash.gen_dhp_shrink
#print axioms LZ.GenHash.gen_bup_reset
