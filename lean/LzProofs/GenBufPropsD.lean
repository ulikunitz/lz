/-
  The DecoderBuffer methods without loops (D01–D07; the copy loops D08–D10 are in
  GenBufPropsDCopy): the hand-written model `DecBuf` (LzModel/DecBuf.lean) equals the code that `tools/extract -code`
  regenerates from decoder_buffer.go (LzModel/Generated/CodeDBuf.lean: byte slices as values `Gen.Slice`, panics and
  loop fuel as `Gen.Res`, error variables).

  Abstraction map `ofDB : Gen.DecoderBuffer → DecBuf` (Go ints ↦ naturals by `Int.toNat`, `Data ↦ Data.data =
  arr.take len`, `cap = arr.length`); `errOf : Gen.Err → Option LZ.Err` reads the package-level error variables
  (`none` for any other value).  Representation invariant (an explicit hypothesis, shown to be preserved): `DBWF b`,
  i.e. `SWF b.Data : len ≤ arr.length` and the int fields the model stores as naturals are ≥ 0.  Every theorem
  quantifies over ALL states and inputs satisfying the stated hypotheses and every growth function `g` (with
  `GrowOK g : ∀ c n, n ≤ g c n` where `append` may reallocate).

    D01 gen_dbuf_init   D02 gen_dbuf_reset   D03 gen_dbuf_byteAtEnd   D04 gen_dbuf_read (+ gen_dbuf_read_panic)
    D05 gen_dbuf_shrink   D06 gen_dbuf_writeByte   D07 gen_dbuf_write

  The generated code is emitted per topic (CodePBuf, CodeDBuf, CodeDBufCopy, …) and the proofs follow that division,
  so that a construct the translator refuses in decoder_buffer.go does not take the ParserBuffer theorems down, and
  vice versa.  All names live in `LZ.GenBuf`.
-/
import LzModel.Generated.CodeDBuf
import LzProofs.GenBufPropsBase
import LzProofs.GenPropsDec
import LzProofs.GenPropsInts
import LzProofs.DecBufLemmas

set_option linter.unusedSimpArgs false
set_option linter.unusedVariables false

namespace LZ.GenBuf
open LZ LZ.Gen

/-! ## `okAnd`, the idiom only this file uses (the other, `decide_ite`, is in GenBufPropsBase)

`okAnd r P` — the computation `r` returns normally with a value satisfying `P`.  A theorem
`∃ b', f … = Res.ok (b', v) ∧ Q b'` is proved by unfolding `f`, splitting every `if`, and
showing `okAnd leaf P` for every leaf — no leaf has to be written down. -/

def okAnd {α : Type} (r : Res α) (P : α → Prop) : Prop := ∃ a, r = Res.ok a ∧ P a

theorem okAnd_ok {α : Type} (a : α) (P : α → Prop) : okAnd (Res.ok a) P ↔ P a :=
  ⟨fun ⟨_, e, h⟩ => by cases e; exact h, fun h => ⟨a, rfl, h⟩⟩

/-! ## DecoderBuffer -/

structure DBWF (b : DecoderBuffer) : Prop where
  data : SWF b.Data
  r : 0 ≤ b.R
  off : 0 ≤ b.Off
  ws : 0 ≤ b.DecoderConfig.WindowSize
  bs : 0 ≤ b.DecoderConfig.BufferSize

/-- abstraction map: generated `DecoderBuffer` ↦ model `DecBuf` -/
def ofDB (b : DecoderBuffer) : DecBuf :=
  { data := b.Data.data, r := b.R.toNat, off := b.Off.toNat, ws := b.DecoderConfig.WindowSize.toNat,
    bs := b.DecoderConfig.BufferSize.toNat, cap := b.Data.cap }

/-- under `DBWF` the natural numbers of the model are the Go ints: the facts from which `omega` decides a test of the
    Go text in a case of the model -/
theorem DBWF.casts {b : DecoderBuffer} (h : DBWF b) :
    ((ofDB b).ws : Int) = b.DecoderConfig.WindowSize ∧ ((ofDB b).bs : Int) = b.DecoderConfig.BufferSize ∧
    (ofDB b).data.length = b.Data.len :=
  ⟨Int.toNat_of_nonneg h.ws, Int.toNat_of_nonneg h.bs, data_length h.data⟩

/-- what the Go run time guarantees about the capacity `append` chooses -/
def GrowOK (g : Nat → Nat → Nat) : Prop := ∀ c n, n ≤ g c n

/-- D01 `Init(cfg)` -/
theorem gen_dbuf_init (b : DecoderBuffer) (cfg : Gen.DecoderConfig) :
    match DecBuf.init cfg.WindowSize cfg.BufferSize b.Data.cap with
    | some m => ∃ b', DecoderBuffer_Init b cfg = Res.ok (b', Gen.Err.ok) ∧ ofDB b' = m ∧ DBWF b'
    | none => ∃ e, DecoderBuffer_Init b cfg = Res.ok (b, e) ∧ e ≠ Gen.Err.ok := by
  unfold DecBuf.init
  rw [GenProps.gen_decCfg]
  have hc : (⟨cfg.WindowSize, cfg.BufferSize⟩ : Gen.DecoderConfig) = cfg := rfl
  simp only [hc]
  unfold DecoderBuffer_Init
  by_cases hok : DecoderConfig_Verify (DecoderConfig_SetDefaults cfg) = Gen.Err.ok
  · simp only [hok, ne_eq, not_true_eq_false, if_false, if_true]
    rw [slice_zero]
    simp only [bind_ok, Slice.cap, Int.ofNat_eq_natCast]
    have hv := (GenProps.gen_decVerify (DecoderConfig_SetDefaults cfg)).mp hok
    obtain ⟨⟨hb1, _⟩, hw0, _⟩ := hv
    by_cases hcap : (b.Data.arr.length : Int) > (DecoderConfig_SetDefaults cfg).BufferSize
    · have hcap' : b.Data.arr.length > (DecoderConfig_SetDefaults cfg).BufferSize.toNat := by omega
      simp only [hcap, hcap', if_true]
      refine ⟨_, rfl, ?_, ⟨Nat.zero_le _, Int.le_refl _, Int.le_refl _, hw0, by show (0:Int) ≤ (b.Data.arr.length : Int); omega⟩⟩
      simp [ofDB, Slice.data, Slice.cap]
    · have hcap' : ¬ b.Data.arr.length > (DecoderConfig_SetDefaults cfg).BufferSize.toNat := by omega
      simp only [hcap, hcap', if_false]
      refine ⟨_, rfl, ?_, ⟨Nat.zero_le _, Int.le_refl _, Int.le_refl _, hw0, by show (0:Int) ≤ (DecoderConfig_SetDefaults cfg).BufferSize; omega⟩⟩
      simp [ofDB, Slice.data, Slice.cap]
  · simp only [hok, ne_eq, not_false_eq_true, if_true, if_false]
    exact ⟨_, rfl, hok⟩

/-- D02 `Reset()` -/
theorem gen_dbuf_reset (b : DecoderBuffer) (h : DBWF b) :
    ∃ b', DecoderBuffer_Reset b = Res.ok b' ∧ ofDB b' = (ofDB b).reset ∧ DBWF b' := by
  obtain ⟨hd, hr0, ho0, hw0, hb0⟩ := h
  unfold DecoderBuffer_Reset DecBuf.reset
  rw [slice_zero]
  simp only [bind_ok, Slice.cap, Int.ofNat_eq_natCast]
  by_cases hcap : (b.Data.arr.length : Int) > b.DecoderConfig.BufferSize
  · have hcap' : (ofDB b).cap > (ofDB b).bs := by simp only [ofDB, Slice.cap]; omega
    simp only [hcap, hcap', if_true]
    refine ⟨_, rfl, ?_, ⟨Nat.zero_le _, Int.le_refl _, Int.le_refl _, hw0, by show (0:Int) ≤ (b.Data.arr.length : Int); omega⟩⟩
    simp [ofDB, Slice.data, Slice.cap]
  · have hcap' : ¬ (ofDB b).cap > (ofDB b).bs := by simp only [ofDB, Slice.cap]; omega
    simp only [hcap, hcap', if_false]
    refine ⟨_, rfl, ?_, ⟨Nat.zero_le _, Int.le_refl _, Int.le_refl _, hw0, hb0⟩⟩
    simp [ofDB, Slice.data, Slice.cap]

/-- D03 `ByteAtEnd(off)` -/
theorem gen_dbuf_byteAtEnd (b : DecoderBuffer) (h : SWF b.Data) (off : Int) :
    DecoderBuffer_ByteAtEnd b off = Res.ok (DecBuf.byteAtEnd (ofDB b) off) := by
  unfold DecoderBuffer_ByteAtEnd DecBuf.byteAtEnd
  have hl : (ofDB b).data.length = b.Data.len := data_length h
  simp only [hl, Int.ofNat_eq_natCast]
  by_cases hin : 0 ≤ (b.Data.len : Int) - off ∧ (b.Data.len : Int) - off < (b.Data.len : Int)
  · decide_ite
    obtain ⟨i, hi⟩ : ∃ i : Nat, (b.Data.len : Int) - off = (i : Int) := ⟨((b.Data.len : Int) - off).toNat, by omega⟩
    rw [if_pos hin, hi, index_spec _ i (by omega)]
    simp only [bind_ok, Int.toNat_natCast]
    rfl
  · decide_ite
    rw [if_neg hin]

/-- D04 `Read(p)`: the bytes the model returns are the new head of `p` -/
theorem gen_dbuf_read (b : DecoderBuffer) (h : DBWF b) (hr : b.R ≤ b.Data.len) (p : Slice) (hp : SWF p) :
    ∃ b' p' n, DecoderBuffer_Read b p = Res.ok (b', p', n, Gen.Err.ok) ∧
      ofDB b' = (DecBuf.read (ofDB b) p.len).1 ∧
      p'.data = (DecBuf.read (ofDB b) p.len).2 ++ p.data.drop (DecBuf.read (ofDB b) p.len).2.length ∧
      n = ((DecBuf.read (ofDB b) p.len).2.length : Int) ∧ DBWF b' ∧ b'.R ≤ b'.Data.len ∧
      p'.len = p.len ∧ p'.arr.length = p.arr.length := by
  obtain ⟨hd, hr0, ho0, hw0, hb0⟩ := h
  have hd' : b.Data.len ≤ b.Data.arr.length := hd
  unfold DecoderBuffer_Read DecBuf.read
  obtain ⟨r, hrr⟩ : ∃ r : Nat, b.R = (r : Int) := ⟨b.R.toNat, by omega⟩
  have hmr : (ofDB b).r = r := by simp only [ofDB]; omega
  simp only [hrr, hmr, Int.ofNat_eq_natCast]
  rw [slice_ok _ _ _ (by omega) hd]
  simp only [bind_ok]
  obtain ⟨hq, (hqd : _ = List.drop r (ofDB b).data)⟩ := slice_from b.Data hd r (by omega)
  obtain ⟨hc2, hcd, hcl, hca⟩ := copy_spec p _ hp hq
  have hql : (List.drop r (ofDB b).data).length = b.Data.len - r := by rw [← hqd, data_length hq]
  refine ⟨_, _, _, rfl, ?_, ?_, ?_, ⟨hd, ?_, ho0, hw0, hb0⟩, ?_, hcl, hca⟩
  · simp only [ofDB, hc2, List.length_take, List.length_drop, data_length hd]
    congr 1
  · rw [hcd, hqd]
    simp only [List.length_take, hql]
  · rw [hc2]; simp only [List.length_take, hql]
  · show (0 : Int) ≤ (r : Int) + (Slice.copy _ _).2
    rw [hc2]; omega
  · show (r : Int) + (Slice.copy _ _).2 ≤ (b.Data.len : Int)
    rw [hc2]
    show (r : Int) + ((Min.min p.len (b.Data.len - r) : Nat) : Int) ≤ _
    omega

/-- D04' the model's `read` is total, the Go code panics when `R > len(Data)` -/
theorem gen_dbuf_read_panic (b : DecoderBuffer) (hr : b.R > b.Data.len) (p : Slice) :
    DecoderBuffer_Read b p = Res.panic := by
  unfold DecoderBuffer_Read
  rw [slice_panic _ _ _ (by right; left; show ((b.Data.len : Nat) : Int) < b.R; omega)]
  rfl


/-- `s[:copy(s, t)]` where `t` is `s[i:]` (as `slice_ok_and` leaves it) -/
theorem shift_copy (s : Slice) (h : SWF s) (i : Int) (n : Nat)
    (hn : n = s.len - i.toNat) :
    Slice.slice (Slice.copy s { arr := s.arr.drop i.toNat, len := n }).1 0
      (Slice.copy s { arr := s.arr.drop i.toNat, len := n }).2 = Res.ok (shifted s i.toNat) :=
  hn ▸ shift_ok s h i.toNat

theorem shifted_of_zero {s : Slice} (h : SWF s) (d : Nat) (hd : d = 0) : s = shifted s d := by
  subst hd
  have h' : s.len ≤ s.arr.length := h
  simp [shifted, Slice.copy, Slice.slice, Slice.cap, h']

/-- what `shrink(g)` leaves behind, in the integers of the code -/
structure ShrinkPost (b : DecoderBuffer) (g : Int) (b' : DecoderBuffer) (δ : Int) : Prop where
  bs : b'.DecoderConfig.BufferSize = Max.max b.DecoderConfig.BufferSize (b.Data.arr.length : Int)
  delta : δ = if b.DecoderConfig.BufferSize < b.Data.arr.length ∧ g ≤ b.Data.arr.length then 0
    else Min.min (((b.Data.len : Int) - b.DecoderConfig.WindowSize).toNat : Int) b.R
  r : b'.R = b.R - δ
  ws : b'.DecoderConfig.WindowSize = b.DecoderConfig.WindowSize
  off : b'.Off = b.Off
  data : b'.Data = shifted b.Data δ.toNat

/-- Shape-independent: unfold, split every `if`; a leaf returns `b.Data` or `shifted b.Data d` (`slice_ok_and`,
    `shift_copy`) with `d` the returned count, possibly in another spelling; its fields are record updates of `b`
    that `omega` only reads after `dsimp`. -/
theorem shrink_post (b : DecoderBuffer) (h : DBWF b) (g : Int) :
    okAnd (DecoderBuffer_shrink b g) fun r => ShrinkPost b g r.1 r.2 := by
  obtain ⟨hd, hr0, ho0, hw0, hb0⟩ := h
  have hd' : b.Data.len ≤ b.Data.arr.length := hd
  unfold DecoderBuffer_shrink
  simp only [GenProps.gen_doz_toNat, Int.ofNat_eq_natCast, Slice.cap]
  repeat' split
  all_goals
    (try rw [slice_ok_and _ _ _ (by omega)])
    (try simp only [bind_ok])
    (try rw [shift_copy _ hd _ _ (by omega)])
    simp only [bind_ok, okAnd_ok]
    refine ⟨?_, ?_, ?_, rfl, rfl, by
      first | rfl | exact shifted_of_zero hd _ (by omega) | exact congrArg (shifted _) (by omega)⟩ <;>
      dsimp -failIfUnchanged only <;> omega

/-- `shrink(g)` is the model's `shrink`; what its callers use about the shrunk buffer -/
theorem shrink_spec (b : DecoderBuffer) (h : DBWF b) (g : Int) :
    ∃ (b' : DecoderBuffer) (D : Nat), DecoderBuffer_shrink b g = Res.ok (b', (D : Int)) ∧
      DecBuf.shrink (ofDB b) g.toNat = (ofDB b', D) ∧ DBWF b' ∧
      b'.DecoderConfig.WindowSize = b.DecoderConfig.WindowSize ∧ b'.Off = b.Off ∧
      b'.Data.len + D = b.Data.len ∧ D ≤ b.Data.len - b.DecoderConfig.WindowSize.toNat ∧
      b.DecoderConfig.BufferSize ≤ b'.DecoderConfig.BufferSize := by
  obtain ⟨⟨b', δ⟩, e, hbs, hδ, hr, hws, hoff, hdata⟩ := shrink_post b h g
  obtain ⟨hd, hr0, ho0, hw0, hb0⟩ := h
  have hd' : b.Data.len ≤ b.Data.arr.length := hd
  dsimp only at hbs hδ hr hws hoff hdata
  -- the fields the model keeps as naturals
  obtain ⟨W, hW⟩ : ∃ W : Nat, b.DecoderConfig.WindowSize = W := ⟨_, (Int.toNat_of_nonneg hw0).symm⟩
  obtain ⟨B, hB⟩ : ∃ B : Nat, b.DecoderConfig.BufferSize = B := ⟨_, (Int.toNat_of_nonneg hb0).symm⟩
  obtain ⟨R, hR⟩ : ∃ R : Nat, b.R = R := ⟨_, (Int.toNat_of_nonneg hr0).symm⟩
  simp only [hW, hB, hR, Int.toNat_sub] at hbs hδ hr hws ⊢
  -- `omega` splits on every `if`, `min`, `max` in scope: `hδ` and `hbs` are used apart, then cleared
  obtain ⟨D, rfl⟩ : ∃ D : Nat, δ = D := ⟨δ.toNat, by clear hbs; omega⟩
  rw [Int.toNat_natCast] at hdata
  have hδm : D = if (ofDB b).bs < (ofDB b).cap ∧ g.toNat ≤ (ofDB b).cap then 0
      else Min.min ((ofDB b).data.length - (ofDB b).ws) (ofDB b).r := by
    clear hbs; simp only [ofDB, hW, hB, hR, Int.toNat_natCast, Slice.cap, data_length hd]; split <;> omega
  have hδ' : D ≤ R ∧ D ≤ b.Data.len - W := by clear hbs; omega
  clear hδ
  obtain ⟨sd, sc, sl⟩ := shifted_spec b.Data hd D (by omega)
  rw [← hdata] at sd sc sl
  refine ⟨b', D, e, ?_, ⟨by unfold SWF; omega, by omega, by omega, by omega, by omega⟩, hws, hoff, by omega,
    hδ'.2, by omega⟩
  rw [DecBuf.shrink_eq (ofDB b) g.toNat D hδm]
  simp only [ofDB, Slice.cap, sd, sc, hws, hoff, hr, hbs, hW, hB, hR, Int.toNat_natCast, Int.toNat_sub, Prod.mk.injEq,
    DecBuf.mk.injEq, and_true, true_and]
  omega

/-- D05 `shrink(g)` (for every `g`, also negative: the model is called with `g.toNat`) -/
theorem gen_dbuf_shrink (b : DecoderBuffer) (h : DBWF b) (g : Int) :
    ∃ b', DecoderBuffer_shrink b g = Res.ok (b', ((DecBuf.shrink (ofDB b) g.toNat).2 : Int)) ∧
      ofDB b' = (DecBuf.shrink (ofDB b) g.toNat).1 ∧ DBWF b' ∧
      b'.DecoderConfig.WindowSize = b.DecoderConfig.WindowSize ∧ b'.Off = b.Off := by
  obtain ⟨b', D, e, em, hwf, hws, hoff, _⟩ := shrink_spec b h g
  rw [em]
  exact ⟨b', e, rfl, hwf, hws, hoff⟩


/-- `b.Data = append(b.Data, bs...)` is the model's `append` -/
theorem db_append (g : Nat → Nat → Nat) (hg : GrowOK g) (b : DecoderBuffer) (hd : SWF b.Data) (bs : List UInt8) :
    ofDB { b with Data := Slice.append g b.Data bs } = DecBuf.append g (ofDB b) bs ∧
    SWF (Slice.append g b.Data bs) ∧ (Slice.append g b.Data bs).len = b.Data.len + bs.length := by
  obtain ⟨had, hal, haa⟩ := append_spec g b.Data hd bs
  have hl : (ofDB b).data.length = b.Data.len := data_length hd
  refine ⟨?_, ?_, hal⟩
  · unfold DecBuf.append
    simp only [hl]
    simp only [ofDB, had, Slice.cap, haa]
    congr 1
    by_cases hc : b.Data.len + bs.length ≤ b.Data.arr.length
    · simp only [hc, if_true]
    · simp only [hc, if_false]
      have := hg b.Data.arr.length (b.Data.len + bs.length); omega
  · show (Slice.append g b.Data bs).len ≤ (Slice.append g b.Data bs).arr.length
    rw [hal, haa]
    by_cases hc : b.Data.len + bs.length ≤ b.Data.arr.length
    · simp only [hc, if_true]
    · simp only [hc, if_false]; omega

/-- `b.Data = append(b.Data, bs...); b.Off += n` with `n = len(bs)`: the last step of `WriteByte`, `Write` -/
theorem db_append_off (g : Nat → Nat → Nat) (hg : GrowOK g) (b : DecoderBuffer) (h : DBWF b) (bs : List UInt8)
    (n : Int) (hn : n = bs.length) :
    ofDB { b with Data := Slice.append g b.Data bs, Off := b.Off + n }
      = { (DecBuf.append g (ofDB b) bs) with off := (ofDB b).off + bs.length } ∧
    DBWF { b with Data := Slice.append g b.Data bs, Off := b.Off + n } := by
  obtain ⟨hd, hr, ho, hw, hb⟩ := h
  obtain ⟨e1, e2, _⟩ := db_append g hg b hd bs
  refine ⟨?_, ⟨e2, hr, by show (0 : Int) ≤ b.Off + n; omega, hw, hb⟩⟩
  rw [← e1]
  simp only [ofDB]
  congr 1
  omega

/-- D06 `WriteByte(c)` -/
theorem gen_dbuf_writeByte (g : Nat → Nat → Nat) (hg : GrowOK g) (b : DecoderBuffer) (h : DBWF b) (c : UInt8) :
    ∃ b' e, DecoderBuffer_WriteByte g b c = Res.ok (b', e) ∧ ofDB b' = (DecBuf.writeByte g (ofDB b) c).1 ∧
      errOf e = some (DecBuf.writeByte g (ofDB b) c).2 ∧ DBWF b' := by
  obtain ⟨-, cb, hl⟩ := h.casts
  unfold DecoderBuffer_WriteByte DecBuf.writeByte
  simp only [hl, Int.ofNat_eq_natCast]
  by_cases h1 : b.Data.len + 1 > (ofDB b).bs
  · obtain ⟨b', D, e, em, hwf', -, -, hlen, -, -⟩ := shrink_spec b h ((b.Data.len : Int) + 1)
    rw [show ((b.Data.len : Int) + 1).toNat = b.Data.len + 1 by omega] at em
    decide_ite
    simp only [h1, if_true, e, em, bind_ok]
    obtain ⟨-, cb', -⟩ := hwf'.casts
    by_cases h2 : b.Data.len + 1 - D > (ofDB b').bs
    · decide_ite
      simp only [h2, if_true]
      exact ⟨_, _, rfl, rfl, errOf_full, hwf'⟩
    · decide_ite
      simp only [h2, if_false]
      obtain ⟨f1, f2⟩ := db_append_off g hg b' hwf' [c] 1 rfl
      exact ⟨_, _, rfl, f1, errOf_ok, f2⟩
  · decide_ite
    simp only [h1, if_false]
    obtain ⟨f1, f2⟩ := db_append_off g hg b h [c] 1 rfl
    exact ⟨_, _, rfl, f1, errOf_ok, f2⟩

/-- D07 `Write(p)` -/
theorem gen_dbuf_write (g : Nat → Nat → Nat) (hg : GrowOK g) (b : DecoderBuffer) (h : DBWF b) (p : Slice) (hp : SWF p) :
    ∃ b' e, DecoderBuffer_Write g b p = Res.ok (b', ((DecBuf.write g (ofDB b) p.data).2.1 : Int), e) ∧
      ofDB b' = (DecBuf.write g (ofDB b) p.data).1 ∧
      errOf e = some (DecBuf.write g (ofDB b) p.data).2.2 ∧ DBWF b' := by
  obtain ⟨-, cb, hl⟩ := h.casts
  have hpl : p.data.length = p.len := data_length hp
  unfold DecoderBuffer_Write DecBuf.write
  simp only [hl, hpl, Int.ofNat_eq_natCast]
  by_cases h1 : b.Data.len + p.len > (ofDB b).bs
  · obtain ⟨b', D, e, em, hwf', -, -, hlen, -, -⟩ := shrink_spec b h ((b.Data.len : Int) + (p.len : Int))
    rw [show ((b.Data.len : Int) + (p.len : Int)).toNat = b.Data.len + p.len by omega] at em
    decide_ite
    simp only [h1, if_true, e, em, bind_ok]
    obtain ⟨-, cb', -⟩ := hwf'.casts
    by_cases h2 : b.Data.len + p.len - D > (ofDB b').bs
    · decide_ite
      simp only [h2, if_true]
      exact ⟨_, _, rfl, rfl, errOf_full, hwf'⟩
    · decide_ite
      simp only [h2, if_false]
      obtain ⟨f1, f2⟩ := db_append_off g hg b' hwf' p.data p.len (by rw [hpl])
      rw [hpl] at f1
      exact ⟨_, _, rfl, f1, errOf_ok, f2⟩
  · decide_ite
    simp only [h1, if_false]
    obtain ⟨f1, f2⟩ := db_append_off g hg b h p.data p.len (by rw [hpl])
    rw [hpl] at f1
    exact ⟨_, _, rfl, f1, errOf_ok, f2⟩

end LZ.GenBuf

/-! ### axiom audit (printed on every build) -/
#print axioms LZ.GenBuf.gen_dbuf_init
#print axioms LZ.GenBuf.gen_dbuf_reset
#print axioms LZ.GenBuf.gen_dbuf_byteAtEnd
#print axioms LZ.GenBuf.gen_dbuf_read
#print axioms LZ.GenBuf.gen_dbuf_read_panic
#print axioms LZ.GenBuf.gen_dbuf_shrink
#print axioms LZ.GenBuf.gen_dbuf_writeByte
#print axioms LZ.GenBuf.gen_dbuf_write
