/-
  Normalisation lemmas about the bit primitives of the generated code (`leadingZeros64`, `bitsLen64`,
  `shlU64`) that relate different but equivalent Go spellings, so that the ties survive a rewrite of
  the Go text from one spelling to the other.  No translated function is mentioned.
-/
import LzModel.Generated.CodePrelude
import LzModel.Generated.CodePart4Prelude

namespace LZ.GenBits
open LZ LZ.Gen

theorem highBitBelow_log2 (x : UInt64) : ∀ p, x.toNat < 2 ^ p →
    highBitBelow x p = if x.toNat = 0 then -1 else Int.ofNat (Nat.log2 x.toNat)
  | 0, h => by
    have h0 : x.toNat = 0 := by simp at h; omega
    simp [highBitBelow, h0]
  | p + 1, h => by
    simp only [highBitBelow]
    by_cases hb : x.toNat.testBit p
    · have hge : 2 ^ p ≤ x.toNat := Nat.ge_two_pow_of_testBit hb
      have hne : x.toNat ≠ 0 := by have := Nat.two_pow_pos p; omega
      have hlog : Nat.log2 x.toNat = p := by
        apply Nat.le_antisymm
        · have := (Nat.log2_lt hne).2 h; omega
        · exact (Nat.le_log2 hne).2 hge
      simp [hb, hne, hlog]
    · have hlt : x.toNat < 2 ^ p := by
        apply Nat.lt_pow_two_of_testBit
        intro i hi
        by_cases hip : i = p
        · subst hip; simpa using hb
        · exact Nat.testBit_lt_two_pow
            (Nat.lt_of_lt_of_le h (Nat.pow_le_pow_right (by omega) (by omega)))
      simp [hb, highBitBelow_log2 x p hlt]

/-- `63 - bits.LeadingZeros64(x) = bits.Len64(x) - 1` (both are -1 for `x = 0`) -/
theorem bits_lz_len (x : UInt64) : 63 - leadingZeros64 x = bitsLen64 x - 1 := by
  unfold leadingZeros64 bitsLen64
  rw [highBitBelow_log2 x 64 x.toNat_lt]
  have h0 : x = 0 ↔ x.toNat = 0 := by
    constructor
    · intro h; subst h; rfl
    · intro h; exact UInt64.toNat_inj.1 (by simpa using h)
  by_cases hx : x.toNat = 0
  · simp [h0.2 hx]
  · have : ¬ x = 0 := fun e => hx (h0.1 e)
    simp only [hx, this, if_false, Int.ofNat_eq_natCast]
    omega

theorem not_mask_fin : ∀ s : Fin 64,
    ~~~(shlU64 (1 : UInt64) s.val - 1) = shlU64 (~~~(0 : UInt64)) s.val := by decide

/-- `^(1<<s - 1) = ^uint64(0) << s` for a shift count below the width -/
theorem not_mask (s : Nat) (hs : s < 64) :
    ~~~(shlU64 (1 : UInt64) s - 1) = shlU64 (~~~(0 : UInt64)) s := not_mask_fin ⟨s, hs⟩

end LZ.GenBits

#print axioms LZ.GenBits.bits_lz_len
#print axioms LZ.GenBits.not_mask
