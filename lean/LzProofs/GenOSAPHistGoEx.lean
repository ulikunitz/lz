/-
  Non-vacuity of LzProofs/GenOSAPHistGo.lean: the hypothesis bundle `EdgeSpecs` is satisfiable (`slices.Sort` by
  `List.mergeSort`, `suffix.LCP` by the specification table, `suffix.Segments` by its own translation, `suffix.Sort` by
  `sortK` of LzProofs/GenGSAPHistEx.lean), and the history of LzProofs/GenOSAPHistEx.lean is run with the translated
  `computeEdges` (`ceGo`).  The `#guard`s compare with the hand model `ceK` and with what the real Go run printed
  (notes/osap-translate.md §6): tests by the evaluator, not theorems.
-/
import LzProofs.GenOSAPHistGo
import LzProofs.GenGSAPHistEx

set_option linter.unusedSimpArgs false
set_option linter.unusedVariables false

namespace LZ.GenOSAPHist
open LZ LZ.Gen LZ.GenBuf LZ.GenHash LZ.GenSuffix LZ.GenHPParse LZ.GenProps LZ.GenOSAP

/-! ## `slices.Sort` -/

def srtK (seg : GSlice Int32) : Res (GSlice Int32) :=
  Res.ok { seg with arr := (seg.arr.take seg.len).mergeSort (fun a b => decide (a.toInt ≤ b.toInt)) ++ seg.arr.drop seg.len }

theorem sliceSortSpec_srtK : SliceSortSpec srtK := by
  intro seg hw
  unfold GWF at hw
  have hl : ((seg.arr.take seg.len).mergeSort (fun a b => decide (a.toInt ≤ b.toInt))).length = seg.len := by
    rw [(List.mergeSort_perm _ _).length_eq, List.length_take]; omega
  refine ⟨_, rfl, rfl, ?_, ?_, ?_, ?_⟩
  · show List.length (_ ++ _) = _
    rw [List.length_append, hl, List.length_drop]; omega
  · show List.drop seg.len (_ ++ _) = _
    rw [List.drop_append_of_le_length (by omega), List.drop_of_length_le (by omega), List.nil_append]
  · show List.Perm (List.take seg.len (_ ++ _)) _
    rw [List.take_append_of_le_length (by omega), List.take_of_length_le (by omega)]
    exact List.mergeSort_perm _ _
  · show List.Pairwise _ (List.take seg.len (_ ++ _))
    rw [List.take_append_of_le_length (by omega), List.take_of_length_le (by omega)]
    have := List.pairwise_mergeSort (le := fun (a b : Int32) => decide (a.toInt ≤ b.toInt))
      (fun a b c hab hbc => by simp only [decide_eq_true_eq] at *; omega)
      (fun a b => by simp only [Bool.or_eq_true, decide_eq_true_eq]; omega) (seg.arr.take seg.len)
    exact this.imp (fun h => by simpa using h)

/-! ## `suffix.LCP` -/

def lcpK2 (t : Slice) (sa sainv lcp : GSlice Int32) : Res (GSlice Int32) :=
  Res.ok { arr := (lcpSpec t.data (saSpec t.data)).map o32, len := t.len }

theorem lcpSpec_lcpK2 : LCPSpec lcpK2 := by
  intro t sa lcp ht h31 _ _ _ _ _
  have hdl : t.data.length = t.len := data_length ht
  have hsl : (saSpec t.data).length = t.len := by rw [(LZ.isSuffixArray_saSpec t.data).length_eq, hdl]
  have hlen : (lcpSpec t.data (saSpec t.data)).length = t.len := by
    rw [lcpSpec_eq, List.length_map, List.length_range, hsl]
  have hle : ∀ v ∈ lcpSpec t.data (saSpec t.data), v < 2147483648 := by
    intro v hv
    rw [lcpSpec_eq] at hv
    obtain ⟨k, _, e⟩ := List.mem_map.1 hv
    have := specAt_le t.data (saSpec t.data) k
    omega
  have hdata : ({ arr := (lcpSpec t.data (saSpec t.data)).map o32, len := t.len } : GSlice Int32).data =
      (lcpSpec t.data (saSpec t.data)).map o32 := by
    unfold GSlice.data
    simp only
    rw [List.take_of_length_le (by rw [List.length_map, hlen]; exact Nat.le_refl _)]
  refine ⟨_, rfl, by unfold GWF; simp [hlen], rfl, ?_, ?_⟩
  · intro i hi
    simp only at hi
    have hil : i < ((lcpSpec t.data (saSpec t.data)).map o32).length := by rw [List.length_map, hlen]; exact hi
    show 0 ≤ ((((lcpSpec t.data (saSpec t.data)).map o32)[i]?).getD 0).toInt
    rw [List.getElem?_eq_getElem hil, Option.getD_some, List.getElem_map]
    have hm : (lcpSpec t.data (saSpec t.data))[i]'(by rw [List.length_map] at hil; exact hil) ∈ lcpSpec t.data (saSpec t.data) :=
      List.getElem_mem _
    rw [o32_toInt _ (hle _ hm)]
    omega
  · rw [Sap.lcpKasai_saSpec]
    unfold absI32
    rw [hdata, List.map_map]
    congr 1
    conv => rhs; rw [← List.map_id (lcpSpec t.data (saSpec t.data))]
    apply List.map_congr_left
    intro v hv
    exact i32n_o32 v (hle v hv)

/-! ## `suffix.Segments`: the translation -/

/-- the translated `suffix.Segments` (topic SuffixSegments): its result is the log of the callback calls -/
def segGo (grow : Nat → Nat → Nat) (fuelS : Nat) : GSlice Int32 → GSlice Int32 → Int → Int → Res (List (Int × GSlice Int32)) :=
  fun sa lcp a b => suffix_Segments grow fuelS sa lcp a b

theorem edgeSpecsK (grow : Nat → Nat → Nat) (fuelS : Nat) (hf : 2 * 2147483647 + 3 ≤ fuelS) :
    EdgeSpecs LZ.GenGSAPHist.sortK lcpK2 (segGo grow fuelS) srtK :=
  ⟨LZ.GenGSAPHist.specsK.sort, lcpSpec_lcpK2, segSpec_go grow fuelS hf, sliceSortSpec_srtK⟩

/-! ## the history of GenOSAPHistEx with the translated `computeEdges` -/

def exFuelE : Nat := 2147483648
def exFuelS : Nat := 2 * 2147483647 + 3

def exCE : CEFun := ceGo exGrow exFuelE LZ.GenGSAPHist.sortK lcpK2 (segGo exGrow exFuelS) srtK

def exShowGo : Res (List (Int × Bool × List (UInt32 × UInt32 × UInt32) × List UInt8)) :=
  Res.bind (runO 0 exGrow exFuelN exCE exS0 exOps) fun r =>
  Res.ok (r.2.map fun
    | .base (.write n e) => (n, e == Gen.Err.ok, [], [])
    | .base (.parse b n e) => (n, e == Gen.Err.ok, b.Sequences.map (fun q => (q.LitLen, q.MatchLen, q.Offset)), b.Literals.data)
    | .base (.shrink d) => (d, true, [], [])
    | .base (.reset e) => (0, e == Gen.Err.ok, [], [])
    | .readFrom n _ => (n, true, [], []))

-- the same results as with the hand model, the first five as printed by the real Go run
#guard (match exShowGo, exShow with
  | .ok l, .ok l' => l == l' && l.take 5 == [(31, true, [], []), (12, true, [(3, 8, 3)], [97, 98, 99, 120]),
      (10, true, [(2, 3, 3), (0, 5, 11)], [121, 122]), (9, true, [(1, 3, 1), (0, 5, 9)], [81]), (0, false, [], [])]
  | _, _ => false)

/-- the edge table the translated `computeEdges` leaves after `Write("abcabcabcabxyzxyzabcabQQQQabcab")`, `Parse(&blk, 0)`:
    the non-empty entries `(position, [(m, o), …])`, `start`, `len(edges)`, `nEdges` -/
def exEdges : Res (List (Nat × List (UInt32 × UInt32)) × Int × Nat × Int) :=
  Res.bind (runO 0 exGrow exFuelN exCE exS0 (exOps.take 2)) fun r =>
  Res.ok (((r.1.edges.data.zipIdx.filter (fun x => x.1.len > 0)).map fun x => (x.2, x.1.data.map fun e => (e.m, e.o))),
    r.1.start, r.1.edges.len, r.1.nEdges)

-- the table of the real Go run (notes/osap-translate.md §6): start=0 len(edges)=31 nEdges=21
#guard (match exEdges with
  | .ok (tab, st, n, ne) => st == 0 && n == 31 && ne == 21 && tab ==
      [(3, [(8, 3)]), (4, [(7, 3)]), (5, [(6, 3)]), (6, [(5, 3)]), (7, [(4, 3)]), (8, [(3, 3)]), (9, [(2, 3)]),
       (14, [(3, 3)]), (15, [(2, 3)]), (17, [(5, 11), (2, 8)]), (18, [(4, 11)]), (19, [(3, 11)]), (20, [(2, 3)]),
       (23, [(3, 1)]), (24, [(2, 1)]), (26, [(5, 9), (2, 6)]), (27, [(4, 9)]), (28, [(3, 9)]), (29, [(2, 3)])]
  | _ => false)

theorem exFuelS_ok : 2 * 2147483647 + 3 ≤ exFuelS := Nat.le_refl _

example := gen_osap_history_ce_go exCfg exS0 exInit ex32 (edgeSpecsK exGrow exFuelS exFuelS_ok) exGrow exFuelE (Nat.le_refl _) 0
  exFuelN exFuel exOps exWF
example := C01_go_text_osap_ce_go exCfg exS0 exInit ex32 (edgeSpecsK exGrow exFuelS exFuelS_ok) exGrow exFuelE (Nat.le_refl _) 0
  exFuelN exFuel exOps exWF
example := C02_go_text_osap_ce_go exCfg exS0 exInit ex32 (edgeSpecsK exGrow exFuelS exFuelS_ok) exGrow exFuelE (Nat.le_refl _) 0
  exFuelN exFuel exOps exWF
example := C03_go_text_osap_ce_go exCfg exS0 exInit ex32 (edgeSpecsK exGrow exFuelS exFuelS_ok) exGrow exFuelE (Nat.le_refl _) 0
  exFuelN exFuel exOps exWF
example := C11_go_text_osap_ce_go exCfg exS0 exInit ex32 (edgeSpecsK exGrow exFuelS exFuelS_ok) exGrow exFuelE (Nat.le_refl _) 0
  exFuelN exFuel (exOps.take 1) (fun o ho => exWF o (List.mem_of_mem_take ho)) default 0 (by decide) (by decide)

end LZ.GenOSAPHist

#print axioms LZ.GenOSAPHist.sliceSortSpec_srtK
#print axioms LZ.GenOSAPHist.lcpSpec_lcpK2
#print axioms LZ.GenOSAPHist.edgeSpecsK
