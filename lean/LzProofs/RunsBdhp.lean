/-
  LzProofs.RunsBdhp — property C19, last sentence (the "run clause"), for BDHP: a proven upper
  bound.

  BDHP does NOT satisfy "at most one literal byte": a first match of the block (found through a
  stale entry of either table, e.g. an older run at a far offset) can end fewer than `InputLen1`
  bytes before the block end; those bytes cannot be hashed and stay literals (`bdhp_two_literals`
  below is a kernel-checked instance with 2 literals).  What holds for EVERY state with well-formed
  tables (in particular every reachable state) is

      blk.lits.length ≤ max 1 (InputLen1 - 1).

  The invariant `DoubleOK` is purely structural (table sizes, `InputLen1/2` of the tables = those of
  the configuration); nothing about the CONTENTS of the tables is needed.  BDHP re-indexes only the
  short table over a matched range, so after a first match `(w, k)` the long table holds the stale
  entry `w` for the run key; the match it gives at `w + k` is accepted because `k < w - j ≤ WindowSize`
  (the first match, coming from outside the run, ends in front of the block), and it reaches the
  block end.
-/
import LzProofs.Runs
import LzProofs.RunsEval
namespace LZ
open Parser PBuf

/-! ## block level -/

/-- block level, BDHP: `runGreedy` on a run block without `NoTrailingLiterals`, from ANY pair
    of well-sized tables, emits at most `max 1 (inputLen1 - 1)` literals.  After a first match
    `(w, k)` that ends inside the block (it comes from in front of the run, so `k ≤ ws`) the long
    table still holds the entry `w` for the run key, the short one was re-indexed up to
    `w + k - 1`; whichever the next probe consults offers a match up to the block end. -/
theorem bdhp_run_block (ws mm : Nat) (d : Hash2) (p : List Byte) (w n : Nat) (b : Byte)
    (flags : Nat) (hf : flags % 2 = 0)
    (hR : RunBlock p w n b) (hs1 : d.h1.SizeOK) (hs2 : d.h2.SizeOK) (hil1 : 1 ≤ d.h1.inputLen)
    (hil : d.h1.inputLen ≤ d.h2.inputLen) (hil8 : d.h2.inputLen ≤ 8)
    (hws : 1 ≤ ws) (hmm1 : 1 ≤ mm) (hmm : mm ≤ d.h1.inputLen) :
    (Parser.runGreedy ⟨dhpProbe ws mm (p.length + 1 - d.h1.inputLen) (p.length + 1 - d.h2.inputLen) true⟩
      d p w (p.length + 1 - d.h1.inputLen) flags).2.2.1.lits.length ≤ max 1 (d.h1.inputLen - 1) := by
  have hlen := hR.len
  have hn := hR.n32
  have hw2 : w < p.length + 1 - d.h2.inputLen := by omega
  apply runGreedy_two_probes _ p w _ _ flags d
    (fun d' i => w + 1 ≤ i ∧ i + d.h1.inputLen ≤ w + n ∧
      ((i + d.h2.inputLen ≤ w + n ∧ i - w ≤ ws ∧
          d'.h2.slot (d'.h2.key p i) = (w, lo32 (d'.h2.key p i))) ∨
        (w + n < i + d.h2.inputLen ∧ d'.h1.slot (d'.h1.key p i) = (i - 1, lo32 (d'.h1.key p i)))))
    hf (by omega) (by omega)
  · intro d' i li ⟨h1, h2, h3⟩ hli
    refine ⟨by omega, ?_⟩
    rcases h3 with ⟨h3, h4, hslot⟩ | ⟨h3, hslot⟩
    · obtain ⟨d'', m, hm, hp⟩ := dhpProbe_run_last hR ws mm (p.length + 1 - d.h1.inputLen)
        (p.length + 1 - d.h2.inputLen) true d' i li w (Nat.le_refl _) (by omega) h4 (by omega)
        (by omega) (Hash2.cand_of_h2 (by omega) hslot)
      exact ⟨d'', m, _, hm, hp⟩
    · obtain ⟨d'', m, hm, hp⟩ := dhpProbe_run_last hR ws mm (p.length + 1 - d.h1.inputLen)
        (p.length + 1 - d.h2.inputLen) true d' i li (i - 1) (by omega) (by omega) (by omega) (by omega)
        (by omega) (Hash2.cand_of_h1 (by omega) hslot)
      exact ⟨d'', m, _, hm, hp⟩
  · -- no match at `w`: one literal, then the match with offset 1 found through the long table
    intro d' hp
    rw [dhpProbe_none hp, Hash2.ins, if_pos hw2]
    exact ⟨Nat.le_refl _, by omega,
      Or.inl ⟨by omega, by omega, hR.slot_insert d.h2 hs2 (w + 1) (by omega) (by omega)⟩⟩
  · -- a match from an older entry of one of the tables
    intro d' s k o hp
    obtain ⟨⟨j, -, hg, e⟩, hd⟩ := dhpProbe_some hp
    cases e.trans (matchOf_first p true w j)
    rw [hd, dhpReindex, if_pos hw2, Hash2.ins, if_pos hw2]
    obtain ⟨hc2, hc3, hc4⟩ := hg
    have hkn := lcpLen_le_right (p.drop j) (p.drop w)
    rw [List.length_drop] at hkn
    refine ⟨rfl, by omega, ?_⟩
    by_cases hkn' : lcpLen (p.drop j) (p.drop w) = n
    · right; omega
    · -- a short match: it comes from outside the run and ends in front of the block
      have hjk := (lcpLen_run_short p b j w hc2 (by omega) (fun t h1 h2 => hR.at t h1 h2)
        (by omega)).2
      generalize lcpLen (p.drop j) (p.drop w) = k at hc4 hkn hkn' hjk ⊢
      by_cases hB : w + k + d.h1.inputLen ≤ w + n
      · left
        refine ⟨by omega, by omega, ?_⟩
        by_cases hA : w + k + d.h2.inputLen ≤ w + n
        · exact Or.inl ⟨by omega, by omega, hR.slot_insert d.h2 hs2 (w + k) (by omega) hA⟩
        · rw [min_sub_succ w k _ (by omega)]
          exact Or.inr ⟨by omega, hR.slot_after d.h1 hs1 k (by omega) (by omega)⟩
      · -- the match ends behind the last hashable position
        right; omega

/-! ## the state invariant -/

/-- The state has two hash tables of the right sizes whose `InputLen`s are those of the
    configuration.  Nothing is said about the contents of the tables. -/
def DoubleOK (s : Parser) : Prop :=
  ∃ d, s.dict = .double d ∧ d.h1.SizeOK ∧ d.h2.SizeOK ∧
    d.h1.inputLen = s.cfg.inputLen1.toNat ∧ d.h2.inputLen = s.cfg.inputLen2.toNat

/-! ## one `Parse` call -/

/-- C19, run clause, BDHP, one call: the proven bound.  `s` is a BDHP state with well-sized
    tables (`DoubleOK`; every reachable BDHP state is one, `Base.doubleOK`),
    `1 ≤ InputLen1 ≤ InputLen2 ≤ 8`, window size `≥ 1`.  If `Parse(&blk, flags)` without
    `NoTrailingLiterals` returns a block of `n ≥ 32` bytes that all equal `b`, the block has at most
    `max 1 (InputLen1 - 1)` literals.  (The bound `1` of HP/BHP/DHP does not hold:
    `bdhp_two_literals`.) -/
theorem C19_run_bdhp_partial (s : Parser) (hk : s.kind = .BDHP) (hF : DoubleOK s)
    (hw : s.buf.w ≤ s.buf.data.length) (hil1 : 1 ≤ s.cfg.inputLen1.toNat)
    (hil : s.cfg.inputLen1.toNat ≤ s.cfg.inputLen2.toNat) (hil8 : s.cfg.inputLen2.toNat ≤ 8)
    (hws : 1 ≤ s.buf.cfg.windowSize)
    (flags : Nat) (s' : Parser) (n : Nat) (blk : Block) (b : Byte)
    (hp : s.parse flags = (s', n, .ok, blk)) (hf : flags % 2 = 0) (hn : 32 ≤ n)
    (hrun : ∀ t, t < n → s.buf.data[s.buf.w + t]? = some b) :
    blk.lits.length ≤ max 1 (s.cfg.inputLen1.toNat - 1) := by
  obtain ⟨d, hd, hs1, hs2, hl1, hl2⟩ := hF
  obtain ⟨hR, -, rfl⟩ := run_call _ _ _ hw hp hf hn hrun
    (fun hn0 hm => ⟨_, _, parse_double s flags d hd hn0 hm⟩)
  have hkb : (s.kind == Kind.BDHP) = true := by rw [hk]; rfl
  rw [hkb]
  obtain ⟨hi1, hi2⟩ := processSegment2_inputLen d.h1 d.h2 s.buf.data ((s.buf.w : Int) - d.h2.inputLen + 1) s.buf.w
  obtain ⟨hz1, hz2⟩ := sizeOK_processSegment2 hs1 hs2 s.buf.data ((s.buf.w : Int) - d.h2.inputLen + 1) s.buf.w
  have hmm : s.minMatch = min 3 s.cfg.inputLen1.toNat := by
    unfold Parser.minMatch; rw [hk]
  generalize processSegment2 d.h1 d.h2 s.buf.data ((s.buf.w : Int) - d.h2.inputLen + 1) s.buf.w = hh
    at hi1 hi2 hz1 hz2 ⊢
  refine Nat.le_trans (bdhp_run_block s.buf.cfg.windowSize s.minMatch ⟨hh.1, hh.2⟩ s.blockPrefix s.buf.w n b
    flags hf hR hz1 hz2 (by rw [hi1, hl1]; exact hil1) (by rw [hi1, hi2, hl1, hl2]; exact hil)
    (by rw [hi2, hl2]; exact hil8) hws (by rw [hmm]; omega) (by rw [hi1, hl1, hmm]; omega)) ?_
  show max 1 (hh.1.inputLen - 1) ≤ _
  rw [hi1, hl1]
  exact Nat.le_refl _

/-! ## history level -/

/-- a reachable BDHP state has two tables with the sizes and `InputLen`s of the configuration -/
theorem Base.doubleOK {s0 s : Parser} (hB : Base .BDHP s0 s) : DoubleOK s := by
  obtain ⟨t, hd, ⟨a1, a2, a3⟩, b1, b2, b3⟩ := hB.shape.double (.inr rfl)
  exact ⟨t, hd, by rw [HashT.SizeOK, a1, a3], by rw [HashT.SizeOK, b1, b3], by rw [a2, hB.cfg],
    by rw [b2, hB.cfg]⟩

/-- C19, run clause, history level, BDHP: the proven bound.  For every accepted BDHP
    configuration, every history of `Write`, `ReadFrom`, `Parse` (any flags), `Parse(nil)`, `Shrink`,
    `Reset`: if the next `Parse(&blk, flags)` without `NoTrailingLiterals` returns a block of
    `n ≥ 32` bytes, all equal to one byte `b`, the block carries at most `max 1 (InputLen1 - 1)`
    literal bytes (`InputLen1` of the configuration `ParserConfig()` reports; `2 ≤ InputLen1 ≤ 7`, so
    the bound is `1` for `InputLen1 = 2` and `InputLen1 - 1` otherwise). -/
theorem C19_run_bdhp_partial_reachable (raw : Cfg) (s0 : Parser) (h0 : newParser .BDHP raw = some s0)
    (ops : List POp) (flags : Nat) (s' : Parser) (n : Nat) (blk : Block) (b : Byte) :
    let s := (runOps (s0, Ghost.init) ops).1
    s.parse flags = (s', n, .ok, blk) → flags % 2 = 0 → 32 ≤ n →
    (∀ t, t < n → s.buf.data[s.buf.w + t]? = some b) →
    blk.lits.length ≤ max 1 (s0.cfg.inputLen1.toNat - 1) := by
  intro s hp hf hn hrun
  have hr := reachable_runOps s0 ops
  have hB := hr.base h0
  obtain ⟨hw, hws, -⟩ := reachable_hash h0 (by decide) hr
  obtain ⟨b2, b3, b4⟩ := (verify_inputLen (newParser_verify h0)).2 (Or.inr rfl)
  have := C19_run_bdhp_partial s hB.kind hB.doubleOK hw (by rw [hB.cfg]; omega) (by rw [hB.cfg]; omega)
    (by rw [hB.cfg]; exact b4) hws flags s' n blk b hp hf hn hrun
  rw [hB.cfg] at this
  exact this

/-! ## non-vacuity, and a kernel-checked witness that the bound `1` fails -/

section Examples

/-- all hypotheses of `C19_run_bdhp_partial_reachable` are satisfiable (configuration `runCfg` of
    LzProofs/Runs.lean: InputLen1 3, InputLen2 6, 16 slots per table): after writing 40 equal bytes
    the first `Parse` returns a block of `n = 32 = BlockSize` equal bytes -/
example : ∃ s' blk,
    let s := (runOps (runS0 .BDHP, Ghost.init) runOpsEx).1
    newParser .BDHP runCfg = some (runS0 .BDHP) ∧
    s.parse 0 = (s', 32, .ok, blk) ∧ (∀ t, t < 32 → s.buf.data[s.buf.w + t]? = some 97) ∧
    blk.lits.length ≤ max 1 ((runS0 .BDHP).cfg.inputLen1.toNat - 1) ∧
    max 1 ((runS0 .BDHP).cfg.inputLen1.toNat - 1) = 2 := by
  have hv : verify .BDHP (setDefaults .BDHP (runCfg.restrict .BDHP)) = true := by decide
  obtain ⟨s', blk, hp, hrun⟩ := runOpsEx_block .BDHP (by decide) hv (by decide) (by decide) (by decide)
  exact ⟨s', blk, runS0_new .BDHP hv, hp, hrun,
    C19_run_bdhp_partial_reachable runCfg _ (runS0_new .BDHP hv) runOpsEx 0 s' 32 blk 97 hp rfl
      (Nat.le_refl _) hrun, by decide⟩

/-- WindowSize 64 = BufferSize, BlockSize 32, InputLen1 3, InputLen2 4, 4 slots per table -/
def bdCfg : Cfg :=
  { windowSize := 64, bufferSize := 64, blockSize := 32, shrinkSize := 16,
    inputLen1 := 3, hashBits1 := 2, inputLen2 := 4, hashBits2 := 2 }

/-- the parser `NewParser` returns for `bdCfg` -/
def bdS0 : Parser :=
  { kind := .BDHP, cfg := setDefaults .BDHP (bdCfg.restrict .BDHP),
    buf := PBuf.init (setDefaults .BDHP (bdCfg.restrict .BDHP)).bufCfg,
    dict := freshDict .BDHP (setDefaults .BDHP (bdCfg.restrict .BDHP)) }

theorem bdS0_new : newParser .BDHP bdCfg = some bdS0 :=
  newParser_of_verify (by decide)

/-- the history: `Write(a^31 b)`, `Parse(&blk, 0)`, `Write(a^32)` -/
def bdOps : List POp :=
  [.write (List.replicate 31 97 ++ [98]), .parse 0, .write (List.replicate 32 97)]

/-- The bound `≤ 1` of HP/BHP/DHP is violated by BDHP (kernel-checked, `decide`, through the
    evaluable copy `parseF` of `parse`): the first `Parse` of the history `bdOps` emits one literal and
    one match over `a^30` and — BDHP re-indexes only the short table — leaves position 1 in the long
    table as the entry of the key `aaaa`.  In the state reached, the next `Parse` returns the block
    `[32, 64)` of 32 bytes `a`; it is parsed as ONE match of length 30 with offset 31 (that stale
    entry) followed by TWO literals — the last `InputLen1 - 1` bytes cannot be hashed.
    `C19_run_bdhp_partial` is sharp here. -/
theorem bdhp_two_literals :
    let s := (runOps (bdS0, Ghost.init) bdOps).1
    newParser .BDHP bdCfg = some bdS0 ∧
    (s.parse 0).2.1 = 32 ∧ (s.parse 0).2.2.1 = .ok ∧
    (∀ t, t < 32 → s.buf.data[s.buf.w + t]? = some 97) ∧
    (s.parse 0).2.2.2.seqs = [⟨0, 30, 31, 0⟩] ∧ (s.parse 0).2.2.2.lits = [97, 97] ∧
    (s.parse 0).2.2.2.lits.length = max 1 (s.cfg.inputLen1.toNat - 1) := by
  intro s
  have hs : s = List.foldl stepPF bdS0 bdOps := runOps_fst_F _ _
  have hdata : s.buf.w = 32 ∧ s.buf.data = List.replicate 31 97 ++ [98] ++ List.replicate 32 97 ∧
      s.cfg.inputLen1.toNat = 3 := by
    rw [hs]
    decide +kernel
  have hpar : (s.parse 0).2.1 = 32 ∧ (s.parse 0).2.2.1 = .ok ∧
      (s.parse 0).2.2.2.seqs = [⟨0, 30, 31, 0⟩] ∧ (s.parse 0).2.2.2.lits = [97, 97] := by
    rw [hs, parse_eq_parseF]
    decide +kernel
  refine ⟨bdS0_new, hpar.1, hpar.2.1, ?_, hpar.2.2.1, hpar.2.2.2, ?_⟩
  · intro t ht
    rw [hdata.1, hdata.2.1, List.getElem?_append_right (by simp), List.getElem?_replicate,
      if_pos (by simp; omega)]
  · rw [hpar.2.2.2, hdata.2.2]; decide

end Examples

end LZ

#print axioms LZ.C19_run_bdhp_partial_reachable
#print axioms LZ.bdhp_two_literals
