/-
  LzProofs.SapLemmas — helper lemmas shared by the proofs about the suffix-array parsers:
  the cost function `xzCost`, `lcpLen`, and the conditional update `relax1` on the DP table.
-/
import LzModel.Parser
import LzProofs.ArrayLemmas
import LzProofs.Lex
namespace LZ.Sap

/-! ## `xzCost` -/

theorem log2_mono {a b : Nat} (h : a ≤ b) : Nat.log2 a ≤ Nat.log2 b := by
  by_cases ha : a = 0
  · subst ha; simp
  · have hb : b ≠ 0 := by omega
    exact (Nat.le_log2 hb).2 (Nat.le_trans (Nat.log2_self_le ha) h)

theorem two_le_log2 {d : Nat} (h : 4 ≤ d) : 2 ≤ Nat.log2 d :=
  (Nat.le_log2 (by omega)).2 (by simpa using h)

theorem xzCost_one_zero : xzCost 1 0 = 9 := by simp [xzCost]

theorem xzCost_zero_offset (i : Nat) : xzCost i 0 = 9 * i := by simp [xzCost]

/-- C11 (i): for a fixed length the cost is non-decreasing in the offset (offsets `≥ 1`). -/
theorem xzCost_mono_offset (m : Nat) {o o' : Nat} (h1 : 1 ≤ o) (h : o ≤ o') :
    xzCost m o ≤ xzCost m o' := by
  have ho : o ≠ 0 := by omega
  have ho' : o' ≠ 0 := by omega
  simp only [xzCost, ho, ho', if_false]
  by_cases hd : o - 1 < 4
  · by_cases hd' : o' - 1 < 4
    · simp [hd, hd']
    · have := two_le_log2 (d := o' - 1) (by omega)
      simp only [hd, hd', if_true, if_false]; omega
  · have hd' : ¬ o' - 1 < 4 := by omega
    have := log2_mono (a := o - 1) (b := o' - 1) (by omega)
    simp only [hd, hd', if_false]; omega

/-- a match is never free: `XZCost(m, o) ≥ 8` for `o ≥ 1` -/
theorem xzCost_pos (m : Nat) {o : Nat} (h1 : 1 ≤ o) : 8 ≤ xzCost m o := by
  have ho : o ≠ 0 := by omega
  simp only [xzCost, ho, if_false]
  have hc : 4 ≤ (if (m + 4294967296 - 2) % 4294967296 < 8 then 4
      else if (m + 4294967296 - 2) % 4294967296 < 16 then 5 else 10) := by
    split
    · omega
    · split <;> omega
  by_cases hd : o - 1 < 4
  · simp only [hd, if_true]; omega
  · simp only [hd, if_false]
    have := two_le_log2 (d := o - 1) (by omega)
    omega

/-- length of the literal run `p[li:i]` -/
theorem length_take_drop_sub {α} (p : List α) {li i : Nat} (h : i ≤ p.length) :
    ((p.drop li).take (i - li)).length = i - li := by
  simp only [List.length_take, List.length_drop]; omega

theorem blockN_le (s : Parser) (hn : s.blockN ≠ 0) : s.buf.w + s.blockN ≤ s.buf.data.length := by
  unfold Parser.blockN at *; omega

theorem take_eq_of_prefix {α} {a b : List α} (h : a <+: b) {n : Nat} (hn : n ≤ a.length) :
    a.take n = b.take n := by
  obtain ⟨r, rfl⟩ := h
  rw [List.take_append_of_le_length hn]

/-! ## `lcpLen` -/

theorem lcpLen_drop_le (p : List Byte) (f i : Nat) : lcpLen (p.drop f) (p.drop i) ≤ p.length - i := by
  have := lcpLen_le_right (p.drop f) (p.drop i)
  rwa [List.length_drop] at this

/-! ## the DP table -/

/-- cost entry `d[j].c` (0 outside the table) -/
def cst (d : Array Opt) (j : Nat) : Nat := (d.getD j default).c

/-- the one update the DP ever performs: `if e.c < d[j].c { d[j] = e }` -/
def relax1 (d : Array Opt) (j : Nat) (e : Opt) : Array Opt :=
  if e.c < (d.getD j default).c then d.setIfInBounds j e else d

@[simp] theorem relax1_size (d : Array Opt) (j : Nat) (e : Opt) : (relax1 d j e).size = d.size := by
  unfold relax1; split <;> simp

theorem relax1_getD_ne (d : Array Opt) {j k : Nat} (e : Opt) (h : k ≠ j) :
    (relax1 d j e).getD k default = d.getD k default := by
  unfold relax1; split
  · rw [getD_setIfInBounds]; simp [h]
  · rfl

theorem relax1_getD_self (d : Array Opt) (j : Nat) (e : Opt) :
    (relax1 d j e).getD j default = (if e.c < cst d j then e else d.getD j default) := by
  unfold relax1 cst; split
  · rename_i h
    rw [getD_setIfInBounds]
    have : j < d.size := by
      by_cases hs : j < d.size
      · exact hs
      · exfalso
        have : d.getD j default = default := by
          simp [Array.getD_eq_getD_getElem?, Array.getElem?_eq_none (Nat.le_of_not_lt hs)]
        rw [this] at h; exact Nat.not_lt_zero _ h
    simp [this]
  · rfl

theorem relax1_cst_le (d : Array Opt) (j k : Nat) (e : Opt) : cst (relax1 d j e) k ≤ cst d k := by
  by_cases h : k = j
  · subst h
    unfold cst; rw [relax1_getD_self]; unfold cst
    split
    · omega
    · exact Nat.le_refl _
  · unfold cst; rw [relax1_getD_ne d e h]; exact Nat.le_refl _

theorem relax1_cst_self (d : Array Opt) (j : Nat) (e : Opt) : cst (relax1 d j e) j ≤ e.c := by
  unfold cst; rw [relax1_getD_self]; unfold cst
  split
  · exact Nat.le_refl _
  · omega

theorem relax1_noop (d : Array Opt) (j : Nat) (e : Opt) (h : cst d j ≤ e.c) : relax1 d j e = d := by
  unfold relax1; unfold cst at h
  split
  · omega
  · rfl

end LZ.Sap
