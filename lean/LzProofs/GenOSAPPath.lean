/-
  The translated `(*optSuffixArrayParser).shortestPath` of osap.go
  (LzModel/Generated/CodeOSAPPath.lean) against the range-checked model `Idx.shortestPathChk`
  (LzProofs/IdxOsap.lean; `shortestPathChk_eq`: it equals the model `shortestPath` of LzModel/Sap.lean).

  Each loop of the Go text is matched with one function of the checked model, innermost first.

  Machine arithmetic.  Table costs are `uint64` in Go and `Nat` in the model.  The invariant `CB`
  (every cost of the table is `≤ 2^62`) holds for the initial table (`9·j`, `j ≤ 2^31`), is kept by
  every relaxation (an entry is only replaced by a smaller one), and makes every sum
  `d[i].c + XZCost(m, o)` (`XZCost < 2^36`, `xzCost_lt`) wrap-free.  `uint32`: `m++` does not wrap because
  `max ≤ maxLen = uint32(n - i) ≤ MaxInt32`; `i -= m` does not wrap because `backtrackChk` checks `m ≤ i`.

  The proofs unfold the defining equation of a loop function, normalise with `Res.bind` / the slice
  lemmas and decide the arithmetic with `omega`.  Beyond the order of the reads they mention the shape of the
  generated term in one place: `loop2_eq` restates the text of the literal step (`if i > 0 { … }`) in `hstep`.
-/
import LzProofs.GenOSAPLemmas
import LzProofs.GenCallByName
import LzProofs.IdxOsap

set_option linter.unusedSimpArgs false
set_option linter.unusedVariables false

namespace LZ.GenOSAP
open LZ LZ.Gen LZ.GenBuf LZ.GenHash LZ.GenSuffix LZ.Idx

/-- the Go type `opt` local to `shortestPath` -/
abbrev GOpt := Gen.optSuffixArrayParser_shortestPath_opt

abbrev zOpt : GOpt := { m := 0, o := 0, c := 0 }

/-- the bound on the costs of the table: `2^62` -/
abbrev costB : Nat := 4611686018427387904

/-- every cost of the table is at most `2^62` (so that no `uint64` sum of the DP wraps) -/
def CB (d : GSlice GOpt) : Prop := ∀ j, j < d.len → ((d.arr[j]?).getD zOpt).c.toNat ≤ costB

theorem CB_set {d : GSlice GOpt} (h : CB d) (j : Nat) (e : GOpt) (he : e.c.toNat ≤ costB) :
    CB { d with arr := d.arr.set j e } := by
  intro k hk
  have := h k hk
  simp only [List.getElem?_set]
  by_cases hjk : j = k
  · subst hjk
    by_cases hl : j < d.arr.length
    · simpa [hl] using he
    · simp [hl, costB]
  · simpa [hjk] using this

/-- after a step of the Go text on the table `d`: `d'` is well-formed, as long as `d`, its costs are bounded, and it stands
    for the model's table `D'` -/
structure Tab (d d' : GSlice GOpt) (D' : Array Opt) : Prop where
  abs : tabAbs d' = D'
  wf : GWF d'
  len : d'.len = d.len
  cb : CB d'

theorem Tab.trans {d d1 d' : GSlice GOpt} {D1 D' : Array Opt} (h1 : Tab d d1 D1) (h2 : Tab d1 d' D') : Tab d d' D' :=
  ⟨h2.abs, h2.wf, h2.len.trans h1.len, h2.cb⟩

/-! ## one relaxation -/

/-- `t := d[j]; if e.c < t.c { d[j] = e }` against `relax1Chk`: the read is in range; either the test holds,
    the write is in range and yields the model's table, or the test fails and the table is unchanged -/
theorem go_relax1 (d : GSlice GOpt) (hw : GWF d) (hcb : CB d) (j : Int) (jn : Nat) (hj : j = (jn : Int))
    (e : GOpt) (D' : Array Opt) (h : relax1Chk (tabAbs d) jn (optAbs e) = some D') :
    ∃ t, GSlice.index zOpt d j = Res.ok t ∧ jn < d.len ∧ t = (d.arr[jn]?).getD zOpt ∧
      ((e.c < t.c ∧ ∃ d', GSlice.set d j e = Res.ok d' ∧ Tab d d' D') ∨ (¬ e.c < t.c ∧ tabAbs d = D')) := by
  unfold relax1Chk at h
  split at h
  · cases h
  · rename_i x hx
    obtain ⟨hlt, hx'⟩ := gabs_getElem?_some optAbs zOpt hw jn x hx
    refine ⟨_, gindex_ok zOpt d j jn hj hlt, hlt, rfl, ?_⟩
    have hiff : e.c < ((d.arr[jn]?).getD zOpt).c ↔ (optAbs e).c < x.c := by
      rw [← hx']; exact UInt64.lt_iff_toNat_lt
    by_cases hc : (optAbs e).c < x.c
    · left
      rw [if_pos hc] at h
      refine ⟨hiff.2 hc, _, gset_ok d j jn hj hlt e, ?_, gset_wf hw jn e, rfl, ?_⟩
      · unfold setChk at h
        rw [if_pos (by rw [tabAbs_size hw]; exact hlt)] at h
        rw [← Option.some.inj h]
        exact gabs_set optAbs d jn e
      · apply CB_set hcb
        have h1 := hcb jn hlt
        have h2 : e.c.toNat < ((d.arr[jn]?).getD zOpt).c.toNat := UInt64.lt_iff_toNat_lt.1 (hiff.2 hc)
        omega
    · right
      rw [if_neg hc] at h
      exact ⟨fun hh => hc (hiff.1 hh), Option.some.inj h⟩

/-! ## loop_4: the match lengths of one edge -/

/-- `for m := …; m <= max; m++ { c := ci + cost(m, o); j := i + int(m); if c < d[j].c { d[j] = opt{m, o, c} } }`
    = `relaxLensChk` with `cnt = max + 1 - m` iterations left.  `hmax`: `m++` does not wrap at `max`
    (for `max = MaxUint32` the Go loop does not terminate). -/
theorem loop4_eq (grow : Nat → Nat → Nat) (max : UInt32) (ci : UInt64) (s : Gen.optSuffixArrayParser) (o : UInt32)
    (i : Int) (inn : Nat) (hi : i = (inn : Int)) (mm : Nat) (hcost : s.cost = 1)
    (hmax : max.toNat < 4294967295) (hci : ci.toNat ≤ costB) :
    ∀ (cnt fuel : Nat) (d : GSlice GOpt) (m : UInt32) (D' : Array Opt), GWF d → CB d →
      cnt = max.toNat + 1 - m.toNat → cnt + 1 ≤ fuel →
      relaxLensChk mm inn ci.toNat o.toNat cnt m.toNat (tabAbs d) = some D' →
      ∃ d' m', (ghead% Gen.optSuffixArrayParser_shortestPath_loop_4 [grow := grow, max := max, ci := ci, s := s, o := o, i := i])
          fuel d m = Res.ok (d', m') ∧ Tab d d' D' := by
  intro cnt
  induction cnt with
  | zero =>
    intro fuel d m D' hw hcb hc hf h
    cases fuel with
    | zero => omega
    | succ fuel =>
      unfold Gen.optSuffixArrayParser_shortestPath_loop_4
      have hle : ¬ m ≤ max := by rw [UInt32.le_iff_toNat_le]; omega
      simp only [hle, if_false]
      unfold relaxLensChk at h
      cases h
      exact ⟨_, _, rfl, rfl, hw, rfl, hcb⟩
  | succ cnt ih =>
    intro fuel d m D' hw hcb hc hf h
    cases fuel with
    | zero => omega
    | succ fuel =>
      unfold Gen.optSuffixArrayParser_shortestPath_loop_4
      have hle : m ≤ max := by rw [UInt32.le_iff_toNat_le]; omega
      have hmlt : m.toNat < 4294967295 := by omega
      simp only [hle, if_true, cost_ok _ hcost, bind_ok]
      unfold relaxLensChk at h
      split at h
      · cases h
      · rename_i D1 h1
        have hsum : (ci + Gen.XZCost m o).toNat = ci.toNat + xzCost m.toNat o.toNat := by
          have := gen_cost_lt m o
          rw [u64_add _ _ (by simp only [costB] at hci; omega), GenProps.gen_xzCost]
        have hopt : optAbs ({ m := m, o := o, c := ci + Gen.XZCost m o } : GOpt) =
            ⟨m.toNat, o.toNat, ci.toNat + xzCost m.toNat o.toNat⟩ := by
          simp only [optAbs, hsum]
        rw [← hopt] at h1
        obtain ⟨t, hidx, -, -, hcase⟩ := go_relax1 d hw hcb (i + Int.ofNat m.toNat) (inn + m.toNat)
          (by subst hi; simp only [Int.ofNat_eq_natCast]; omega) _ D1 h1
        rw [hidx]
        simp only [bind_ok]
        have hm1 : (m + 1).toNat = m.toNat + 1 := u32_add m 1 (by show m.toNat + 1 < _; omega)
        rcases hcase with ⟨hlt, d1, hset, T1⟩ | ⟨hnlt, hD1⟩
        · simp only [hlt, if_true, hset, bind_ok]
          obtain ⟨d', m', hgo, T'⟩ := ih fuel d1 (m + 1) D' T1.wf T1.cb (by omega) (by omega)
            (by rw [hm1, T1.abs]; exact h)
          exact ⟨d', m', hgo, T1.trans T'⟩
        · simp only [hnlt, if_false, bind_ok]
          exact ih fuel d (m + 1) D' hw hcb (by omega) (by omega) (by rw [hm1, hD1]; exact h)

/-! ## loop_3: the edges of one position, last to first -/

/-- `for k := len(q)-1; k >= 0; k-- { max := min(q[k].m, maxLen); o := q[k].o; loop_4 }` = `relaxEdgesChk` over the
    first `k` edges of `q` in reversed order.  The fuel is shared with loop_4 (one unit per iteration of loop_3,
    `max + 2 - MinMatchLen ≤ maxLen + 2` units inside loop_4). -/
theorem loop3_eq (grow : Nat → Nat → Nat) (q : GSlice Gen.edge) (hq : GWF q) (maxLen : UInt32) (s : Gen.optSuffixArrayParser)
    (ci : UInt64) (i : Int) (inn : Nat) (hi : i = (inn : Int)) (hcost : s.cost = 1)
    (hml : maxLen.toNat < 4294967295) (hci : ci.toNat ≤ costB)
    (hmm : 0 ≤ s.OSAPConfig.MinMatchLen) (hmm32 : s.OSAPConfig.MinMatchLen < 4294967296) :
    ∀ (k fuel : Nat) (d : GSlice GOpt) (k1 : Int) (D' : Array Opt), k1 = (k : Int) - 1 → k ≤ q.len → GWF d → CB d →
      k + maxLen.toNat + 2 ≤ fuel →
      relaxEdgesChk s.OSAPConfig.MinMatchLen.toNat inn ci.toNat maxLen.toNat ((q.data.take k).map edgeAbs).reverse
        (tabAbs d) = some D' →
      ∃ d' k', (ghead% Gen.optSuffixArrayParser_shortestPath_loop_3 [grow := grow, q := q, maxLen := maxLen, s := s, ci := ci, i := i])
          fuel d k1 = Res.ok (d', k') ∧ Tab d d' D' := by
  intro k
  induction k with
  | zero =>
    intro fuel d k1 D' hk1 hk hw hcb hf h
    cases fuel with
    | zero => omega
    | succ fuel =>
      unfold Gen.optSuffixArrayParser_shortestPath_loop_3
      have hneg : ¬ k1 ≥ 0 := by omega
      simp only [hneg, if_false]
      simp only [List.take_zero, List.map_nil, List.reverse_nil] at h
      unfold relaxEdgesChk at h
      cases h
      exact ⟨_, _, rfl, rfl, hw, rfl, hcb⟩
  | succ k ih =>
    intro fuel d k1 D' hk1 hk hw hcb hf h
    cases fuel with
    | zero => omega
    | succ fuel =>
      unfold Gen.optSuffixArrayParser_shortestPath_loop_3
      have hpos : k1 ≥ 0 := by omega
      have hklt : k < q.len := by omega
      have hidx := gindex_ok ({ m := 0, o := 0 } : Gen.edge) q k1 k (by omega) hklt
      simp only [hpos, if_true, hidx, bind_ok]
      -- the model side: the last of the first k+1 edges comes first
      have hqk : q.data[k]? = some ((q.arr[k]?).getD { m := 0, o := 0 }) := by
        rw [gdata_getElem?, if_pos hklt]
        unfold GWF at hq
        rw [List.getElem?_eq_getElem (by omega)]; rfl
      rw [List.take_add_one, hqk] at h
      simp only [Option.toList_some, List.map_append, List.map_cons, List.map_nil, List.reverse_append,
        List.reverse_cons, List.reverse_nil, List.nil_append, List.cons_append] at h
      generalize (q.arr[k]?).getD ({ m := 0, o := 0 } : Gen.edge) = e at h ⊢
      unfold relaxEdgesChk at h
      simp only [edgeAbs] at h
      split at h
      · cases h
      · rename_i D1 h1
        -- `max` of the Go text
        have hmaxv : (if e.m > maxLen then maxLen else e.m).toNat = min e.m.toNat maxLen.toNat := by
          by_cases hgt : e.m > maxLen
          · have := UInt32.lt_iff_toNat_lt.1 hgt
            simp only [hgt, if_true]; omega
          · have : ¬ maxLen.toNat < e.m.toNat := fun hh => hgt (UInt32.lt_iff_toNat_lt.2 hh)
            simp only [hgt, if_false]; omega
        have hm0 : (UInt32.ofInt s.OSAPConfig.MinMatchLen).toNat = s.OSAPConfig.MinMatchLen.toNat :=
          toNat_ofInt32 _ _ (by omega) (by omega)
        rw [← hmaxv, ← hm0] at h1
        obtain ⟨d1, m', hgo, T1⟩ := loop4_eq grow (if e.m > maxLen then maxLen else e.m) ci s e.o i inn hi
          _ hcost (by rw [hmaxv]; omega) hci _ fuel d (UInt32.ofInt s.OSAPConfig.MinMatchLen) D1 hw hcb rfl
          (by rw [hmaxv]; omega) h1
        rw [hgo]
        simp only [bind_ok]
        obtain ⟨d', k', hgo', T'⟩ := ih fuel d1 (k1 - 1) D' (by omega) (by omega) T1.wf T1.cb (by omega)
          (by rw [T1.abs]; exact h)
        exact ⟨d', k', hgo', T1.trans T'⟩

/-! ## the literal step -/

theorem optAbs_lit (c : UInt64) : optAbs ({ m := 1, o := 0, c := c } : GOpt) = ⟨1, 0, c.toNat⟩ := rfl

/-- `if c := d[i-1].c + lit; c < d[i].c { d[i] = opt{1, 0, c} }` for `i > 0` = `litRelaxChk` -/
theorem go_litRelax (d : GSlice GOpt) (hw : GWF d) (hcb : CB d) (lit : UInt64) (hlit : lit.toNat = xzCost 1 0)
    (i : Int) (inn : Nat) (hi : i = (inn : Int)) (hpos : 0 < inn) (D' : Array Opt)
    (h : litRelaxChk (tabAbs d) inn = some D') :
    ∃ t4 t5, GSlice.index zOpt d (i - 1) = Res.ok t4 ∧ GSlice.index zOpt d i = Res.ok t5 ∧
      ((t4.c + lit < t5.c ∧ ∃ d', GSlice.set d i ({ m := 1, o := 0, c := t4.c + lit } : GOpt) = Res.ok d' ∧ Tab d d' D') ∨
       (¬ t4.c + lit < t5.c ∧ tabAbs d = D')) := by
  unfold litRelaxChk at h
  rw [if_pos hpos] at h
  split at h
  · cases h
  · rename_i x hx
    obtain ⟨hlt, hx'⟩ := gabs_getElem?_some optAbs zOpt hw (inn - 1) x hx
    have hi4 := gindex_ok zOpt d (i - 1) (inn - 1) (by omega) hlt
    have hc4 := hcb (inn - 1) hlt
    generalize (d.arr[inn - 1]?).getD zOpt = t4 at hi4 hx' hc4
    have hl9 : xzCost 1 0 = 9 := by decide
    have hsum : (t4.c + lit).toNat = x.c + xzCost 1 0 := by
      rw [u64_add _ _ (by simp only [costB] at hc4; omega), hlit, ← hx']; rfl
    rw [← hsum, ← optAbs_lit] at h
    obtain ⟨t5, hi5, -, -, hcase⟩ := go_relax1 d hw hcb i inn hi _ D' h
    exact ⟨t4, t5, hi4, hi5, hcase⟩

/-! ## loop_2: the forward pass -/

/-- `for i, q := range edges { … }` = `dpLoopChk`.  `edges` is the re-sliced table `s.edges[k:k+n]`, `E` / `k0` the
    model's table and offset (`hEq`: element `i` of the one is element `k0 + i` of the other, every edge list is a
    well-formed slice and the fuel covers `n + len(q) + 2`). -/
theorem loop2_eq (grow : Nat → Nat → Nat) (fuel : Nat) (edges : GSlice (GSlice Gen.edge)) (E : Array (List Edge)) (k0 : Nat)
    (lit : UInt64) (hlit : lit.toNat = xzCost 1 0) (n : Int) (nn : Nat) (hn : n = (nn : Int)) (hn31 : nn ≤ 2147483647)
    (k : Int) (s : Gen.optSuffixArrayParser) (hcost : s.cost = 1)
    (hmm : 0 ≤ s.OSAPConfig.MinMatchLen) (hmm32 : s.OSAPConfig.MinMatchLen < 4294967296)
    (hEl : edges.len ≤ nn)
    (hEq : ∀ i, i < edges.len → E[k0 + i]? = some (((edges.arr[i]?).getD GSlice.nil).data.map edgeAbs) ∧
      GWF ((edges.arr[i]?).getD GSlice.nil) ∧ nn + ((edges.arr[i]?).getD GSlice.nil).len + 2 ≤ fuel) :
    ∀ (rest i : Nat) (d : GSlice GOpt) (D' : Array Opt), i + rest = edges.len → GWF d → CB d →
      dpLoopChk s.OSAPConfig.MinMatchLen.toNat nn E k0 rest i (tabAbs d) = some D' →
      ∃ d', (ghead% Gen.optSuffixArrayParser_shortestPath_loop_2 [grow := grow, fuel := fuel, edges := edges, lit := lit, n := n, k := k, s := s])
          rest (i : Int) d = Res.ok d' ∧ Tab d d' D' := by
  intro rest
  induction rest with
  | zero =>
    intro i d D' hir hw hcb h
    unfold Gen.optSuffixArrayParser_shortestPath_loop_2
    unfold dpLoopChk at h
    cases h
    exact ⟨_, rfl, rfl, hw, rfl, hcb⟩
  | succ rest ih =>
    intro i d D' hir hw hcb h
    have hilt : i < edges.len := by omega
    obtain ⟨hE1, hqw, hqf⟩ := hEq i hilt
    unfold Gen.optSuffixArrayParser_shortestPath_loop_2
    simp only [gindex_ok (GSlice.nil : GSlice Gen.edge) edges (i : Int) i rfl hilt, bind_ok]
    generalize (edges.arr[i]?).getD GSlice.nil = q at hE1 hqw hqf ⊢
    unfold dpLoopChk at h
    split at h
    · cases h
    · rename_i D1 h1
      -- the literal step: a table `d1` with `tabAbs d1 = D1`
      have hstep : ∃ d1, (if (i : Int) > 0 then
            Res.bind (GSlice.index zOpt d ((i : Int) - 1)) fun t_4 =>
            Res.bind (GSlice.index zOpt d (i : Int)) fun t_5 =>
            Res.bind (if t_4.c + lit < t_5.c then
                Res.bind (GSlice.set d (i : Int) ({ m := 1, o := 0, c := t_4.c + lit } : GOpt)) fun t_6 => Res.ok t_6
              else Res.ok d) fun join_7 => Res.ok join_7
          else Res.ok d) = Res.ok d1 ∧ Tab d d1 D1 := by
        by_cases hi0 : 0 < i
        · have hgt : (i : Int) > 0 := by omega
          obtain ⟨t4, t5, hi4, hi5, hcase⟩ := go_litRelax d hw hcb lit hlit (i : Int) i rfl hi0 D1 h1
          simp only [hgt, if_true, hi4, hi5, bind_ok]
          rcases hcase with ⟨hlt, d1, hset, T1⟩ | ⟨hnlt, hD1⟩
          · simp only [hlt, if_true, hset, bind_ok]
            exact ⟨d1, rfl, T1⟩
          · simp only [hnlt, if_false, bind_ok]
            exact ⟨d, rfl, hD1, hw, rfl, hcb⟩
        · have hgt : ¬ (i : Int) > 0 := by omega
          have : i = 0 := by omega
          subst this
          unfold litRelaxChk at h1
          simp only [Nat.lt_irrefl, if_false, gt_iff_lt] at h1
          simp only [hgt, if_false]
          exact ⟨d, rfl, Option.some.inj h1, hw, rfl, hcb⟩
      obtain ⟨d1, hgo1, T1⟩ := hstep
      simp only [zOpt] at hgo1
      simp only [hgo1, bind_ok]
      rw [← T1.abs] at h
      -- `ci := d[i].c`
      split at h
      · cases h
      · rename_i x hx
        obtain ⟨hlt, hx'⟩ := gabs_getElem?_some optAbs zOpt T1.wf i x hx
        have hi9 := gindex_ok zOpt d1 (i : Int) i rfl hlt
        have hc9 := T1.cb i hlt
        generalize (d1.arr[i]?).getD zOpt = t9 at hi9 hx' hc9
        simp only [zOpt] at hi9
        simp only [hi9, bind_ok]
        rw [hE1] at h
        simp only at h
        split at h
        · cases h
        · rename_i D2 h2
          have hml : (UInt32.ofInt (n - (i : Int))).toNat = nn - i := toNat_ofInt32 _ _ (by omega) (by omega)
          have hci : t9.c.toNat = x.c := by rw [← hx']; rfl
          rw [← hml, ← hci, ← List.map_reverse] at h2
          have htake : (q.data.map edgeAbs).reverse = ((q.data.take q.len).map edgeAbs).reverse := by
            rw [List.take_of_length_le (by rw [gdata_length hqw]; exact Nat.le_refl _)]
          rw [List.map_reverse, htake] at h2
          obtain ⟨d2, k', hgo2, T2⟩ := loop3_eq grow q hqw (UInt32.ofInt (n - (i : Int))) s t9.c (i : Int) i rfl
            hcost (by rw [hml]; omega) hc9 hmm hmm32 q.len fuel d1 ((Int.ofNat q.len) - 1) D2
            (by simp only [Int.ofNat_eq_natCast]) (Nat.le_refl _) T1.wf T1.cb (by rw [hml]; omega) h2
          rw [hgo2]
          simp only [bind_ok]
          obtain ⟨d', hgo', T'⟩ := ih (i + 1) d2 D' (by omega) T2.wf T2.cb (by rw [T2.abs]; exact h)
          refine ⟨d', ?_, (T1.trans T2).trans T'⟩
          rw [← hgo']
          rfl

/-! ## loop_1: the initial table -/

/-- entry `j ≠ 0` of the initial table: a run of `j` literals -/
def goD0 (j : Nat) : GOpt := { m := 1, o := 0, c := Gen.XZCost (UInt32.ofInt (j : Int)) 0 }

/-- `for i := range d { if i == 0 { continue }; d[i] = opt{1, 0, cost(uint32(i), 0)} }`: the entries from `i` on
    (except entry 0) are overwritten, the others are kept -/
theorem loop1_eq (grow : Nat → Nat → Nat) (fuel : Nat) (s : Gen.optSuffixArrayParser) (hcost : s.cost = 1) :
    ∀ (rest i : Nat) (d : GSlice GOpt), i + rest = d.len → GWF d →
      ∃ d', (ghead% Gen.optSuffixArrayParser_shortestPath_loop_1 [grow := grow, fuel := fuel, s := s]) rest (i : Int) d = Res.ok d' ∧
        GWF d' ∧ d'.len = d.len ∧
        (∀ j, (j < i ∨ j = 0) → d'.arr[j]? = d.arr[j]?) ∧
        (∀ j, i ≤ j → j < d.len → j ≠ 0 → d'.arr[j]? = some (goD0 j)) := by
  intro rest
  induction rest with
  | zero =>
    intro i d hir hw
    unfold Gen.optSuffixArrayParser_shortestPath_loop_1
    exact ⟨d, rfl, hw, rfl, fun _ _ => rfl, fun j h1 h2 _ => by omega⟩
  | succ rest ih =>
    intro i d hir hw
    have hilt : i < d.len := by omega
    have hcast : ((i : Int) + 1) = ((i + 1 : Nat) : Int) := by omega
    unfold Gen.optSuffixArrayParser_shortestPath_loop_1
    by_cases hi0 : i = 0
    · subst hi0
      -- `if i == 0 { continue }` or `if i != 0 { … }`: either spelling, either arm order
      simp only [Int.natCast_zero, if_true, ne_eq, not_true_eq_false, if_false, bind_ok]
      obtain ⟨d', hgo, r1, r2, r3, r4⟩ := ih 1 d (by omega) hw
      refine ⟨d', hgo, r1, r2, fun j hj => r3 j (by omega), ?_⟩
      intro j h1 h2 h3
      exact r4 j (by omega) h2 h3
    · have hne : ¬ (i : Int) = 0 := by omega
      simp only [hne, if_false, ne_eq, not_false_eq_true, if_true, cost_ok _ hcost, bind_ok, gset_ok d (i : Int) i rfl hilt]
      rw [hcast]
      obtain ⟨d', hgo, r1, r2, r3, r4⟩ := ih (i + 1) { d with arr := d.arr.set i (goD0 i) } (by show i + 1 + rest = d.len; omega)
        (gset_wf hw i _)
      refine ⟨d', hgo, r1, r2, ?_, ?_⟩
      · intro j hj
        rw [r3 j (by omega)]
        simp only [List.getElem?_set]
        rw [if_neg (by omega)]
      · intro j h1 h2 h3
        by_cases hji : j = i
        · subst hji
          rw [r3 j (by omega)]
          unfold GWF at hw
          simp only [List.getElem?_set, if_true]
          rw [if_pos (by omega)]
        · exact r4 j (by omega) h2 h3

theorem optAbs_goD0 (j : Nat) (hj : j < 4294967296) : optAbs (goD0 j) = ⟨1, 0, xzCost j 0⟩ := by
  simp only [optAbs, goD0, GenProps.gen_xzCost, toNat_ofInt32 j _ rfl hj]
  rfl

/-- the table `loop_1` leaves is the model's `d0`, and its costs `9·j` are below the bound -/
theorem d0_eq (d : GSlice GOpt) (hw : GWF d) (nn : Nat) (hlen : d.len = nn + 1) (hn31 : nn ≤ 2147483647)
    (h0 : d.arr[0]? = some zOpt) (hj : ∀ j, j < d.len → j ≠ 0 → d.arr[j]? = some (goD0 j)) :
    tabAbs d = (Array.range (nn + 1)).map (fun i => if i = 0 then (⟨0, 0, 0⟩ : Opt) else ⟨1, 0, xzCost i 0⟩) ∧ CB d := by
  constructor
  · apply Array.ext_getElem?
    intro k
    by_cases hk : k < nn + 1
    · unfold tabAbs
      rw [gabs_getElem? optAbs zOpt hw k (by omega)]
      by_cases hk0 : k = 0
      · subst hk0
        rw [h0]
        simp [optAbs]
      · rw [hj k (by omega) hk0]
        simp [hk, hk0, optAbs_goD0 k (by omega)]
    · unfold tabAbs
      rw [gabs_getElem?_none optAbs d k (by omega)]
      simp [hk]
  · intro k hk
    by_cases hk0 : k = 0
    · subst hk0
      rw [h0]; simp [costB]
    · rw [hj k hk hk0]
      have := congrArg Opt.c (optAbs_goD0 k (by omega))
      simp only [optAbs, Sap.xzCost_zero_offset] at this
      simp only [Option.getD_some, costB]
      omega

/-! ## loop_5: the back-tracking -/

/-- `for i != 0 { m, o := d[i].m, d[i].o; p = append(p, edge{m, o}); i -= m }` = `backtrackChk`: the model conses the
    edges onto `acc`, the Go text appends them to `p`, so `p = P0 ++ acc.reverse` throughout.  The Go loop needs one
    unit of fuel more than the model (for the final test). -/
theorem loop5_eq (grow : Nat → Nat → Nat) (d : GSlice GOpt) (hw : GWF d) (P0 : List Edge) :
    ∀ (mf gf : Nat) (p : GSlice Gen.edge) (i : UInt32) (acc path : List Edge), mf + 1 ≤ gf → GWF p →
      p.data.map edgeAbs = P0 ++ acc.reverse →
      backtrackChk (tabAbs d) mf i.toNat acc = some path →
      ∃ p' i', (ghead% Gen.optSuffixArrayParser_shortestPath_loop_5 [grow := grow, d := d]) gf p i = Res.ok (p', i') ∧
        p'.data.map edgeAbs = P0 ++ path.reverse ∧ GWF p' := by
  intro mf
  induction mf with
  | zero =>
    intro gf p i acc path hf hp hinv h
    cases gf with
    | zero => omega
    | succ gf =>
      unfold backtrackChk at h
      split at h
      · rename_i hi0
        have hi : i = 0 := UInt32.toNat_inj.1 hi0
        unfold Gen.optSuffixArrayParser_shortestPath_loop_5
        -- either spelling of the guard: `i != 0` / `i > 0` / `0 < i`
        have h00 : ((0 : UInt32) < 0) = False := eq_false (by decide)
        simp only [hi, ne_eq, not_true_eq_false, if_false, gt_iff_lt, h00]
        cases h
        exact ⟨_, _, rfl, hinv, hp⟩
      · cases h
  | succ mf ih =>
    intro gf p i acc path hf hp hinv h
    cases gf with
    | zero => omega
    | succ gf =>
      unfold backtrackChk at h
      unfold Gen.optSuffixArrayParser_shortestPath_loop_5
      split at h
      · rename_i hi0
        have hi : i = 0 := UInt32.toNat_inj.1 hi0
        -- either spelling of the guard: `i != 0` / `i > 0` / `0 < i`
        have h00 : ((0 : UInt32) < 0) = False := eq_false (by decide)
        simp only [hi, ne_eq, not_true_eq_false, if_false, gt_iff_lt, h00]
        cases h
        exact ⟨_, _, rfl, hinv, hp⟩
      · rename_i hi0
        have hi : i ≠ 0 := fun e => hi0 (by rw [e]; rfl)
        split at h
        · cases h
        · rename_i e he
          obtain ⟨hlt, he'⟩ := gabs_getElem?_some optAbs zOpt hw i.toNat e he
          have hidx := gindex_ok zOpt d (Int.ofNat i.toNat) i.toNat (by simp only [Int.ofNat_eq_natCast]) hlt
          generalize (d.arr[i.toNat]?).getD zOpt = t at hidx he'
          simp only [zOpt] at hidx
          have hpos : ((0 : UInt32) < i) = True := eq_true (by
            rw [UInt32.lt_iff_toNat_lt]; exact Nat.pos_of_ne_zero hi0)
          simp only [hi, hpos, gt_iff_lt, ne_eq, not_false_eq_true, if_true, hidx, bind_ok]
          split at h
          · rename_i hmi
            have hmle : t.m ≤ i := by
              rw [UInt32.le_iff_toNat_le]; rw [← he'] at hmi; exact hmi
            have hsub : (i - t.m).toNat = i.toNat - e.m := by
              rw [UInt32.toNat_sub_of_le _ _ hmle, ← he']; rfl
            obtain ⟨ad, aw⟩ := gappend_data ({ m := 0, o := 0 } : Gen.edge) grow p hp ({ m := t.m, o := t.o } : Gen.edge)
            rw [← hsub] at h
            exact ih gf _ (i - t.m) ((e.m, e.o) :: acc) path (by omega) aw
              (by rw [ad, List.map_append, hinv, ← he']; simp [edgeAbs, optAbs]) h
          · cases h

/-! ## the function -/

/-- `shortestPath` of the Go text = the range-checked model.  Whenever `Idx.shortestPathChk` succeeds on the
    abstraction of the parser state, the translated Go text succeeds — no index / slice panic, no `Res.fuel` — and
    appends exactly the model's path, in reversed order (`backtrack` returns it in forward order), to `p`.

    Hypotheses (all hold in reachable parser states):
    * `hcost`  the field `cost` holds `XZCost` (code 1; the only function ever stored there);
    * `hn31`   `n ≤ MaxInt32` (`n ≤ BlockSize ≤ BufferSize ≤ MaxInt32` by `Verify`): `uint32(n - i)`, `uint32(i)` are exact,
               `m++` does not wrap, `9·n` and all sums of costs fit `uint64`.  `0 < n` is not assumed: it follows from `h`
               (`shortestPathChk` fails for `n = 0`, where the Go text reads `d[-1]`);
    * `hk`     `s.start ≤ s.W` (`OsapOK`), so that `k := s.W - s.start` is the model's natural number `k0`;
    * `hE`, `hq`, `hp`  `len ≤ cap` for `s.edges`, each of its elements, and `p` (representation invariant of slice values);
    * `hmm`, `hmm32`  `0 ≤ MinMatchLen < 2^32` (`Verify`: `2 ≤ MinMatchLen ≤ MaxMatchLen ≤ 273`…): `uint32(s.MinMatchLen)` is exact;
    * `hfq`    fuel: loop_3 and loop_4 share one counter, an edge list `q` costs at most `len(q) + (n - i) + 2` units;
               the back-tracking needs `n + 1` (implied, since `h` forces at least one edge list);
    * `h`      the checked model succeeds: `k0 + n ≤ len(s.edges)`, every table access in range, the
               back-tracking ends with `m ≤ i` at every step (`shortestPathChk_eq`: true for `n ≠ 0`, `k0 + n ≤ len`). -/
theorem gen_osap_shortestPath (grow : Nat → Nat → Nat) (fuel : Nat) (s : Gen.optSuffixArrayParser) (p : GSlice Gen.edge)
    (n : Int) (path : List Edge)
    (hcost : s.cost = 1)
    (hn31 : n ≤ 2147483647)
    (hk : 0 ≤ s.ParserBuffer.W - s.start)
    (hE : GWF s.edges) (hq : ∀ q ∈ s.edges.data, GWF q)
    (hmm : 0 ≤ s.OSAPConfig.MinMatchLen) (hmm32 : s.OSAPConfig.MinMatchLen < 4294967296)
    (hp : GWF p)
    (hfq : ∀ q ∈ s.edges.data, n.toNat + q.len + 2 ≤ fuel)
    (h : Idx.shortestPathChk s.OSAPConfig.MinMatchLen.toNat n.toNat (edgesAbs s.edges)
          (s.ParserBuffer.W - s.start).toNat = some path) :
    ∃ p', Gen.optSuffixArrayParser_shortestPath grow fuel s p n = Res.ok p' ∧
      p'.data.map edgeAbs = p.data.map edgeAbs ++ path.reverse ∧ GWF p' := by
  generalize hnn : n.toNat = nn at h hfq
  generalize hk0 : (s.ParserBuffer.W - s.start).toNat = k0 at h
  have hkk : s.ParserBuffer.W - s.start = (k0 : Int) := by omega
  -- the model side, step by step
  unfold shortestPathChk at h
  split at h
  case isFalse => cases h
  rename_i hsz
  rw [edgesAbs_size hE] at hsz
  simp only at h
  split at h
  · cases h
  rename_i D2 hdp
  split at h
  · cases h
  rename_i hn0
  have hn : n = (nn : Int) := by omega
  split at h
  · cases h
  rename_i D3 hlr
  -- the Go side
  have hcap : s.edges.len ≤ s.edges.arr.length := hE
  have hslice := gslice_ok s.edges (s.ParserBuffer.W - s.start) (s.ParserBuffer.W - s.start + n) k0 (k0 + nn) hkk
    (by omega) (by omega) (by omega)
  have hmake := gmake_ok zOpt (n + 1) (n + 1) (nn + 1) (nn + 1) (by omega) (by omega) (Nat.le_refl _)
  -- loop_1
  obtain ⟨d1, hgo1, hw1, hl1, hk1, hv1⟩ := loop1_eq grow fuel s hcost (nn + 1) 0
    { arr := List.replicate (nn + 1) zOpt, len := nn + 1 } (by simp) (gwf_make _ (Nat.le_refl _))
  simp only [Int.natCast_zero] at hgo1
  obtain ⟨hD1, hcb1⟩ := d0_eq d1 hw1 nn hl1 (by omega)
    (by rw [hk1 0 (Or.inr rfl)]; simp)
    (fun j h1 h2 => hv1 j (Nat.zero_le _) (by rw [← hl1]; exact h1) h2)
  -- loop_2
  have hlit : (Gen.XZCost 1 0).toNat = xzCost 1 0 := by rw [GenProps.gen_xzCost]; rfl
  rw [← hD1] at hdp
  obtain ⟨d2, hgo2, T2⟩ := loop2_eq grow fuel { arr := s.edges.arr.drop k0, len := k0 + nn - k0 }
    (edgesAbs s.edges) k0 (Gen.XZCost 1 0) hlit n nn hn (by omega) (s.ParserBuffer.W - s.start) s hcost hmm hmm32
    (by show k0 + nn - k0 ≤ nn; omega)
    (by
      intro i hi
      have hi' : k0 + i < s.edges.len := by
        have : i < k0 + nn - k0 := hi
        omega
      simp only [List.getElem?_drop]
      have hmem := gmem_of_lt hE (k0 + i) hi' (GSlice.nil : GSlice Gen.edge)
      exact ⟨edgesAbs_getElem? hE (k0 + i) hi', hq _ hmem, hfq _ hmem⟩)
    (k0 + nn - k0) 0 d1 D2 (by simp) hw1 hcb1
    (by rw [show k0 + nn - k0 = nn by omega]; exact hdp)
  simp only [Int.natCast_zero] at hgo2
  -- the last literal step
  rw [← T2.abs] at hlr
  obtain ⟨t6, t7, hi6, hi7, hcase⟩ := go_litRelax d2 T2.wf T2.cb (Gen.XZCost 1 0) hlit n nn hn (by omega) D3 hlr
  -- fuel of the back-tracking
  have hfuel : nn + 1 ≤ fuel := by
    have hpos : 0 < s.edges.len := by omega
    have := hfq _ (gmem_of_lt hE 0 hpos (GSlice.nil : GSlice Gen.edge))
    omega
  have hi32 : (UInt32.ofInt n).toNat = nn := toNat_ofInt32 nn n hn (by omega)
  unfold Gen.optSuffixArrayParser_shortestPath
  simp only [zOpt] at hmake hi6 hi7 hcase
  simp only [hslice, bind_ok, hmake, hgo1, cost_ok _ hcost, hgo2, hi6, hi7]
  rcases hcase with ⟨hlt, d3, hset, T3⟩ | ⟨hnlt, hD3⟩
  · simp only [hlt, if_true, hset, bind_ok]
    rw [← T3.abs] at h
    obtain ⟨p', i', hgo5, r1, r2⟩ := loop5_eq grow d3 T3.wf (p.data.map edgeAbs) nn fuel p (UInt32.ofInt n) [] path hfuel hp
      (by simp) (by rw [hi32]; exact h)
    simp only [hgo5, bind_ok]
    exact ⟨p', rfl, r1, r2⟩
  · simp only [hnlt, if_false, bind_ok]
    rw [← hD3] at h
    obtain ⟨p', i', hgo5, r1, r2⟩ := loop5_eq grow d2 T2.wf (p.data.map edgeAbs) nn fuel p (UInt32.ofInt n) [] path hfuel hp
      (by simp) (by rw [hi32]; exact h)
    simp only [hgo5, bind_ok]
    exact ⟨p', rfl, r1, r2⟩

theorem gen_osap_shortestPath_len {p p' : GSlice Gen.edge} {path : List Edge} (hp : GWF p) (hp' : GWF p')
    (h : p'.data.map edgeAbs = p.data.map edgeAbs ++ path.reverse) : p'.len = p.len + path.length := by
  have := congrArg List.length h
  simpa [gdata_length hp, gdata_length hp'] using this

theorem gen_osap_shortestPath_u32 {p p' : GSlice Gen.edge} {path : List Edge}
    (h : p'.data.map edgeAbs = p.data.map edgeAbs ++ path.reverse) :
    ∀ e ∈ path, e.1 < 4294967296 ∧ e.2 < 4294967296 := by
  intro e he
  have : e ∈ p'.data.map edgeAbs := by rw [h]; simp [he]
  obtain ⟨x, -, rfl⟩ := List.mem_map.1 this
  exact ⟨UInt32.toNat_lt x.m, UInt32.toNat_lt x.o⟩

/-- the same against the unchecked model `shortestPath` (LzModel/Sap.lean), through `Idx.shortestPathChk_eq`: for a block of
    `1 ≤ n ≤ MaxInt32` bytes covered by the edge table (`k0 + n ≤ len(s.edges)`, the test of `Parse` before the call) the
    Go text never panics and appends `shortestPath …` reversed -/
theorem gen_osap_shortestPath_model (grow : Nat → Nat → Nat) (fuel : Nat) (s : Gen.optSuffixArrayParser) (p : GSlice Gen.edge)
    (n : Int)
    (hcost : s.cost = 1)
    (hn1 : 1 ≤ n) (hn31 : n ≤ 2147483647)
    (hk : 0 ≤ s.ParserBuffer.W - s.start)
    (hlen : s.ParserBuffer.W - s.start + n ≤ (s.edges.len : Int))
    (hE : GWF s.edges) (hq : ∀ q ∈ s.edges.data, GWF q)
    (hmm : 0 ≤ s.OSAPConfig.MinMatchLen) (hmm32 : s.OSAPConfig.MinMatchLen < 4294967296)
    (hp : GWF p)
    (hfq : ∀ q ∈ s.edges.data, n.toNat + q.len + 2 ≤ fuel) :
    ∃ p', Gen.optSuffixArrayParser_shortestPath grow fuel s p n = Res.ok p' ∧
      p'.data.map edgeAbs = p.data.map edgeAbs ++
        (shortestPath s.OSAPConfig.MinMatchLen.toNat n.toNat (edgesAbs s.edges) (s.ParserBuffer.W - s.start).toNat).reverse ∧
      GWF p' ∧
      p'.len = p.len +
        (shortestPath s.OSAPConfig.MinMatchLen.toNat n.toNat (edgesAbs s.edges) (s.ParserBuffer.W - s.start).toNat).length := by
  have h := shortestPathChk_eq s.OSAPConfig.MinMatchLen.toNat n.toNat (edgesAbs s.edges) (s.ParserBuffer.W - s.start).toNat
    (by omega) (by rw [edgesAbs_size hE]; omega)
  obtain ⟨p', h1, h2, h3⟩ := gen_osap_shortestPath grow fuel s p n _ hcost hn31 hk hE hq hmm hmm32 hp hfq h
  exact ⟨p', h1, h2, h3, gen_osap_shortestPath_len hp h3 h2⟩

/-! ## non-vacuity: the translated function run on a small state (block of 3 bytes, one edge `(m = 2, o = 1)` at position 1) -/

section Examples

/-- `W = start = 0`, `MinMatchLen = 2`, `cost = XZCost`, `edges = [[], [(2,1)], []]` (the middle list with spare capacity) -/
def exS : Gen.optSuffixArrayParser :=
  { (default : Gen.optSuffixArrayParser) with
    cost := 1
    OSAPConfig := { (default : Gen.OSAPConfig) with MinMatchLen := 2 }
    edges := { arr := [GSlice.nil, { arr := [{ m := 2, o := 1 }, { m := 7, o := 7 }], len := 1 }, GSlice.nil], len := 3 } }

-- model: literal, then the match; Go: appended in reversed order behind what `p` holds
#guard shortestPath 2 3 (edgesAbs exS.edges) 0 == [(1, 0), (2, 1)]
#guard (match Gen.optSuffixArrayParser_shortestPath (fun _ n => 2 * n) 10 exS { arr := [{ m := 9, o := 9 }], len := 1 } 3 with
        | Res.ok p' => p'.data.map edgeAbs == [(9, 9), (2, 1), (1, 0)]
        | _ => false)
-- too little fuel is reported as `Res.fuel`, a block longer than the table as a panic
#guard (match Gen.optSuffixArrayParser_shortestPath (fun _ n => 2 * n) 2 exS GSlice.nil 3 with | Res.fuel => true | _ => false)
#guard (match Gen.optSuffixArrayParser_shortestPath (fun _ n => 2 * n) 10 exS GSlice.nil 4 with | Res.panic => true | _ => false)

end Examples

#print axioms LZ.GenOSAP.gen_osap_shortestPath
#print axioms LZ.GenOSAP.gen_osap_shortestPath_model
#print axioms LZ.GenOSAP.gen_osap_shortestPath_len
#print axioms LZ.GenOSAP.gen_osap_shortestPath_u32

end LZ.GenOSAP
