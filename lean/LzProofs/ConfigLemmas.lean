/-
  LzProofs.ConfigLemmas — what the configuration properties (C20, C16 clause 1) of
  `ConfigProps.lean` rest on: the obligations on the regenerated constants, `setDefaults`,
  `Cfg.restrict` field by field, `verify` kind by kind and its bounds, the two outcomes of
  `newParser`, and the folds of the JSON encoder / decoder.
-/
import LzModel.Config
import LzModel.Json
import LzModel.Parser
namespace LZ

/-! ## Named obligations on the regenerated constants (`LzModel/Generated/Facts.lean`)

Every proof below that needs a fact about a constant refers to one of these lemmas; a change
of the Go constant breaks exactly the lemma that names it. -/
namespace FactsOb

theorem defInputLen2Small_ne_zero : Facts.defInputLen2Small ≠ 0 := by decide
theorem defInputLen2Large_ne_zero : Facts.defInputLen2Large ≠ 0 := by decide
theorem defWindowSize_ne_zero : Facts.defWindowSize ≠ 0 := by decide
theorem defBlockSize_ne_zero : Facts.defBlockSize ≠ 0 := by decide
theorem defInputLen_ne_zero : Facts.defInputLen ≠ 0 := by decide
theorem defHashBits_ne_zero : Facts.defHashBits ≠ 0 := by decide
theorem defBucketHashBits_ne_zero : Facts.defBucketHashBits ≠ 0 := by decide
theorem defBucketSize_ne_zero : Facts.defBucketSize ≠ 0 := by decide
theorem defMinMatchLen_ne_zero : Facts.defMinMatchLen ≠ 0 := by decide
theorem defMaxMatchLen_ne_zero : Facts.defMaxMatchLen ≠ 0 := by decide
theorem defCost_ne_empty : Facts.defCost ≠ "" := by decide
theorem maxSize_le : Facts.maxUint32 - (Facts.margin : Int) ≤ 2 ^ 32 - 8 := by decide
theorem minInputLen_ge_two : 2 ≤ Facts.minInputLen := by decide
theorem maxInputLen_le_eight : Facts.maxInputLen ≤ 8 := by decide
theorem maxHashBits_le : Facts.maxHashBits ≤ 24 := by decide
theorem maxBucketHashBits_le : Facts.maxBucketHashBits ≤ 24 := by decide
theorem maxBucketSize_le : Facts.maxBucketSize ≤ 128 := by decide

end FactsOb

/-! ## Configurations are records: extensionality -/

theorem Cfg.ext' {a b : Cfg}
    (h1 : a.shrinkSize = b.shrinkSize) (h2 : a.bufferSize = b.bufferSize)
    (h3 : a.windowSize = b.windowSize) (h4 : a.blockSize = b.blockSize)
    (h5 : a.inputLen = b.inputLen) (h6 : a.hashBits = b.hashBits)
    (h7 : a.inputLen1 = b.inputLen1) (h8 : a.hashBits1 = b.hashBits1)
    (h9 : a.inputLen2 = b.inputLen2) (h10 : a.hashBits2 = b.hashBits2)
    (h11 : a.minMatchLen = b.minMatchLen) (h12 : a.maxMatchLen = b.maxMatchLen)
    (h13 : a.bucketSize = b.bucketSize) (h14 : a.cost = b.cost) : a = b := by
  cases a; cases b; simp_all

/-- the configuration type `k` has the (union) field `f` -/
def Kind.has (k : Kind) (f : String) : Bool := k.fields.contains f

theorem Kind.has_hashBits {k : Kind} : k.has "HashBits" = true → k = .HP ∨ k = .BHP ∨ k = .BUP := by
  cases k <;> decide

theorem Kind.has_hashBits1 {k : Kind} : k.has "HashBits1" = true → k = .DHP ∨ k = .BDHP := by
  cases k <;> decide

/-! ## `Cfg.restrict`, field by field -/

section restrict
variable (k : Kind) (c : Cfg)

theorem restrict_shrinkSize : (c.restrict k).shrinkSize = c.shrinkSize := rfl
theorem restrict_bufferSize : (c.restrict k).bufferSize = c.bufferSize := rfl
theorem restrict_windowSize : (c.restrict k).windowSize = c.windowSize := rfl
theorem restrict_blockSize : (c.restrict k).blockSize = c.blockSize := rfl
theorem restrict_inputLen : (c.restrict k).inputLen = if k.has "InputLen" then c.inputLen else 0 := rfl
theorem restrict_hashBits : (c.restrict k).hashBits = if k.has "HashBits" then c.hashBits else 0 := rfl
theorem restrict_inputLen1 : (c.restrict k).inputLen1 = if k.has "InputLen1" then c.inputLen1 else 0 := rfl
theorem restrict_hashBits1 : (c.restrict k).hashBits1 = if k.has "HashBits1" then c.hashBits1 else 0 := rfl
theorem restrict_inputLen2 : (c.restrict k).inputLen2 = if k.has "InputLen2" then c.inputLen2 else 0 := rfl
theorem restrict_hashBits2 : (c.restrict k).hashBits2 = if k.has "HashBits2" then c.hashBits2 else 0 := rfl
theorem restrict_minMatchLen : (c.restrict k).minMatchLen = if k.has "MinMatchLen" then c.minMatchLen else 0 := rfl
theorem restrict_maxMatchLen : (c.restrict k).maxMatchLen = if k.has "MaxMatchLen" then c.maxMatchLen else 0 := rfl
theorem restrict_bucketSize : (c.restrict k).bucketSize = if k.has "BucketSize" then c.bucketSize else 0 := rfl
theorem restrict_cost : (c.restrict k).cost = if k.has "Cost" then c.cost else "" := rfl

end restrict

/-- the same through the union accessor, for any field name -/
theorem restrict_getInt (k : Kind) (c : Cfg) (f : String) :
    (c.restrict k).getInt f = if k.fields.contains f then c.getInt f else 0 := by
  unfold Cfg.getInt
  split <;> first | rfl | (cases k <;> rfl) | (split <;> rfl)

/-- a configuration "is of type `k`": every union field the type does not have is zero -/
structure Cfg.OfKind (k : Kind) (c : Cfg) : Prop where
  inputLen : k.has "InputLen" = false → c.inputLen = 0
  hashBits : k.has "HashBits" = false → c.hashBits = 0
  inputLen1 : k.has "InputLen1" = false → c.inputLen1 = 0
  hashBits1 : k.has "HashBits1" = false → c.hashBits1 = 0
  inputLen2 : k.has "InputLen2" = false → c.inputLen2 = 0
  hashBits2 : k.has "HashBits2" = false → c.hashBits2 = 0
  minMatchLen : k.has "MinMatchLen" = false → c.minMatchLen = 0
  maxMatchLen : k.has "MaxMatchLen" = false → c.maxMatchLen = 0
  bucketSize : k.has "BucketSize" = false → c.bucketSize = 0
  cost : k.has "Cost" = false → c.cost = ""

theorem Cfg.restrict_ofKind (k : Kind) (c : Cfg) : (c.restrict k).OfKind k := by
  constructor <;> intro h <;> exact if_neg fun e => Bool.false_ne_true (h.symm.trans e)

theorem Cfg.restrict_eq_self {k : Kind} {c : Cfg} (h : c.OfKind k) : c.restrict k = c := by
  -- a field kept only if the type has it is unchanged: without the field it is zero already
  have keep {α} {b : Bool} {x z : α} (hz : b = false → x = z) : (if b then x else z) = x := by
    cases b
    · exact (hz rfl).symm
    · rfl
  exact Cfg.ext' rfl rfl rfl rfl (keep h.inputLen) (keep h.hashBits) (keep h.inputLen1)
    (keep h.hashBits1) (keep h.inputLen2) (keep h.hashBits2) (keep h.minMatchLen)
    (keep h.maxMatchLen) (keep h.bucketSize) (keep h.cost)

theorem Cfg.ofKind_iff {k : Kind} {c : Cfg} : c.OfKind k ↔ c.restrict k = c :=
  ⟨Cfg.restrict_eq_self, fun h => h ▸ Cfg.restrict_ofKind k c⟩

theorem Cfg.restrict_restrict (k : Kind) (c : Cfg) : (c.restrict k).restrict k = c.restrict k :=
  Cfg.restrict_eq_self (Cfg.restrict_ofKind k c)

/-! ## "a zero field becomes the default" -/

/-- "zero becomes the default" applied to its own result changes nothing (whatever the default) -/
theorem default_fix {α} [DecidableEq α] {z d x y : α} (hy : y = if x = z then d else x) :
    (if y = z then d else y) = y := by
  by_cases hx : x = z
  · rw [if_pos hx] at hy; rw [hy, ite_self]
  · rw [if_neg hx] at hy; rw [hy, if_neg hx]

theorem default_ne {α} [DecidableEq α] {z d : α} (hd : d ≠ z) (x : α) :
    (if x = z then d else x) ≠ z := by
  split
  · exact hd
  · assumption

theorem default_fix_has {α} [DecidableEq α] {z d x y : α} {h : Bool}
    (hy : y = if h then (if x = z then d else x) else x) :
    (if h then (if y = z then d else y) else y) = y := by
  cases h
  · rfl
  · exact default_fix hy

/-! ## `setDefaults`, field by field

Each lemma has the shape "the field is kept unless it is zero, in which case it becomes the
documented default"; for fields the type does not have the value is kept unconditionally. -/

section defaults
variable (k : Kind) (c : Cfg)

theorem setDefaults_windowSize :
    (setDefaults k c).windowSize = if c.windowSize = 0 then Facts.defWindowSize else c.windowSize := by
  cases k <;> rfl

theorem setDefaults_bufferSize :
    (setDefaults k c).bufferSize =
      if c.bufferSize = 0 then (setDefaults k c).windowSize else c.bufferSize := by
  cases k <;> rfl

theorem setDefaults_shrinkSize :
    (setDefaults k c).shrinkSize =
      if c.shrinkSize = 0 then
        (if (setDefaults k c).bufferSize < Facts.shrinkSmallLimit then (setDefaults k c).bufferSize >>> 1
         else Facts.defShrinkSize)
      else c.shrinkSize := by
  cases k <;> rfl

theorem setDefaults_blockSize :
    (setDefaults k c).blockSize = if c.blockSize = 0 then Facts.defBlockSize else c.blockSize := by
  cases k <;> rfl

theorem setDefaults_inputLen :
    (setDefaults k c).inputLen =
      if k.has "InputLen" then (if c.inputLen = 0 then Facts.defInputLen else c.inputLen)
      else c.inputLen := by
  cases k <;> rfl

/-- the `HashBits` default is 18 for HP/BHP and 12 for BUP -/
def Kind.defHashBits : Kind → Int
  | .BUP => Facts.defBucketHashBits
  | _ => Facts.defHashBits

theorem setDefaults_hashBits :
    (setDefaults k c).hashBits =
      if k.has "HashBits" then (if c.hashBits = 0 then k.defHashBits else c.hashBits)
      else c.hashBits := by
  cases k <;> rfl

theorem setDefaults_inputLen1 :
    (setDefaults k c).inputLen1 =
      if k.has "InputLen1" then (if c.inputLen1 = 0 then Facts.defInputLen else c.inputLen1)
      else c.inputLen1 := by
  cases k <;> rfl

theorem setDefaults_hashBits1 :
    (setDefaults k c).hashBits1 =
      if k.has "HashBits1" then (if c.hashBits1 = 0 then Facts.defHashBits else c.hashBits1)
      else c.hashBits1 := by
  cases k <;> rfl

/-- the `InputLen2` default depends on the (defaults-completed) `InputLen1`.
    Needs `defInputLen2Small ≠ 0`, `defInputLen2Large ≠ 0` (otherwise the second
    `H2.SetDefaults()` would replace the value again by `defInputLen`). -/
theorem setDefaults_inputLen2 :
    (setDefaults k c).inputLen2 =
      if k.has "InputLen2" then
        (if c.inputLen2 = 0 then
          (if (setDefaults k c).inputLen1 < Facts.dhSmallInputLen then Facts.defInputLen2Small
           else Facts.defInputLen2Large)
         else c.inputLen2)
      else c.inputLen2 := by
  have hd (p : Prop) [Decidable p] :
      (if p then Facts.defInputLen2Small else Facts.defInputLen2Large) ≠ 0 := by
    split
    · exact FactsOb.defInputLen2Small_ne_zero
    · exact FactsOb.defInputLen2Large_ne_zero
  cases k
  case DHP | BDHP => exact if_neg (default_ne (hd _) _)
  all_goals rfl

theorem setDefaults_hashBits2 :
    (setDefaults k c).hashBits2 =
      if k.has "HashBits2" then (if c.hashBits2 = 0 then Facts.defHashBits else c.hashBits2)
      else c.hashBits2 := by
  cases k <;> rfl

theorem setDefaults_minMatchLen :
    (setDefaults k c).minMatchLen =
      if k.has "MinMatchLen" then (if c.minMatchLen = 0 then Facts.defMinMatchLen else c.minMatchLen)
      else c.minMatchLen := by
  cases k <;> rfl

theorem setDefaults_maxMatchLen :
    (setDefaults k c).maxMatchLen =
      if k.has "MaxMatchLen" then (if c.maxMatchLen = 0 then Facts.defMaxMatchLen else c.maxMatchLen)
      else c.maxMatchLen := by
  cases k <;> rfl

theorem setDefaults_bucketSize :
    (setDefaults k c).bucketSize =
      if k.has "BucketSize" then (if c.bucketSize = 0 then Facts.defBucketSize else c.bucketSize)
      else c.bucketSize := by
  cases k <;> rfl

theorem setDefaults_cost :
    (setDefaults k c).cost =
      if k.has "Cost" then (if c.cost = "" then Facts.defCost else c.cost) else c.cost := by
  cases k <;> rfl

end defaults

theorem hashDefaults_hashDefaults (il hb : Int) :
    hashDefaults (hashDefaults il hb).1 (hashDefaults il hb).2 = hashDefaults il hb :=
  Prod.ext (default_fix rfl) (default_fix rfl)

theorem setDefaults_idem' (k : Kind) (c : Cfg) : setDefaults k (setDefaults k c) = setDefaults k c := by
  -- a field of the result satisfies the field lemma once more, with the completed value as input
  have fix {α} [DecidableEq α] {z d x y y' : α} {b : Bool}
      (e : y = if b then (if x = z then d else x) else x)
      (e' : y' = if b then (if y = z then d else y) else y) : y' = y := e'.trans (default_fix_has e)
  have hw : (setDefaults k (setDefaults k c)).windowSize = (setDefaults k c).windowSize :=
    (setDefaults_windowSize k _).trans (default_fix (setDefaults_windowSize k c))
  have hb : (setDefaults k (setDefaults k c)).bufferSize = (setDefaults k c).bufferSize := by
    rw [setDefaults_bufferSize k (setDefaults k c), hw]
    exact default_fix (setDefaults_bufferSize k c)
  have h1 := fix (setDefaults_inputLen1 k c) (setDefaults_inputLen1 k _)
  apply Cfg.ext'
  · rw [setDefaults_shrinkSize k (setDefaults k c), hb]
    exact default_fix (setDefaults_shrinkSize k c)
  · exact hb
  · exact hw
  · exact (setDefaults_blockSize k _).trans (default_fix (setDefaults_blockSize k c))
  · exact fix (setDefaults_inputLen k c) (setDefaults_inputLen k _)
  · exact fix (setDefaults_hashBits k c) (setDefaults_hashBits k _)
  · exact h1
  · exact fix (setDefaults_hashBits1 k c) (setDefaults_hashBits1 k _)
  · rw [setDefaults_inputLen2 k (setDefaults k c), h1]
    exact default_fix_has (setDefaults_inputLen2 k c)
  · exact fix (setDefaults_hashBits2 k c) (setDefaults_hashBits2 k _)
  · exact fix (setDefaults_minMatchLen k c) (setDefaults_minMatchLen k _)
  · exact fix (setDefaults_maxMatchLen k c) (setDefaults_maxMatchLen k _)
  · exact fix (setDefaults_bucketSize k c) (setDefaults_bucketSize k _)
  · exact fix (setDefaults_cost k c) (setDefaults_cost k _)

/-- the buffer part alone: its four fields are those of any kind, the others are not touched -/
theorem bufDefaults_bufDefaults (c : Cfg) : bufDefaults (bufDefaults c) = bufDefaults c :=
  have h := setDefaults_idem' .GSAP c
  Cfg.ext' (congrArg Cfg.shrinkSize h :) (congrArg Cfg.bufferSize h :) (congrArg Cfg.windowSize h :)
    (congrArg Cfg.blockSize h :) rfl rfl rfl rfl rfl rfl rfl rfl rfl rfl

theorem setDefaults_ofKind {k : Kind} {c : Cfg} (h : c.OfKind k) : (setDefaults k c).OfKind k := by
  constructor <;> intro hk
  · rw [setDefaults_inputLen, hk]; exact h.inputLen hk
  · rw [setDefaults_hashBits, hk]; exact h.hashBits hk
  · rw [setDefaults_inputLen1, hk]; exact h.inputLen1 hk
  · rw [setDefaults_hashBits1, hk]; exact h.hashBits1 hk
  · rw [setDefaults_inputLen2, hk]; exact h.inputLen2 hk
  · rw [setDefaults_hashBits2, hk]; exact h.hashBits2 hk
  · rw [setDefaults_minMatchLen, hk]; exact h.minMatchLen hk
  · rw [setDefaults_maxMatchLen, hk]; exact h.maxMatchLen hk
  · rw [setDefaults_bucketSize, hk]; exact h.bucketSize hk
  · rw [setDefaults_cost, hk]; exact h.cost hk

/-! ## Bounds implied by `verify` -/

theorem bufVerify_bounds {c : Cfg} (h : bufVerify c = true) :
    1 ≤ c.bufferSize ∧ c.bufferSize ≤ 2 ^ 32 - 8 ∧ 0 ≤ c.shrinkSize ∧ c.shrinkSize < c.bufferSize ∧
    0 ≤ c.windowSize ∧ c.windowSize ≤ 2 ^ 32 - 8 ∧ 1 ≤ c.blockSize ∧ c.blockSize ≤ 2 ^ 32 - 8 := by
  have hm := FactsOb.maxSize_le
  simp only [bufVerify, decide_eq_true_eq] at h
  omega

theorem hashVerify_bounds {il hb mb : Int} (h : hashVerify il hb mb = true) :
    Facts.minInputLen ≤ il ∧ il ≤ Facts.maxInputLen ∧ 0 ≤ hb ∧ hb ≤ 8 * il ∧ hb ≤ mb := by
  simp only [hashVerify, decide_eq_true_eq] at h
  split at h <;> omega

/-! `verify` kind by kind: what it tests, as one flat conjunction -/

theorem verify_hash {k : Kind} {c : Cfg} (hk : k = .HP ∨ k = .BHP) :
    verify k c = true ↔
      bufVerify c = true ∧ hashVerify c.inputLen c.hashBits Facts.maxHashBits = true := by
  rcases hk with rfl | rfl <;> simp only [verify, Bool.and_eq_true]

theorem verify_dh {k : Kind} {c : Cfg} (hk : k = .DHP ∨ k = .BDHP) :
    verify k c = true ↔
      bufVerify c = true ∧ hashVerify c.inputLen1 c.hashBits1 Facts.maxHashBits = true ∧
      hashVerify c.inputLen2 c.hashBits2 Facts.maxHashBits = true ∧ c.inputLen1 < c.inputLen2 := by
  rcases hk with rfl | rfl <;> simp only [verify, Bool.and_eq_true, decide_eq_true_eq, and_assoc]

theorem verify_bup {c : Cfg} :
    verify .BUP c = true ↔
      bufVerify c = true ∧ hashVerify c.inputLen c.hashBits Facts.maxBucketHashBits = true ∧
      Facts.minBucketSize ≤ c.bucketSize ∧ c.bucketSize ≤ Facts.maxBucketSize := by
  simp only [verify, Bool.and_eq_true, decide_eq_true_eq, and_assoc]

theorem verify_gsap {c : Cfg} :
    verify .GSAP c = true ↔
      bufVerify c = true ∧ 2 ≤ c.minMatchLen ∧ c.minMatchLen ≤ c.windowSize ∧
      c.windowSize ≤ Facts.maxInt32 ∧ c.bufferSize ≤ Facts.maxInt32 := by
  simp only [verify, Bool.and_eq_true, decide_eq_true_eq, and_assoc]

theorem verify_osap {c : Cfg} :
    verify .OSAP c = true ↔
      bufVerify c = true ∧ 2 ≤ c.minMatchLen ∧ c.minMatchLen ≤ c.maxMatchLen ∧
      c.cost = Facts.defCost ∧ c.bufferSize ≤ Facts.maxInt32 := by
  simp only [verify, Bool.and_eq_true, decide_eq_true_eq, and_assoc]

/-- the hash of any value lies in `[0, 2^hashBits)`, for every `hashBits` (for `hashBits ≥ 64`
    the shift amount of the uint64 shift is `0 mod 64`) -/
theorem hashValue_lt (x : UInt64) (hb : Nat) : hashValue x hb < 2 ^ hb := by
  unfold hashValue
  split
  · exact Nat.pow_pos (by decide)
  · rw [UInt64.toNat_shiftRight, Nat.shiftRight_eq_div_pow, UInt64.toNat_ofNat']
    have hx := UInt64.toNat_lt (x * prime64)
    generalize (x * prime64).toNat = v at hx
    by_cases h64 : hb < 64
    · have e : (64 - hb) % 2 ^ 64 % 64 = 64 - hb := by omega
      rw [e, Nat.div_lt_iff_lt_mul (Nat.pow_pos (by decide)), ← Nat.pow_add]
      have : hb + (64 - hb) = 64 := by omega
      rw [this]; exact hx
    · have e : (64 - hb) % 2 ^ 64 % 64 = 0 := by
        have : 64 - hb = 0 := by omega
        rw [this]
      rw [e, Nat.pow_zero, Nat.div_one]
      exact Nat.lt_of_lt_of_le hx (Nat.pow_le_pow_right (by decide) (by omega))

theorem verify_buf (k : Kind) (c : Cfg) (hv : verify k c = true) : bufVerify c = true := by
  cases k <;> simp only [verify, Bool.and_eq_true] at hv <;> simp [hv]

/-- what `BufConfig.Verify` guarantees, for every kind -/
theorem verify_bounds {k : Kind} {c : Cfg} (h : verify k c = true) :
    1 ≤ c.bufferSize ∧ 0 ≤ c.shrinkSize ∧ c.shrinkSize < c.bufferSize ∧ 0 ≤ c.windowSize ∧
    1 ≤ c.blockSize ∧ c.bufferSize ≤ 2 ^ 32 - 8 ∧ c.windowSize ≤ 2 ^ 32 - 8 ∧
    c.blockSize ≤ 2 ^ 32 - 8 := by
  have := bufVerify_bounds (verify_buf k c h)
  omega

/-- HP, BHP, BUP: `2 ≤ InputLen ≤ 8`, `0 ≤ HashBits ≤ min 24 (8·InputLen)` -/
theorem verify_hash_bounds {k : Kind} {c : Cfg} (hk : k = .HP ∨ k = .BHP ∨ k = .BUP)
    (h : verify k c = true) :
    2 ≤ c.inputLen ∧ c.inputLen ≤ 8 ∧ 0 ≤ c.hashBits ∧ c.hashBits ≤ 24 ∧
    c.hashBits ≤ 8 * c.inputLen := by
  have h1 := FactsOb.minInputLen_ge_two
  have h2 := FactsOb.maxInputLen_le_eight
  have h3 := FactsOb.maxHashBits_le
  have h4 := FactsOb.maxBucketHashBits_le
  rcases hk with rfl | rfl | rfl
  · have := hashVerify_bounds ((verify_hash (.inl rfl)).mp h).2; omega
  · have := hashVerify_bounds ((verify_hash (.inr rfl)).mp h).2; omega
  · have := hashVerify_bounds (verify_bup.mp h).2.1; omega

/-- DHP, BDHP: both hashes in range and `InputLen1 < InputLen2` -/
theorem verify_dh_bounds {k : Kind} {c : Cfg} (hk : k = .DHP ∨ k = .BDHP)
    (h : verify k c = true) :
    2 ≤ c.inputLen1 ∧ c.inputLen1 < c.inputLen2 ∧ c.inputLen2 ≤ 8 ∧
    0 ≤ c.hashBits1 ∧ c.hashBits1 ≤ 24 ∧ c.hashBits1 ≤ 8 * c.inputLen1 ∧
    0 ≤ c.hashBits2 ∧ c.hashBits2 ≤ 24 ∧ c.hashBits2 ≤ 8 * c.inputLen2 := by
  have h1 := FactsOb.minInputLen_ge_two
  have h2 := FactsOb.maxInputLen_le_eight
  have h3 := FactsOb.maxHashBits_le
  obtain ⟨-, a, b, hlt⟩ := (verify_dh hk).mp h
  have := hashVerify_bounds a
  have := hashVerify_bounds b
  omega

/-- a parser whose configuration verifies for its kind has a minimal match length of at least 2 -/
theorem Parser.minMatch_ge_two {p : Parser} (hv : verify p.kind p.cfg = true) : 2 ≤ p.minMatch := by
  unfold Parser.minMatch
  cases hk : p.kind <;> rw [hk] at hv <;> simp only
  · have := verify_hash_bounds (.inl rfl) hv; omega
  · have := verify_hash_bounds (.inr (.inl rfl)) hv; omega
  · have := verify_dh_bounds (.inl rfl) hv; omega
  · have := verify_dh_bounds (.inr rfl) hv; omega
  · have := verify_hash_bounds (.inr (.inr rfl)) hv; omega
  · have := (verify_gsap.mp hv).2.1; omega
  · have := (verify_osap.mp hv).2.1; omega

/-! ## `NewParser` -/

theorem newParser_of_verify {k : Kind} {raw : Cfg} (hv : verify k (setDefaults k (raw.restrict k)) = true) :
    newParser k raw = some { kind := k, cfg := setDefaults k (raw.restrict k),
                             buf := PBuf.init (setDefaults k (raw.restrict k)).bufCfg,
                             dict := freshDict k (setDefaults k (raw.restrict k)) } := by
  unfold newParser
  exact if_pos hv

theorem newParser_of_reject {k : Kind} {raw : Cfg} (hv : verify k (setDefaults k (raw.restrict k)) = false) :
    newParser k raw = none := by
  unfold newParser
  exact if_neg (by rw [hv]; exact Bool.false_ne_true)

theorem newParser_eq_some {k : Kind} {raw : Cfg} {s0 : Parser} (h : newParser k raw = some s0) :
    verify k (setDefaults k (raw.restrict k)) = true ∧
    s0 = { kind := k, cfg := setDefaults k (raw.restrict k),
           buf := PBuf.init (setDefaults k (raw.restrict k)).bufCfg,
           dict := freshDict k (setDefaults k (raw.restrict k)) } := by
  cases hv : verify k (setDefaults k (raw.restrict k))
  · rw [newParser_of_reject hv] at h; cases h
  · rw [newParser_of_verify hv] at h; exact ⟨rfl, (Option.some.inj h).symm⟩

/-! ## `asciiLower` made evaluable -/

def lowerChar (c : Char) : Char := if 'A' ≤ c ∧ c ≤ 'Z' then Char.ofNat (c.toNat + 32) else c

theorem asciiLower_eq (s : String) : asciiLower s = String.ofList (s.toList.map lowerChar) := by
  apply String.toList_injective
  simp [asciiLower, String.toList_map, lowerChar]

/-! ## Named obligations on the union record and the type names -/

/-- (a) no two fields of `parserConfigUnion` are equal up to ASCII case -/
theorem unionFields_nodup_lower : (unionFields.map (fun f => asciiLower f.1)).Nodup := by
  simp only [asciiLower_eq]; decide

theorem unionFields_head : unionFields = ("Type", true) :: unionFields.tail := by decide

theorem asciiLower_Type : asciiLower "Type" = "type" := by
  rw [asciiLower_eq]; decide

/-- (b) every field of every configuration type occurs in the union with the right Go type
    (`Cost` is the only `string` field) -/
theorem kind_fields_in_union (k : Kind) : ∀ f ∈ k.fields, (f, f == "Cost") ∈ unionFields.tail := by
  cases k <;> decide

/-- (c) the type names identify the configuration types -/
theorem kind_ofName_name (k : Kind) : Kind.ofName? k.name = some k := by
  cases k <;> decide

theorem kind_names_injective {k₁ k₂ : Kind} (h : k₁.name = k₂.name) : k₁ = k₂ := by
  have h1 := kind_ofName_name k₁
  rw [h, kind_ofName_name k₂] at h1
  exact (Option.some.inj h1).symm

theorem kind_ofName_eq_some {t : String} {k : Kind} (h : Kind.ofName? t = some k) : t = k.name := by
  unfold Kind.ofName? at h
  split at h <;> first | (cases h; rfl) | (cases h)

/-! ## Key lookup in the union -/

/-- generic: in a list without two names equal up to case, looking up (case-insensitively)
    any key that matches the name of a member finds exactly that member -/
theorem find_of_nodup_lower {l : List (String × Bool)}
    (hnd : (l.map (fun f => asciiLower f.1)).Nodup) {x : String × Bool} (hx : x ∈ l)
    {key : String} (hk : asciiLower x.1 = asciiLower key) :
    l.find? (fun g => asciiLower g.1 = asciiLower key) = some x := by
  induction l with
  | nil => cases hx
  | cons y ys ih =>
    rw [List.map_cons, List.nodup_cons] at hnd
    rcases List.mem_cons.mp hx with rfl | hx'
    · simp [hk]
    · have hne : asciiLower y.1 ≠ asciiLower key := by
        intro h
        apply hnd.1
        rw [h, ← hk]
        exact List.mem_map_of_mem (f := fun f => asciiLower f.1) hx'
      simp only [List.find?_cons, hne, decide_false]
      exact ih hnd.2 hx'

theorem union_find {f : String} {isStr : Bool} (h : (f, isStr) ∈ unionFields) {key : String}
    (hk : asciiLower f = asciiLower key) :
    unionFields.find? (fun g => asciiLower g.1 = asciiLower key) = some (f, isStr) :=
  find_of_nodup_lower unionFields_nodup_lower h hk

theorem union_tail_mem {x : String × Bool} (h : x ∈ unionFields.tail) : x ∈ unionFields := by
  rw [unionFields_head]; exact List.mem_cons_of_mem _ h

theorem union_tail_not_type {x : String × Bool} (h : x ∈ unionFields.tail) :
    asciiLower x.1 ≠ "type" := by
  have hnd := unionFields_nodup_lower
  rw [unionFields_head, List.map_cons, List.nodup_cons] at hnd
  intro he
  apply hnd.1
  show asciiLower "Type" ∈ _
  rw [asciiLower_Type, ← he]
  exact List.mem_map_of_mem (f := fun f => asciiLower f.1) h

theorem union_tail_ne_Type {x : String × Bool} (h : x ∈ unionFields.tail) : x.1 ≠ "Type" := by
  intro he
  apply union_tail_not_type h
  rw [he, asciiLower_Type]

/-! ## `unmarshalMember` -/

theorem unmarshalMember_of_find {key f : String} {isStr : Bool}
    (h : unionFields.find? (fun g => asciiLower g.1 = asciiLower key) = some (f, isStr))
    (u : UState) (v : JField) :
    unmarshalMember u key v =
      (match v with
       | .null => u
       | .str s =>
         if isStr then (if f = "Type" then { u with typ := s } else { u with cfg := { u.cfg with cost := s } })
         else { u with err := true }
       | .int i => if isStr then { u with err := true } else { u with cfg := u.cfg.setInt f i }
       | _ => { u with err := true }) := by
  unfold unmarshalMember
  rw [h]
  cases v <;> rfl

theorem unmarshalMember_of_none {key : String}
    (h : unionFields.find? (fun g => asciiLower g.1 = asciiLower key) = none)
    (u : UState) (v : JField) : unmarshalMember u key v = u := by
  unfold unmarshalMember
  rw [h]

theorem unmarshalMember_exact {f : String} {isStr : Bool} (h : (f, isStr) ∈ unionFields)
    (u : UState) (v : JField) :
    unmarshalMember u f v =
      (match v with
       | .null => u
       | .str s =>
         if isStr then (if f = "Type" then { u with typ := s } else { u with cfg := { u.cfg with cost := s } })
         else { u with err := true }
       | .int i => if isStr then { u with err := true } else { u with cfg := u.cfg.setInt f i }
       | _ => { u with err := true }) :=
  unmarshalMember_of_find (union_find h rfl) u v

/-- the error flag of the decoder is sticky and is raised exactly by a member whose key
    matches a union field and whose value has the wrong JSON type -/
def JField.wrongFor (isStr : Bool) : JField → Bool
  | .null => false
  | .str _ => !isStr
  | .int _ => isStr
  | _ => true

/-- the member `key : v` cannot be decoded into `parserConfigUnion` -/
def wrongMember (key : String) (v : JField) : Bool :=
  match unionFields.find? (fun f => asciiLower f.1 = asciiLower key) with
  | none => false
  | some (_, isStr) => v.wrongFor isStr

theorem unmarshalMember_err (u : UState) (key : String) (v : JField) :
    (unmarshalMember u key v).err = (u.err || wrongMember key v) := by
  unfold unmarshalMember wrongMember
  generalize unionFields.find? (fun f => asciiLower f.1 = asciiLower key) = r
  rcases r with _ | ⟨f, isStr⟩
  · simp
  · cases v <;> cases isStr <;> simp [JField.wrongFor]
    split <;> rfl

theorem foldl_err (l : List (String × JField)) (u : UState) :
    (l.foldl (fun u kv => unmarshalMember u kv.1 kv.2) u).err =
      (u.err || l.any (fun kv => wrongMember kv.1 kv.2)) := by
  induction l generalizing u with
  | nil => simp
  | cons x xs ih => simp [List.foldl_cons, ih, unmarshalMember_err, Bool.or_assoc]

theorem unmarshalUnion_isSome (fields : List (String × JField)) :
    (unmarshalUnion fields).isSome = !fields.any (fun kv => wrongMember kv.1 kv.2) := by
  unfold unmarshalUnion
  simp only [foldl_err]
  cases h : fields.any (fun kv => wrongMember kv.1 kv.2) <;> simp

/-! ## Reading back a marshalled configuration -/

/-- the `omitempty` encoding of one union field (other than `Type`) -/
def encField (c : Cfg) (x : String × Bool) : Option (String × JField) :=
  if x.2 then (if c.cost = "" then none else some (x.1, JField.str c.cost))
  else (if c.getInt x.1 = 0 then none else some (x.1, JField.int (c.getInt x.1)))

theorem marshalCfg_eq (k : Kind) (c : Cfg) :
    marshalCfg k c = ("Type", JField.str k.name) :: unionFields.tail.filterMap (encField c) := rfl

theorem getInt_setInt_ne {f g : String} (c : Cfg) (v : Int) (h : f ≠ g) :
    (c.setInt f v).getInt g = c.getInt g := by
  unfold Cfg.setInt
  split <;> (unfold Cfg.getInt; split <;> first | rfl | (exfalso; exact h rfl))

theorem setInt_cost (f : String) (c : Cfg) (v : Int) : (c.setInt f v).cost = c.cost := by
  unfold Cfg.setInt; split <;> rfl

theorem getInt_withCost (g : String) (c : Cfg) (s : String) :
    ({ c with cost := s } : Cfg).getInt g = c.getInt g := by
  unfold Cfg.getInt; split <;> rfl

/-- every `int` field of the union is a real field of `Cfg`: what is stored is read back -/
theorem getInt_setInt_self {f : String} (c : Cfg) (v : Int) (h : (f, false) ∈ unionFields) :
    (c.setInt f v).getInt f = v := by
  simp only [unionFields, List.mem_cons, Prod.mk.injEq, List.mem_nil_iff] at h
  simp only [Bool.false_eq_true, and_false, and_true, false_or, or_false] at h
  rcases h with h | h | h | h | h | h | h | h | h | h | h | h | h <;> subst h <;> rfl

/-- every field of `Cfg` is a field of the union (with the right type): a configuration is
    determined by what the union accessors return -/
theorem Cfg.ext_getInt {a b : Cfg}
    (hi : ∀ f, (f, false) ∈ unionFields.tail → a.getInt f = b.getInt f)
    (hc : ("Cost", true) ∈ unionFields.tail → a.cost = b.cost) : a = b := by
  apply Cfg.ext'
  · exact hi "ShrinkSize" (by decide)
  · exact hi "BufferSize" (by decide)
  · exact hi "WindowSize" (by decide)
  · exact hi "BlockSize" (by decide)
  · exact hi "InputLen" (by decide)
  · exact hi "HashBits" (by decide)
  · exact hi "InputLen1" (by decide)
  · exact hi "HashBits1" (by decide)
  · exact hi "InputLen2" (by decide)
  · exact hi "HashBits2" (by decide)
  · exact hi "MinMatchLen" (by decide)
  · exact hi "MaxMatchLen" (by decide)
  · exact hi "BucketSize" (by decide)
  · exact hc (by decide)

/-- decoding invariant while reading back `marshalCfg k c`: no error, the type is `t`, every
    field holds either the value it has in `c` or still its zero value -/
structure ReadInv (c : Cfg) (t : String) (u : UState) : Prop where
  err : u.err = false
  typ : u.typ = t
  ints : ∀ g, u.cfg.getInt g = c.getInt g ∨ u.cfg.getInt g = 0
  cost : u.cfg.cost = c.cost ∨ u.cfg.cost = ""

/-- effect of one (possibly omitted) field of the marshalled record -/
def rstep (c : Cfg) (u : UState) (x : String × Bool) : UState :=
  match encField c x with
  | some kv => unmarshalMember u kv.1 kv.2
  | none => u

theorem rstep_spec {c : Cfg} {t : String} {u : UState} {x : String × Bool}
    (hx : x ∈ unionFields.tail) (h : ReadInv c t u) :
    ReadInv c t (rstep c u x) ∧
    (∀ g, u.cfg.getInt g = c.getInt g → (rstep c u x).cfg.getInt g = c.getInt g) ∧
    (u.cfg.cost = c.cost → (rstep c u x).cfg.cost = c.cost) ∧
    (x.2 = false → (rstep c u x).cfg.getInt x.1 = c.getInt x.1) ∧
    (x.2 = true → (rstep c u x).cfg.cost = c.cost) := by
  obtain ⟨f, isStr⟩ := x
  have hmem := union_tail_mem hx
  have hT : f ≠ "Type" := union_tail_ne_Type hx
  cases isStr with
  | true =>
    by_cases hc : c.cost = ""
    · have hr : rstep c u (f, true) = u := by simp [rstep, encField, hc]
      rw [hr]
      refine ⟨h, fun _ hg => hg, fun hg => hg, by simp, fun _ => ?_⟩
      rcases h.cost with h1 | h1
      · exact h1
      · rw [h1, hc]
    · have hr : rstep c u (f, true) = { u with cfg := { u.cfg with cost := c.cost } } := by
        simp only [rstep, encField, hc, if_true, if_false]
        rw [unmarshalMember_exact hmem]
        simp [hT]
      rw [hr]
      refine ⟨⟨h.err, h.typ, fun g => ?_, Or.inl rfl⟩, fun g hg => ?_, fun _ => rfl, by simp, fun _ => rfl⟩
      · show Cfg.getInt { u.cfg with cost := c.cost } g = _ ∨ Cfg.getInt { u.cfg with cost := c.cost } g = 0
        rw [getInt_withCost]; exact h.ints g
      · show Cfg.getInt { u.cfg with cost := c.cost } g = _
        rw [getInt_withCost]; exact hg
  | false =>
    by_cases hc : c.getInt f = 0
    · have hr : rstep c u (f, false) = u := by simp [rstep, encField, hc]
      rw [hr]
      refine ⟨h, fun _ hg => hg, fun hg => hg, fun _ => ?_, by simp⟩
      rcases h.ints f with h1 | h1
      · exact h1
      · show u.cfg.getInt f = c.getInt f
        rw [h1, hc]
    · have hr : rstep c u (f, false) = { u with cfg := u.cfg.setInt f (c.getInt f) } := by
        simp only [rstep, encField, hc, if_false, Bool.false_eq_true]
        rw [unmarshalMember_exact hmem]
        rfl
      rw [hr]
      have key : ∀ g, u.cfg.getInt g = c.getInt g ∨ u.cfg.getInt g = 0 →
          (u.cfg.setInt f (c.getInt f)).getInt g = c.getInt g ∨
          (u.cfg.setInt f (c.getInt f)).getInt g = 0 := by
        intro g hg
        by_cases hfg : f = g
        · subst hfg; left; exact getInt_setInt_self _ _ hmem
        · rw [getInt_setInt_ne _ _ hfg]; exact hg
      refine ⟨⟨h.err, h.typ, fun g => key g (h.ints g), ?_⟩, fun g hg => ?_, fun hg => ?_,
        fun _ => getInt_setInt_self _ _ hmem, by simp⟩
      · show (u.cfg.setInt f (c.getInt f)).cost = _ ∨ (u.cfg.setInt f (c.getInt f)).cost = ""
        rw [setInt_cost]; exact h.cost
      · show (u.cfg.setInt f (c.getInt f)).getInt g = _
        by_cases hfg : f = g
        · subst hfg; exact getInt_setInt_self _ _ hmem
        · rw [getInt_setInt_ne _ _ hfg]; exact hg
      · show (u.cfg.setInt f (c.getInt f)).cost = _
        rw [setInt_cost]; exact hg

theorem rfold_spec {c : Cfg} {t : String} (l : List (String × Bool))
    (hl : ∀ x ∈ l, x ∈ unionFields.tail) (u : UState) (h : ReadInv c t u) :
    ReadInv c t (l.foldl (rstep c) u) ∧
    (∀ g, u.cfg.getInt g = c.getInt g → (l.foldl (rstep c) u).cfg.getInt g = c.getInt g) ∧
    (u.cfg.cost = c.cost → (l.foldl (rstep c) u).cfg.cost = c.cost) ∧
    (∀ g, (g, false) ∈ l → (l.foldl (rstep c) u).cfg.getInt g = c.getInt g) ∧
    ((∃ g, (g, true) ∈ l) → (l.foldl (rstep c) u).cfg.cost = c.cost) := by
  induction l generalizing u with
  | nil => exact ⟨h, fun _ hg => hg, fun hg => hg, by simp, by simp⟩
  | cons x xs ih =>
    obtain ⟨s1, s2, s3, s4, s5⟩ := rstep_spec (hl x (List.mem_cons_self ..)) h
    obtain ⟨r1, r2, r3, r4, r5⟩ := ih (fun y hy => hl y (List.mem_cons_of_mem _ hy)) (rstep c u x) s1
    rw [List.foldl_cons]
    refine ⟨r1, fun g hg => r2 g (s2 g hg), fun hg => r3 (s3 hg), fun g hg => ?_, fun ⟨g, hg⟩ => ?_⟩
    · rcases List.mem_cons.mp hg with rfl | hg'
      · exact r2 g (s4 rfl)
      · exact r4 g hg'
    · rcases List.mem_cons.mp hg with rfl | hg'
      · exact r3 (s5 rfl)
      · exact r5 ⟨g, hg'⟩

theorem foldl_marshal_tail (c : Cfg) (l : List (String × Bool)) (u : UState) :
    (l.filterMap (encField c)).foldl (fun u kv => unmarshalMember u kv.1 kv.2) u =
      l.foldl (rstep c) u := by
  rw [List.foldl_filterMap]
  congr 1
  funext x y
  unfold rstep
  cases encField c y <;> rfl

/-- reading back: decoding the marshalled union record of any `c` (all `Int` values, any
    `cost`) gives back the type name and exactly `c` -/
theorem unmarshalUnion_marshalCfg (k : Kind) (c : Cfg) :
    unmarshalUnion (marshalCfg k c) = some (k.name, c) := by
  have h0 : ReadInv c k.name { typ := k.name, cfg := {}, err := false } :=
    ⟨rfl, rfl, fun g => Or.inr (by unfold Cfg.getInt; split <;> rfl), Or.inr rfl⟩
  have hstart : unmarshalMember {} "Type" (JField.str k.name) =
      { typ := k.name, cfg := {}, err := false } := by
    rw [unmarshalMember_exact (f := "Type") (isStr := true) (by decide)]; rfl
  obtain ⟨r1, _, _, r4, r5⟩ := rfold_spec (c := c) unionFields.tail (fun _ hx => hx) _ h0
  unfold unmarshalUnion
  rw [marshalCfg_eq, List.foldl_cons, hstart, foldl_marshal_tail]
  show (if (unionFields.tail.foldl (rstep c) _).err = true then none else some _) = _
  rw [r1.err]
  simp only [Bool.false_eq_true, if_false, r1.typ]
  congr 2
  exact Cfg.ext_getInt (fun f hf => r4 f hf) (fun hC => r5 ⟨_, hC⟩)

/-! ## `unmarshalType` -/

def tstep (acc : String × Bool) (kv : String × JField) : String × Bool :=
  if asciiLower kv.1 = "type" then
    match kv.2 with
    | .null => acc
    | .str s => (s, acc.2)
    | _ => (acc.1, true)
  else acc

theorem unmarshalType_eq (fields : List (String × JField)) :
    unmarshalType fields =
      if (fields.foldl tstep ("", false)).2 then none else some (fields.foldl tstep ("", false)).1 := by
  unfold unmarshalType
  have hF : ∀ (F : String × Bool → String × JField → String × Bool), F = tstep →
      (have r := fields.foldl F ("", false); if r.2 then none else some r.1) =
      if (fields.foldl tstep ("", false)).2 then none else some (fields.foldl tstep ("", false)).1 := by
    intro F hF; subst hF; rfl
  apply hF
  funext acc kv; unfold tstep; split
  · cases kv.2 <;> rfl
  · rfl

theorem foldl_tstep_skip (l : List (String × JField)) (h : ∀ kv ∈ l, asciiLower kv.1 ≠ "type")
    (acc : String × Bool) : l.foldl tstep acc = acc := by
  induction l generalizing acc with
  | nil => rfl
  | cons x xs ih =>
    rw [List.foldl_cons]
    have : tstep acc x = acc := by unfold tstep; rw [if_neg (h x (List.mem_cons_self ..))]
    rw [this]
    exact ih (fun kv hkv => h kv (List.mem_cons_of_mem _ hkv)) acc

theorem encField_key {c : Cfg} {x : String × Bool} {kv : String × JField}
    (h : encField c x = some kv) : kv.1 = x.1 := by
  unfold encField at h
  split at h <;> split at h <;> first | (cases h; rfl) | cases h

theorem unmarshalType_marshalCfg (k : Kind) (c : Cfg) :
    unmarshalType (marshalCfg k c) = some k.name := by
  rw [unmarshalType_eq, marshalCfg_eq, List.foldl_cons]
  have h1 : tstep ("", false) ("Type", JField.str k.name) = (k.name, false) := by
    unfold tstep; rw [if_pos asciiLower_Type]
  rw [h1, foldl_tstep_skip]
  · rfl
  · intro kv hkv
    obtain ⟨x, hx, he⟩ := List.mem_filterMap.mp hkv
    rw [encField_key he]
    exact union_tail_not_type hx

/-! ## The two decoders of `ParseJSON` agree on `Type` -/

theorem unmarshalMember_typ_of_ne {key : String} (hk : asciiLower key ≠ "type") (u : UState)
    (v : JField) : (unmarshalMember u key v).typ = u.typ := by
  cases hf : unionFields.find? (fun g => asciiLower g.1 = asciiLower key) with
  | none => rw [unmarshalMember_of_none hf]
  | some x =>
    obtain ⟨f, isStr⟩ := x
    have hp := List.find?_some hf
    simp only [decide_eq_true_eq] at hp
    have hT : f ≠ "Type" := by
      intro he; apply hk; rw [← hp, he, asciiLower_Type]
    rw [unmarshalMember_of_find hf]
    cases v <;> cases isStr <;> simp [hT]

theorem unmarshalMember_type_key {key : String} (hk : asciiLower key = "type") (u : UState)
    (v : JField) :
    unmarshalMember u key v =
      (match v with
       | .null => u
       | .str s => { u with typ := s }
       | _ => { u with err := true }) := by
  have hf := union_find (f := "Type") (isStr := true) (by decide) (key := key)
    (by rw [asciiLower_Type, hk])
  rw [unmarshalMember_of_find hf]
  cases v <;> rfl

theorem type_folds_agree (l : List (String × JField)) (acc : String × Bool) (u : UState)
    (h1 : acc.1 = u.typ) (h2 : acc.2 = true → u.err = true) :
    (l.foldl tstep acc).1 = (l.foldl (fun u kv => unmarshalMember u kv.1 kv.2) u).typ ∧
    ((l.foldl tstep acc).2 = true →
      (l.foldl (fun u kv => unmarshalMember u kv.1 kv.2) u).err = true) := by
  induction l generalizing acc u with
  | nil => exact ⟨h1, h2⟩
  | cons x xs ih =>
    rw [List.foldl_cons, List.foldl_cons]
    apply ih
    · unfold tstep
      split
      · rename_i hk
        rw [unmarshalMember_type_key hk]
        cases x.2 <;> simp [h1]
      · rename_i hk
        rw [unmarshalMember_typ_of_ne hk]; exact h1
    · unfold tstep
      split
      · rename_i hk
        rw [unmarshalMember_type_key hk]
        cases x.2 <;> simp <;> exact h2
      · intro ha
        rw [unmarshalMember_err, h2 ha]; rfl

/-- if the union decoder succeeds with type `t`, the `struct{Type string}` decoder of
    `ParseJSON` succeeds with the same `t` -/
theorem unmarshalType_of_union {fields : List (String × JField)} {t : String} {c : Cfg}
    (h : unmarshalUnion fields = some (t, c)) : unmarshalType fields = some t := by
  obtain ⟨a1, a2⟩ := type_folds_agree fields ("", false) {} rfl (by simp)
  unfold unmarshalUnion at h
  simp only at h
  split at h
  · cases h
  · rename_i he
    cases h
    rw [unmarshalType_eq]
    split
    · rename_i ht; exact absurd (a2 ht) he
    · rw [a1]

/-! ## What a marshalled configuration of type `k` contains -/

/-- `Cost` is the only `string` field of the union besides `Type` -/
theorem union_tail_str {g : String} (h : (g, true) ∈ unionFields.tail) : g = "Cost" := by
  simp only [unionFields, List.tail_cons, List.mem_cons, Prod.mk.injEq, List.mem_nil_iff] at h
  simpa using h

theorem encField_restrict_key {k : Kind} {c : Cfg} {x : String × Bool} {kv : String × JField}
    (hx : x ∈ unionFields.tail) (he : encField (c.restrict k) x = some kv) : kv.1 ∈ k.fields := by
  obtain ⟨g, isStr⟩ := x
  rw [encField_key he]
  unfold encField at he
  cases isStr with
  | true =>
    have hg := union_tail_str hx
    subst hg
    simp only [if_true] at he
    split at he
    · cases he
    · rename_i hc
      rw [restrict_cost] at hc
      cases hk : k.has "Cost" with
      | false => rw [hk] at hc; exact absurd rfl hc
      | true => exact List.contains_iff_mem.mp hk
  | false =>
    simp only [Bool.false_eq_true, if_false] at he
    split at he
    · cases he
    · rename_i hc
      rw [restrict_getInt] at hc
      cases hk : k.fields.contains g with
      | false => rw [hk] at hc; exact absurd rfl hc
      | true => exact List.contains_iff_mem.mp hk

end LZ
