/-
  Non-vacuity of LzProofs/GenGSAPHistRun.lean:
   (1) the three specification hypotheses `GsapSpecs lcp SS BI` are SATISFIABLE: instances `lcpK`, `sortK`, `insK` of the
       opaque callees with a proof `specsK : GsapSpecs lcpK sortK insK`;
   (2) a concrete history executed on the TRANSLATED functions (`runG`) with these instances, checked by KERNEL
       evaluation (`decide +kernel`, no `native_decide`), and the instances of `gen_gsap_history`, `C01_go_text_gsap`,
       `C12_go_text_gsap` for it.

  The instances:
    lcpK p q  := lcpLen p.data q.data
    insK b js := `BitsetW.insert` on the abstraction `ofBS b`, written back (`ofW`)
    sortK t sa := the elements of `sa` replaced by `srtK t.data` (as int32), the capacity tail kept; panic unless
                  `len(sa) = len(t)`.
  `saSpec` (LzModel/Suffix.lean) is `List.mergeSort`, defined by WELL-FOUNDED recursion, which the kernel does not
  evaluate (`decide +kernel` on `saSpec "banana"` gets stuck).  Therefore
    srtK d := if checkSA d (isortK d) then isortK d else saSpec d
  with `isortK` an insertion sort by STRUCTURAL recursion and `checkSA` the linear checker of LzModel/Suffix.lean:
  `srtK d = saSpec d` for EVERY `d` (`SuffixProps.checkSA_eq_saSpec`: what the checker accepts IS `saSpec`; no
  correctness proof of the insertion sort is needed), and on a concrete input the kernel evaluates the insertion sort
  and the checker, never `saSpec`.

  Configuration (notes/gsap-translate.md §6, the run compared with real Go there): ShrinkSize 8, BufferSize 64,
  WindowSize 16, BlockSize 12, MinMatchLen 2.
  History: Write("abcabcabcabxyzxyzabcabQQQQabcab"); Parse(0); Parse(NoTrailingLiterals) ×2; Parse(0) [empty]; Shrink();
           ReadFrom(reader answering ≤4, 0 (`(0, nil)`), ≤100 bytes of "abcabQQQQxyzxyz", then io.EOF); Parse(0) ×2;
           Reset("hello hello hello"); Parse(0).
  The first four `Parse` results are the values the real Go run of notes/gsap-translate.md §6 printed.
-/
import LzProofs.GenGSAPHistRun

set_option linter.unusedSimpArgs false
set_option linter.unusedVariables false

namespace LZ.GenGSAPHist
open LZ LZ.Gen LZ.GenBuf LZ.GenHash LZ.GenSuffix LZ.GenBitset LZ.GsapBits LZ.GenHPParse LZ.GenParse LZ.GenBUPParse
  LZ.GenProps LZ.GenGSAP
open LZ.GenHPHist (GOpR GResR GOpR.WF GOp.WF ghostRunR)

/-! ## instances of the opaque callees -/

def lcpK (p q : Slice) : Int := ((lcpLen p.data q.data : Nat) : Int)

/-- insert position `i` into a list of positions sorted by their suffixes -/
def insPos (t : List Byte) (i : Nat) : List Nat → List Nat
  | [] => [i]
  | j :: r => if lexLe (t.drop i) (t.drop j) then i :: j :: r else j :: insPos t i r

/-- insertion sort of the positions by their suffixes (structural recursion: kernel-evaluable) -/
def isortK (t : List Byte) : List Nat := (List.range t.length).foldr (fun i acc => insPos t i acc) []

/-- `saSpec`, computed by the insertion sort whenever the checker accepts its output -/
def srtK (d : List Byte) : List Nat := if checkSA d (isortK d) then isortK d else saSpec d

theorem srtK_eq (d : List Byte) : srtK d = saSpec d := by
  unfold srtK
  split
  · rename_i h; exact checkSA_eq_saSpec h
  · rfl

def sortK (t : Slice) (sa : GSlice Int32) : Res (GSlice Int32) :=
  if sa.len = t.len then
    Res.ok { sa with arr := ((srtK t.data).map fun (k : Nat) => Int32.ofInt (k : Int)) ++ sa.arr.drop sa.len }
  else Res.panic

/-- a word-level bitset written back as a Go bitset -/
def ofW (w : BitsetW) : Gen.bitset := { a := { arr := w.backing.toList, len := w.len }, off := (w.off : Int) }

def insK (b : Gen.bitset) (js : List Int) : Res Gen.bitset :=
  match (ofBS b).insert (js.map Int.toNat) with
  | some w => Res.ok (ofW w)
  | none => Res.panic

theorem ofBS_ofW (w : BitsetW) : ofBS (ofW w) = w := by
  obtain ⟨bk, l, o⟩ := w
  simp [ofBS, ofW]

/-- the three specifications are satisfiable -/
theorem specsK : GsapSpecs lcpK sortK insK := by
  refine ⟨fun p q => rfl, ?_, ?_⟩
  · intro t sa ht hsa hl hmax
    have hlen : ((saSpec t.data).map fun (k : Nat) => Int32.ofInt (k : Int)).length = sa.len := by
      rw [List.length_map, (isSuffixArray_saSpec _).length_eq, data_length ht, hl]
    refine ⟨{ sa with arr := ((saSpec t.data).map fun (k : Nat) => Int32.ofInt (k : Int)) ++ sa.arr.drop sa.len },
      by unfold sortK; rw [if_pos hl, srtK_eq], ?_, rfl, ?_⟩
    · show sa.len ≤ (((saSpec t.data).map fun (k : Nat) => Int32.ofInt (k : Int)) ++ sa.arr.drop sa.len).length
      rw [List.length_append]
      omega
    · show (((saSpec t.data).map fun (k : Nat) => Int32.ofInt (k : Int)) ++ sa.arr.drop sa.len).take sa.len = _
      rw [← hlen, List.take_left']
      rfl
  · intro b js hb
    have hmap : (js.map fun (j : Nat) => (j : Int)).map Int.toNat = js := by
      rw [List.map_map]
      conv => rhs; rw [← List.map_id js]
      apply List.map_congr_left
      intro a _
      simp
    unfold insK
    rw [hmap]
    obtain ⟨w', e, inv, -⟩ := BitsetW.insert_members (ofBS b) (winv_of_bswf hb) js
    rw [e]
    refine ⟨ofW w', rfl, ofBS_ofW w', ?_, ?_⟩
    · show w'.len ≤ w'.backing.toList.length
      rw [Array.length_toList]; exact inv
    · show (0 : Int) ≤ (w'.off : Int)
      omega

/-! ## a history -/

def exCfg : Gen.GSAPConfig := { ShrinkSize := 8, BufferSize := 64, WindowSize := 16, BlockSize := 12, MinMatchLen := 2 }

/-- the capacity policy of `append` -/
def exGrow : Nat → Nat → Nat := fun _ n => n

/-- a Go slice with `cap = len` -/
def sliceOf (l : List UInt8) : Slice := { arr := l, len := l.length }

/-- "abcabcabcabxyzxyzabcabQQQQabcab" -/
def exA : List UInt8 :=
  [97, 98, 99, 97, 98, 99, 97, 98, 99, 97, 98, 120, 121, 122, 120, 121, 122, 97, 98, 99, 97, 98, 81, 81, 81, 81, 97, 98,
    99, 97, 98]
/-- "abcabQQQQxyzxyz" -/
def exB : List UInt8 := [97, 98, 99, 97, 98, 81, 81, 81, 81, 120, 121, 122, 120, 121, 122]
/-- "hello hello hello" -/
def exC : List UInt8 := [104, 101, 108, 108, 111, 32, 104, 101, 108, 108, 111, 32, 104, 101, 108, 108, 111]

/-- a reader delivering `exB` in answers of at most 4, 0 (`(0, nil)`) and 100 bytes, then `io.EOF` -/
def exRd : Reader := ⟨exB, [(4, 0), (0, 0), (100, 0)]⟩

def exOps : List GOpR :=
  [ .base (.write (sliceOf exA)), .base (.parse default 0), .base (.parse default 1), .base (.parse default 1),
    .base (.parse default 0), .base .shrink, .readFrom exRd, .base (.parse default 0), .base (.parse default 0),
    .base (.reset (sliceOf exC)), .base (.parse default 0) ]

/-- the state `gsap.init(exCfg)` leaves in `new(gsap)` -/
def exS0 : Gen.gsap :=
  match gsap_init default exCfg with
  | .ok (s, _) => s
  | _ => default

theorem exInit : gsap_init default exCfg = Res.ok (exS0, Gen.Err.ok) := by decide +kernel

theorem exWF : ∀ op ∈ exOps, op.WF := by
  intro op hop
  simp only [exOps, List.mem_cons, List.not_mem_nil, or_false] at hop
  rcases hop with rfl | rfl | rfl | rfl | rfl | rfl | rfl | rfl | rfl | rfl | rfl <;>
    first | trivial | exact Nat.le_refl _ | (show (0 : Int) ≤ _; decide)

/-- the values the translated functions return, in order -/
def exResults : List GResR :=
  [ .base (.write 31 Gen.Err.ok),
    -- "abc" + match(8, offset 3) + "x": 12 bytes = BlockSize; the suffix array of all 31 bytes is built here
    .base (.parse { Sequences := [{ LitLen := 3, MatchLen := 8, Offset := 3, Aux := 0 }],
                    Literals := { arr := [97, 98, 99, 120], len := 4 } } 12 Gen.Err.ok),
    -- NoTrailingLiterals: the block ends with its last match (10 of 12 bytes); the suffix array is dropped
    .base (.parse { Sequences := [{ LitLen := 2, MatchLen := 3, Offset := 3, Aux := 0 },
                                  { LitLen := 3, MatchLen := 2, Offset := 3, Aux := 0 }],
                    Literals := { arr := [121, 122, 97, 98, 99], len := 5 } } 10 Gen.Err.ok),
    -- re-sorted
    .base (.parse { Sequences := [{ LitLen := 1, MatchLen := 3, Offset := 1, Aux := 0 },
                                  { LitLen := 0, MatchLen := 5, Offset := 9, Aux := 0 }],
                    Literals := { arr := [81], len := 1 } } 9 Gen.Err.ok),
    .base (.parse { Sequences := [], Literals := { arr := [], len := 0 } } 0 Gen.ErrEmptyBuffer),
    .base (.shrink 23),
    .readFrom 15 Gen.io_EOF,
    .base (.parse { Sequences := [{ LitLen := 0, MatchLen := 5, Offset := 5, Aux := 0 },
                                  { LitLen := 0, MatchLen := 3, Offset := 13, Aux := 0 }],
                    Literals := { arr := [81, 120, 121, 122], len := 4 } } 12 Gen.Err.ok),
    .base (.parse { Sequences := [{ LitLen := 0, MatchLen := 3, Offset := 3, Aux := 0 }],
                    Literals := { arr := [], len := 0 } } 3 Gen.Err.ok),
    .base (.reset Gen.Err.ok),
    .base (.parse { Sequences := [{ LitLen := 6, MatchLen := 6, Offset := 6, Aux := 0 }],
                    Literals := { arr := [104, 101, 108, 108, 111, 32], len := 6 } } 12 Gen.Err.ok) ]

deriving instance DecidableEq for LZ.GenHPHist.GResR

set_option maxRecDepth 100000 in
/-- the run on the translated functions with the instances of the opaque callees, evaluated by the kernel -/
theorem exRun : (match runG 0 exGrow 200 lcpK sortK insK exS0 exOps with | .ok r => some r.2 | _ => none) =
    some exResults := by
  decide +kernel

/-- the bookkeeping computed from the calls and the results: after the `Reset` 17 bytes were fed, 12 consumed, one block -/
theorem exGhost :
    (ghostRunR Ghost.init exOps exResults).fed = exC ∧ (ghostRunR Ghost.init exOps exResults).consumed = 12 ∧
    (ghostRunR Ghost.init exOps exResults).log.length = 1 := by decide +kernel

/-- the bookkeeping before the `Reset`: 46 bytes fed (31 written, 15 read), all consumed, five blocks, and they decode to
    those bytes -/
theorem exGhost9 :
    (ghostRunR Ghost.init (exOps.take 9) (exResults.take 9)).fed = exA ++ exB ∧
    (ghostRunR Ghost.init (exOps.take 9) (exResults.take 9)).consumed = 46 ∧
    (ghostRunR Ghost.init (exOps.take 9) (exResults.take 9)).log.length = 5 ∧
    decode [] (ghostRunR Ghost.init (exOps.take 9) (exResults.take 9)).log = some (exA ++ exB) := by decide +kernel

theorem exFuel : 2 * exS0.ParserBuffer.BufConfig.BufferSize.toNat + 5 ≤ 200 := by decide +kernel

/-- `gen_gsap_history`, `C01_go_text_gsap`, `C12_go_text_gsap`, `C12_literal_go_text_gsap` (its hypothesis
    `BufferSize ≤ WindowSize` does NOT hold for `exCfg`: 64 > 16; see `exCfgW`) for this history -/
example := gen_gsap_history exCfg exS0 exInit specsK 0 exGrow 200 exFuel exOps exWF
example := gen_gsap_history_states exCfg exS0 exInit specsK 0 exGrow 200 exFuel exOps exWF 7
example := C01_go_text_gsap exCfg exS0 exInit specsK 0 exGrow 200 exFuel exOps exWF
example := C02_go_text_gsap exCfg exS0 exInit specsK 0 exGrow 200 exFuel exOps exWF
example := C03_go_text_gsap exCfg exS0 exInit specsK 0 exGrow 200 exFuel exOps exWF
example := C12_go_text_gsap exCfg exS0 exInit specsK 0 exGrow 200 exFuel (exOps.take 1)
  (fun o ho => exWF o (List.mem_of_mem_take ho)) default 0 (by decide)

/-- a configuration with `BufferSize ≤ WindowSize`, for the literal clause of C12 -/
def exCfgW : Gen.GSAPConfig := { ShrinkSize := 8, BufferSize := 64, WindowSize := 64, BlockSize := 12, MinMatchLen := 2 }

def exS0W : Gen.gsap :=
  match gsap_init default exCfgW with
  | .ok (s, _) => s
  | _ => default

theorem exInitW : gsap_init default exCfgW = Res.ok (exS0W, Gen.Err.ok) := by decide +kernel

example := C12_literal_go_text_gsap exCfgW exS0W exInitW specsK (by decide +kernel) 0 exGrow 200 (by decide +kernel)
  (exOps.take 1) (fun o ho => exWF o (List.mem_of_mem_take ho)) default 0 (by decide)

end LZ.GenGSAPHist

#print axioms LZ.GenGSAPHist.srtK_eq
#print axioms LZ.GenGSAPHist.specsK
#print axioms LZ.GenGSAPHist.exInit
#print axioms LZ.GenGSAPHist.exRun
#print axioms LZ.GenGSAPHist.exGhost
#print axioms LZ.GenGSAPHist.exGhost9
