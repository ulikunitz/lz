/-
  The generated `SetDefaults` / `Verify` of all seven kinds at once, on the union record `Cfg` (needs every
  GenPropsCfg<K>).
-/
import LzProofs.GenPropsCfgHP
import LzProofs.GenPropsCfgBHP
import LzProofs.GenPropsCfgDHP
import LzProofs.GenPropsCfgBDHP
import LzProofs.GenPropsCfgBUP
import LzProofs.GenPropsCfgGSAP
import LzProofs.GenPropsCfgOSAP

namespace LZ.GenProps
open LZ

/-- run the generated `SetDefaults` of kind `k` on the union record -/
def genSetDefaults : Kind → Cfg → Cfg
  | .HP, c => ofHP (Gen.HPConfig_SetDefaults (toHP c))
  | .BHP, c => ofBHP (Gen.BHPConfig_SetDefaults (toBHP c))
  | .DHP, c => ofDHP (Gen.DHPConfig_SetDefaults (toDHP c))
  | .BDHP, c => ofBDHP (Gen.BDHPConfig_SetDefaults (toBDHP c))
  | .BUP, c => ofBUP (Gen.BUPConfig_SetDefaults (toBUP c))
  | .GSAP, c => ofGSAP (Gen.GSAPConfig_SetDefaults (toGSAP c))
  | .OSAP, c => ofOSAP (Gen.OSAPConfig_SetDefaults (toOSAP c))

/-- run the generated `Verify` of kind `k` on the union record -/
def genVerify : Kind → Cfg → Gen.Err
  | .HP, c => Gen.HPConfig_Verify (toHP c)
  | .BHP, c => Gen.BHPConfig_Verify (toBHP c)
  | .DHP, c => Gen.DHPConfig_Verify (toDHP c)
  | .BDHP, c => Gen.BDHPConfig_Verify (toBDHP c)
  | .BUP, c => Gen.BUPConfig_Verify (toBUP c)
  | .GSAP, c => Gen.GSAPConfig_Verify (toGSAP c)
  | .OSAP, c => Gen.OSAPConfig_Verify (toOSAP c)

theorem gen_setDefaults (k : Kind) (c : Cfg) :
    genSetDefaults k c = setDefaults k (c.restrict k) := by
  cases k
  · exact tieHP.completed c
  · exact tieBHP.completed c
  · exact tieDHP.completed c
  · exact tieBDHP.completed c
  · exact tieBUP.completed c
  · exact tieGSAP.completed c
  · exact tieOSAP.completed c

theorem gen_verify (k : Kind) (c : Cfg) :
    genVerify k c = .ok ↔ verify k (c.restrict k) = true := by
  cases k
  · exact tieHP.verify_conc c
  · exact tieBHP.verify_conc c
  · exact tieDHP.verify_conc c
  · exact tieBDHP.verify_conc c
  · exact tieBUP.verify_conc c
  · exact tieGSAP.verify_conc c
  · exact tieOSAP.verify_conc c

end LZ.GenProps

#print axioms LZ.GenProps.CfgTie.accepted
#print axioms LZ.GenProps.CfgTie.newParser_cases
#print axioms LZ.GenProps.gen_setDefaults
#print axioms LZ.GenProps.gen_verify
