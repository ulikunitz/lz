/-
  LzProofs.ParserFacts — what `Parser.parse`, `Parser.shrink` and `Parser.readFrom` (LzModel/Parser.lean) do to
  the buffer, read off their definitions once: the buffer invariant without ghost state (`BufOK`), the one equation of
  `parse` on a buffer with unparsed data (`Parser.parse_eq_core`: a panic marker or the block of `parseCore`), its
  frame (`parse_frame`), `n = W' - W` (`parse_n`), no panic thanks to the 7-byte margin (`parse_ok`), and the buffer
  after `shrink` / `readFrom` (`shrink_buf`, `readFrom_buf`, `shrink_readFrom`), and `Reset(nil)` (`reset_nil`).
-/
import LzProofs.PBufProps
import LzProofs.ParseParser
namespace LZ
open PBuf

/-! ## the buffer invariant without ghost state -/

/-- `PInv` without the stream: parse position inside the data, at most `BufferSize` bytes,
    7-byte margin behind non-empty data -/
def BufOK (b : PBuf) : Prop :=
  b.w ≤ b.data.length ∧ b.data.length ≤ b.cfg.bufferSize ∧
  (b.data = [] ∨ b.data.length + Facts.margin ≤ b.cap)

theorem bufOK_of_pinv {b : PBuf} {fed : List Byte} (h : PInv b fed) : BufOK b :=
  ⟨h.w_le, h.len_le, h.margin⟩

theorem pinv_of_bufOK {b : PBuf} (h : BufOK b) : PInv b (List.replicate b.off 0 ++ b.data) := by
  obtain ⟨h1, h2, h3⟩ := h
  constructor
  · rw [List.drop_append_of_le_length (by simp)]
    simp
  · simp
  · exact h1
  · exact h2
  · exact h3

theorem bufOK_iff (b : PBuf) : BufOK b ↔ ∃ fed, PInv b fed :=
  ⟨fun h => ⟨_, pinv_of_bufOK h⟩, fun ⟨_, h⟩ => bufOK_of_pinv h⟩

/-! ## facts about `Parser.parse`, `Parser.shrink`, `Parser.readFrom` proved by unfolding -/

namespace Parser

theorem blockN_zero_of_w (s : Parser) (h : s.buf.data.length ≤ s.buf.w) : s.blockN = 0 := by
  unfold Parser.blockN; omega

/-- What `Parse` computes behind its two guards (something to parse, margin present): the new
    dictionary, the new `W` and the block, kind by kind as in `Parser.parse`.  It reads `Data`, `W`,
    the configuration and the dictionary, but not the capacity. -/
def parseCore (s : Parser) (flags : Nat) : Dict × Nat × Block :=
  let n := s.blockN
  let w := s.buf.w
  let data := s.buf.data
  let p := data.take (w + n)
  let ws := s.buf.cfg.windowSize
  let mm := s.minMatch
  match s.dict with
  | .single h =>
    let h := processSegment1 h data ((w : Int) - h.inputLen + 1) w
    let inputEnd := p.length + 1 - h.inputLen
    let (h', w', blk, _) := runGreedy ⟨hpProbe ws mm inputEnd (s.kind == .BHP)⟩ h p w inputEnd flags
    (.single h', w', blk)
  | .double d =>
    let (h1, h2) := processSegment2 d.h1 d.h2 data ((w : Int) - d.h2.inputLen + 1) w
    let e1 := p.length + 1 - h1.inputLen
    let e2 := p.length + 1 - h2.inputLen
    let (d', w', blk, _) := runGreedy ⟨dhpProbe ws mm e1 e2 (s.kind == .BDHP)⟩ ⟨h1, h2⟩ p w e1 flags
    (.double d', w', blk)
  | .bucket bk =>
    let bk := processSegmentB bk data ((w : Int) - bk.inputLen + 1) w
    let inputEnd := p.length + 1 - bk.inputLen
    let (bk', w', blk, _) := runGreedy ⟨bupProbe ws mm inputEnd⟩ bk p w inputEnd flags
    (.bucket bk', w', blk)
  | .gsap g =>
    let g := if w + n > g.sa.size then gsapSort data w else g
    let (g', w', blk, li) := runGreedy ⟨gsapProbe ws mm⟩ g p w p.length flags
    let g' := if flags % 2 = 1 ∧ blk.seqs ≠ [] ∧ li < p.length then { g' with sa := #[] } else g'
    (.gsap g', w', blk)
  | .osap o =>
    let o := if w + n > o.start + o.edges.size then
        computeEdges data w ws mm s.cfg.maxMatchLen.toNat
      else o
    if o.nEdges = 0 then (.osap o, w + n, ⟨[], (data.drop w).take n⟩)
    else
      let path := shortestPath mm n o.edges (w - o.start)
      let (seqs, lits, _, li) := pathToSeqs p path w w [] []
      let (w', blk) :=
        if flags % 2 = 1 ∧ seqs ≠ [] then (li, (⟨seqs, lits⟩ : Block))
        else (p.length, ⟨seqs, lits ++ p.drop li⟩)
      (.osap o, w', blk)

/-- `Parse` with something to parse: it panics only if the margin is missing; otherwise it returns
    `nil`, stores the dictionary and `W` of `parseCore`, and the count is the distance `W` moved. -/
theorem parse_eq_core (s : Parser) (flags : Nat) (hn : s.blockN ≠ 0) :
    (s.parse flags = (s, 0, .panic, ⟨[], []⟩) ∧ s.buf.cap < s.buf.data.length + Facts.margin) ∨
    s.parse flags =
      ({ s with buf := { s.buf with w := (s.parseCore flags).2.1 }, dict := (s.parseCore flags).1 },
       (s.parseCore flags).2.1 - s.buf.w, .ok, (s.parseCore flags).2.2) := by
  have hm : ∀ il : Nat, (il ≠ 0 ∧ (s.buf.cap : Int) <
      ((s.buf.data.take (s.buf.w + s.blockN)).length : Int) - il + 1 + Facts.margin) →
      s.buf.cap < s.buf.data.length + Facts.margin := by
    intro il h; simp only [List.length_take] at h; omega
  unfold Parser.parse parseCore
  simp only [hn, if_false]
  cases s.dict with
  | osap o =>
    simp only []
    -- the edge table used for this block; which of the two it is does not matter
    generalize (if s.buf.w + s.blockN > o.start + o.edges.size then computeEdges s.buf.data s.buf.w
      s.buf.cfg.windowSize s.minMatch s.cfg.maxMatchLen.toNat else o) = o'
    split
    · exact Or.inl ⟨rfl, hm _ ‹_›⟩
    · right
      split
      · simp only [Nat.add_sub_cancel_left]
      · rfl
  | _ =>
    simp only []
    split
    · exact Or.inl ⟨rfl, hm _ ‹_›⟩
    · exact Or.inr rfl

theorem parse_frame (s : Parser) (flags : Nat) :
    (s.parse flags).1.buf = { s.buf with w := (s.parse flags).1.buf.w } := by
  by_cases hn : s.blockN = 0
  · rw [parse_empty s flags hn]
  · rcases parse_eq_core s flags hn with ⟨h, -⟩ | h <;> rw [h]

/-- the count returned is the distance `W` moved (unless `Parse` panicked or had nothing to do) -/
theorem parse_n (s : Parser) (flags : Nat) (hok : (s.parse flags).2.2.1 = .ok) :
    (s.parse flags).2.1 = (s.parse flags).1.buf.w - s.buf.w := by
  by_cases hn : s.blockN = 0
  · rw [parse_empty s flags hn] at hok; cases hok
  · rcases parse_eq_core s flags hn with ⟨h, -⟩ | h
    · rw [h] at hok; cases hok
    · rw [h]

theorem data_ne_nil_of_blockN (s : Parser) (hn : s.blockN ≠ 0) : s.buf.data ≠ [] := by
  intro h0
  apply hn
  unfold Parser.blockN
  rw [h0, List.length_nil, Nat.zero_sub, Nat.zero_min]

/-- with something to parse and the 7-byte margin in place, `Parse` returns `nil` (no panic) -/
theorem parse_ok (s : Parser) (flags : Nat) (hb : BufOK s.buf) (hn : s.blockN ≠ 0) :
    (s.parse flags).2.2.1 = .ok := by
  rcases parse_eq_core s flags hn with ⟨-, h⟩ | h
  · have := hb.2.2.resolve_left (data_ne_nil_of_blockN s hn)
    omega
  · rw [h]

theorem shrink_buf (s : Parser) : s.shrink.1.buf = s.buf.shrink.1 := by
  by_cases h : s.buf.shrink.2 = 0
  · rw [shrink_zero h, PBuf.shrink_zero s.buf h]
  · rw [shrink_pos h]

theorem readFrom_buf (s : Parser) (r : Reader) :
    (s.readFrom r).1.buf = (s.buf.readFrom r).1 ∧ (s.readFrom r).2 = (s.buf.readFrom r).2 := by
  unfold Parser.readFrom
  exact ⟨rfl, rfl⟩

theorem shrink_readFrom (s : Parser) (r : Reader) :
    s.buf.shrink.1.readFrom r = ((s.shrink.1.readFrom r).1.buf, (s.shrink.1.readFrom r).2.1,
      (s.shrink.1.readFrom r).2.2.1, (s.shrink.1.readFrom r).2.2.2) := by
  obtain ⟨hb, hr⟩ := readFrom_buf s.shrink.1 r
  rw [shrink_buf] at hb hr
  rw [hb, hr]

/-- `Reset(nil)` always succeeds: the buffer is emptied, the dictionary cleared -/
theorem reset_nil (s : Parser) :
    s.reset [] 0 =
      ({ s with buf := { s.buf with data := [], w := 0, off := 0 }, dict := s.clearDict }, .ok) := by
  simp [Parser.reset, PBuf.reset]

end Parser

end LZ

#print axioms LZ.Parser.parse_frame
#print axioms LZ.Parser.parse_ok
#print axioms LZ.Parser.parse_n
