/-
  What the `Gen*HistNil` modules share (model level; no generated code is mentioned).

  `C14_same_n_greedy` is `LzProofs.SmallPropsParser.C14_parseNil_same_n` for the six greedy kinds, proved on top of
  ParseProps alone (the six greedy kinds need nothing of the suffix-array proofs behind GlueProps): `Parse(nil)` and `Parse(&blk, flags)` without `NoTrailingLiterals` return the same
  `n = min(BlockSize, unparsed)` and error and leave equal buffers.
-/
import LzProofs.ParseProps

namespace LZ.GenNil
open LZ

theorem C14_same_n_greedy (s : Parser) (flags : Nat) (hf : flags % 2 = 0) (hs : StateOK s) (hg : Greedy s) :
    s.parseNil.2.1 = (s.parse flags).2.1 ∧
    s.parseNil.2.2 = (s.parse flags).2.2.1 ∧
    s.parseNil.1.buf = (s.parse flags).1.buf ∧
    s.parseNil.2.1 = min s.buf.cfg.blockSize (s.buf.data.length - s.buf.w) := by
  have hbn : s.blockN = min s.buf.cfg.blockSize (s.buf.data.length - s.buf.w) := by
    unfold Parser.blockN; omega
  by_cases hn : s.blockN = 0
  · rw [Parser.parseNil_empty s hn, Parser.parse_empty s flags hn]
    exact ⟨rfl, rfl, rfl, by simp only; omega⟩
  · obtain ⟨s1, h1, -, -, hb1⟩ := Parser.parseNil_ok s hn
    obtain ⟨s2, n, blk, hp, hok, -⟩ :=
      Parser.parse_greedy_ok s flags hs.w_le hn hs.minMatch (Parser.marginOK_of_cap s hs.cap hn) hg
    have hl := s.blockPrefix_length hs.w_le
    have hfull := hok.block.full (Or.inl hf)
    rw [hl] at hfull
    have hnn : n = s.blockN := by omega
    subst hnn
    rw [h1, hp]
    refine ⟨rfl, rfl, ?_, hbn⟩
    show s1.buf = s2.buf
    rw [hb1, hok.buf]

theorem C14_same_n_greedy_reachable (k : Kind) (hk : k ≠ .OSAP) (raw : Cfg) (s0 : Parser)
    (h0 : newParser k raw = some s0) (ops : List POp) (flags : Nat) (hf : flags % 2 = 0) :
    let s := (runOps (s0, Ghost.init) ops).1
    s.parseNil.2.1 = (s.parse flags).2.1 ∧
    s.parseNil.2.2 = (s.parse flags).2.2.1 ∧
    s.parseNil.1.buf = (s.parse flags).1.buf ∧
    s.parseNil.2.1 = min s.buf.cfg.blockSize (s.buf.data.length - s.buf.w) := by
  intro s
  obtain ⟨hs, hg⟩ := reachable_stateOK k raw s0 h0 hk ops
  exact C14_same_n_greedy s flags hf hs hg

end LZ.GenNil

#print axioms LZ.GenNil.C14_same_n_greedy_reachable
