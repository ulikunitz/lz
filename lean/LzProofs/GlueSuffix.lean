/-
  The named hypotheses of the OSAP/GSAP theorems (C11, C12), discharged from the suffix-array theorems (C09, C10):
  `segmentsFacts_holds` from `segmentsOf_some_all`, `segmentsOf_reports_of_bound` and the `Reports` lemmas (`groups_sound`,
  `groups_complete_unique`, `children_first`, `nodup`), `saSpec_isSuffixArray`; from it `CEHyps`, soundness and
  completeness of `computeEdges`, what holds in every reachable OSAP state (`osap_reachable`), and C11 without
  hypotheses (`C11_optimal_reachable`).  (`saok_gsapSort`, `C12_longest_unconditional`,
  `C12_literal_only_if_buffer` need no C10 fact and are in GlueLemmas.lean.)
-/
import LzProofs.SuffixProps
import LzProofs.GlueLemmas
namespace LZ.Sap

/-- The C10 facts about `Segments` in the form `computeEdges` uses them.  For every text `t`: with
    the suffix array `saSpec t`, its inverse and the LCP table computed by `_lcp`, `Segments` called
    with `0 ≤ minLen ≤ maxLen ≤ MaxInt32` does not panic, and the callbacks it issues are exactly
    the groups of suffixes sharing a prefix: sound, complete, children first, without duplicates
    (`SegHyps`, whose fields have the shape of `C10_groups_sound`, `C10_groups_complete_unique`,
    `C10_groups_children_first`, `C10_groups_nodup_all`), read off what `Segments` reports. -/
theorem segmentsFacts_holds (t : List Byte) (minLen maxLen : Nat) (hmm : minLen ≤ maxLen)
    (hmax : maxLen ≤ 2147483647) :
    ∃ cbs, segments (saSpec t).length
        (lcpKasai t (saSpec t).toArray (invertSA (saSpec t).toArray)) (minLen : Int) (maxLen : Int)
        = some cbs ∧
      SegHyps t (saSpec t) minLen maxLen cbs := by
  have h := saSpec_isSuffixArray t
  have hmin : (0 : Int) ≤ (minLen : Int) := Int.natCast_nonneg _
  have hmm' : (minLen : Int) ≤ (maxLen : Int) := Int.ofNat_le.2 hmm
  have hmax' : (maxLen : Int) ≤ 2147483647 := by omega
  have hs := segmentsOf_some_all h hmin hmm'
  have H := segmentsOf_reports_of_bound h (Or.inr hmax') hmin hmm' hs
  simp only [Int.toNat_natCast] at H
  refine ⟨_, hs, h.1, fun m lo hi hcb => ?_, fun a b hab hb hc => ?_,
    fun _ _ _ _ _ _ h1 h2 _ => H.children_first h1 h2, H.nodup⟩
  · obtain ⟨s1, s2, s3, s4, _, s5⟩ := H.groups_sound h hcb
    exact ⟨s1, s2, s3, s4, s5⟩
  · obtain ⟨⟨m, lo, hi⟩, ⟨h1, h2, h3, h4⟩, _⟩ :=
      H.groups_complete_unique h hab hb (Nat.le_min.2 ⟨hc, hmm⟩)
    exact ⟨lo, hi, h2 ▸ h1, h3, h4⟩

/-- the common prefix of the suffixes at the ranks `a < b` is the minimum of the table over `(a, b]`
    (`cmin_specAt`), hence at most the entry `lcp[b]` -/
theorem sufL_le_lcp {t : List Byte} {sa : List Nat} (h : IsSuffixArray t sa) {a b : Nat}
    (hab : a < b) (hb : b < sa.length) :
    sufL t sa a b ≤ (lcpSpec t sa).toArray.getD b 0 := by
  rw [LZ.getD_lcpSpec t sa hb, show sufL t sa a b = sufLcp t sa a b from rfl, ← cmin_specAt h a b hab hb]
  exact (cmin_spec _ a b hab).1 b hab (Nat.le_refl _)

/-- `CEHyps` whenever the `maxLen` argument `computeEdges` passes to `Segments` fits an `int32`
    (otherwise `Segments` panics — defect D18) -/
theorem ceHyps_of_maxLen (data : List Byte) (w ws mm maxM : Nat)
    (hmax : ceMaxLen data w ws maxM ≤ 2147483647) : CEHyps data w ws mm maxM := by
  have h := LZ.isSuffixArray_saSpec (ceT data w ws)
  apply CEHyps_of data w ws mm maxM h.1
  · intro a b hab hb
    unfold ceLcp
    rw [lcpKasai_saSpec]
    exact sufL_le_lcp h hab hb
  · intro hmm
    obtain ⟨cbs, h1, h2⟩ := segmentsFacts_holds (ceT data w ws) mm (ceMaxLen data w ws maxM) hmm hmax
    refine ⟨cbs, ?_, h2⟩
    unfold ceSegs
    rw [segments32_eq]
    · exact h1
    · omega

/-- `CEHyps` holds — the named hypothesis of `computeEdges_sound/_complete` and `C11_optimal*` —
    for every buffer of at most `MaxInt32` bytes (any window head, window size, `MinMatchLen`,
    `MaxMatchLen`), and for every buffer at all when `MaxMatchLen ≤ MaxInt32`. -/
theorem ceHyps_of_bound (data : List Byte) (w ws mm maxM : Nat)
    (hb : data.length ≤ 2147483647 ∨ maxM ≤ 2147483647) : CEHyps data w ws mm maxM := by
  apply ceHyps_of_maxLen
  rcases hb with hb | hb
  · exact Nat.le_trans (ceMaxLen_le_length _ _ _ _) hb
  · exact Nat.le_trans (ceMaxLen_le_maxM _ _ _ _) hb

/-- when the `maxLen` argument does not fit an `int32`, `Segments` refuses and the edge table
    stays empty -/
theorem ceSegs_none_of_big (data : List Byte) (w ws mm maxM : Nat)
    (hbig : ¬ ceMaxLen data w ws maxM ≤ 2147483647) : ceSegs data w ws mm maxM = none := by
  unfold ceSegs
  apply segments32_none
  omega

/-- `CEHyps` holds for every buffer of at most `MaxInt32` bytes: any window head `w`, window
    size `ws`, `MinMatchLen`, `MaxMatchLen`.  (The bound is defect D18: `computeEdges` passes
    `min (max lcp) MaxMatchLen` to `Segments`, which refuses `maxLen > MaxInt32`.) -/
theorem ceHyps_holds (data : List Byte) (w ws mm maxM : Nat) (hlen : data.length ≤ 2147483647) :
    CEHyps data w ws mm maxM :=
  ceHyps_of_bound data w ws mm maxM (Or.inl hlen)

/-- … and for every buffer whatsoever when `MaxMatchLen ≤ MaxInt32` -/
theorem ceHyps_holds_maxMatch (data : List Byte) (w ws mm maxM : Nat) (hmax : maxM ≤ 2147483647) :
    CEHyps data w ws mm maxM :=
  ceHyps_of_bound data w ws mm maxM (Or.inr hmax)

/-- C11 (ii), soundness of `computeEdges`, unconditionally: every edge stored for a block
    position is a genuine match of the buffered bytes, inside the window, for every length it is
    used with (all buffers, no size bound: where `Segments` would refuse, nothing is stored). -/
theorem computeEdges_sound_holds (data : List Byte) (w ws mm maxM : Nat) {w' n : Nat}
    (hw' : w ≤ w') (hn : w' + n ≤ data.length) :
    EdgesSound (data.take (w' + n)) w' ws maxM n (computeEdges data w ws mm maxM).edges (w' - w) := by
  by_cases hmax : ceMaxLen data w ws maxM ≤ 2147483647
  · exact computeEdges_sound (ceHyps_of_maxLen data w ws mm maxM hmax) hw' hn
  · rw [computeEdges_none _ _ _ _ _ (Or.inr (ceSegs_none_of_big data w ws mm maxM hmax))]
    intro i mx o _ hmem
    rw [replicate_getD_nil] at hmem
    simp at hmem

/-- C11 (ii), completeness of `computeEdges` for buffers of at most `MaxInt32` bytes (or
    `MaxMatchLen ≤ MaxInt32`): every genuine match at a block position is dominated by a stored
    edge (at least as long, offset no larger). -/
theorem computeEdges_complete_holds (data : List Byte) (w ws mm maxM : Nat)
    (hb : data.length ≤ 2147483647 ∨ maxM ≤ 2147483647) {w' n : Nat}
    (hw' : w ≤ w') (hn : w' + n ≤ data.length) :
    EdgesComplete (data.take (w' + n)) w' ws mm maxM n
      (computeEdges data w ws mm maxM).edges (w' - w) :=
  computeEdges_complete (ceHyps_of_bound data w ws mm maxM hb) hw' hn

theorem ceAt_of_len (s : Parser)
    (h : s.buf.data.length ≤ s.buf.cfg.bufferSize) (hb : Int32OK s) :
    CEAt s := by
  apply ceHyps_of_bound
  rcases hb with hb | hb
  · left; exact Nat.le_trans h hb
  · right; exact hb

/-- every reachable state of an accepted OSAP configuration: the edge-table invariant, the
    suffix-array facts `CEAt`, and `RInv` (kind and configuration of the start, the buffer bound) -/
theorem osap_reachable {raw : Cfg} {s0 : Parser}
    (h0 : newParser .OSAP raw = some s0) {s : Parser} (hr : Reachable s0 s) :
    ∃ o, s.dict = .osap o ∧ OsapHist s o ∧ CEAt s ∧ RInv .OSAP s0.cfg s := by
  obtain ⟨h00, hd0, -⟩ := newParser_rinv .OSAP raw s0 h0
  have hb := int32OK_of_newParser raw s0 h0
  have hce : ∀ {s}, RInv .OSAP s0.cfg s → CEAt s := fun hR =>
    ceAt_of_len _ hR.buf.1 (by unfold Int32OK; rw [hR.bcfg, hR.cfg, ← h00.bcfg]; exact hb)
  obtain ⟨hR, o, hd, h⟩ := hr.induct
    (I := fun s => RInv .OSAP s0.cfg s ∧ ∃ o, s.dict = .osap o ∧ OsapHist s o)
    ⟨h00, _, hd0, OsapHist.empty s0⟩ fun s op _ ⟨hR, o, hd, h⟩ =>
      ⟨hR.of_step (Parser.stepOut_step s op), OsapHist.step (Parser.stepOut_step s op) hd h (hce hR)⟩
  exact ⟨o, hd, h, hce hR, hR⟩

/-- C11 in every reachable state: the next block an OSAP parser
    emits with flags 0 is an LZ77 parse of its bytes of minimum cost.  The statements over histories
    (`Sap.runOps` below, `LZ.runOps` in GlueProps.lean) are this one at
    `reachable_sapRunOps`, `reachable_runOps`. -/
theorem C11_optimal_reachable {raw : Cfg} {s0 : Parser}
    (h0 : newParser .OSAP raw = some s0) {s : Parser} (hr : Reachable s0 s)
    (flags : Nat) (hf : flags % 2 = 0) (hn : s.blockN ≠ 0) :
    ∃ o, s.dict = .osap o ∧
      LzParse (s.buf.data.take (s.buf.w + s.blockN)) s.buf.w s.buf.cfg.windowSize
        s.minMatch s.cfg.maxMatchLen.toNat s.blockN (osapPath s o) ∧
      ∀ π, LzParse (s.buf.data.take (s.buf.w + s.blockN)) s.buf.w s.buf.cfg.windowSize
          s.minMatch s.cfg.maxMatchLen.toNat s.blockN π →
        blockCost (s.parse flags).2.2.2 ≤ pathCost π := by
  obtain ⟨o, hd, h, hce, -⟩ := osap_reachable h0 hr
  exact ⟨o, hd, C11_optimal_hist s o hd flags hn hf h hce⟩

/-- C11, unconditional.  Start from a new OSAP parser whose configuration has
    `BufferSize ≤ MaxInt32` or `MaxMatchLen ≤ MaxInt32` (`Int32OK`, the D18 bound), apply any
    sequence of `Write`, `ReadFrom`, `Parse(&blk, flags)`, `Parse(nil)`, `Shrink`, `Reset`; the
    next block emitted with flags 0 is an LZ77 parse of its bytes (lengths in
    `[MinMatchLen, MaxMatchLen]`, offsets `≤ WindowSize`, sources in the buffer) of minimum
    `XZCost`. -/
theorem C11_optimal_unconditional (raw : Cfg) (s0 : Parser)
    (h0 : newParser .OSAP raw = some s0) (hb : Int32OK s0)
    (ops : List POp) (flags : Nat) (hf : flags % 2 = 0)
    (hn : (runOps s0 ops).blockN ≠ 0) :
    let s := runOps s0 ops
    ∃ o, s.dict = .osap o ∧
      LzParse (s.buf.data.take (s.buf.w + s.blockN)) s.buf.w s.buf.cfg.windowSize
        s.minMatch s.cfg.maxMatchLen.toNat s.blockN (osapPath s o) ∧
      ∀ π, LzParse (s.buf.data.take (s.buf.w + s.blockN)) s.buf.w s.buf.cfg.windowSize
          s.minMatch s.cfg.maxMatchLen.toNat s.blockN π →
        blockCost (s.parse flags).2.2.2 ≤ pathCost π :=
  C11_optimal_reachable h0 (reachable_sapRunOps s0 ops) flags hf hn

/-! ## non-vacuity -/

/-- `CEHyps` for the buffer `"abab"` with the window head at 2 (the instance `ex_ceHyps` of
    SapProps.lean, from the general theorem) -/
example : CEHyps exData 2 8 2 4 := ceHyps_holds _ _ _ _ _ (by decide)

/-- the hypotheses of `C11_optimal_unconditional` are met by a concrete accepted configuration and
    history (`Write("ababab")`, `Parse(nil)`, `Shrink`, `Write("abab")`) -/
example := C11_optimal_unconditional glueOsapCfg glueOsap0 glueOsap0_new glueOsap0_int32 glueOps 0 rfl
  glueOps_blockN

example : CEAt (runOps glueOsap0 glueOps) :=
  let ⟨_, _, _, hce, _⟩ := osap_reachable glueOsap0_new (reachable_sapRunOps glueOsap0 glueOps)
  hce

#print axioms segmentsFacts_holds
#print axioms saok_gsapSort
#print axioms sufL_le_lcp
#print axioms ceHyps_of_maxLen
#print axioms ceHyps_of_bound
#print axioms ceHyps_holds
#print axioms ceHyps_holds_maxMatch
#print axioms computeEdges_sound_holds
#print axioms computeEdges_complete_holds
#print axioms osap_reachable
#print axioms C11_optimal_reachable
#print axioms C11_optimal_unconditional
#print axioms C12_longest_unconditional
#print axioms C12_literal_only_if_buffer

end LZ.Sap
