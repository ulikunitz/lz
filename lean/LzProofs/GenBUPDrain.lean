/-
  LzProofs.GenBUPDrain — C14 "repeated `Parse(nil)` drains the buffer" about the Go text of BUP: `C14_drains`
  (LzProofs/ParseProps.lean) transported along `stepN_sim` of LzProofs/GenBUPHistNil.lean by `GenDrain.drain_go`;
  `nilOps`, `drainRes`, `nSum` are the polymorphic ones of LzProofs/GenDrainShared.lean at the `GOpN` / `GResN` of BUP.
  `lcp` and `bucketHash.shiftOffsets` stay the opaque parameters of the translation of bup.go under `LcpSpec` /
  `ShiftSpec` (the drain calls never call them; the history before them may).
-/
import LzProofs.GenBUPHistNil
import LzProofs.GenDrainShared

set_option linter.unusedSimpArgs false
set_option linter.unusedVariables false

namespace LZ.GenBUPHist
open LZ LZ.Gen LZ.GenBuf LZ.GenHash LZ.GenHPParse LZ.GenBUPParse LZ.GenProps LZ.GenNil
open LZ.GenHPHist (rfGo rfGo_spec)

/-- the calls `Parse(nil, flags)`, one per entry (ghost value, flags) -/
def nilOps (fl : List (Gen.Block' × Int)) : List GOpN := GenDrain.nilOps GOpN.parseNil fl

/-- the results of draining: call number `k` (counted from the state with `u` unparsed bytes) returns the ghost,
    `n = min(bs, u − k·bs)` and `nil`, or `ErrEmptyBuffer` from call `⌈u / bs⌉` on -/
def drainRes (bs u k : Nat) (fl : List (Gen.Block' × Int)) : List GResN := GenDrain.drainRes GResN.parseNil bs u k fl

/-- the `n` of a `Parse(nil)` result (`0` for the results of the other calls) -/
def GResN.nOf : GResN → Int
  | .parseNil _ n _ => n
  | .r _ => 0

/-- the sum of the `n` returned by the `Parse(nil)` calls of a result list -/
def nSum (rs : List GResN) : Int := GenDrain.nSum GResN.nOf rs

/-- the `Parse(nil)` calls among `GOpN` -/
def nilCalls : GenDrain.NilCalls callsN where
  mkOp := GOpN.parseNil
  mkRes := GResN.parseNil
  nOf := GResN.nOf
  wf _ _ := trivial
  abs _ _ := rfl
  agree m b f r h := by
    cases r with
    | r res => exact False.elim h
    | parseNil b' n e => exact ⟨b', n, e, rfl, h⟩
  nOf_mk _ _ _ := rfl

/-- C14 (repeated `Parse(nil)` drains the buffer) about the Go text of BUP.  Run any history `ops` of the translated
    `Write`, `ReadFrom`, `Parse(&blk)`, `Parse(nil)`, `Shrink`, `Reset` from `bucketParser.init`
    (`lcp` under `LcpSpec`, `shiftOffsets` under `ShiftSpec`); let `t` be the Go state reached, `u = len(Data) − W` its
    unparsed bytes, `bs = BlockSize`, `r = ⌈u / bs⌉`.  Then ANY further sequence of translated `Parse(nil, flags_k)` calls
    (`fl`: ghost values and flags, all arbitrary) runs without panic and returns
    exactly `drainRes bs u 0 fl`: call `k < r` returns `n = min(bs, u − k·bs) > 0` and `nil`, every call `k ≥ r` returns
    `(0, ErrEmptyBuffer)` — `ErrEmptyBuffer` is reached after exactly `r` calls —, each hands its ghost block back; the
    returned `n` sum to `min(u, m·bs)` (`m` = number of calls), `W` ends at `min(len(Data), W + m·bs)` with `len(Data)`
    unchanged; once `m ≥ r` the `n` sum to the unparsed length `u` and `W = len(Data)`. -/
theorem C14_drains_go_text_bup (cfg : Gen.BUPConfig) (s0 : Gen.bucketParser)
    (hinit : bucketParser_init default cfg = Res.ok (s0, Gen.Err.ok))
    (extra : Nat) (grow : Nat → Nat → Nat) (fuel : Nat) (lcp : Slice → Slice → Int) (hlcp : LcpSpec lcp)
    (SO : SOFun) (hSO : ShiftSpec SO)
    (hfuel : s0.bucketDictionary.ParserBuffer.BufConfig.BufferSize.toNat + 3 ≤ fuel)
    (ops : List GOpN) (hwf : ∀ op ∈ ops, op.WF) (fl : List (Gen.Block' × Int)) :
    ∃ t rs, runN (rfGo extra) grow fuel lcp SO s0 ops = Res.ok (t, rs) ∧
      let bs := t.bucketDictionary.ParserBuffer.BufConfig.BlockSize.toNat
      let u := t.bucketDictionary.ParserBuffer.Data.len - t.bucketDictionary.ParserBuffer.W.toNat
      let r := (u + bs - 1) / bs
      ∃ t', runN (rfGo extra) grow fuel lcp SO t (nilOps fl) = Res.ok (t', drainRes bs u 0 fl) ∧
        nSum (drainRes bs u 0 fl) = ((Min.min u (fl.length * bs) : Nat) : Int) ∧
        t'.bucketDictionary.ParserBuffer.Data.len = t.bucketDictionary.ParserBuffer.Data.len ∧
        t'.bucketDictionary.ParserBuffer.W =
          ((Min.min t.bucketDictionary.ParserBuffer.Data.len
            (t.bucketDictionary.ParserBuffer.W.toNat + fl.length * bs) : Nat) : Int) ∧
        (r ≤ fl.length → nSum (drainRes bs u 0 fl) = (u : Int) ∧
          t'.bucketDictionary.ParserBuffer.W = (t.bucketDictionary.ParserBuffer.Data.len : Int)) := by
  obtain ⟨p, t, rs, hp, h0, h1, hH, hbc, hf, -, -, -⟩ :=
    gen_bup_history_nil cfg s0 hinit extra grow fuel lcp hlcp SO hSO hfuel ops hwf
  refine ⟨t, rs, h1, ?_⟩
  have hbs : 1 ≤ t.bucketDictionary.ParserBuffer.BufConfig.BlockSize.toNat := by
    have := (newParser_inv .BUP (ofBUP cfg) p hp).2.2
    rw [← hH.cfg] at this; exact this
  rw [runN_eq]
  exact GenDrain.drain_go (bufHost hbc) nilCalls
    (stepN_sim hbc (rfGo extra) (rfGo_spec extra) grow fuel lcp hlcp SO hSO hf) t (_, Ghost.init) ⟨⟨hH, rfl⟩, trivial⟩ hbs fl

end LZ.GenBUPHist

#print axioms LZ.GenBUPHist.C14_drains_go_text_bup
