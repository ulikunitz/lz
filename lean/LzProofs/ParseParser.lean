/-
  LzProofs.ParseParser — `Parser.parse` and `Parser.parseNil` (C01, C02, C03, C14, C19 at the
  level of one call on an arbitrary parser state).  Every operation has its equations here: `parse_empty` and
  `parse_single` / `_double` / `_bucket` / `_gsap` (OSAP: LzProofs/ParseOsap.lean), `parseNil_empty` / `parseNil_pos`,
  `shrink_zero` / `shrink_pos`, `reset_ok` / `reset_err`, `write_def`, `readFrom_def`; the dictionaries the last
  three leave behind are `skipDict`, `shiftDict` and `clearDict`.
-/
import LzProofs.ParseLoop
import LzProofs.ParseProbeBup
namespace LZ
namespace Parser

/-- the buffer up to the end of the next block -/
def blockPrefix (s : Parser) : List Byte := s.buf.data.take (s.buf.w + s.blockN)

/-- `InputLen` of the dictionary (0 for the suffix-array parsers) -/
def dictInputLen (s : Parser) : Nat :=
  match s.dict with
  | .single h => h.inputLen | .double d => d.h1.inputLen | .bucket bk => bk.inputLen
  | _ => 0

/-- the slice `Data[:inputEnd+7]` of the hash parsers is within the capacity
    (negation of the panic guard of the model) -/
def MarginOK (s : Parser) : Prop :=
  ¬ (s.dictInputLen ≠ 0 ∧
      (s.buf.cap : Int) < (s.blockPrefix.length : Int) - s.dictInputLen + 1 + Facts.margin)

theorem write_def (s : Parser) (p : List Byte) :
    s.write p = ({ s with buf := (s.buf.write p).1 }, (s.buf.write p).2.1, (s.buf.write p).2.2) := by
  unfold Parser.write
  generalize s.buf.write p = x
  obtain ⟨b, n, e⟩ := x
  rfl

theorem readFrom_def (s : Parser) (r : Reader) :
    s.readFrom r = ({ s with buf := (s.buf.readFrom r).1 }, (s.buf.readFrom r).2.1, (s.buf.readFrom r).2.2.1,
      (s.buf.readFrom r).2.2.2) := by
  unfold Parser.readFrom
  generalize s.buf.readFrom r = x
  obtain ⟨b, r', n, e⟩ := x
  rfl

theorem parse_empty (s : Parser) (flags : Nat) (h : s.blockN = 0) :
    s.parse flags = (s, 0, .empty, ⟨[], []⟩) := by
  unfold parse; simp [h]

theorem parse_single (s : Parser) (flags : Nat) (h : HashT) (hd : s.dict = .single h)
    (hn : s.blockN ≠ 0) (hm : s.MarginOK) :
    s.parse flags =
      (let w := s.buf.w
       let p := s.blockPrefix
       let h1 := processSegment1 h s.buf.data ((w : Int) - h.inputLen + 1) w
       let inputEnd := p.length + 1 - h1.inputLen
       let r := runGreedy ⟨hpProbe s.buf.cfg.windowSize s.minMatch inputEnd (s.kind == .BHP)⟩ h1 p w inputEnd flags
       ({ s with buf := { s.buf with w := r.2.1 }, dict := .single r.1 }, r.2.1 - w, .ok, r.2.2.1)) := by
  unfold MarginOK dictInputLen blockPrefix at hm
  unfold parse
  simp only [hn, if_false, hd] at hm ⊢
  simp only [hm, if_false]
  rfl

theorem parse_double (s : Parser) (flags : Nat) (d : Hash2) (hd : s.dict = .double d)
    (hn : s.blockN ≠ 0) (hm : s.MarginOK) :
    s.parse flags =
      (let w := s.buf.w
       let p := s.blockPrefix
       let hh := processSegment2 d.h1 d.h2 s.buf.data ((w : Int) - d.h2.inputLen + 1) w
       let e1 := p.length + 1 - hh.1.inputLen
       let e2 := p.length + 1 - hh.2.inputLen
       let r := runGreedy ⟨dhpProbe s.buf.cfg.windowSize s.minMatch e1 e2 (s.kind == .BDHP)⟩
         ⟨hh.1, hh.2⟩ p w e1 flags
       ({ s with buf := { s.buf with w := r.2.1 }, dict := .double r.1 }, r.2.1 - w, .ok, r.2.2.1)) := by
  unfold MarginOK dictInputLen blockPrefix at hm
  unfold parse
  simp only [hn, if_false, hd] at hm ⊢
  simp only [hm, if_false]
  rfl

theorem parse_bucket (s : Parser) (flags : Nat) (bk : BucketT) (hd : s.dict = .bucket bk)
    (hn : s.blockN ≠ 0) (hm : s.MarginOK) :
    s.parse flags =
      (let w := s.buf.w
       let p := s.blockPrefix
       let b1 := processSegmentB bk s.buf.data ((w : Int) - bk.inputLen + 1) w
       let inputEnd := p.length + 1 - b1.inputLen
       let r := runGreedy ⟨bupProbe s.buf.cfg.windowSize s.minMatch inputEnd⟩ b1 p w inputEnd flags
       ({ s with buf := { s.buf with w := r.2.1 }, dict := .bucket r.1 }, r.2.1 - w, .ok, r.2.2.1)) := by
  unfold MarginOK dictInputLen blockPrefix at hm
  unfold parse
  simp only [hn, if_false, hd] at hm ⊢
  simp only [hm, if_false]
  rfl

theorem parse_gsap (s : Parser) (flags : Nat) (g : GsapD) (hd : s.dict = .gsap g)
    (hn : s.blockN ≠ 0) :
    s.parse flags =
      (let w := s.buf.w
       let p := s.blockPrefix
       let g1 := if w + s.blockN > g.sa.size then gsapSort s.buf.data w else g
       let r := runGreedy ⟨gsapProbe s.buf.cfg.windowSize s.minMatch⟩ g1 p w p.length flags
       let g' := if flags % 2 = 1 ∧ r.2.2.1.seqs ≠ [] ∧ r.2.2.2 < p.length then { r.1 with sa := #[] } else r.1
       ({ s with buf := { s.buf with w := r.2.1 }, dict := .gsap g' }, r.2.1 - w, .ok, r.2.2.1)) := by
  unfold parse
  simp only [hn, if_false, hd, ne_eq, not_true_eq_false, false_and]
  rfl

/-- Result of a successful `Parse(&blk, flags)` on the state `s`: new state `s'`, `n`, block. -/
structure ParseOK (s : Parser) (flags : Nat) (Q : Nat → Seq → Prop) (s' : Parser) (n : Nat)
    (blk : Block) : Prop where
  kind : s'.kind = s.kind
  cfg : s'.cfg = s.cfg
  /-- only `W` moves, by exactly `n` -/
  buf : s'.buf = { s.buf with w := s.buf.w + n }
  n_pos : 1 ≤ n
  /-- `n ≤ min (unparsed) BlockSize` -/
  n_le : n ≤ s.blockN
  block : BlockOK s.blockPrefix s.buf.w flags Q (s.buf.w + n) blk

theorem blockN_le (s : Parser) : s.blockN ≤ s.buf.data.length - s.buf.w ∧ s.blockN ≤ s.buf.cfg.blockSize := by
  unfold blockN; omega

theorem blockPrefix_length (s : Parser) (hw : s.buf.w ≤ s.buf.data.length) :
    s.blockPrefix.length = s.buf.w + s.blockN := by
  have := s.blockN_le
  unfold blockPrefix; simp; omega

theorem ParseOK.of_block (s : Parser) (flags : Nat) (Q : Nat → Seq → Prop) (s' : Parser) (w' : Nat)
    (blk : Block) (hw : s.buf.w ≤ s.buf.data.length) (hn : s.blockN ≠ 0)
    (hb : BlockOK s.blockPrefix s.buf.w flags Q w' blk)
    (hk : s'.kind = s.kind) (hc : s'.cfg = s.cfg) (hbuf : s'.buf = { s.buf with w := w' }) :
    ParseOK s flags Q s' (w' - s.buf.w) blk := by
  have hl := s.blockPrefix_length hw
  have h2 := hb.le_len
  have h3 := hb.prog (by omega)
  have e : s.buf.w + (w' - s.buf.w) = w' := by omega
  exact ⟨hk, hc, by rw [hbuf, e], by omega, by omega, by rw [e]; exact hb⟩

/-- does this parser state extend matches backwards (BHP, BDHP)? -/
def backward (s : Parser) : Bool :=
  match s.dict with
  | .single _ => s.kind == .BHP
  | .double _ => s.kind == .BDHP
  | _ => false

/-- the per-sequence guarantee of `Parse` for the state `s` (positions are buffer positions) -/
def seqGood (s : Parser) : Nat → Seq → Prop :=
  SeqGood s.blockPrefix s.buf.cfg.windowSize s.minMatch s.backward

theorem ParseOK.of_runGreedy {δ} (s : Parser) (flags : Nat) (F : Finder δ) (d : δ) (stop : Nat)
    (s' : Parser) (hw : s.buf.w ≤ s.buf.data.length) (hn : s.blockN ≠ 0) (hmm : 1 ≤ s.minMatch)
    (hv : Verifying F s.blockPrefix s.buf.cfg.windowSize s.minMatch s.backward)
    (hk : s'.kind = s.kind) (hc : s'.cfg = s.cfg)
    (hbuf : s'.buf = { s.buf with w := (runGreedy F d s.blockPrefix s.buf.w stop flags).2.1 }) :
    ParseOK s flags s.seqGood s' ((runGreedy F d s.blockPrefix s.buf.w stop flags).2.1 - s.buf.w)
      (runGreedy F d s.blockPrefix s.buf.w stop flags).2.2.1 :=
  ParseOK.of_block s flags _ s' _ _ hw hn
    (runGreedy_ok F d _ _ _ _ stop flags _ (hv.probeOK hmm) (hv.probeSeq hmm)
      (by rw [s.blockPrefix_length hw]; exact Nat.le_add_right _ _))
    hk hc hbuf

/-- Parse on an arbitrary state of a greedy parser (HP, BHP, DHP, BDHP, BUP, GSAP):
    the search structure `s.dict` is completely arbitrary. -/
theorem parse_greedy_ok (s : Parser) (flags : Nat)
    (hw : s.buf.w ≤ s.buf.data.length) (hn : s.blockN ≠ 0) (hmm : 1 ≤ s.minMatch)
    (hm : s.MarginOK) (hnot : ∀ o, s.dict ≠ .osap o) :
    ∃ s' n blk, s.parse flags = (s', n, .ok, blk) ∧ ParseOK s flags s.seqGood s' n blk ∧
      (∀ o, s'.dict ≠ .osap o) := by
  cases hd : s.dict with
  | single h =>
    rw [parse_single s flags h hd hn hm]
    refine ⟨_, _, _, rfl, ParseOK.of_runGreedy s flags _ _ _ _ hw hn hmm ?_ rfl rfl rfl,
      fun o h => by simp at h⟩
    unfold backward; rw [hd]; exact hpProbe_verifying _ _ _ _ _
  | double d =>
    rw [parse_double s flags d hd hn hm]
    refine ⟨_, _, _, rfl, ParseOK.of_runGreedy s flags _ _ _ _ hw hn hmm ?_ rfl rfl rfl,
      fun o h => by simp at h⟩
    unfold backward; rw [hd]; exact dhpProbe_verifying _ _ _ _ _ _
  | bucket bk =>
    rw [parse_bucket s flags bk hd hn hm]
    refine ⟨_, _, _, rfl, ParseOK.of_runGreedy s flags _ _ _ _ hw hn hmm ?_ rfl rfl rfl,
      fun o h => by simp at h⟩
    unfold backward; rw [hd]; exact bupProbe_verifying _ _ _ hmm _
  | gsap g =>
    rw [parse_gsap s flags g hd hn]
    refine ⟨_, _, _, rfl, ParseOK.of_runGreedy s flags _ _ _ _ hw hn hmm ?_ rfl rfl rfl,
      fun o h => by simp at h⟩
    unfold backward; rw [hd]; exact gsapProbe_verifying _ _ hmm _
  | osap o => exact absurd hd (hnot o)

/-! ### consequences stated on the buffer contents -/

theorem blockPrefix_take (s : Parser) (x : Nat) (hx : x ≤ s.buf.w + s.blockN) :
    s.blockPrefix.take x = s.buf.data.take x := by
  unfold blockPrefix; rw [List.take_take]; congr 1; omega

/-- C01 for one call: the block expands, on top of the bytes before `W`, to the bytes up to
    the new `W` -/
theorem ParseOK.roundtrip {s : Parser} {flags : Nat} {Q : Nat → Seq → Prop} {s' : Parser} {n : Nat}
    {blk : Block} (h : ParseOK s flags Q s' n blk) :
    expand (s.buf.data.take s.buf.w) blk = some (s.buf.data.take (s.buf.w + n)) := by
  have := h.block.roundtrip
  have hn := h.n_le
  rwa [blockPrefix_take s _ (by omega), blockPrefix_take s _ (by omega)] at this

theorem ParseOK.w_le {s : Parser} {flags : Nat} {Q : Nat → Seq → Prop} {s' : Parser} {n : Nat}
    {blk : Block} (h : ParseOK s flags Q s' n blk) (hw : s.buf.w ≤ s.buf.data.length) :
    s.buf.w + n ≤ s.buf.data.length := by
  have := h.n_le; have := s.blockN_le; omega

/-- the fields of the sequences of a parsed block are bounded by any bound `B` on the data length and the window size
    (with `B < 2^32` they fit the `uint32` fields of the Go `Seq`); `Q` is whatever the parser guarantees of its
    sequences, as long as it includes `SeqWF` -/
theorem ParseOK.seqs_fit {s s' : Parser} {flags n : Nat} {Q : Nat → Seq → Prop} {blk : Block}
    (hok : ParseOK s flags Q s' n blk) (hw : s.buf.w ≤ s.buf.data.length)
    (hQ : ∀ pos q, Q pos q → SeqWF s.buf.cfg.windowSize s.minMatch pos q) {B : Nat} (hB : s.buf.data.length ≤ B)
    (hws : s.buf.cfg.windowSize ≤ B) :
    ∀ q ∈ blk.seqs, q.litLen ≤ B ∧ q.matchLen ≤ B ∧ q.offset ≤ B ∧ q.aux = 0 := by
  intro q hq
  have hlen := hok.block.len
  have hlits := hok.block.lits
  have hwl := hok.w_le hw
  obtain ⟨pos', hq'⟩ := seqsAll_mem _ _ hok.block.all q hq
  have hwf := hQ pos' q hq'
  have hl : q.litLen ≤ litSum blk.seqs := mem_le_sum _ _ (List.mem_map.mpr ⟨q, hq, rfl⟩)
  have hm : q.matchLen ≤ matchSum blk.seqs := mem_le_sum _ _ (List.mem_map.mpr ⟨q, hq, rfl⟩)
  have hbl : blk.len = blk.lits.length + matchSum blk.seqs := Block.len_eq blk
  have h2 := hwf.2.1
  exact ⟨by omega, by omega, by omega, hwf.2.2.2.2⟩

theorem blockN_eq_zero_iff (s : Parser) (hw : s.buf.w ≤ s.buf.data.length)
    (hbs : 1 ≤ s.buf.cfg.blockSize) : s.blockN = 0 ↔ s.buf.w = s.buf.data.length := by
  unfold blockN; omega

/-! ### `Parse(nil)`, `Shrink`, `Reset`: what they return -/

/-- the dictionary after a `Shrink` that discarded `d > 0` bytes: the hash parsers shift their
    offsets, the suffix-array parsers forget what they computed -/
def shiftDict (s : Parser) (d : Nat) : Dict :=
  match s.dict with
  | .single h => .single (h.shiftOffsets d)
  | .double t => .double { h1 := t.h1.shiftOffsets d, h2 := t.h2.shiftOffsets d }
  | .bucket bk => .bucket (bk.shiftOffsets d)
  | .gsap _ => .gsap GsapD.empty
  | .osap _ => .osap OsapD.empty

/-- the dictionary after `Parse(nil)` has skipped a non-empty segment: the hash parsers insert the
    segment, the suffix-array parsers do nothing -/
def skipDict (s : Parser) : Dict :=
  match s.dict with
  | .single h => .single (processSegment1 h s.buf.data ((s.buf.w : Int) - h.inputLen + 1)
      (s.buf.w + s.blockN : Nat))
  | .double d =>
    .double { h1 := (processSegment2 d.h1 d.h2 s.buf.data ((s.buf.w : Int) - d.h2.inputLen + 1)
                (s.buf.w + s.blockN : Nat)).1,
              h2 := (processSegment2 d.h1 d.h2 s.buf.data ((s.buf.w : Int) - d.h2.inputLen + 1)
                (s.buf.w + s.blockN : Nat)).2 }
  | .bucket bk => .bucket (processSegmentB bk s.buf.data ((s.buf.w : Int) - bk.inputLen + 1)
      (s.buf.w + s.blockN : Nat))
  | d => d

theorem reset_ok {s : Parser} {data : List Byte} {ce : Nat} (h : (s.buf.reset data ce).2 = .ok) :
    s.reset data ce = ({ s with buf := (s.buf.reset data ce).1, dict := s.clearDict }, .ok) := by
  unfold Parser.reset
  rcases hr : s.buf.reset data ce with ⟨b, e⟩
  rw [hr] at h
  simp only at h
  subst h
  rfl

theorem reset_err {s : Parser} {data : List Byte} {ce : Nat} (h : (s.buf.reset data ce).2 ≠ .ok) :
    s.reset data ce = (s, (s.buf.reset data ce).2) := by
  unfold Parser.reset
  rcases hr : s.buf.reset data ce with ⟨b, e⟩
  rw [hr] at h
  exact if_neg h

theorem shrink_zero {s : Parser} (h : s.buf.shrink.2 = 0) : s.shrink = (s, 0) := by
  unfold Parser.shrink
  rcases hr : s.buf.shrink with ⟨b, d⟩
  rw [hr] at h
  exact if_pos h

theorem shrink_pos {s : Parser} (h : s.buf.shrink.2 ≠ 0) :
    s.shrink = ({ s with buf := s.buf.shrink.1, dict := s.shiftDict s.buf.shrink.2 }, s.buf.shrink.2) := by
  unfold Parser.shrink Parser.shiftDict
  rcases hr : s.buf.shrink with ⟨b, d⟩
  rw [hr] at h
  exact if_neg h

theorem parseNil_empty (s : Parser) (h : s.blockN = 0) : s.parseNil = (s, 0, .empty) := by
  unfold parseNil; simp [h]

theorem parseNil_pos {s : Parser} (hn : s.blockN ≠ 0) :
    s.parseNil = ({ s with buf := { s.buf with w := s.buf.w + s.blockN }, dict := s.skipDict },
      s.blockN, .ok) := by
  unfold parseNil skipDict
  simp only [hn, if_false]
  cases s.dict <;> rfl

/-! ### `Parse(nil)` (C14) -/

theorem parseNil_ok (s : Parser) (h : s.blockN ≠ 0) :
    ∃ s', s.parseNil = (s', s.blockN, .ok) ∧ s'.kind = s.kind ∧ s'.cfg = s.cfg ∧
      s'.buf = { s.buf with w := s.buf.w + s.blockN } :=
  ⟨_, parseNil_pos h, rfl, rfl, rfl⟩

theorem parseNil_err (s : Parser) : s.parseNil.2.2 = .ok ∨ s.parseNil.2.2 = .empty := by
  by_cases hn : s.blockN = 0
  · rw [parseNil_empty s hn]; exact Or.inr rfl
  · rw [parseNil_pos hn]; exact Or.inl rfl

theorem parseNil_n (s : Parser) : s.parseNil.2.1 = s.blockN := by
  by_cases h0 : s.blockN = 0
  · rw [parseNil_empty _ h0, h0]
  · rw [parseNil_pos h0]

theorem parseNil_buf (s : Parser) :
    s.parseNil.1.buf = { s.buf with w := s.buf.w + s.blockN } := by
  by_cases h : s.blockN = 0
  · rw [parseNil_empty s h]; simp [h]
  · obtain ⟨s', h1, -, -, h2⟩ := parseNil_ok s h
    rw [h1]; exact h2

def nilIter : Nat → Parser → Parser
  | 0, s => s
  | k+1, s => nilIter k s.parseNil.1

theorem nilIter_succ : ∀ (k : Nat) (s : Parser), nilIter (k + 1) s = (nilIter k s).parseNil.1
  | 0, _ => rfl
  | k + 1, s => nilIter_succ k s.parseNil.1

theorem nilIter_buf (k : Nat) (s : Parser) (hw : s.buf.w ≤ s.buf.data.length) :
    (nilIter k s).buf =
      { s.buf with w := min s.buf.data.length (s.buf.w + k * s.buf.cfg.blockSize) } := by
  induction k generalizing s with
  | zero =>
    simp only [nilIter, Nat.zero_mul, Nat.add_zero]
    have : min s.buf.data.length s.buf.w = s.buf.w := by omega
    rw [this]
  | succ k ih =>
    have hb := parseNil_buf s
    have hN := s.blockN_le
    have hN' : s.blockN = min (s.buf.data.length - s.buf.w) s.buf.cfg.blockSize := rfl
    simp only [nilIter]
    rw [ih s.parseNil.1 (by rw [hb]; simp only; omega), hb]
    simp only [Nat.succ_mul]
    congr 1
    generalize k * s.buf.cfg.blockSize = x
    omega

theorem nilIter_blockN (k : Nat) (s : Parser) (hw : s.buf.w ≤ s.buf.data.length) :
    (nilIter k s).blockN =
      min (s.buf.data.length - s.buf.w - k * s.buf.cfg.blockSize) s.buf.cfg.blockSize := by
  unfold blockN
  rw [nilIter_buf k s hw]
  simp only
  omega

theorem ceilDiv_lt_iff (k u bs : Nat) (hbs : 1 ≤ bs) : k < (u + bs - 1) / bs ↔ k * bs < u := by
  rw [show (k < (u + bs - 1) / bs) = (k + 1 ≤ (u + bs - 1) / bs) from rfl,
    Nat.le_div_iff_mul_le (by omega), Nat.succ_mul]
  omega

/-! ### a packaged invariant for clients (Wrap) -/

/-- static well-formedness of a greedy parser state: nothing about the search structure -/
def GreedyWF (s : Parser) : Prop :=
  1 ≤ s.minMatch ∧ 1 ≤ s.buf.cfg.blockSize ∧ ∀ o, s.dict ≠ .osap o

/-- the capacity invariant of `ParserBuffer` implies that the margin guard never fires -/
theorem marginOK_of_cap (s : Parser)
    (h : s.buf.data = [] ∨ s.buf.data.length + Facts.margin ≤ s.buf.cap) (hn : s.blockN ≠ 0) :
    s.MarginOK := by
  have hN := s.blockN_le
  have hne : s.buf.data ≠ [] := by
    intro h0; rw [h0] at hN; simp at hN; omega
  have hcap : s.buf.data.length + Facts.margin ≤ s.buf.cap := by
    rcases h with h | h
    · exact absurd h hne
    · exact h
  intro ⟨h1, h2⟩
  have hp : s.blockPrefix.length ≤ s.buf.data.length := by
    unfold blockPrefix; simp; omega
  have : 1 ≤ s.dictInputLen := by omega
  omega

theorem parse_progress (s : Parser) (flags : Nat) (hI : s.GreedyWF)
    (hw : s.buf.w ≤ s.buf.data.length)
    (hcap : s.buf.data = [] ∨ s.buf.data.length + Facts.margin ≤ s.buf.cap)
    (hlt : s.buf.w < s.buf.data.length) :
    s.buf.w < (s.parse flags).1.buf.w ∧ (s.parse flags).1.buf.w ≤ s.buf.data.length := by
  obtain ⟨hmm, hbs, hnot⟩ := hI
  have hn : s.blockN ≠ 0 := by
    rw [ne_eq, blockN_eq_zero_iff s hw hbs]; omega
  obtain ⟨s', n, blk, hp, hok, -⟩ :=
    parse_greedy_ok s flags hw hn hmm (marginOK_of_cap s hcap hn) hnot
  rw [hp]
  have h1 := hok.n_pos
  have h2 := hok.w_le hw
  simp only [hok.buf]
  omega

theorem GreedyWF.parse {s : Parser} (flags : Nat) (hI : s.GreedyWF)
    (hw : s.buf.w ≤ s.buf.data.length)
    (hcap : s.buf.data = [] ∨ s.buf.data.length + Facts.margin ≤ s.buf.cap) :
    (s.parse flags).1.GreedyWF := by
  by_cases hn : s.blockN = 0
  · rw [parse_empty s flags hn]; exact hI
  · obtain ⟨hmm, hbs, hnot⟩ := hI
    obtain ⟨s', n, blk, hp, hok, hd⟩ :=
      parse_greedy_ok s flags hw hn hmm (marginOK_of_cap s hcap hn) hnot
    rw [hp]
    refine ⟨?_, ?_, hd⟩
    · unfold minMatch; rw [hok.kind, hok.cfg]; exact hmm
    · simp only [hok.buf]; exact hbs

end Parser
end LZ
