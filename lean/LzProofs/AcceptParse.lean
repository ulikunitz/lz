/-
  LzProofs.AcceptParse — property C07, parser side: everything a parser of this module emits is
  well-formed in the sense the decoder needs (`WFSeqs` / `WellFormedBlock` / `WellFormedEvents`,
  LzProofs/AcceptDefs.lean), and every emitted sequence is at most `BlockSize` bytes long
  (`LitLen + MatchLen ≤ n ≤ BlockSize`).

  One `Parse` is `parser_blocks_wellformed` (from `C01_C02_C03_parse`).  For a history the input is the log of
  the history invariant, `LogAll (EventOK …)` (LzProofs/ParseHist.lean): `events_of_logAll` reads the decoder's
  hypotheses off it item by item, and the decoding of the items is C01 itself (`refDecode_toD`, `C01_roundtrip`).

  (Of the decoder topic only the reference expander's lemmas are used here; the two sides meet in
  LzProofs/AcceptCompose.lean.)
-/
import LzProofs.AcceptDefs
import LzProofs.ParseProps
namespace LZ
open Parser

/-- C02 ⇒ decoder well-formedness -/
theorem wfSeqs_of_seqsAll {ws mm : Nat} : ∀ (seqs : List Seq) (pos ll : Nat),
    SeqsAll (SeqWF ws mm) pos seqs → litSum seqs ≤ ll → WFSeqs ws pos ll seqs := by
  intro seqs
  induction seqs with
  | nil => intro _ _ _ _; trivial
  | cons s ss ih =>
    intro pos ll ⟨⟨h1, h2, h3, _, _⟩, hr⟩ hl
    simp only [litSum_cons] at hl
    exact ⟨by omega, Or.inr h1, by omega, ih _ _ hr (by omega)⟩

theorem seqsFit_of_len {seqs : List Seq} {ll m : Nat} (hl : litSum seqs ≤ ll)
    (hm : ll + matchSum seqs ≤ m) : SeqsFit m seqs := by
  intro s hs
  have h1 : s.litLen ≤ litSum seqs := mem_le_sum _ _ (List.mem_map.mpr ⟨s, hs, rfl⟩)
  have h2 : s.matchLen ≤ matchSum seqs := mem_le_sum _ _ (List.mem_map.mpr ⟨s, hs, rfl⟩)
  omega

/-- C02 and C03 of one block in the decoder's words: a block of `n` bytes whose sequences are `SeqWF` from the
    end of `hist` on is well-formed over `hist`, and none of its sequences is longer than `n` -/
theorem wellFormedBlock_of_seqsAll {ws mm n : Nat} {hist : List Byte} {blk : Block}
    (hall : SeqsAll (SeqWF ws mm) hist.length blk.seqs) (hlit : litSum blk.seqs ≤ blk.lits.length)
    (hlen : blk.len = n) : WellFormedBlock ws hist blk ∧ SeqsFit n blk.seqs :=
  ⟨wfSeqs_of_seqsAll _ _ _ hall hlit, seqsFit_of_len hlit (by rw [← Block.len_eq]; omega)⟩

/-- Blocks emitted by the greedy parsers are well-formed.  One `Parse(&blk, flags)` of HP,
    BHP, DHP, BDHP, BUP, GSAP on an arbitrary state with unparsed data (hypotheses of
    `C01_C02_C03_parse`): the block is well-formed for the parser's `WindowSize` over the buffered
    history `Data[:W]`, its reference expansion is `Data[:W+n]`, and each of its sequences is at
    most `n ≤ BlockSize` bytes long. -/
theorem parser_blocks_wellformed (s : Parser) (flags : Nat) (hs : StateOK s) (hg : Greedy s)
    (hlt : s.buf.w < s.buf.data.length) :
    WellFormedBlock s.buf.cfg.windowSize (s.buf.data.take s.buf.w) (s.parse flags).2.2.2 ∧
    expand (s.buf.data.take s.buf.w) (s.parse flags).2.2.2 =
      some (s.buf.data.take (s.buf.w + (s.parse flags).2.1)) ∧
    SeqsFit (s.parse flags).2.1 (s.parse flags).2.2.2.seqs ∧
    (s.parse flags).2.1 ≤ s.buf.cfg.blockSize := by
  obtain ⟨s', n, blk, hp, _, _, _, _, _, hnb, _, hexp, hlen, hall, hlit, _⟩ :=
    C01_C02_C03_parse s flags hs hg hlt
  rw [hp]
  obtain ⟨h1, h2⟩ := wellFormedBlock_of_seqsAll (hist := s.buf.data.take s.buf.w)
    (by rw [List.length_take_of_le (by omega)]; exact hall) hlit hlen
  exact ⟨h1, hexp, h2, hnb⟩

/-- what the decoder is fed for an event of the parser's log: the block, or the skipped bytes
    verbatim -/
def Event.toD : Event → DEvent
  | .block _ _ blk => .block blk
  | .skip b => .raw b

/-- the reference decoding of what the decoder is fed is the reference decoding of the parser's log -/
theorem refDecode_toD : ∀ (es : List Event) (out : List Byte),
    refDecode out (es.map Event.toD) = decode out es := by
  intro es
  induction es with
  | nil => intro _; rfl
  | cons e es ih =>
    intro out
    cases e with
    | block n flags blk =>
      simp only [List.map_cons, Event.toD, refDecode, decode, ih]
      cases expand out blk <;> rfl
    | skip b => exact ih _

/-- a log whose events are `EventOK` from position `pos` of `fed` on is, as a list of items for the decoder,
    well-formed over `fed[:pos]`, and no sequence is longer than the bound on the blocks -/
theorem events_of_logAll (fed : List Byte) (ws mm bs : Nat) :
    ∀ (es : List Event) (pos : Nat), pos ≤ fed.length → LogAll (EventOK fed ws mm bs) pos es →
      WellFormedEvents ws (fed.take pos) (es.map Event.toD) ∧ EventsFit bs (es.map Event.toD) := by
  intro es
  induction es with
  | nil => intro pos _ _; exact ⟨trivial, trivial⟩
  | cons e es ih =>
    intro pos hpos ⟨he, hes⟩
    cases e with
    | block n flags blk =>
      obtain ⟨a1, a2, a3, a4, a5, a6, a7, _⟩ := he
      obtain ⟨i1, i2⟩ := ih (pos + n) a3 hes
      obtain ⟨b1, b2⟩ := wellFormedBlock_of_seqsAll (hist := fed.take pos)
        (by rw [List.length_take_of_le hpos]; exact a6) a7 a5
      exact ⟨⟨b1, _, a4, i1⟩, b2.mono a2, i2⟩
    | skip b =>
      obtain ⟨a1, a2, a3, a4⟩ := he
      obtain ⟨i1, i2⟩ := ih (pos + b.length) a3 hes
      refine ⟨?_, i2⟩
      show WellFormedEvents ws (fed.take pos ++ b) _
      rw [show fed.take pos ++ b = fed.take (pos + b.length) by rw [List.take_add]; congr 1]
      exact i1

/-- The same at history level.  For a parser created by `NewParser` (any accepted configuration)
    and any sequence of Write / ReadFrom / Parse / Parse(nil) / Shrink / Reset: the items emitted
    since the last Reset (blocks; skipped segments verbatim) are well-formed for the parser's
    `WindowSize` over the empty history, every sequence is at most `BlockSize` long, and their
    reference decoding is the consumed prefix of the bytes fed.  Unconditional for HP, BHP, DHP,
    BDHP, BUP, GSAP (`histHyp_of_ne`); for OSAP relative to `ComputeEdgesSound`. -/
theorem parser_log_wellformed (k : Kind) (raw : Cfg) (s0 : Parser) (h0 : newParser k raw = some s0)
    (hH : HistHyp k s0) (ops : List POp) :
    let g := (runOps (s0, Ghost.init) ops).2
    WellFormedEvents s0.buf.cfg.windowSize [] (g.log.map Event.toD) ∧
    EventsFit s0.buf.cfg.blockSize (g.log.map Event.toD) ∧
    refDecode [] (g.log.map Event.toD) = some (g.fed.take g.consumed) := by
  intro g
  have h := history_inv k raw s0 h0 hH ops
  obtain ⟨i1, i2⟩ := events_of_logAll g.fed _ _ _ g.log 0 (Nat.zero_le _) h.log
  rw [List.take_zero] at i1
  exact ⟨i1, i2, (refDecode_toD _ _).trans (C01_roundtrip k raw s0 h0 hH ops)⟩

/-! ## non-vacuity -/

/-- the hypotheses of `parser_blocks_wellformed` hold for the concrete HP state `exState` of
    ParseProps ("abcabcabcab" buffered); the emitted block `exBlock` -/
example : WellFormedBlock exState.buf.cfg.windowSize (exState.buf.data.take exState.buf.w) exBlock := by
  simp [WellFormedBlock, WFSeqs, exBlock, exState, exCfg, setDefaults, Cfg.restrict, Cfg.bufCfg]
  decide

end LZ

#print axioms LZ.wfSeqs_of_seqsAll
#print axioms LZ.parser_blocks_wellformed
#print axioms LZ.refDecode_toD
#print axioms LZ.events_of_logAll
#print axioms LZ.parser_log_wellformed
