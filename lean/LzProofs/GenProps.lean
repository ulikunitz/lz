/-
  Umbrella of the GenProps topic files (one file per topic, so that a Go function the translator refuses only takes
  down its own topic).  Every theorem is in namespace `LZ.GenProps`; shared lemmas are in GenPropsBase.
-/
import LzProofs.GenPropsInts
import LzProofs.GenPropsHash
import LzProofs.GenPropsCost
import LzProofs.GenPropsLen
import LzProofs.GenPropsCfg
import LzProofs.GenPropsDec
