/-
  The nil path of the mechanical translation of osap.go `(*optSuffixArrayParser).Parse`:
  `optSuffixArrayParser_Parse_nilable grow fuel ce s true blk flags` (LzModel/Generated/CodeOSAPParse.lean; the pointer
  parameter `blk` is modelled by a flag plus a value, tools/extract/code_nil.go) is the call `Parse(nil, flags)`.
  For OSAP the nil path only advances `W`: `computeEdges` is not called, the edge table / `start` / `nEdges` stay — so no
  panic case, no fuel bound, no `CESpec`.  Per-call level here; histories with `Parse(nil)`: LzProofs/GenOSAPHistNil.lean.
-/
import LzProofs.GenOSAPParse

set_option linter.unusedSimpArgs false
set_option linter.unusedVariables false

namespace LZ.GenOSAP
open LZ LZ.Gen LZ.GenHPParse

theorem gen_osap_parse_nonnil (grow : Nat → Nat → Nat) (fuel : Nat)
    (ce : Gen.optSuffixArrayParser → Res Gen.optSuffixArrayParser)
    (s : Gen.optSuffixArrayParser) (blk : Gen.Block') (flags : Int) :
    optSuffixArrayParser_Parse grow fuel ce s blk flags =
      optSuffixArrayParser_Parse_nilable grow fuel ce s false blk flags := rfl

theorem gen_osap_parseNil_empty (grow : Nat → Nat → Nat) (fuel : Nat)
    (ce : Gen.optSuffixArrayParser → Res Gen.optSuffixArrayParser)
    (s : Gen.optSuffixArrayParser) (blk : Gen.Block') (flags : Int) (h : blockNO s = 0) :
    optSuffixArrayParser_Parse_nilable grow fuel ce s true blk flags = Res.ok (s, blk, (0 : Int), ErrEmptyBuffer) := by
  rw [blockNO_min] at h
  unfold optSuffixArrayParser_Parse_nilable
  -- the test `n == 0` is evaluated as it comes (either arm order)
  simp only [if_true, gt_iff_lt, ge_iff_le, ite_lt_min, ite_le_min, h, (Int.min_comm _ _).trans h]
  try (first | rfl | simp)

/-- `Parse(nil, flags)` of osap.go = `Parser.parseNil`, per call, under `ParseOKO` alone: the same `blk` (a ghost) comes
    back, only `W` of the Go state changes, and `ParseOKO` is kept (`start ≤ W`: `W` only grows). -/
theorem gen_osap_parseNil (B : Nat) (grow : Nat → Nat → Nat) (fuel : Nat)
    (ce : Gen.optSuffixArrayParser → Res Gen.optSuffixArrayParser)
    (s : Gen.optSuffixArrayParser) (blk : Gen.Block') (flags : Int) (h : ParseOKO B s) :
    ∃ t, optSuffixArrayParser_Parse_nilable grow fuel ce s true blk flags =
        Res.ok (t, blk, (((ofOSAPs s).parseNil).2.1 : Int), parseErr ((ofOSAPs s).parseNil).2.2) ∧
      ofOSAPs t = ((ofOSAPs s).parseNil).1 ∧ ofOD t = ofOD s ∧
      (((ofOSAPs s).parseNil).2.2 = .ok ∨ ((ofOSAPs s).parseNil).2.2 = .empty) ∧
      t = withWO s (s.ParserBuffer.W + (((ofOSAPs s).parseNil).2.1 : Int)) ∧ ParseOKO B t := by
  have hW0 := h.pb.w
  obtain ⟨hmin, hle⟩ := blockN_go h
  have hprep : Prep B s s := ⟨rfl, rfl, rfl, rfl, h.st0, h.ne0, h.stw, h.wedges, h.wq⟩
  by_cases hn : (ofOSAPs s).blockN = 0
  · rw [Parser.parseNil_empty _ hn]
    refine ⟨s, gen_osap_parseNil_empty grow fuel ce s blk flags (by rw [hmin, hn]; rfl), rfl, rfl,
      Or.inr rfl, ?_, h⟩
    show s = withWO s (s.ParserBuffer.W + ((0 : Nat) : Int))
    rw [Int.natCast_zero, Int.add_zero]
  · have hpn : (ofOSAPs s).parseNil =
        (ofOSAPs (withWO s ((s.ParserBuffer.W.toNat + (ofOSAPs s).blockN : Nat) : Int)), (ofOSAPs s).blockN, .ok) := by
      rw [ofOSAPs_withW B s s hprep]
      rw [Parser.parseNil_pos hn]
      rfl
    have hsum : s.ParserBuffer.W + (((ofOSAPs s).blockN : Nat) : Int) =
        ((s.ParserBuffer.W.toNat + (ofOSAPs s).blockN : Nat) : Int) := by omega
    have hGo : optSuffixArrayParser_Parse_nilable grow fuel ce s true blk flags =
        Res.ok (withWO s ((s.ParserBuffer.W.toNat + (ofOSAPs s).blockN : Nat) : Int), blk,
          (((ofOSAPs s).blockN : Nat) : Int), Gen.Err.ok) := by
      rw [blockNO_min] at hmin
      unfold optSuffixArrayParser_Parse_nilable
      simp only [if_true, gt_iff_lt, ge_iff_le, ite_lt_min, ite_le_min, hmin, (Int.min_comm _ _).trans hmin]
      decide_ite
      -- `s.W + n` with the operands either way round
      first | rw [hsum] | rw [Int.add_comm, hsum]
    rw [hpn]
    exact ⟨_, hGo, rfl, rfl, Or.inl rfl, by rw [hsum], h.update hprep _ (by omega) hle⟩

/-- the nil path of the translated `Parse` does not call `computeEdges` -/
theorem parseNil_congr (grow : Nat → Nat → Nat) (fuel : Nat) (ce1 ce2 : Gen.optSuffixArrayParser → Res Gen.optSuffixArrayParser) (s : Gen.optSuffixArrayParser)
    (blk : Gen.Block') (flags : Int) :
    optSuffixArrayParser_Parse_nilable grow fuel ce1 s true blk flags =
      optSuffixArrayParser_Parse_nilable grow fuel ce2 s true blk flags := by
  unfold optSuffixArrayParser_Parse_nilable
  simp only [if_true]

end LZ.GenOSAP

#print axioms LZ.GenOSAP.gen_osap_parse_nonnil
#print axioms LZ.GenOSAP.gen_osap_parseNil_empty
#print axioms LZ.GenOSAP.gen_osap_parseNil
#print axioms LZ.GenOSAP.parseNil_congr
