/-
  LzProofs.ArrayLemmas — reading an array after one conditional store.  The models store with
  `setIfInBounds` and read with `getD`; every table proof (rank tables, bit sets, the edge and
  cost tables) needs this one fact.
-/
namespace LZ

theorem getD_setIfInBounds {α} (a : Array α) (j k : Nat) (v d : α) :
    (a.setIfInBounds j v).getD k d = if k = j ∧ j < a.size then v else a.getD k d := by
  simp only [Array.getD_eq_getD_getElem?, Array.getElem?_setIfInBounds]
  by_cases hk : k = j
  · subst hk
    by_cases hs : k < a.size <;> simp [hs]
  · have : ¬ j = k := fun h => hk h.symm
    simp [hk, this]

end LZ
