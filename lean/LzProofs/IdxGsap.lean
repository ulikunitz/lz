/-
  LzProofs.IdxGsap — C16 ("never panics") for the index / slice expressions of gsap.go.

  The parser model (LzModel/Sap.lean, LzModel/Loop.lean, LzModel/Parser.lean) reads arrays with the TOTAL
  accessors `getD`, `setIfInBounds`, `drop`, `take`; "the model never returns `.panic`" therefore says
  nothing about Go's index-out-of-range / slice-bounds panics in `gsap.Parse` and `gsap.sort`.
  This file closes the gap the way `kasai_no_panic` does for `_lcp`: checked variants of every model
  function of GSAP, textually parallel to the unchecked ones (`none` = the Go code would panic, or
  the model would silently diverge from Go), and `checked = some unchecked` under the invariants of
  the C12 / C19 proofs (`Sap.SAOK`, `BitsSub`, `Sap.GD`) strengthened by `isa.size = len(t)`, which
  `SAOK` does not fix (`IsaSz`), for every history (`gsap_parseChk_reachable`).

  Go expression (gsap.go)                   checked model expression              bound used
  ----------------------------------------------------------------------------------------------------
  sort  L196 `range s.sa` / `s.isa[j] = i`  `invertStepChk`: `sa[j]?`, `setChk`    sa perm of 0..n-1, |isa| = n
  sort  L201 `s.isa[i]` (i < W)             `insertRanksChk`: `isa[a]?`            W ≤ len(Data) = |isa|
  sort  L201 `s.bits.insert(isa[i])`        `insertRanksChk`: `r < bits.size`      isa[i] < n = |bits|  (*)
  Parse L234 `p := s.Data[:i+n]`            `sliceToChk data (w+n)`                n ≤ len(Data) - W
  Parse L237 `s.isa[i]`                     `gsapProbeChk`: `g.isa[i]?`            i < e ≤ len(t) = |isa|
  Parse L238 `s.bits.insert(j)`             `gsapProbeChk`: `setChk g.bits j`      isa[i] < len(t) = |bits| (*)
  Parse L239 `s.bits.memberBefore(j)`       `memberBeforeChk`: `bits[j']?`, j' < j j ≤ |bits| (**)
  Parse L240 `s.bits.memberAfter(j)`        `memberFromChk`: `bits[j']?`           j' < |bits| by the fuel (**)
  Parse L243 `s.sa[k1]`                     `candOneChk`: `sa[k]?`                 marked rank < len(t) = |sa|
  Parse L244 `p[f:]`, `p[i:]`               `candOneChk`: `sliceFromChk p f / p i` marked ⇒ sa[k] ≤ i ≤ e = len(p)
  Parse L247 `s.sa[k2]`                     `candOneChk`: `sa[k]?`                 as L243
  Parse L248 `p[f2:]`, `p[i:]`              `candOneChk`                           as L244
  Parse L260 `q := p[litIndex:i]`           `greedyLoopChk`: `sliceChk p li s`     litIndex ≤ i ≤ e  (`GD.li_le`, `GD.i_le`)
  Parse L270 `s.isa[i]` (i < litIndex=i+m)  `insertRanksChk isa bits (i+1) (m-1)`  i + m ≤ e ≤ |isa|
  Parse L270 `s.bits.insert(...)`           `insertRanksChk`: `r < bits.size`      (*)
  Parse L283 `p[litIndex:]`                 `finishBlockChk`: `sliceFromChk p li`  litIndex ≤ e
  Parse L279 `s.sa[:0]`, init/Reset/Shrink `[:0]`   — constant bounds, cannot panic.

  (*)  The Go bitset grows on demand (`support`), a Go `insert` of a non-negative number cannot panic
       (`GsapBits.insertW_no_panic`).  The check is on the MODEL side: `setIfInBounds` would silently
       drop a rank `≥ bits.size` where Go inserts it; `none` here = "model and Go would diverge".
  (**) bitset.go guards every word access itself (`k < len(b.a)` …) — proved at word level in
       LzProofs/BitsetProps.lean / GsapBits.lean; the checks here are for the `Array Bool` of the model.
  Not covered here (not transliterated in the model): the interior of `suffix.Sort` (`saSpec` is a
  specification), `lcp` (pure byte comparison on the two slices, `lcpLen`), `append`, and the explicit
  `panic("n too large")` of `sort` (excluded by `Verify`, LzProofs/Int32All.lean).
-/
import LzProofs.RunsGsap
namespace LZ
open Parser
namespace Idx

/-! ## Checked primitives -/

/-- `a[i] = v` — Go panics for `i ≥ len(a)` -/
def setChk {α} (a : Array α) (i : Nat) (v : α) : Option (Array α) :=
  if i < a.size then some (a.setIfInBounds i v) else none

/-- `p[f:]` — Go panics for `f > len(p)` (as `BytesW.sliceFrom`) -/
def sliceFromChk {α} (p : List α) (f : Nat) : Option (List α) :=
  if f ≤ p.length then some (p.drop f) else none

/-- `p[a:b]` — Go panics unless `a ≤ b ≤ len(p)` (the model never reslices beyond `len`) -/
def sliceChk {α} (p : List α) (a b : Nat) : Option (List α) :=
  if a ≤ b ∧ b ≤ p.length then some ((p.drop a).take (b - a)) else none

/-- `p[:n]` for `n ≤ len(p)` -/
def sliceToChk {α} (p : List α) (n : Nat) : Option (List α) :=
  if n ≤ p.length then some (p.take n) else none

theorem getElem?_getD {α} (a : Array α) (i : Nat) (d : α) (h : i < a.size) :
    a[i]? = some (a.getD i d) := by
  simp [Array.getD_eq_getD_getElem?, Array.getElem?_eq_getElem h]

theorem setChk_eq {α} (a : Array α) (i : Nat) (v : α) (h : i < a.size) :
    setChk a i v = some (a.setIfInBounds i v) := by
  unfold setChk; rw [if_pos h]

theorem sliceFromChk_eq {α} (p : List α) (f : Nat) (h : f ≤ p.length) :
    sliceFromChk p f = some (p.drop f) := by
  unfold sliceFromChk; rw [if_pos h]

theorem sliceChk_eq {α} (p : List α) (a b : Nat) (h1 : a ≤ b) (h2 : b ≤ p.length) :
    sliceChk p a b = some ((p.drop a).take (b - a)) := by
  unfold sliceChk; rw [if_pos ⟨h1, h2⟩]

theorem sliceToChk_eq {α} (p : List α) (n : Nat) (h : n ≤ p.length) :
    sliceToChk p n = some (p.take n) := by
  unfold sliceToChk; rw [if_pos h]

theorem foldlM_some {α β} {f : β → α → Option β} {g : β → α → β} (I : β → Prop) :
    ∀ (l : List α) (b : β), I b → (∀ a ∈ l, ∀ b, I b → f b a = some (g b a) ∧ I (g b a)) →
      l.foldlM f b = some (l.foldl g b)
  | [], _, _, _ => rfl
  | a :: l, b, hb, h => by
    obtain ⟨e, hb'⟩ := h a List.mem_cons_self b hb
    rw [List.foldlM_cons, List.foldl_cons, e]
    exact foldlM_some I l _ hb' (fun a' h' => h a' (List.mem_cons_of_mem _ h'))

/-! ## The checked model of GSAP -/

/-- `memberBefore` with every read of the rank array checked -/
def memberBeforeChk (bits : Array Bool) : Nat → Option (Option Nat)
  | 0 => some none
  | j+1 =>
    match bits[j]? with
    | none => none
    | some b => if b then some (some j) else memberBeforeChk bits j

/-- `memberFrom` with every read checked -/
def memberFromChk (bits : Array Bool) : Nat → Nat → Option (Option Nat)
  | 0, _ => some none
  | fuel+1, j =>
    match bits[j]? with
    | none => none
    | some b => if b then some (some j) else memberFromChk bits fuel (j+1)

def memberAfterChk (bits : Array Bool) (j : Nat) : Option (Option Nat) :=
  memberFromChk bits (bits.size - (j+1)) (j+1)

/-- `insertRanks` with `isa[a]` checked and the rank checked against the rank array -/
def insertRanksChk (isa : Array Nat) (bits : Array Bool) (a : Nat) : Nat → Option (Array Bool)
  | 0 => some bits
  | n+1 =>
    match isa[a]? with
    | none => none
    | some r =>
      match setChk bits r true with
      | none => none
      | some bits' => insertRanksChk isa bits' (a+1) n

/-- one iteration of `for i, j := range s.sa { s.isa[j] = int32(i) }` -/
def invertStepChk (sa : Array Nat) (inv : Array Nat) (j : Nat) : Option (Array Nat) :=
  match sa[j]? with
  | none => none
  | some v => setChk inv v j

/-- `invertSA` with the write `isa[sa[j]] = j` checked -/
def invertSAChk (sa : Array Nat) : Option (Array Nat) :=
  (List.range sa.size).foldlM (invertStepChk sa) (Array.replicate sa.size 0)

/-- `gsap.sort()` -/
def gsapSortChk (data : List Byte) (w : Nat) : Option GsapD :=
  let sa := (saSpec data).toArray
  match invertSAChk sa with
  | none => none
  | some isa =>
    match insertRanksChk isa (Array.replicate sa.size false) 0 w with
    | none => none
    | some bits => some { sa := sa, isa := isa, bits := bits }

/-- `f = int(s.sa[k]); m = lcp(p[f:], p[i:])` -/
def candOneChk (sa : Array Nat) (p : List Byte) (i k : Nat) : Option (Nat × Nat) :=
  match sa[k]? with
  | none => none
  | some f =>
    match sliceFromChk p f with
    | none => none
    | some a =>
      match sliceFromChk p i with
      | none => none
      | some b => some (f, lcpLen a b)

/-- `Sap.gsapCand` (the two rank neighbours) checked -/
def gsapCandChk (sa : Array Nat) (bits : Array Bool) (p : List Byte) (i j : Nat) : Option (Nat × Nat) :=
  match memberBeforeChk bits j with
  | none => none
  | some mb =>
    match (match mb with
           | some k1 => candOneChk sa p i k1
           | none => some (0, 0)) with
    | none => none
    | some fm =>
      match memberAfterChk bits j with
      | none => none
      | some none => some fm
      | some (some k2) =>
        match candOneChk sa p i k2 with
        | none => none
        | some fm2 => some (if fm2.2 > fm.2 ∨ (fm2.2 = fm.2 ∧ fm2.1 > fm.1) then fm2 else fm)

/-- `gsapProbe` checked (the form of `Sap.gsapProbe_eq`) -/
def gsapProbeChk (ws minMatch : Nat) (g : GsapD) (p : List Byte) (i _li : Nat) :
    Option (GsapD × Option (Nat × Nat × Nat)) :=
  match g.isa[i]? with
  | none => none
  | some j =>
    match setChk g.bits j true with
    | none => none
    | some bits =>
      match gsapCandChk g.sa bits p i j with
      | none => none
      | some c =>
        if c.2 < minMatch then some ({ g with bits := bits }, none)
        else if ¬ (c.1 < i ∧ i - c.1 < ws) then some ({ g with bits := bits }, none)
        else
          match insertRanksChk g.isa bits (i + 1) (c.2 - 1) with
          | none => none
          | some bits' => some ({ g with bits := bits' }, some (i, c.2, i - c.1))

/-- a match finder that may panic -/
structure FinderChk (δ : Type) where
  probe : δ → List Byte → Nat → Nat → Option (δ × Option (Nat × Nat × Nat))

/-- `greedyLoop` over a checked finder, with the slice `q := p[litIndex:i]` checked.  The branch
    `s + k ≤ i` (a finder violating its contract; `greedyLoop` stops there) counts as failure. -/
def greedyLoopChk {δ} (F : FinderChk δ) (p : List Byte) (stop : Nat) (st : LoopSt δ) :
    Option (LoopSt δ) :=
  if _h : st.i < stop then
    match F.probe st.dict p st.i st.litIndex with
    | none => none
    | some (d, none) => greedyLoopChk F p stop { st with dict := d, i := st.i + 1 }
    | some (d, some (s, k, o)) =>
      if _hk : s + k > st.i then
        match sliceChk p st.litIndex s with
        | none => none
        | some q =>
          greedyLoopChk F p stop
            { dict := d, i := s + k, litIndex := s + k,
              seqs := st.seqs ++ [{ litLen := q.length, matchLen := k, offset := o }],
              lits := st.lits ++ q }
      else none
  else some st
termination_by stop - st.i
decreasing_by all_goals simp_wf; all_goals omega

/-- `finishBlock` with `p[litIndex:]` checked -/
def finishBlockChk {δ} (p : List Byte) (flags : Nat) (st : LoopSt δ) : Option (Nat × Block) :=
  if flags % 2 = 1 ∧ st.seqs ≠ [] then
    some (st.litIndex, { seqs := st.seqs, lits := st.lits })
  else
    match sliceFromChk p st.litIndex with
    | none => none
    | some r => some (p.length, { seqs := st.seqs, lits := st.lits ++ r })

def runGreedyChk {δ} (F : FinderChk δ) (d : δ) (p : List Byte) (w stop flags : Nat) :
    Option (δ × Nat × Block × Nat) :=
  match greedyLoopChk F p stop { dict := d, i := w, litIndex := w, seqs := [], lits := [] } with
  | none => none
  | some st =>
    match finishBlockChk p flags st with
    | none => none
    | some wb => some (st.dict, wb.1, wb.2, st.litIndex)

/-- the `.gsap` branch of `Parser.parse`, every index / slice expression checked -/
def parseGsapChk (s : Parser) (g : GsapD) (flags : Nat) : Option (Parser × Nat × Err × Block) :=
  let n := s.blockN
  if n = 0 then some (s, 0, .empty, ⟨[], []⟩)
  else
    let w := s.buf.w
    let data := s.buf.data
    match sliceToChk data (w + n) with
    | none => none
    | some p =>
      match (if w + n > g.sa.size then gsapSortChk data w else some g) with
      | none => none
      | some g1 =>
        match runGreedyChk ⟨gsapProbeChk s.buf.cfg.windowSize s.minMatch⟩ g1 p w p.length flags with
        | none => none
        | some r =>
          let g' := if flags % 2 = 1 ∧ r.2.2.1.seqs ≠ [] ∧ r.2.2.2 < p.length
            then { r.1 with sa := #[] } else r.1
          some ({ s with buf := { s.buf with w := r.2.1 }, dict := .gsap g' }, r.2.1 - w, .ok, r.2.2.1)

/-! ## `checked = some unchecked` -/

theorem memberBeforeChk_eq (bits : Array Bool) : ∀ j, j ≤ bits.size →
    memberBeforeChk bits j = some (memberBefore bits j) := by
  intro j
  induction j with
  | zero => intro _; rfl
  | succ j ih =>
    intro h
    unfold memberBeforeChk memberBefore
    rw [getElem?_getD bits j false (by omega)]
    simp only
    split
    · rfl
    · exact ih (by omega)

theorem memberFromChk_eq (bits : Array Bool) : ∀ fuel j, (fuel = 0 ∨ j + fuel ≤ bits.size) →
    memberFromChk bits fuel j = some (memberFrom bits fuel j) := by
  intro fuel
  induction fuel with
  | zero => intro j _; rfl
  | succ fuel ih =>
    intro j h
    unfold memberFromChk memberFrom
    rw [getElem?_getD bits j false (by omega)]
    simp only
    split
    · rfl
    · exact ih (j+1) (by omega)

theorem memberAfterChk_eq (bits : Array Bool) (j : Nat) :
    memberAfterChk bits j = some (memberAfter bits j) := by
  unfold memberAfterChk memberAfter
  exact memberFromChk_eq bits _ _ (by omega)

theorem insertRanksChk_eq (isa : Array Nat) (N : Nat) (hN : ∀ a, a < isa.size → isa.getD a 0 < N) :
    ∀ (cnt : Nat) (bits : Array Bool) (a : Nat), bits.size = N → a + cnt ≤ isa.size →
      insertRanksChk isa bits a cnt = some (insertRanks isa bits a cnt) := by
  intro cnt
  induction cnt with
  | zero => intro bits a _ _; rfl
  | succ cnt ih =>
    intro bits a hb ha
    unfold insertRanksChk insertRanks
    rw [getElem?_getD isa a 0 (by omega)]
    simp only
    rw [setChk_eq _ _ _ (by rw [hb]; exact hN a (by omega))]
    exact ih _ _ (by simp [hb]) (by omega)

theorem invertSAChk_eq (sa : Array Nat) (hN : ∀ j, j < sa.size → sa.getD j 0 < sa.size) :
    invertSAChk sa = some (invertSA sa) := by
  unfold invertSAChk invertSA
  refine foldlM_some (fun inv => inv.size = sa.size) _ _ (by simp) ?_
  intro j hj inv hs
  have hj := List.mem_range.1 hj
  unfold invertStepChk
  rw [getElem?_getD sa j 0 hj]
  exact ⟨setChk_eq _ _ _ (by rw [hs]; exact hN j hj), by rw [Array.size_setIfInBounds, hs]⟩

theorem candOneChk_eq (sa : Array Nat) (p : List Byte) (i k : Nat) (hk : k < sa.size)
    (hf : sa.getD k 0 ≤ p.length) (hi : i ≤ p.length) :
    candOneChk sa p i k = some (sa.getD k 0, lcpLen (p.drop (sa.getD k 0)) (p.drop i)) := by
  unfold candOneChk
  rw [getElem?_getD sa k 0 hk]
  simp only
  rw [sliceFromChk_eq p _ hf, sliceFromChk_eq p _ hi]

theorem gsapCandChk_eq (sa : Array Nat) (bits : Array Bool) (p : List Byte) (i j : Nat)
    (hj : j ≤ bits.size) (hi : i ≤ p.length)
    (hm : ∀ r, bits.getD r false = true → r < sa.size ∧ sa.getD r 0 ≤ p.length) :
    gsapCandChk sa bits p i j = some (Sap.gsapCand sa bits p i j) := by
  have hc := fun k b => candOneChk_eq sa p i k (hm k b).1 (hm k b).2 hi
  unfold gsapCandChk Sap.gsapCand
  rw [memberBeforeChk_eq bits j hj, memberAfterChk_eq bits j]
  simp only
  cases hmb : memberBefore bits j with
  | none =>
    cases hma : memberAfter bits j with
    | none => rfl
    | some k2 =>
      simp only
      rw [hc k2 (Sap.memberAfter_some hma).1]
  | some k1 =>
    simp only
    rw [hc k1 (Sap.memberBefore_some hmb).1]
    cases hma : memberAfter bits j with
    | none => rfl
    | some k2 =>
      simp only
      rw [hc k2 (Sap.memberAfter_some hma).1]

section Probe
variable {t : List Byte} {g : GsapD} {i e : Nat} (ws mm li : Nat)

/-- the probe never indexes out of range under the loop invariant of the C19 proof (`BitsSub`:
    only ranks of positions `< i` are marked) plus `isa.size = len(t)` -/
theorem gsapProbeChk_eq (hs : Sap.SAOK t g.sa g.isa) (hsz : g.isa.size = t.length)
    (hb : BitsSub g.sa g.bits t.length i) (hi : i < e) (he : e ≤ t.length) :
    gsapProbeChk ws mm g (t.take e) i li = some (gsapProbe ws mm g (t.take e) i li) := by
  have hit : i < t.length := by omega
  have hlen : (t.take e).length = e := List.length_take_of_le he
  obtain ⟨hj, hsaj⟩ := hs.sa_isa i hit
  have hm := bitsSub_set_le hs hb hit
  rw [Sap.gsapProbe_eq]
  unfold gsapProbeChk
  rw [getElem?_getD g.isa i 0 (by omega)]
  simp only
  rw [setChk_eq _ _ _ (by rw [hb.size]; exact hj)]
  simp only
  rw [gsapCandChk_eq g.sa _ (t.take e) i _ (by rw [Array.size_setIfInBounds, hb.size]; omega) (by omega)]
  · simp only
    have hc := Sap.gsapCand_snd_le g.sa (g.bits.setIfInBounds (g.isa.getD i 0) true) (t.take e) i
      (g.isa.getD i 0)
    generalize Sap.gsapCand g.sa (g.bits.setIfInBounds (g.isa.getD i 0) true) (t.take e) i
      (g.isa.getD i 0) = c at hc
    by_cases c1 : c.2 < mm
    · rw [if_pos c1, if_pos c1]
    rw [if_neg c1, if_neg c1]
    by_cases c2 : ¬ (c.1 < i ∧ i - c.1 < ws)
    · rw [if_pos c2, if_pos c2]
    rw [if_neg c2, if_neg c2, insertRanksChk_eq g.isa t.length]
    · intro a ha
      exact (hs.sa_isa a (by omega)).1
    · rw [Array.size_setIfInBounds, hb.size]
    · rw [hlen] at hc; omega
  · intro r hr
    obtain ⟨a, b⟩ := hm r hr
    exact ⟨by rw [hs.size_sa]; exact a, by rw [hlen]; omega⟩

end Probe

/-! ### the greedy loop -/

theorem finishBlockChk_eq {δ} (p : List Byte) (flags : Nat) (st : LoopSt δ) (h : st.litIndex ≤ p.length) :
    finishBlockChk p flags st = some (finishBlock p flags st) := by
  unfold finishBlockChk finishBlock
  split
  · rfl
  · rw [sliceFromChk_eq p _ h]

/-- the GSAP loop never indexes out of range (`Sap.GD`, with only positions in front of `w` marked
    at the start): each checked probe answers like the unchecked one, and the literal slice
    `p[litIndex:s]` is in range because `litIndex ≤ i = s ≤ e` -/
theorem gsapLoopChk_eq (t : List Byte) (g : GsapD) (w e ws mm : Nat)
    (hs : Sap.SAOK t g.sa g.isa) (hsz : g.isa.size = t.length) (hb : BitsSub g.sa g.bits t.length w)
    (he : e ≤ t.length) (hmm : 1 ≤ mm) (st : LoopSt GsapD) (hJ : Sap.GD g w e st) :
    greedyLoopChk ⟨gsapProbeChk ws mm⟩ (t.take e) e st =
      some (greedyLoop ⟨gsapProbe ws mm⟩ (t.take e) e st) := by
  have hlen : (t.take e).length = e := List.length_take_of_le he
  have hchk := fun (st : LoopSt GsapD) (hi : st.i < e) (hJ : Sap.GD g w e st) =>
    gsapProbeChk_eq (g := st.dict) ws mm st.litIndex (hJ.saok hs)
      (by rw [hJ.dict]; exact hsz) (hJ.bitsSub hs hb he) hi he
  induction st using greedyLoop.induct ⟨gsapProbe ws mm⟩ (t.take e) e with
  | case1 st h d hp ih =>
    rw [greedyLoop_none _ _ _ st d h hp, greedyLoopChk]
    simp only [h, dite_true]
    rw [(hchk st h hJ).trans (congrArg some hp)]
    exact ih (hJ.none h hp)
  | case2 st h d s k o hp hk q ih =>
    obtain ⟨rfl, -, hke, hJ'⟩ := hJ.some hmm hlen (show gsapProbe ws mm st.dict _ _ _ = _ from hp)
    rw [greedyLoop_some _ _ _ st d _ k o h hp hk, greedyLoopChk]
    simp only [h, dite_true]
    rw [(hchk st h hJ).trans (congrArg some hp)]
    simp only [hk, dite_true]
    rw [sliceChk_eq _ _ _ hJ.li_le (by rw [hlen]; omega)]
    exact ih (hJ' _ _)
  | case3 st h d s k o hp hk =>
    obtain ⟨rfl, hk', -⟩ := hJ.some hmm hlen (show gsapProbe ws mm st.dict _ _ _ = _ from hp)
    omega
  | case4 st h =>
    rw [greedyLoop_done _ _ _ st h, greedyLoopChk]
    simp only [h, dite_false]

theorem invertSAChk_saSpec (t : List Byte) :
    invertSAChk (saSpec t).toArray = some (invertSA (saSpec t).toArray) := by
  have hsa := isSuffixArray_saSpec t
  have hlen : (saSpec t).toArray.size = t.length := by simpa using hsa.length_eq
  apply invertSAChk_eq
  intro j hj
  have hj' : j < (saSpec t).length := by simpa using hj
  have := hsa.getElem_lt j hj'
  rw [hlen]
  simpa [Array.getD_eq_getD_getElem?, List.getElem?_eq_getElem hj'] using this

theorem gsapSortChk_eq (data : List Byte) (w : Nat) (hw : w ≤ data.length) :
    gsapSortChk data w = some (gsapSort data w) := by
  have hok := Sap.saok_saSpec data
  have hlen : (saSpec data).toArray.size = data.length := hok.size_sa
  unfold gsapSortChk gsapSort
  simp only
  rw [invertSAChk_saSpec]
  simp only
  rw [insertRanksChk_eq (invertSA (saSpec data).toArray) (saSpec data).toArray.size]
  · intro a ha
    rw [invertSA_size, hlen] at ha
    rw [hlen]
    exact (hok.sa_isa a ha).1
  · simp
  · rw [invertSA_size, hlen]; omega

/-- one `Parse(&blk, flags)` call of GSAP never indexes out of range: on a state satisfying the
    invariant `GsapW` of the C19 proof and `isa.size = sa.size` the checked `.gsap` branch succeeds
    with the result of `Parser.parse` -/
theorem parseGsapChk_eq (s : Parser) (g : GsapD) (hd : s.dict = .gsap g) (flags : Nat)
    (hw : s.buf.w ≤ s.buf.data.length) (hmm : 1 ≤ s.minMatch) (hW : GsapW s g)
    (hz : g.sa.size = 0 ∨ g.isa.size = g.sa.size) :
    parseGsapChk s g flags = some (s.parse flags) := by
  by_cases hn0 : s.blockN = 0
  · rw [parse_empty s flags hn0]
    unfold parseGsapChk
    exact if_pos hn0
  obtain ⟨t, g1, hg1, h2, h3, h4, hpre, hparse⟩ := parse_gsapW s g flags hd hn0 hw hW
  have hg1' : (if s.buf.w + s.blockN > g.sa.size then gsapSortChk s.buf.data s.buf.w else some g) =
      some g1 ∧ g1.isa.size = g1.sa.size := by
    rw [hg1, Sap.gsapG]
    split
    · exact ⟨gsapSortChk_eq _ _ hw, invertSA_size _⟩
    · exact ⟨rfl, hz.resolve_left (by omega)⟩
  have hplen : (t.take (s.buf.w + s.blockN)).length = s.buf.w + s.blockN := List.length_take_of_le h2
  have h0 := Sap.GD.init g1 (Nat.le_add_right s.buf.w s.blockN)
  obtain ⟨hJ, hi⟩ := Sap.gd_loop (ws := s.buf.cfg.windowSize) hmm hplen _ h0
  rw [hparse]
  unfold parseGsapChk
  simp only [hn0, if_false]
  rw [sliceToChk_eq _ _ (Sap.blockN_le s hn0), hg1'.1]
  simp only
  rw [show List.take (s.buf.w + s.blockN) s.buf.data = s.blockPrefix from rfl, s.blockPrefix_length hw,
    hpre]
  unfold runGreedyChk Parser.runGreedy
  rw [gsapLoopChk_eq t g1 _ _ _ _ h3 (hg1'.2.trans h3.size_sa) h4 h2 hmm _ h0]
  simp only
  rw [finishBlockChk_eq _ _ _ (by have := hJ.li_le; rw [hi] at this; rw [hplen]; exact this)]

/-! ## The strengthened state invariant along histories

`Sap.SAOK t sa isa` fixes `sa.size = len(t)` but not `isa.size` (all its clauses about `isa` go through
`getD`).  `s.isa[i]` needs it; it holds because `sort()` allocates `isa` with `len(sa)` entries and
nothing else touches `isa` except `[:0]` together with `sa`. -/

/-- `len(isa) = len(sa)` unless the suffix array is absent (after a truncated block Go keeps the old
    `isa` and only cuts `sa` to `[:0]` — so the disjunction, not an equation) -/
def IsaSz (s : Parser) : Prop := ∃ g, s.dict = .gsap g ∧ (g.sa.size = 0 ∨ g.isa.size = g.sa.size)

/-- `Parse(&blk, flags)` keeps `IsaSz`: the loop never touches `sa` / `isa` (`Sap.GD.dict`) -/
theorem isaSz_parse (s : Parser) (flags : Nat) (hw : s.buf.w ≤ s.buf.data.length)
    (hmm : 1 ≤ s.minMatch) (hWS : GsapWS s) (h : IsaSz s) : IsaSz (s.parse flags).1 := by
  by_cases hn0 : s.blockN = 0
  · rw [parse_empty s flags hn0]; exact h
  obtain ⟨g, hd, hW⟩ := hWS
  obtain ⟨g', hd', hz⟩ := h
  obtain rfl : g = g' := Dict.gsap.inj (hd.symm.trans hd')
  obtain ⟨t, g1, hg1, h2, h3, h4, -, hparse⟩ := parse_gsapW s g flags hd hn0 hw hW
  have hz1 : g1.sa.size = 0 ∨ g1.isa.size = g1.sa.size := by
    rw [hg1, Sap.gsapG]
    split
    · exact Or.inr (invertSA_size _)
    · exact hz
  obtain ⟨hJ, -⟩ := Sap.gd_loop (ws := s.buf.cfg.windowSize) hmm
    (List.length_take_of_le h2 : (t.take (s.buf.w + s.blockN)).length = _) _
    (Sap.GD.init g1 (Nat.le_add_right s.buf.w s.blockN))
  rw [hparse]
  unfold Parser.runGreedy
  simp only []
  split
  · exact ⟨_, rfl, Or.inl rfl⟩
  · refine ⟨_, rfl, ?_⟩
    rw [hJ.dict]
    exact hz1

/-- the other operations leave the dictionary alone or empty it -/
theorem isaSz_step {s s' : Parser} (hs : Parser.Step s s') (hw : s.buf.w ≤ s.buf.data.length)
    (hmm : 1 ≤ s.minMatch) (hWS : GsapWS s) (h : IsaSz s) : IsaSz s' := by
  obtain ⟨g, hd, hz⟩ := h
  cases hs.sa (.inl ⟨g, hd⟩) with
  | grow _ e _ _ _ _ _ => exact ⟨g, e.trans hd, hz⟩
  | skip _ => exact ⟨g, hd, hz⟩
  | clear _ e _ _ _ => exact ⟨_, by rw [e, Parser.clearDict, hd], Or.inl rfl⟩
  | parse f _ => exact isaSz_parse s f hw hmm hWS ⟨g, hd, hz⟩

theorem newParser_isaSz {raw : Cfg} {s0 : Parser} (h0 : newParser .GSAP raw = some s0) : IsaSz s0 :=
  ⟨GsapD.empty, Sap.newParser_gsap_dict raw s0 h0, Or.inl rfl⟩

/-! ## History level -/

/-- C16 for the index expressions of gsap.go, every history.  For every accepted GSAP configuration
    and every history of `Write`, `ReadFrom`, `Parse(&blk, flags)`, `Parse(nil)`, `Shrink`, `Reset`:
    the next `Parse(&blk, flags)` evaluated with EVERY array index and slice expression of
    `gsap.Parse` / `gsap.sort` range-checked succeeds, with exactly the result of the model. -/
theorem gsap_parseChk_reachable (raw : Cfg) (s0 : Parser) (h0 : newParser .GSAP raw = some s0)
    (ops : List POp) (flags : Nat) :
    let s := (runOps (s0, Ghost.init) ops).1
    ∃ g, s.dict = .gsap g ∧ parseGsapChk s g flags = some (s.parse flags) := by
  intro s
  have hr := reachable_runOps s0 ops
  have hB := hr.base h0
  obtain ⟨⟨g, hd, hW⟩, g', hd', hz⟩ := hr.keeps h0 (fun s => GsapWS s ∧ IsaSz s)
    ⟨newParser_gsapWS h0, newParser_isaSz h0⟩ fun s op hb h =>
      ⟨gsapWS_step (stepP_step s op) hb.mm h.1, isaSz_step (stepP_step s op) hb.hw hb.mm h.1 h.2⟩
  obtain rfl : g = g' := Dict.gsap.inj (hd.symm.trans hd')
  exact ⟨g, hd, parseGsapChk_eq s g hd flags hB.hw hB.mm hW hz⟩

/-! ## Non-vacuity: the checks bite

The text `"xabab"` with its suffix array (`Sap.xabab`, `Sap.xababG` of LzProofs/GsapLoop.lean). -/

section Examples
open Sap (xabab xababG)

/-- the ranks of the positions 0, 1, 2 marked (the state of the loop at `i = 3`) -/
def xababG3 : GsapD := { xababG with bits := insertRanks xababG.isa xababG.bits 0 3 }

/-- good state: the checked probe answers, and answers what the model answers (match of 2 at 3) -/
example : (gsapProbeChk 8 2 xababG3 xabab 3 0).map (·.2) = some (some (3, 2, 2)) := by decide +kernel
example : (gsapProbeChk 8 2 xababG3 xabab 3 0).map (·.2) = some (gsapProbe 8 2 xababG3 xabab 3 0).2 := by
  decide +kernel

/-- `isa` one entry short: `s.isa[4]` panics; the unchecked model reads 0 and carries on -/
example : (gsapProbeChk 8 2 { xababG3 with isa := #[4, 1, 3, 0] } xabab 4 0).isNone = true := by decide +kernel
example : (gsapProbe 8 2 { xababG3 with isa := #[4, 1, 3, 0] } xabab 4 0).2 = none := by decide +kernel

/-- rank array one entry short: the model would silently drop rank 4 (Go inserts it) -/
example : (gsapProbeChk 8 2 { xababG with bits := #[false, false, false, false] } xabab 0 0).isNone = true := by
  decide +kernel

/-- `sa` one entry short: `s.sa[k2]` panics (rank 4 = position 0 is marked, probe at rank 3) -/
example : (gsapProbeChk 8 2 { xababG3 with sa := #[3, 1, 4, 2] } xabab 2 0).isNone = true := by decide +kernel

/-- a marked rank of a position BEHIND the block end — what a truncated block (`NoTrailingLiterals`)
    leaves in `bits`, the reason for `s.sa = s.sa[:0]` in gsap.go L279: `p[f2:]` panics for the block
    `p = "xab"` at `i = 1` when the rank of position 4 is marked.  The unchecked model does not notice. -/
example : (gsapProbeChk 8 2 { xababG with bits := #[false, false, true, false, false] } (xabab.take 3) 1 0).isNone
    = true := by decide +kernel
example : (gsapProbe 8 2 { xababG with bits := #[false, false, true, false, false] } (xabab.take 3) 1 0).2
    = none := by decide +kernel

example : (insertRanksChk #[4, 1, 3] #[false, false, false, false, false] 0 4).isNone = true := by decide +kernel
example : insertRanksChk #[4, 1, 3, 0] #[false, false, false, false, false] 0 4 =
    some (insertRanks #[4, 1, 3, 0] #[false, false, false, false, false] 0 4) := by decide +kernel
example : (invertSAChk #[3, 1, 5, 2, 0]).isNone = true := by decide +kernel
example : invertSAChk #[3, 1, 4, 2, 0] = some #[4, 1, 3, 0, 2] := by decide +kernel
example : (sliceFromChk xabab 6).isNone = true ∧ (sliceChk xabab 3 2).isNone = true ∧
    (sliceToChk xabab 6).isNone = true ∧ sliceChk xabab 1 3 = some [97, 98] := by decide +kernel

/-- a whole `Parse` call.  `exS` : a GSAP parser holding `"xabab"` with its suffix array;
    `exBad` : the same with `isa` cut to `[:0]` while `sa` stays (NOT reachable: `IsaSz`). -/
def exCfg : Cfg :=
  { windowSize := 64, bufferSize := 48, blockSize := 32, shrinkSize := 16, minMatchLen := 2 }
def exS0 : Parser := (newParser .GSAP exCfg).getD default
theorem exS0_new : newParser .GSAP exCfg = some exS0 := Sap.eq_some_getD (by decide +kernel) _
def exS : Parser := { stepP exS0 (.write xabab) with dict := .gsap xababG }
def exBad : Parser := { exS with dict := .gsap { xababG with isa := #[] } }

#guard ((parseGsapChk exS xababG 0).map (·.2.2.2)) == some (exS.parse 0).2.2.2
#guard (parseGsapChk exS xababG 0).map (·.2.2.2) == some ⟨[⟨3, 2, 2, 0⟩], [120, 97, 98]⟩
#guard (parseGsapChk exBad { xababG with isa := #[] } 0).isNone
#guard (exBad.parse 0).2.2.1 == .ok          -- the unchecked model "succeeds" on the bad state
-- … and with the re-sort (`len(sa) = 0`): `sort()` and the loop, all checked
#guard (parseGsapChk (stepP exS0 (.write xabab)) GsapD.empty 0).map (·.2.2.2) ==
    some ⟨[⟨3, 2, 2, 0⟩], [120, 97, 98]⟩

/-- the history-level theorem applied to a concrete history -/
example := gsap_parseChk_reachable exCfg exS0 exS0_new
  [.write xabab, .parse 1, .parseNil, .write xabab, .shrink, .write xabab] 0

end Examples

#print axioms gsapProbeChk_eq
#print axioms gsapSortChk_eq
#print axioms gsapLoopChk_eq
#print axioms parseGsapChk_eq
#print axioms isaSz_step
#print axioms gsap_parseChk_reachable

end Idx
end LZ
