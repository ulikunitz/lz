/-
  LzProofs.ParseProps — the property theorems about the parser model
  (C01 round trip, C02 well-formed sequences, C03 accounting/progress, C14 Parse(nil),
  C19 maximality), at four levels:

    probe   : the match finders of HP/BHP, DHP/BDHP, BUP, GSAP satisfy `ProbeOK` for
              ARBITRARY dictionary states (verify-then-emit)
    block   : `runGreedy` with any finder satisfying `ProbeOK`
    parser  : one `Parser.parse` / `Parser.parseNil` call on an arbitrary state
    history : arbitrary sequences of Write / ReadFrom / Parse / Parse(nil) / Shrink / Reset
              starting from `newParser`
-/
import LzProofs.ParseHist
import LzProofs.ParseEval
namespace LZ
open Parser

/-! ## Probe level: verify-then-emit -/

/-- HP (`back = false`) and BHP (`back = true`): whatever the hash table `h` contains -/
theorem probeOK_hp (ws mm inputEnd : Nat) (back : Bool) (hmm : 1 ≤ mm) (p : List Byte) :
    ProbeOK ⟨hpProbe ws mm inputEnd back⟩ p ws mm :=
  (hpProbe_verifying ws mm inputEnd back p).probeOK hmm

/-- DHP and BDHP: whatever the two hash tables contain -/
theorem probeOK_dhp (ws mm e1 e2 : Nat) (back : Bool) (hmm : 1 ≤ mm) (p : List Byte) :
    ProbeOK ⟨dhpProbe ws mm e1 e2 back⟩ p ws mm :=
  (dhpProbe_verifying ws mm e1 e2 back p).probeOK hmm

/-- BUP: whatever the buckets and ring indexes contain -/
theorem probeOK_bup (ws mm inputEnd : Nat) (hmm : 1 ≤ mm) (p : List Byte) :
    ProbeOK ⟨bupProbe ws mm inputEnd⟩ p ws mm :=
  (bupProbe_verifying ws mm inputEnd hmm p).probeOK hmm

/-- GSAP: whatever `sa`, `isa` and `bits` contain (they need not be a suffix array at all) -/
theorem probeOK_gsap (ws mm : Nat) (hmm : 1 ≤ mm) (p : List Byte) :
    ProbeOK ⟨gsapProbe ws mm⟩ p ws mm :=
  (gsapProbe_verifying ws mm hmm p).probeOK hmm

/-- C19 at probe level: right-maximality for all four finders -/
theorem C19_probe_right_maximal (ws mm : Nat) (hmm : 1 ≤ mm) (p : List Byte) :
    (∀ inputEnd back, ProbeRightMax ⟨hpProbe ws mm inputEnd back⟩ p) ∧
    (∀ e1 e2 back, ProbeRightMax ⟨dhpProbe ws mm e1 e2 back⟩ p) ∧
    (∀ inputEnd, ProbeRightMax ⟨bupProbe ws mm inputEnd⟩ p) ∧
    ProbeRightMax ⟨gsapProbe ws mm⟩ p :=
  ⟨fun ie b => (hpProbe_verifying ws mm ie b p).rightMax hmm,
   fun e1 e2 b => (dhpProbe_verifying ws mm e1 e2 b p).rightMax hmm,
   fun ie => (bupProbe_verifying ws mm ie hmm p).rightMax hmm,
   (gsapProbe_verifying ws mm hmm p).rightMax hmm⟩

/-- C19 at probe level: left-maximality for the backward-extending finders (BHP, BDHP) -/
theorem C19_probe_left_maximal (ws mm : Nat) (hmm : 1 ≤ mm) (p : List Byte) :
    (∀ inputEnd, ProbeLeftMax ⟨hpProbe ws mm inputEnd true⟩ p) ∧
    (∀ e1 e2, ProbeLeftMax ⟨dhpProbe ws mm e1 e2 true⟩ p) :=
  ⟨fun ie => (hpProbe_verifying ws mm ie true p).leftMax hmm,
   fun e1 e2 => (dhpProbe_verifying ws mm e1 e2 true p).leftMax hmm⟩

/-! ## Block level -/

/-- C01/C02/C03 for one block of any greedy parser: for a finder that satisfies the probe
    contract, `runGreedy` from head `w` on the block prefix `p` returns a new head `w'` and
    a block `blk` such that
    * `expand (p.take w) blk = some (p.take w')`                                   (C01)
    * every sequence is well-formed at its position, `Σ litLen ≤ |lits|`            (C02)
    * `w ≤ w' ≤ |p|`, `w < w'` if `w < |p|`, `w + blk.len = w'`,
      `w' = |p|` without NoTrailingLiterals or without match, otherwise the block ends
      with its last match and carries exactly the claimed literals                 (C03) -/
theorem C01_C02_C03_block {δ} (F : Finder δ) (d : δ) (p : List Byte) (ws mm w stop flags : Nat)
    (hF : ProbeOK F p ws mm) (hw : w ≤ p.length) :
    BlockOK p w flags (fun pos s => SeqWF ws mm pos s ∧ SeqGenuine p pos s)
      (runGreedy F d p w stop flags).2.1 (runGreedy F d p w stop flags).2.2.1 :=
  runGreedy_ok F d p ws mm w stop flags _ hF hF.probeSeq hw

/-! ## Parser level: one call on an arbitrary state -/

/-- Light well-formedness of a parser state.  Nothing is assumed about the search
    structure (`s.dict`): tables, buckets, `sa`/`isa`/`bits` may hold anything. -/
structure StateOK (s : Parser) : Prop where
  w_le : s.buf.w ≤ s.buf.data.length
  minMatch : 1 ≤ s.minMatch
  blockSize : 1 ≤ s.buf.cfg.blockSize
  /-- the `ParserBuffer` capacity invariant (7 spare bytes), so the margin guard cannot fire -/
  cap : s.buf.data = [] ∨ s.buf.data.length + Facts.margin ≤ s.buf.cap

/-- the state belongs to one of the six greedy parsers -/
def Greedy (s : Parser) : Prop := ∀ o, s.dict ≠ .osap o

theorem StateOK.blockN_ne {s : Parser} (hs : StateOK s) (hlt : s.buf.w < s.buf.data.length) :
    s.blockN ≠ 0 := by
  rw [ne_eq, blockN_eq_zero_iff s hs.w_le hs.blockSize]; omega

/-- `Parse` of a greedy parser on a state with unparsed data succeeds with a good block -/
theorem StateOK.parse_ok {s : Parser} (hs : StateOK s) (hg : Greedy s)
    (hlt : s.buf.w < s.buf.data.length) (flags : Nat) :
    ∃ s' n blk, s.parse flags = (s', n, .ok, blk) ∧ ParseOK s flags s.seqGood s' n blk ∧ Greedy s' :=
  parse_greedy_ok s flags hs.w_le (hs.blockN_ne hlt) hs.minMatch
    (marginOK_of_cap s hs.cap (hs.blockN_ne hlt)) hg

/-- every sequence of the block `Parse` returns on a state of a greedy parser is good (`SeqGood`: well-formed,
    genuine, right-maximal and for BHP / BDHP left-maximal); without unparsed data the block has none -/
theorem StateOK.parse_seqGood {s : Parser} (hs : StateOK s) (hg : Greedy s) (flags : Nat) :
    SeqsAll s.seqGood s.buf.w (s.parse flags).2.2.2.seqs := by
  by_cases hlt : s.buf.w < s.buf.data.length
  · obtain ⟨s', n, blk, hp, hok, -⟩ := hs.parse_ok hg hlt flags
    rw [hp]; exact hok.block.all
  · rw [parse_empty s flags (by unfold blockN; omega)]; trivial

/-- C03: without unparsed data `Parse` returns `ErrEmptyBuffer`, `n = 0`, an emptied block and
    leaves the state alone (all seven parsers, any state) -/
theorem C03_parse_empty (s : Parser) (flags : Nat) (h : s.buf.data.length ≤ s.buf.w) :
    s.parse flags = (s, 0, .empty, ⟨[], []⟩) :=
  parse_empty s flags (by unfold blockN; omega)

/-- C01, C02, C03 for one `Parse(&blk, flags)` of HP, BHP, DHP, BDHP, BUP, GSAP on an
    arbitrary state with unparsed data. -/
theorem C01_C02_C03_parse (s : Parser) (flags : Nat) (hs : StateOK s) (hg : Greedy s)
    (hlt : s.buf.w < s.buf.data.length) :
    ∃ s' n blk, s.parse flags = (s', n, .ok, blk) ∧
      -- only `W` moves, by `n`
      s'.buf = { s.buf with w := s.buf.w + n } ∧ s'.kind = s.kind ∧ s'.cfg = s.cfg ∧ Greedy s' ∧
      -- C03: progress and bound
      1 ≤ n ∧ n ≤ s.buf.cfg.blockSize ∧ s.buf.w + n ≤ s.buf.data.length ∧
      -- C01
      expand (s.buf.data.take s.buf.w) blk = some (s.buf.data.take (s.buf.w + n)) ∧
      -- C03: `n` is what the block represents
      blk.len = n ∧
      -- C02
      SeqsAll (SeqWF s.buf.cfg.windowSize s.minMatch) s.buf.w blk.seqs ∧
      litSum blk.seqs ≤ blk.lits.length ∧
      -- C03: the two flag cases
      ((flags % 2 = 0 ∨ blk.seqs = []) →
        n = min (s.buf.data.length - s.buf.w) s.buf.cfg.blockSize) ∧
      (flags % 2 = 1 → blk.seqs ≠ [] →
        blk.lits.length = litSum blk.seqs ∧ n = seqsSpan blk.seqs) := by
  obtain ⟨s', n, blk, hp, hok, hd⟩ := hs.parse_ok hg hlt flags
  have hN := s.blockN_le
  have hl := s.blockPrefix_length hs.w_le
  refine ⟨s', n, blk, hp, hok.buf, hok.kind, hok.cfg, hd, hok.n_pos, ?_, hok.w_le hs.w_le,
    hok.roundtrip, ?_, ?_, hok.block.lits, ?_, ?_⟩
  · have := hok.n_le; omega
  · have := hok.block.len; omega
  · exact SeqsAll.mono (fun _ _ h => h.1) _ _ hok.block.all
  · intro h
    have := hok.block.full h
    rw [hl] at this
    show n = s.blockN
    omega
  · intro h1 h2
    have := hok.block.trunc h1 h2
    exact ⟨this.1, by omega⟩

/-- C03: `ErrEmptyBuffer` exactly when no unparsed data is buffered (six greedy parsers) -/
theorem C03_parse_empty_iff (s : Parser) (flags : Nat) (hs : StateOK s) (hg : Greedy s) :
    (s.parse flags).2.2.1 = .empty ↔ s.buf.w = s.buf.data.length := by
  constructor
  · intro h
    by_cases hlt : s.buf.w < s.buf.data.length
    · obtain ⟨s', n, blk, hp, -⟩ := C01_C02_C03_parse s flags hs hg hlt
      rw [hp] at h; simp at h
    · have := hs.w_le; omega
  · intro h
    rw [C03_parse_empty s flags (by omega)]

/-- C02, GSAP: the offsets are even strictly below `WindowSize` (gsap.go uses `o < WindowSize`) -/
theorem C02_gsap_offset_lt (s : Parser) (flags : Nat) (g : GsapD) (hd : s.dict = .gsap g)
    (hs : StateOK s) (hlt : s.buf.w < s.buf.data.length) :
    SeqsAll (fun _ sq => sq.offset < s.buf.cfg.windowSize) s.buf.w (s.parse flags).2.2.2.seqs := by
  have hl := s.blockPrefix_length hs.w_le
  rw [parse_gsap s flags g hd (hs.blockN_ne hlt)]
  have hv := gsapProbe_verifying s.buf.cfg.windowSize s.minMatch hs.minMatch s.blockPrefix
  exact (runGreedy_ok _ _ _ _ _ _ _ _ _ (hv.probeOK hs.minMatch)
    (fun d i li d' st k o _ hp => (gsapProbe_some _ _ d _ i li hs.minMatch d' st k o hp).2)
    (by omega)).all

/-- C19: every match emitted by `Parse` of a greedy parser is right-maximal within the block
    prefix (it ends at the block end or the next byte differs from the byte `Offset` back),
    and for the backward-extending parsers (BHP, BDHP) also left-maximal.
    `SeqsAll_iff` spells `SeqsAll` out per sequence. -/
theorem C19_right_maximal (s : Parser) (flags : Nat) (hs : StateOK s) (hg : Greedy s)
    (hlt : s.buf.w < s.buf.data.length) :
    SeqsAll (SeqRightMax s.blockPrefix) s.buf.w (s.parse flags).2.2.2.seqs := by
  obtain ⟨s', n, blk, hp, hok, -⟩ := hs.parse_ok hg hlt flags
  rw [hp]
  exact SeqsAll.mono (fun _ _ h => h.2.2.1) _ _ hok.block.all

theorem C19_left_maximal (s : Parser) (flags : Nat) (hs : StateOK s) (hg : Greedy s)
    (hlt : s.buf.w < s.buf.data.length) (hb : s.backward = true) :
    SeqsAll (SeqLeftMax s.blockPrefix) s.buf.w (s.parse flags).2.2.2.seqs := by
  obtain ⟨s', n, blk, hp, hok, -⟩ := hs.parse_ok hg hlt flags
  rw [hp]
  exact SeqsAll.mono (fun _ _ h => h.2.2.2 hb) _ _ hok.block.all

theorem backward_iff (s : Parser) :
    s.backward = true ↔ (∃ h, s.dict = .single h ∧ s.kind = .BHP) ∨ (∃ d, s.dict = .double d ∧ s.kind = .BDHP) := by
  unfold backward
  cases hd : s.dict <;> simp

/-- C01 (and C02, C03) for OSAP, RELATIVE to the soundness of the edge table the call uses.
    `EdgesSoundBlock p w ws maxM n edges k0`: every stored edge `(mx, o)` of block position
    `i < n` (table index `k0 + i`) has `1 ≤ o ≤ ws`, `mx ≤ maxM` and is a genuine match
    `MatchOK p (w + i) m o` for every length `m ≤ mx` that stays inside the block.
    OSAP does not re-verify its matches, so this hypothesis is exactly what `computeEdges`
    (suffix sort, LCP, segments) must deliver; it has the shape of `computeEdges_sound` in the
    OSAP edge proofs.  Proving it is not part of this file.
    Full statement (not proved here): the same without `hE`. -/
theorem C01_osap_partial (s : Parser) (flags : Nat) (o : OsapD) (hd : s.dict = .osap o)
    (hw : s.buf.w ≤ s.buf.data.length) (hmm : 1 ≤ s.minMatch) (hbs : 1 ≤ s.buf.cfg.blockSize)
    (hlt : s.buf.w < s.buf.data.length)
    (hE : EdgesSoundBlock s.blockPrefix s.buf.w s.buf.cfg.windowSize s.cfg.maxMatchLen.toNat
      s.blockN (s.osapEdges o).edges (s.buf.w - (s.osapEdges o).start)) :
    ∃ s' n blk, s.parse flags = (s', n, .ok, blk) ∧
      s'.buf = { s.buf with w := s.buf.w + n } ∧
      1 ≤ n ∧ n ≤ s.buf.cfg.blockSize ∧ s.buf.w + n ≤ s.buf.data.length ∧
      expand (s.buf.data.take s.buf.w) blk = some (s.buf.data.take (s.buf.w + n)) ∧
      blk.len = n ∧
      SeqsAll (SeqWFmax s.buf.cfg.windowSize s.minMatch s.cfg.maxMatchLen.toNat) s.buf.w blk.seqs ∧
      litSum blk.seqs ≤ blk.lits.length := by
  have hn : s.blockN ≠ 0 := by
    rw [ne_eq, blockN_eq_zero_iff s hw hbs]; omega
  obtain ⟨s', n, blk, hp, hok, -⟩ := parse_osap_ok_block s flags o hd hw hn hmm hE
  have hN := s.blockN_le
  refine ⟨s', n, blk, hp, hok.buf, hok.n_pos, ?_, hok.w_le hw, hok.roundtrip, ?_, ?_, hok.block.lits⟩
  · have := hok.n_le; omega
  · have := hok.block.len; omega
  · exact SeqsAll.mono (fun _ _ h => h.1) _ _ hok.block.all

/-- the hypothesis of `C01_osap_partial` follows from a buffer-wide soundness of the table
    (`EdgesSound`: every edge `(m, o)` stored for buffer position `i` has `MatchOK data i m o`,
    `o ≤ ws`, `m ≤ maxM`) when the table starts at or before `W` -/
theorem edgesSoundBlock_of_edgesSound (s : Parser) (o : OsapD)
    (hS : EdgesSound s.buf.data s.buf.cfg.windowSize s.cfg.maxMatchLen.toNat o)
    (hst : o.start ≤ s.buf.w) :
    EdgesSoundBlock s.blockPrefix s.buf.w s.buf.cfg.windowSize s.cfg.maxMatchLen.toNat
      s.blockN o.edges (s.buf.w - o.start) :=
  EdgesSound.block hS hst

/-- C03 for OSAP without any hypothesis on the edge table: with unparsed data `Parse` never
    returns an error -/
theorem C03_osap_err (s : Parser) (flags : Nat) (o : OsapD) (hd : s.dict = .osap o)
    (hbs : 1 ≤ s.buf.cfg.blockSize) (hlt : s.buf.w < s.buf.data.length) :
    (s.parse flags).2.2.1 = .ok := by
  have hn : s.blockN ≠ 0 := by unfold blockN; omega
  rw [parse_osap s flags o hd hn]
  simp only []
  split <;> rfl

/-- C14: `Parse(nil)` consumes `min BlockSize unparsed` bytes, changes nothing else in the
    buffer, and returns `ErrEmptyBuffer` (state untouched) iff nothing is unparsed
    (all seven parsers, any state) -/
theorem C14_parseNil (s : Parser) (hbs : 1 ≤ s.buf.cfg.blockSize) :
    (s.buf.data.length ≤ s.buf.w → s.parseNil = (s, 0, .empty)) ∧
    (s.buf.w < s.buf.data.length → ∃ s',
      s.parseNil = (s', min s.buf.cfg.blockSize (s.buf.data.length - s.buf.w), .ok) ∧
      s'.buf = { s.buf with w := s.buf.w + min s.buf.cfg.blockSize (s.buf.data.length - s.buf.w) } ∧
      s'.kind = s.kind ∧ s'.cfg = s.cfg) := by
  constructor
  · intro h; exact parseNil_empty s (by unfold blockN; omega)
  · intro h
    have hn : s.blockN ≠ 0 := by unfold blockN; omega
    obtain ⟨s', h1, h2, h3, h4⟩ := parseNil_ok s hn
    have e : s.blockN = min s.buf.cfg.blockSize (s.buf.data.length - s.buf.w) := by
      unfold blockN; omega
    rw [e] at h1 h4
    exact ⟨s', h1, h4, h2, h3⟩

/-- C14: repeated `Parse(nil)` drains the buffer: with `u` unparsed bytes exactly `⌈u/BlockSize⌉`
    calls succeed, the `k`-th (from 0) returning `min BlockSize (u - k·BlockSize)`; all later
    calls return `ErrEmptyBuffer` with `W = len(Data)` -/
theorem C14_drains (s : Parser) (hw : s.buf.w ≤ s.buf.data.length) (hbs : 1 ≤ s.buf.cfg.blockSize) :
    let bs := s.buf.cfg.blockSize
    let u := s.buf.data.length - s.buf.w
    let r := (u + bs - 1) / bs
    (∀ k, k < r → ∃ s', (nilIter k s).parseNil = (s', min bs (u - k * bs), .ok)) ∧
    (∀ k, r ≤ k → (nilIter k s).parseNil = (nilIter k s, 0, .empty) ∧
      (nilIter k s).buf = { s.buf with w := s.buf.data.length }) := by
  intro bs u r
  constructor
  · intro k hk
    have hk' := (ceilDiv_lt_iff k u bs hbs).mp hk
    have hN := nilIter_blockN k s hw
    have hne : (nilIter k s).blockN ≠ 0 := by
      rw [hN]; show min (u - k * bs) bs ≠ 0; omega
    obtain ⟨s', h1, -⟩ := parseNil_ok _ hne
    refine ⟨s', ?_⟩
    rw [h1, hN]
    show (s', min (u - k * bs) bs, Err.ok) = _
    rw [Nat.min_comm]
  · intro k hk
    have hk' : ¬ k * bs < u := fun h => by
      have := (ceilDiv_lt_iff k u bs hbs).mpr h; omega
    have hN := nilIter_blockN k s hw
    have h0 : (nilIter k s).blockN = 0 := by
      rw [hN]; show min (u - k * bs) bs = 0; omega
    refine ⟨parseNil_empty _ h0, ?_⟩
    rw [nilIter_buf k s hw]
    have : min s.buf.data.length (s.buf.w + k * bs) = s.buf.data.length := by omega
    show ({ s.buf with w := min s.buf.data.length (s.buf.w + k * bs) } : PBuf) = _
    rw [this]

/-! ## History level -/

/-- the named hypothesis of the OSAP history results: `computeEdges` only stores genuine
    matches — for every block `[w', w'+n)` behind the head `w` it was computed for
    (the conclusion of `computeEdges_sound` of the OSAP edge proofs, for all buffers) -/
def ComputeEdgesSound (ws mm mx : Nat) : Prop :=
  ∀ data w w' n, w ≤ w' → w' + n ≤ data.length →
    EdgesSoundBlock (data.take (w' + n)) w' ws mx n (computeEdges data w ws mm mx).edges (w' - w)

/-- the parser kinds for which the history theorems are unconditional -/
def HistHyp (k : Kind) (s0 : Parser) : Prop :=
  k = .OSAP → ComputeEdgesSound s0.buf.cfg.windowSize (mmOf k s0.cfg) s0.cfg.maxMatchLen.toNat

theorem histHyp_of_ne (k : Kind) (s0 : Parser) (h : k ≠ .OSAP) : HistHyp k s0 :=
  fun hk => absurd hk h

/-- The history invariant holds after any sequence of operations on a parser created by
    `NewParser` (all accepted configurations).  Unconditional for HP, BHP, DHP, BDHP, BUP,
    GSAP (`histHyp_of_ne`); for OSAP relative to `ComputeEdgesSound`. -/
theorem history_inv (k : Kind) (raw : Cfg) (s0 : Parser) (h0 : newParser k raw = some s0)
    (hH : HistHyp k s0) (ops : List POp) :
    Inv k s0.cfg s0.buf.cfg (runOps (s0, Ghost.init) ops) := by
  obtain ⟨hi, hmm, hbs⟩ := newParser_inv k raw s0 h0
  exact runOps_inv ⟨hmm, hbs, hH⟩ ops _ hi

/-- C01 at history level: decoding the log of all blocks emitted since the last Reset
    (skipped segments contribute their bytes verbatim) with the reference expander yields
    exactly the consumed prefix of the bytes fed since that Reset — for every input, every
    accepted configuration, every interleaving of Write, ReadFrom, Parse (both flags),
    Parse(nil), Shrink and Reset. -/
theorem C01_roundtrip (k : Kind) (raw : Cfg) (s0 : Parser) (h0 : newParser k raw = some s0)
    (hH : HistHyp k s0) (ops : List POp) :
    let g := (runOps (s0, Ghost.init) ops).2
    decode [] g.log = some (g.fed.take g.consumed) := by
  intro g
  have h := history_inv k raw s0 h0 hH ops
  have := decode_of_logAll g.fed _ _ _ g.log 0 (Nat.zero_le _) h.log
  rw [h.span] at this
  simpa using this

/-- C02 at history level: every sequence of every emitted block has
    `1 ≤ Offset ≤ WindowSize`, `Offset ≤` number of stream bytes since the last Reset that
    precede the match, `MatchLen ≥ minMatch`, `Aux = 0`; and the `LitLen`s of a block do not
    exceed its literals.  (`pos` = stream bytes before the block.) -/
theorem C02_wellformed (k : Kind) (raw : Cfg) (s0 : Parser) (h0 : newParser k raw = some s0)
    (hH : HistHyp k s0) (ops : List POp) :
    let g := (runOps (s0, Ghost.init) ops).2
    LogAll (fun pos e => ∀ n fl blk, e = .block n fl blk →
      SeqsAll (SeqWF s0.buf.cfg.windowSize (mmOf k s0.cfg)) pos blk.seqs ∧
      litSum blk.seqs ≤ blk.lits.length) 0 g.log := by
  intro g
  have h := history_inv k raw s0 h0 hH ops
  refine LogAll.mono ?_ _ _ h.log
  intro pos e he n fl blk heq
  subst heq
  exact ⟨he.2.2.2.2.2.1, he.2.2.2.2.2.2.1⟩

/-- C03 at history level: the events tile the consumed stream without gap or overlap:
    the event starting at stream position `pos` has `1 ≤ n ≤ BlockSize`, a block expands
    `fed[0,pos)` to `fed[0,pos+n)` and represents `n = Block.Len` bytes; the `n` add up to
    `consumed`, which is `Off + W` of the model state and never exceeds what was fed. -/
theorem C03_contiguous (k : Kind) (raw : Cfg) (s0 : Parser) (h0 : newParser k raw = some s0)
    (hH : HistHyp k s0) (ops : List POp) :
    let sg := runOps (s0, Ghost.init) ops
    LogAll (fun pos e => 1 ≤ e.n ∧ e.n ≤ s0.buf.cfg.blockSize ∧ pos + e.n ≤ sg.2.fed.length ∧
      ∀ n fl blk, e = .block n fl blk →
        blk.len = n ∧ expand (sg.2.fed.take pos) blk = some (sg.2.fed.take (pos + n)) ∧
        (fl % 2 = 1 → blk.seqs ≠ [] →
          blk.lits.length = litSum blk.seqs ∧ n = seqsSpan blk.seqs)) 0 sg.2.log ∧
    logSpan sg.2.log = sg.2.consumed ∧
    sg.2.consumed = sg.1.buf.off + sg.1.buf.w ∧
    sg.2.consumed ≤ sg.2.fed.length := by
  intro sg
  have h := history_inv k raw s0 h0 hH ops
  refine ⟨LogAll.mono ?_ _ _ h.log, h.span, h.consumed, ?_⟩
  · intro pos e he
    cases e with
    | block n fl blk =>
      obtain ⟨a1, a2, a3, a4, a5, -, -, a8⟩ := he
      refine ⟨a1, a2, a3, ?_⟩
      intro n' fl' blk' heq
      cases heq
      exact ⟨a5, a4, a8⟩
    | skip b =>
      obtain ⟨a1, a2, a3, -⟩ := he
      exact ⟨a1, a2, a3, fun _ _ _ heq => by cases heq⟩
  · obtain ⟨dropped, hf, hdl⟩ := h.fed
    have := h.hw
    rw [h.consumed, hf]; simp; omega

/-- C14 at history level: a `Parse(nil)` at stream position `pos` skips exactly the next
    stream bytes `fed[pos, pos+n)`; together with `C01_roundtrip` / `C03_contiguous` the blocks
    parsed afterwards are correct for a decoder that received those bytes verbatim. -/
theorem C14_skip_verbatim (k : Kind) (raw : Cfg) (s0 : Parser) (h0 : newParser k raw = some s0)
    (hH : HistHyp k s0) (ops : List POp) :
    let g := (runOps (s0, Ghost.init) ops).2
    LogAll (fun pos e => ∀ b, e = .skip b →
      1 ≤ b.length ∧ b.length ≤ s0.buf.cfg.blockSize ∧ b = (g.fed.drop pos).take b.length) 0 g.log := by
  intro g
  have h := history_inv k raw s0 h0 hH ops
  refine LogAll.mono ?_ _ _ h.log
  intro pos e he b heq
  subst heq
  exact ⟨he.1, he.2.1, he.2.2.2⟩

/-- the buffer always holds the tail of the stream: `fed = dropped ++ Data`, `|dropped| = Off` -/
theorem stream_buffer (k : Kind) (raw : Cfg) (s0 : Parser) (h0 : newParser k raw = some s0)
    (hH : HistHyp k s0) (ops : List POp) :
    let sg := runOps (s0, Ghost.init) ops
    ∃ dropped, sg.2.fed = dropped ++ sg.1.buf.data ∧ dropped.length = sg.1.buf.off :=
  (history_inv k raw s0 h0 hH ops).fed

/-- Every state reachable from `NewParser` by any history satisfies the hypotheses of the
    parser-level theorems (`C01_C02_C03_parse`, `C19_right_maximal`, `C19_left_maximal`,
    `C14_parseNil`, `C14_drains`), so those hold for every call of every history. -/
theorem reachable_stateOK (k : Kind) (raw : Cfg) (s0 : Parser) (h0 : newParser k raw = some s0)
    (hk : k ≠ .OSAP) (ops : List POp) :
    StateOK (runOps (s0, Ghost.init) ops).1 ∧ Greedy (runOps (s0, Ghost.init) ops).1 := by
  have h := history_inv k raw s0 h0 (histHyp_of_ne k s0 hk) ops
  obtain ⟨-, hmm, hbs⟩ := newParser_inv k raw s0 h0
  refine ⟨⟨h.hw, ?_, ?_, h.cap⟩, ?_⟩
  · rw [minMatch_eq, h.kind, h.cfg]; exact hmm
  · rw [h.bcfg]; exact hbs
  · exact fun o ho => hk (h.dict.osap ho).1

/-! ## Non-vacuity -/

section Examples

/-- "abcabcabcab" -/
def exData : List Byte := [97, 98, 99, 97, 98, 99, 97, 98, 99, 97, 98]

def exCfg : Cfg :=
  { windowSize := 64, bufferSize := 64, blockSize := 32, shrinkSize := 16, inputLen := 3, hashBits := 4 }

/-- `NewParser` accepts the configuration for HP -/
example : (newParser .HP exCfg).isSome = true := by decide

/-- the HP state after `Write("abcabcabcab")` (fresh table) -/
def exState : Parser :=
  { kind := .HP, cfg := setDefaults .HP (exCfg.restrict .HP),
    buf := { data := exData, w := 0, off := 0, cap := 71,
             cfg := (setDefaults .HP (exCfg.restrict .HP)).bufCfg },
    dict := freshDict .HP (setDefaults .HP (exCfg.restrict .HP)) }

/-- the hypotheses of the parser-level theorems hold for a concrete state with unparsed data -/
example : StateOK exState ∧ Greedy exState ∧ exState.buf.w < exState.buf.data.length := by
  refine ⟨⟨by decide, by decide, by decide, Or.inr (by decide)⟩, ?_, by decide⟩
  intro o h; simp [exState, freshDict] at h

/-- … and for a state whose table is garbage (positions beyond the buffer, wrong values):
    the theorems do not care -/
def exGarbage : Parser :=
  { exState with dict := .single { tbl := Array.replicate 16 (1000, 7), inputLen := 3, hashBits := 4 } }

example : StateOK exGarbage ∧ Greedy exGarbage := by
  refine ⟨⟨by decide, by decide, by decide, Or.inr (by decide)⟩, ?_⟩
  intro o h; simp [exGarbage] at h

def exBlock : Block := ⟨[{ litLen := 3, matchLen := 8, offset := 3 }], [97, 98, 99]⟩

/-- a concrete HP parse evaluated inside the kernel (through the fuel-based copy of the loop,
    `greedyLoop_eq_fuel`): "abcabcabcab" ↦ 3 literals + one match of length 8, offset 3 -/
example : (exState.parse 0).2 = (11, .ok, exBlock) := by
  rw [parse_single exState 0 _ rfl (by decide) (marginOK_of_cap _ (Or.inr (by decide)) (by decide))]
  simp only [Parser.runGreedy_eq_F]
  decide +kernel

/-- "xabcdyabcdabcd" -/
def exData2 : List Byte := [120, 97, 98, 99, 100, 121, 97, 98, 99, 100, 97, 98, 99, 100]

def exBHP : Parser :=
  { kind := .BHP, cfg := setDefaults .BHP (exCfg.restrict .BHP),
    buf := { data := exData2, w := 0, off := 0, cap := 71,
             cfg := (setDefaults .BHP (exCfg.restrict .BHP)).bufCfg },
    dict := .single (HashT.new 3 4) }

/-- a concrete BHP parse with `NoTrailingLiterals`: two matches, the block ends with the last -/
example : (exBHP.parse 1).2 =
    (14, .ok, ⟨[⟨6, 4, 5, 0⟩, ⟨0, 4, 4, 0⟩], [120, 97, 98, 99, 100, 121]⟩) := by
  rw [parse_single exBHP 1 _ rfl (by decide) (marginOK_of_cap _ (Or.inr (by decide)) (by decide))]
  simp only [Parser.runGreedy_eq_F]
  decide +kernel

/-- GSAP on the same data with its suffix array already computed (`#eval gsapSort exData2 0`) -/
def exGSAP : Parser :=
  { kind := .GSAP, cfg := setDefaults .GSAP ({ exCfg with minMatchLen := 3 }.restrict .GSAP),
    buf := { data := exData2, w := 0, off := 0, cap := 71,
             cfg := (setDefaults .BHP (exCfg.restrict .BHP)).bufCfg },
    dict := .gsap { sa := #[10, 6, 1, 11, 7, 2, 12, 8, 3, 13, 9, 4, 0, 5],
                    isa := #[12, 2, 5, 8, 11, 13, 1, 4, 7, 10, 0, 3, 6, 9],
                    bits := Array.replicate 14 false } }

example : (exGSAP.parse 0).2 =
    (14, .ok, ⟨[⟨6, 4, 5, 0⟩, ⟨0, 4, 4, 0⟩], [120, 97, 98, 99, 100, 121]⟩) := by
  rw [parse_gsap exGSAP 0 _ rfl (by decide)]
  simp only [Parser.runGreedy_eq_F]
  decide +kernel

/-- garbage in the search structure may cost compression, never correctness: GSAP with a
    nonsensical "suffix array" (every rank points to position 1) still emits a block that
    round-trips — here with a different second offset (9 instead of 4) -/
def exGSAPbad : Parser :=
  { exGSAP with dict := .gsap { sa := Array.replicate 14 1, isa := Array.replicate 14 0,
                                bits := Array.replicate 14 true } }

def exBlockBad : Block := ⟨[⟨6, 4, 5, 0⟩, ⟨0, 4, 9, 0⟩], [120, 97, 98, 99, 100, 121]⟩

example : (exGSAPbad.parse 0).2 = (14, .ok, exBlockBad) := by
  rw [parse_gsap exGSAPbad 0 _ rfl (by decide)]
  simp only [Parser.runGreedy_eq_F]
  decide +kernel

example : expand [] exBlockBad = some exData2 := by decide

example : expand [] exBlock = some exData := by decide
example : exBlock.len = 11 := by decide
example : SeqsAll (SeqWF 64 3) 0 exBlock.seqs := by
  simp only [exBlock, SeqsAll, SeqWF]; decide
theorem exData_match : MatchOK exData 3 8 3 := by
  have := lcpLen_drop_matchOK exData 0 3 (by decide) (by decide)
  rwa [show lcpLen (exData.drop 0) (exData.drop 3) = 8 by decide] at this

example : MatchOK exData 3 8 3 := exData_match

/-- a genuine, maximal candidate: `lcpLen` of "abcabcabcab" at 0 and 3 is 8 -/
example : lcpLen (exData.drop 0) (exData.drop 3) = 8 := by decide

/-- a sound (non-empty) edge table for OSAP on the example data -/
example : EdgesSound exData 64 273 { edges := #[[], [], [], [(8, 3)]], start := 0, nEdges := 1 } := by
  intro idx e he
  rcases idx with _ | _ | _ | _ | idx <;> simp [Array.getD] at he
  · subst he
    exact ⟨exData_match, by decide, by decide⟩
  · obtain ⟨h, -⟩ := he
    omega

/-- an OSAP state with exactly that sound table; its `Parse` evaluated in the kernel
    (`decide +kernel`: kernel reduction only, no compiler, no extra axioms) -/
def exOSAP : Parser :=
  { kind := .OSAP,
    cfg := setDefaults .OSAP ({ exCfg with minMatchLen := 3, maxMatchLen := 20 }.restrict .OSAP),
    buf := { data := exData, w := 0, off := 0, cap := 71,
             cfg := (setDefaults .HP (exCfg.restrict .HP)).bufCfg },
    dict := .osap { edges := #[[], [], [], [(8, 3)], [], [], [], [], [], [], []],
                    start := 0, nEdges := 1 } }

theorem exOSAP_parse : (exOSAP.parse 0).2 = (11, .ok, exBlock) := by
  rw [parse_osap exOSAP 0 _ rfl (by decide)]
  decide +kernel

/-- the history theorems apply to a concrete history -/
example : ∃ s0, newParser .HP exCfg = some s0 ∧ HistHyp .HP s0 := by
  have h : (newParser .HP exCfg).isSome = true := by decide
  obtain ⟨s0, hs⟩ := Option.isSome_iff_exists.mp h
  exact ⟨s0, hs, histHyp_of_ne _ _ (by decide)⟩

end Examples

end LZ

/-! ## axioms -/
#print axioms LZ.probeOK_hp
#print axioms LZ.probeOK_dhp
#print axioms LZ.probeOK_bup
#print axioms LZ.probeOK_gsap
#print axioms LZ.C19_probe_right_maximal
#print axioms LZ.C19_probe_left_maximal
#print axioms LZ.greedyLoop_inv
#print axioms LZ.C01_C02_C03_block
#print axioms LZ.StateOK.parse_seqGood
#print axioms LZ.C03_parse_empty
#print axioms LZ.C01_C02_C03_parse
#print axioms LZ.C03_parse_empty_iff
#print axioms LZ.C02_gsap_offset_lt
#print axioms LZ.C19_right_maximal
#print axioms LZ.C19_left_maximal
#print axioms LZ.C01_osap_partial
#print axioms LZ.C03_osap_err
#print axioms LZ.reachable_stateOK
#print axioms LZ.exOSAP_parse
#print axioms LZ.C14_parseNil
#print axioms LZ.C14_drains
#print axioms LZ.history_inv
#print axioms LZ.C01_roundtrip
#print axioms LZ.C02_wellformed
#print axioms LZ.C03_contiguous
#print axioms LZ.C14_skip_verbatim
#print axioms LZ.stream_buffer
#print axioms LZ.lcpLen_le_min
#print axioms LZ.lcpLen_getElem?
#print axioms LZ.lcpLen_maximal
#print axioms LZ.lcpLen_drop_matchOK
#print axioms LZ.backExt_matchOK
#print axioms LZ.backExt_maximal
#print axioms LZ.Parser.parse_progress
#print axioms LZ.matchOK_iff_lcp
#print axioms LZ.CandForm.ok
#print axioms LZ.bupBest_spec
#print axioms LZ.greedyLoop_invariant
#print axioms LZ.runGreedy_ok
#print axioms LZ.Parser.parse_greedy_ok
#print axioms LZ.step_ghost
#print axioms LZ.runOps_logAll
#print axioms LZ.decode_of_logAll
