/-
  Lemmas shared by the theorems over the fourth part of the
  translator (tools/extract/code_part4.go): Go `int32` as Lean `Int32`, the abstraction of a
  `[]int32` slice value to the model's `Array Nat`, `append` of one element, slices of byte slices.  It imports no
  translated function.
-/
import LzModel.Generated.CodeGSlicePrelude
import LzModel.Generated.CodePart4Prelude
import LzProofs.GenHashPropsBase

set_option linter.unusedSimpArgs false
set_option linter.unusedVariables false

namespace LZ.GenSuffix
open LZ LZ.Gen LZ.GenBuf LZ.GenHash

/-! ## int32 -/

theorem i32_add (a b : Int32) (h1 : -2147483648 ≤ a.toInt + b.toInt) (h2 : a.toInt + b.toInt < 2147483648) :
    (a + b).toInt = a.toInt + b.toInt := by
  rw [Int32.toInt_add]
  rw [Int.bmod_eq_of_le] <;> omega

theorem i32_sub (a b : Int32) (h1 : -2147483648 ≤ a.toInt - b.toInt) (h2 : a.toInt - b.toInt < 2147483648) :
    (a - b).toInt = a.toInt - b.toInt := by
  rw [Int32.toInt_sub]
  rw [Int.bmod_eq_of_le] <;> omega

theorem i32_ofInt (n : Int) (h1 : -2147483648 ≤ n) (h2 : n < 2147483648) : (Int32.ofInt n).toInt = n :=
  Int32.toInt_ofInt_of_le (by omega) (by omega)

theorem i32_zero : (0 : Int32).toInt = 0 := by decide
theorem i32_one : (1 : Int32).toInt = 1 := by decide
theorem i32_neg_one : (-1 : Int32).toInt = -1 := by decide

/-! `int32` arithmetic on values known as natural numbers -/

theorem i32_ofNat (n : Nat) (h : n ≤ 2147483647) : (Int32.ofInt (n : Int)).toInt = n :=
  i32_ofInt _ (by omega) (by omega)

theorem i32_add_nat (a b : Int32) {x y : Nat} (ha : a.toInt = x) (hb : b.toInt = y)
    (h : x + y ≤ 2147483647) : (a + b).toInt = ((x + y : Nat) : Int) := by
  rw [i32_add _ _ (by omega) (by omega)]; omega

theorem i32_succ_nat (a : Int32) {x : Nat} (ha : a.toInt = x) (h : x < 2147483647) :
    (a + 1).toInt = ((x + 1 : Nat) : Int) :=
  i32_add_nat a 1 ha i32_one (by omega)

theorem i32_pred_nat (a : Int32) {x : Nat} (ha : a.toInt = x) (h : 1 ≤ x) :
    (a - 1).toInt = ((x - 1 : Nat) : Int) := by
  have := a.toInt_lt
  rw [i32_sub _ _ (by rw [i32_one]; omega) (by rw [i32_one]; omega), i32_one]; omega

theorem i32_eq_iff (a b : Int32) : a = b ↔ a.toInt = b.toInt := Int32.toInt_inj.symm
theorem i32_lt_iff (a b : Int32) : a < b ↔ a.toInt < b.toInt := Int32.lt_iff_toInt_lt
theorem i32_le_iff (a b : Int32) : a ≤ b ↔ a.toInt ≤ b.toInt := Int32.le_iff_toInt_le
theorem i32_gt_iff (a b : Int32) : a > b ↔ a.toInt > b.toInt := by
  show b < a ↔ _; rw [i32_lt_iff]
theorem i32_ge_iff (a b : Int32) : a ≥ b ↔ a.toInt ≥ b.toInt := by
  show b ≤ a ↔ _; rw [i32_le_iff]
theorem i32_range (a : Int32) : -2147483648 ≤ a.toInt ∧ a.toInt < 2147483648 :=
  ⟨by have := a.le_toInt; omega, by have := a.toInt_lt; omega⟩

/-! ## abstraction `[]int32` ↦ `Array Nat` -/

/-- an `int32` entry as the model's natural number (the theorems assume the entries non-negative) -/
def i32n (x : Int32) : Nat := x.toInt.toNat

/-- the elements of a `[]int32` slice value as the model's array -/
def absI32 (s : GSlice Int32) : Array Nat := (s.data.map i32n).toArray

/-- all elements (not the capacity tail) are non-negative -/
def NonNeg (s : GSlice Int32) : Prop := ∀ i, i < s.len → 0 ≤ ((s.arr[i]?).getD 0).toInt

theorem gdata_getElem? {α : Type} (s : GSlice α) (i : Nat) :
    s.data[i]? = if i < s.len then s.arr[i]? else none := by
  unfold GSlice.data
  rw [List.getElem?_take]

/-! ### element-wise abstractions `(s.data.map f).toArray` of a slice value -/

theorem gabs_size {α β : Type} (f : α → β) {s : GSlice α} (h : GWF s) : ((s.data.map f).toArray).size = s.len := by
  simp [gdata_length h]

theorem gabs_getElem? {α β : Type} (f : α → β) (z : α) {s : GSlice α} (h : GWF s) (i : Nat) (hi : i < s.len) :
    ((s.data.map f).toArray)[i]? = some (f ((s.arr[i]?).getD z)) := by
  unfold GWF at h
  have hl : i < s.arr.length := by omega
  simp [gdata_getElem?, hi, List.getElem?_eq_getElem hl]

theorem gabs_getElem?_none {α β : Type} (f : α → β) (s : GSlice α) (i : Nat) (hi : ¬ i < s.len) :
    ((s.data.map f).toArray)[i]? = none := by
  simp [gdata_getElem?, hi]

theorem gabs_getElem?_some {α β : Type} (f : α → β) (z : α) {s : GSlice α} (h : GWF s) (i : Nat) (x : β)
    (hx : ((s.data.map f).toArray)[i]? = some x) : i < s.len ∧ f ((s.arr[i]?).getD z) = x := by
  by_cases hi : i < s.len
  · rw [gabs_getElem? f z h i hi] at hx
    exact ⟨hi, Option.some.inj hx⟩
  · rw [gabs_getElem?_none f s i hi] at hx; cases hx

theorem gmem_of_lt {α : Type} {s : GSlice α} (h : GWF s) (i : Nat) (hi : i < s.len) (z : α) :
    (s.arr[i]?).getD z ∈ s.data := by
  have : s.data[i]? = some ((s.arr[i]?).getD z) := by
    rw [gdata_getElem?, if_pos hi]
    unfold GWF at h
    rw [List.getElem?_eq_getElem (by omega)]; rfl
  exact List.mem_of_getElem? this

theorem gset_data {α : Type} (s : GSlice α) (j : Nat) (v : α) :
    ({ s with arr := s.arr.set j v } : GSlice α).data = s.data.set j v := by
  unfold GSlice.data
  simp only
  rw [List.take_set]

theorem gabs_set {α β : Type} (f : α → β) (s : GSlice α) (j : Nat) (v : α) :
    ((({ s with arr := s.arr.set j v } : GSlice α).data.map f).toArray) =
      ((s.data.map f).toArray).setIfInBounds j (f v) := by
  rw [gset_data, List.map_set, List.setIfInBounds_toArray]

theorem absI32_size {s : GSlice Int32} (h : GWF s) : (absI32 s).size = s.len := gabs_size i32n h

theorem absI32_getElem? {s : GSlice Int32} (h : GWF s) (i : Nat) (hi : i < s.len) :
    (absI32 s)[i]? = some (i32n ((s.arr[i]?).getD 0)) := gabs_getElem? i32n 0 h i hi

theorem absI32_getElem?_none (s : GSlice Int32) (i : Nat) (hi : ¬ i < s.len) :
    (absI32 s)[i]? = none := gabs_getElem?_none i32n s i hi

theorem absI32_getD {s : GSlice Int32} (h : GWF s) (i : Nat) (hi : i < s.len) :
    (absI32 s).getD i 0 = i32n ((s.arr[i]?).getD 0) := by
  have := absI32_getElem? h i hi
  simp [Array.getD_eq_getD_getElem?, this]

theorem absI32_set (s : GSlice Int32) (j : Nat) (v : Int32) :
    absI32 { s with arr := s.arr.set j v } = (absI32 s).setIfInBounds j (i32n v) := gabs_set i32n s j v

/-! ## `x[:0]`, and "cut or make" -/

/-- `x[:0]` on any slice: no panic, the backing array kept -/
theorem gtrunc0_eq {α : Type} (x : GSlice α) : GSlice.slice x 0 (0 : Int) = Res.ok { arr := x.arr, len := 0 } :=
  gslice_ok x 0 (0 : Int) 0 0 rfl rfl (Nat.le_refl 0) (Nat.zero_le _)

theorem gtrunc0_wf {α : Type} (x : GSlice α) : GWF ({ arr := x.arr, len := 0 } : GSlice α) := Nat.zero_le _

theorem trunc0_abs (x : GSlice Int32) : absI32 ({ arr := x.arr, len := 0 } : GSlice Int32) = #[] := rfl

/-- `if c { x = x[:n] } else { x = make([]T, n) }`, where the test `c` (some spelling of `n ≤ cap(x)` or
    `n < cap(x)`) guarantees that `n` elements fit: either way a well-formed slice of length `n` -/
theorem resize_ok {α : Type} (z : α) (x : GSlice α) (n : Nat) (c : Prop) [Decidable c] (hc : c → n ≤ x.arr.length) :
    ∃ y : GSlice α, GWF y ∧ y.len = n ∧ ∀ {β : Type} (k : GSlice α → Res β),
      (if c then (GSlice.slice x 0 (n : Int)).bind k else (GSlice.make z (n : Int) (n : Int)).bind k) = k y := by
  by_cases h : c
  · refine ⟨{ arr := x.arr.drop 0, len := n - 0 }, hc h, rfl, fun k => ?_⟩
    rw [if_pos h, gslice_ok x 0 _ 0 n rfl rfl (Nat.zero_le _) (hc h), bind_ok]
  · refine ⟨{ arr := List.replicate n z, len := n }, gwf_make z (Nat.le_refl n), rfl, fun k => ?_⟩
    rw [if_neg h, gmake_ok z _ _ n n rfl rfl (Nat.le_refl _), bind_ok]

theorem gset_wf {α : Type} {s : GSlice α} (h : GWF s) (j : Nat) (v : α) :
    GWF { s with arr := s.arr.set j v } := by
  unfold GWF at *; simpa using h

theorem nonNeg_set {s : GSlice Int32} (h : NonNeg s) (j : Nat) (v : Int32) (hv : 0 ≤ v.toInt) :
    NonNeg { s with arr := s.arr.set j v } := by
  intro i hi
  have := h i hi
  simp only [List.getElem?_set]
  by_cases hji : j = i
  · subst hji
    by_cases hl : j < s.arr.length
    · simpa [hl] using hv
    · simpa [hl] using (by decide : (0:Int) ≤ (0 : Int32).toInt)
  · simpa [hji] using this

theorem drop_set_lt {α : Type} (l : List α) (j n : Nat) (v : α) (h : j < n) : (l.set j v).drop n = l.drop n := by
  rw [List.drop_set, if_pos h]

/-- `append(s, x)`: the elements, whether or not the capacity sufficed -/
theorem gappend_data {α : Type} (z : α) (g : Nat → Nat → Nat) (s : GSlice α) (h : GWF s) (x : α) :
    (GSlice.append z g s [x]).data = s.data ++ [x] ∧ GWF (GSlice.append z g s [x]) := by
  unfold GWF at h
  have hl : (s.arr.take s.len ++ [x]).length = s.len + 1 := by simp [List.length_take]; omega
  unfold GSlice.append GSlice.cap GSlice.data GWF
  simp only [List.length_singleton]
  by_cases hc : s.len + 1 ≤ s.arr.length
  · simp only [hc, if_true]
    exact ⟨List.take_left' hl, by simp; omega⟩
  · simp only [hc, if_false]
    exact ⟨List.take_left' hl, by simp; omega⟩

/-! ## byte slices -/

theorem bslice_tail (t : Slice) (ht : SWF t) (k : Int) (a : Nat) (hk : k = (a : Int)) (ha : a ≤ t.len) :
    ∃ p, Slice.slice t k (Int.ofNat t.len) = Res.ok p ∧ p.data = t.data.drop a := by
  subst hk
  unfold SWF at ht
  have := slice_ok t a t.len ha ht
  refine ⟨_, this, ?_⟩
  simp only [Slice.data]
  rw [List.drop_take]

end LZ.GenSuffix
