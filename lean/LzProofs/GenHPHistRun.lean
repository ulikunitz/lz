/-
  HISTORIES of translated operations of the hash parser HP, and C01–C03 stated about the translation of the Go
  text: the hand model does not occur in those statements (only the reference decoder `decode`/`expand` and the
  record `Ghost`).

  `GOp`    one call on a Go `*hashParser`: `Write(p)`, `Parse(&blk, flags)`, `Shrink()`, `Reset(data)` — the methods of
           `hashParser` that `tools/extract` translates (LzProofs/GenHPHist.lean explains the promotion through the
           embedded structs; `ReadFrom` is added in GenHPHistRF2, `Parse(nil, …)` in GenHPHistNil).
           The arguments are Go VALUES: `p`, `data : Gen.Slice` (backing array and length, so `cap(data)` is what it is
           in Go), `blk : Gen.Block'` (the block the caller passes in, with whatever it holds), `flags : Int`.
  `GRes`   what the call returns (and, for `Parse`, the block after the call).
  `runG grow fuel s ops`   executes the TRANSLATED functions one after the other, threading the Go state; `grow` is the
           capacity policy of `append`, `fuel` the bound handed to the loops of `Parse`.
  `GOp.WF` the domain: slices have `len ≤ cap` (every Go slice has), `flags ≥ 0` (the model's flags are natural
           numbers; `Parse` tests `flags&1`).
  `ghostRun`  the bookkeeping of C01 computed from the Go calls and the Go results alone: the bytes accepted since the
           last successful `Reset`, the sum of the `n` of the successful `Parse` calls, the blocks they returned
           (`ofBlock`: the fields of `Seq` as natural numbers).

  `runG` is the generic `GenHist.run` of LzProofs/GenHistMachine.lean on the machine `stepG` (`runG_eq`), `ghostRun` /
  `ResultsAgree` are the generic ones for the calls `calls` (`ghostRun_eq`, `resultsAgree_eq`); so the history theorems
  are `GenHist.run_sim` / `run_states` once one call is simulated.

-/
import LzProofs.GenHPHist

set_option linter.unusedSimpArgs false
set_option linter.unusedVariables false

namespace LZ.GenHPHist
open LZ LZ.Gen LZ.GenBuf LZ.GenHash LZ.GenHPParse LZ.GenProps
open LZ.GenHist (HistInv WriteRel ParseRel ShrinkRel ResetRel)

/-- one call on a Go `*hashParser` -/
inductive GOp where
  | write (p : Slice)
  | parse (blk : Gen.Block') (flags : Int)
  | shrink
  | reset (data : Slice)
deriving Repr

/-- what the call returned -/
inductive GRes where
  | write (n : Int) (err : Gen.Err)
  | parse (blk : Gen.Block') (n : Int) (err : Gen.Err)
  | shrink (delta : Int)
  | reset (err : Gen.Err)
deriving Repr, DecidableEq

/-- the domain of the theorems: Go slices have `len ≤ cap`; `flags ≥ 0` -/
def GOp.WF : GOp → Prop
  | .write p => SWF p
  | .parse _ flags => 0 ≤ flags
  | .shrink => True
  | .reset data => SWF data

/-- one call, on the translated functions -/
def stepG (grow : Nat → Nat → Nat) (fuel : Nat) (s : Gen.hashParser) : GOp → Res (Gen.hashParser × GRes)
  | .write p => Res.bind (hp_Write grow s p) fun r => Res.ok (r.1, .write r.2.1 r.2.2)
  | .parse blk flags =>
    Res.bind (hashParser_Parse grow fuel s blk flags) fun r => Res.ok (r.1, .parse r.2.1 r.2.2.1 r.2.2.2)
  | .shrink => Res.bind (hp_Shrink s) fun r => Res.ok (r.1, .shrink r.2)
  | .reset data => Res.bind (hp_Reset s data) fun r => Res.ok (r.1, .reset r.2)

/-- a history of calls; the results in order -/
def runG (grow : Nat → Nat → Nat) (fuel : Nat) : Gen.hashParser → List GOp → Res (Gen.hashParser × List GRes)
  | s, [] => Res.ok (s, [])
  | s, op :: ops =>
    Res.bind (stepG grow fuel s op) fun r =>
    Res.bind (runG grow fuel r.1 ops) fun q => Res.ok (q.1, r.2 :: q.2)

/-- the model operation a Go call stands for -/
def GOp.abs : GOp → POp
  | .write p => .write p.data
  | .parse _ flags => .parse flags.toNat
  | .shrink => .shrink
  | .reset data => .reset data.data (data.cap - data.len)

/-- the result of one Go call equals the result of the model operation on the model state `m` -/
def resAgree (m : Parser) : GOp → GRes → Prop
  | .write p, .write n e => n = ((m.write p.data).2.1 : Int) ∧ errOf e = some (m.write p.data).2.2
  | .parse _ flags, .parse blk' n e =>
    n = ((m.parse flags.toNat).2.1 : Int) ∧ e = parseErr (m.parse flags.toNat).2.2.1 ∧
    ofBlock blk' = (m.parse flags.toNat).2.2.2 ∧ SWF blk'.Literals
  | .shrink, .shrink d => d = (m.shrink.2 : Int)
  | .reset data, .reset e => errOfReset e = some (m.reset data.data (data.cap - data.len)).2
  | _, _ => False

def ResultsAgree : Parser × Ghost → List GOp → List GRes → Prop
  | _, [], [] => True
  | sg, op :: ops, r :: rs => resAgree sg.1 op r ∧ ResultsAgree (step sg op.abs) ops rs
  | _, _, _ => False

/-- the C01 bookkeeping from the Go calls and results alone -/
def ghostStep (g : Ghost) : GOp → GRes → Ghost
  | .write p, .write n _ => { g with fed := g.fed ++ p.data.take n.toNat }
  | .parse _ flags, .parse blk' n e =>
    if e = Gen.Err.ok then
      { g with consumed := g.consumed + n.toNat, log := g.log ++ [.block n.toNat flags.toNat (ofBlock blk')] }
    else g
  | .reset data, .reset e => if e = Gen.Err.ok then { fed := data.data, consumed := 0, log := [] } else g
  | _, _ => g

def ghostRun : Ghost → List GOp → List GRes → Ghost
  | g, op :: ops, r :: rs => ghostRun (ghostStep g op r) ops rs
  | g, _, _ => g

/-! ## the calls as a `GenHist.Calls`; one step -/

def calls : GenHist.Calls GOp GRes := ⟨GOp.WF, GOp.abs, ghostStep, resAgree⟩

theorem ghostRun_eq : ghostRun = calls.ghostRun :=
  GenHist.ghostRun_unique (fun _ _ _ _ _ => rfl) (fun _ _ => rfl) (fun _ _ _ => rfl)

theorem resultsAgree_eq : ResultsAgree = calls.ResultsAgree :=
  GenHist.resultsAgree_unique (fun _ _ _ _ _ => rfl) (fun _ => rfl) (fun _ _ _ => rfl) (fun _ _ _ => rfl)

theorem parseErr_ok_iff (e : LZ.Err) (h : e = .ok ∨ e = .empty) : parseErr e = Gen.Err.ok ↔ e = .ok := by
  rcases h with rfl | rfl
  · exact ⟨fun _ => rfl, fun _ => rfl⟩
  · constructor
    · intro hc; exact absurd hc (by decide)
    · intro hc; cases hc

/-! the bookkeeping `ghostStep` computes from a call and its result alone is the model's, for results that are the model's -/

theorem ghost_write (m : Parser) (gh : Ghost) (p : Slice) (n : Int) (e : Gen.Err)
    (hn : n = ((m.write p.data).2.1 : Int)) :
    ghostStep gh (.write p) (.write n e) = (step (m, gh) (.write p.data)).2 := by
  simp only [ghostStep, step, hn, Int.toNat_natCast]

theorem ghost_parse (m : Parser) (gh : Ghost) (blk blk' : Gen.Block') (flags : Int)
    (hb : ofBlock blk' = (m.parse flags.toNat).2.2.2)
    (he : (m.parse flags.toNat).2.2.1 = .ok ∨ (m.parse flags.toNat).2.2.1 = .empty) :
    ghostStep gh (.parse blk flags) (.parse blk' ((m.parse flags.toNat).2.1 : Int) (parseErr (m.parse flags.toNat).2.2.1)) =
      (step (m, gh) (.parse flags.toNat)).2 := by
  simp only [ghostStep, step, parseErr_ok_iff _ he, Int.toNat_natCast, hb]
  split <;> rfl

theorem ghost_reset (m : Parser) (gh : Ghost) (data : Slice) (e : Gen.Err)
    (he : errOfReset e = some (m.reset data.data (data.cap - data.len)).2) :
    ghostStep gh (.reset data) (.reset e) = (step (m, gh) (.reset data.data (data.cap - data.len))).2 := by
  simp only [ghostStep, step, errOfReset_ok he]
  split <;> rfl

/-- the machine over `GOp` of four methods -/
def stepOf {σ : Type} (wr : σ → Slice → Res (σ × Int × Gen.Err))
    (pa : σ → Gen.Block' → Int → Res (σ × Gen.Block' × Int × Gen.Err)) (sh : σ → Res (σ × Int))
    (rs : σ → Slice → Res (σ × Gen.Err)) (s : σ) : GOp → Res (σ × GRes)
  | .write p => Res.bind (wr s p) fun r => Res.ok (r.1, .write r.2.1 r.2.2)
  | .parse blk flags => Res.bind (pa s blk flags) fun r => Res.ok (r.1, .parse r.2.1 r.2.2.1 r.2.2.2)
  | .shrink => Res.bind (sh s) fun r => Res.ok (r.1, .shrink r.2)
  | .reset data => Res.bind (rs s data) fun r => Res.ok (r.1, .reset r.2)

/-- A machine over `GOp` whose four methods `wr`, `pa`, `sh`, `rs` are simulated by the model's `write`, `parse`,
    `shrink`, `reset` under `Rel` is simulated call by call; `Q` is kept by every model step and gives `Parse` its `P`. -/
theorem stepRel_G {σ : Type} {Rel : σ → Parser → Prop} {Q : Parser × Ghost → Prop} {P : Parser → Prop}
    {stp : σ → GOp → Res (σ × GRes)}
    {wr : σ → Slice → Res (σ × Int × Gen.Err)} {pa : σ → Gen.Block' → Int → Res (σ × Gen.Block' × Int × Gen.Err)}
    {sh : σ → Res (σ × Int)} {rs : σ → Slice → Res (σ × Gen.Err)}
    (hQ : ∀ sg op, Q sg → Q (step sg op)) (hP : ∀ sg, Q sg → P sg.1)
    (hw : WriteRel Rel wr) (hp : ParseRel Rel P pa) (hs : ShrinkRel Rel sh) (hr : ResetRel Rel rs)
    (ew : ∀ s p, stp s (.write p) = Res.bind (wr s p) fun r => Res.ok (r.1, .write r.2.1 r.2.2))
    (ep : ∀ s blk flags, stp s (.parse blk flags) =
      Res.bind (pa s blk flags) fun r => Res.ok (r.1, .parse r.2.1 r.2.2.1 r.2.2.2))
    (es : ∀ s, stp s .shrink = Res.bind (sh s) fun r => Res.ok (r.1, .shrink r.2))
    (er : ∀ s data, stp s (.reset data) = Res.bind (rs s data) fun r => Res.ok (r.1, .reset r.2)) :
    GenHist.StepSim calls stp (HistInv Rel Q) := by
  rintro t ⟨m, g⟩ op ⟨h, hq⟩ hop
  cases op with
  | write p =>
    obtain ⟨t', n, e, h1, h2, h3, h4⟩ := hw t m p h hop
    exact ⟨t', .write n e, by rw [ew, h1]; rfl, ⟨h2, hQ _ _ hq⟩, ghost_write m g p n e h3, h3, h4⟩
  | parse blk flags =>
    obtain ⟨t', blk', h1, h2, h3, h4, h5⟩ := hp t m blk flags h (hP _ hq) hop
    exact ⟨t', .parse blk' _ _, by rw [ep, h1]; rfl, ⟨(step_parse_fst (m, g) flags.toNat).symm ▸ h2, hQ _ _ hq⟩,
      ghost_parse m g blk blk' flags h3 h5, rfl, rfl, h3, h4⟩
  | shrink =>
    obtain ⟨t', h1, h2⟩ := hs t m h
    exact ⟨t', .shrink _, by rw [es, h1]; rfl, ⟨h2, hQ _ _ hq⟩, rfl, rfl⟩
  | reset data =>
    obtain ⟨t', e, h1, h2, h3⟩ := hr t m data h hop
    exact ⟨t', .reset e, by rw [er, h1]; rfl,
      ⟨(step_reset_fst (m, g) data.data (data.cap - data.len)).symm ▸ h2, hQ _ _ hq⟩, ghost_reset m g data e h3, h3⟩

/-! ## histories of HP -/

theorem runG_eq (grow : Nat → Nat → Nat) (fuel : Nat) : runG grow fuel = GenHist.run (stepG grow fuel) :=
  GenHist.run_unique (fun _ => rfl) (fun _ _ _ => rfl)

theorem stepG_sim {bc : BufCfg} (hbc : BCOK bc) (grow : Nat → Nat → Nat) (fuel : Nat) (hfuel : bc.bufferSize + 3 ≤ fuel) :
    GenHist.StepSim calls (stepG grow fuel) (GenHist.FInv (HistOK bc) ofHPs) :=
  stepRel_G (fun _ _ _ => trivial) (fun _ _ => trivial) (hist_write hbc grow) (hist_parse hbc grow fuel hfuel)
    (hist_shrink hbc) (hist_reset hbc) (fun _ _ => rfl) (fun _ _ _ => rfl) (fun _ => rfl) (fun _ _ => rfl)

theorem runG_sim {bc : BufCfg} (hbc : BCOK bc) (grow : Nat → Nat → Nat) (fuel : Nat) (hfuel : bc.bufferSize + 3 ≤ fuel)
    (ops : List GOp) (t : Gen.hashParser) (sg : Parser × Ghost) (h : GenHist.FInv (HistOK bc) ofHPs t sg)
    (hwf : ∀ op ∈ ops, op.WF) :
    ∃ t' rs, runG grow fuel t ops = Res.ok (t', rs) ∧ GenHist.FInv (HistOK bc) ofHPs t' (runOps sg (ops.map GOp.abs)) ∧
      ghostRun sg.2 ops rs = (runOps sg (ops.map GOp.abs)).2 ∧ ResultsAgree sg ops rs := by
  rw [runG_eq, ghostRun_eq, resultsAgree_eq]
  exact GenHist.run_sim (stepG_sim hbc grow fuel hfuel) ops t sg h hwf

/-- what `hashParser.init` establishes, with the fuel bound in the model's terms -/
theorem init_inv (cfg : Gen.HPConfig) (s0 : Gen.hashParser)
    (hinit : hashParser_init default cfg = Res.ok (s0, Gen.Err.ok)) (fuel : Nat)
    (hfuel : s0.hashDictionary.ParserBuffer.BufConfig.BufferSize.toNat + 3 ≤ fuel) :
    ∃ p, newParser .HP (ofHP cfg) = some p ∧ BCOK p.buf.cfg ∧ p.buf.cfg.bufferSize + 3 ≤ fuel ∧
      GenHist.FInv (HistOK p.buf.cfg) ofHPs s0 (p, Ghost.init) := by
  obtain ⟨p, hp, h2, hbc, hH⟩ := hist_init cfg s0 hinit
  exact ⟨p, hp, hbc, by rw [← hH.cfg]; exact hfuel, ⟨hH, h2⟩, trivial⟩

/-- `hashParser.init(cfg)` on `new(hashParser)` returned `nil`; then for every history of
    well-formed calls the translated functions never panic and never run out of fuel, the state reached satisfies
    `ParseOK`, abstracts to the state the model reaches from `NewParser` with the abstracted history, and every
    returned value — `n`, the error, the block — is the model's. -/
theorem gen_hp_history (cfg : Gen.HPConfig) (s0 : Gen.hashParser)
    (hinit : hashParser_init default cfg = Res.ok (s0, Gen.Err.ok))
    (grow : Nat → Nat → Nat) (fuel : Nat)
    (hfuel : s0.hashDictionary.ParserBuffer.BufConfig.BufferSize.toNat + 3 ≤ fuel)
    (ops : List GOp) (hwf : ∀ op ∈ ops, op.WF) :
    ∃ p t rs, newParser .HP (ofHP cfg) = some p ∧ ofHPs s0 = p ∧
      runG grow fuel s0 ops = Res.ok (t, rs) ∧ ParseOK t ∧
      ofHPs t = (runOps (p, Ghost.init) (ops.map GOp.abs)).1 ∧
      ghostRun Ghost.init ops rs = (runOps (p, Ghost.init) (ops.map GOp.abs)).2 ∧
      ResultsAgree (p, Ghost.init) ops rs := by
  obtain ⟨p, hp, hbc, hf, h0⟩ := init_inv cfg s0 hinit fuel hfuel
  obtain ⟨t, rs, k1, ⟨⟨k2, k3⟩, -⟩, k4, k5⟩ := runG_sim hbc grow fuel hf ops s0 _ h0 hwf
  exact ⟨p, t, rs, hp, h0.1.2, k1, k2.pok, k3, k4, k5⟩

/-- … and `ParseOK` holds in EVERY state the history passes through: after every prefix `ops.take k` the run is
    `Res.ok` with a state satisfying `ParseOK`, and the whole run continues from that state. -/
theorem gen_hp_history_states (cfg : Gen.HPConfig) (s0 : Gen.hashParser)
    (hinit : hashParser_init default cfg = Res.ok (s0, Gen.Err.ok))
    (grow : Nat → Nat → Nat) (fuel : Nat)
    (hfuel : s0.hashDictionary.ParserBuffer.BufConfig.BufferSize.toNat + 3 ≤ fuel)
    (ops : List GOp) (hwf : ∀ op ∈ ops, op.WF) (k : Nat) :
    ∃ tk rk t rs', runG grow fuel s0 (ops.take k) = Res.ok (tk, rk) ∧ ParseOK tk ∧
      runG grow fuel tk (ops.drop k) = Res.ok (t, rs') ∧ runG grow fuel s0 ops = Res.ok (t, rk ++ rs') := by
  obtain ⟨p, -, hbc, hf, h0⟩ := init_inv cfg s0 hinit fuel hfuel
  rw [runG_eq]
  obtain ⟨tk, rk, t, rs', k1, k2, j1, j2⟩ := GenHist.run_states (stepG_sim hbc grow fuel hf) ops s0 _ h0 hwf k
  exact ⟨tk, rk, t, rs', k1, k2.1.1.pok, j1, j2⟩

/-! ## the property theorems about the translation -/

/-- C01 about the Go text of HP.  `cfg` is any configuration for which the translated `hashParser.init`, called
    on the zero value, returns `nil`.  Run any history of `Write(p)`, `Parse(&blk, flags)`, `Shrink()`, `Reset(data)`
    (slices with `len ≤ cap`, `flags ≥ 0`) on the TRANSLATED functions, with any capacity policy for `append` and any
    `fuel ≥ BufferSize + 3`.  Then no call panics or runs out of fuel, and the reference decoder, applied to the blocks
    the translated `Parse` returned since the last successful `Reset`, yields exactly the first `consumed` bytes of
    what the translated `Write` / `Reset` accepted since then, `consumed` = the sum of the returned `n`. -/
theorem C01_go_text_hp (cfg : Gen.HPConfig) (s0 : Gen.hashParser)
    (hinit : hashParser_init default cfg = Res.ok (s0, Gen.Err.ok))
    (grow : Nat → Nat → Nat) (fuel : Nat)
    (hfuel : s0.hashDictionary.ParserBuffer.BufConfig.BufferSize.toNat + 3 ≤ fuel)
    (ops : List GOp) (hwf : ∀ op ∈ ops, op.WF) :
    ∃ t rs, runG grow fuel s0 ops = Res.ok (t, rs) ∧
      decode [] (ghostRun Ghost.init ops rs).log =
        some ((ghostRun Ghost.init ops rs).fed.take (ghostRun Ghost.init ops rs).consumed) := by
  obtain ⟨p, t, rs, hp, -, h1, -, -, h4, -⟩ := gen_hp_history cfg s0 hinit grow fuel hfuel ops hwf
  exact ⟨t, rs, h1, GenHist.C01_ghost hp (histHyp_of_ne .HP p (by decide)) h4⟩

/-- C02 about the Go text of HP: every sequence of every block the translated `Parse` returned has
    `1 ≤ Offset ≤ WindowSize`, `Offset ≤` the stream bytes before its match, `MatchLen ≥ min(3, InputLen)`, `Aux = 0`,
    and the `LitLen`s of a block do not exceed its literals. -/
theorem C02_go_text_hp (cfg : Gen.HPConfig) (s0 : Gen.hashParser)
    (hinit : hashParser_init default cfg = Res.ok (s0, Gen.Err.ok))
    (grow : Nat → Nat → Nat) (fuel : Nat)
    (hfuel : s0.hashDictionary.ParserBuffer.BufConfig.BufferSize.toNat + 3 ≤ fuel)
    (ops : List GOp) (hwf : ∀ op ∈ ops, op.WF) :
    ∃ t rs, runG grow fuel s0 ops = Res.ok (t, rs) ∧
      LogAll (fun pos e => ∀ n fl blk, e = .block n fl blk →
        SeqsAll (SeqWF s0.hashDictionary.ParserBuffer.BufConfig.WindowSize.toNat
          (Min.min 3 s0.HPConfig.InputLen.toNat)) pos blk.seqs ∧
        litSum blk.seqs ≤ blk.lits.length) 0 (ghostRun Ghost.init ops rs).log := by
  obtain ⟨p, t, rs, hp, h0, h1, -, -, h4, -⟩ := gen_hp_history cfg s0 hinit grow fuel hfuel ops hwf
  subst h0
  exact ⟨t, rs, h1, GenHist.C02_ghost hp (histHyp_of_ne .HP _ (by decide)) h4⟩

/-- C03 about the Go text of HP: the blocks tile the consumed stream — each has `1 ≤ n ≤ BlockSize`, represents
    exactly `n` bytes (`Block.Len`), expands the stream up to its start to the stream up to its end; the `n` add up
    to `consumed`, which never exceeds what was fed. -/
theorem C03_go_text_hp (cfg : Gen.HPConfig) (s0 : Gen.hashParser)
    (hinit : hashParser_init default cfg = Res.ok (s0, Gen.Err.ok))
    (grow : Nat → Nat → Nat) (fuel : Nat)
    (hfuel : s0.hashDictionary.ParserBuffer.BufConfig.BufferSize.toNat + 3 ≤ fuel)
    (ops : List GOp) (hwf : ∀ op ∈ ops, op.WF) :
    ∃ t rs, runG grow fuel s0 ops = Res.ok (t, rs) ∧
      let g := ghostRun Ghost.init ops rs
      LogAll (fun pos e => 1 ≤ e.n ∧ e.n ≤ s0.hashDictionary.ParserBuffer.BufConfig.BlockSize.toNat ∧
        pos + e.n ≤ g.fed.length ∧
        ∀ n fl blk, e = .block n fl blk →
          blk.len = n ∧ expand (g.fed.take pos) blk = some (g.fed.take (pos + n)) ∧
          (fl % 2 = 1 → blk.seqs ≠ [] → blk.lits.length = litSum blk.seqs ∧ n = seqsSpan blk.seqs)) 0 g.log ∧
      logSpan g.log = g.consumed ∧ g.consumed ≤ g.fed.length := by
  obtain ⟨p, t, rs, hp, h0, h1, -, -, h4, -⟩ := gen_hp_history cfg s0 hinit grow fuel hfuel ops hwf
  subst h0
  exact ⟨t, rs, h1, GenHist.C03_ghost hp (histHyp_of_ne .HP _ (by decide)) h4⟩

end LZ.GenHPHist

#print axioms LZ.GenHPHist.stepRel_G
#print axioms LZ.GenHPHist.stepG_sim
#print axioms LZ.GenHPHist.runG_sim
#print axioms LZ.GenHPHist.gen_hp_history
#print axioms LZ.GenHPHist.gen_hp_history_states
#print axioms LZ.GenHPHist.C01_go_text_hp
#print axioms LZ.GenHPHist.C02_go_text_hp
#print axioms LZ.GenHPHist.C03_go_text_hp
