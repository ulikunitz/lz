/-
  LzProofs.GenBufPropsDCopy — the copy loops of the DecoderBuffer (they rest on D01–D07 in GenBufPropsD): the
  hand-written model `DecBuf` (LzModel/DecBuf.lean) equals the code that `tools/extract -code` regenerates from
  decoder_buffer.go (LzModel/Generated/CodeDBufCopy.lean), for every fuel above the match lengths involved.

  Index:
    D08 gen_dbuf_writeMatch (the doubling loop: `loop_spec`; loop + remainder: `copyTail_spec`)
    D09 gen_dbuf_writeBlock (range loop with `goto end`: `wb_loop_step`, `wb_loop_spec`; after the loop: `DecBuf.blockExit`)
    D10 gen_dbuf_lenInv / gen_dbuf_init_lenInv (the invariant `len(Data) ≤ BufferSize` of D08/D09)
    writeMatch_discrepancy (a concrete state outside of that invariant on which code and model differ)
  `room_spec` is the "make room" step (`shrink` when the bytes do not fit, then the test again) that `WriteMatch` and
  the sequence loop share; the model's counterpart is `DecBuf.room` (DecBufLemmas).
  The lemmas `gen_*_unfold`, `loop_unfold`, `wb_loop_cons`, `wb_loop_nil`, `wb_loop2_eq` state the syntactic shape of
  the generated definitions (proved by `rfl`/unfolding); they are the first thing that breaks when the Go source
  changes.  All names live in `LZ.GenBuf`.
-/
import LzModel.Generated.CodeDBufCopy
import LzProofs.GenBufPropsD

set_option linter.unusedSimpArgs false
set_option linter.unusedVariables false

namespace LZ.GenBuf
open LZ LZ.Gen

theorem loop_unfold (grow : Nat → Nat → Nat) (fuel : Nat) (b : DecoderBuffer) (n off : Int) :
    DecoderBuffer_WriteMatch_loop_1 grow (fuel + 1) b n off =
      if n > off then
        Res.bind (Slice.slice b.Data ((Int.ofNat b.Data.len) - off) (Int.ofNat b.Data.len)) fun t =>
          if n - off ≤ off then Res.ok ({ b with Data := Slice.append grow b.Data t.data }, n - off, off)
          else DecoderBuffer_WriteMatch_loop_1 grow fuel { b with Data := Slice.append grow b.Data t.data } (n - off) (off * (2 : Int) ^ 1)
      else Res.ok (b, n, off) := rfl

/-- the doubling loop: with `off ≤ len(Data)` (`off = 0` only for `n = 0`, where the loop does nothing) and fuel above
    `n` the generated loop neither panics nor runs out of fuel, and is the model's `copyLoop` -/
theorem loop_spec (g : Nat → Nat → Nat) (hg : GrowOK g) :
    ∀ (fuel : Nat) (b : DecoderBuffer) (n off : Nat), SWF b.Data → (off = 0 → n = 0) → off ≤ b.Data.len → n < fuel →
    ∃ b', DecoderBuffer_WriteMatch_loop_1 g fuel b (n : Int) (off : Int) =
        Res.ok (b', ((DecBuf.copyLoop g (ofDB b) n off).2.1 : Int), ((DecBuf.copyLoop g (ofDB b) n off).2.2 : Int)) ∧
      ofDB b' = (DecBuf.copyLoop g (ofDB b) n off).1 ∧ SWF b'.Data ∧
      b'.R = b.R ∧ b'.Off = b.Off ∧ b'.DecoderConfig = b.DecoderConfig ∧
      ((DecBuf.copyLoop g (ofDB b) n off).2.2 ≤ b'.Data.len) ∧
      ((DecBuf.copyLoop g (ofDB b) n off).2.1 ≤ (DecBuf.copyLoop g (ofDB b) n off).2.2) := by
  intro fuel
  induction fuel with
  | zero => intro b n off _ _ _ hf; omega
  | succ fuel ih =>
    intro b n off hd h0 hol hf
    rw [loop_unfold, DecBuf.copyLoop_def]
    by_cases hn : n > off
    · have hn' : (n : Int) > (off : Int) := by omega
      have hn'' : n > off ∧ off > 0 := ⟨hn, by omega⟩
      simp only [hn', hn'', and_self, if_true, Int.ofNat_eq_natCast]
      have hsub : (b.Data.len : Int) - (off : Int) = ((b.Data.len - off : Nat) : Int) := by omega
      rw [hsub, slice_ok _ _ _ (by omega) hd]
      simp only [bind_ok]
      have ht : ({ arr := List.drop (b.Data.len - off) b.Data.arr, len := b.Data.len - (b.Data.len - off) } : Slice).data
          = (ofDB b).data.drop ((ofDB b).data.length - off) := by
        have hl : (ofDB b).data.length = b.Data.len := data_length hd
        rw [hl]
        simp only [Slice.data, ofDB, List.drop_take]
      rw [ht]
      obtain ⟨a1, a2, a3⟩ := db_append g hg b hd ((ofDB b).data.drop ((ofDB b).data.length - off))
      have hdl : ((ofDB b).data.drop ((ofDB b).data.length - off)).length = off := by
        have hl : (ofDB b).data.length = b.Data.len := data_length hd
        simp only [List.length_drop, hl]; omega
      rw [hdl] at a3
      by_cases h2 : n - off ≤ off
      · have h2' : (n : Int) - (off : Int) ≤ (off : Int) := by omega
        have hc : (n : Int) - (off : Int) = ((n - off : Nat) : Int) := by omega
        rw [if_pos h2, if_pos h2', hc]
        refine ⟨_, rfl, a1, a2, rfl, rfl, rfl, ?_, h2⟩
        show off ≤ (Slice.append g b.Data _).len
        rw [a3]; omega
      · have h2' : ¬ (n : Int) - (off : Int) ≤ (off : Int) := by omega
        simp only [h2, h2', if_false]
        have hc : (n : Int) - (off : Int) = ((n - off : Nat) : Int) := by omega
        have hc2 : (off : Int) * (2 : Int) ^ 1 = ((off * 2 : Nat) : Int) := by
          rw [Int.pow_succ, Int.pow_zero]; omega
        rw [hc, hc2]
        obtain ⟨b', e1, e2, e3, e4, e5, e6, e7, e8⟩ :=
          ih { b with Data := Slice.append g b.Data ((ofDB b).data.drop ((ofDB b).data.length - off)) } (n - off) (off * 2)
            a2 (by omega) (by show off * 2 ≤ (Slice.append g b.Data _).len; rw [a3]; omega) (by omega)
        rw [a1] at e1 e2 e7 e8
        exact ⟨b', e1, e2, e3, e4, e5, e6, e7, e8⟩
    · have hn' : ¬ (n : Int) > (off : Int) := by omega
      have hn'' : ¬ (n > off ∧ off > 0) := by omega
      simp only [hn', hn'', if_false]
      exact ⟨b, rfl, rfl, hd, rfl, rfl, rfl, hol, by omega⟩


/-- the two copies of the doubling loop (in `WriteMatch` and in `WriteBlock`) are the same function -/
theorem wb_loop2_eq (g : Nat → Nat → Nat) : ∀ (fuel : Nat) (b : DecoderBuffer) (n off : Int),
    DecoderBuffer_WriteBlock_loop_2 g fuel b n off = DecoderBuffer_WriteMatch_loop_1 g fuel b n off := by
  intro fuel
  induction fuel with
  | zero => intro b n off; rfl
  | succ f ih =>
    intro b n off
    unfold DecoderBuffer_WriteBlock_loop_2 DecoderBuffer_WriteMatch_loop_1
    simp only [ih]

/-- the copy of a match, with the rest of the computation as a continuation -/
def copyTail {α : Type} (grow : Nat → Nat → Nat) (fuel : Nat) (b : DecoderBuffer) (m : Int) (off0 : Int)
    (kont : DecoderBuffer → Res α) : Res α :=
  Res.bind (DecoderBuffer_WriteMatch_loop_1 grow fuel b m off0) fun r =>
    Res.bind (Slice.slice r.1.Data ((Int.ofNat r.1.Data.len) - r.2.2) ((Int.ofNat r.1.Data.len) - r.2.2 + r.2.1)) fun t =>
    kont { r.1 with Data := Slice.append grow r.1.Data t.data }

theorem copyTail_spec (g : Nat → Nat → Nat) (hg : GrowOK g) (fuel : Nat) (b : DecoderBuffer) (h : DBWF b)
    (m o : Nat) (hf : m < fuel) (ho : o ≤ b.Data.len) (hom : o = 0 → m = 0) :
    ∃ b', (∀ {α : Type} (kont : DecoderBuffer → Res α), copyTail g fuel b (m : Int) (o : Int) kont = kont b') ∧
      ofDB b' = DecBuf.copyMatch g (ofDB b) m o ∧ DBWF b' ∧
      b'.DecoderConfig = b.DecoderConfig ∧ b'.Data.len = b.Data.len + m ∧ b'.Off = b.Off := by
  suffices hmain : ∃ b', (∀ {α : Type} (kont : DecoderBuffer → Res α), copyTail g fuel b (m : Int) (o : Int) kont = kont b') ∧
      ofDB b' = DecBuf.copyMatch g (ofDB b) m o ∧ DBWF b' ∧
      b'.DecoderConfig = b.DecoderConfig ∧ b'.Off = b.Off by
    obtain ⟨b', f1, f2, f3, f4, f5⟩ := hmain
    refine ⟨b', f1, f2, f3, f4, ?_, f5⟩
    have hcl := DecBuf.copyMatch_length g (ofDB b) m o (by
      have : (ofDB b).data.length = b.Data.len := data_length h.data
      rw [this]; omega)
    have h1 : (ofDB b').data.length = b'.Data.len := data_length f3.data
    have h2 : (ofDB b).data.length = b.Data.len := data_length h.data
    rw [← h1, f2, ← h2]
    exact hcl
  obtain ⟨hd, hr0, ho0, hw0, hb0⟩ := h
  obtain ⟨b1, e1, e2, e3, e4, e5, e6, e7, e8⟩ := loop_spec g hg fuel b m o hd hom ho hf
  have e3' : b1.Data.len ≤ b1.Data.arr.length := e3
  have hl1 : (ofDB b1).data.length = b1.Data.len := data_length e3
  rw [DecBuf.copyMatch_def, ← e2]
  generalize (DecBuf.copyLoop g (ofDB b) m o).2.1 = n1 at *
  generalize (DecBuf.copyLoop g (ofDB b) m o).2.2 = off1 at *
  have hj : (b1.Data.len : Int) - (off1 : Int) = ((b1.Data.len - off1 : Nat) : Int) := by omega
  have hjn : ((b1.Data.len - off1 : Nat) : Int) + (n1 : Int) = ((b1.Data.len - off1 + n1 : Nat) : Int) := by omega
  have hsub : b1.Data.len - off1 + n1 - (b1.Data.len - off1) = n1 := by omega
  obtain ⟨a1, a2, a3⟩ := db_append g hg b1 e3 ((b1.Data.data.drop (b1.Data.len - off1)).take n1)
  refine ⟨{ b1 with Data := Slice.append g b1.Data ((b1.Data.data.drop (b1.Data.len - off1)).take n1) }, ?_, ?_,
    ⟨a2, by rw [e4]; exact hr0, by show (0:Int) ≤ b1.Off; rw [e5]; exact ho0, by rw [e6]; exact hw0, by rw [e6]; exact hb0⟩, e6, e5⟩
  · intro α kont
    unfold copyTail
    rw [e1]
    simp only [bind_ok, Int.ofNat_eq_natCast]
    rw [hj, hjn, slice_ok _ _ _ (by omega) (by omega)]
    simp only [bind_ok]
    rw [(sub_spec _ e3 _ _ (by omega) (by omega)).2, hsub]
  · simp only [hl1]
    have hdd : (ofDB b1).data = b1.Data.data := rfl
    rw [hdd, ← a1]


theorem gen_writeMatch_unfold (grow : Nat → Nat → Nat) (fuel : Nat) (b : DecoderBuffer) (m o : UInt32) :
    DecoderBuffer_WriteMatch grow fuel b m o =
      if (o = 0) ∧ (m > 0) then Res.ok (b, (0 : Int), errOffset)
      else if (Int.ofNat o.toNat) >
          (if Int.ofNat b.Data.len > b.DecoderConfig.WindowSize then b.DecoderConfig.WindowSize else Int.ofNat b.Data.len) then
        Res.ok (b, (0 : Int), errOffset)
      else if Int.ofNat m.toNat > b.DecoderConfig.BufferSize - (Int.ofNat b.Data.len) then
        Res.bind (DecoderBuffer_shrink b (Int.ofNat m.toNat + (Int.ofNat b.Data.len))) fun r_1 =>
          if Int.ofNat m.toNat > r_1.1.DecoderConfig.BufferSize - (Int.ofNat r_1.1.Data.len) then
            if Int.ofNat m.toNat > (r_1.1.DecoderConfig.BufferSize - r_1.1.DecoderConfig.WindowSize) then
              Res.ok (r_1.1, (0 : Int), errMatchLen)
            else Res.ok (r_1.1, (0 : Int), ErrFullBuffer)
          else copyTail grow fuel r_1.1 (Int.ofNat m.toNat) (Int.ofNat o.toNat) fun b' =>
            Res.ok ({ b' with Off := b'.Off + Int.ofNat m.toNat }, Int.ofNat m.toNat, Gen.Err.ok)
      else copyTail grow fuel b (Int.ofNat m.toNat) (Int.ofNat o.toNat) fun b' =>
        Res.ok ({ b' with Off := b'.Off + Int.ofNat m.toNat }, Int.ofNat m.toNat, Gen.Err.ok) := rfl

/-- The "make room" step of `WriteMatch` and of the sequence loop (`DecBuf.room` in the model): the buffer `b1` the
    copy goes on with and the number `D` of bytes dropped.  Either `need` bytes fit now; or they do not, and then
    `shrink` was called (they did not fit before either) and the caller classifies the error on `b1`. -/
theorem room_spec (b : DecoderBuffer) (h : DBWF b) (hlen : (b.Data.len : Int) ≤ b.DecoderConfig.BufferSize)
    (need : Nat) :
    ∃ (b1 : DecoderBuffer) (D : Nat),
      (DecBuf.room (ofDB b) need).1 = ofDB b1 ∧ (DecBuf.room (ofDB b) need).2.2 = D ∧
      DBWF b1 ∧ (b1.Data.len : Int) ≤ b1.DecoderConfig.BufferSize ∧
      b1.DecoderConfig.WindowSize = b.DecoderConfig.WindowSize ∧ b1.Off = b.Off ∧ b1.Data.len + D = b.Data.len ∧
      D ≤ b.Data.len - b.DecoderConfig.WindowSize.toNat ∧
      (((DecBuf.room (ofDB b) need).2.1 = true ∧ (need : Int) ≤ b1.DecoderConfig.BufferSize - (b1.Data.len : Int) ∧
          (if (need : Int) > b.DecoderConfig.BufferSize - (b.Data.len : Int) then
            DecoderBuffer_shrink b ((need : Int) + (b.Data.len : Int)) = Res.ok (b1, (D : Int))
           else b1 = b ∧ D = 0)) ∨
       ((DecBuf.room (ofDB b) need).2.1 = false ∧ (need : Int) > b1.DecoderConfig.BufferSize - (b1.Data.len : Int) ∧
          (need : Int) > b.DecoderConfig.BufferSize - (b.Data.len : Int) ∧
          DecoderBuffer_shrink b ((need : Int) + (b.Data.len : Int)) = Res.ok (b1, (D : Int)))) := by
  obtain ⟨-, cb, hl⟩ := h.casts
  unfold DecBuf.room
  simp only [hl]
  by_cases hc : need > (ofDB b).bs - b.Data.len
  · obtain ⟨b1, D, e, em, hwf1, hws, hoff, hl1, hkeep, hbs⟩ := shrink_spec b h ((need : Int) + (b.Data.len : Int))
    rw [show ((need : Int) + (b.Data.len : Int)).toNat = need + b.Data.len by omega] at em
    have hb1 := hwf1.bs
    have hc' : (need : Int) > b.DecoderConfig.BufferSize - (b.Data.len : Int) := by omega
    simp only [hc, if_true, em]
    refine ⟨b1, D, rfl, rfl, hwf1, by omega, hws, hoff, hl1, hkeep, ?_⟩
    by_cases hfit : need ≤ (ofDB b1).bs - (ofDB b1).data.length
    · refine .inl ⟨decide_eq_true hfit, ?_, by rw [if_pos hc']; exact e⟩
      simp only [ofDB, data_length hwf1.data] at hfit
      omega
    · refine .inr ⟨decide_eq_false hfit, ?_, hc', e⟩
      simp only [ofDB, data_length hwf1.data] at hfit
      omega
  · refine ⟨b, 0, ?_, ?_, h, hlen, rfl, rfl, rfl, Nat.zero_le _,
      .inl ⟨?_, by omega, by decide_ite; exact ⟨rfl, rfl⟩⟩⟩ <;> simp only [hc, if_false]

/-- D08 `WriteMatch(m, o)`: for every fuel above `m` the generated function neither panics nor
    runs out of fuel and agrees with the model.  `len(Data) ≤ BufferSize` is the buffer invariant
    the model's natural-number subtraction `bs - len` relies on. -/
theorem gen_dbuf_writeMatch (g : Nat → Nat → Nat) (hg : GrowOK g) (fuel : Nat) (b : DecoderBuffer) (h : DBWF b)
    (hlen : (b.Data.len : Int) ≤ b.DecoderConfig.BufferSize) (m o : UInt32) (hf : m.toNat < fuel) :
    ∃ b' e, DecoderBuffer_WriteMatch g fuel b m o =
        Res.ok (b', ((DecBuf.writeMatch g (ofDB b) m.toNat o.toNat).2.1 : Int), e) ∧
      ofDB b' = (DecBuf.writeMatch g (ofDB b) m.toNat o.toNat).1 ∧
      errOf e = some (DecBuf.writeMatch g (ofDB b) m.toNat o.toNat).2.2 ∧ DBWF b' ∧
      (b'.Data.len : Int) ≤ b'.DecoderConfig.BufferSize := by
  obtain ⟨cw, -, hl⟩ := h.casts
  rw [gen_writeMatch_unfold, DecBuf.writeMatch_def]
  simp only [hl, Int.ofNat_eq_natCast, u32_eq_zero, u32_pos]
  generalize m.toNat = M at *
  generalize o.toNat = O at *
  by_cases h1 : O = 0 ∧ M > 0
  · simp only [h1, and_self, if_true]
    exact ⟨_, _, rfl, rfl, errOf_offset, h, hlen⟩
  simp only [h1, if_false]
  by_cases h2 : O > Min.min b.Data.len (ofDB b).ws
  · decide_ite
    simp only [h2, if_true]
    exact ⟨_, _, rfl, rfl, errOf_offset, h, hlen⟩
  decide_ite
  simp only [h2, if_false]
  obtain ⟨b1, D, r1, rD, hwf1, hlen1, hws1, hoff1, hl1, hkeep, hcase⟩ := room_spec b h hlen M
  have hw1 := hwf1.ws
  rcases hcase with ⟨rt, hfit, hcode⟩ | ⟨rf, hfit', h3, hcode⟩
  · have hfit' : ¬ (M : Int) > b1.DecoderConfig.BufferSize - (b1.Data.len : Int) := by omega
    obtain ⟨b2, c1, c2, c3, c4, c5, c6⟩ := copyTail_spec g hg fuel b1 hwf1 M O hf
      (by omega) (by omega)
    simp only [rt, r1, not_true_eq_false, if_false]
    refine ⟨{ b2 with Off := b2.Off + (M : Int) }, Gen.Err.ok, ?_, ?_, errOf_ok,
      ⟨c3.data, c3.r, by show (0 : Int) ≤ b2.Off + (M : Int); have := c3.off; omega, c3.ws, c3.bs⟩,
      by show (b2.Data.len : Int) ≤ b2.DecoderConfig.BufferSize; rw [c4, c5]; omega⟩
    · split at hcode
      · next h3 => simp only [h3, if_true, hcode, bind_ok, hfit', if_false]; exact c1 _
      · next h3 => obtain ⟨rfl, -⟩ := hcode; simp only [h3, if_false]; exact c1 _
    · rw [← c2]
      simp only [ofDB, c6]
      congr 1
      have := hwf1.off
      omega
  · simp only [rf, r1, h3, hcode, hfit', bind_ok, Bool.false_eq_true, not_false_eq_true, if_true]
    obtain ⟨cw1, cb1, -⟩ := hwf1.casts
    by_cases h5 : M > (ofDB b1).bs - (ofDB b1).ws
    · decide_ite
      simp only [h5, if_true]
      exact ⟨_, _, rfl, rfl, errOf_matchLen, hwf1, hlen1⟩
    · decide_ite
      simp only [h5, if_false]
      exact ⟨_, _, rfl, rfl, errOf_full, hwf1, hlen1⟩


/-- the state outside of the invariant `len(Data) ≤ BufferSize` on which code and model differ -/
def discrB : DecoderBuffer :=
  { Data := { arr := [1, 2, 3, 4, 5], len := 5 }, R := 0, Off := 5, DecoderConfig := { WindowSize := 1, BufferSize := 4 } }

/-- `WriteMatch(0, 0)` with `len(Data) = 5 > BufferSize = 4` (reachable only by assigning the public
    fields): the Go code calls `shrink`, which raises `BufferSize` to `cap(Data) = 5`; the model
    (natural-number subtraction `bs - len = 0`, `0 > 0` false) leaves `bs = 4`.  Hence the hypothesis
    `len(Data) ≤ BufferSize` of D08/D09. -/
theorem writeMatch_discrepancy (g : Nat → Nat → Nat) :
    (∃ b', DecoderBuffer_WriteMatch g 1 discrB 0 0 = Res.ok (b', 0, Gen.Err.ok) ∧ (ofDB b').bs = 5) ∧
    (DecBuf.writeMatch g (ofDB discrB) 0 0).1.bs = 4 ∧ (DecBuf.writeMatch g (ofDB discrB) 0 0).2.2 = .ok := by
  refine ⟨⟨_, rfl, rfl⟩, ?_, ?_⟩ <;>
  · have h1 : (DecBuf.writeMatch g (ofDB discrB) 0 0).1.bs = 4 ∧ (DecBuf.writeMatch g (ofDB discrB) 0 0).2.2 = .ok := by
      unfold DecBuf.writeMatch
      simp [ofDB, discrB, Slice.data, DecBuf.copyMatch_def, DecBuf.copyLoop_zero, DecBuf.append]
    first | exact h1.1 | exact h1.2


/-! ### WriteBlock -/

/-- one sequence after the space check: append the literals, advance the literals, copy the match -/
def wbStep {α : Type} (grow : Nat → Nat → Nat) (fuel : Nat) (b : DecoderBuffer) (blk : Block') (s : Gen.Seq)
    (kont : DecoderBuffer → Block' → Res α) : Res α :=
  Res.bind (Slice.slice blk.Literals 0 (Int.ofNat s.LitLen.toNat)) fun t_4 =>
  Res.bind (Slice.slice blk.Literals (Int.ofNat s.LitLen.toNat) (Int.ofNat blk.Literals.len)) fun t_5 =>
  copyTail grow fuel { b with Data := Slice.append grow b.Data t_4.data } (Int.ofNat s.MatchLen.toNat) (Int.ofNat s.Offset.toNat)
    fun b' => kont b' { blk with Literals := t_5 }

theorem wb_loop_nil (grow : Nat → Nat → Nat) (fuel : Nat) (n0 : Int) (i k : Int) (s : Gen.Seq) (err : Gen.Err)
    (b : DecoderBuffer) (ld : Int) (blk : Block') :
    DecoderBuffer_WriteBlock_loop_1 grow fuel n0 [] i k s err b ld blk = Res.ok (0, k, s, err, b, ld, blk) := rfl

theorem wb_loop_cons (grow : Nat → Nat → Nat) (fuel : Nat) (n0 : Int) (x : Gen.Seq) (rest : List Gen.Seq)
    (i k : Int) (s : Gen.Seq) (err : Gen.Err) (b : DecoderBuffer) (ld : Int) (blk : Block') :
    DecoderBuffer_WriteBlock_loop_1 grow fuel n0 (x :: rest) i k s err b ld blk =
      if (Int.ofNat x.LitLen.toNat) > (Int.ofNat blk.Literals.len) then Res.ok (1, i, x, errLitLen, b, ld, blk)
      else if (x.Offset = 0) ∧ (x.MatchLen > 0) then Res.ok (1, i, x, errOffset, b, ld, blk)
      else if (Int.ofNat x.Offset.toNat) >
          (if (Int.ofNat b.Data.len) + (Int.ofNat x.LitLen.toNat) > b.DecoderConfig.WindowSize then b.DecoderConfig.WindowSize
           else (Int.ofNat b.Data.len) + (Int.ofNat x.LitLen.toNat)) then
        Res.ok (1, i, x, errOffset, b, ld, blk)
      else if (Int.ofNat x.LitLen.toNat) + (Int.ofNat x.MatchLen.toNat) > b.DecoderConfig.BufferSize - (Int.ofNat b.Data.len) then
        Res.bind (DecoderBuffer_shrink b ((Int.ofNat x.LitLen.toNat) + (Int.ofNat x.MatchLen.toNat) + (Int.ofNat b.Data.len))) fun r_4 =>
          if (Int.ofNat x.LitLen.toNat) + (Int.ofNat x.MatchLen.toNat) > r_4.1.DecoderConfig.BufferSize - (Int.ofNat r_4.1.Data.len) then
            Res.ok (1, i, x,
              (if (Int.ofNat x.LitLen.toNat) + (Int.ofNat x.MatchLen.toNat) > (r_4.1.DecoderConfig.BufferSize - r_4.1.DecoderConfig.WindowSize)
               then errMatchLen else ErrFullBuffer), r_4.1, ld - r_4.2, blk)
          else wbStep grow fuel r_4.1 blk x fun b' blk' =>
            DecoderBuffer_WriteBlock_loop_1 grow fuel n0 rest (i + 1) i x err b' (ld - r_4.2) blk'
      else wbStep grow fuel b blk x fun b' blk' =>
        DecoderBuffer_WriteBlock_loop_1 grow fuel n0 rest (i + 1) i x err b' ld blk' := by
  rw [DecoderBuffer_WriteBlock_loop_1]
  simp only [wbStep, copyTail, wb_loop2_eq]


def ofSeq (s : Gen.Seq) : LZ.Seq :=
  { litLen := s.LitLen.toNat, matchLen := s.MatchLen.toNat, offset := s.Offset.toNat, aux := s.Aux.toNat }

theorem wbStep_spec (g : Nat → Nat → Nat) (hg : GrowOK g) (fuel : Nat) (b : DecoderBuffer) (h : DBWF b)
    (blk : Block') (hl : SWF blk.Literals) (s : Gen.Seq)
    (hll : s.LitLen.toNat ≤ blk.Literals.len) (hf : s.MatchLen.toNat < fuel)
    (ho : s.Offset.toNat ≤ b.Data.len + s.LitLen.toNat) (hom : s.Offset.toNat = 0 → s.MatchLen.toNat = 0) :
    ∃ b' blk', (∀ {α : Type} (kont : DecoderBuffer → Block' → Res α), wbStep g fuel b blk s kont = kont b' blk') ∧
      ofDB b' = DecBuf.copyMatch g ((ofDB b).append g (blk.Literals.data.take s.LitLen.toNat)) s.MatchLen.toNat s.Offset.toNat ∧
      DBWF b' ∧ b'.DecoderConfig = b.DecoderConfig ∧ b'.Off = b.Off ∧
      b'.Data.len = b.Data.len + s.LitLen.toNat + s.MatchLen.toNat ∧
      blk'.Literals.data = blk.Literals.data.drop s.LitLen.toNat ∧ SWF blk'.Literals ∧
      blk'.Sequences = blk.Sequences ∧ blk'.Literals.len = blk.Literals.len - s.LitLen.toNat := by
  obtain ⟨hd, hr0, ho0, hw0, hb0⟩ := h
  have hl' : blk.Literals.len ≤ blk.Literals.arr.length := hl
  generalize hL : s.LitLen.toNat = L at *
  have h0 : ((0 : Nat) : Int) = 0 := rfl
  -- the two slices of the literals
  have e4 : Slice.slice blk.Literals 0 (Int.ofNat L) = Res.ok { arr := blk.Literals.arr, len := L } := by
    rw [← h0, Int.ofNat_eq_natCast, slice_ok _ 0 L (Nat.zero_le _) (by omega)]; rfl
  have e5 : Slice.slice blk.Literals (Int.ofNat L) (Int.ofNat blk.Literals.len)
      = Res.ok { arr := blk.Literals.arr.drop L, len := blk.Literals.len - L } := by
    rw [Int.ofNat_eq_natCast, Int.ofNat_eq_natCast, slice_ok _ L _ hll hl]
  have d4 : ({ arr := blk.Literals.arr, len := L } : Slice).data = blk.Literals.data.take L := by
    rw [take_data_eq _ _ hll]; rfl
  obtain ⟨w5, d5⟩ := slice_from blk.Literals hl L hll
  obtain ⟨a1, a2, a3⟩ := db_append g hg b hd (blk.Literals.data.take L)
  have htl : (blk.Literals.data.take L).length = L := by
    rw [List.length_take, data_length hl]; omega
  rw [htl] at a3
  have hwf1 : DBWF { b with Data := Slice.append g b.Data (blk.Literals.data.take L) } := ⟨a2, hr0, ho0, hw0, hb0⟩
  obtain ⟨b', c1, c2, c3, c4, c5, c6⟩ := copyTail_spec g hg fuel _ hwf1 s.MatchLen.toNat s.Offset.toNat hf
    (by show s.Offset.toNat ≤ (Slice.append g b.Data _).len; rw [a3]; exact ho) hom
  refine ⟨b', { blk with Literals := { arr := blk.Literals.arr.drop L, len := blk.Literals.len - L } }, ?_, ?_, c3, c4, c6, ?_, d5, w5, rfl, rfl⟩
  · intro α kont
    unfold wbStep
    rw [hL, e4, e5]
    simp only [bind_ok, d4, Int.ofNat_eq_natCast]
    exact c1 _
  · rw [c2, a1]
  · rw [c5]
    show (Slice.append g b.Data _).len + _ = _
    rw [a3]


/-- one iteration of the sequence loop: either it leaves through `goto end` with the error the model stops with,
    or it goes on with the buffer and literals the model goes on with.  `D` is what `shrink` dropped. -/
theorem wb_loop_step (g : Nat → Nat → Nat) (hg : GrowOK g) (fuel : Nat) (n0 : Int) (x : Gen.Seq) (rest : List Gen.Seq)
    (i dl : Nat) (k0 : Int) (s0 : Gen.Seq) (b : DecoderBuffer) (LD : Int) (blk : Block') (hwf : DBWF b)
    (hl : SWF blk.Literals) (hlen : (b.Data.len : Int) ≤ b.DecoderConfig.BufferSize)
    (hfx : x.MatchLen.toNat < fuel) (hld : LD - (dl : Int) ≤ (b.Data.len : Int)) :
    (∃ (e' : Gen.Err) (b1 : DecoderBuffer) (D : Nat) (me : LZ.Err),
      DecoderBuffer_WriteBlock_loop_1 g fuel n0 (x :: rest) (i : Int) k0 s0 Gen.Err.ok b (LD - (dl : Int)) blk =
        Res.ok (1, (i : Int), x, e', b1, LD - ((dl + D : Nat) : Int), blk) ∧
      DecBuf.seqLoop g (ofDB b) (ofSeq x :: rest.map ofSeq) blk.Literals.data i dl =
        (ofDB b1, i, blk.Literals.data, dl + D, me) ∧
      me ≠ .ok ∧ errOf e' = some me ∧ DBWF b1 ∧ (b1.Data.len : Int) ≤ b1.DecoderConfig.BufferSize ∧
      b1.Off = b.Off ∧ LD - ((dl + D : Nat) : Int) ≤ (b1.Data.len : Int)) ∨
    (∃ (b2 : DecoderBuffer) (blk2 : Block') (D : Nat),
      DecoderBuffer_WriteBlock_loop_1 g fuel n0 (x :: rest) (i : Int) k0 s0 Gen.Err.ok b (LD - (dl : Int)) blk =
        DecoderBuffer_WriteBlock_loop_1 g fuel n0 rest ((i + 1 : Nat) : Int) (i : Int) x Gen.Err.ok b2
          (LD - ((dl + D : Nat) : Int)) blk2 ∧
      DecBuf.seqLoop g (ofDB b) (ofSeq x :: rest.map ofSeq) blk.Literals.data i dl =
        DecBuf.seqLoop g (ofDB b2) (rest.map ofSeq) blk2.Literals.data (i + 1) (dl + D) ∧
      DBWF b2 ∧ SWF blk2.Literals ∧ (b2.Data.len : Int) ≤ b2.DecoderConfig.BufferSize ∧ b2.Off = b.Off ∧
      blk2.Sequences = blk.Sequences ∧ blk2.Literals.len ≤ blk.Literals.len ∧
      LD - ((dl + D : Nat) : Int) ≤ (b2.Data.len : Int)) := by
  obtain ⟨cw, -, hdl⟩ := hwf.casts
  have hll : blk.Literals.data.length = blk.Literals.len := data_length hl
  rw [wb_loop_cons, DecBuf.seqLoop_cons]
  simp only [ofSeq, hdl, hll, Int.ofNat_eq_natCast, u32_eq_zero, u32_pos]
  by_cases h1 : x.LitLen.toNat > blk.Literals.len
  · decide_ite
    simp only [h1, if_true]
    exact .inl ⟨_, b, 0, _, rfl, rfl, nofun, errOf_litLen, hwf, hlen, rfl, hld⟩
  decide_ite
  simp only [h1, if_false]
  by_cases h2 : x.Offset.toNat = 0 ∧ x.MatchLen.toNat > 0
  · simp only [h2, and_self, if_true]
    exact .inl ⟨_, b, 0, _, rfl, rfl, nofun, errOf_offset, hwf, hlen, rfl, hld⟩
  simp only [h2, if_false]
  by_cases h3 : x.Offset.toNat > Min.min (b.Data.len + x.LitLen.toNat) (ofDB b).ws
  · decide_ite
    simp only [h3, if_true]
    exact .inl ⟨_, b, 0, _, rfl, rfl, nofun, errOf_offset, hwf, hlen, rfl, hld⟩
  decide_ite
  simp only [h3, if_false]
  obtain ⟨b1, D, r1, rD, hwf1, hlen1, hws1, hoff1, hl1, hkeep, hcase⟩ :=
    room_spec b hwf hlen (x.LitLen.toNat + x.MatchLen.toNat)
  simp only [Int.natCast_add] at hcase
  simp only [r1, rD]
  rcases hcase with ⟨rt, hfit, hcode⟩ | ⟨rf, hfit', h4, hcode⟩
  · have hfit' : ¬ (x.LitLen.toNat : Int) + (x.MatchLen.toNat : Int) >
        b1.DecoderConfig.BufferSize - (b1.Data.len : Int) := by omega
    obtain ⟨b2, blk2, c1, c2, c3, c4, c5, c6, c7, c8, c9, c10⟩ :=
      wbStep_spec g hg fuel b1 hwf1 blk hl x (by omega) hfx (by omega) (by omega)
    refine .inr ⟨b2, blk2, D, ?_, ?_, c3, c8, by rw [c4, c6]; omega, by rw [c5, hoff1], c9, by omega,
      by rw [c6]; omega⟩
    · split at hcode
      · next h4 =>
        simp only [h4, if_true, hcode, bind_ok, hfit', if_false, c1, Int.natCast_add, Int.natCast_one, Int.sub_sub]
      · next h4 =>
        obtain ⟨rfl, rfl⟩ := hcode
        simp only [h4, if_false, c1, Int.natCast_add, Int.natCast_one, Int.natCast_zero, Int.add_zero]
    · simp only [rt, not_true_eq_false, if_false, c2, c7]
  · simp only [rf, h4, hcode, hfit', bind_ok, Bool.false_eq_true, not_false_eq_true, if_true, Int.sub_sub]
    obtain ⟨cw1, cb1, -⟩ := hwf1.casts
    have hld1 : LD - ((dl : Int) + (D : Int)) ≤ (b1.Data.len : Int) := by omega
    by_cases h6 : x.LitLen.toNat + x.MatchLen.toNat > (ofDB b1).bs - (ofDB b1).ws
    · decide_ite
      simp only [h6, if_true]
      exact .inl ⟨_, b1, D, _, by rw [Int.natCast_add], rfl, nofun, errOf_matchLen, hwf1, hlen1, hoff1,
        by rw [Int.natCast_add]; exact hld1⟩
    · decide_ite
      simp only [h6, if_false]
      exact .inl ⟨_, b1, D, _, by rw [Int.natCast_add], rfl, nofun, errOf_full, hwf1, hlen1, hoff1,
        by rw [Int.natCast_add]; exact hld1⟩

/-- the sequence loop of `WriteBlock` is the model's `seqLoop`; `LD - dl` is the Go variable `ld` -/
theorem wb_loop_spec (g : Nat → Nat → Nat) (hg : GrowOK g) (fuel : Nat) (n0 : Int) :
    ∀ (seqs : List Gen.Seq) (i dl : Nat) (k0 : Int) (s0 : Gen.Seq) (b : DecoderBuffer) (LD : Int) (blk : Block'),
    DBWF b → SWF blk.Literals → (b.Data.len : Int) ≤ b.DecoderConfig.BufferSize →
    (∀ s ∈ seqs, s.MatchLen.toNat < fuel) → LD - (dl : Int) ≤ (b.Data.len : Int) →
    ∃ (code : Nat) (k' : Int) (s' : Gen.Seq) (e' : Gen.Err) (b' : DecoderBuffer) (blk' : Block') (dl' kk : Nat) (me : LZ.Err),
      DecoderBuffer_WriteBlock_loop_1 g fuel n0 seqs (i : Int) k0 s0 Gen.Err.ok b (LD - (dl : Int)) blk =
        Res.ok (code, k', s', e', b', LD - (dl' : Int), blk') ∧
      DecBuf.seqLoop g (ofDB b) (seqs.map ofSeq) blk.Literals.data i dl = (ofDB b', kk, blk'.Literals.data, dl', me) ∧
      DBWF b' ∧ (b'.Data.len : Int) ≤ b'.DecoderConfig.BufferSize ∧ SWF blk'.Literals ∧
      blk'.Sequences = blk.Sequences ∧ LD - (dl' : Int) ≤ (b'.Data.len : Int) ∧ b'.Off = b.Off ∧
      blk'.Literals.len ≤ blk.Literals.len ∧
      (me = .ok → code = 0 ∧ e' = Gen.Err.ok ∧ kk = i + seqs.length) ∧
      (me ≠ .ok → code = 1 ∧ errOf e' = some me ∧ k' = (kk : Int)) := by
  intro seqs
  induction seqs with
  | nil =>
    intro i dl k0 s0 b LD blk hwf hl hlen _ hld
    exact ⟨_, _, _, _, b, blk, dl, i, .ok, wb_loop_nil .., rfl, hwf, hlen, hl, rfl, hld, rfl, Nat.le_refl _,
      fun _ => ⟨rfl, rfl, rfl⟩, fun hne => absurd rfl hne⟩
  | cons x rest ih =>
    intro i dl k0 s0 b LD blk hwf hl hlen hfuel hld
    rcases wb_loop_step g hg fuel n0 x rest i dl k0 s0 b LD blk hwf hl hlen (hfuel x List.mem_cons_self) hld with
      ⟨e', b1, D, me, hc, hm, hne, he, hwf1, hlen1, hoff1, hld1⟩ | ⟨b2, blk2, D, hc, hm, hwf2, hl2, hlen2, hoff2, hs2, hll2, hld2⟩
    · exact ⟨_, _, _, _, b1, blk, dl + D, i, me, hc, hm, hwf1, hlen1, hl, rfl, hld1, hoff1, Nat.le_refl _,
        fun hok => absurd hok hne, fun _ => ⟨rfl, he, rfl⟩⟩
    · obtain ⟨code, k', s', e', b', blk', dl', kk, me, r1, r2, r3, r4, r5, r6, r7, r8, r9, r10, r11⟩ :=
        ih (i + 1) (dl + D) (i : Int) x b2 LD blk2 hwf2 hl2 hlen2
          (fun s hs => hfuel s (List.mem_cons_of_mem _ hs)) hld2
      refine ⟨code, k', s', e', b', blk', dl', kk, me, hc.trans r1, hm.trans r2, r3, r4, r5, r6.trans hs2, r7,
        r8.trans hoff2, Nat.le_trans r9 hll2, fun hok => ?_, r11⟩
      obtain ⟨q1, q2, q3⟩ := r10 hok
      exact ⟨q1, q2, by rw [q3, List.length_cons]; omega⟩

def ofBlock (blk : Block') : LZ.Block := { seqs := blk.Sequences.map ofSeq, lits := blk.Literals.data }

/-- the statements after the label `end:` -/
def wbEnd (b : DecoderBuffer) (blk : Block') (ld ll k : Int) (err : Gen.Err) :
    Res (DecoderBuffer × Int × Int × Int × Gen.Err) :=
  Res.ok ({ b with Off := b.Off + ((Int.ofNat b.Data.len) - ld) }, (Int.ofNat b.Data.len) - ld, k,
    ll - (Int.ofNat blk.Literals.len), err)

def wbLits (grow : Nat → Nat → Nat) (b : DecoderBuffer) (blk : Block') (ld ll k : Int) (err : Gen.Err) :
    Res (DecoderBuffer × Int × Int × Int × Gen.Err) :=
  Res.bind (Slice.slice blk.Literals 0 (0 : Int)) fun t_2 =>
    wbEnd { b with Data := Slice.append grow b.Data blk.Literals.data } { blk with Literals := t_2 } ld ll k err

theorem gen_writeBlock_unfold (grow : Nat → Nat → Nat) (fuel : Nat) (b : DecoderBuffer) (blk : Block') :
    DecoderBuffer_WriteBlock grow fuel b blk =
      Res.bind (DecoderBuffer_WriteBlock_loop_1 grow fuel 0 blk.Sequences 0 0
          { LitLen := 0, MatchLen := 0, Offset := 0, Aux := 0 } Gen.Err.ok b (Int.ofNat b.Data.len) blk) fun r =>
        if r.1 = 1 then
          wbEnd r.2.2.2.2.1 r.2.2.2.2.2.2 r.2.2.2.2.2.1 (Int.ofNat blk.Literals.len) r.2.1 r.2.2.2.1
        else
          if (Int.ofNat r.2.2.2.2.1.Data.len) + (Int.ofNat r.2.2.2.2.2.2.Literals.len) > r.2.2.2.2.1.DecoderConfig.BufferSize then
            Res.bind (DecoderBuffer_shrink r.2.2.2.2.1 ((Int.ofNat r.2.2.2.2.1.Data.len) + (Int.ofNat r.2.2.2.2.2.2.Literals.len))) fun r_2 =>
              if (Int.ofNat r.2.2.2.2.1.Data.len) + (Int.ofNat r.2.2.2.2.2.2.Literals.len) - r_2.2 > r_2.1.DecoderConfig.BufferSize then
                wbEnd r_2.1 r.2.2.2.2.2.2 (r.2.2.2.2.2.1 - r_2.2) (Int.ofNat blk.Literals.len)
                  (Int.ofNat r.2.2.2.2.2.2.Sequences.length) ErrFullBuffer
              else wbLits grow r_2.1 r.2.2.2.2.2.2 (r.2.2.2.2.2.1 - r_2.2) (Int.ofNat blk.Literals.len)
                  (Int.ofNat r.2.2.2.2.2.2.Sequences.length) r.2.2.2.1
          else wbLits grow r.2.2.2.2.1 r.2.2.2.2.2.2 r.2.2.2.2.2.1 (Int.ofNat blk.Literals.len)
                  (Int.ofNat r.2.2.2.2.2.2.Sequences.length) r.2.2.2.1 := rfl


/-- `b.Off += n` -/
theorem db_advance (b : DecoderBuffer) (h : DBWF b) (n : Int) (hn : 0 ≤ n) :
    ofDB { b with Off := b.Off + n } = { ofDB b with off := (((ofDB b).off : Int) + n).toNat } ∧
    DBWF { b with Off := b.Off + n } := by
  have ho := h.off
  refine ⟨?_, ⟨h.data, h.r, by show (0 : Int) ≤ b.Off + n; omega, h.ws, h.bs⟩⟩
  simp only [ofDB]
  congr 1
  omega

/-- the statements after `end:` return what the model returns (`DecBuf.blockExit`) -/
theorem wbEnd_fin (b : DecoderBuffer) (h : DBWF b) (hlen : (b.Data.len : Int) ≤ b.DecoderConfig.BufferSize)
    (blk1 : Block') (hl1 : SWF blk1.Literals) (LD ll kk dl : Nat) (ld : Int) (hld : ld = (LD : Int) - (dl : Int))
    (hle : ld ≤ (b.Data.len : Int)) (hll : blk1.Literals.len ≤ ll) (e : Gen.Err) (me : LZ.Err)
    (he : errOf e = some me) :
    ∃ b' e', wbEnd b blk1 ld (ll : Int) (kk : Int) e =
        Res.ok (b', (DecBuf.blockExit LD ll kk (ofDB b) blk1.Literals.data dl me).2.1,
          ((DecBuf.blockExit LD ll kk (ofDB b) blk1.Literals.data dl me).2.2.1 : Int),
          ((DecBuf.blockExit LD ll kk (ofDB b) blk1.Literals.data dl me).2.2.2.1 : Int), e') ∧
      ofDB b' = (DecBuf.blockExit LD ll kk (ofDB b) blk1.Literals.data dl me).1 ∧
      errOf e' = some (DecBuf.blockExit LD ll kk (ofDB b) blk1.Literals.data dl me).2.2.2.2 ∧ DBWF b' ∧
      (b'.Data.len : Int) ≤ b'.DecoderConfig.BufferSize := by
  subst hld
  obtain ⟨a1, a2⟩ := db_advance b h ((b.Data.len : Int) - ((LD : Int) - (dl : Int))) (by omega)
  have hd : (ofDB b).data.length = b.Data.len := data_length h.data
  refine ⟨_, e, ?_, a1.trans ?_, he, a2, hlen⟩
  · simp only [wbEnd, DecBuf.blockExit, Int.ofNat_eq_natCast, hd, data_length hl1]
    rw [Int.natCast_sub hll]
  · simp only [DecBuf.blockExit, hd]

/-- the trailing literals are appended, then `end:` -/
theorem wbLits_fin (g : Nat → Nat → Nat) (hg : GrowOK g) (b : DecoderBuffer) (h : DBWF b) (blk1 : Block')
    (hfit : (b.Data.len : Int) + (blk1.Literals.len : Int) ≤ b.DecoderConfig.BufferSize) (hl1 : SWF blk1.Literals)
    (LD ll kk dl : Nat) (ld : Int) (hld : ld = (LD : Int) - (dl : Int)) (hle : ld ≤ (b.Data.len : Int)) :
    ∃ b' e', wbLits g b blk1 ld (ll : Int) (kk : Int) Gen.Err.ok =
        Res.ok (b', (DecBuf.blockExit LD ll kk ((ofDB b).append g blk1.Literals.data) [] dl .ok).2.1,
          ((DecBuf.blockExit LD ll kk ((ofDB b).append g blk1.Literals.data) [] dl .ok).2.2.1 : Int),
          ((DecBuf.blockExit LD ll kk ((ofDB b).append g blk1.Literals.data) [] dl .ok).2.2.2.1 : Int), e') ∧
      ofDB b' = (DecBuf.blockExit LD ll kk ((ofDB b).append g blk1.Literals.data) [] dl .ok).1 ∧
      errOf e' = some (DecBuf.blockExit LD ll kk ((ofDB b).append g blk1.Literals.data) [] dl .ok).2.2.2.2 ∧ DBWF b' ∧
      (b'.Data.len : Int) ≤ b'.DecoderConfig.BufferSize := by
  obtain ⟨a1, a2, a3⟩ := db_append g hg b h.data blk1.Literals.data
  rw [data_length hl1] at a3
  unfold wbLits
  rw [slice_zero, bind_ok, ← a1]
  exact wbEnd_fin { b with Data := Slice.append g b.Data blk1.Literals.data } ⟨a2, h.r, h.off, h.ws, h.bs⟩
    (by show ((Slice.append g b.Data blk1.Literals.data).len : Int) ≤ b.DecoderConfig.BufferSize; rw [a3]; omega)
    _ (Nat.zero_le _) LD ll kk dl ld hld
    (by show ld ≤ ((Slice.append g b.Data blk1.Literals.data).len : Int); rw [a3]; omega) (Nat.zero_le _) _ _ errOf_ok

/-- D09 `WriteBlock(blk)`: for every fuel above the match lengths of the block the generated function
    neither panics nor runs out of fuel and agrees with the model on the buffer, `n`, `k`, `l` and the error -/
theorem gen_dbuf_writeBlock (g : Nat → Nat → Nat) (hg : GrowOK g) (fuel : Nat) (b : DecoderBuffer) (h : DBWF b)
    (hlen : (b.Data.len : Int) ≤ b.DecoderConfig.BufferSize) (blk : Block') (hl : SWF blk.Literals)
    (hf : ∀ s ∈ blk.Sequences, s.MatchLen.toNat < fuel) :
    ∃ b' e, DecoderBuffer_WriteBlock g fuel b blk =
        Res.ok (b', (DecBuf.writeBlock g (ofDB b) (ofBlock blk)).2.1,
          ((DecBuf.writeBlock g (ofDB b) (ofBlock blk)).2.2.1 : Int),
          ((DecBuf.writeBlock g (ofDB b) (ofBlock blk)).2.2.2.1 : Int), e) ∧
      ofDB b' = (DecBuf.writeBlock g (ofDB b) (ofBlock blk)).1 ∧
      errOf e = some (DecBuf.writeBlock g (ofDB b) (ofBlock blk)).2.2.2.2 ∧ DBWF b' ∧
      (b'.Data.len : Int) ≤ b'.DecoderConfig.BufferSize := by
  obtain ⟨code, k', s', e', b1, blk1, dl, kk, me, r1, r2, hwf1, hlen1, hl1, hs1, hld1, hoff1, hll1, rok, rerr⟩ :=
    wb_loop_spec g hg fuel 0 blk.Sequences 0 0 0 { LitLen := 0, MatchLen := 0, Offset := 0, Aux := 0 } b
      (b.Data.len : Int) blk h hl hlen hf (by omega)
  rw [show ((0 : Nat) : Int) = 0 from rfl, Int.sub_zero] at r1
  have hd : (ofDB b).data.length = b.Data.len := data_length h.data
  obtain ⟨-, cb1, hd1⟩ := hwf1.casts
  obtain ⟨b2, D, e2, em, hwf2, -, -, hlen2, -, hbs2⟩ :=
    shrink_spec b1 hwf1 ((b1.Data.len : Int) + (blk1.Literals.len : Int))
  rw [show ((b1.Data.len : Int) + (blk1.Literals.len : Int)).toNat = b1.Data.len + blk1.Literals.len by omega] at em
  rw [gen_writeBlock_unfold, Int.ofNat_eq_natCast, r1,
    DecBuf.writeBlock_of_shrink g (ofDB b) (ofBlock blk) r2 (m2 := ofDB b2) (d := D) (by rw [hd1, data_length hl1]; exact em)]
  simp only [bind_ok, ofBlock, hd, data_length hl, data_length hl1, hd1, Int.ofNat_eq_natCast]
  by_cases hme : me = .ok
  · obtain ⟨rfl, rfl, rfl⟩ := rok hme
    subst hme
    simp only [ne_eq, not_true_eq_false, if_false, Nat.zero_ne_one, hs1, Nat.zero_add]
    by_cases h1 : b1.Data.len + blk1.Literals.len > (ofDB b1).bs
    · obtain ⟨-, cb2, -⟩ := hwf2.casts
      decide_ite
      simp only [h1, if_true, e2, bind_ok]
      by_cases h2 : b1.Data.len + blk1.Literals.len - D > (ofDB b2).bs
      · decide_ite
        simp only [h2, if_true]
        exact wbEnd_fin b2 hwf2 (by omega) blk1 hl1 b.Data.len _ _ (dl + D) _ (by omega) (by omega) hll1 _ _ errOf_full
      · decide_ite
        simp only [h2, if_false]
        exact wbLits_fin g hg b2 hwf2 blk1 (by omega) hl1 b.Data.len _ _ (dl + D) _ (by omega) (by omega)
    · decide_ite
      simp only [h1, if_false]
      exact wbLits_fin g hg b1 hwf1 blk1 (by omega) hl1 b.Data.len _ _ dl _ rfl hld1
  · obtain ⟨rfl, he, rfl⟩ := rerr hme
    simp only [hme, ne_eq, not_false_eq_true, if_true]
    exact wbEnd_fin b1 hwf1 hlen1 blk1 hl1 b.Data.len _ _ dl _ rfl hld1 hll1 _ _ he


/-! ### the invariant `len(Data) ≤ BufferSize` -/

theorem lenInv_iff (b : DecoderBuffer) (h : DBWF b) :
    LenInv (ofDB b) ↔ (b.Data.len : Int) ≤ b.DecoderConfig.BufferSize := by
  have hl : (ofDB b).data.length = b.Data.len := data_length h.data
  have hb := h.bs
  unfold LenInv
  rw [hl]
  simp only [ofDB]
  omega

/-- D10 the invariant `len(Data) ≤ BufferSize` (hypothesis of D08/D09, conclusion of D08/D09) holds after
    `Init` and is preserved by `Reset`, `shrink`, `WriteByte`, `Write` and `Read` -/
theorem gen_dbuf_lenInv (g : Nat → Nat → Nat) (hg : GrowOK g) (b : DecoderBuffer) (h : DBWF b)
    (hlen : (b.Data.len : Int) ≤ b.DecoderConfig.BufferSize) :
    (∀ b', DecoderBuffer_Reset b = Res.ok b' → (b'.Data.len : Int) ≤ b'.DecoderConfig.BufferSize) ∧
    (∀ x b' d, DecoderBuffer_shrink b x = Res.ok (b', d) → (b'.Data.len : Int) ≤ b'.DecoderConfig.BufferSize) ∧
    (∀ c b' e, DecoderBuffer_WriteByte g b c = Res.ok (b', e) → (b'.Data.len : Int) ≤ b'.DecoderConfig.BufferSize) ∧
    (∀ p b' n e, SWF p → DecoderBuffer_Write g b p = Res.ok (b', n, e) → (b'.Data.len : Int) ≤ b'.DecoderConfig.BufferSize) := by
  have hm := (lenInv_iff b h).mpr hlen
  refine ⟨?_, ?_, ?_, ?_⟩
  · intro b' hb'
    obtain ⟨b2, e1, e2, e3⟩ := gen_dbuf_reset b h
    rw [e1] at hb'; cases hb'
    exact (lenInv_iff _ e3).mp (by rw [e2]; exact model_reset_lenInv _)
  · intro x b' d hb'
    obtain ⟨b2, e1, e2, e3, _, _⟩ := gen_dbuf_shrink b h x
    rw [e1] at hb'; cases hb'
    exact (lenInv_iff _ e3).mp (by rw [e2]; exact model_shrink_lenInv _ _ hm)
  · intro c b' e hb'
    obtain ⟨b2, e2, e1, e3, _, e4⟩ := gen_dbuf_writeByte g hg b h c
    rw [e1] at hb'; cases hb'
    exact (lenInv_iff _ e4).mp (by rw [e3]; exact model_writeByte_lenInv g _ c hm)
  · intro p b' n e hp hb'
    obtain ⟨b2, e2, e1, e3, _, e4⟩ := gen_dbuf_write g hg b h p hp
    rw [e1] at hb'; cases hb'
    exact (lenInv_iff _ e4).mp (by rw [e3]; exact model_write_lenInv g _ _ hm)

/-- D10' … and holds after a successful `Init` -/
theorem gen_dbuf_init_lenInv (b b' : DecoderBuffer) (cfg : Gen.DecoderConfig)
    (h : DecoderBuffer_Init b cfg = Res.ok (b', Gen.Err.ok)) :
    (b'.Data.len : Int) ≤ b'.DecoderConfig.BufferSize := by
  have := gen_dbuf_init b cfg
  cases hi : DecBuf.init cfg.WindowSize cfg.BufferSize b.Data.cap with
  | none =>
    rw [hi] at this
    obtain ⟨e, he, hne⟩ := this
    rw [he] at h; cases h; exact absurd rfl hne
  | some m =>
    rw [hi] at this
    obtain ⟨b2, e1, e2, e3⟩ := this
    rw [e1] at h; cases h
    exact (lenInv_iff _ e3).mp (e2 ▸ (DecBuf.init_abs hi).len_bs)

end LZ.GenBuf

/-! ### axiom audit (printed on every build) -/
#print axioms LZ.GenBuf.room_spec
#print axioms LZ.GenBuf.copyTail_spec
#print axioms LZ.GenBuf.wb_loop_spec
#print axioms LZ.GenBuf.gen_dbuf_writeMatch
#print axioms LZ.GenBuf.gen_dbuf_writeBlock
#print axioms LZ.GenBuf.gen_dbuf_lenInv
#print axioms LZ.GenBuf.gen_dbuf_init_lenInv
#print axioms LZ.GenBuf.writeMatch_discrepancy
