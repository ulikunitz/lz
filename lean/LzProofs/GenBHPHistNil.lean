/-
  LzProofs.GenBHPHistNil — histories of the translated operations of the backward hash parser BHP (bhp.go) WITH
  `Parse(nil, flags)`, and property C14 about the Go text, built like LzProofs/GenHPHistNil.lean on the per-operation
  lemmas of GenBHPHist / GenBHPHistRun / GenBHPHistRF; the additional operation is
  `backwardHashParser_Parse_nilable … true ghost flags` (LzProofs/GenBHPParseNil.lean), model operation `.parseNil`,
  ghost log entry `Event.skip`.  Everything that does not mention the parser state (`GOpN`, `GResN`, `GOpN.WF`,
  `GOpN.abs`, `resAgreeN`, `ResultsAgreeN`, `ghostStepN`, `ghostRunN`, `stepRel_N`, `C14_go`) is that of LZ.GenHPHist
  (LzProofs/GenHPHistNil.lean).  `lcs` stays the opaque parameter of the translation of bhp.go under `LcsSpec` (the nil
  path does not call it); fuel `2·BufferSize + 3` as in GenBHPHistRun.
-/
import LzProofs.GenBHPParseNil
import LzProofs.GenBHPHistRF
import LzProofs.GenHPHistNil

set_option linter.unusedSimpArgs false
set_option linter.unusedVariables false

namespace LZ.GenBHPHist
open LZ LZ.Gen LZ.GenBuf LZ.GenHash LZ.GenHPParse LZ.GenBHPParse LZ.GenProps LZ.GenNil
open LZ.GenHPHist (BCOK GOp.WF GOp.abs RFun RFSpec rfGo rfGo_spec GOpR.WF GOpR.abs GOpN GResN GOpN.WF GOpN.abs
  resAgreeN ResultsAgreeN ghostStepN ghostRunN callsN C14_go ghostRunN_eq resultsAgreeN_eq stepRel_N)

theorem hist_parseNil {bc : BufCfg} (grow : Nat → Nat → Nat) (fuel : Nat) (lcs : Slice → Slice → Int)
    (t : Gen.backwardHashParser) (h : HistOK bc t) (ghost : Gen.Block') (flags : Int)
    (hfuel : t.hashDictionary.ParserBuffer.Data.len + 2 ≤ fuel) :
    ∃ t', backwardHashParser_Parse_nilable grow fuel lcs t true ghost flags =
        Res.ok (t', ghost, (((ofBHPs t).parseNil).2.1 : Int), parseErr ((ofBHPs t).parseNil).2.2) ∧
      HistOK bc t' ∧ ofBHPs t' = ((ofBHPs t).parseNil).1 ∧
      t'.hashDictionary.ParserBuffer.Data = t.hashDictionary.ParserBuffer.Data := by
  obtain ⟨t', h1, h2, h3, h4, t0, h5⟩ := gen_bhp_parseNil_model grow fuel lcs t ghost flags h.pok hfuel h.cap h.dictOK.1
  subst h5
  exact ⟨_, h1, ⟨h4, h.cfg, h.len, h.cap, h.il8⟩, h2, rfl⟩

/-! ## histories with `Parse(nil)` -/

def stepN (RF : RFun) (grow : Nat → Nat → Nat) (fuel : Nat) (lcs : Slice → Slice → Int)
    (s : Gen.backwardHashParser) : GOpN → Res (Gen.backwardHashParser × GResN)
  | .r op => Res.bind (stepGR RF grow fuel lcs s op) fun x => Res.ok (x.1, .r x.2)
  | .parseNil ghost flags =>
    Res.bind (backwardHashParser_Parse_nilable grow fuel lcs s true ghost flags) fun x =>
      Res.ok (x.1, .parseNil x.2.1 x.2.2.1 x.2.2.2)

def runN (RF : RFun) (grow : Nat → Nat → Nat) (fuel : Nat) (lcs : Slice → Slice → Int) :
    Gen.backwardHashParser → List GOpN → Res (Gen.backwardHashParser × List GResN)
  | s, [] => Res.ok (s, [])
  | s, op :: ops =>
    Res.bind (stepN RF grow fuel lcs s op) fun x =>
    Res.bind (runN RF grow fuel lcs x.1 ops) fun q => Res.ok (q.1, x.2 :: q.2)

theorem stepN_sim {bc : BufCfg} (hbc : BCOK bc) (RF : RFun) (hRF : RFSpec RF) (grow : Nat → Nat → Nat) (fuel : Nat) (lcs : Slice → Slice → Int) (hlcs : LcsSpec lcs)
    (hfuel : 2 * bc.bufferSize + 3 ≤ fuel) :
    GenHist.StepSim callsN (stepN RF grow fuel lcs) (GenHist.FInv (HistOK bc) ofBHPs) :=
  stepRel_N (fun _ _ _ => trivial) (stepGR_sim hbc RF hRF grow fuel lcs hlcs hfuel)
    (by
      rintro t _ ghost flags ⟨h, rfl⟩
      obtain ⟨t', h1, h2, h3, -⟩ := hist_parseNil grow fuel lcs t h ghost flags (by have := h.len; omega)
      exact ⟨t', h1, h2, h3⟩)
    (fun _ _ => rfl) (fun _ _ _ => rfl)

theorem runN_eq (RF : RFun) (grow : Nat → Nat → Nat) (fuel : Nat) (lcs : Slice → Slice → Int) :
    runN RF grow fuel lcs = GenHist.run (stepN RF grow fuel lcs) :=
  GenHist.run_unique (fun _ => rfl) (fun _ _ _ => rfl)

/-- the simulation from `backwardHashParser.init` for histories of Write / ReadFrom / Parse(&blk) / Parse(nil) / Shrink /
    Reset, every operation a translated function (`ReadFrom` against the scripted reader) -/
theorem gen_bhp_history_nil (cfg : Gen.BHPConfig) (s0 : Gen.backwardHashParser)
    (hinit : backwardHashParser_init default cfg = Res.ok (s0, Gen.Err.ok))
    (extra : Nat) (grow : Nat → Nat → Nat) (fuel : Nat) (lcs : Slice → Slice → Int) (hlcs : LcsSpec lcs)
    (hfuel : 2 * s0.hashDictionary.ParserBuffer.BufConfig.BufferSize.toNat + 3 ≤ fuel)
    (ops : List GOpN) (hwf : ∀ op ∈ ops, op.WF) :
    ∃ p t rs, newParser .BHP (ofBHP cfg) = some p ∧ ofBHPs s0 = p ∧
      runN (rfGo extra) grow fuel lcs s0 ops = Res.ok (t, rs) ∧ HistOK p.buf.cfg t ∧ BCOK p.buf.cfg ∧
      2 * p.buf.cfg.bufferSize + 3 ≤ fuel ∧
      ofBHPs t = (runOps (p, Ghost.init) (ops.map GOpN.abs)).1 ∧
      ghostRunN Ghost.init ops rs = (runOps (p, Ghost.init) (ops.map GOpN.abs)).2 ∧
      ResultsAgreeN (p, Ghost.init) ops rs := by
  obtain ⟨p, hp, hbc, hf, h0⟩ := init_inv cfg s0 hinit fuel hfuel
  rw [runN_eq, ghostRunN_eq, resultsAgreeN_eq]
  obtain ⟨t, rs, k1, ⟨⟨k2, k3⟩, -⟩, k4, k5⟩ :=
    GenHist.run_sim (stepN_sim hbc (rfGo extra) (rfGo_spec extra) grow fuel lcs hlcs hf) ops s0 _ h0 hwf
  exact ⟨p, t, rs, hp, h0.1.2, k1, k2, hbc, hf, k3, k4, k5⟩

/-! ## the property theorems -/

/-- C01 about the Go text of BHP, histories WITH `Parse(nil)`.  Run any history of `Write`, `ReadFrom`,
    `Parse(&blk, flags)`, `Parse(nil, flags)`, `Shrink`, `Reset` on the translated functions.  No call panics or runs out
    of fuel, and the reference decoder, applied to what the calls produced since the last successful `Reset` — the blocks
    of `Parse(&blk)` and, for every `Parse(nil)` that returned `n > 0`, the next `n` bytes of the stream VERBATIM
    (`Event.skip`) —, yields exactly the first `consumed` bytes fed, `consumed` = the sum of all returned `n`. -/
theorem C01_go_text_bhp_nil (cfg : Gen.BHPConfig) (s0 : Gen.backwardHashParser)
    (hinit : backwardHashParser_init default cfg = Res.ok (s0, Gen.Err.ok))
    (extra : Nat) (grow : Nat → Nat → Nat) (fuel : Nat) (lcs : Slice → Slice → Int) (hlcs : LcsSpec lcs)
    (hfuel : 2 * s0.hashDictionary.ParserBuffer.BufConfig.BufferSize.toNat + 3 ≤ fuel)
    (ops : List GOpN) (hwf : ∀ op ∈ ops, op.WF) :
    ∃ t rs, runN (rfGo extra) grow fuel lcs s0 ops = Res.ok (t, rs) ∧
      decode [] (ghostRunN Ghost.init ops rs).log =
        some ((ghostRunN Ghost.init ops rs).fed.take (ghostRunN Ghost.init ops rs).consumed) := by
  obtain ⟨p, t, rs, hp, -, h1, -, -, -, -, h4, -⟩ :=
    gen_bhp_history_nil cfg s0 hinit extra grow fuel lcs hlcs hfuel ops hwf
  exact ⟨t, rs, h1, GenHist.C01_ghost hp (histHyp_of_ne .BHP p (by decide)) h4⟩

/-- C03 about the Go text of BHP, histories WITH `Parse(nil)`: blocks and skipped segments tile the consumed stream. -/
theorem C03_go_text_bhp_nil (cfg : Gen.BHPConfig) (s0 : Gen.backwardHashParser)
    (hinit : backwardHashParser_init default cfg = Res.ok (s0, Gen.Err.ok))
    (extra : Nat) (grow : Nat → Nat → Nat) (fuel : Nat) (lcs : Slice → Slice → Int) (hlcs : LcsSpec lcs)
    (hfuel : 2 * s0.hashDictionary.ParserBuffer.BufConfig.BufferSize.toNat + 3 ≤ fuel)
    (ops : List GOpN) (hwf : ∀ op ∈ ops, op.WF) :
    ∃ t rs, runN (rfGo extra) grow fuel lcs s0 ops = Res.ok (t, rs) ∧
      let g := ghostRunN Ghost.init ops rs
      LogAll (fun pos e => 1 ≤ e.n ∧ e.n ≤ s0.hashDictionary.ParserBuffer.BufConfig.BlockSize.toNat ∧
        pos + e.n ≤ g.fed.length ∧
        ∀ n fl blk, e = .block n fl blk →
          blk.len = n ∧ expand (g.fed.take pos) blk = some (g.fed.take (pos + n)) ∧
          (fl % 2 = 1 → blk.seqs ≠ [] → blk.lits.length = litSum blk.seqs ∧ n = seqsSpan blk.seqs)) 0 g.log ∧
      logSpan g.log = g.consumed ∧ g.consumed ≤ g.fed.length := by
  obtain ⟨p, t, rs, hp, h0, h1, -, -, -, -, h4, -⟩ :=
    gen_bhp_history_nil cfg s0 hinit extra grow fuel lcs hlcs hfuel ops hwf
  subst h0
  exact ⟨t, rs, h1, GenHist.C03_ghost hp (histHyp_of_ne .BHP _ (by decide)) h4⟩

/-- C14 (skipped bytes verbatim) about the Go text of BHP: every skip entry of the log is a non-empty segment of at
    most `BlockSize` bytes and IS the segment of the fed stream at its position. -/
theorem C14_skip_go_text_bhp (cfg : Gen.BHPConfig) (s0 : Gen.backwardHashParser)
    (hinit : backwardHashParser_init default cfg = Res.ok (s0, Gen.Err.ok))
    (extra : Nat) (grow : Nat → Nat → Nat) (fuel : Nat) (lcs : Slice → Slice → Int) (hlcs : LcsSpec lcs)
    (hfuel : 2 * s0.hashDictionary.ParserBuffer.BufConfig.BufferSize.toNat + 3 ≤ fuel)
    (ops : List GOpN) (hwf : ∀ op ∈ ops, op.WF) :
    ∃ t rs, runN (rfGo extra) grow fuel lcs s0 ops = Res.ok (t, rs) ∧
      let g := ghostRunN Ghost.init ops rs
      LogAll (fun pos e => ∀ b, e = .skip b →
        1 ≤ b.length ∧ b.length ≤ s0.hashDictionary.ParserBuffer.BufConfig.BlockSize.toNat ∧
        b = (g.fed.drop pos).take b.length) 0 g.log := by
  obtain ⟨p, t, rs, hp, h0, h1, -, -, -, -, h4, -⟩ :=
    gen_bhp_history_nil cfg s0 hinit extra grow fuel lcs hlcs hfuel ops hwf
  subst h0
  exact ⟨t, rs, h1, GenHist.C14_skip_ghost hp (histHyp_of_ne .BHP _ (by decide)) h4⟩

/-- C14 about the Go text of BHP.  After ANY history of the translated `Write`, `ReadFrom`, `Parse(&blk)`,
    `Parse(nil)`, `Shrink`, `Reset` from `backwardHashParser.init`, let `t` be the Go state reached.  For every `flags`,
    every ghost value and every block `blk` of the caller: the translated `Parse(nil, flags)` and the translated
    `Parse(&blk, 0)`, both run from `t`, return THE SAME `n` and THE SAME error, and leave THE SAME buffer `Data` and THE
    SAME `W`; `n = min(BlockSize, len(Data) - W)`; the error is `ErrEmptyBuffer` if `n = 0` and `nil` otherwise;
    `Parse(nil)` hands the ghost block back unchanged (it writes nothing) and leaves `Data` as it was. -/
theorem C14_go_text_bhp (cfg : Gen.BHPConfig) (s0 : Gen.backwardHashParser)
    (hinit : backwardHashParser_init default cfg = Res.ok (s0, Gen.Err.ok))
    (extra : Nat) (grow : Nat → Nat → Nat) (fuel : Nat) (lcs : Slice → Slice → Int) (hlcs : LcsSpec lcs)
    (hfuel : 2 * s0.hashDictionary.ParserBuffer.BufConfig.BufferSize.toNat + 3 ≤ fuel)
    (ops : List GOpN) (hwf : ∀ op ∈ ops, op.WF) (ghost blk : Gen.Block') (flags : Int) :
    ∃ t rs, runN (rfGo extra) grow fuel lcs s0 ops = Res.ok (t, rs) ∧
      ∃ t1 t2 blk' n e,
        backwardHashParser_Parse_nilable grow fuel lcs t true ghost flags = Res.ok (t1, ghost, n, e) ∧
        backwardHashParser_Parse grow fuel lcs t blk 0 = Res.ok (t2, blk', n, e) ∧
        t1.hashDictionary.ParserBuffer.Data = t2.hashDictionary.ParserBuffer.Data ∧
        t1.hashDictionary.ParserBuffer.W = t2.hashDictionary.ParserBuffer.W ∧
        t1.hashDictionary.ParserBuffer.Data = t.hashDictionary.ParserBuffer.Data ∧
        t1.hashDictionary.ParserBuffer.W = t.hashDictionary.ParserBuffer.W + n ∧
        n = Min.min t.BHPConfig.BlockSize ((t.hashDictionary.ParserBuffer.Data.len : Int) - t.hashDictionary.ParserBuffer.W) ∧
        (n = 0 → e = Gen.ErrEmptyBuffer ∧ t1 = t) ∧ (n ≠ 0 → e = Gen.Err.ok) := by
  obtain ⟨p, t, rs, hp, h0, h1, hH, hbc, hf, h3, -, -⟩ :=
    gen_bhp_history_nil cfg s0 hinit extra grow fuel lcs hlcs hfuel ops hwf
  refine ⟨t, rs, h1, ?_⟩
  have hlen := hH.len
  obtain ⟨t1, e1, hH1, m1, d1⟩ := hist_parseNil grow fuel lcs t hH ghost flags (by omega)
  obtain ⟨t2, blk', e2, m2, st2, -, -, -, pk2⟩ := gen_bhp_parse_model grow fuel lcs hlcs t blk 0 hH.pok (Int.le_refl 0) (by omega)
    (ofBHP cfg) p hp (ops.map GOpN.abs) h3
  have hM := C14_same_n_greedy_reachable .BHP (by decide) (ofBHP cfg) p hp (ops.map GOpN.abs) 0 rfl
  rw [← h3] at hM
  exact C14_go (bufHost hbc) (fun t => t.BHPConfig.BlockSize)
    (pn := fun t g f => backwardHashParser_Parse_nilable grow fuel lcs t true g f)
    (pa := backwardHashParser_Parse grow fuel lcs) t hH hH.pok.bs0 hH.pok.cbs ghost blk flags ⟨t1, e1, hH1, m1, d1⟩
    ⟨t2, blk', e2, m2, rfl, pk2.wf.1, st2⟩ hM
    (gen_bhp_parseNil_empty grow fuel lcs t ghost flags)

end LZ.GenBHPHist

#print axioms LZ.GenBHPHist.hist_parseNil
#print axioms LZ.GenBHPHist.gen_bhp_history_nil
#print axioms LZ.GenBHPHist.C01_go_text_bhp_nil
#print axioms LZ.GenBHPHist.C03_go_text_bhp_nil
#print axioms LZ.GenBHPHist.C14_skip_go_text_bhp
#print axioms LZ.GenBHPHist.C14_go_text_bhp
