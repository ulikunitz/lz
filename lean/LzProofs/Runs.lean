/-
  LzProofs.Runs — property C19, last sentence (the "run clause"):

    "A block of at least 32 bytes that lies inside a run of one repeated byte carries at most one
     literal byte for the hash parsers."

  Proved here for HP, BHP (single hash table) and DHP (two tables) for every state reachable from
  `NewParser` by any history of `Write`, `ReadFrom`, `Parse` (any flags), `Parse(nil)`, `Shrink`,
  `Reset`.  (BDHP and BUP do not satisfy the clause: RunsBdhp.lean, RunsBucket.lean.)

  The invariant (*freshness*, `HashT.Fresh h data W`, LzProofs/RunsFresh.lean): for every buffer
  position `q` with `q + InputLen ≤ W` the slot `hashValue (key data q)` of the table holds an
  entry whose position is `≥ q`.  Nothing is assumed or proved about the other slots (they may hold
  positions `≥ W`, left behind by a `Parse` with `NoTrailingLiterals`).
-/
import LzProofs.RunsDhp
import LzProofs.Reach
namespace LZ
open Parser PBuf

/-! ## the invariant of HP / BHP states -/

/-- The state has a single hash table of the right size with `1 ≤ InputLen ≤ 8` that is *fresh*:
    every buffer position `q` with `q + InputLen ≤ W` is indexed and the slot of its key holds a
    position `≥ q`. -/
def SingleFresh (s : Parser) : Prop :=
  ∃ h, s.dict = .single h ∧ h.SizeOK ∧ 1 ≤ h.inputLen ∧ h.inputLen ≤ 8 ∧ h.Fresh s.buf.data s.buf.w

/-! ## one `Parse` call -/

theorem parse_panic_of_not_margin (s : Parser) (flags : Nat) (hn : s.blockN ≠ 0) (hm : ¬ s.MarginOK) :
    (s.parse flags).2.2.1 = .panic := by
  rw [parse_panic s flags hn hm]

theorem parse_ok_blockN {s : Parser} {flags : Nat} {s' : Parser} {n : Nat} {blk : Block}
    (hp : s.parse flags = (s', n, .ok, blk)) : s.blockN ≠ 0 ∧ s.MarginOK := by
  have hn0 : s.blockN ≠ 0 := by
    intro h0
    rw [parse_empty s flags h0] at hp
    cases hp
  refine ⟨hn0, Classical.byContradiction fun hm => ?_⟩
  have := parse_panic_of_not_margin s flags hn0 hm
  rw [hp] at this
  cases this

/-- One successful `Parse(&blk, flags)` without `NoTrailingLiterals` that returns `n ≥ 32` equal bytes,
    seen at block level.  `hview` says which greedy run the call is (`parse_single`, `parse_double`,
    `parse_bucket`, `parse_gsap`); then the block is the whole block prefix behind `W`, a `RunBlock`,
    and `blk` is the block of that run. -/
theorem run_call {δ} {s : Parser} {flags : Nat} {s' : Parser} {n : Nat} {blk : Block} {b : Byte}
    (F : Finder δ) (d1 : δ) (stop : Nat) (hw : s.buf.w ≤ s.buf.data.length)
    (hp : s.parse flags = (s', n, .ok, blk)) (hf : flags % 2 = 0) (hn : 32 ≤ n)
    (hrun : ∀ t, t < n → s.buf.data[s.buf.w + t]? = some b)
    (hview : s.blockN ≠ 0 → s.MarginOK → ∃ x y, s.parse flags =
      (x, (runGreedy F d1 s.blockPrefix s.buf.w stop flags).2.1 - s.buf.w, y,
        (runGreedy F d1 s.blockPrefix s.buf.w stop flags).2.2.1)) :
    RunBlock s.blockPrefix s.buf.w n b ∧ s.blockN = n ∧
      blk = (runGreedy F d1 s.blockPrefix s.buf.w stop flags).2.2.1 := by
  obtain ⟨hn0, hm⟩ := parse_ok_blockN hp
  obtain ⟨x, y, hv⟩ := hview hn0 hm
  rw [hp, runGreedy_w_even _ _ _ _ _ _ hf, s.blockPrefix_length hw] at hv
  simp only [Prod.mk.injEq] at hv
  obtain ⟨-, hn', -, hblk⟩ := hv
  have hN : s.blockN = n := by omega
  refine ⟨⟨by rw [s.blockPrefix_length hw, hN], hn, fun t ht => ?_⟩, hN, hblk⟩
  have := s.blockN_le
  unfold blockPrefix
  rw [List.getElem?_take, if_pos (by omega)]
  exact hrun t ht

/-- C19, run clause, HP and BHP, one call.  `s` is a state with a fresh single table
    (`SingleFresh`; every reachable HP / BHP state is one, `reachable_singleFresh`), window size
    `≥ 1`, `1 ≤ minMatch ≤ 3`.  If `Parse(&blk, flags)` without `NoTrailingLiterals` returns a block
    of `n ≥ 32` bytes that all equal `b`, the block has at most one literal. -/
theorem C19_run_hp (s : Parser) (hF : SingleFresh s) (hw : s.buf.w ≤ s.buf.data.length)
    (hws : 1 ≤ s.buf.cfg.windowSize) (hmm1 : 1 ≤ s.minMatch) (hmm3 : s.minMatch ≤ 3)
    (flags : Nat) (s' : Parser) (n : Nat) (blk : Block) (b : Byte)
    (hp : s.parse flags = (s', n, .ok, blk)) (hf : flags % 2 = 0) (hn : 32 ≤ n)
    (hrun : ∀ t, t < n → s.buf.data[s.buf.w + t]? = some b) :
    blk.lits.length ≤ 1 := by
  obtain ⟨h, hd, hs, hil1, hil8, hfr⟩ := hF
  obtain ⟨hR, hN, rfl⟩ := run_call _ _ _ hw hp hf hn hrun
    (fun hn0 hm => ⟨_, _, parse_single s flags h hd hn0 hm⟩)
  have hl := s.blockPrefix_length hw
  have hNle := s.blockN_le
  have hil := processSegment1_inputLen h s.buf.data ((s.buf.w : Int) - h.inputLen + 1) s.buf.w
  refine hp_run_block s.buf.cfg.windowSize s.minMatch (s.kind == .BHP) _ s.blockPrefix s.buf.w n b flags hf hR
    (sizeOK_processSegment1 hs _ _ _) (by rw [hil]; exact hil1) (by rw [hil]; exact hil8) hws hmm1 hmm3 ?_
  rw [hil]
  exact (hfr.entry_cov hs s.blockN (by omega)).mono _ (by omega)

/-! ## every operation keeps the invariant -/

/-- `Write`/`ReadFrom` only append behind `W`; `Parse` re-establishes the coverage up to the new `W`
    (`parse_single_fresh`), `Parse(nil)` indexes the skipped block; `Shrink` shifts positions and
    buffer alike; `Reset` clears the table and starts at `W = 0`. -/
theorem SingleFresh.step {s s' : Parser} (hst : Parser.Step s s') (hw : s.buf.w ≤ s.buf.data.length)
    (hroom : Room s.buf) (hmm : 1 ≤ s.minMatch) (h : SingleFresh s) : SingleFresh s' := by
  obtain ⟨t, hd, hs, h1, h8, hf⟩ := h
  cases hst with
  | idle => exact ⟨t, hd, hs, h1, h8, hf⟩
  | fill b' q a => exact ⟨t, hd, hs, h1, h8, hf.grow hw a.data a.w⟩
  | parse flags hn _ =>
    obtain ⟨t', e1, e2, e3, e4⟩ :=
      parse_single_fresh s flags t hd hs hf hw hn (marginOK_of_cap s hroom.2 hn) hmm
    exact ⟨t', e1, e2, by rw [e3]; exact h1, by rw [e3]; exact h8, by rw [parse_frame]; exact e4⟩
  | skip hn =>
    have hN := s.blockN_le
    unfold SingleFresh
    simp only [Parser.skipDict, hd]
    refine ⟨_, rfl, sizeOK_processSegment1 hs _ _ _, ?_, ?_,
      processSegment1_fresh t s.buf.data s.buf.w s.blockN hs h1 hf (by omega)⟩
    · rw [processSegment1_inputLen]; exact h1
    · rw [processSegment1_inputLen]; exact h8
  | shrink hd0 =>
    have a := shrink_dropped s.buf
    unfold SingleFresh
    simp only [Parser.shiftDict, hd]
    refine ⟨_, rfl, HashT.sizeOK_shiftOffsets hs _, ?_, ?_, ?_⟩
    · rw [HashT.shiftOffsets_inputLen]; exact h1
    · rw [HashT.shiftOffsets_inputLen]; exact h8
    · have := hf.shift _ hd0 (by have := a.w; omega)
      rwa [← a.data, show s.buf.w - s.buf.shrink.2 = s.buf.shrink.1.w by have := a.w; omega] at this
  | reset data ce he =>
    rcases reset_frame s.buf data ce with ⟨-, -, b2, -⟩ | ⟨b0, -⟩
    · exact ⟨t.clear, by simp only [clearDict, hd], HashT.sizeOK_clear hs, h1, h8, by
        simp only [b2]; exact HashT.Fresh.zero _ _ h1⟩
    · exact absurd he b0

theorem singleFresh_stepP (s : Parser) (op : POp) (hw : s.buf.w ≤ s.buf.data.length)
    (hroom : Room s.buf) (hmm : 1 ≤ s.minMatch) (h : SingleFresh s) : SingleFresh (stepP s op) :=
  h.step (stepP_step s op) hw hroom hmm

/-! ## DHP: two tables -/

/-- The state has two hash tables (`InputLen1 ≤ InputLen2 ≤ 8`), both of the right size and both
    fresh. -/
def DoubleFresh (s : Parser) : Prop :=
  ∃ d, s.dict = .double d ∧ d.h1.SizeOK ∧ d.h2.SizeOK ∧ 1 ≤ d.h1.inputLen ∧
    d.h1.inputLen ≤ d.h2.inputLen ∧ d.h2.inputLen ≤ 8 ∧
    d.h1.Fresh s.buf.data s.buf.w ∧ d.h2.Fresh s.buf.data s.buf.w

/-- C19, run clause, DHP, one call.  As `C19_run_hp`, for a state of kind DHP with two fresh
    tables (`DoubleFresh`; every reachable DHP state is one, `reachable_doubleFresh`). -/
theorem C19_run_dhp (s : Parser) (hk : s.kind = .DHP) (hF : DoubleFresh s)
    (hw : s.buf.w ≤ s.buf.data.length)
    (hws : 1 ≤ s.buf.cfg.windowSize) (hmm1 : 1 ≤ s.minMatch) (hmm3 : s.minMatch ≤ 3)
    (flags : Nat) (s' : Parser) (n : Nat) (blk : Block) (b : Byte)
    (hp : s.parse flags = (s', n, .ok, blk)) (hf : flags % 2 = 0) (hn : 32 ≤ n)
    (hrun : ∀ t, t < n → s.buf.data[s.buf.w + t]? = some b) :
    blk.lits.length ≤ 1 := by
  obtain ⟨d, hd, hs1, hs2, hil1, hil, hil8, hf1, hf2⟩ := hF
  obtain ⟨hR, hN, rfl⟩ := run_call _ _ _ hw hp hf hn hrun
    (fun hn0 hm => ⟨_, _, parse_double s flags d hd hn0 hm⟩)
  have hl := s.blockPrefix_length hw
  have hNle := s.blockN_le
  have hkb : (s.kind == Kind.BDHP) = false := by rw [hk]; rfl
  rw [hkb]
  obtain ⟨hi1, hi2⟩ := processSegment2_inputLen d.h1 d.h2 s.buf.data ((s.buf.w : Int) - d.h2.inputLen + 1) s.buf.w
  obtain ⟨hz1, hz2⟩ := sizeOK_processSegment2 hs1 hs2 s.buf.data ((s.buf.w : Int) - d.h2.inputLen + 1) s.buf.w
  obtain ⟨hc1, hc2⟩ := processSegment2_entry_cov hs1 hs2 hil hf1 hf2 s.blockN (by omega)
  generalize processSegment2 d.h1 d.h2 s.buf.data ((s.buf.w : Int) - d.h2.inputLen + 1) s.buf.w = hh
    at hi1 hi2 hz1 hz2 hc1 hc2 ⊢
  exact dhp_run_block s.buf.cfg.windowSize s.minMatch ⟨hh.1, hh.2⟩ s.blockPrefix s.buf.w n b flags hf hR
    hz2 (by rw [hi1]; exact hil1) (by rw [hi1, hi2]; exact hil) (by rw [hi2]; exact hil8) hws hmm1 hmm3
    (hc1.mono _ (by simp only [hi1]; omega)) (hc2.mono _ (by simp only [hi2]; omega))

/-- as `SingleFresh.step`, table by table; `Parse(nil)` indexes the skipped block in both tables
    (`processSegment2_cov`) -/
theorem DoubleFresh.step {s s' : Parser} (hst : Parser.Step s s') (hk : s.kind = .DHP)
    (hw : s.buf.w ≤ s.buf.data.length) (hroom : Room s.buf) (hmm : 1 ≤ s.minMatch)
    (h : DoubleFresh s) : DoubleFresh s' := by
  obtain ⟨d, hd, hs1, hs2, h1, h12, h8, hf1, hf2⟩ := h
  cases hst with
  | idle => exact ⟨d, hd, hs1, hs2, h1, h12, h8, hf1, hf2⟩
  | fill b' q a => exact ⟨d, hd, hs1, hs2, h1, h12, h8, hf1.grow hw a.data a.w, hf2.grow hw a.data a.w⟩
  | parse flags hn _ =>
    obtain ⟨d', e1, e2, e3, e4, e5, e6, e7⟩ :=
      parse_double_fresh s flags d hd hk hs1 hs2 h12 hf1 hf2 hw hn (marginOK_of_cap s hroom.2 hn) hmm
    exact ⟨d', e1, e2, e3, by rw [e4]; exact h1, by rw [e4, e5]; exact h12, by rw [e5]; exact h8,
      by rw [parse_frame]; exact e6, by rw [parse_frame]; exact e7⟩
  | skip hn =>
    have hN := s.blockN_le
    obtain ⟨hi1, hi2⟩ := processSegment2_inputLen d.h1 d.h2 s.buf.data ((s.buf.w : Int) - d.h2.inputLen + 1)
      ((s.buf.w + s.blockN : Nat) : Int)
    obtain ⟨hz1, hz2⟩ := sizeOK_processSegment2 hs1 hs2 s.buf.data ((s.buf.w : Int) - d.h2.inputLen + 1)
      ((s.buf.w + s.blockN : Nat) : Int)
    have hcc := processSegment2_cov d.h1 d.h2 s.buf.data s.buf.w ((s.buf.w + s.blockN : Nat) : Int)
      (s.buf.w + s.blockN + 1 - d.h1.inputLen) (s.buf.w + s.blockN + 1 - d.h2.inputLen) hs1 hs2 h12
      hf1.cov hf2.cov (by omega) (by omega) (by omega) (by omega)
    unfold DoubleFresh
    simp only [Parser.skipDict, hd]
    refine ⟨_, rfl, hz1, hz2, by rw [hi1]; exact h1,
      by rw [hi1, hi2]; exact h12, by rw [hi2]; exact h8, ?_, ?_⟩
    · apply HashT.Cov.fresh
      rw [hi1]; exact hcc.1
    · apply HashT.Cov.fresh
      rw [hi2]; exact hcc.2
  | shrink hd0 =>
    have a := shrink_dropped s.buf
    have e : s.buf.w - s.buf.shrink.2 = s.buf.shrink.1.w := by have := a.w; omega
    have g1 := hf1.shift _ hd0 (by have := a.w; omega)
    have g2 := hf2.shift _ hd0 (by have := a.w; omega)
    rw [← a.data, e] at g1 g2
    unfold DoubleFresh
    simp only [Parser.shiftDict, hd]
    exact ⟨_, rfl, HashT.sizeOK_shiftOffsets hs1 _,
      HashT.sizeOK_shiftOffsets hs2 _, by simp only [HashT.shiftOffsets_inputLen]; exact h1,
      by simp only [HashT.shiftOffsets_inputLen]; exact h12,
      by simp only [HashT.shiftOffsets_inputLen]; exact h8, g1, g2⟩
  | reset data ce he =>
    rcases reset_frame s.buf data ce with ⟨-, -, b2, -⟩ | ⟨b0, -⟩
    · exact ⟨{ h1 := d.h1.clear, h2 := d.h2.clear }, by simp only [clearDict, hd], HashT.sizeOK_clear hs1,
        HashT.sizeOK_clear hs2, h1, h12, h8, by simp only [b2]; exact HashT.Fresh.zero _ _ h1,
        by simp only [b2]; exact HashT.Fresh.zero _ _ (by show 1 ≤ d.h2.inputLen; omega)⟩
    · exact absurd he b0

theorem doubleFresh_stepP (s : Parser) (op : POp) (hk : s.kind = .DHP)
    (hw : s.buf.w ≤ s.buf.data.length) (hroom : Room s.buf) (hmm : 1 ≤ s.minMatch)
    (h : DoubleFresh s) : DoubleFresh (stepP s op) :=
  h.step (stepP_step s op) hk hw hroom hmm

/-! ## history level -/

theorem setDefaults_windowSize_ne (k : Kind) (r : Cfg) : (setDefaults k r).windowSize ≠ 0 := by
  have hb : (bufDefaults r).windowSize ≠ 0 := by
    unfold bufDefaults
    simp only []
    split
    · decide
    · assumption
  cases k <;> exact hb

theorem newParser_windowSize {k : Kind} {raw : Cfg} {s0 : Parser} (h0 : newParser k raw = some s0) :
    1 ≤ s0.buf.cfg.windowSize := by
  obtain ⟨hv, rfl⟩ := newParser_eq_some h0
  have hb := verify_buf k _ hv
  simp only [bufVerify, Bool.decide_and, Bool.and_eq_true, decide_eq_true_eq] at hb
  have hne := setDefaults_windowSize_ne k (raw.restrict k)
  simp only [PBuf.init, Cfg.bufCfg]
  omega

/-- what `verify` says about the `InputLen`s of a hash parser -/
theorem verify_inputLen {k : Kind} {c : Cfg} (hv : verify k c = true) :
    (k = .HP ∨ k = .BHP ∨ k = .BUP → 2 ≤ c.inputLen.toNat ∧ c.inputLen.toNat ≤ 8) ∧
    (k = .DHP ∨ k = .BDHP →
      2 ≤ c.inputLen1.toNat ∧ c.inputLen1.toNat < c.inputLen2.toNat ∧ c.inputLen2.toNat ≤ 8) := by
  constructor <;> intro hk
  · have := verify_hash_bounds hk hv; omega
  · have := verify_dh_bounds hk hv; omega

theorem newParser_singleFresh {k : Kind} {raw : Cfg} {s0 : Parser} (h0 : newParser k raw = some s0)
    (hk : k = .HP ∨ k = .BHP) : SingleFresh s0 := by
  obtain ⟨hv, rfl⟩ := newParser_eq_some h0
  have hil := (verify_inputLen hv).1 (by rcases hk with rfl | rfl <;> simp)
  refine ⟨HashT.new (setDefaults k (raw.restrict k)).inputLen.toNat
    (setDefaults k (raw.restrict k)).hashBits.toNat, ?_, HashT.sizeOK_new _ _, Nat.le_of_succ_le hil.1,
    hil.2, ?_⟩
  · rcases hk with rfl | rfl <;> rfl
  · exact HashT.Fresh.zero _ _ (Nat.le_of_succ_le hil.1)

theorem minMatch_le_three (s : Parser) (hk : s.kind ≠ .GSAP ∧ s.kind ≠ .OSAP) : s.minMatch ≤ 3 := by
  unfold Parser.minMatch
  cases hkk : s.kind <;> simp only [] <;> first | omega | (rw [hkk] at hk; simp at hk)

/-- what every reachable state of a hash parser has besides its tables -/
theorem reachable_hash {k : Kind} {raw : Cfg} {s0 s : Parser} (h0 : newParser k raw = some s0)
    (hk : k ≠ .GSAP ∧ k ≠ .OSAP) (hr : Reachable s0 s) :
    s.buf.w ≤ s.buf.data.length ∧ 1 ≤ s.buf.cfg.windowSize ∧ 1 ≤ s.minMatch ∧ s.minMatch ≤ 3 :=
  have hB := hr.base h0
  ⟨hB.hw, by rw [hB.bcfg]; exact newParser_windowSize h0, hB.mm,
    minMatch_le_three s (by rw [hB.kind]; exact hk)⟩

theorem reachable_singleFresh (k : Kind) (hk : k = .HP ∨ k = .BHP) (raw : Cfg) (s0 : Parser)
    (h0 : newParser k raw = some s0) (ops : List POp) :
    let s := (runOps (s0, Ghost.init) ops).1
    SingleFresh s ∧ s.buf.w ≤ s.buf.data.length ∧ 1 ≤ s.buf.cfg.windowSize ∧ 1 ≤ s.minMatch ∧
      s.minMatch ≤ 3 :=
  have hr := reachable_runOps s0 ops
  ⟨hr.keeps h0 SingleFresh (newParser_singleFresh h0 hk)
      fun s op hb h => singleFresh_stepP s op hb.hw hb.room hb.mm h,
    reachable_hash h0 (by rcases hk with rfl | rfl <;> decide) hr⟩

theorem newParser_doubleFresh {raw : Cfg} {s0 : Parser} (h0 : newParser .DHP raw = some s0) :
    DoubleFresh s0 := by
  obtain ⟨hv, rfl⟩ := newParser_eq_some h0
  obtain ⟨hil1, hil12, hil8⟩ := (verify_inputLen hv).2 (Or.inl rfl)
  refine ⟨{ h1 := HashT.new (setDefaults .DHP (raw.restrict .DHP)).inputLen1.toNat
              (setDefaults .DHP (raw.restrict .DHP)).hashBits1.toNat,
            h2 := HashT.new (setDefaults .DHP (raw.restrict .DHP)).inputLen2.toNat
              (setDefaults .DHP (raw.restrict .DHP)).hashBits2.toNat },
    rfl, HashT.sizeOK_new _ _, HashT.sizeOK_new _ _, Nat.le_of_succ_le hil1, Nat.le_of_lt hil12, hil8, ?_, ?_⟩
  · exact HashT.Fresh.zero _ _ (Nat.le_of_succ_le hil1)
  · exact HashT.Fresh.zero _ _ (by show 1 ≤ (setDefaults .DHP (raw.restrict .DHP)).inputLen2.toNat; omega)

theorem reachable_doubleFresh (raw : Cfg) (s0 : Parser)
    (h0 : newParser .DHP raw = some s0) (ops : List POp) :
    let s := (runOps (s0, Ghost.init) ops).1
    s.kind = .DHP ∧ DoubleFresh s ∧ s.buf.w ≤ s.buf.data.length ∧ 1 ≤ s.buf.cfg.windowSize ∧
      1 ≤ s.minMatch ∧ s.minMatch ≤ 3 :=
  have hr := reachable_runOps s0 ops
  ⟨(hr.base h0).kind, hr.keeps h0 DoubleFresh (newParser_doubleFresh h0)
      fun s op hb h => doubleFresh_stepP s op hb.kind hb.hw hb.room hb.mm h,
    reachable_hash h0 (by decide) hr⟩

/-- C19, run clause, history level (HP, BHP, DHP).  For every accepted configuration, every
    history of `Write`, `ReadFrom`, `Parse` (any flags), `Parse(nil)`, `Shrink`, `Reset`: if the next
    `Parse(&blk, flags)` without `NoTrailingLiterals` returns a block of `n ≥ 32` bytes, all equal
    to one byte `b`, the block carries at most one literal byte. -/
theorem C19_run_hash_reachable (k : Kind) (hk : k = .HP ∨ k = .BHP ∨ k = .DHP) (raw : Cfg) (s0 : Parser)
    (h0 : newParser k raw = some s0) (ops : List POp)
    (flags : Nat) (s' : Parser) (n : Nat) (blk : Block) (b : Byte) :
    let s := (runOps (s0, Ghost.init) ops).1
    s.parse flags = (s', n, .ok, blk) → flags % 2 = 0 → 32 ≤ n →
    (∀ t, t < n → s.buf.data[s.buf.w + t]? = some b) →
    blk.lits.length ≤ 1 := by
  intro s hp hf hn hrun
  rcases hk with hk | hk | hk
  · obtain ⟨a1, a2, a3, a4, a5⟩ := reachable_singleFresh k (Or.inl hk) raw s0 h0 ops
    exact C19_run_hp s a1 a2 a3 a4 a5 flags s' n blk b hp hf hn hrun
  · obtain ⟨a1, a2, a3, a4, a5⟩ := reachable_singleFresh k (Or.inr hk) raw s0 h0 ops
    exact C19_run_hp s a1 a2 a3 a4 a5 flags s' n blk b hp hf hn hrun
  · subst hk
    obtain ⟨a0, a1, a2, a3, a4, a5⟩ := reachable_doubleFresh raw s0 h0 ops
    exact C19_run_dhp s a0 a1 a2 a3 a4 a5 flags s' n blk b hp hf hn hrun

/-- `C19_run_hash_reachable` for the single-table parsers, `k ∈ {HP, BHP}` -/
theorem C19_run_hp_reachable (k : Kind) (hk : k = .HP ∨ k = .BHP) (raw : Cfg) (s0 : Parser)
    (h0 : newParser k raw = some s0) (ops : List POp)
    (flags : Nat) (s' : Parser) (n : Nat) (blk : Block) (b : Byte)
    (hp : (runOps (s0, Ghost.init) ops).1.parse flags = (s', n, .ok, blk)) (hf : flags % 2 = 0)
    (hn : 32 ≤ n)
    (hrun : ∀ t, t < n → (runOps (s0, Ghost.init) ops).1.buf.data[(runOps (s0, Ghost.init) ops).1.buf.w + t]?
      = some b) :
    blk.lits.length ≤ 1 :=
  C19_run_hash_reachable k (by rcases hk with h | h <;> simp [h]) raw s0 h0 ops flags s' n blk b hp hf hn hrun

/-- `C19_run_hash_reachable` for DHP -/
theorem C19_run_dhp_reachable (raw : Cfg) (s0 : Parser)
    (h0 : newParser .DHP raw = some s0) (ops : List POp)
    (flags : Nat) (s' : Parser) (n : Nat) (blk : Block) (b : Byte)
    (hp : (runOps (s0, Ghost.init) ops).1.parse flags = (s', n, .ok, blk)) (hf : flags % 2 = 0)
    (hn : 32 ≤ n)
    (hrun : ∀ t, t < n → (runOps (s0, Ghost.init) ops).1.buf.data[(runOps (s0, Ghost.init) ops).1.buf.w + t]?
      = some b) :
    blk.lits.length ≤ 1 :=
  C19_run_hash_reachable .DHP (Or.inr (Or.inr rfl)) raw s0 h0 ops flags s' n blk b hp hf hn hrun

/-! ## non-vacuity -/

section Examples

/-- WindowSize 64, BufferSize 64, BlockSize 32, InputLen 3, 16 table slots (for DHP: InputLen1 3,
    InputLen2 6) -/
def runCfg : Cfg :=
  { windowSize := 64, bufferSize := 64, blockSize := 32, shrinkSize := 16, inputLen := 3, hashBits := 4,
    inputLen1 := 3, hashBits1 := 4, inputLen2 := 6, hashBits2 := 4 }

/-- the parser `NewParser` returns for `runCfg` -/
def runS0 (k : Kind) : Parser :=
  { kind := k, cfg := setDefaults k (runCfg.restrict k),
    buf := PBuf.init (setDefaults k (runCfg.restrict k)).bufCfg,
    dict := freshDict k (setDefaults k (runCfg.restrict k)) }

theorem runS0_new (k : Kind) (hv : verify k (setDefaults k (runCfg.restrict k)) = true) :
    newParser k runCfg = some (runS0 k) :=
  newParser_of_verify hv

/-- the history: one `Write` of 40 bytes `a` -/
def runOpsEx : List POp := [.write (List.replicate 40 97)]

theorem parse_full_block {k : Kind} {raw : Cfg} {s0 : Parser} (h0 : newParser k raw = some s0)
    (hne : k ≠ .OSAP) (ops : List POp) (N : Nat) (hN : 1 ≤ N)
    (hlen : (runOps (s0, Ghost.init) ops).1.buf.w + N ≤ (runOps (s0, Ghost.init) ops).1.buf.data.length)
    (hbs : (runOps (s0, Ghost.init) ops).1.buf.cfg.blockSize = N) :
    ∃ s' blk, (runOps (s0, Ghost.init) ops).1.parse 0 = (s', N, .ok, blk) := by
  have hst := reachable_stateOK k raw s0 h0 hne ops
  obtain ⟨s', n, blk, hp, -, -, -, -, -, -, -, -, -, -, -, hfull, -⟩ :=
    C01_C02_C03_parse _ 0 hst.1 hst.2 (by omega)
  have hn : n = N := by rw [hfull (Or.inl rfl), hbs]; omega
  exact ⟨s', blk, hn ▸ hp⟩

theorem runOpsEx_block (k : Kind) (hne : k ≠ .OSAP)
    (hv : verify k (setDefaults k (runCfg.restrict k)) = true)
    (hdata : (runOps (runS0 k, Ghost.init) runOpsEx).1.buf.data = List.replicate 40 97)
    (hw : (runOps (runS0 k, Ghost.init) runOpsEx).1.buf.w = 0)
    (hbs : (runOps (runS0 k, Ghost.init) runOpsEx).1.buf.cfg.blockSize = 32) :
    ∃ s' blk,
      let s := (runOps (runS0 k, Ghost.init) runOpsEx).1
      s.parse 0 = (s', 32, .ok, blk) ∧ (∀ t, t < 32 → s.buf.data[s.buf.w + t]? = some 97) := by
  obtain ⟨s', blk, hp⟩ := parse_full_block (runS0_new k hv) hne runOpsEx 32 (by decide)
    (by rw [hdata, hw]; decide) hbs
  refine ⟨s', blk, hp, ?_⟩
  intro t ht
  rw [hdata, hw, Nat.zero_add, List.getElem?_replicate, if_pos (by omega)]

/-- all hypotheses of `C19_run_hash_reachable` are satisfiable: after writing 40 equal bytes the
    first `Parse` of HP / BHP / DHP returns a block of `n = 32 = BlockSize` equal bytes -/
theorem run_example (k : Kind) (hk : k = .HP ∨ k = .BHP ∨ k = .DHP)
    (hv : verify k (setDefaults k (runCfg.restrict k)) = true)
    (hdata : (runOps (runS0 k, Ghost.init) runOpsEx).1.buf.data = List.replicate 40 97)
    (hw : (runOps (runS0 k, Ghost.init) runOpsEx).1.buf.w = 0)
    (hbs : (runOps (runS0 k, Ghost.init) runOpsEx).1.buf.cfg.blockSize = 32) :
    ∃ s' blk,
      let s := (runOps (runS0 k, Ghost.init) runOpsEx).1
      newParser k runCfg = some (runS0 k) ∧
      s.parse 0 = (s', 32, .ok, blk) ∧ (∀ t, t < 32 → s.buf.data[s.buf.w + t]? = some 97) ∧
      blk.lits.length ≤ 1 := by
  have hne : k ≠ .OSAP := by rcases hk with rfl | rfl | rfl <;> decide
  obtain ⟨s', blk, hp, hrun⟩ := runOpsEx_block k hne hv hdata hw hbs
  exact ⟨s', blk, runS0_new k hv, hp, hrun,
    C19_run_hash_reachable k hk runCfg _ (runS0_new k hv) runOpsEx 0 s' 32 blk 97 hp rfl
      (Nat.le_refl _) hrun⟩

example : ∃ s' blk,
    let s := (runOps (runS0 .HP, Ghost.init) runOpsEx).1
    newParser .HP runCfg = some (runS0 .HP) ∧
    s.parse 0 = (s', 32, .ok, blk) ∧ (∀ t, t < 32 → s.buf.data[s.buf.w + t]? = some 97) ∧
    blk.lits.length ≤ 1 :=
  run_example .HP (Or.inl rfl) (by decide) (by decide) (by decide) (by decide)

example : ∃ s' blk,
    let s := (runOps (runS0 .BHP, Ghost.init) runOpsEx).1
    newParser .BHP runCfg = some (runS0 .BHP) ∧
    s.parse 0 = (s', 32, .ok, blk) ∧ (∀ t, t < 32 → s.buf.data[s.buf.w + t]? = some 97) ∧
    blk.lits.length ≤ 1 :=
  run_example .BHP (Or.inr (Or.inl rfl)) (by decide) (by decide) (by decide) (by decide)

example : ∃ s' blk,
    let s := (runOps (runS0 .DHP, Ghost.init) runOpsEx).1
    newParser .DHP runCfg = some (runS0 .DHP) ∧
    s.parse 0 = (s', 32, .ok, blk) ∧ (∀ t, t < 32 → s.buf.data[s.buf.w + t]? = some 97) ∧
    blk.lits.length ≤ 1 :=
  run_example .DHP (Or.inr (Or.inr rfl)) (by decide) (by decide) (by decide) (by decide)

end Examples

end LZ

#print axioms LZ.run_call
#print axioms LZ.C19_run_hash_reachable
#print axioms LZ.C19_run_hp_reachable
#print axioms LZ.C19_run_dhp_reachable
#print axioms LZ.run_example
