/-
  LzProofs.ResetLemmas — what the operations keep, and what a caller can observe.

  A property of the search tables that the elementary table updates keep (`HashT.Kept`,
  `BucketT.Kept`, table by table: `Dict.Tables`) is kept by every step of the parser
  (`Parser.Step.keeps`; `Parser.Step` is in LzProofs/ParserStep.lean, `Parser.stepOut_step` ties the
  operations to it), and so is the buffer bound `PBuf.MarginInv` (`Step.marginInv`).  The instance
  that C13 (Reset ≙ fresh parser) needs is the *shape* (`DictShape`: variant, table sizes and the
  constant parameters `inputLen`, `hashBits`, `bucketSize`): `clear` of a dictionary of the right
  shape is the dictionary `freshDict` creates.  Histories are run with their outputs (`stepOut`,
  `runOut`), and observational equivalence (`ObsEq` = equal up to `buf.cap`) is a bisimulation for
  write / readFrom (error-free readers) / parse / parseNil / shrink / reset.
-/
import LzProofs.ParserStep
import LzProofs.WrapProps
import LzProofs.ParseHist
namespace LZ

/-! ## What the operations keep of the search structure

Every operation changes a table only by `insert`, `shiftOffsets` and `clear`, so a property kept by
these three is kept by everything. -/

theorem greedyLoop_dict {δ} (F : Finder δ) (P : δ → Prop)
    (hP : ∀ d p i li, P d → P (F.probe d p i li).1) (p : List Byte) (stop : Nat) (st : LoopSt δ)
    (h : P st.dict) : P (greedyLoop F p stop st).dict := by
  have hd (st : LoopSt δ) (h : P st.dict) {r} (hp : F.probe st.dict p st.i st.litIndex = r) :
      P r.1 := hp ▸ hP st.dict p st.i st.litIndex h
  fun_induction greedyLoop F p stop st with
  | case1 st hlt d hp ih => exact ih (hd st h hp)
  | case2 st hlt d s k o hp hk q ih => exact ih (hd st h hp)
  | case3 st hlt d s k o hp hk => exact hd st h hp
  | case4 st hlt => exact h

theorem runGreedy_fst {δ} (F : Finder δ) (d : δ) (p : List Byte) (w stop flags : Nat) :
    (Parser.runGreedy F d p w stop flags).1 =
      (greedyLoop F p stop { dict := d, i := w, litIndex := w, seqs := [], lits := [] }).dict := rfl

theorem runGreedy_dict {δ} (F : Finder δ) (P : δ → Prop)
    (hP : ∀ d p i li, P d → P (F.probe d p i li).1) (d : δ) (p : List Byte) (w stop flags : Nat)
    (h : P d) : P (Parser.runGreedy F d p w stop flags).1 := by
  rw [runGreedy_fst]; exact greedyLoop_dict F P hP p stop _ h

/-- `P` is kept by the elementary updates of a hash table -/
structure HashT.Kept (P : HashT → Prop) : Prop where
  insert : ∀ {h : HashT} (p : List Byte) (i : Nat), P h → P (h.insert p i)
  shiftOffsets : ∀ {h : HashT} (delta : Nat), P h → P (h.shiftOffsets delta)
  clear : ∀ {h : HashT}, P h → P h.clear

namespace HashT.Kept
variable {P : HashT → Prop}

theorem const (c : Prop) : Kept fun _ => c := ⟨fun _ _ h => h, fun _ h => h, fun h => h⟩

theorem and {Q : HashT → Prop} (hP : Kept P) (hQ : Kept Q) : Kept fun h => P h ∧ Q h :=
  ⟨fun p i h => ⟨hP.insert p i h.1, hQ.insert p i h.2⟩,
   fun delta h => ⟨hP.shiftOffsets delta h.1, hQ.shiftOffsets delta h.2⟩,
   fun h => ⟨hP.clear h.1, hQ.clear h.2⟩⟩

theorem insertRange (hP : Kept P) (p : List Byte) (n : Nat) :
    ∀ {h : HashT} (a : Nat), P h → P (h.insertRange p a n) := by
  induction n with
  | zero => intro h a hs; exact hs
  | succ n ih => intro h a hs; exact ih (a + 1) (hP.insert p a hs)

end HashT.Kept

theorem HashT.shiftOffsets_inputLen (h : HashT) (delta : Nat) :
    (h.shiftOffsets delta).inputLen = h.inputLen := by
  unfold HashT.shiftOffsets; split <;> rfl

theorem HashT.inputLen_kept (il : Nat) : HashT.Kept fun h => h.inputLen = il :=
  ⟨fun _ _ h => h, fun delta h => (HashT.shiftOffsets_inputLen _ delta).trans h, fun h => h⟩

section
variable {P P1 P2 : HashT → Prop}

theorem processSegment1_kept (hP : HashT.Kept P) {h : HashT} (hs : P h) (data : List Byte)
    (a b : Int) : P (processSegment1 h data a b) := by
  fun_cases processSegment1 h data a b
  · exact hs
  · exact hP.insertRange _ _ _ hs

theorem processSegment2_kept (hP1 : HashT.Kept P1) (hP2 : HashT.Kept P2) {h1 h2 : HashT}
    (hs1 : P1 h1) (hs2 : P2 h2) (data : List Byte) (a b : Int) :
    P1 (processSegment2 h1 h2 data a b).1 ∧ P2 (processSegment2 h1 h2 data a b).2 :=
  ⟨hP1.insertRange _ _ _ (hP1.insertRange _ _ _ hs1), hP2.insertRange _ _ _ hs2⟩

/-- the probe of HP/BHP: position `i` is inserted, then possibly the positions of the match
    (`hpProbe_fst`) -/
theorem hpProbe_kept (hP : HashT.Kept P) (ws mm ie : Nat) (back : Bool) {h : HashT} (hs : P h)
    (p : List Byte) (i li : Nat) : P (hpProbe ws mm ie back h p i li).1 := by
  rw [hpProbe_fst]
  generalize (hpProbe ws mm ie back h p i li).2 = r
  rcases r with _ | ⟨s, k, o⟩
  · exact hP.insert p i hs
  · exact hP.insertRange _ _ _ (hP.insert p i hs)

theorem dhpProbe_kept (hP1 : HashT.Kept P1) (hP2 : HashT.Kept P2) (ws mm e1 e2 : Nat) (back : Bool)
    {d : Hash2} (hs1 : P1 d.h1) (hs2 : P2 d.h2) (p : List Byte) (i li : Nat) :
    P1 (dhpProbe ws mm e1 e2 back d p i li).1.h1 ∧ P2 (dhpProbe ws mm e1 e2 back d p i li).1.h2 := by
  rw [dhpProbe_fst]
  generalize (dhpProbe ws mm e1 e2 back d p i li).2 = r
  have t : P1 (d.ins e2 p i).h1 ∧ P2 (d.ins e2 p i).h2 := by
    unfold Hash2.ins
    split
    · exact ⟨hP1.insert p i hs1, hP2.insert p i hs2⟩
    · exact ⟨hP1.insert p i hs1, hs2⟩
  rcases r with _ | ⟨s, k, o⟩
  · exact t
  · simp only [dhpReindex]
    by_cases hi : i < e2
    · rw [if_pos hi]
      refine ⟨hP1.insertRange _ _ _ t.1, ?_⟩
      cases back
      · exact hP2.insertRange _ _ _ t.2
      · exact t.2
    · rw [if_neg hi]
      exact ⟨hP1.insertRange _ _ _ t.1, t.2⟩

end

/-- `B` is kept by the elementary updates of a bucket table -/
structure BucketT.Kept (B : BucketT → Prop) : Prop where
  insert : ∀ {b : BucketT} (p : List Byte) (i : Nat), B b → B (b.insert p i)
  shiftOffsets : ∀ {b : BucketT} (delta : Nat), B b → B (b.shiftOffsets delta)
  clear : ∀ {b : BucketT}, B b → B b.clear

namespace BucketT.Kept
variable {B : BucketT → Prop}

theorem const (c : Prop) : Kept fun _ => c := ⟨fun _ _ h => h, fun _ h => h, fun h => h⟩

theorem and {C : BucketT → Prop} (hB : Kept B) (hC : Kept C) : Kept fun b => B b ∧ C b :=
  ⟨fun p i h => ⟨hB.insert p i h.1, hC.insert p i h.2⟩,
   fun delta h => ⟨hB.shiftOffsets delta h.1, hC.shiftOffsets delta h.2⟩,
   fun h => ⟨hB.clear h.1, hC.clear h.2⟩⟩

theorem insertRange (hB : Kept B) (p : List Byte) (n : Nat) :
    ∀ {b : BucketT} (a : Nat), B b → B (b.insertRange p a n) := by
  induction n with
  | zero => intro b a hs; exact hs
  | succ n ih => intro b a hs; exact ih (a + 1) (hB.insert p a hs)

end BucketT.Kept

theorem BucketT.shiftOffsets_inputLen (bk : BucketT) (delta : Nat) :
    (bk.shiftOffsets delta).inputLen = bk.inputLen := by
  unfold BucketT.shiftOffsets; split <;> rfl

theorem BucketT.inputLen_kept (il : Nat) : BucketT.Kept fun b => b.inputLen = il :=
  ⟨fun _ _ h => h, fun delta h => (BucketT.shiftOffsets_inputLen _ delta).trans h, fun h => h⟩

theorem processSegmentB_kept {B : BucketT → Prop} (hB : BucketT.Kept B) {b : BucketT} (hs : B b)
    (data : List Byte) (a e : Int) : B (processSegmentB b data a e) := by
  fun_cases processSegmentB b data a e
  · exact hs
  · exact hB.insertRange _ _ _ hs

theorem bupProbe_kept {B : BucketT → Prop} (hB : BucketT.Kept B) (ws mm ie : Nat) {b : BucketT}
    (hs : B b) (p : List Byte) (i li : Nat) : B (bupProbe ws mm ie b p i li).1 := by
  rw [bupProbe_eq]
  split
  · exact hB.insert p i hs
  · exact hB.insertRange _ _ _ (hB.insert p i hs)

/-- a property of the search structure, given table by table (`G`, `O`: the suffix-array parsers,
    whose structures hold no table) -/
def Dict.Tables (S D1 D2 : HashT → Prop) (B : BucketT → Prop) (G O : Prop) : Dict → Prop
  | .single h => S h
  | .double d => D1 d.h1 ∧ D2 d.h2
  | .bucket b => B b
  | .gsap _ => G
  | .osap _ => O

theorem Dict.Tables.single {S : HashT → Prop} {d : Dict}
    (h : d.Tables S (fun _ => False) (fun _ => False) (fun _ => False) False False) :
    ∃ t, d = .single t ∧ S t := by
  cases d with
  | single t => exact ⟨t, rfl, h⟩
  | double _ => exact h.1.elim
  | bucket _ => exact h.elim
  | gsap _ => exact h.elim
  | osap _ => exact h.elim

theorem Dict.Tables.double {D1 D2 : HashT → Prop} {d : Dict}
    (h : d.Tables (fun _ => False) D1 D2 (fun _ => False) False False) :
    ∃ t, d = .double t ∧ D1 t.h1 ∧ D2 t.h2 := by
  cases d with
  | double t => exact ⟨t, rfl, h⟩
  | single _ => exact h.elim
  | bucket _ => exact h.elim
  | gsap _ => exact h.elim
  | osap _ => exact h.elim

/-! ### shapes -/

namespace HashT

/-- the table has `2 ^ hb` slots and the parameters are `il`, `hb` -/
def Shape (il hb : Nat) (h : HashT) : Prop :=
  h.tbl.size = 2 ^ hb ∧ h.inputLen = il ∧ h.hashBits = hb

theorem shape_new (il hb : Nat) : (HashT.new il hb).Shape il hb := by
  simp [Shape, HashT.new]

theorem Shape.clear {il hb : Nat} {h : HashT} (hs : h.Shape il hb) : h.clear.Shape il hb := by
  obtain ⟨a, b, c⟩ := hs
  exact ⟨by simp [HashT.clear, a], b, c⟩

theorem Shape.clear_eq {il hb : Nat} {h : HashT} (hs : h.Shape il hb) :
    h.clear = HashT.new il hb := by
  obtain ⟨a, b, c⟩ := hs
  cases h
  simp only [HashT.clear, HashT.new] at *
  subst b c
  rw [a]

theorem Shape.insert {il hb : Nat} {h : HashT} (hs : h.Shape il hb) (p : List Byte) (i : Nat) :
    (h.insert p i).Shape il hb := by
  obtain ⟨a, b, c⟩ := hs
  exact ⟨by simp [HashT.insert, a], b, c⟩

theorem Shape.shiftOffsets {il hb : Nat} {h : HashT} (hs : h.Shape il hb) (delta : Nat) :
    (h.shiftOffsets delta).Shape il hb := by
  obtain ⟨a, b, c⟩ := hs
  unfold HashT.shiftOffsets
  split
  · exact ⟨a, b, c⟩
  · exact ⟨by simp [a], b, c⟩

theorem Shape.kept (il hb : Nat) : Kept (Shape il hb) :=
  ⟨fun p i hs => hs.insert p i, fun delta hs => hs.shiftOffsets delta, Shape.clear⟩

end HashT

theorem length_flatten_const {α : Type} (bs : Nat) :
    ∀ (L : List (List α)), (∀ l ∈ L, l.length = bs) → L.flatten.length = L.length * bs := by
  intro L
  induction L with
  | nil => intro _; simp
  | cons l L ih =>
    intro h
    simp only [List.flatten_cons, List.length_append, List.length_cons]
    rw [ih (fun x hx => h x (List.mem_cons_of_mem _ hx)), h l (List.mem_cons_self ..), Nat.add_mul]
    omega

namespace BucketT

/-- `2 ^ hb` buckets of `bs` slots each, one ring index per bucket, parameters `il`, `hb`, `bs` -/
def Shape (il hb bs : Nat) (b : BucketT) : Prop :=
  b.buckets.size = 2 ^ hb * bs ∧ b.indexes.size = 2 ^ hb ∧
  b.inputLen = il ∧ b.hashBits = hb ∧ b.bucketSize = bs

theorem shape_new (il hb bs : Nat) : (BucketT.new il hb bs).Shape il hb bs := by
  simp [Shape, BucketT.new]

theorem Shape.clear {il hb bs : Nat} {b : BucketT} (hs : b.Shape il hb bs) :
    b.clear.Shape il hb bs := by
  obtain ⟨a1, a2, a3, a4, a5⟩ := hs
  exact ⟨by simp [BucketT.clear, a1], by simp [BucketT.clear, a2], a3, a4, a5⟩

theorem Shape.clear_eq {il hb bs : Nat} {b : BucketT} (hs : b.Shape il hb bs) :
    b.clear = BucketT.new il hb bs := by
  obtain ⟨a1, a2, a3, a4, a5⟩ := hs
  cases b
  simp only [BucketT.clear, BucketT.new] at *
  subst a3 a4 a5
  rw [a1, a2]

theorem Shape.insert {il hb bs : Nat} {b : BucketT} (hs : b.Shape il hb bs) (p : List Byte)
    (i : Nat) : (b.insert p i).Shape il hb bs := by
  obtain ⟨a1, a2, a3, a4, a5⟩ := hs
  exact ⟨by simp [BucketT.insert, BucketT.add, a1], by simp [BucketT.insert, BucketT.add, a2],
    a3, a4, a5⟩

theorem shiftBucket_length (bs delta : Nat) (bucket : List (Nat × Nat)) (j : Nat)
    (hb : bucket.length ≤ bs) : (shiftBucket bs delta bucket j).1.length = bs := by
  unfold shiftBucket
  simp only [List.length_append, List.length_replicate, List.length_map]
  have h1 := List.length_filter_le (fun e : Nat × Nat => decide (¬ e.1 < delta))
    (bucket.drop j ++ bucket.take j)
  simp only [List.length_append, List.length_drop, List.length_take] at h1
  omega

theorem Shape.shiftOffsets {il hb bs : Nat} {b : BucketT} (hs : b.Shape il hb bs) (delta : Nat) :
    (b.shiftOffsets delta).Shape il hb bs := by
  obtain ⟨a1, a2, a3, a4, a5⟩ := hs
  unfold BucketT.shiftOffsets
  split
  · exact ⟨a1, a2, a3, a4, a5⟩
  · refine ⟨?_, ?_, a3, a4, a5⟩
    · simp only [List.size_toArray]
      rw [length_flatten_const b.bucketSize]
      · simp [a2, a5]
      · intro l hl
        simp only [List.map_map, List.mem_map, List.mem_range, Function.comp] at hl
        obtain ⟨h, _, rfl⟩ := hl
        apply shiftBucket_length
        simp only [Array.length_toList, Array.size_extract]
        rw [Nat.add_mul]
        omega
    · simp [a2]

theorem Shape.kept (il hb bs : Nat) : Kept (Shape il hb bs) :=
  ⟨fun p i hs => hs.insert p i, fun delta hs => hs.shiftOffsets delta, Shape.clear⟩

end BucketT

/-- the search structure has the shape `freshDict k c` creates: the variant belonging to the kind,
    table sizes `2 ^ hashBits` (× `bucketSize`), and the parameters stored in the tables are
    those of the configuration.  Nothing is said about the table *contents*. -/
def DictShape (k : Kind) (c : Cfg) : Dict → Prop :=
  Dict.Tables
    (fun h => (k = .HP ∨ k = .BHP) ∧ h.Shape c.inputLen.toNat c.hashBits.toNat)
    (fun h => (k = .DHP ∨ k = .BDHP) ∧ h.Shape c.inputLen1.toNat c.hashBits1.toNat)
    (fun h => h.Shape c.inputLen2.toNat c.hashBits2.toNat)
    (fun b => k = .BUP ∧ b.Shape c.inputLen.toNat c.hashBits.toNat c.bucketSize.toNat)
    (k = .GSAP) (k = .OSAP)

theorem dictShape_fresh (k : Kind) (c : Cfg) : DictShape k c (freshDict k c) := by
  cases k <;> simp [freshDict, DictShape, Dict.Tables, HashT.shape_new, BucketT.shape_new]

theorem DictShape.single {k : Kind} {c : Cfg} {d : Dict} (hk : k = .HP ∨ k = .BHP)
    (h : DictShape k c d) : ∃ t, d = .single t ∧ t.Shape c.inputLen.toNat c.hashBits.toNat := by
  cases d with
  | single t => exact ⟨t, rfl, h.2⟩
  | double _ => rcases hk with rfl | rfl <;> rcases h.1.1 with e | e <;> cases e
  | bucket _ => rcases hk with rfl | rfl <;> cases h.1
  | gsap _ => rcases hk with rfl | rfl <;> cases (h : _ = Kind.GSAP)
  | osap _ => rcases hk with rfl | rfl <;> cases (h : _ = Kind.OSAP)

theorem DictShape.double {k : Kind} {c : Cfg} {d : Dict} (hk : k = .DHP ∨ k = .BDHP)
    (h : DictShape k c d) :
    ∃ t, d = .double t ∧ t.h1.Shape c.inputLen1.toNat c.hashBits1.toNat ∧
      t.h2.Shape c.inputLen2.toNat c.hashBits2.toNat := by
  cases d with
  | double t => exact ⟨t, rfl, h.1.2, h.2⟩
  | single _ => rcases hk with rfl | rfl <;> rcases h.1 with e | e <;> cases e
  | bucket _ => rcases hk with rfl | rfl <;> cases h.1
  | gsap _ => rcases hk with rfl | rfl <;> cases (h : _ = Kind.GSAP)
  | osap _ => rcases hk with rfl | rfl <;> cases (h : _ = Kind.OSAP)

theorem DictShape.bucket {c : Cfg} {d : Dict} (h : DictShape .BUP c d) :
    ∃ b, d = .bucket b ∧ b.Shape c.inputLen.toNat c.hashBits.toNat c.bucketSize.toNat := by
  cases d with
  | bucket b => exact ⟨b, rfl, h.2⟩
  | single _ => rcases h.1 with e | e <;> cases e
  | double _ => rcases h.1.1 with e | e <;> cases e
  | gsap _ => cases (h : _ = Kind.GSAP)
  | osap _ => cases (h : _ = Kind.OSAP)

theorem DictShape.osap {c : Cfg} {d : Dict} (h : DictShape .OSAP c d) : ∃ o, d = .osap o := by
  cases d with
  | osap o => exact ⟨o, rfl⟩
  | single _ => rcases h.1 with e | e <;> cases e
  | double _ => rcases h.1.1 with e | e <;> cases e
  | bucket _ => cases h.1
  | gsap _ => cases (h : _ = Kind.GSAP)

/-- the key fact: clearing a dictionary of the right shape gives exactly the fresh one -/
theorem clearDict_eq_fresh {k : Kind} {c : Cfg} (s : Parser) (h : DictShape k c s.dict) :
    s.clearDict = freshDict k c := by
  unfold Parser.clearDict
  cases hd : s.dict with
  | single t =>
    rw [hd] at h
    obtain ⟨hk, hs⟩ := h
    simp only [hs.clear_eq]
    rcases hk with rfl | rfl <;> rfl
  | double t =>
    rw [hd] at h
    obtain ⟨⟨hk, hs1⟩, hs2⟩ := h
    simp only [hs1.clear_eq, hs2.clear_eq]
    rcases hk with rfl | rfl <;> rfl
  | bucket t =>
    rw [hd] at h
    obtain ⟨hk, hs⟩ := h
    simp only [hs.clear_eq]
    subst hk; rfl
  | gsap g => rw [hd] at h; have h : k = .GSAP := h; subst h; rfl
  | osap o => rw [hd] at h; have h : k = .OSAP := h; subst h; rfl

/-! ## Operations with outputs; what they keep -/

/-- what the caller of an operation observes -/
inductive POut where
  | write (n : Nat) (e : Err)
  /-- count, error and the bytes the reader still holds -/
  | readFrom (n : Nat) (e : Err) (rest : List Byte)
  | parse (n : Nat) (e : Err) (blk : Block)
  | parseNil (n : Nat) (e : Err)
  | shrink (delta : Nat)
  | reset (e : Err)
deriving DecidableEq, Repr

namespace Parser

/-- one operation: new state and what the caller sees -/
def stepOut (s : Parser) : POp → Parser × POut
  | .write p => ((s.write p).1, .write (s.write p).2.1 (s.write p).2.2)
  | .readFrom rd =>
    ((s.readFrom rd).1, .readFrom (s.readFrom rd).2.2.1 (s.readFrom rd).2.2.2 (s.readFrom rd).2.1.payload)
  | .parse flags =>
    ((s.parse flags).1, .parse (s.parse flags).2.1 (s.parse flags).2.2.1 (s.parse flags).2.2.2)
  | .parseNil => (s.parseNil.1, .parseNil s.parseNil.2.1 s.parseNil.2.2)
  | .shrink => (s.shrink.1, .shrink s.shrink.2)
  | .reset data ce => ((s.reset data ce).1, .reset (s.reset data ce).2)

/-- a history: final state and the list of everything the caller saw -/
def runOut (s : Parser) : List POp → Parser × List POut
  | [] => (s, [])
  | op :: ops => (((s.stepOut op).1.runOut ops).1, (s.stepOut op).2 :: ((s.stepOut op).1.runOut ops).2)

end Parser

/-- `runOps` of LzProofs.ParseHist (with ghost state) visits the same parser states -/
theorem step_stepOut (s : Parser) (g : Ghost) (op : POp) : (step (s, g) op).1 = (s.stepOut op).1 := by
  cases op <;> simp only [step, Parser.stepOut] <;> split <;> rfl

theorem runOps_runOut (ops : List POp) : ∀ (s : Parser) (g : Ghost),
    (runOps (s, g) ops).1 = (s.runOut ops).1 := by
  induction ops with
  | nil => intro s g; rfl
  | cons op ops ih =>
    intro s g
    show (runOps (step (s, g) op) ops).1 = _
    have : step (s, g) op = ((s.stepOut op).1, (step (s, g) op).2) := by
      rw [← step_stepOut s g op]
    rw [this, ih]
    rfl

namespace PBuf

/-- the buffer invariant needed here (no ghost stream, nothing about `W`): at most `BufferSize`
    bytes, and non-empty data have the 7 byte margin.  Implied by `BufOK` and by `PInv`. -/
def MarginInv (b : PBuf) : Prop := b.data.length ≤ b.cfg.bufferSize ∧ b.CapOK

theorem marginInv_of_bufOK {b : PBuf} (h : BufOK b) : MarginInv b := ⟨h.2.1, h.2.2⟩

theorem marginInv_init (cfg : BufCfg) : MarginInv (init cfg) := ⟨Nat.zero_le _, Or.inl rfl⟩

theorem MarginInv.appended {b b' : PBuf} {q : List Byte} (h : MarginInv b) (a : b.Appended b' q) :
    MarginInv b' :=
  ⟨a.cfg ▸ a.len_le h.1, a.cap h.2⟩

theorem MarginInv.write {b : PBuf} (h : MarginInv b) (p : List Byte) : MarginInv (b.write p).1 :=
  h.appended (write_appended b p)

theorem MarginInv.readFrom {b : PBuf} (h : MarginInv b) (r : Reader) :
    MarginInv (b.readFrom r).1 :=
  h.appended (readFrom_appended b r)

theorem MarginInv.shrink {b : PBuf} (h : MarginInv b) : MarginInv b.shrink.1 :=
  have a := shrink_dropped b
  ⟨by rw [a.length, a.cfg]; exact Nat.le_trans (Nat.sub_le _ _) h.1, a.capOK h.2⟩

theorem MarginInv.reset {b : PBuf} (h : MarginInv b) (data : List Byte) (ce : Nat) :
    MarginInv (b.reset data ce).1 := by
  by_cases hd : b.cfg.bufferSize < data.length
  · rw [reset_oversize b data ce hd]; exact h
  · obtain ⟨c, hc, hm⟩ := reset_spec b data ce (by omega)
    rw [hc]
    exact ⟨by simp only; omega, hm⟩

theorem MarginInv.setW {b : PBuf} (h : MarginInv b) (w : Nat) : MarginInv { b with w := w } := h

end PBuf

namespace Parser

theorem parse_panic (s : Parser) (flags : Nat) (hn : s.blockN ≠ 0) (hm : ¬ s.MarginOK) :
    s.parse flags = (s, 0, .panic, ⟨[], []⟩) := by
  have hm := Classical.not_not.mp hm
  unfold dictInputLen blockPrefix at hm
  unfold parse
  simp only [hn, if_false]
  exact if_pos hm

theorem stepOut_step (s : Parser) (op : POp) : Step s (s.stepOut op).1 := by
  cases op with
  | write p => exact .of_write s p
  | readFrom r => exact .of_readFrom s r
  | parse flags => exact .of_parse s flags
  | parseNil => exact .of_parseNil s
  | shrink => exact .of_shrink s
  | reset data ce => exact .of_reset s data ce

theorem Step.marginInv {s s' : Parser} (h : Step s s') (hm : s.buf.MarginInv) : s'.buf.MarginInv := by
  cases h with
  | idle => exact hm
  | fill _ _ a => exact hm.appended a
  | parse flags _ _ => rw [parse_frame]; exact hm
  | skip _ => exact hm
  | shrink _ => exact hm.shrink
  | reset data ce _ => exact hm.reset data ce

/-- No step changes kind or configuration, and every step keeps what the elementary table updates
    keep: `Parse` and `Parse(nil)` only insert, `Shrink` shifts, `Reset` clears. -/
theorem Step.keeps {S D1 D2 : HashT → Prop} {B : BucketT → Prop} {G O : Prop} (hS : HashT.Kept S)
    (hD1 : HashT.Kept D1) (hD2 : HashT.Kept D2) (hB : BucketT.Kept B) {s s' : Parser}
    (h : Step s s') :
    s'.kind = s.kind ∧ s'.cfg = s.cfg ∧
    (s.dict.Tables S D1 D2 B G O → s'.dict.Tables S D1 D2 B G O) := by
  refine ⟨h.kind_cfg.1, h.kind_cfg.2, ?_⟩
  cases h with
  | idle => exact id
  | fill _ _ _ => exact id
  | parse flags hn hok =>
    have hm : s.MarginOK := Classical.byContradiction fun hm => by
      rw [parse_panic s flags hn hm] at hok; cases hok
    cases hd : s.dict with
    | single t =>
      rw [parse_single s flags t hd hn hm]
      exact fun h => runGreedy_dict _ S (fun _ _ _ _ h' => hpProbe_kept hS _ _ _ _ h' _ _ _)
        _ _ _ _ _ (processSegment1_kept hS h _ _ _)
    | double t =>
      rw [parse_double s flags t hd hn hm]
      exact fun h => runGreedy_dict _ (fun d : Hash2 => D1 d.h1 ∧ D2 d.h2)
        (fun _ _ _ _ h' => dhpProbe_kept hD1 hD2 _ _ _ _ _ h'.1 h'.2 _ _ _) _ _ _ _ _
        (processSegment2_kept hD1 hD2 h.1 h.2 _ _ _)
    | bucket t =>
      rw [parse_bucket s flags t hd hn hm]
      exact fun h => runGreedy_dict _ B (fun _ _ _ li h' => bupProbe_kept hB _ _ _ h' _ _ li)
        _ _ _ _ _ (processSegmentB_kept hB h _ _ _)
    | gsap g => rw [parse_gsap s flags g hd hn]; exact id
    | osap o =>
      rw [parse_osap s flags o hd hn]
      simp only []
      split <;> exact id
  | skip _ =>
    unfold skipDict
    cases s.dict with
    | single t => exact fun h => processSegment1_kept hS h _ _ _
    | double t => exact fun h => processSegment2_kept hD1 hD2 h.1 h.2 _ _ _
    | bucket t => exact fun h => processSegmentB_kept hB h _ _ _
    | gsap g => exact id
    | osap o => exact id
  | shrink _ =>
    unfold shiftDict
    cases s.dict with
    | single t => exact hS.shiftOffsets _
    | double t => exact fun h => ⟨hD1.shiftOffsets _ h.1, hD2.shiftOffsets _ h.2⟩
    | bucket t => exact hB.shiftOffsets _
    | gsap g => exact id
    | osap o => exact id
  | reset _ _ _ =>
    unfold clearDict
    cases s.dict with
    | single t => exact hS.clear
    | double t => exact fun h => ⟨hD1.clear h.1, hD2.clear h.2⟩
    | bucket t => exact hB.clear
    | gsap g => exact id
    | osap o => exact id

/-- a search structure that is not OSAP's stays so (`Step.keeps` with `O := False`), hence `GreedyWF`
    survives every step -/
theorem GreedyWF.step {s s' : Parser} (hs : Step s s') (h : s.GreedyWF) : s'.GreedyWF :=
  h.of_step hs fun hno o ho => by
    have h' := (hs.keeps (G := True) (O := False) (HashT.Kept.const True) (HashT.Kept.const True)
      (HashT.Kept.const True) (BucketT.Kept.const True)).2.2 (by
        cases hd : s.dict with
        | osap o => exact absurd hd (hno o)
        | double _ => exact ⟨trivial, trivial⟩
        | single _ | bucket _ | gsap _ => trivial)
    rw [ho] at h'
    exact h'

theorem stepOut_marginInv (s : Parser) (op : POp) (h : s.buf.MarginInv) :
    (s.stepOut op).1.buf.MarginInv :=
  (stepOut_step s op).marginInv h

theorem stepOut_keeps {S D1 D2 : HashT → Prop} {B : BucketT → Prop} {G O : Prop} (hS : HashT.Kept S)
    (hD1 : HashT.Kept D1) (hD2 : HashT.Kept D2) (hB : BucketT.Kept B) (s : Parser) (op : POp) :
    (s.stepOut op).1.kind = s.kind ∧ (s.stepOut op).1.cfg = s.cfg ∧
    (s.dict.Tables S D1 D2 B G O → (s.stepOut op).1.dict.Tables S D1 D2 B G O) :=
  (stepOut_step s op).keeps hS hD1 hD2 hB

end Parser

/-- no operation changes `inputLen` or `hashBits` of a hash table of the dictionary: the operations only insert, shift
    and clear -/
theorem HashT.hashParams_kept (il hb : Nat) : HashT.Kept fun h => h.inputLen = il ∧ h.hashBits = hb :=
  (HashT.inputLen_kept il).and
    ⟨fun _ _ h => h, fun d h => (by unfold HashT.shiftOffsets; split <;> rfl : (HashT.shiftOffsets _ d).hashBits = _).trans h,
      fun h => h⟩

/-- … for a parser with one table -/
theorem Parser.single_kept (s : Parser) (op : POp) (h : HashT) (hd : s.dict = .single h) :
    ∃ h', (s.stepOut op).1.dict = .single h' ∧ h'.inputLen = h.inputLen ∧ h'.hashBits = h.hashBits := by
  obtain ⟨t, ht, h1⟩ := Dict.Tables.single ((Parser.stepOut_keeps
    (HashT.hashParams_kept h.inputLen h.hashBits) (.const _) (.const _) (.const _) s op).2.2
    (by rw [hd]; exact ⟨rfl, rfl⟩))
  exact ⟨t, ht, h1⟩

/-- … for a parser with two tables -/
theorem Parser.double_kept (s : Parser) (op : POp) (d : Hash2) (hd : s.dict = .double d) :
    ∃ d', (s.stepOut op).1.dict = .double d' ∧ d'.h1.inputLen = d.h1.inputLen ∧ d'.h1.hashBits = d.h1.hashBits ∧
      d'.h2.inputLen = d.h2.inputLen ∧ d'.h2.hashBits = d.h2.hashBits := by
  obtain ⟨t, ht, h1, h2⟩ := Dict.Tables.double ((Parser.stepOut_keeps (.const _)
    (HashT.hashParams_kept d.h1.inputLen d.h1.hashBits) (HashT.hashParams_kept d.h2.inputLen d.h2.hashBits) (.const _) s op).2.2
    (by rw [hd]; exact ⟨⟨rfl, rfl⟩, rfl, rfl⟩))
  exact ⟨t, ht, h1.1, h1.2, h2.1, h2.2⟩

/-- `Parser.single_kept` for a given table after the operation -/
theorem Parser.single_kept_eq {s : Parser} (op : POp) {h h' : HashT} (hd : s.dict = .single h)
    (hd' : (s.stepOut op).1.dict = .single h') : h'.inputLen = h.inputLen ∧ h'.hashBits = h.hashBits := by
  obtain ⟨_, e, r⟩ := Parser.single_kept s op h hd
  rw [hd'] at e
  injection e with e
  exact e ▸ r

/-- `Parser.double_kept` for a given pair of tables after the operation -/
theorem Parser.double_kept_eq {s : Parser} (op : POp) {d d' : Hash2} (hd : s.dict = .double d)
    (hd' : (s.stepOut op).1.dict = .double d') :
    d'.h1.inputLen = d.h1.inputLen ∧ d'.h1.hashBits = d.h1.hashBits ∧
      d'.h2.inputLen = d.h2.inputLen ∧ d'.h2.hashBits = d.h2.hashBits := by
  obtain ⟨_, e, r⟩ := Parser.double_kept s op d hd
  rw [hd'] at e
  injection e with e
  exact e ▸ r

theorem Parser.runOut_invariant (I : Parser → Prop) (hI : ∀ s op, I s → I (s.stepOut op).1) :
    ∀ (ops : List POp) (s : Parser), I s → I (s.runOut ops).1
  | [], _, h => h
  | op :: ops, s, h => Parser.runOut_invariant I hI ops _ (hI s op h)

open PBuf

/-! ## Observational equivalence is a bisimulation -/

/-- observational equivalence of two parser states: equal in everything but the capacity of
    the buffer's backing array (`buf.cap`) -/
def ObsEq (s t : Parser) : Prop :=
  s.kind = t.kind ∧ s.cfg = t.cfg ∧ s.dict = t.dict ∧ s.buf.data = t.buf.data ∧
  s.buf.w = t.buf.w ∧ s.buf.off = t.buf.off ∧ s.buf.cfg = t.buf.cfg

/-- `ObsEq` is `Parser.Sim` of LzProofs.WrapProps -/
theorem obsEq_iff_sim (s t : Parser) : ObsEq s t ↔ Parser.Sim s t := Iff.rfl

theorem ObsEq.refl (s : Parser) : ObsEq s s := ⟨rfl, rfl, rfl, rfl, rfl, rfl, rfl⟩

theorem ObsEq.symm {s t : Parser} (h : ObsEq s t) : ObsEq t s :=
  ⟨h.1.symm, h.2.1.symm, h.2.2.1.symm, h.2.2.2.1.symm, h.2.2.2.2.1.symm, h.2.2.2.2.2.1.symm,
   h.2.2.2.2.2.2.symm⟩

theorem ObsEq.trans {s t u : Parser} (h : ObsEq s t) (h' : ObsEq t u) : ObsEq s u :=
  ⟨h.1.trans h'.1, h.2.1.trans h'.2.1, h.2.2.1.trans h'.2.2.1, h.2.2.2.1.trans h'.2.2.2.1,
   h.2.2.2.2.1.trans h'.2.2.2.2.1, h.2.2.2.2.2.1.trans h'.2.2.2.2.2.1,
   h.2.2.2.2.2.2.trans h'.2.2.2.2.2.2⟩

theorem ObsEq.sameView {s t : Parser} (h : ObsEq s t) : SameView s.buf t.buf := h.2.2.2

/-- equal up to `cap` and equal `cap` means equal -/
theorem ObsEq.eq_of_cap {s t : Parser} (h : ObsEq s t) (hc : s.buf.cap = t.buf.cap) : s = t := by
  have := Parser.Sim.eq_withCap h
  rw [this, ← hc]
  rfl

/-- two calls the caller cannot tell apart: identical arguments, except that the spare capacity
    of a slice handed to `Reset` and the chunking of an error-free reader may differ -/
inductive POp.Similar : POp → POp → Prop
  | write (p : List Byte) : Similar (.write p) (.write p)
  | readFrom (ra rb : Reader) (hp : ra.payload = rb.payload) (ha : FillR ra) (hb : FillR rb) :
      Similar (.readFrom ra) (.readFrom rb)
  | parse (flags : Nat) : Similar (.parse flags) (.parse flags)
  | parseNil : Similar .parseNil .parseNil
  | shrink : Similar .shrink .shrink
  | reset (data : List Byte) (ce ce' : Nat) : Similar (.reset data ce) (.reset data ce')

/-- the operations of the restricted histories: every reader is error free (`FillR`) -/
def POp.FillOK : POp → Prop
  | .readFrom r => FillR r
  | _ => True

theorem POp.Similar.of_fillOK {op : POp} (h : op.FillOK) : POp.Similar op op := by
  cases op with
  | write p => exact .write p
  | readFrom r => exact .readFrom r r rfl h h
  | parse flags => exact .parse flags
  | parseNil => exact .parseNil
  | shrink => exact .shrink
  | reset d ce => exact .reset d ce ce

/-- two histories the caller cannot tell apart -/
inductive OpsSimilar : List POp → List POp → Prop
  | nil : OpsSimilar [] []
  | cons {a b : POp} {as bs : List POp} : POp.Similar a b → OpsSimilar as bs →
      OpsSimilar (a :: as) (b :: bs)

theorem OpsSimilar.of_fillOK : ∀ {ops : List POp}, (∀ op ∈ ops, op.FillOK) → OpsSimilar ops ops
  | [], _ => .nil
  | op :: ops, h => .cons (POp.Similar.of_fillOK (h op (List.mem_cons_self ..)))
      (OpsSimilar.of_fillOK (ops := ops) fun o ho => h o (List.mem_cons_of_mem _ ho))

namespace Parser

theorem parseNil_withCap (s : Parser) (c : Nat) :
    (s.withCap c).parseNil = (s.parseNil.1.withCap c, s.parseNil.2) := by
  obtain ⟨kind, cfg, buf, dict⟩ := s
  unfold Parser.parseNil
  simp only [Parser.withCap, Parser.blockN]
  by_cases h : min (buf.data.length - buf.w) buf.cfg.blockSize = 0
  · simp only [h, if_true]
  · simp only [h, if_false]

theorem parse_obs {s t : Parser} (h : ObsEq s t) (hs : s.buf.MarginInv) (ht : t.buf.MarginInv)
    (flags : Nat) :
    ObsEq (s.parse flags).1 (t.parse flags).1 ∧ (s.parse flags).2 = (t.parse flags).2 := by
  by_cases hw : s.buf.w ≤ s.buf.data.length
  · have ha : BufOK s.buf := ⟨hw, hs.1, hs.2⟩
    have hb : BufOK t.buf := ⟨by rw [← h.2.2.2.2.1, ← h.2.2.2.1]; exact hw, ht.1, ht.2⟩
    exact Parser.parse_sim h flags ha hb
  · have h1 : s.blockN = 0 := by unfold Parser.blockN; omega
    have h2 : t.blockN = 0 := by unfold Parser.blockN; rw [← h.2.2.2.2.1, ← h.2.2.2.1]; omega
    rw [parse_empty s flags h1, parse_empty t flags h2]
    exact ⟨h, rfl⟩

theorem reset_obs {s t : Parser} (h : ObsEq s t) (data : List Byte) (ce ce' : Nat) :
    ObsEq (s.reset data ce).1 (t.reset data ce').1 ∧ (s.reset data ce).2 = (t.reset data ce').2 := by
  obtain ⟨g1, g2⟩ := sameView_reset h.sameView data ce ce'
  by_cases he : (t.buf.reset data ce').2 = .ok
  · rw [reset_ok (g2.trans he), reset_ok he]
    refine ⟨⟨h.1, h.2.1, ?_, g1⟩, rfl⟩
    show s.clearDict = t.clearDict
    unfold clearDict
    rw [h.2.2.1]
  · rw [reset_err (g2 ▸ he), reset_err he]
    exact ⟨h, g2⟩

theorem obs_step {s t : Parser} (h : ObsEq s t) (hs : s.buf.MarginInv) (ht : t.buf.MarginInv)
    {op op' : POp} (ho : POp.Similar op op') :
    ObsEq (s.stepOut op).1 (t.stepOut op').1 ∧ (s.stepOut op).2 = (t.stepOut op').2 := by
  cases ho with
  | write p =>
    obtain ⟨g1, g2⟩ := sameView_write h.sameView hs.1 p
    exact ⟨⟨h.1, h.2.1, h.2.2.1, g1⟩, congrArg (fun r : Nat × Err => POut.write r.1 r.2) g2⟩
  | readFrom ra rb hp ha hb =>
    obtain ⟨g1, g2, g3⟩ :=
      sameView_readFrom_fill h.sameView hs.1 hp (ha.fillScript _) (hb.fillScript _)
    exact ⟨⟨h.1, h.2.1, h.2.2.1, g1⟩,
      (congrArg (fun r : Nat × Err => POut.readFrom r.1 r.2 _) g3).trans (congrArg (POut.readFrom _ _) g2)⟩
  | parse flags =>
    obtain ⟨g1, g2⟩ := parse_obs h hs ht flags
    exact ⟨g1, congrArg (fun r : Nat × Err × Block => POut.parse r.1 r.2.1 r.2.2) g2⟩
  | parseNil =>
    simp only [stepOut]
    rw [Parser.Sim.eq_withCap h, parseNil_withCap]
    exact ⟨Parser.sim_withCap _ _, rfl⟩
  | shrink =>
    simp only [stepOut]
    rw [Parser.Sim.eq_withCap h, Parser.shrink_withCap]
    exact ⟨Parser.sim_withCap _ _, rfl⟩
  | reset data ce ce' =>
    obtain ⟨g1, g2⟩ := reset_obs h data ce ce'
    exact ⟨g1, congrArg POut.reset g2⟩

end Parser
end LZ
#print axioms LZ.Parser.stepOut_step
#print axioms LZ.Parser.Step.keeps
#print axioms LZ.Parser.Step.marginInv
