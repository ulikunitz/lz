/-
  LzProofs.ParseLemmas — what the parser proofs (C01, C02, C03, C14, C19) need about the byte
  comparisons `lcpLen` / `lcsLen` / `backExt` at positions of one buffer and about the reference
  expander on a genuine match: a candidate verified by these comparisons is `MatchOK`, which
  `matchOK_iff_lcp` reads as a common prefix.  (The facts about `lcpLen` of two arbitrary lists are
  in Lex.lean.)
-/
import LzModel.Basic
import LzModel.Hash
import LzProofs.Lex
import LzProofs.DecBufLemmas
namespace LZ

/-! ## `lcpLen` -/

theorem lcpLen_le_min (a b : List Byte) : lcpLen a b ≤ min a.length b.length :=
  Nat.le_min.2 ⟨lcpLen_le_left a b, lcpLen_le_right a b⟩

/-! ## `MatchOK` -/

/-- a genuine match is a common prefix of the suffixes at the position and at its source -/
theorem matchOK_iff_lcp (p : List Byte) (i k o : Nat) :
    MatchOK p i k o ↔
      0 < o ∧ o ≤ i ∧ i + k ≤ p.length ∧ k ≤ lcpLen (p.drop i) (p.drop (i - o)) := by
  unfold MatchOK
  rw [le_lcpLen_iff]
  simp only [List.length_drop]
  constructor
  · rintro ⟨a, b, c, d⟩
    refine ⟨a, b, c, by omega, by omega, List.ext_getElem? fun t => ?_⟩
    rw [List.getElem?_take, List.getElem?_take]
    split
    · rw [List.getElem?_drop, List.getElem?_drop, d t ‹_›]; congr 1; omega
    · rfl
  · rintro ⟨a, b, c, _, _, e⟩
    refine ⟨a, b, c, fun t ht => ?_⟩
    have := congrArg (·[t]?) e
    simp only [List.getElem?_take, if_pos ht, List.getElem?_drop] at this
    rw [this]; congr 1; omega

theorem MatchOK.mono_len {p : List Byte} {i k o : Nat} (h : MatchOK p i k o) (k' : Nat) (hk : k' ≤ k) :
    MatchOK p i k' o := by
  obtain ⟨a, b, c, d⟩ := h
  exact ⟨a, b, by omega, fun t ht => d t (by omega)⟩

theorem MatchOK.append {p : List Byte} {i k o : Nat} (h : MatchOK p i k o) (q : List Byte) :
    MatchOK (p ++ q) i k o := by
  obtain ⟨a, b, c, d⟩ := h
  refine ⟨a, b, by simp; omega, ?_⟩
  intro t ht
  rw [List.getElem?_append_left (by omega), List.getElem?_append_left (by omega)]
  exact d t ht

theorem MatchOK.take {p : List Byte} {i k o : Nat} (h : MatchOK p i k o) (n : Nat) (hn : i + k ≤ n) :
    MatchOK (p.take n) i k o := by
  obtain ⟨a, b, c, d⟩ := h
  refine ⟨a, b, by simp; omega, ?_⟩
  intro t ht
  rw [List.getElem?_take_of_lt (by omega), List.getElem?_take_of_lt (by omega)]
  exact d t ht

theorem MatchOK.of_take {p : List Byte} {n i k o : Nat} (h : MatchOK (p.take n) i k o) :
    MatchOK p i k o := by
  obtain ⟨a, b, c, d⟩ := h
  simp only [List.length_take] at c
  refine ⟨a, b, by omega, ?_⟩
  intro t ht
  have := d t ht
  rwa [List.getElem?_take_of_lt (by omega), List.getElem?_take_of_lt (by omega)] at this

/-! ## the common prefix of two positions of one buffer -/

theorem lcpLen_drop_maximal (p : List Byte) (j i : Nat) (hji : j < i) :
    let k := lcpLen (p.drop j) (p.drop i)
    i + k = p.length ∨ p.length ≤ i ∨ p[i + k]? ≠ p[j + k]? := by
  intro k
  by_cases hi : p.length ≤ i
  · right; left; exact hi
  rcases lcpLen_maximal (p.drop j) (p.drop i) with h | h | h
  · have := lcpLen_le_right (p.drop j) (p.drop i)
    simp only [List.length_drop] at h this
    omega
  · left
    simp only [List.length_drop] at h
    show i + lcpLen (p.drop j) (p.drop i) = p.length
    omega
  · right; right
    simp only [List.getElem?_drop] at h
    exact fun e => h e.symm

theorem lcpLen_drop_matchOK (p : List Byte) (j i : Nat) (hji : j < i) (hi : i ≤ p.length) :
    MatchOK p i (lcpLen (p.drop j) (p.drop i)) (i - j) := by
  have := lcpLen_le_right (p.drop j) (p.drop i)
  rw [List.length_drop] at this
  refine (matchOK_iff_lcp p i _ (i - j)).2 ⟨by omega, by omega, by omega, ?_⟩
  rw [show i - (i - j) = j by omega, lcpLen_comm]
  exact Nat.le_refl _

/-! ## `lcsLen` and the backward extension -/

/-- what `lcsLen` is: `le_lcpLen_iff` read from the end -/
theorem le_lcsLen_iff (j : Nat) (a b : List Byte) :
    j ≤ lcsLen a b ↔
      j ≤ a.length ∧ j ≤ b.length ∧ a.drop (a.length - j) = b.drop (b.length - j) := by
  unfold lcsLen
  rw [le_lcpLen_iff, List.take_reverse, List.take_reverse, List.reverse_inj]
  simp

theorem lcsLen_le_left (a b : List Byte) : lcsLen a b ≤ a.length :=
  ((le_lcsLen_iff _ a b).1 (Nat.le_refl _)).1

theorem lcsLen_le_right (a b : List Byte) : lcsLen a b ≤ b.length :=
  ((le_lcsLen_iff _ a b).1 (Nat.le_refl _)).2.1

theorem lcsLen_comm (a b : List Byte) : lcsLen a b = lcsLen b a := by
  unfold lcsLen; exact lcpLen_comm _ _

theorem lcsLen_self (a : List Byte) : lcsLen a a = a.length := by
  unfold lcsLen; rw [lcpLen_self, List.length_reverse]

theorem lcsLen_append (p q a b : List Byte) (h : a.length = b.length) :
    lcsLen (p ++ a) (q ++ b) =
      if lcsLen a b < a.length then lcsLen a b else a.length + lcsLen p q := by
  unfold lcsLen
  rw [List.reverse_append, List.reverse_append, lcpLen_append _ _ _ _ (by simpa using h)]
  simp

theorem lcsLen_drop_left (a b : List Byte) (h : b.length ≤ a.length) :
    lcsLen (a.drop (a.length - b.length)) b = lcsLen a b := by
  apply eq_of_le_iff
  intro j
  rw [le_lcsLen_iff, le_lcsLen_iff]
  simp only [List.length_drop, List.drop_drop]
  constructor
  · rintro ⟨h1, h2, h3⟩
    refine ⟨by omega, h2, ?_⟩
    rw [← h3]; congr 1; omega
  · rintro ⟨h1, h2, h3⟩
    refine ⟨by omega, h2, ?_⟩
    rw [← h3]; congr 1; omega

theorem lcsLen_getElem? (a b : List Byte) (t : Nat) (ht : t < lcsLen a b) :
    a[a.length - 1 - t]? = b[b.length - 1 - t]? := by
  have h1 := lcsLen_le_left a b
  have h2 := lcsLen_le_right a b
  have := lcpLen_getElem? a.reverse b.reverse t ht
  rwa [List.getElem?_reverse (by omega), List.getElem?_reverse (by omega)] at this

theorem lcsLen_maximal (a b : List Byte) :
    lcsLen a b = a.length ∨ lcsLen a b = b.length ∨
      a[a.length - 1 - lcsLen a b]? ≠ b[b.length - 1 - lcsLen a b]? := by
  have h1 := lcsLen_le_left a b
  have h2 := lcsLen_le_right a b
  rcases lcpLen_maximal a.reverse b.reverse with h | h | h
  · left; simpa [lcsLen] using h
  · right; left; simpa [lcsLen] using h
  · by_cases ha : lcsLen a b = a.length
    · left; exact ha
    by_cases hb : lcsLen a b = b.length
    · right; left; exact hb
    right; right
    have ha' : lcpLen a.reverse b.reverse < a.length := by unfold lcsLen at ha h1; omega
    have hb' : lcpLen a.reverse b.reverse < b.length := by unfold lcsLen at hb h2; omega
    rwa [List.getElem?_reverse ha', List.getElem?_reverse hb'] at h

theorem backExt_eq (p : List Byte) (i li j : Nat) :
    backExt p i li j =
      if i > li then lcsLen ((p.take j).drop (j - min (i - li) j)) (p.take i) else 0 := rfl

theorem getElem?_window_back (p : List Byte) (a j t : Nat) (hj : j ≤ p.length) (ht : t < j - a) :
    ((p.take j).drop a)[((p.take j).drop a).length - 1 - t]? = p[j - 1 - t]? := by
  have hl : ((p.take j).drop a).length = j - a := by
    rw [List.length_drop, List.length_take, Nat.min_eq_left hj]
  rw [hl, List.getElem?_drop, List.getElem?_take_of_lt (by omega)]
  congr 1; omega

theorem getElem?_take_back (p : List Byte) (j t : Nat) (hj : j ≤ p.length) (ht : t < j) :
    (p.take j)[(p.take j).length - 1 - t]? = p[j - 1 - t]? :=
  getElem?_window_back p 0 j t hj ht

theorem backExt_le (p : List Byte) (i li j : Nat) :
    backExt p i li j ≤ i - li ∧ backExt p i li j ≤ j := by
  rw [backExt_eq]
  split
  · have := lcsLen_le_left ((p.take j).drop (j - min (i - li) j)) (p.take i)
    rw [List.length_drop, List.length_take] at this
    omega
  · exact ⟨Nat.zero_le _, Nat.zero_le _⟩

theorem backExt_getElem? (p : List Byte) (i li j : Nat) (hji : j < i) (hi : i ≤ p.length)
    (t : Nat) (ht : t < backExt p i li j) : p[j - 1 - t]? = p[i - 1 - t]? := by
  have hle := backExt_le p i li j
  by_cases hgt : i > li
  · rw [backExt_eq, if_pos hgt] at ht hle
    have h := lcsLen_getElem? _ _ t ht
    rwa [getElem?_window_back p _ j t (by omega) (by omega),
      getElem?_take_back p i t hi (by omega)] at h
  · rw [backExt_eq, if_neg hgt] at ht; omega

/-- maximality of the backward extension (C19): it stops at the pending literals' start,
    at the buffer start of the source, or at a differing byte -/
theorem backExt_maximal (p : List Byte) (i li j : Nat) (hji : j < i) (hi : i ≤ p.length)
    (hli : li ≤ i) :
    let m := backExt p i li j
    i - m = li ∨ j - m = 0 ∨ p[i - m - 1]? ≠ p[j - m - 1]? := by
  intro m
  have hle : m ≤ i - li ∧ m ≤ j := backExt_le p i li j
  have hm : m = backExt p i li j := rfl
  rw [backExt_eq] at hm
  split at hm
  · rcases lcsLen_maximal ((p.take j).drop (j - min (i - li) j)) (p.take i) with h | h | h
    · rw [← hm, List.length_drop, List.length_take, Nat.min_eq_left (by omega),
        Nat.sub_sub_self (Nat.min_le_right _ _)] at h
      omega
    · rw [← hm, List.length_take, Nat.min_eq_left hi] at h
      omega
    · by_cases h1 : i - m = li
      · exact Or.inl h1
      by_cases h2 : j - m = 0
      · exact Or.inr (Or.inl h2)
      rw [← hm, getElem?_window_back p _ j m (by omega) (by omega),
        getElem?_take_back p i m hi (by omega)] at h
      rw [Nat.sub_right_comm i, Nat.sub_right_comm j]
      exact Or.inr (Or.inr (Ne.symm h))
  · omega

theorem backExt_matchOK (p : List Byte) (i li j k : Nat) (hji : j < i) (hi : i ≤ p.length)
    (hk : MatchOK p i k (i - j)) :
    MatchOK p (i - backExt p i li j) (k + backExt p i li j) (i - j) := by
  have hle := backExt_le p i li j
  have hget := backExt_getElem? p i li j hji hi
  generalize backExt p i li j = m at hle hget
  obtain ⟨a, b, c, d⟩ := hk
  refine ⟨a, by omega, by omega, fun t ht => ?_⟩
  by_cases htm : t < m
  · have := hget (m - 1 - t) (by omega)
    rw [show j - 1 - (m - 1 - t) = i - m + t - (i - j) by omega,
      show i - 1 - (m - 1 - t) = i - m + t by omega] at this
    exact this.symm
  · have := d (t - m) (by omega)
    rwa [show i + (t - m) = i - m + t by omega] at this

/-! ## the reference expander on genuine matches -/

theorem copyRef_take (p : List Byte) (o : Nat) (ho : 0 < o) :
    ∀ (m j : Nat), o ≤ j → j + m ≤ p.length →
      (∀ t, t < m → p[j + t]? = p[j + t - o]?) →
      copyRef (p.take j) o m = some (p.take (j + m)) := by
  intro m
  induction m with
  | zero => intro j _ _ _; rfl
  | succ m ih =>
    intro j hj hlen hb
    have hlt : (p.take j).length = j := by rw [List.length_take]; omega
    have hc : 0 < o ∧ o ≤ (p.take j).length := ⟨ho, by omega⟩
    -- the copied byte is `p[j]`, so the output grows to `p.take (j + 1)`
    have hx : p[j]? = some ((p.take j)[(p.take j).length - o]'(by omega)) := by
      rw [← List.getElem?_eq_getElem, hlt, List.getElem?_take_of_lt (by omega)]
      exact hb 0 (Nat.succ_pos m)
    rw [copyRef, dif_pos hc, ← Option.toList_some, ← hx, ← List.take_add_one,
      ih (j + 1) (by omega) (by omega) fun t ht => by
        have := hb (t + 1) (by omega)
        rwa [← Nat.add_assoc, Nat.add_right_comm] at this,
      Nat.add_right_comm, Nat.add_assoc]

theorem copyRef_matchOK {p : List Byte} {i k o : Nat} (h : MatchOK p i k o) :
    copyRef (p.take i) o k = some (p.take (i + k)) :=
  copyRef_take p o h.1 k i h.2.1 h.2.2.1 h.2.2.2

theorem expandSeqs_append_lits (out lits1 lits2 : List Byte) (ss : List Seq) (out' rest : List Byte)
    (h : expandSeqs out lits1 ss = some (out', rest)) :
    expandSeqs out (lits1 ++ lits2) ss = some (out', rest ++ lits2) := by
  induction ss generalizing out lits1 with
  | nil => cases h; rfl
  | cons a ss ih =>
    simp only [expandSeqs] at h ⊢
    split at h
    · rename_i hle
      have hle' : a.litLen ≤ (lits1 ++ lits2).length := by rw [List.length_append]; omega
      rw [if_pos hle', List.take_append_of_le_length hle, List.drop_append_of_le_length hle]
      split at h
      · exact ih _ _ h
      · cases h
    · cases h

theorem expandSeqs_snoc (out lits1 lits2 : List Byte) (ss : List Seq) (s : Seq) (out' : List Byte)
    (h : expandSeqs out lits1 ss = some (out', [])) :
    expandSeqs out (lits1 ++ lits2) (ss ++ [s]) = expandSeqs out' lits2 [s] := by
  rw [expandSeqs_append, expandSeqs_append_lits _ _ lits2 _ _ _ h]
  rfl

/-- one step of the greedy loop at the expander level: pending literals `p[li, s)` followed
    by a genuine match at `s` extend the expansion from `p.take li` to `p.take (s+k)` -/
theorem expandSeqs_step (p : List Byte) (li s k o : Nat) (hls : li ≤ s) (hm : MatchOK p s k o) :
    expandSeqs (p.take li) ((p.drop li).take (s - li))
      [{ litLen := ((p.drop li).take (s - li)).length, matchLen := k, offset := o }]
      = some (p.take (s + k), []) := by
  have hsl : s ≤ p.length := by have := hm.2.2.1; omega
  have hq : ((p.drop li).take (s - li)).length = s - li := by simp; omega
  simp only [expandSeqs, hq]
  have e3 : p.take li ++ ((p.drop li).take (s - li)).take (s - li) = p.take s := by
    rw [List.take_take, Nat.min_self, ← List.take_add]
    congr 1; omega
  have hlen : s - li ≤ s - li := Nat.le_refl _
  simp only [hlen, if_true]
  rw [e3, copyRef_matchOK hm]
  simp

/-! ## more history in front does not disturb a successful expansion -/

theorem expand_prepend (d hist : List Byte) (b : Block) (r : List Byte)
    (h : expand hist b = some r) : expand (d ++ hist) b = some (d ++ r) := by
  unfold expand at h ⊢
  split at h
  · rename_i out rest he
    rw [expandSeqs_append_left d he]
    simp only [Option.some.injEq] at h ⊢
    rw [← h, List.append_assoc]
  · simp at h

end LZ
