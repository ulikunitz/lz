/-
  LzProofs.DecBufProps — properties C04, C05, C17 for the model of Go's `DecoderBuffer`
  (LzModel/DecBuf.lean).  All theorems hold for every growth function `g : Grow`.  The hypothesis
  `∀ c n, n ≤ g c n` is needed in exactly one theorem (`cap_invariant`, `len(Data) ≤ cap(Data)`):
  `cap` influences the behaviour only through `BufferSize := max BufferSize cap`, and the proofs
  only use that `BufferSize` never decreases and stays `≥ len(Data)`.

  `Abs b written delivered` (DecBufLemmas.lean) is the abstraction relation;
  `copyRef`/`expandSeqs`/`expand` (LzModel/Basic.lean) are the reference semantics.
-/
import LzProofs.DecBufLemmas
namespace LZ.DecBuf

/-! ## histories -/

/-- the operations of `DecoderBuffer` -/
inductive DOp where
  | writeByte (c : Byte)
  | write (p : List Byte)
  | writeMatch (m o : Nat)
  | writeBlock (blk : Block)
  | read (n : Nat)
  | reset
deriving Repr

/-- what a call returns: error, `n`, `k`, `l` and (for `Read`) the bytes handed out -/
structure Obs where
  err : Err
  n : Int
  k : Nat
  l : Nat
  bytes : List Byte
deriving Repr

/-- one call on the model -/
def step (g : Grow) (b : DecBuf) : DOp → DecBuf × Obs
  | .writeByte c => ((b.writeByte g c).1, ⟨(b.writeByte g c).2, 0, 0, 0, []⟩)
  | .write p => ((b.write g p).1, ⟨(b.write g p).2.2, (b.write g p).2.1, 0, 0, []⟩)
  | .writeMatch m o => ((b.writeMatch g m o).1, ⟨(b.writeMatch g m o).2.2, (b.writeMatch g m o).2.1, 0, 0, []⟩)
  | .writeBlock blk =>
    ((b.writeBlock g blk).1,
      ⟨(b.writeBlock g blk).2.2.2.2, (b.writeBlock g blk).2.1, (b.writeBlock g blk).2.2.1,
        (b.writeBlock g blk).2.2.2.1, []⟩)
  | .read n => ((b.read n).1, ⟨.ok, (b.read n).2.length, 0, 0, (b.read n).2⟩)
  | .reset => (b.reset, ⟨.ok, 0, 0, 0, []⟩)

/-- run a history, recording every call with its results -/
def exec (g : Grow) (b : DecBuf) : List DOp → DecBuf × List (DOp × Obs)
  | [] => (b, [])
  | op :: ops => ((exec g (step g b op).1 ops).1, (op, (step g b op).2) :: (exec g (step g b op).1 ops).2)

/-- specification state: the append-only byte log since Init/Reset and the number of bytes
    delivered to the reader -/
structure Log where
  written : List Byte
  delivered : Nat
deriving Repr

/-- Specification step.  It is given the operation and *which part of it was accepted*
    (`err`, for a block also `k`), and computes the log using only `copyRef` / `expandSeqs`. -/
def Log.step (s : Log) : DOp → Obs → Log
  | .writeByte c, o => if o.err = .ok then ⟨s.written ++ [c], s.delivered⟩ else s
  | .write p, o => if o.err = .ok then ⟨s.written ++ p, s.delivered⟩ else s
  | .writeMatch m off, o =>
    if o.err = .ok then ⟨(copyRef s.written off m).getD s.written, s.delivered⟩ else s
  | .writeBlock blk, o =>
    match expandSeqs s.written blk.lits (blk.seqs.take o.k) with
    | some (w1, rest) => ⟨if o.err = .ok then w1 ++ rest else w1, s.delivered⟩
    | none => s
  | .read n, _ => ⟨s.written, s.delivered + min n (s.written.length - s.delivered)⟩
  | .reset, _ => ⟨[], 0⟩

/-- the bytes the specification expects a call to hand out -/
def Log.expect (s : Log) : DOp → List Byte
  | .read n => (s.written.drop s.delivered).take n
  | _ => []

def Log.run (s : Log) (tr : List (DOp × Obs)) : Log := tr.foldl (fun s x => s.step x.1 x.2) s

/-- all bytes handed out by `Read` since the last `Reset` -/
def handedOutStep (acc : List Byte) (x : DOp × Obs) : List Byte :=
  match x.1 with
  | .reset => []
  | _ => acc ++ x.2.bytes

def handedOut (acc : List Byte) (tr : List (DOp × Obs)) : List Byte := tr.foldl handedOutStep acc

/-- the sum of the byte counts reported by the write calls since the last `Reset`
    (`WriteByte` reports no count: 1 on success) -/
def reportedStep (acc : Int) (x : DOp × Obs) : Int :=
  match x.1 with
  | .reset => 0
  | .read _ => acc
  | .writeByte _ => if x.2.err = .ok then acc + 1 else acc
  | _ => acc + x.2.n

def reported (acc : Int) (tr : List (DOp × Obs)) : Int := tr.foldl reportedStep acc

/-! # The properties -/

/-! ## Doubling copy (C04, mechanism "doubling overlapped copy loop") -/

/-- C04 (copy). For a valid offset (`0 < o ≤ len(Data)`, or nothing to copy) the doubling loop
    plus the final partial copy appends exactly the byte-wise periodic copy of the reference
    expander, overlapping matches (`o < m`) included. -/
theorem C04_copyMatch_eq_copyRef (g : Grow) (b : DecBuf) (m o : Nat)
    (h : m = 0 ∨ (0 < o ∧ o ≤ b.data.length)) :
    copyRef b.data o m = some (copyMatch g b m o).data :=
  copyMatch_eq_copyRef g b m o h

/-- the copy touches neither `R`, `Off`, `WindowSize` nor `BufferSize` -/
theorem C04_copyMatch_ctl (g : Grow) (b : DecBuf) (m o : Nat) :
    (copyMatch g b m o).r = b.r ∧ (copyMatch g b m o).off = b.off ∧
    (copyMatch g b m o).ws = b.ws ∧ (copyMatch g b m o).bs = b.bs :=
  copyMatch_sameCtl g b m o

/-- C05 (no slice panic in the copy). If `o ≤ len(Data)` (and `o = 0` only with `m = 0`), every
    `Data[len-off:]` of the loop has `off ≤ len` (`copyLoopSafe`), and the final `Data[j:j+n]` has
    `j = len-off ≥ 0`, `j+n ≤ len`. -/
theorem C05_copy_in_bounds (g : Grow) (b : DecBuf) (m o : Nat)
    (ho : o ≤ b.data.length) (h0 : o = 0 → m = 0) : CopySafe g b m o :=
  copyMatch_safe g b m o ho h0

/-! ## The abstraction `Abs b written delivered` and one lemma per operation -/

theorem init_establishes {ws bs : Int} {precap : Nat} {b : DecBuf} (h : init ws bs precap = some b) :
    Abs b [] 0 := init_abs h

theorem init_isSome_iff (ws bs : Int) (precap : Nat) :
    (init ws bs precap).isSome ↔ (decCfg ws bs).isSome := by
  unfold init; split <;> simp [*]

/-- Write: all or nothing; `n = len(p)` on `ok`, `n = 0` on `full`. -/
theorem write_refines (g : Grow) {b : DecBuf} {w : List Byte} {d : Nat} (h : Abs b w d) (p : List Byte) :
    (∃ b', write g b p = (b', p.length, .ok) ∧ Abs b' (w ++ p) d) ∨
    (∃ b', write g b p = (b', 0, .full) ∧ Abs b' w d ∧ b'.bs < b'.data.length + p.length) := by
  have hs : Abs (roomFor b p.length).1 w d := ⟨h.toAbsD.roomFor _, (roomFor_off b _).trans h.off⟩
  by_cases hn : (roomFor b p.length).1.data.length + p.length > (roomFor b p.length).1.bs
  · exact Or.inr ⟨_, by rw [write_def, if_pos hn], hs, hn⟩
  · exact Or.inl ⟨_, by rw [write_def, if_neg hn], hs.appendOff g p (by omega)⟩

/-- WriteByte: `ok` appends the byte to the log; otherwise `full` and the log is unchanged (a
    shrink may have happened, the abstraction is kept). No other result is possible. -/
theorem writeByte_refines (g : Grow) {b : DecBuf} {w : List Byte} {d : Nat} (h : Abs b w d) (c : Byte) :
    (∃ b', writeByte g b c = (b', .ok) ∧ Abs b' (w ++ [c]) d) ∨
    (∃ b', writeByte g b c = (b', .full) ∧ Abs b' w d ∧ b'.bs < b'.data.length + 1) := by
  rw [writeByte_eq_write]
  rcases write_refines g h [c] with ⟨b', hb, ha⟩ | ⟨b', hb, ha, hf⟩
  · exact Or.inl ⟨b', by rw [hb], ha⟩
  · exact Or.inr ⟨b', by rw [hb], ha, hf⟩

/-- WriteMatch (C04/C05/C17): rejected with `offset` exactly when `BadOffset`, state unchanged;
    otherwise `ok` with the log extended by the reference copy and `n = m`; or `full`/`matchLen`
    with nothing appended (`matchLen` iff the match can never fit: `m > bs' - ws` after the
    shrink). -/
theorem writeMatch_refines (g : Grow) {b : DecBuf} {w : List Byte} {d : Nat} (h : Abs b w d) (m o : Nat) :
    (BadOffset b m o ∧ writeMatch g b m o = (b, 0, .offset)) ∨
    (¬ BadOffset b m o ∧ ∃ b' w', writeMatch g b m o = (b', m, .ok) ∧
        copyRef w o m = some w' ∧ Abs b' w' d) ∨
    (¬ BadOffset b m o ∧ ∃ b', writeMatch g b m o = (b', 0, .full) ∧ Abs b' w d ∧
        m ≤ b'.bs - b'.ws ∧ m > b'.bs - b'.data.length) ∨
    (¬ BadOffset b m o ∧ ∃ b', writeMatch g b m o = (b', 0, .matchLen) ∧ Abs b' w d ∧
        m > b'.bs - b'.ws) := by
  unfold BadOffset
  by_cases h1 : o = 0 ∧ m > 0
  · exact Or.inl ⟨Or.inl h1, by rw [writeMatch_def, if_pos h1]⟩
  by_cases h2 : o > min b.data.length b.ws
  · exact Or.inl ⟨Or.inr h2, by rw [writeMatch_def, if_neg h1, if_pos h2]⟩
  have hbad : ¬ ((o = 0 ∧ m > 0) ∨ o > min b.data.length b.ws) := not_or.mpr ⟨h1, h2⟩
  have hs := h.room m
  have hk := room_keeps b m
  have hlb := hs.len_bs
  have hfits := room_fits b m
  right
  by_cases hf : (room b m).2.1 = true
  · obtain ⟨w', hw1, hw2⟩ := hs.copyMatchOff g m o (by omega) (by have := hfits.mp hf; omega)
    exact Or.inl ⟨hbad, _, w',
      by rw [writeMatch_def, if_neg h1, if_neg h2, if_neg (not_not_intro hf)], hw1, hw2⟩
  · have hnf : m > (room b m).1.bs - (room b m).1.data.length := by
      have := mt hfits.mpr hf; omega
    right
    by_cases h5 : m > (room b m).1.bs - (room b m).1.ws
    · exact Or.inr ⟨hbad, _, by rw [writeMatch_def, if_neg h1, if_neg h2, if_pos hf, if_pos h5], hs, h5⟩
    · exact Or.inl ⟨hbad, _, by rw [writeMatch_def, if_neg h1, if_neg h2, if_pos hf, if_neg h5], hs,
        by omega, hnf⟩

/-- `WriteMatch` returns `offset` exactly for a bad offset -/
theorem C05_writeMatch_offset_iff (g : Grow) {b : DecBuf} {w : List Byte} {d : Nat} (h : Abs b w d)
    (m o : Nat) :
    (writeMatch g b m o).2.2 = .offset ↔ ((o = 0 ∧ m > 0) ∨ o > min b.data.length b.ws) := by
  show _ ↔ BadOffset b m o
  rcases writeMatch_refines g h m o with ⟨hb, he⟩ | ⟨hb, _, _, he, _⟩ | ⟨hb, _, he, _⟩ | ⟨hb, _, he, _⟩ <;>
    simp [he, hb]

/-- in terms of the log: the admissible offsets are `1 … min(WindowSize, bytes written)` -/
theorem C04_window_offsets {b : DecBuf} {w : List Byte} {d : Nat} (h : Abs b w d) :
    min b.data.length b.ws = min w.length b.ws := by
  simpa using h.toAbsD.min_win 0

/-- the unread bytes are still in the buffer: `Data[R:]` is the undelivered part of the log -/
theorem C04_unread_kept {b : DecBuf} {w : List Byte} {d : Nat} (h : Abs b w d) :
    b.data.drop b.r = w.drop d ∧ d ≤ w.length := by
  have hd := h.deliv; have := h.r_le; have := h.len_le
  refine ⟨?_, by omega⟩
  rw [hd, ← List.drop_drop, ← h.data_eq]

/-- Read hands out the next `min n unread` bytes of the log and advances `delivered`. -/
theorem read_refines {b : DecBuf} {w : List Byte} {d : Nat} (h : Abs b w d) (n : Nat) :
    (b.read n).2 = (w.drop d).take n ∧
    (b.read n).2.length = min n (w.length - d) ∧
    Abs (b.read n).1 w (d + (b.read n).2.length) := by
  have hl := h.len_le
  have hd := h.deliv; have hr := h.r_le
  have e1 : (b.read n).2 = (w.drop d).take n := by rw [← (C04_unread_kept h).1]; rfl
  have e3 : (b.read n).2.length = min n (w.length - d) := by rw [e1]; simp
  refine ⟨e1, e3, ?_⟩
  refine ⟨⟨h.suffix, ?_, ?_, h.win, h.ws_lt, h.len_bs⟩, h.off⟩
  · change b.r + (b.read n).2.length ≤ b.data.length
    omega
  · change d + (b.read n).2.length = w.length - b.data.length + (b.r + (b.read n).2.length)
    omega

/-- shrink keeps the abstraction, never drops a byte at index `≥ R` (`delta ≤ R`) and keeps
    at least `min len(Data) WindowSize` bytes. -/
theorem shrink_refines {b : DecBuf} {w : List Byte} {d : Nat} (h : Abs b w d) (g : Nat) :
    Abs (b.shrink g).1 w d ∧
    (b.shrink g).1.data = b.data.drop (b.shrink g).2 ∧
    (b.shrink g).2 ≤ b.r ∧
    min b.data.length b.ws ≤ (b.shrink g).1.data.length :=
  ⟨h.shrink g, (shrink_props b g).1, (shrink_keeps b g).2.1, (shrink_keeps b g).1⟩

/-- Reset starts a new, empty log. -/
theorem reset_refines {b : DecBuf} {w : List Byte} {d : Nat} (h : Abs b w d) : Abs b.reset [] 0 :=
  reset_abs h.toAbsD

/-- the window is addressable: the last `min(WindowSize, |written|)` bytes of the log are the last
    bytes of `Data` -/
theorem C04_window_addressable {b : DecBuf} {w : List Byte} {d : Nat} (h : Abs b w d) :
    min b.ws w.length ≤ b.data.length ∧ b.data = w.drop (w.length - b.data.length) :=
  ⟨h.win, h.toAbsD.data_eq⟩

/-- WriteBlock (C04/C05/C17).  Let `(w1, rest)` be the reference expansion of the first `k`
    sequences over the log.  On `ok` all sequences were consumed and the remaining literals
    appended: the new log is `expand w blk`.  On an error nothing of sequence `k` (or of the
    trailing literals) was appended: the new log is `w1`, `l` literals were consumed.  In both
    cases `n` is exactly the growth of the log.  The error is classified by `SeqFail`. -/
theorem writeBlock_refines (g : Grow) {b : DecBuf} {w : List Byte} {d : Nat} (h : Abs b w d) (blk : Block)
    {b' : DecBuf} {n : Int} {k l : Nat} {e : Err} (hr : writeBlock g b blk = (b', n, k, l, e)) :
    ∃ w1 rest, k ≤ blk.seqs.length ∧
      expandSeqs w blk.lits (blk.seqs.take k) = some (w1, rest) ∧
      (e = .ok → k = blk.seqs.length ∧ l = blk.lits.length ∧ Abs b' (w1 ++ rest) d ∧
          n = ((w1 ++ rest).length : Int) - (w.length : Int) ∧ expand w blk = some (w1 ++ rest)) ∧
      (e ≠ .ok → l + rest.length = blk.lits.length ∧ Abs b' w1 d ∧
          n = (w1.length : Int) - (w.length : Int) ∧
          ((∃ hk : k < blk.seqs.length, SeqFail b' w1 rest blk.seqs[k] e) ∨
           (k = blk.seqs.length ∧ e = .full ∧ b'.bs < b'.data.length + rest.length))) :=
  let ⟨w1, rest, a1, a2, a3, a4, _⟩ := writeBlock_spec g h blk hr
  ⟨w1, rest, a1, a2, a3, a4⟩

/-- C05 (error kinds).  For the failing sequence `s` on top of the log `w1` with remaining
    literals `rest`: the error is one of four; it is `litLen` iff `s.LitLen` exceeds the remaining
    literals, and `offset` iff (not that and) the offset is `0` with a non-empty match or larger
    than `min(|w1| + LitLen, WindowSize)`. -/
theorem C05_seqFail_kinds {b' : DecBuf} {w1 rest : List Byte} {s : Seq} {e : Err}
    (h : SeqFail b' w1 rest s e) :
    (e = .litLen ∨ e = .offset ∨ e = .matchLen ∨ e = .full) ∧
    (e = .litLen ↔ s.litLen > rest.length) ∧
    (e = .offset ↔ s.litLen ≤ rest.length ∧
        ((s.offset = 0 ∧ s.matchLen > 0) ∨ s.offset > min (w1.length + s.litLen) b'.ws)) ∧
    (e = .matchLen → s.litLen + s.matchLen > b'.bs - b'.ws) ∧
    (e = .full → s.litLen + s.matchLen ≤ b'.bs - b'.ws ∧
        s.litLen + s.matchLen > b'.bs - b'.data.length) ∧
    ((e = .matchLen ∨ e = .full) ↔ SeqValid w1 rest b'.ws s) := by
  unfold SeqFail SeqValid at h
  unfold SeqValid
  rcases h with ⟨rfl, h1⟩ | ⟨rfl, h1, h2⟩ | ⟨rfl, ⟨h1, h2⟩, h3⟩ | ⟨rfl, ⟨h1, h2⟩, h3, h4⟩
  · simp; omega
  · simp [h2]; omega
  · simp [h3]; omega
  · simp [h3, h4]; omega

/-- C05 (atomic rejection by `WriteBlock`). After an error the buffer represents precisely the
    reference expansion of the `k` sequences and `l` literal bytes reported as consumed. -/
theorem C05_writeBlock_atomic (g : Grow) {b : DecBuf} {w : List Byte} {d : Nat} (h : Abs b w d)
    (blk : Block) {b' : DecBuf} {n : Int} {k l : Nat} {e : Err}
    (hr : writeBlock g b blk = (b', n, k, l, e)) (he : e ≠ .ok) :
    ∃ w1, expandSeqs w (blk.lits.take l) (blk.seqs.take k) = some (w1, []) ∧ Abs b' w1 d ∧
      l ≤ blk.lits.length ∧ k ≤ blk.seqs.length := by
  obtain ⟨w1, rest, hk, hx, _, herr, -⟩ := writeBlock_spec g h blk hr
  obtain ⟨hl, ha, _, _⟩ := herr he
  refine ⟨w1, ?_, ha, by omega, hk⟩
  exact expandSeqs_take_lits hx (by omega)

/-- C05 (rejection by `WriteBlock`, all in one).  If `WriteBlock` returns an error, then with
    `(w1, rest)` the reference expansion of the `k` consumed sequences: the buffer represents
    exactly `w1`; and either all sequences were consumed and the trailing literals did not fit
    (`full`), or sequence `k` was refused, where the kind of error is decided by guards on the
    state *before* that sequence: `litLen` iff its `LitLen` exceeds the remaining literals,
    `offset` iff (otherwise) `Offset = 0 ∧ MatchLen > 0` or
    `Offset > min(|w1| + LitLen, WindowSize)`; the rest is `matchLen`/`full`. -/
theorem C05_writeBlock_reject (g : Grow) {b : DecBuf} {w : List Byte} {d : Nat} (h : Abs b w d)
    (blk : Block) {b' : DecBuf} {n : Int} {k l : Nat} {e : Err}
    (hr : writeBlock g b blk = (b', n, k, l, e)) (he : e ≠ .ok) :
    ∃ w1 rest, expandSeqs w blk.lits (blk.seqs.take k) = some (w1, rest) ∧ Abs b' w1 d ∧
      b'.ws = b.ws ∧ l + rest.length = blk.lits.length ∧
      ((k = blk.seqs.length ∧ e = .full) ∨
       ∃ hk : k < blk.seqs.length,
        (e = .litLen ∨ e = .offset ∨ e = .matchLen ∨ e = .full) ∧
        (e = .litLen ↔ blk.seqs[k].litLen > rest.length) ∧
        (e = .offset ↔ blk.seqs[k].litLen ≤ rest.length ∧
          ((blk.seqs[k].offset = 0 ∧ blk.seqs[k].matchLen > 0) ∨
            blk.seqs[k].offset > min (w1.length + blk.seqs[k].litLen) b.ws))) := by
  obtain ⟨w1, rest, hk, hx, _, herr, -⟩ := writeBlock_spec g h blk hr
  obtain ⟨hl, ha, _, hc⟩ := herr he
  have hws : b'.ws = b.ws := writeBlock_ws g b blk ▸ (by rw [hr])
  refine ⟨w1, rest, hx, ha, hws, hl, ?_⟩
  rcases hc with ⟨hk', hs⟩ | ⟨hk', hf, _⟩
  · right
    obtain ⟨k1, k2, k3, _⟩ := C05_seqFail_kinds hs
    rw [hws] at k3
    exact ⟨hk', k1, k2, k3⟩
  · left; exact ⟨hk', hf⟩

/-- the only results of `WriteBlock` are ok, litLen, offset, matchLen, full -/
theorem C05_writeBlock_errors (g : Grow) {b : DecBuf} {w : List Byte} {d : Nat} (h : Abs b w d)
    (blk : Block) :
    (writeBlock g b blk).2.2.2.2 = .ok ∨ (writeBlock g b blk).2.2.2.2 = .litLen ∨
    (writeBlock g b blk).2.2.2.2 = .offset ∨ (writeBlock g b blk).2.2.2.2 = .matchLen ∨
    (writeBlock g b blk).2.2.2.2 = .full := by
  generalize hr : writeBlock g b blk = r
  obtain ⟨b', n, k, l, e'⟩ := r
  obtain ⟨w1, rest, _, _, _, herr, -⟩ := writeBlock_spec g h blk hr
  show e' = _ ∨ _
  by_cases he : e' = .ok
  · exact Or.inl he
  · obtain ⟨_, _, _, hc⟩ := herr he
    rcases hc with ⟨_, hs⟩ | ⟨_, hf, _⟩
    · exact Or.inr (C05_seqFail_kinds hs).1
    · exact Or.inr (Or.inr (Or.inr (Or.inr hf)))

/-- C05 (no slice panic in `WriteMatch`/`WriteBlock`).  In every state satisfying the invariant,
    the copy of an accepted `WriteMatch` and all slices taken by the sequence loop are in bounds;
    `writeMatch_def` / `seqLoop_cons` tie the buffers named here to the ones the model uses. -/
theorem C05_no_slice_panic (g : Grow) {b : DecBuf} {w : List Byte} {d : Nat} (h : Abs b w d) :
    (∀ m o, ¬ BadOffset b m o → CopySafe g (room b m).1 m o) ∧
    (∀ seqs lits, seqLoopSafe g b seqs lits) :=
  ⟨fun m o hv => writeMatch_copySafe g b m o hv,
   fun seqs lits => seqLoop_safe g seqs b w d lits h.toAbsD⟩

/-- C05 (never a panic). From a state satisfying the invariant no call returns the model's
    `panic` marker: the possible results are ok, full, offset, matchLen, litLen. -/
theorem C05_never_panic (g : Grow) {b : DecBuf} {w : List Byte} {d : Nat} (h : Abs b w d) (op : DOp) :
    (step g b op).2.err = .ok ∨ (step g b op).2.err = .full ∨ (step g b op).2.err = .offset ∨
    (step g b op).2.err = .matchLen ∨ (step g b op).2.err = .litLen := by
  cases op with
  | writeByte c =>
    rcases writeByte_refines g h c with ⟨_, hb, _⟩ | ⟨_, hb, _⟩ <;> simp [step, hb]
  | write p =>
    rcases write_refines g h p with ⟨_, hb, _⟩ | ⟨_, hb, _⟩ <;> simp [step, hb]
  | writeMatch m o =>
    rcases writeMatch_refines g h m o with ⟨_, hb⟩ | ⟨_, _, _, hb, _⟩ | ⟨_, _, hb, _⟩ | ⟨_, _, hb, _⟩ <;>
      simp [step, hb]
  | writeBlock blk =>
    rcases C05_writeBlock_errors g h blk with he | he | he | he | he <;> simp [step, he]
  | read n => simp [step]
  | reset => simp [step]

/-! ## one step refines the specification step -/

theorem step_refines (g : Grow) {b : DecBuf} {s : Log} (h : Abs b s.written s.delivered) (op : DOp) :
    Abs (step g b op).1 (s.step op (step g b op).2).written (s.step op (step g b op).2).delivered ∧
    (step g b op).2.bytes = s.expect op ∧
    (op = .reset ∨
      (s.written <+: (s.step op (step g b op).2).written ∧
       (s.step op (step g b op).2).delivered = s.delivered + (step g b op).2.bytes.length)) ∧
    reportedStep s.written.length (op, (step g b op).2) = (s.step op (step g b op).2).written.length := by
  cases op with
  | writeByte c =>
    rcases writeByte_refines g h c with ⟨b', hb, ha⟩ | ⟨b', hb, ha, _⟩
    · simp only [step, Log.step, reportedStep, hb, ↓reduceIte]
      exact ⟨ha, rfl, Or.inr ⟨List.prefix_append _ _, rfl⟩, by simp⟩
    · simp only [step, Log.step, reportedStep, hb]
      exact ⟨ha, rfl, Or.inr ⟨List.prefix_refl _, rfl⟩, by simp⟩
  | write p =>
    rcases write_refines g h p with ⟨b', hb, ha⟩ | ⟨b', hb, ha, _⟩
    · simp only [step, Log.step, reportedStep, hb, ↓reduceIte]
      exact ⟨ha, rfl, Or.inr ⟨List.prefix_append _ _, rfl⟩, by simp⟩
    · simp only [step, Log.step, reportedStep, hb]
      exact ⟨ha, rfl, Or.inr ⟨List.prefix_refl _, rfl⟩, by simp⟩
  | writeMatch m o =>
    rcases writeMatch_refines g h m o with ⟨_, hb⟩ | ⟨_, b', w', hb, hc, ha⟩ | ⟨_, b', hb, ha, _⟩ | ⟨_, b', hb, ha, _⟩
    · simp only [step, Log.step, reportedStep, hb]
      exact ⟨h, rfl, Or.inr ⟨List.prefix_refl _, rfl⟩, by simp⟩
    · simp only [step, Log.step, reportedStep, hb, ↓reduceIte, hc, Option.getD_some]
      exact ⟨ha, rfl, Or.inr ⟨copyRef_prefix hc, rfl⟩, by rw [copyRef_length hc]; simp⟩
    · simp only [step, Log.step, reportedStep, hb]
      exact ⟨ha, rfl, Or.inr ⟨List.prefix_refl _, rfl⟩, by simp⟩
    · simp only [step, Log.step, reportedStep, hb]
      exact ⟨ha, rfl, Or.inr ⟨List.prefix_refl _, rfl⟩, by simp⟩
  | writeBlock blk =>
    generalize hr : writeBlock g b blk = r
    obtain ⟨b', n, k, l, e⟩ := r
    obtain ⟨w1, rest, hk, hx, hok, herr, -⟩ := writeBlock_spec g h blk hr
    simp only [step, Log.step, reportedStep, hr, hx]
    by_cases he : e = .ok
    · obtain ⟨_, _, ha, hn, _⟩ := hok he
      simp only [he, ↓reduceIte]
      exact ⟨ha, rfl, Or.inr ⟨(expandSeqs_prefix hx).trans (List.prefix_append _ _), rfl⟩, by omega⟩
    · obtain ⟨_, ha, hn, _⟩ := herr he
      simp only [he, ↓reduceIte]
      exact ⟨ha, rfl, Or.inr ⟨expandSeqs_prefix hx, rfl⟩, by omega⟩
  | read n =>
    obtain ⟨h1, h2, h3⟩ := read_refines h n
    simp only [step, Log.step, Log.expect, reportedStep]
    rw [h2] at h3
    exact ⟨h3, h1, Or.inr ⟨List.prefix_refl _, by rw [h2]⟩, trivial⟩
  | reset =>
    simp only [step, Log.step, Log.expect, reportedStep]
    exact ⟨reset_abs h.toAbsD, trivial, Or.inl trivial, rfl⟩

theorem exec_refines (g : Grow) (ops : List DOp) :
    ∀ (b : DecBuf) (s : Log) (acc : List Byte) (cnt : Int),
      Abs b s.written s.delivered → acc = s.written.take s.delivered → cnt = s.written.length →
      Abs (exec g b ops).1 (s.run (exec g b ops).2).written (s.run (exec g b ops).2).delivered ∧
      handedOut acc (exec g b ops).2 =
        (s.run (exec g b ops).2).written.take (s.run (exec g b ops).2).delivered ∧
      reported cnt (exec g b ops).2 = (s.run (exec g b ops).2).written.length := by
  induction ops with
  | nil => intro b s acc cnt h ha hc; exact ⟨h, ha, hc⟩
  | cons op ops ih =>
    intro b s acc cnt h ha hc
    obtain ⟨h1, h2, h3, h4⟩ := step_refines g h op
    simp only [exec, Log.run, handedOut, reported, List.foldl_cons]
    refine ih _ _ _ _ h1 ?_ ?_
    · rcases h3 with rfl | ⟨hp, hd⟩
      · simp [handedOutStep, Log.step]
      · have hdl : s.delivered ≤ s.written.length := by
          have := h.deliv; have := h.r_le; have := h.len_le; omega
        rw [h2] at hd
        rw [hd, ha]
        cases op with
        | read n =>
          simp only [handedOutStep, h2, Log.expect, Log.step]
          rw [List.take_add]
          congr 1
          simp only [List.length_take, List.length_drop]
          rw [List.take_eq_take_iff]
          simp
        | reset => simp [handedOutStep, Log.step]
        | _ =>
          simp only [handedOutStep, h2, Log.expect, List.append_nil, List.length_nil, Nat.add_zero]
          exact (take_of_prefix hp hdl).symm
    · rw [hc]; exact h4

/-! ## History level -/

/-- C04. From any accepted `Init`, after every history of operations the buffer represents the
    specification log (`Abs`), and the bytes handed out by all `Read`s since the last `Reset` are
    exactly the first `delivered` bytes of the log — each byte once and in order. -/
theorem C04_refines (g : Grow) {ws bs : Int} {precap : Nat} {b0 : DecBuf}
    (hinit : init ws bs precap = some b0) (ops : List DOp) :
    let r := exec g b0 ops
    let s := Log.run ⟨[], 0⟩ r.2
    Abs r.1 s.written s.delivered ∧ handedOut [] r.2 = s.written.take s.delivered := by
  intro r s
  obtain ⟨h1, h2, _⟩ := exec_refines g ops b0 ⟨[], 0⟩ [] 0 (init_abs hinit) (by simp) (by simp)
  exact ⟨h1, h2⟩

/-- every single `Read` of a history returns the next bytes of the log (and every call's results
    are as the per-operation lemmas say): instance of `step_refines` at a reachable state -/
theorem C04_read_exact (g : Grow) {ws bs : Int} {precap : Nat} {b0 : DecBuf}
    (hinit : init ws bs precap = some b0) (ops : List DOp) (n : Nat) :
    let r := exec g b0 ops
    let s := Log.run ⟨[], 0⟩ r.2
    (step g r.1 (.read n)).2.bytes = (s.written.drop s.delivered).take n := by
  intro r s
  exact (step_refines g (C04_refines g hinit ops).1 (.read n)).2.1

/-- C17. `Off` is the number of bytes written since Init/Reset. -/
theorem C17_off_exact (g : Grow) {ws bs : Int} {precap : Nat} {b0 : DecBuf}
    (hinit : init ws bs precap = some b0) (ops : List DOp) :
    (exec g b0 ops).1.off = (Log.run ⟨[], 0⟩ (exec g b0 ops).2).written.length :=
  (C04_refines g hinit ops).1.off

/-- C17. The byte counts reported by the write calls since the last `Reset` add up to the length
    of the log (= `Off`), also across shrinks and early errors. -/
theorem C17_counts (g : Grow) {ws bs : Int} {precap : Nat} {b0 : DecBuf}
    (hinit : init ws bs precap = some b0) (ops : List DOp) :
    reported 0 (exec g b0 ops).2 = (Log.run ⟨[], 0⟩ (exec g b0 ops).2).written.length ∧
    reported 0 (exec g b0 ops).2 = (exec g b0 ops).1.off := by
  obtain ⟨h1, _, h3⟩ := exec_refines g ops b0 ⟨[], 0⟩ [] 0 (init_abs hinit) (by simp) (by simp)
  exact ⟨h3, by rw [h3, h1.off]⟩

/-- C17 (one `WriteBlock`). `n` is the number of bytes appended to the log, `k` the number of
    sequences whose expansion was appended, `l` the number of literal bytes appended — in every
    outcome.  (`sumLit`/`sumMatch` add up the `LitLen`/`MatchLen` fields.) -/
theorem C17_writeBlock_counts (g : Grow) {b : DecBuf} {w : List Byte} {d : Nat} (h : Abs b w d)
    (blk : Block) {b' : DecBuf} {n : Int} {k l : Nat} {e : Err}
    (hr : writeBlock g b blk = (b', n, k, l, e)) :
    ∃ w', Abs b' w' d ∧ n = (w'.length : Int) - (w.length : Int) ∧ 0 ≤ n ∧
      b'.off = b.off + n.toNat ∧
      n = l + sumMatch (blk.seqs.take k) ∧
      (e ≠ .ok → l = sumLit (blk.seqs.take k)) ∧
      (e = .ok → l = blk.lits.length ∧ k = blk.seqs.length) := by
  obtain ⟨w1, rest, hk, hx, hok, herr, -⟩ := writeBlock_spec g h blk hr
  obtain ⟨c1, c2, c3⟩ := expandSeqs_counts hx
  have hl1 : rest.length + sumLit (blk.seqs.take k) = blk.lits.length := by
    rw [c1, List.length_drop]; omega
  -- in every outcome the log grows by `x = l + Σ MatchLen`, and `n`, `Off` follow it
  have fin : ∀ {w' : List Byte}, Abs b' w' d → n = (w'.length : Int) - (w.length : Int) →
      w'.length = w.length + (l + sumMatch (blk.seqs.take k)) →
      Abs b' w' d ∧ n = (w'.length : Int) - (w.length : Int) ∧ 0 ≤ n ∧ b'.off = b.off + n.toNat ∧
        n = l + sumMatch (blk.seqs.take k) := by
    intro w' ha hn hx
    have := ha.off; have := h.off
    exact ⟨ha, hn, by omega, by omega, by omega⟩
  by_cases he : e = .ok
  · obtain ⟨h1, h2, h3, h4, _⟩ := hok he
    obtain ⟨f1, f2, f3, f4, f5⟩ := fin h3 h4 (by rw [List.length_append]; omega)
    exact ⟨_, f1, f2, f3, f4, f5, fun hh => absurd he hh, fun _ => ⟨h2, h1⟩⟩
  · obtain ⟨h1, h2, h3, _⟩ := herr he
    obtain ⟨f1, f2, f3, f4, f5⟩ := fin h2 h3 (by omega)
    exact ⟨_, f1, f2, f3, f4, f5, fun _ => by omega, fun hh => absurd hh he⟩

/-- `len(Data) ≤ cap(Data)` in every reachable state — the only statement that needs the growth
    function to return at least the requested length. -/
theorem cap_invariant {g : Grow} (hg : ∀ c n, n ≤ g c n) {ws bs : Int} {precap : Nat} {b0 : DecBuf}
    (hinit : init ws bs precap = some b0) (ops : List DOp) :
    (exec g b0 ops).1.data.length ≤ (exec g b0 ops).1.cap := by
  have h0 : CapOK b0 := by
    unfold CapOK; rw [List.suffix_nil.mp (init_abs hinit).suffix]; exact Nat.zero_le _
  suffices ∀ b, CapOK b → CapOK (exec g b ops).1 from this b0 h0
  induction ops with
  | nil => intro b h; exact h
  | cons op ops ih =>
    intro b h
    apply ih
    cases op with
    | writeByte c => exact (stable_capOK hg).writeByte b c h
    | write p => exact (stable_capOK hg).write b p h
    | writeMatch m o => exact (stable_capOK hg).writeMatch b m o h
    | writeBlock blk => exact (stable_capOK hg).writeBlock b blk h
    | read n => exact h
    | reset => exact Nat.zero_le _

/-! ## Non-vacuity: concrete instances (evaluated by `simp`/`decide`/`rfl` in the kernel) -/

section Examples
set_option linter.unusedSimpArgs false

/-- a growth function: exactly the requested length -/
def gId : Grow := fun _ n => n
example : ∀ c n, n ≤ gId c n := fun _ n => Nat.le_refl n

/-- the smallest interesting accepted configuration: WindowSize 2, BufferSize 3 -/
def b23 : DecBuf := ⟨[], 0, 0, 2, 3, 0⟩

example : init 2 3 0 = some b23 := by rfl
example : Abs b23 [] 0 := init_establishes (ws := 2) (bs := 3) (precap := 0) (by rfl)
-- a non-initial state satisfying the abstraction: 2 bytes dropped, 1 of the 3 buffered bytes read
example : Abs ⟨[7, 7, 9], 1, 5, 2, 3, 3⟩ [7, 7, 7, 7, 9] 3 :=
  ⟨⟨⟨[7, 7], rfl⟩, by decide, by decide, by decide, by decide, by decide⟩, rfl⟩

-- reference: overlapping copy (offset 2 < length 7)
example : copyRef [1, 2, 3] 2 7 = some [1, 2, 3, 2, 3, 2, 3, 2, 3, 2] := by decide
-- the doubling loop on the same input (two doublings and a partial final chunk) ...
example : (copyMatch gId ⟨[1, 2, 3], 0, 3, 8, 16, 3⟩ 7 2).data = [1, 2, 3, 2, 3, 2, 3, 2, 3, 2] := by
  simp [copyMatch, copyLoop, append]
-- ... and the hypothesis of `C04_copyMatch_eq_copyRef` for it
example : copyRef [1, 2, 3] 2 7 = some (copyMatch gId ⟨[1, 2, 3], 0, 3, 8, 16, 3⟩ 7 2).data :=
  C04_copyMatch_eq_copyRef gId ⟨[1, 2, 3], 0, 3, 8, 16, 3⟩ 7 2 (Or.inr ⟨by decide, by decide⟩)

/-- a history on `(ws, bs) = (2, 3)`: a block with an overlapping match (offset 1, length 2) fills
    the buffer; after reading 2 bytes a second block forces two shrinks inside one call
    (`n = 2` is still exact), the reader gets the rest, a match with offset 3 > window is refused -/
def ops1 : List DOp :=
  [.writeBlock ⟨[⟨1, 2, 1, 0⟩], [7]⟩, .read 2, .writeBlock ⟨[⟨0, 1, 2, 0⟩], [9]⟩, .read 5,
   .writeMatch 1 3]

/-- the final buffer and the trace of `ops1`, evaluated once -/
theorem ops1_exec : exec gId b23 ops1 =
    (⟨[7, 7, 9], 3, 5, 2, 3, 3⟩,
     [(.writeBlock ⟨[⟨1, 2, 1, 0⟩], [7]⟩, ⟨.ok, 3, 1, 1, []⟩), (.read 2, ⟨.ok, 2, 0, 0, [7, 7]⟩),
      (.writeBlock ⟨[⟨0, 1, 2, 0⟩], [9]⟩, ⟨.ok, 2, 1, 1, []⟩), (.read 5, ⟨.ok, 3, 0, 0, [7, 7, 9]⟩),
      (.writeMatch 1 3, ⟨.offset, 0, 0, 0, []⟩)]) := by
  simp [ops1, exec, step, writeBlock, writeMatch, read, reset, seqLoop, b23, shrink, copyMatch,
    copyLoop, append, gId]

example : (exec gId b23 ops1).2.map (fun x => (x.2.err, x.2.n, x.2.k, x.2.l, x.2.bytes)) =
    [(.ok, 3, 1, 1, []), (.ok, 2, 0, 0, [7, 7]), (.ok, 2, 1, 1, []), (.ok, 3, 0, 0, [7, 7, 9]),
     (.offset, 0, 0, 0, [])] := by
  rw [ops1_exec]; rfl

-- the final buffer: two bytes were dropped, everything is read, Off = 5
example : ((exec gId b23 ops1).1.data, (exec gId b23 ops1).1.r, (exec gId b23 ops1).1.off) =
    ([7, 7, 9], 3, 5) := by
  rw [ops1_exec]

-- the specification log of that history
example : ((Log.run ⟨[], 0⟩ (exec gId b23 ops1).2).written,
           (Log.run ⟨[], 0⟩ (exec gId b23 ops1).2).delivered) = ([7, 7, 7, 7, 9], 5) := by
  rw [ops1_exec]; rfl

-- the four rejections of `WriteBlock`, each atomic (k, l, n describe what was appended)
theorem b23_reject_offset :
    (writeBlock gId b23 ⟨[⟨1, 1, 1, 0⟩, ⟨0, 1, 5, 0⟩], [4, 5]⟩).2 = (2, 1, 1, .offset) := by
  simp [writeBlock, seqLoop, b23, shrink, copyMatch, copyLoop, append, gId]
example : (writeBlock gId b23 ⟨[⟨1, 1, 1, 0⟩, ⟨0, 1, 5, 0⟩], [4, 5]⟩).2 = (2, 1, 1, .offset) :=
  b23_reject_offset
example : (writeBlock gId b23 ⟨[⟨1, 1, 1, 0⟩, ⟨2, 0, 0, 0⟩], [4, 5]⟩).2 = (2, 1, 1, .litLen) := by
  simp [writeBlock, seqLoop, b23, shrink, copyMatch, copyLoop, append, gId]
example : (writeBlock gId b23 ⟨[⟨1, 1, 1, 0⟩, ⟨0, 2, 1, 0⟩], [4, 5]⟩).2 = (2, 1, 1, .matchLen) := by
  simp [writeBlock, seqLoop, b23, shrink, copyMatch, copyLoop, append, gId]
example : (writeBlock gId b23 ⟨[⟨1, 2, 1, 0⟩, ⟨0, 1, 1, 0⟩], [4, 5]⟩).2 = (3, 1, 1, .full) := by
  simp [writeBlock, seqLoop, b23, shrink, copyMatch, copyLoop, append, gId]

end Examples

end LZ.DecBuf

#print axioms LZ.DecBuf.seqLoop_spec
#print axioms LZ.DecBuf.writeBlock_spec
#print axioms LZ.DecBuf.C04_copyMatch_eq_copyRef
#print axioms LZ.DecBuf.C04_copyMatch_ctl
#print axioms LZ.DecBuf.C05_copy_in_bounds
#print axioms LZ.DecBuf.init_establishes
#print axioms LZ.DecBuf.init_isSome_iff
#print axioms LZ.DecBuf.writeByte_refines
#print axioms LZ.DecBuf.write_refines
#print axioms LZ.DecBuf.writeMatch_refines
#print axioms LZ.DecBuf.C05_writeMatch_offset_iff
#print axioms LZ.DecBuf.C04_window_offsets
#print axioms LZ.DecBuf.read_refines
#print axioms LZ.DecBuf.shrink_refines
#print axioms LZ.DecBuf.reset_refines
#print axioms LZ.DecBuf.C04_unread_kept
#print axioms LZ.DecBuf.C04_window_addressable
#print axioms LZ.DecBuf.writeBlock_refines
#print axioms LZ.DecBuf.C05_seqFail_kinds
#print axioms LZ.DecBuf.C05_writeBlock_atomic
#print axioms LZ.DecBuf.C05_writeBlock_errors
#print axioms LZ.DecBuf.C05_writeBlock_reject
#print axioms LZ.DecBuf.C05_never_panic
#print axioms LZ.DecBuf.C05_no_slice_panic
#print axioms LZ.DecBuf.step_refines
#print axioms LZ.DecBuf.C04_refines
#print axioms LZ.DecBuf.C04_read_exact
#print axioms LZ.DecBuf.C17_off_exact
#print axioms LZ.DecBuf.C17_counts
#print axioms LZ.DecBuf.C17_writeBlock_counts
#print axioms LZ.DecBuf.cap_invariant
