/-
  LzProofs.SuffixAll — property C10 for every `0 ≤ minLen ≤ maxLen`, without the bound
  `maxLen ≤ MaxInt32` of the theorems in SuffixProps.lean.

  `Segments` (segments.go) returns at once when `minLen > MaxInt32` and clamps `maxLen` to `MaxInt32`
  (model: `LZ.segments`), so it does not panic for limits above `MaxInt32`; `segmentsOf_reports`
  (SuffixProps.lean) says what it reports in every case.  The suffix array and the LCP table are `[]int32` in
  the Go code, so the text length fits an `int32` (`hlen : t.length ≤ 2147483647`); then the clamp is
  invisible (`segmentsOf_reports_of_bound`).  `hlen` is assumed only where a conclusion mentions
  `min c maxLen` or a hypothesis `minLen ≤ c`; the other theorems hold without it.
-/
import LzProofs.SuffixProps
namespace LZ

section GroupsAll
variable {t : List Byte} {sa : List Nat}

/-- C10, no panic. For every `0 ≤ minLen ≤ maxLen` (no upper bound), `Segments` on the suffix
    array and the LCP table computed by `_lcp` returns normally. -/
theorem C10_no_panic_all (h : IsSuffixArray t sa) {minLen maxLen : Int} (hmin : 0 ≤ minLen)
    (hmm : minLen ≤ maxLen) : ∃ cbs, segmentsOf t sa minLen maxLen = some cbs :=
  ⟨_, segmentsOf_some_all h hmin hmm⟩

/-- the whole pipeline `Sort` (specification) → `InvertSA` → `_lcp` → `Segments` never panics -/
theorem segmentsOf_saSpec_some_all (t : List Byte) {minLen maxLen : Int} (hmin : 0 ≤ minLen)
    (hmm : minLen ≤ maxLen) :
    ∃ cbs, segmentsOf t (saSpec t) minLen maxLen = some cbs ∧ (t = [] → cbs = []) := by
  refine ⟨_, segmentsOf_some_all (saSpec_isSuffixArray t) hmin hmm, fun ht => if_pos (Or.inl ?_)⟩
  rw [(saSpec_isSuffixArray t).length_eq, ht, List.length_nil]

/-- C10, soundness for suffixes, every `0 ≤ minLen ≤ maxLen`. -/
theorem C10_groups_sound_all (h : IsSuffixArray t sa)
    {minLen maxLen : Int} (hmin : 0 ≤ minLen)
    (hmm : minLen ≤ maxLen) {cbs : List Callback}
    (hs : segmentsOf t sa minLen maxLen = some cbs) {m lo hi : Nat} (hcb : (m, lo, hi) ∈ cbs) :
    minLen ≤ (m : Int) ∧ (m : Int) ≤ maxLen ∧ lo < hi ∧ hi ≤ sa.length ∧
    (∀ a b, lo ≤ a → a < b → b < hi → m ≤ sufLcp t sa a b) ∧
    (∀ a r, lo ≤ a → a < hi → r < sa.length → (r < lo ∨ hi ≤ r) → sufLcp t sa a r < m) := by
  obtain ⟨s1, s2, s3, s4, _, s5⟩ := (segmentsOf_reports h hmin hmm hs).groups_sound h hcb
  exact ⟨by omega, by omega, s3, s4, s5⟩

/-- C10, completeness and uniqueness for suffixes, every `0 ≤ minLen ≤ maxLen`. -/
theorem C10_groups_complete_unique_all (h : IsSuffixArray t sa) (hlen : t.length ≤ 2147483647)
    {minLen maxLen : Int} (hmin : 0 ≤ minLen)
    (hmm : minLen ≤ maxLen) {cbs : List Callback}
    (hs : segmentsOf t sa minLen maxLen = some cbs) {a b : Nat} (hab : a < b) (hb : b < sa.length)
    (hc : minLen ≤ (sufLcp t sa a b : Int)) :
    ∃ cb : Callback, (cb ∈ cbs ∧ cb.1 = min (sufLcp t sa a b) maxLen.toNat ∧ cb.2.1 ≤ a ∧ b < cb.2.2) ∧
      ∀ cb' : Callback, (cb' ∈ cbs ∧ cb'.1 = min (sufLcp t sa a b) maxLen.toNat ∧ cb'.2.1 ≤ a ∧
        b < cb'.2.2) → cb' = cb :=
  (segmentsOf_reports_of_bound h (Or.inl hlen) hmin hmm hs).groups_complete_unique h hab hb (by omega)

/-- … and it is issued at exactly one position of the callback list. -/
theorem C10_groups_nodup_all (h : IsSuffixArray t sa) {minLen maxLen : Int} (hmin : 0 ≤ minLen)
    (hmm : minLen ≤ maxLen) {cbs : List Callback}
    (hs : segmentsOf t sa minLen maxLen = some cbs) : cbs.Nodup :=
  (segmentsOf_reports h hmin hmm hs).nodup

/-- C10, children first, every `0 ≤ minLen ≤ maxLen`. -/
theorem C10_groups_children_first_all (h : IsSuffixArray t sa) {minLen maxLen : Int}
    (hmin : 0 ≤ minLen)
    (hmm : minLen ≤ maxLen) {cbs : List Callback}
    (hs : segmentsOf t sa minLen maxLen = some cbs) {m1 lo1 hi1 m2 lo2 hi2 : Nat}
    (h1 : (m1, lo1, hi1) ∈ cbs) (h2 : (m2, lo2, hi2) ∈ cbs)
    (hlo : lo2 ≤ lo1) (hhi : hi1 ≤ hi2) (hm : m2 < m1) :
    [(m1, lo1, hi1), (m2, lo2, hi2)].Sublist cbs :=
  (segmentsOf_reports h hmin hmm hs).children_first h1 h2 hhi hm

/-- symmetric form of `C10_groups_complete_unique_all` (any two different ranks) -/
theorem C10_groups_complete_unique_sym_all (h : IsSuffixArray t sa) (hlen : t.length ≤ 2147483647)
    {minLen maxLen : Int} (hmin : 0 ≤ minLen)
    (hmm : minLen ≤ maxLen) {cbs : List Callback}
    (hs : segmentsOf t sa minLen maxLen = some cbs) {a b : Nat} (hne : a ≠ b) (ha : a < sa.length)
    (hb : b < sa.length) (hc : minLen ≤ (sufLcp t sa a b : Int)) :
    ∃ cb : Callback, (cb ∈ cbs ∧ cb.1 = min (sufLcp t sa a b) maxLen.toNat ∧
        (cb.2.1 ≤ a ∧ a < cb.2.2) ∧ (cb.2.1 ≤ b ∧ b < cb.2.2)) ∧
      ∀ cb' : Callback, (cb' ∈ cbs ∧ cb'.1 = min (sufLcp t sa a b) maxLen.toNat ∧
        (cb'.2.1 ≤ a ∧ a < cb'.2.2) ∧ (cb'.2.1 ≤ b ∧ b < cb'.2.2)) → cb' = cb :=
  (segmentsOf_reports_of_bound h (Or.inl hlen) hmin hmm hs).groups_complete_unique_sym h hne ha hb
    (by omega)

/-- C10 in terms of text positions (completeness, uniqueness), every `0 ≤ minLen ≤ maxLen`. -/
theorem C10_positions_complete_unique_all (h : IsSuffixArray t sa) (hlen : t.length ≤ 2147483647)
    {minLen maxLen : Int} (hmin : 0 ≤ minLen)
    (hmm : minLen ≤ maxLen) {cbs : List Callback}
    (hs : segmentsOf t sa minLen maxLen = some cbs) {p q : Nat} (hp : p < t.length) (hq : q < t.length)
    (hpq : p ≠ q) (hc : minLen ≤ (lcpLen (t.drop p) (t.drop q) : Int)) :
    ∃ cb : Callback, (cb ∈ cbs ∧ cb.1 = min (lcpLen (t.drop p) (t.drop q)) maxLen.toNat ∧
        p ∈ segmentOf sa cb.2.1 cb.2.2 ∧ q ∈ segmentOf sa cb.2.1 cb.2.2) ∧
      ∀ cb' : Callback, (cb' ∈ cbs ∧ cb'.1 = min (lcpLen (t.drop p) (t.drop q)) maxLen.toNat ∧
        p ∈ segmentOf sa cb'.2.1 cb'.2.2 ∧ q ∈ segmentOf sa cb'.2.1 cb'.2.2) → cb' = cb :=
  (segmentsOf_reports_of_bound h (Or.inl hlen) hmin hmm hs).positions_complete_unique h hp hq hpq
    (by omega)

/-- C10 in terms of text positions (soundness), every `0 ≤ minLen ≤ maxLen`. -/
theorem C10_positions_sound_all (h : IsSuffixArray t sa)
    {minLen maxLen : Int} (hmin : 0 ≤ minLen)
    (hmm : minLen ≤ maxLen) {cbs : List Callback}
    (hs : segmentsOf t sa minLen maxLen = some cbs) {m lo hi : Nat} (hcb : (m, lo, hi) ∈ cbs) :
    minLen ≤ (m : Int) ∧ (m : Int) ≤ maxLen ∧
    (segmentOf sa lo hi).Nodup ∧ (segmentOf sa lo hi).length = hi - lo ∧ 0 < hi - lo ∧
    (∀ p ∈ segmentOf sa lo hi, p < t.length ∧ m ≤ (t.drop p).length) ∧
    (∀ p ∈ segmentOf sa lo hi, ∀ q ∈ segmentOf sa lo hi, (t.drop p).take m = (t.drop q).take m) ∧
    (∀ p ∈ segmentOf sa lo hi, ∀ r, r < t.length → r ∉ segmentOf sa lo hi →
      lcpLen (t.drop p) (t.drop r) < m) := by
  obtain ⟨s1, s2, s3⟩ := (segmentsOf_reports h hmin hmm hs).positions_sound h hcb
  exact ⟨by omega, by omega, s3⟩

end GroupsAll

/-! ### non-vacuity: "abab", `minLen = 2`, `maxLen = 2^40` and `minLen = maxLen = 2^40` -/

theorem exAll_sa : IsSuffixArray [97,98,97,98] [2,0,3,1] :=
  (checkSA_iff _ _).1 (by decide)

theorem exAll_segs : segmentsOf [97,98,97,98] [2,0,3,1] 2 1099511627776 = some [(2,0,2)] := by
  have e : lcpKasai [97,98,97,98] #[2,0,3,1] (invertSA #[2,0,3,1]) = #[0,2,0,1] := by decide
  simp [segmentsOf, segments, e, scanLCP, scanFrom, popLoop, Int.min_def]

/-- all hypotheses of the `_all` theorems hold for a `maxLen` far above `MaxInt32`, and the group
    `"ab"` (ranks 0–1, positions 2 and 0) is reported with `m = 2 = min 2 maxLen` -/
example : IsSuffixArray [97,98,97,98] [2,0,3,1] ∧ ([97,98,97,98] : List Byte).length ≤ 2147483647 ∧
    (0 : Int) ≤ 2 ∧ (2 : Int) ≤ 1099511627776 ∧ ¬ ((1099511627776 : Int) ≤ 2147483647) ∧
    segmentsOf [97,98,97,98] [2,0,3,1] 2 1099511627776 = some [(2,0,2)] :=
  ⟨exAll_sa, by decide, by decide, by decide, by decide, exAll_segs⟩

/-- … and through the theorem: the two ranks of `"abab"`/`"ab"` share 2 bytes, so exactly one
    callback with `m = min 2 2^40 = 2` contains them -/
example : ∃ cb : Callback, cb ∈ [(2,0,2)] ∧ cb.1 = 2 ∧ cb.2.1 ≤ 0 ∧ 1 < cb.2.2 := by
  obtain ⟨cb, ⟨h1, h2, h3, h4⟩, _⟩ := C10_groups_complete_unique_all exAll_sa (by decide)
    (by decide) (by decide) exAll_segs (a := 0) (b := 1) (by decide) (by decide) (by decide)
  exact ⟨cb, h1, by rw [h2]; decide, h3, h4⟩

/-- `minLen` above `MaxInt32` as well: nothing is reported -/
example : segmentsOf [97,98,97,98] [2,0,3,1] 1099511627776 1099511627776 = some [] :=
  (segmentsOf_some_all exAll_sa (by decide) (Int.le_refl _)).trans
    (congrArg some (if_pos (Or.inr (by decide))))

/-! ## axioms -/

#print axioms segmentsOf_some_all
#print axioms segmentsOf_saSpec_some_all
#print axioms C10_no_panic_all
#print axioms C10_groups_sound_all
#print axioms C10_groups_complete_unique_all
#print axioms C10_groups_complete_unique_sym_all
#print axioms C10_groups_nodup_all
#print axioms C10_groups_children_first_all
#print axioms C10_positions_complete_unique_all
#print axioms C10_positions_sound_all
#print axioms exAll_segs

end LZ
