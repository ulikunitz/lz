/-
  LzProofs.AcceptProps — property C07 ("whatever the parsers emit, the module's Decoder with the
  same window accepts"), decoder side, for the model `LzModel.DecBuf` of decoder_buffer.go.

  FULL STRENGTH IS FALSE for the code and the model (`C07_counter`, `C07_full_strength_false`):
  `Decoder.WriteBlock` writes a sequence atomically and refuses a single sequence with
  `LitLen + MatchLen > BufferSize - WindowSize` with `errMatchLen`, although the block is
  well-formed.  What holds, for every growth function `g`, is the same with the bound
  `LitLen + MatchLen ≤ BufferSize - WindowSize` on every sequence: for one `WriteBlock`
  (`C07_accepts_partial`), for any writer under the caller's retry protocol `retryBlock` of C18
  (`C07_retry_accepts_partial`), and for a whole stream followed by `Flush` (`C07_events_partial`,
  `C07_stream_partial`).  The parser side is LzProofs/AcceptParse.lean; the composition is
  LzProofs/AcceptCompose.lean.
-/
import LzProofs.AcceptLemmas
import LzProofs.DecoderWB
namespace LZ
open DecBuf Decoder

/-! ## hypotheses are established by Init / Reset and kept by every call -/

/-- `Good` holds for a decoder created by `Init` with any accepted configuration and a writer that
    has not received anything; its log is empty. -/
theorem C07_good_init {ws bs : Int} {precap : Nat} {b : DecBuf} (h : DecBuf.init ws bs precap = some b)
    (wr : Writer) (hw : wr.got = []) :
    Good { buf := b, w := wr } ∧ ({ buf := b, w := wr } : Decoder).log = [] := good_init h wr hw

theorem C07_good_reset {d : Decoder} (h : Good d) (wr : Writer) (hw : wr.got = []) :
    Good (d.reset wr) ∧ (d.reset wr).log = [] := good_reset h wr hw

/-- `Good d` in terms of the invariants of C06 / C18 -/
theorem C07_good_iff (d : Decoder) :
    Good d ↔ DecBuf.Inv d.buf ∧ Hist d ∧ min d.buf.ws d.log.length ≤ d.buf.data.length ∧
      d.buf.off = d.log.length := good_iff d

/-- every Decoder call keeps `Good` (every writer script, every block — valid or not) -/
theorem C07_good_invariant (g : Grow) (d : Decoder) (h : Good d) :
    (∀ c, Good (d.writeByte g c).1) ∧ (∀ p, Good (d.write g p 0).1) ∧
    (∀ seqs lits, Good (d.writeBlock g seqs lits 0 0 0).1) ∧ Good d.flush.1 :=
  every_call g h.inv (Q := fun d' _ => Good d') fun r => r.closed _ Good.stepClosed h

/-! ## one `WriteBlock` -/

/-- C07, buffer level.  `DecoderBuffer.WriteBlock` returns `nil` or `ErrFullBuffer` on a
    well-formed block whose sequences are at most `BufferSize - WindowSize` long. -/
theorem C07_buf_accepts_partial (g : Grow) {b : DecBuf} {w : List Byte} {dl : Nat} (h : Abs b w dl)
    (blk : Block) (hwf : WellFormedBlock b.ws w blk) (hfit : SeqsFit (b.bs - b.ws) blk.seqs) :
    (b.writeBlock g blk).2.2.2.2 = .ok ∨ (b.writeBlock g blk).2.2.2.2 = .full :=
  DecBuf.writeBlock_wf g h blk hwf hfit

/-- C07 (partial), one `Decoder.WriteBlock`.
    Hypotheses: `Good d`; the block is well-formed for the decoder's window `d.buf.ws` over the
    decoder's log; every sequence has `LitLen + MatchLen ≤ BufferSize - WindowSize`.
    Then, for every growth function and EVERY writer script:
    * the call is never refused: the result is `nil` or an error of the writer (`WErr`:
      `ErrShortWrite` or the writer's own error);
    * `Good` is kept, `WindowSize` is unchanged, `BufferSize` does not shrink (so the hypotheses
      about the next block are about the same numbers);
    * on `nil`: `k = len(seqs)`, `l = len(lits)`, the new log is `expand log blk` and `n` is the
      number of bytes appended;
    * a writer that has no scripted response left (it accepts everything) gives `nil`.
    Full statement (FALSE, see `C07_counter`): the same without `hfit`. -/
theorem C07_accepts_partial (g : Grow) (d : Decoder) (blk : Block) (h : Good d)
    (hwf : WellFormedBlock d.buf.ws d.log blk) (hfit : SeqsFit (d.buf.bs - d.buf.ws) blk.seqs) :
    let R := d.writeBlock g blk.seqs blk.lits 0 0 0
    (R.2.2.2.2 = .ok ∨ WErr R.2.2.2.2) ∧ Good R.1 ∧ R.1.buf.ws = d.buf.ws ∧ d.buf.bs ≤ R.1.buf.bs ∧
    (R.2.2.2.2 = .ok → R.2.2.1 = blk.seqs.length ∧ R.2.2.2.1 = blk.lits.length ∧
      expand d.log blk = some R.1.log ∧ R.2.1 = (R.1.log.length : Int) - (d.log.length : Int)) ∧
    (d.w.resps = [] → R.2.2.2.2 = .ok) := by
  dsimp only
  -- everything but "not refused" is the postcondition of the call
  obtain ⟨p4, kk, ll, z, r, q1, q2, q3, -, -, q6, q8⟩ := writeBlock_post g d blk.seqs blk.lits 0 0 0 h.inv
  rw [Nat.zero_add] at q1 q2
  have herr := (writeBlock_accepts g d blk.seqs blk.lits 0 0 0 h hwf hfit).ok_or_werr (p4.imp And.left id)
  refine ⟨herr, r.closed _ Good.stepClosed h, r.ws, r.bs, fun hok => ?_, fun hr => r.ok_of_resps_nil hr herr⟩
  obtain ⟨hk, hl⟩ := q6 hok
  have hx := q8 ((good_iff d).1 h).2.1
  rw [hk, hl, ← r.log] at hx
  exact ⟨q1.trans hk, q2.trans hl, hx.full, by rw [q3, r.log, List.length_append]; omega⟩

/-- a decoder whose writer never fails stays such a decoder -/
theorem C07_resps_nil (g : Grow) (d : Decoder) (h : DecBuf.Inv d.buf) (hr : d.w.resps = []) :
    (∀ seqs lits, (d.writeBlock g seqs lits 0 0 0).1.w.resps = []) ∧
    (∀ p, (d.write g p 0).1.w.resps = []) ∧ d.flush.1.w.resps = [] :=
  have c := every_call g h (Q := fun d' _ => d'.w.resps = []) fun r => resps_nil_of_le hr r.resps_le
  ⟨c.2.2.1, c.2.1, c.2.2.2⟩

/-! ## any writer: the retry protocol of C18 -/

/-- under the hypotheses of C07 the retry protocol cannot end with a refusal -/
theorem retryBlock_accepts (g : Grow) : ∀ (fuel : Nat) (d : Decoder) (seqs : List Seq) (lits : List Byte), Good d →
    WellFormedBlock d.buf.ws d.log ⟨seqs, lits⟩ → SeqsFit (d.buf.bs - d.buf.ws) seqs →
    ∀ d' e, retryBlock g fuel d seqs lits = some (d', e) → e = .ok := by
  intro fuel
  induction fuel with
  | zero => intro d seqs lits _ _ _ d' e hr; simp [retryBlock] at hr
  | succ fuel ih =>
    intro d seqs lits h hwf hfit d' e hr
    have hhist : Hist d := ((good_iff d).1 h).2.1
    have hnr := writeBlock_accepts g d seqs lits 0 0 0 h hwf hfit
    have hpost := writeBlock_post g d seqs lits 0 0 0 h.inv
    obtain ⟨_, r⟩ := hpost.run
    have herr := hnr.ok_or_werr (hpost.1.imp And.left id)
    have hexp := (C18_writeBlock_expands' g d seqs lits h.inv hhist).1
    rw [retryBlock] at hr
    generalize d.writeBlock g seqs lits 0 0 0 = R at *
    obtain ⟨d1, n, k, l, e1⟩ := R
    simp only at r herr hexp hr
    rcases herr with he | he
    · subst he
      simp only [↓reduceIte, Option.map_eq_some_iff, Prod.mk.injEq] at hr
      obtain ⟨_, _, _, rfl⟩ := hr
      rfl
    · have hwf' : isWriterFault e1 = true := (isWriterFault_iff e1).mpr he
      simp only [he.ne_ok, ↓reduceIte, hwf'] at hr
      obtain ⟨hwf', hfit'⟩ := r.rest hwf hfit hexp
      exact ih d1 _ _ (r.closed _ Good.stepClosed h) hwf' hfit' d' e hr

/-- C07 (partial), arbitrary writer.  Whatever the writer does (errors, short writes, any
    script), the caller's retry protocol of C18 (`retryBlock`: re-submit `(seqs[k:], lits[l:])`
    after a writer fault, finally flush until success; one unit of fuel per scripted response plus
    one) on a well-formed block that fits ends with `nil` — the block is never refused — and the
    writer has received the old log followed by exactly the reference expansion of the block. -/
theorem C07_retry_accepts_partial (g : Grow) : ∀ (fuel : Nat) (d : Decoder) (seqs : List Seq)
    (lits : List Byte), Good d → WellFormedBlock d.buf.ws d.log ⟨seqs, lits⟩ →
    SeqsFit (d.buf.bs - d.buf.ws) seqs → d.w.resps.length < fuel →
    ∃ d', retryBlock g fuel d seqs lits = some (d', .ok) ∧
      expand d.log ⟨seqs, lits⟩ = some d'.w.got ∧ d'.buf.pending = [] ∧ Good d' ∧
      d'.buf.ws = d.buf.ws ∧ d.buf.bs ≤ d'.buf.bs := by
  intro fuel d seqs lits h hwf hfit hf
  obtain ⟨d', e, z, h1, -, h3, h4⟩ := retryBlock_spec g fuel d seqs lits h.inv hf
  cases retryBlock_accepts g fuel d seqs lits h hwf hfit d' e h1
  obtain ⟨p1, p2⟩ := h4 rfl
  exact ⟨d', h1, by rw [p2 ((good_iff d).1 h).2.1, ← h3.log, Decoder.log, p1, List.append_nil], p1,
    h3.closed _ Good.stepClosed h, h3.ws, h3.bs⟩

/-! ## a whole stream -/

/-- One item of a stream.  It is not refused; when it returns `nil`, the hypotheses hold for the rest of the
    stream in the state reached, whose log is the reference decoding of the item. -/
theorem Decoder.feed_accepts (g : Grow) (d : Decoder) (e : DEvent) (es : List DEvent) (h : Good d)
    (hwf : WellFormedEvents d.buf.ws d.log (e :: es)) (hfit : EventsFit (d.buf.bs - d.buf.ws) (e :: es)) :
    ((d.feed g e).2 = .ok ∨ WErr (d.feed g e).2) ∧
    ((d.feed g e).2 = .ok → Good (d.feed g e).1 ∧
      WellFormedEvents (d.feed g e).1.buf.ws (d.feed g e).1.log es ∧
      EventsFit ((d.feed g e).1.buf.bs - (d.feed g e).1.buf.ws) es ∧
      refDecode d.log (e :: es) = refDecode (d.feed g e).1.log es) := by
  cases e with
  | block blk =>
    obtain ⟨hwf1, h', hx, hwf2⟩ := hwf
    obtain ⟨a1, a2, a3, a4, a5, _⟩ := C07_accepts_partial g d blk h hwf1 hfit.1
    refine ⟨a1, fun hok => ?_⟩
    cases Option.some.inj (hx.symm.trans (a5 hok).2.2.1)
    simp only [Decoder.feed, refDecode, hx]
    exact ⟨a2, by rw [a3]; exact hwf2, EventsFit.mono (by rw [a3]; omega) _ hfit.2, trivial⟩
  | raw p =>
    obtain ⟨w4, n, w5, w6, r, w8⟩ := Decoder.write_spec g d p 0 h.inv
    refine ⟨w4, fun hok => ?_⟩
    have w7 := r.log
    rw [w8 hok, List.take_length] at w7
    simp only [Decoder.feed, refDecode]
    exact ⟨good_write g d p 0 h, by rw [r.ws, w7]; exact hwf, EventsFit.mono r.room_le _ hfit, by rw [w7]⟩

/-- C07 (partial), a stream of items, any writer.  `Good d`, the items (blocks / raw bytes)
    well-formed for the decoder's window over its log, all sequences at most
    `BufferSize - WindowSize` long.  Feeding the items in order (`feedAll`, stops at the first
    error) is never stopped by a refusal of the decoder: the result is `nil` or a writer error; on
    `nil` the log of the decoder is the reference decoding (`refDecode`) of the stream. -/
theorem C07_events_never_refused (g : Grow) : ∀ (es : List DEvent) (d : Decoder), Good d →
    WellFormedEvents d.buf.ws d.log es → EventsFit (d.buf.bs - d.buf.ws) es →
    ((d.feedAll g es).2 = .ok ∨ WErr (d.feedAll g es).2) ∧ Good (d.feedAll g es).1 ∧
    (d.feedAll g es).1.w.resps.length ≤ d.w.resps.length ∧
    ((d.feedAll g es).2 = .ok → refDecode d.log es = some (d.feedAll g es).1.log) := by
  intro es d h hwf hfit
  -- the writer side is `feedAll_run`; what is left is: no refusal, and the content
  obtain ⟨_, r⟩ := feedAll_run g es d h.inv
  suffices hs : ((d.feedAll g es).2 = .ok ∨ WErr (d.feedAll g es).2) ∧
      ((d.feedAll g es).2 = .ok → refDecode d.log es = some (d.feedAll g es).1.log) from
    ⟨hs.1, r.closed _ Good.stepClosed h, r.resps_le, hs.2⟩
  clear r
  induction es generalizing d with
  | nil => exact ⟨Or.inl rfl, fun _ => rfl⟩
  | cons e es ih =>
    obtain ⟨a1, a2⟩ := feed_accepts g d e es h hwf hfit
    by_cases hok : (d.feed g e).2 = .ok
    · obtain ⟨b1, b2, b3, b4⟩ := a2 hok
      rw [Decoder.feedAll_cons_ok g d e es hok, b4]
      exact ih _ b1 b2 b3
    · rw [Decoder.feedAll_cons_err g d e es hok]
      exact ⟨a1, fun he => absurd he hok⟩

/-- C07 (partial), a stream of items followed by `Flush`.  With a writer that does not fail
    (no scripted response left: it accepts everything) every item is accepted, `Flush` succeeds
    and the writer has received exactly the reference decoding of the stream on top of the log
    before (for a fresh decoder: the original bytes). -/
theorem C07_events_partial (g : Grow) (es : List DEvent) (d : Decoder) (h : Good d)
    (hw : d.w.resps = []) (hwf : WellFormedEvents d.buf.ws d.log es)
    (hfit : EventsFit (d.buf.bs - d.buf.ws) es) :
    (d.feedAll g es).2 = .ok ∧ (d.feedAll g es).1.flush.2 = .ok ∧
    refDecode d.log es = some (d.feedAll g es).1.flush.1.w.got ∧
    (d.feedAll g es).1.flush.1.buf.pending = [] := by
  obtain ⟨a1, a2, a3, a4⟩ := C07_events_never_refused g es d h hwf hfit
  have hr : (d.feedAll g es).1.w.resps = [] := resps_nil_of_le hw a3
  have hok : (d.feedAll g es).2 = .ok := (feedAll_run g es d h.inv).elim fun _ r => r.ok_of_resps_nil hw a1
  have t := writeTo_flushed (d.feedAll g es).1 a2.inv
  have hfl : (d.feedAll g es).1.flush.2 = .ok := (Run.flush a2.inv rfl).ok_of_resps_nil hr t.err
  have hpend := t.pending_nil hfl
  have hlog := t.log
  refine ⟨hok, hfl, ?_, hpend⟩
  rw [a4 hok, ← hlog]
  show some ((d.feedAll g es).1.writeTo.1.w.got ++ (d.feedAll g es).1.writeTo.1.buf.pending) = _
  rw [hpend, List.append_nil]
  rfl

/-- `WriteBlock` on every block of the stream in turn, stopping at the first error -/
def Decoder.writeBlocks (g : Grow) (d : Decoder) (blks : List Block) : Decoder × Err :=
  d.feedAll g (blks.map .block)

/-- C07 (partial), a stream of blocks followed by `Flush` (the statement of the property with
    the size bound added): for a decoder in a `Good` state (e.g. fresh from `Init`/`Reset`) whose
    writer does not fail, a stream of blocks that is well-formed for the decoder's window over the
    log, with every sequence at most `BufferSize - WindowSize` long, is accepted without error and
    after `Flush` the writer has received the reference expansion of the whole stream.
    Full statement (FALSE, `C07_counter`): the same without `hfit`. -/
theorem C07_stream_partial (g : Grow) (blks : List Block) (d : Decoder) (h : Good d)
    (hw : d.w.resps = []) (hwf : WellFormedStream d.buf.ws d.log blks)
    (hfit : ∀ b ∈ blks, SeqsFit (d.buf.bs - d.buf.ws) b.seqs) :
    (d.writeBlocks g blks).2 = .ok ∧ (d.writeBlocks g blks).1.flush.2 = .ok ∧
    expandStream d.log blks = some (d.writeBlocks g blks).1.flush.1.w.got := by
  obtain ⟨a1, a2, a3, _⟩ := C07_events_partial g (blks.map .block) d h hw
    (wellFormedEvents_blocks _ _ _ hwf) (eventsFit_blocks _ _ hfit)
  rw [refDecode_blocks] at a3
  exact ⟨a1, a2, a3⟩

/-! ## the counter-witness -/

namespace AcceptEx

def gId : Grow := fun _ n => n

/-- WindowSize 4, BufferSize 6: accepted by `DecoderConfig.Verify` -/
def d0 : Decoder := { buf := ⟨[], 0, 0, 4, 6, 0⟩, w := ⟨[], []⟩ }

/-- one literal `a` followed by a match of length 20 at offset 1 (21 times `a`) -/
def blkLong : Block := ⟨[⟨1, 20, 1, 0⟩], [97]⟩

example : DecBuf.init 4 6 0 = some d0.buf := by rfl
theorem d0_good : Good d0 := (good_init (ws := 4) (bs := 6) (precap := 0) (by rfl) ⟨[], []⟩ rfl).1
theorem blkLong_wf : WellFormedBlock d0.buf.ws d0.log blkLong := by
  simp [WellFormedBlock, WFSeqs, blkLong, d0, Decoder.log, DecBuf.pending]
example : expand d0.log blkLong = some (List.replicate 21 97) := by decide
example : ¬ SeqsFit (d0.buf.bs - d0.buf.ws) blkLong.seqs := by
  simp [SeqsFit, blkLong, d0]

end AcceptEx

open AcceptEx in
/-- C07, counter-witness.  WindowSize 4, BufferSize 6, a fresh decoder whose writer accepts
    everything; the block `[⟨LitLen 1, MatchLen 20, Offset 1⟩]`, literals `"a"` is well-formed
    (its reference expansion is `"a"` 21 times) but `Decoder.WriteBlock` refuses it with
    `errMatchLen`, consuming nothing: 21 > BufferSize - WindowSize = 2. -/
theorem C07_counter :
    Good d0 ∧ WellFormedBlock d0.buf.ws d0.log blkLong ∧
    (expand d0.log blkLong).isSome = true ∧
    (d0.writeBlock gId blkLong.seqs blkLong.lits 0 0 0).2 = (0, 0, 0, Err.matchLen) := by
  refine ⟨d0_good, blkLong_wf, by decide, ?_⟩
  simp [Decoder.writeBlock, DecBuf.writeBlock, DecBuf.seqLoop, DecBuf.shrink, d0, blkLong]

/-- the full-strength statement of C07 is false for the model -/
theorem C07_full_strength_false :
    ¬ ∀ (g : Grow) (d : Decoder) (blk : Block), Good d → d.w.resps = [] →
        WellFormedBlock d.buf.ws d.log blk →
        (d.writeBlock g blk.seqs blk.lits 0 0 0).2.2.2.2 = .ok := by
  intro h
  have := h AcceptEx.gId AcceptEx.d0 AcceptEx.blkLong C07_counter.1 rfl C07_counter.2.1
  rw [C07_counter.2.2.2] at this
  cases this

/-! ## non-vacuity: a stream that meets the hypotheses -/

namespace AcceptEx

/-- WindowSize 4, BufferSize 8 (`BufferSize - WindowSize = 4`) -/
def d1 : Decoder := { buf := ⟨[], 0, 0, 4, 8, 0⟩, w := ⟨[], []⟩ }

/-- "abc" + match(3, offset 3) | raw "xy" | match(2, offset 2) + literal "z" + match(4, offset 1):
    12 bytes through an 8 byte buffer -/
def evs : List DEvent :=
  [.block ⟨[⟨3, 1, 3, 0⟩, ⟨0, 2, 3, 0⟩], [97, 98, 99]⟩, .raw [120, 121],
   .block ⟨[⟨0, 2, 2, 0⟩, ⟨1, 3, 1, 0⟩], [122]⟩]

theorem d1_good : Good d1 := (good_init (ws := 4) (bs := 8) (precap := 0) (by rfl) ⟨[], []⟩ rfl).1

theorem evs_wf : WellFormedEvents d1.buf.ws d1.log evs := by
  refine ⟨?_, [97, 98, 99, 97, 98, 99], by decide, ?_, [97, 98, 99, 97, 98, 99, 120, 121, 120, 121, 122, 122, 122, 122],
    by decide, trivial⟩
  · simp [WellFormedBlock, WFSeqs, d1, Decoder.log, DecBuf.pending]
  · simp [WellFormedBlock, WFSeqs, d1]

theorem evs_fit : EventsFit (d1.buf.bs - d1.buf.ws) evs := by
  simp [EventsFit, SeqsFit, evs, d1]

/-- the hypotheses of `C07_events_partial` are met by `d1`, `evs`; its conclusion for them -/
example : (d1.feedAll gId evs).2 = .ok ∧ (d1.feedAll gId evs).1.flush.2 = .ok ∧
    some (d1.feedAll gId evs).1.flush.1.w.got =
      some [97, 98, 99, 97, 98, 99, 120, 121, 120, 121, 122, 122, 122, 122] := by
  obtain ⟨a1, a2, a3, _⟩ := C07_events_partial gId evs d1 d1_good rfl evs_wf evs_fit
  refine ⟨a1, a2, ?_⟩
  rw [← a3]
  decide

/-- a faulty writer (short write, then error 7, then fine) and the retry protocol -/
def d2 : Decoder := { buf := ⟨[], 0, 0, 4, 8, 0⟩, w := ⟨[(1, 0), (0, 7)], []⟩ }

example : ∃ d', retryBlock gId 3 d2 [⟨3, 1, 3, 0⟩, ⟨0, 4, 3, 0⟩, ⟨0, 4, 1, 0⟩] [97, 98, 99] = some (d', .ok) ∧
    d'.w.got = [97, 98, 99, 97, 98, 99, 97, 98, 98, 98, 98, 98] := by
  have hg : Good d2 := (good_init (ws := 4) (bs := 8) (precap := 0) (b := d2.buf) (by rfl) d2.w rfl).1
  obtain ⟨d', h1, h2, _⟩ := C07_retry_accepts_partial gId 3 d2
    [⟨3, 1, 3, 0⟩, ⟨0, 4, 3, 0⟩, ⟨0, 4, 1, 0⟩] [97, 98, 99] hg
    (by simp [WellFormedBlock, WFSeqs, d2, Decoder.log, DecBuf.pending])
    (by simp [SeqsFit, d2]) (by simp [d2])
  refine ⟨d', h1, ?_⟩
  have : expand d2.log ⟨[⟨3, 1, 3, 0⟩, ⟨0, 4, 3, 0⟩, ⟨0, 4, 1, 0⟩], [97, 98, 99]⟩ =
      some [97, 98, 99, 97, 98, 99, 97, 98, 98, 98, 98, 98] := by decide
  rw [this] at h2
  exact (Option.some.inj h2).symm

/-- why the hypothesis is `Good` and not just `Inv ∧ Hist` of C06/C18: the window condition
    (`min WindowSize |log| ≤ len(Data)`, a consequence of how `shrink` works) is needed.  This
    state — unreachable from `Init` — satisfies `Inv` and `Hist`, its log is `[1,2,3]`, the block
    "copy 1 byte from 2 back" is well-formed over it, and the decoder answers `errOffset`. -/
example :
    let d : Decoder := ⟨⟨[], 0, 3, 4, 8, 0⟩, ⟨[], [1, 2, 3]⟩⟩
    DecBuf.Inv d.buf ∧ Hist d ∧ d.log = [1, 2, 3] ∧
    WellFormedBlock d.buf.ws d.log ⟨[⟨0, 1, 2, 0⟩], []⟩ ∧ ¬ Good d ∧
    (d.writeBlock gId [⟨0, 1, 2, 0⟩] [] 0 0 0).2.2.2.2 = .offset := by
  intro d
  refine ⟨by unfold DecBuf.Inv; decide, ⟨[1, 2, 3], rfl⟩, rfl, ?_, ?_, ?_⟩
  · simp [WellFormedBlock, WFSeqs, d, Decoder.log, DecBuf.pending]
  · intro hg
    have := hg.win
    simp [d, Decoder.log, DecBuf.pending] at this
  · simp [Decoder.writeBlock, DecBuf.writeBlock, DecBuf.seqLoop, d]

end AcceptEx

end LZ

#print axioms LZ.Decoder.Good.stepClosed
#print axioms LZ.C07_good_init
#print axioms LZ.C07_good_reset
#print axioms LZ.C07_good_iff
#print axioms LZ.C07_good_invariant
#print axioms LZ.C07_buf_accepts_partial
#print axioms LZ.C07_accepts_partial
#print axioms LZ.C07_resps_nil
#print axioms LZ.C07_retry_accepts_partial
#print axioms LZ.Decoder.feed_accepts
#print axioms LZ.C07_events_never_refused
#print axioms LZ.C07_events_partial
#print axioms LZ.C07_stream_partial
#print axioms LZ.C07_counter
#print axioms LZ.C07_full_strength_false
