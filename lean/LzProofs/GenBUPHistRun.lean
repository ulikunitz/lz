/-
  LzProofs.GenBUPHistRun — HISTORIES of translated operations of the bucket parser BUP, and C01/C02/C03 stated about the
  translation of the Go text; the hand model does not occur in the statements.

  A call `GOpU` is `Write(p)`, `ReadFrom(r)`, `Parse(&blk, flags)`, `Reset(data)` or `Shrink()` on a Go `*bucketParser` —
  the methods of `bucketParser` that `tools/extract` translates (LzProofs/GenBUPHist.lean explains the promotion through
  the embedded structs).  `Shrink()` is the translated `bucketDictionary.Shrink` (LzProofs/GenBUPShrink.lean) around the
  OPAQUE method `bucketHash.shiftOffsets` = the parameter `SO` under the hypothesis `ShiftSpec SO` (its specification
  against the model's `BucketT.shiftOffsets`); `lcp` is the opaque callee of `Parse` under `LcpSpec lcp`.
  `Parse(nil, …)`: LzProofs/GenBUPHistNil.lean; C19: LzProofs/GenBUPHistC19.lean.
  The arguments are Go VALUES (`p`, `data : Gen.Slice`, `blk : Gen.Block'`, `flags : Int`); `r : Reader` is the model's
  scripted reader (it can mimic every sequence of `(n ≤ len(p), err)` answers of an `io.Reader`, incl. `(0, nil)`), and in
  the `…_go_text_…` theorems `ReadFrom` is `GenHPHist.rfGo extra`, the translated function run against it.  `ghostRunU`
  is the bookkeeping of C01 computed from the Go calls and the Go results alone.
  One call is simulated from ANY Go state with `HistOKU` (`stepU_sim`, in the form `GenHist.StepSim` of
  LzProofs/GenHistMachine.lean); histories follow by `GenHist.run_sim`.
-/
import LzProofs.GenBUPShrink

set_option linter.unusedSimpArgs false
set_option linter.unusedVariables false

namespace LZ.GenBUPHist
open LZ LZ.Gen LZ.GenBuf LZ.GenHash LZ.GenHPParse LZ.GenBUPParse LZ.GenProps
open LZ.GenHPHist (BCOK RFun RFSpec genErr rfGo rfGo_spec parseErr_ok_iff)

/-- one call on a Go `*bucketParser` -/
inductive GOpU where
  | write (p : Slice)
  | readFrom (r : Reader)
  | parse (blk : Gen.Block') (flags : Int)
  | reset (data : Slice)
  | shrink

/-- what the call returned -/
inductive GResU where
  | write (n : Int) (err : Gen.Err)
  /-- `n` and the error; the reader after the call is not an input of any later call -/
  | readFrom (n : Int) (err : Gen.Err)
  | parse (blk : Gen.Block') (n : Int) (err : Gen.Err)
  | reset (err : Gen.Err)
  | shrink (delta : Int)
deriving Repr, DecidableEq

/-- the domain of the theorems: Go slices have `len ≤ cap`; `flags ≥ 0` -/
def GOpU.WF : GOpU → Prop
  | .write p => SWF p
  | .readFrom _ => True
  | .parse _ flags => 0 ≤ flags
  | .reset data => SWF data
  | .shrink => True

/-- one call, on the translated functions -/
def stepU (RF : RFun) (grow : Nat → Nat → Nat) (fuel : Nat) (lcp : Slice → Slice → Int) (SO : SOFun) (s : Gen.bucketParser) :
    GOpU → Res (Gen.bucketParser × GResU)
  | .write p => Res.bind (bup_Write grow s p) fun r => Res.ok (r.1, .write r.2.1 r.2.2)
  | .readFrom rd => Res.bind (bup_ReadFrom RF s rd) fun x => Res.ok (x.1, .readFrom x.2.2.1 x.2.2.2)
  | .parse blk flags =>
    Res.bind (bucketParser_Parse grow fuel lcp s blk flags) fun r => Res.ok (r.1, .parse r.2.1 r.2.2.1 r.2.2.2)
  | .reset data => Res.bind (bup_Reset s data) fun r => Res.ok (r.1, .reset r.2)
  | .shrink => Res.bind (bup_Shrink SO s) fun r => Res.ok (r.1, .shrink r.2)

/-- a history of calls; the results in order -/
def runU (RF : RFun) (grow : Nat → Nat → Nat) (fuel : Nat) (lcp : Slice → Slice → Int) (SO : SOFun) :
    Gen.bucketParser → List GOpU → Res (Gen.bucketParser × List GResU)
  | s, [] => Res.ok (s, [])
  | s, op :: ops =>
    Res.bind (stepU RF grow fuel lcp SO s op) fun r =>
    Res.bind (runU RF grow fuel lcp SO r.1 ops) fun q => Res.ok (q.1, r.2 :: q.2)

/-- the model operation a Go call stands for -/
def GOpU.abs : GOpU → POp
  | .write p => .write p.data
  | .readFrom r => .readFrom r
  | .parse _ flags => .parse flags.toNat
  | .reset data => .reset data.data (data.cap - data.len)
  | .shrink => .shrink

/-- the result of one Go call equals the result of the model operation on the model state `m` -/
def resAgreeU (m : Parser) : GOpU → GResU → Prop
  | .write p, .write n e => n = ((m.write p.data).2.1 : Int) ∧ errOf e = some (m.write p.data).2.2
  | .readFrom rd, .readFrom n e => n = ((m.readFrom rd).2.2.1 : Int) ∧ e = genErr (m.readFrom rd).2.2.2
  | .parse _ flags, .parse blk' n e =>
    n = ((m.parse flags.toNat).2.1 : Int) ∧ e = parseErr (m.parse flags.toNat).2.2.1 ∧
    ofBlock blk' = (m.parse flags.toNat).2.2.2 ∧ SWF blk'.Literals
  | .reset data, .reset e => errOfReset e = some (m.reset data.data (data.cap - data.len)).2
  | .shrink, .shrink d => d = (m.shrink.2 : Int)
  | _, _ => False

/-- … along a history -/
def ResultsAgreeU : Parser × Ghost → List GOpU → List GResU → Prop
  | _, [], [] => True
  | sg, op :: ops, r :: rs => resAgreeU sg.1 op r ∧ ResultsAgreeU (step sg op.abs) ops rs
  | _, _, _ => False

/-- the C01 bookkeeping from the Go calls and results alone -/
def ghostStepU (g : Ghost) : GOpU → GResU → Ghost
  | .write p, .write n _ => { g with fed := g.fed ++ p.data.take n.toNat }
  | .readFrom rd, .readFrom n _ => { g with fed := g.fed ++ rd.payload.take n.toNat }
  | .parse _ flags, .parse blk' n e =>
    if e = Gen.Err.ok then
      { g with consumed := g.consumed + n.toNat, log := g.log ++ [.block n.toNat flags.toNat (ofBlock blk')] }
    else g
  | .reset data, .reset e => if e = Gen.Err.ok then { fed := data.data, consumed := 0, log := [] } else g
  | _, _ => g

def ghostRunU : Ghost → List GOpU → List GResU → Ghost
  | g, op :: ops, r :: rs => ghostRunU (ghostStepU g op r) ops rs
  | g, _, _ => g

/-! ## the machine -/

/-- `GOpU` / `GResU` read on the model -/
def callsU : GenHist.Calls GOpU GResU := ⟨GOpU.WF, GOpU.abs, ghostStepU, resAgreeU⟩

theorem runU_eq (RF : RFun) (grow : Nat → Nat → Nat) (fuel : Nat) (lcp : Slice → Slice → Int) (SO : SOFun) :
    runU RF grow fuel lcp SO = GenHist.run (stepU RF grow fuel lcp SO) :=
  GenHist.run_unique (fun _ => rfl) (fun _ _ _ => rfl)

theorem ghostRunU_eq : ghostRunU = callsU.ghostRun :=
  GenHist.ghostRun_unique (fun _ _ _ _ _ => rfl) (fun _ _ => rfl) (fun _ _ _ => rfl)

theorem resultsAgreeU_eq : ResultsAgreeU = callsU.ResultsAgree :=
  GenHist.resultsAgree_unique (fun _ _ _ _ _ => rfl) (fun _ => rfl) (fun _ _ _ => rfl) (fun _ _ _ => rfl)

/-- the Go state satisfies the invariant and abstracts to the model state -/
abbrev SimU (bc : BufCfg) : Gen.bucketParser → Parser × Ghost → Prop := GenHist.FInv (HistOKU bc) ofBUPs

theorem stepU_sim {bc : BufCfg} (hbc : BCOK bc) (RF : RFun) (hRF : RFSpec RF) (grow : Nat → Nat → Nat) (fuel : Nat)
    (lcp : Slice → Slice → Int) (hlcp : LcpSpec lcp)
    (SO : SOFun) (hSO : ShiftSpec SO) (hfuel : bc.bufferSize + 3 ≤ fuel) :
    GenHist.StepSim callsU (stepU RF grow fuel lcp SO) (SimU bc) := by
  rintro t ⟨m, g⟩ op ⟨h, -⟩ hop
  cases op with
  | write p =>
    obtain ⟨t', n, e, h1, h2, h4, h5⟩ := hist_write hbc grow t m p h hop
    refine ⟨t', .write n e, ?_, ⟨h2, trivial⟩, ?_, h4, h5⟩
    · simp only [stepU, h1]; rfl
    · simp only [callsU, ghostStepU, step, GOpU.abs, h4, Int.toNat_natCast]
  | readFrom rd =>
    obtain ⟨t', h1, h2⟩ := hist_readFrom hbc RF hRF t m rd h
    refine ⟨t', .readFrom _ _, ?_, ⟨h2, trivial⟩, ?_, rfl, rfl⟩
    · simp only [stepU, h1]; rfl
    · simp only [callsU, ghostStepU, step, GOpU.abs, Int.toNat_natCast]
  | parse blk flags =>
    obtain ⟨t', blk', h1, h2, h4, h5, h6⟩ := hist_parse hbc grow fuel lcp hlcp hfuel t m blk flags h trivial hop
    refine ⟨t', .parse blk' _ _, ?_, ⟨(step_parse_fst (m, g) flags.toNat).symm ▸ h2, trivial⟩, ?_, rfl, rfl, h4, h5⟩
    · simp only [stepU, h1]; rfl
    · simp only [callsU, ghostStepU, step, GOpU.abs, parseErr_ok_iff _ h6, Int.toNat_natCast, h4]
      split <;> rfl
  | reset data =>
    obtain ⟨t', e, h1, h2, h4⟩ := hist_reset hbc t m data h hop
    refine ⟨t', .reset e, ?_, ⟨(step_reset_fst (m, g) data.data (data.cap - data.len)).symm ▸ h2, trivial⟩, ?_, h4⟩
    · simp only [stepU, h1]; rfl
    · simp only [callsU, ghostStepU, step, GOpU.abs, errOfReset_ok h4]
      split <;> rfl
  | shrink =>
    obtain ⟨t', h1, h2⟩ := hist_shrink hbc SO hSO t m h
    refine ⟨t', .shrink _, ?_, ⟨h2, trivial⟩, rfl, rfl⟩
    simp only [stepU, h1]; rfl

theorem runU_sim {bc : BufCfg} (hbc : BCOK bc) (RF : RFun) (hRF : RFSpec RF) (grow : Nat → Nat → Nat) (fuel : Nat)
    (lcp : Slice → Slice → Int) (hlcp : LcpSpec lcp) (SO : SOFun) (hSO : ShiftSpec SO) (hfuel : bc.bufferSize + 3 ≤ fuel)
    (ops : List GOpU) (t : Gen.bucketParser) (sg : Parser × Ghost) (h : SimU bc t sg) (hwf : ∀ op ∈ ops, op.WF) :
    ∃ t' rs, runU RF grow fuel lcp SO t ops = Res.ok (t', rs) ∧ SimU bc t' (runOps sg (ops.map GOpU.abs)) ∧
      ghostRunU sg.2 ops rs = (runOps sg (ops.map GOpU.abs)).2 ∧ ResultsAgreeU sg ops rs := by
  rw [runU_eq, ghostRunU_eq, resultsAgreeU_eq]
  exact GenHist.run_sim (stepU_sim hbc RF hRF grow fuel lcp hlcp SO hSO hfuel) ops t sg h hwf

/-! ## histories -/

theorem init_sim (cfg : Gen.BUPConfig) (s0 : Gen.bucketParser)
    (hinit : bucketParser_init default cfg = Res.ok (s0, Gen.Err.ok)) (fuel : Nat)
    (hfuel : s0.bucketDictionary.ParserBuffer.BufConfig.BufferSize.toNat + 3 ≤ fuel) :
    ∃ p, newParser .BUP (ofBUP cfg) = some p ∧ ofBUPs s0 = p ∧ BCOK p.buf.cfg ∧ SimU p.buf.cfg s0 (p, Ghost.init) ∧
      p.buf.cfg.bufferSize + 3 ≤ fuel := by
  obtain ⟨p, hp, h2, hbc, hH⟩ := hist_init cfg s0 hinit
  refine ⟨p, hp, h2, hbc, ⟨⟨hH, h2⟩, trivial⟩, ?_⟩
  rw [← hH.cfg]; exact hfuel

/-- the simulation from `bucketParser.init`, `ReadFrom` any function with `RFSpec` -/
theorem gen_bup_history_rf (cfg : Gen.BUPConfig) (s0 : Gen.bucketParser)
    (hinit : bucketParser_init default cfg = Res.ok (s0, Gen.Err.ok))
    (RF : RFun) (hRF : RFSpec RF) (grow : Nat → Nat → Nat) (fuel : Nat) (lcp : Slice → Slice → Int) (hlcp : LcpSpec lcp)
    (SO : SOFun) (hSO : ShiftSpec SO)
    (hfuel : s0.bucketDictionary.ParserBuffer.BufConfig.BufferSize.toNat + 3 ≤ fuel)
    (ops : List GOpU) (hwf : ∀ op ∈ ops, op.WF) :
    ∃ p t rs, newParser .BUP (ofBUP cfg) = some p ∧ ofBUPs s0 = p ∧
      runU RF grow fuel lcp SO s0 ops = Res.ok (t, rs) ∧ ParseOKU t ∧
      ofBUPs t = (runOps (p, Ghost.init) (ops.map GOpU.abs)).1 ∧
      ghostRunU Ghost.init ops rs = (runOps (p, Ghost.init) (ops.map GOpU.abs)).2 ∧
      ResultsAgreeU (p, Ghost.init) ops rs := by
  obtain ⟨p, hp, h2, hbc, hS, hf⟩ := init_sim cfg s0 hinit fuel hfuel
  obtain ⟨t, rs, k1, ⟨⟨k2, k3⟩, -⟩, k4, k5⟩ := runU_sim hbc RF hRF grow fuel lcp hlcp SO hSO hf ops s0 _ hS hwf
  exact ⟨p, t, rs, hp, h2, k1, k2.pok, k3, k4, k5⟩

/-- `bucketParser.init(cfg)` on `new(bucketParser)` returned `nil`; then for every history of
    well-formed calls `Write` / `ReadFrom` / `Parse` / `Reset` / `Shrink` — every one a translated function, `ReadFrom` run against
    the scripted reader — the translated functions never panic and never run out of fuel, the state reached satisfies
    `ParseOKU`, abstracts to the state the model reaches from `NewParser` with the abstracted history, and every returned
    value — `n`, the error, the block — is the model's. -/
theorem gen_bup_history (cfg : Gen.BUPConfig) (s0 : Gen.bucketParser)
    (hinit : bucketParser_init default cfg = Res.ok (s0, Gen.Err.ok))
    (extra : Nat) (grow : Nat → Nat → Nat) (fuel : Nat) (lcp : Slice → Slice → Int) (hlcp : LcpSpec lcp)
    (SO : SOFun) (hSO : ShiftSpec SO)
    (hfuel : s0.bucketDictionary.ParserBuffer.BufConfig.BufferSize.toNat + 3 ≤ fuel)
    (ops : List GOpU) (hwf : ∀ op ∈ ops, op.WF) :
    ∃ p t rs, newParser .BUP (ofBUP cfg) = some p ∧ ofBUPs s0 = p ∧
      runU (rfGo extra) grow fuel lcp SO s0 ops = Res.ok (t, rs) ∧ ParseOKU t ∧
      ofBUPs t = (runOps (p, Ghost.init) (ops.map GOpU.abs)).1 ∧
      ghostRunU Ghost.init ops rs = (runOps (p, Ghost.init) (ops.map GOpU.abs)).2 ∧
      ResultsAgreeU (p, Ghost.init) ops rs :=
  gen_bup_history_rf cfg s0 hinit (rfGo extra) (rfGo_spec extra) grow fuel lcp hlcp SO hSO hfuel ops hwf

/-- … and `ParseOKU` holds in EVERY state the history passes through: after every prefix `ops.take k` the run is
    `Res.ok` with a state satisfying `ParseOKU`, and the whole run continues from that state. -/
theorem gen_bup_history_states (cfg : Gen.BUPConfig) (s0 : Gen.bucketParser)
    (hinit : bucketParser_init default cfg = Res.ok (s0, Gen.Err.ok))
    (extra : Nat) (grow : Nat → Nat → Nat) (fuel : Nat) (lcp : Slice → Slice → Int) (hlcp : LcpSpec lcp)
    (SO : SOFun) (hSO : ShiftSpec SO)
    (hfuel : s0.bucketDictionary.ParserBuffer.BufConfig.BufferSize.toNat + 3 ≤ fuel)
    (ops : List GOpU) (hwf : ∀ op ∈ ops, op.WF) (k : Nat) :
    ∃ tk rk t rs', runU (rfGo extra) grow fuel lcp SO s0 (ops.take k) = Res.ok (tk, rk) ∧ ParseOKU tk ∧
      runU (rfGo extra) grow fuel lcp SO tk (ops.drop k) = Res.ok (t, rs') ∧
      runU (rfGo extra) grow fuel lcp SO s0 ops = Res.ok (t, rk ++ rs') := by
  obtain ⟨p, -, -, hbc, hS, hf⟩ := init_sim cfg s0 hinit fuel hfuel
  rw [runU_eq]
  obtain ⟨tk, rk, t, rs', k1, ⟨⟨k2, -⟩, -⟩, j1, j2⟩ :=
    GenHist.run_states (stepU_sim hbc (rfGo extra) (rfGo_spec extra) grow fuel lcp hlcp SO hSO hf) ops s0 _ hS hwf k
  exact ⟨tk, rk, t, rs', k1, k2.pok, j1, j2⟩

/-! ## the property theorems about the translation -/

/-- C01 about the Go text of BUP.  `cfg` is any configuration for which the translated `bucketParser.init`, called
    on the zero value, returns `nil`.  Run any history of `Write(p)`, `ReadFrom(r)`, `Parse(&blk, flags)`, `Reset(data)`,
    `Shrink()` (slices with `len ≤ cap`, `flags ≥ 0`) on the TRANSLATED functions, with any capacity policy for
    `append`, any `fuel ≥ BufferSize + 3`, any `lcp` with `LcpSpec`, any `shiftOffsets` with `ShiftSpec`.  Then no call
    panics or runs out of fuel, and the
    reference decoder, applied to the blocks the translated `Parse` returned since the last successful `Reset`, yields
    exactly the first `consumed` bytes of what the translated `Write` / `ReadFrom` / `Reset` accepted since then,
    `consumed` = the sum of the returned `n`. -/
theorem C01_go_text_bup (cfg : Gen.BUPConfig) (s0 : Gen.bucketParser)
    (hinit : bucketParser_init default cfg = Res.ok (s0, Gen.Err.ok))
    (extra : Nat) (grow : Nat → Nat → Nat) (fuel : Nat) (lcp : Slice → Slice → Int) (hlcp : LcpSpec lcp)
    (SO : SOFun) (hSO : ShiftSpec SO)
    (hfuel : s0.bucketDictionary.ParserBuffer.BufConfig.BufferSize.toNat + 3 ≤ fuel)
    (ops : List GOpU) (hwf : ∀ op ∈ ops, op.WF) :
    ∃ t rs, runU (rfGo extra) grow fuel lcp SO s0 ops = Res.ok (t, rs) ∧
      decode [] (ghostRunU Ghost.init ops rs).log =
        some ((ghostRunU Ghost.init ops rs).fed.take (ghostRunU Ghost.init ops rs).consumed) := by
  obtain ⟨p, t, rs, hp, -, h1, -, -, h4, -⟩ := gen_bup_history cfg s0 hinit extra grow fuel lcp hlcp SO hSO hfuel ops hwf
  exact ⟨t, rs, h1, GenHist.C01_ghost hp (histHyp_of_ne .BUP p (by decide)) h4⟩

/-- C02 about the Go text of BUP: every sequence of every block the translated `Parse` returned has
    `1 ≤ Offset ≤ WindowSize`, `Offset ≤` the stream bytes before its match, `MatchLen ≥ min(3, InputLen)`, `Aux = 0`,
    and the `LitLen`s of a block do not exceed its literals. -/
theorem C02_go_text_bup (cfg : Gen.BUPConfig) (s0 : Gen.bucketParser)
    (hinit : bucketParser_init default cfg = Res.ok (s0, Gen.Err.ok))
    (extra : Nat) (grow : Nat → Nat → Nat) (fuel : Nat) (lcp : Slice → Slice → Int) (hlcp : LcpSpec lcp)
    (SO : SOFun) (hSO : ShiftSpec SO)
    (hfuel : s0.bucketDictionary.ParserBuffer.BufConfig.BufferSize.toNat + 3 ≤ fuel)
    (ops : List GOpU) (hwf : ∀ op ∈ ops, op.WF) :
    ∃ t rs, runU (rfGo extra) grow fuel lcp SO s0 ops = Res.ok (t, rs) ∧
      LogAll (fun pos e => ∀ n fl blk, e = .block n fl blk →
        SeqsAll (SeqWF s0.bucketDictionary.ParserBuffer.BufConfig.WindowSize.toNat
          (Min.min 3 s0.BUPConfig.InputLen.toNat)) pos blk.seqs ∧
        litSum blk.seqs ≤ blk.lits.length) 0 (ghostRunU Ghost.init ops rs).log := by
  obtain ⟨p, t, rs, hp, h0, h1, -, -, h4, -⟩ := gen_bup_history cfg s0 hinit extra grow fuel lcp hlcp SO hSO hfuel ops hwf
  subst h0
  exact ⟨t, rs, h1, GenHist.C02_ghost hp (histHyp_of_ne .BUP _ (by decide)) h4⟩

/-- C03 about the Go text of BUP: the blocks tile the consumed stream — each has `1 ≤ n ≤ BlockSize`, represents
    exactly `n` bytes (`Block.Len`), expands the stream up to its start to the stream up to its end; the `n` add up
    to `consumed`, which never exceeds what was fed. -/
theorem C03_go_text_bup (cfg : Gen.BUPConfig) (s0 : Gen.bucketParser)
    (hinit : bucketParser_init default cfg = Res.ok (s0, Gen.Err.ok))
    (extra : Nat) (grow : Nat → Nat → Nat) (fuel : Nat) (lcp : Slice → Slice → Int) (hlcp : LcpSpec lcp)
    (SO : SOFun) (hSO : ShiftSpec SO)
    (hfuel : s0.bucketDictionary.ParserBuffer.BufConfig.BufferSize.toNat + 3 ≤ fuel)
    (ops : List GOpU) (hwf : ∀ op ∈ ops, op.WF) :
    ∃ t rs, runU (rfGo extra) grow fuel lcp SO s0 ops = Res.ok (t, rs) ∧
      let g := ghostRunU Ghost.init ops rs
      LogAll (fun pos e => 1 ≤ e.n ∧ e.n ≤ s0.bucketDictionary.ParserBuffer.BufConfig.BlockSize.toNat ∧
        pos + e.n ≤ g.fed.length ∧
        ∀ n fl blk, e = .block n fl blk →
          blk.len = n ∧ expand (g.fed.take pos) blk = some (g.fed.take (pos + n)) ∧
          (fl % 2 = 1 → blk.seqs ≠ [] → blk.lits.length = litSum blk.seqs ∧ n = seqsSpan blk.seqs)) 0 g.log ∧
      logSpan g.log = g.consumed ∧ g.consumed ≤ g.fed.length := by
  obtain ⟨p, t, rs, hp, h0, h1, -, -, h4, -⟩ := gen_bup_history cfg s0 hinit extra grow fuel lcp hlcp SO hSO hfuel ops hwf
  subst h0
  exact ⟨t, rs, h1, GenHist.C03_ghost hp (histHyp_of_ne .BUP _ (by decide)) h4⟩

end LZ.GenBUPHist

#print axioms LZ.GenBUPHist.stepU_sim
#print axioms LZ.GenBUPHist.runU_sim
#print axioms LZ.GenBUPHist.gen_bup_history_rf
#print axioms LZ.GenBUPHist.gen_bup_history
#print axioms LZ.GenBUPHist.gen_bup_history_states
#print axioms LZ.GenBUPHist.C01_go_text_bup
#print axioms LZ.GenBUPHist.C02_go_text_bup
#print axioms LZ.GenBUPHist.C03_go_text_bup
