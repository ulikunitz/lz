/-
  LzProofs.GenBUPHistNil — histories of the translated operations of the bucket parser BUP WITH `Parse(nil, flags)`, and
  property C14 about the Go text.  The per-operation lemmas are those of GenBUPHist / GenBUPShrink /
  GenBUPHistRun; the added operation is
  `bucketParser_Parse_nilable … true ghost flags` (LzProofs/GenBUPParseNil.lean).  No sorry, no axioms of its own.

    hist_parseNil       one `Parse(nil)`: never panics, returns the model's `n` / error, hands the ghost block back
                        unchanged, preserves `HistOKU`, changes only `W` and the table (needs neither `LcpSpec` nor
                        `ShiftSpec`)
    GOpN, stepN, runN   a call = a call of GenBUPHistRun (`Write`, `ReadFrom`, `Parse(&blk)`, `Reset`, `Shrink`) or
                        `parseNil ghost flags` (every ghost value, every `flags`, also negative)
    stepN_sim, gen_bup_history_nil   the simulation (model operation `.parseNil`, ghost log entry `Event.skip`)
    C01_go_text_bup_nil C01 for histories WITH `Parse(nil)`: the log — blocks and the skipped bytes verbatim — decodes
                        to the consumed prefix;  C03_go_text_bup_nil, C14_skip_go_text_bup likewise
    C14_go_text_bup     after ANY such history: `Parse(nil, flags)` returns the same `n` and error as `Parse(&blk, 0)`
                        from the same state, leaves the same `Data` and `W`, `n = min(BlockSize, len(Data) - W)`,
                        `ErrEmptyBuffer` iff `n = 0`, and writes nothing (the ghost block comes back unchanged)
  `lcp` / `SO` are the opaque callees of `Parse(&blk)` / `Shrink` under `LcpSpec lcp` / `ShiftSpec SO`, as in
  GenBUPHistRun.
-/
import LzProofs.GenBUPParseNil
import LzProofs.GenBUPHistRun
import LzProofs.GenHPHistNil

set_option linter.unusedSimpArgs false
set_option linter.unusedVariables false

namespace LZ.GenBUPHist
open LZ LZ.Gen LZ.GenBuf LZ.GenHash LZ.GenHPParse LZ.GenBUPParse LZ.GenProps LZ.GenNil
open LZ.GenHPHist (BCOK RFun RFSpec rfGo rfGo_spec parseErr_ok_iff)

theorem hist_parseNil {bc : BufCfg} (grow : Nat → Nat → Nat) (fuel : Nat) (lcp : Slice → Slice → Int)
    (t : Gen.bucketParser)
    (h : HistOKU bc t) (ghost : Gen.Block') (flags : Int)
    (hfuel : t.bucketDictionary.ParserBuffer.Data.len + 2 ≤ fuel) :
    ∃ t', bucketParser_Parse_nilable grow fuel lcp t true ghost flags =
        Res.ok (t', ghost, (((ofBUPs t).parseNil).2.1 : Int), parseErr ((ofBUPs t).parseNil).2.2) ∧
      HistOKU bc t' ∧ ofBUPs t' = ((ofBUPs t).parseNil).1 ∧
      t'.bucketDictionary.ParserBuffer.Data = t.bucketDictionary.ParserBuffer.Data := by
  obtain ⟨t', h1, h2, h3, h4, -, g', h5⟩ :=
    gen_bup_parseNil_model grow fuel lcp t ghost flags h.pok hfuel h.cap h.dictOK.1
  subst h5
  exact ⟨_, h1, ⟨h4, h.cfg, h.len, h.cap, h.il8⟩, h2, rfl⟩

/-! ## histories with `Parse(nil)` -/

inductive GOpN where
  | r (op : GOpU)
  /-- `Parse(nil, flags)`; `ghost` is the value that accompanies the nil flag (never looked at) -/
  | parseNil (ghost : Gen.Block') (flags : Int)

inductive GResN where
  | r (res : GResU)
  /-- the block value handed back (the ghost), `n`, the error -/
  | parseNil (blk : Gen.Block') (n : Int) (err : Gen.Err)

def GOpN.WF : GOpN → Prop
  | .r op => op.WF
  | .parseNil _ _ => True

def GOpN.abs : GOpN → POp
  | .r op => op.abs
  | .parseNil _ _ => .parseNil

def stepN (RF : RFun) (grow : Nat → Nat → Nat) (fuel : Nat) (lcp : Slice → Slice → Int) (SO : SOFun)
    (s : Gen.bucketParser) : GOpN → Res (Gen.bucketParser × GResN)
  | .r op => Res.bind (stepU RF grow fuel lcp SO s op) fun x => Res.ok (x.1, .r x.2)
  | .parseNil ghost flags =>
    Res.bind (bucketParser_Parse_nilable grow fuel lcp s true ghost flags) fun x =>
      Res.ok (x.1, .parseNil x.2.1 x.2.2.1 x.2.2.2)

def runN (RF : RFun) (grow : Nat → Nat → Nat) (fuel : Nat) (lcp : Slice → Slice → Int) (SO : SOFun) :
    Gen.bucketParser → List GOpN → Res (Gen.bucketParser × List GResN)
  | s, [] => Res.ok (s, [])
  | s, op :: ops =>
    Res.bind (stepN RF grow fuel lcp SO s op) fun x =>
    Res.bind (runN RF grow fuel lcp SO x.1 ops) fun q => Res.ok (q.1, x.2 :: q.2)

def resAgreeN (m : Parser) : GOpN → GResN → Prop
  | .r op, .r res => resAgreeU m op res
  | .parseNil ghost _, .parseNil blk' n e =>
    n = ((m.parseNil).2.1 : Int) ∧ e = parseErr (m.parseNil).2.2 ∧ blk' = ghost
  | _, _ => False

/-- the C01 / C14 bookkeeping from the Go calls and results alone: a successful `Parse(nil)` hands the next `n` bytes of
    the stream to the decoder verbatim -/
def ghostStepN (g : Ghost) : GOpN → GResN → Ghost
  | .r op, .r res => ghostStepU g op res
  | .parseNil _ _, .parseNil _ n e =>
    if e = Gen.Err.ok then
      { g with consumed := g.consumed + n.toNat, log := g.log ++ [.skip ((g.fed.drop g.consumed).take n.toNat)] }
    else g
  | _, _ => g

def ghostRunN : Ghost → List GOpN → List GResN → Ghost
  | g, op :: ops, r :: rs => ghostRunN (ghostStepN g op r) ops rs
  | g, _, _ => g

def callsN : GenHist.Calls GOpN GResN := ⟨GOpN.WF, GOpN.abs, ghostStepN, resAgreeN⟩

theorem runN_eq (RF : RFun) (grow : Nat → Nat → Nat) (fuel : Nat) (lcp : Slice → Slice → Int) (SO : SOFun) :
    runN RF grow fuel lcp SO = GenHist.run (stepN RF grow fuel lcp SO) :=
  GenHist.run_unique (fun _ => rfl) (fun _ _ _ => rfl)

theorem ghostRunN_eq : ghostRunN = callsN.ghostRun :=
  GenHist.ghostRun_unique (fun _ _ _ _ _ => rfl) (fun _ _ => rfl) (fun _ _ _ => rfl)

theorem stepN_sim {bc : BufCfg} (hbc : BCOK bc) (RF : RFun) (hRF : RFSpec RF) (grow : Nat → Nat → Nat) (fuel : Nat)
    (lcp : Slice → Slice → Int) (hlcp : LcpSpec lcp)
    (SO : SOFun) (hSO : ShiftSpec SO) (hfuel : bc.bufferSize + 3 ≤ fuel) :
    GenHist.StepSim callsN (stepN RF grow fuel lcp SO) (SimU bc) := by
  rintro t ⟨_, g⟩ op ⟨⟨h, rfl⟩, -⟩ hop
  cases op with
  | r op =>
    obtain ⟨t', r, h1, h2, h3, h4⟩ :=
      stepU_sim hbc RF hRF grow fuel lcp hlcp SO hSO hfuel t (_, g) op ⟨⟨h, rfl⟩, trivial⟩ hop
    refine ⟨t', .r r, ?_, h2, h3, h4⟩
    simp only [stepN, h1]; rfl
  | parseNil ghost flags =>
    obtain ⟨t', h1, h2, h3, -⟩ := hist_parseNil grow fuel lcp t h ghost flags (by have := h.len; omega)
    refine ⟨t', .parseNil ghost _ _, ?_, ⟨⟨h2, ?_⟩, trivial⟩, ?_, rfl, rfl, rfl⟩
    · simp only [stepN, h1]; rfl
    · exact h3.trans (step_parseNil_fst (ofBUPs t, g)).symm
    · simp only [callsN, ghostStepN, step, GOpN.abs, parseErr_ok_iff _ (Parser.parseNil_err _), Int.toNat_natCast]
      split <;> rfl

/-- the simulation from `bucketParser.init` for histories of Write / ReadFrom / Parse(&blk) / Parse(nil) / Reset / Shrink,
    every operation a translated function (`ReadFrom` against the scripted reader) -/
theorem gen_bup_history_nil (cfg : Gen.BUPConfig) (s0 : Gen.bucketParser)
    (hinit : bucketParser_init default cfg = Res.ok (s0, Gen.Err.ok))
    (extra : Nat) (grow : Nat → Nat → Nat) (fuel : Nat) (lcp : Slice → Slice → Int) (hlcp : LcpSpec lcp)
    (SO : SOFun) (hSO : ShiftSpec SO)
    (hfuel : s0.bucketDictionary.ParserBuffer.BufConfig.BufferSize.toNat + 3 ≤ fuel)
    (ops : List GOpN) (hwf : ∀ op ∈ ops, op.WF) :
    ∃ p t rs, newParser .BUP (ofBUP cfg) = some p ∧ ofBUPs s0 = p ∧
      runN (rfGo extra) grow fuel lcp SO s0 ops = Res.ok (t, rs) ∧ HistOKU p.buf.cfg t ∧ BCOK p.buf.cfg ∧
      p.buf.cfg.bufferSize + 3 ≤ fuel ∧
      ofBUPs t = (runOps (p, Ghost.init) (ops.map GOpN.abs)).1 ∧
      ghostRunN Ghost.init ops rs = (runOps (p, Ghost.init) (ops.map GOpN.abs)).2 ∧
      callsN.ResultsAgree (p, Ghost.init) ops rs := by
  obtain ⟨p, hp, h2, hbc, hS, hf⟩ := init_sim cfg s0 hinit fuel hfuel
  rw [runN_eq, ghostRunN_eq]
  obtain ⟨t, rs, k1, ⟨⟨k2, k3⟩, -⟩, k4, k5⟩ :=
    GenHist.run_sim (stepN_sim hbc (rfGo extra) (rfGo_spec extra) grow fuel lcp hlcp SO hSO hf) ops s0 _ hS hwf
  exact ⟨p, t, rs, hp, h2, k1, k2, hbc, hf, k3, k4, k5⟩

/-! ## the property theorems -/

/-- **C01 about the Go text of BUP, histories WITH `Parse(nil)`.**  Run any history of `Write`, `ReadFrom`,
    `Parse(&blk, flags)`, `Parse(nil, flags)`, `Reset`, `Shrink` on the translated functions.  No call panics or runs out
    of fuel, and the reference decoder, applied to what the calls produced since the last successful `Reset` — the blocks
    of `Parse(&blk)` and, for every `Parse(nil)` that returned `n > 0`, the next `n` bytes of the stream VERBATIM
    (`Event.skip`) —, yields exactly the first `consumed` bytes fed, `consumed` = the sum of all returned `n`.  So blocks
    parsed after a skipped segment are correct for a decoder that received the skipped bytes verbatim (they may
    reference them as match sources). -/
theorem C01_go_text_bup_nil (cfg : Gen.BUPConfig) (s0 : Gen.bucketParser)
    (hinit : bucketParser_init default cfg = Res.ok (s0, Gen.Err.ok))
    (extra : Nat) (grow : Nat → Nat → Nat) (fuel : Nat) (lcp : Slice → Slice → Int) (hlcp : LcpSpec lcp)
    (SO : SOFun) (hSO : ShiftSpec SO)
    (hfuel : s0.bucketDictionary.ParserBuffer.BufConfig.BufferSize.toNat + 3 ≤ fuel)
    (ops : List GOpN) (hwf : ∀ op ∈ ops, op.WF) :
    ∃ t rs, runN (rfGo extra) grow fuel lcp SO s0 ops = Res.ok (t, rs) ∧
      decode [] (ghostRunN Ghost.init ops rs).log =
        some ((ghostRunN Ghost.init ops rs).fed.take (ghostRunN Ghost.init ops rs).consumed) := by
  obtain ⟨p, t, rs, hp, -, h1, -, -, -, -, h4, -⟩ :=
    gen_bup_history_nil cfg s0 hinit extra grow fuel lcp hlcp SO hSO hfuel ops hwf
  exact ⟨t, rs, h1, GenHist.C01_ghost hp (histHyp_of_ne .BUP p (by decide)) h4⟩

/-- **C03 about the Go text of BUP, histories WITH `Parse(nil)`**: blocks and skipped segments tile the consumed stream. -/
theorem C03_go_text_bup_nil (cfg : Gen.BUPConfig) (s0 : Gen.bucketParser)
    (hinit : bucketParser_init default cfg = Res.ok (s0, Gen.Err.ok))
    (extra : Nat) (grow : Nat → Nat → Nat) (fuel : Nat) (lcp : Slice → Slice → Int) (hlcp : LcpSpec lcp)
    (SO : SOFun) (hSO : ShiftSpec SO)
    (hfuel : s0.bucketDictionary.ParserBuffer.BufConfig.BufferSize.toNat + 3 ≤ fuel)
    (ops : List GOpN) (hwf : ∀ op ∈ ops, op.WF) :
    ∃ t rs, runN (rfGo extra) grow fuel lcp SO s0 ops = Res.ok (t, rs) ∧
      let g := ghostRunN Ghost.init ops rs
      LogAll (fun pos e => 1 ≤ e.n ∧ e.n ≤ s0.bucketDictionary.ParserBuffer.BufConfig.BlockSize.toNat ∧
        pos + e.n ≤ g.fed.length ∧
        ∀ n fl blk, e = .block n fl blk →
          blk.len = n ∧ expand (g.fed.take pos) blk = some (g.fed.take (pos + n)) ∧
          (fl % 2 = 1 → blk.seqs ≠ [] → blk.lits.length = litSum blk.seqs ∧ n = seqsSpan blk.seqs)) 0 g.log ∧
      logSpan g.log = g.consumed ∧ g.consumed ≤ g.fed.length := by
  obtain ⟨p, t, rs, hp, h0, h1, -, -, -, -, h4, -⟩ :=
    gen_bup_history_nil cfg s0 hinit extra grow fuel lcp hlcp SO hSO hfuel ops hwf
  subst h0
  exact ⟨t, rs, h1, GenHist.C03_ghost hp (histHyp_of_ne .BUP _ (by decide)) h4⟩

/-- **C14 (skipped bytes verbatim) about the Go text of BUP**: every skip entry of the log is a non-empty segment of at
    most `BlockSize` bytes and IS the segment of the fed stream at its position. -/
theorem C14_skip_go_text_bup (cfg : Gen.BUPConfig) (s0 : Gen.bucketParser)
    (hinit : bucketParser_init default cfg = Res.ok (s0, Gen.Err.ok))
    (extra : Nat) (grow : Nat → Nat → Nat) (fuel : Nat) (lcp : Slice → Slice → Int) (hlcp : LcpSpec lcp)
    (SO : SOFun) (hSO : ShiftSpec SO)
    (hfuel : s0.bucketDictionary.ParserBuffer.BufConfig.BufferSize.toNat + 3 ≤ fuel)
    (ops : List GOpN) (hwf : ∀ op ∈ ops, op.WF) :
    ∃ t rs, runN (rfGo extra) grow fuel lcp SO s0 ops = Res.ok (t, rs) ∧
      let g := ghostRunN Ghost.init ops rs
      LogAll (fun pos e => ∀ b, e = .skip b →
        1 ≤ b.length ∧ b.length ≤ s0.bucketDictionary.ParserBuffer.BufConfig.BlockSize.toNat ∧
        b = (g.fed.drop pos).take b.length) 0 g.log := by
  obtain ⟨p, t, rs, hp, h0, h1, -, -, -, -, h4, -⟩ :=
    gen_bup_history_nil cfg s0 hinit extra grow fuel lcp hlcp SO hSO hfuel ops hwf
  subst h0
  exact ⟨t, rs, h1, GenHist.C14_skip_ghost hp (histHyp_of_ne .BUP _ (by decide)) h4⟩

/-- **C14 about the Go text of BUP.**  After ANY history of the translated `Write`, `ReadFrom`, `Parse(&blk)`,
    `Parse(nil)`, `Reset`, `Shrink` from `bucketParser.init`, let `t` be the Go state reached.  For every `flags`, every
    ghost value and every block `blk` of the caller: the translated `Parse(nil, flags)` and the translated
    `Parse(&blk, 0)`, both run from `t`, return THE SAME `n` and THE SAME error, and leave THE SAME buffer `Data` and THE
    SAME `W`; `n = min(BlockSize, len(Data) - W)`; the error is `ErrEmptyBuffer` if `n = 0` and `nil` otherwise;
    `Parse(nil)` hands the ghost block back unchanged (it writes nothing) and leaves `Data` as it was.  (That repeated
    calls drain the buffer follows: each call with `n > 0` advances `W` by `n`; see also `C14_drains`.) -/
theorem C14_go_text_bup (cfg : Gen.BUPConfig) (s0 : Gen.bucketParser)
    (hinit : bucketParser_init default cfg = Res.ok (s0, Gen.Err.ok))
    (extra : Nat) (grow : Nat → Nat → Nat) (fuel : Nat) (lcp : Slice → Slice → Int) (hlcp : LcpSpec lcp)
    (SO : SOFun) (hSO : ShiftSpec SO)
    (hfuel : s0.bucketDictionary.ParserBuffer.BufConfig.BufferSize.toNat + 3 ≤ fuel)
    (ops : List GOpN) (hwf : ∀ op ∈ ops, op.WF) (ghost blk : Gen.Block') (flags : Int) :
    ∃ t rs, runN (rfGo extra) grow fuel lcp SO s0 ops = Res.ok (t, rs) ∧
      ∃ t1 t2 blk' n e,
        bucketParser_Parse_nilable grow fuel lcp t true ghost flags = Res.ok (t1, ghost, n, e) ∧
        bucketParser_Parse grow fuel lcp t blk 0 = Res.ok (t2, blk', n, e) ∧
        t1.bucketDictionary.ParserBuffer.Data = t2.bucketDictionary.ParserBuffer.Data ∧
        t1.bucketDictionary.ParserBuffer.W = t2.bucketDictionary.ParserBuffer.W ∧
        t1.bucketDictionary.ParserBuffer.Data = t.bucketDictionary.ParserBuffer.Data ∧
        t1.bucketDictionary.ParserBuffer.W = t.bucketDictionary.ParserBuffer.W + n ∧
        n = Min.min t.BUPConfig.BlockSize
          ((t.bucketDictionary.ParserBuffer.Data.len : Int) - t.bucketDictionary.ParserBuffer.W) ∧
        (n = 0 → e = Gen.ErrEmptyBuffer ∧ t1 = t) ∧ (n ≠ 0 → e = Gen.Err.ok) := by
  obtain ⟨p, t, rs, hp, h0, h1, hH, hbc, hf, h3, -, -⟩ :=
    gen_bup_history_nil cfg s0 hinit extra grow fuel lcp hlcp SO hSO hfuel ops hwf
  refine ⟨t, rs, h1, ?_⟩
  have hlen := hH.len
  obtain ⟨t1, e1, hH1, m1, d1⟩ := hist_parseNil grow fuel lcp t hH ghost flags (by omega)
  obtain ⟨t2, blk', e2, m2, st2, -, -, -, pk2⟩ :=
    gen_bup_parse_model grow fuel lcp hlcp t blk 0 hH.pok (Int.le_refl 0) (by omega)
      (ofBUP cfg) p hp (ops.map GOpN.abs) h3
  have hM := C14_same_n_greedy_reachable .BUP (by decide) (ofBUP cfg) p hp (ops.map GOpN.abs) 0 rfl
  rw [← h3] at hM
  exact GenHPHist.C14_go (bufHost hbc) (fun t => t.BUPConfig.BlockSize)
    (pn := fun t g f => bucketParser_Parse_nilable grow fuel lcp t true g f) (pa := bucketParser_Parse grow fuel lcp)
    t hH hH.pok.bs0 hH.pok.cbs ghost blk flags ⟨t1, e1, hH1, m1, d1⟩ ⟨t2, blk', e2, m2, rfl, pk2.wf.1, st2⟩ hM
    (gen_bup_parseNil_empty grow fuel lcp t ghost flags)

end LZ.GenBUPHist

#print axioms LZ.GenBUPHist.hist_parseNil
#print axioms LZ.GenBUPHist.stepN_sim
#print axioms LZ.GenBUPHist.gen_bup_history_nil
#print axioms LZ.GenBUPHist.C01_go_text_bup_nil
#print axioms LZ.GenBUPHist.C03_go_text_bup_nil
#print axioms LZ.GenBUPHist.C14_skip_go_text_bup
#print axioms LZ.GenBUPHist.C14_go_text_bup
