/-
  The parser configuration BHPConfig: `SetDefaults` / `Verify` through the reflective helpers, which appear in the
  generated code as the field copies the extractor read from their source.  `ofBHP` reads the generated struct as the
  model's union record `Cfg` (fields the kind does not have are zero), `toBHP` is the inverse on `Cfg.restrict .BHP`.
  Go `int`/`int64` are unbounded `Int` on both sides (overflow is out of scope), `uint32`/`uint64` wrap around.  The
  proofs do not depend on the shape of the generated term (see GenPropsBase).
-/
import LzModel.Generated.CodeCfgBHP
import LzProofs.GenPropsCfgBuf
import LzProofs.GenPropsCfgHash

set_option linter.unusedSimpArgs false

namespace LZ.GenProps
open LZ

def ofBHP (c : Gen.BHPConfig) : Cfg :=
  { shrinkSize := c.ShrinkSize, bufferSize := c.BufferSize, windowSize := c.WindowSize,
    blockSize := c.BlockSize,
    inputLen := c.InputLen, hashBits := c.HashBits }

def toBHP (c : Cfg) : Gen.BHPConfig :=
  { ShrinkSize := c.shrinkSize, BufferSize := c.bufferSize, WindowSize := c.windowSize,
    BlockSize := c.blockSize,
    InputLen := c.inputLen, HashBits := c.hashBits }

theorem ofBHP_toBHP (c : Cfg) : ofBHP (toBHP c) = c.restrict .BHP := by
  simp [ofBHP, toBHP, Cfg.restrict, Kind.fields]

theorem toBHP_ofBHP (c : Gen.BHPConfig) : toBHP (ofBHP c) = c := rfl

theorem gen_setDefaults_BHP (c : Gen.BHPConfig) :
    ofBHP (Gen.BHPConfig_SetDefaults c) = setDefaults .BHP (ofBHP c) := by
  simp only [Gen.BHPConfig_SetDefaults, gen_helper, gen_bufDefaults', gen_hashDefaults']
  rfl

theorem gen_verify_BHP (c : Gen.BHPConfig) :
    Gen.BHPConfig_Verify c = .ok ↔ verify .BHP (ofBHP c) = true := by
  -- the model's `verify` kind by kind (`verify_hash`), and what the two helper checks of the generated code mean
  have hb : Gen.BufConfig_Verify ⟨c.ShrinkSize, c.BufferSize, c.WindowSize, c.BlockSize⟩ = .ok ↔ bufVerify (ofBHP c) = true := gen_bufVerify _
  have hh := gen_hashVerify ⟨c.InputLen, c.HashBits⟩
  rw [verify_hash (.inr rfl), ← hb]
  dsimp only [ofBHP] at hh ⊢
  rw [← hh]
  -- the rest is propositional in the two results, whatever the shape of the generated function
  dsimp only [Gen.BHPConfig_Verify, gen_helper]
  generalize Gen.BufConfig_Verify _ = e1
  generalize Gen.hashConfig_Verify _ = e2
  cases e1 <;> cases e2 <;> gen_ifs

theorem tieBHP : CfgTie .BHP ofBHP toBHP Gen.BHPConfig_SetDefaults Gen.BHPConfig_Verify :=
  ⟨ofBHP_toBHP, gen_setDefaults_BHP, gen_verify_BHP⟩

theorem gen_accepted_BHP (c : Cfg) :
    accepted .BHP c = true ↔ Gen.BHPConfig_Verify (Gen.BHPConfig_SetDefaults (toBHP c)) = .ok :=
  tieBHP.accepted c

end LZ.GenProps
