/-
  LzProofs.GenBufPropsBase — what the ParserBuffer and the DecoderBuffer theorems share: the
  slice lemmas (`SWF`, `slice_ok`, `copy_spec`, `append_spec`, …) over the second prelude
  (`Gen.Slice`, `Gen.Res`) and the reading of the package-level error variables (`errOf`,
  `errVars_distinct`).  It imports no translated function, so that a construct the translator
  refuses in decoder_buffer.go does not take the ParserBuffer theorems down, and vice versa.
  All names live in `LZ.GenBuf`.
-/
import LzModel.Generated.CodeSlicePrelude
import LzModel.Generated.CodeErrVars
import LzModel.Generated.CodeIfacePrelude
import LzModel.PBuf
import LzModel.DecBuf

set_option linter.unusedSimpArgs false
set_option linter.unusedVariables false

namespace LZ.GenBuf
open LZ LZ.Gen

/-! ## three ways to stay independent of the shape of the generated text

A behaviour-preserving rewrite of the Go source (De Morgan, early returns, swapped arms, `t+t`
for `2*t`, hoisted locals) changes the text the translator emits.
* `decide_ite` (ParserBuffer, DecoderBuffer, ReadFrom, the suffix-array parsers): the proof follows the case split of the MODEL
  and decides each `if` of the Go text, as it comes, by linear arithmetic from the case facts.
* `okAnd` (LzProofs/GenBufPropsD.lean; `DecoderBuffer.shrink`): unfold, split every `if`, show for every leaf that it returns
  normally with a value satisfying the postcondition — no leaf is written down.
* `gen_eq` (LzProofs/GenBufPropsD.lean; `DecoderBuffer.ByteAtEnd`): a *canonical form* of the function is written down and "generated =
  canonical" is proved by splitting every `if` on both sides; a pair of branches is either contradictory (linear
  arithmetic) or has equal leaves (syntactically, or up to linear arithmetic in the arguments). -/

/-- decide the FIRST `if` of the goal (outermost, leftmost) from the hypotheses, whatever the spelling of its test
    (operand order, `≠`/`=` with swapped arms, De Morgan) and whichever arm is taken; atoms like `iand flags 1` are
    opaque to omega; the second pair of alternatives is for contexts that spell a length `Int.ofNat n` -/
macro "decide_ite" : tactic =>
  `(tactic| first
    | rw [if_pos (by omega)]
    | rw [if_neg (by omega)]
    | rw [if_pos (by simp only [Int.ofNat_eq_natCast] at *; omega)]
    | rw [if_neg (by simp only [Int.ofNat_eq_natCast] at *; omega)])

/-! ## slices -/

def SWF (s : Slice) : Prop := s.len ≤ s.arr.length

@[simp] theorem bind_ok {α β : Type} (a : α) (f : α → Res β) : Res.bind (Res.ok a) f = f a := rfl
@[simp] theorem bind_panic {α β : Type} (f : α → Res β) : Res.bind (Res.panic : Res α) f = Res.panic := rfl
@[simp] theorem bind_fuel {α β : Type} (f : α → Res β) : Res.bind (Res.fuel : Res α) f = Res.fuel := rfl

theorem bind_ok_right {α : Type} (x : Res α) : Res.bind x (fun a => Res.ok a) = x := by
  cases x <;> rfl

theorem bind_bind {α β γ : Type} (m : Res α) (f : α → Res β) (k : β → Res γ) :
    Res.bind (Res.bind m f) k = Res.bind m (fun a => Res.bind (f a) k) := by
  cases m <;> rfl

theorem bind_eq_ok {α β : Type} {m : Res α} {f : α → Res β} {b : β} (h : Res.bind m f = Res.ok b) :
    ∃ a, m = Res.ok a ∧ f a = Res.ok b := by
  cases m with
  | ok a => exact ⟨a, rfl, h⟩
  | panic => cases h
  | fuel => cases h

theorem data_length {s : Slice} (h : SWF s) : s.data.length = s.len := by
  unfold Slice.data; unfold SWF at h; simp [List.length_take]; omega

theorem slice_ok (s : Slice) (i j : Nat) (hij : i ≤ j) (hj : j ≤ s.arr.length) :
    Slice.slice s (i : Int) (j : Int) = Res.ok { arr := s.arr.drop i, len := j - i } := by
  unfold Slice.slice Slice.cap
  have : (0 : Int) ≤ i ∧ (i : Int) ≤ j ∧ (j : Int) ≤ Int.ofNat s.arr.length := by
    refine ⟨by omega, by omega, ?_⟩
    show (j : Int) ≤ (s.arr.length : Int); omega
  simp only [this, and_self, if_true, Int.toNat_natCast]

/-- `s[a:b]` with `Int` bounds given up to (linear) equations: `rw [slice_okI s _ _ i j (by omega) (by omega) …]`
    rewrites the first slice expression of `s` whatever the spelling of its bounds -/
theorem slice_okI (s : Slice) (a b : Int) (i j : Nat) (ha : a = (i : Int)) (hb : b = (j : Int))
    (hij : i ≤ j) (hj : j ≤ s.arr.length) :
    Slice.slice s a b = Res.ok { arr := s.arr.drop i, len := j - i } := by
  subst ha hb; exact slice_ok s i j hij hj

/-- the slice value `s[i:j]` as `slice_ok` returns it: well-formed, and its elements -/
theorem sub_spec (s : Slice) (hs : SWF s) (i j : Nat) (hij : i ≤ j) (hj : j ≤ s.len) :
    SWF { arr := s.arr.drop i, len := j - i } ∧
      ({ arr := s.arr.drop i, len := j - i } : Slice).data = (s.data.drop i).take (j - i) := by
  have hs' : s.len ≤ s.arr.length := hs
  refine ⟨?_, ?_⟩
  · show j - i ≤ (s.arr.drop i).length
    rw [List.length_drop]; omega
  · simp only [Slice.data, List.drop_take, List.take_take]
    congr 1; omega

/-- the slice value `s[k:]`: well-formed, and its elements -/
theorem slice_from (s : Slice) (hs : SWF s) (k : Nat) (hk : k ≤ s.len) :
    SWF { arr := s.arr.drop k, len := s.len - k } ∧
      ({ arr := s.arr.drop k, len := s.len - k } : Slice).data = s.data.drop k := by
  obtain ⟨h1, h2⟩ := sub_spec s hs k s.len hk (Nat.le_refl _)
  refine ⟨h1, h2.trans (List.take_of_length_le ?_)⟩
  rw [List.length_drop, data_length hs]; omega

theorem bind_congr_ok {α β : Type} {m : Res α} {f k : α → Res β} (h : ∀ a, m = Res.ok a → f a = k a) :
    Res.bind m f = Res.bind m k := by
  cases m with
  | ok a => exact h a rfl
  | _ => rfl

theorem ite_eq_some {β : Type} {c : Prop} [Decidable c] {a m : β} {r : Option β}
    (h : (if c then some a else r) = some m) : (c ∧ a = m) ∨ r = some m := by
  split at h
  · exact .inl ⟨‹c›, Option.some.inj h⟩
  · exact .inr h

theorem listSliceFrom_ok {α : Type} (s : List α) (k : Nat) (hk : k ≤ s.length) :
    listSliceFrom s (k : Int) = Res.ok (s.drop k) := by
  unfold listSliceFrom
  have : (0 : Int) ≤ (k : Int) ∧ (k : Int) ≤ Int.ofNat s.length := ⟨by omega, by show (k : Int) ≤ (s.length : Int); omega⟩
  simp only [this, and_self, if_true, Int.toNat_natCast]

theorem u32_eq_zero (o : UInt32) : o = 0 ↔ o.toNat = 0 :=
  ⟨fun h => by rw [h]; rfl, fun h => UInt32.toNat_inj.mp (by rw [h]; rfl)⟩

theorem u32_pos (m : UInt32) : m > 0 ↔ m.toNat > 0 := by
  show 0 < m ↔ _
  rw [UInt32.lt_iff_toNat_lt]; rfl

/-- `x[:0]` on a byte slice -/
theorem slice_zero (x : Slice) : Slice.slice x 0 (0 : Int) = Res.ok { arr := x.arr, len := 0 } :=
  slice_ok x 0 0 (Nat.le_refl 0) (Nat.zero_le _)

theorem slice_panic (s : Slice) (i j : Int) (h : i < 0 ∨ j < i ∨ (s.arr.length : Int) < j) :
    Slice.slice s i j = Res.panic := by
  unfold Slice.slice Slice.cap
  have : ¬ ((0 : Int) ≤ i ∧ i ≤ j ∧ j ≤ Int.ofNat s.arr.length) := by
    intro ⟨h1, h2, h3⟩
    have h3' : j ≤ (s.arr.length : Int) := h3
    omega
  simp only [this, if_false]

/-- the slice after `n := copy(s, s[d:]); s = s[:n]`: the contents shifted down by `d` -/
def shifted (s : Slice) (d : Nat) : Slice :=
  { arr := (s.arr.drop d).take (s.len - d) ++ s.arr.drop (s.len - d), len := s.len - d }

theorem shift_ok (s : Slice) (h : SWF s) (d : Nat) :
    Slice.slice (Slice.copy s { arr := s.arr.drop d, len := s.len - d }).1 0
      (Slice.copy s { arr := s.arr.drop d, len := s.len - d }).2 = Res.ok (shifted s d) := by
  unfold SWF at h
  have hm : Nat.min s.len (s.len - d) = s.len - d := Nat.min_eq_right (Nat.sub_le ..)
  simp only [Slice.copy, hm, Int.ofNat_eq_natCast]
  exact slice_ok _ 0 (s.len - d) (Nat.zero_le _)
    (by simp only [List.length_append, List.length_take, List.length_drop]; omega)

theorem shifted_spec (s : Slice) (h : SWF s) (d : Nat) (hd : d ≤ s.len) :
    (shifted s d).data = s.data.drop d ∧ (shifted s d).arr.length = s.arr.length ∧
    (shifted s d).len = s.len - d := by
  unfold SWF at h
  refine ⟨?_, ?_, rfl⟩
  · simp only [shifted, Slice.data]
    rw [List.take_append_of_le_length (by simp only [List.length_take, List.length_drop]; omega),
      List.take_take, Nat.min_self, List.drop_take]
  · simp only [shifted, List.length_append, List.length_take, List.length_drop]; omega

theorem take_data_eq (s : Slice) (n : Nat) (h : n ≤ s.len) : s.data.take n = s.arr.take n := by
  unfold Slice.data
  rw [List.take_take]
  congr 1; omega

/-- `copy(d, s)`: count, contents, length and capacity of the modified `d` -/
theorem copy_spec (d s : Slice) (hd : SWF d) (hs : SWF s) :
    (Slice.copy d s).2 = ((Min.min d.len s.len : Nat) : Int) ∧
    (Slice.copy d s).1.data = s.data.take d.len ++ d.data.drop (Min.min d.len s.len) ∧
    (Slice.copy d s).1.len = d.len ∧ (Slice.copy d s).1.arr.length = d.arr.length := by
  unfold SWF at hd hs
  have hm : Nat.min d.len s.len = Min.min d.len s.len := rfl
  simp only [Slice.copy, hm, Int.ofNat_eq_natCast, true_and]
  refine ⟨?_, ?_⟩
  · simp only [Slice.data]
    rw [List.take_append, List.take_take, List.take_take, List.drop_take]
    simp only [List.length_take]
    congr 1
    · congr 1; omega
    · congr 1; omega
  · simp only [List.length_append, List.length_take, List.length_drop]; omega

/-- `copy(z, s)` with `len(z) = len(s)`: the contents of `s` in the array of `z` -/
theorem copy_full (z s : Slice) (hz : SWF z) (hs : SWF s) (hl : z.len = s.len) :
    (Slice.copy z s).1.data = s.data ∧ SWF (Slice.copy z s).1 ∧
    (Slice.copy z s).1.arr.length = z.arr.length := by
  obtain ⟨-, hcd, hcl, hca⟩ := copy_spec z s hz hs
  refine ⟨?_, ?_, hca⟩
  · rw [hcd, hl, Nat.min_self, List.take_of_length_le (by rw [data_length hs]; exact Nat.le_refl _),
      List.drop_of_length_le (by rw [data_length hz, hl]; exact Nat.le_refl _), List.append_nil]
  · show _ ≤ _
    rw [hcl, hca]; exact hz

theorem index_spec (s : Slice) (i : Nat) (hi : i < s.len) :
    Slice.index s (i : Int) = Res.ok ((s.data[i]?).getD 0) := by
  unfold Slice.index
  have : (0 : Int) ≤ (i : Int) ∧ (i : Int) < Int.ofNat s.len := by
    refine ⟨by omega, ?_⟩; show (i : Int) < (s.len : Int); omega
  simp only [this, and_self, if_true, Int.toNat_natCast, Slice.data, List.getD_eq_getElem?_getD,
    List.getElem?_take, hi]

theorem append_spec (g : Nat → Nat → Nat) (s : Slice) (h : SWF s) (bs : List UInt8) :
    (Slice.append g s bs).data = s.data ++ bs ∧ (Slice.append g s bs).len = s.len + bs.length ∧
    (Slice.append g s bs).arr.length =
      (if s.len + bs.length ≤ s.arr.length then s.arr.length
       else s.len + bs.length + (g s.arr.length (s.len + bs.length) - (s.len + bs.length))) := by
  unfold SWF at h
  unfold Slice.append Slice.cap
  by_cases hc : s.len + bs.length ≤ s.arr.length
  · simp only [hc, if_true, Slice.data, List.length_append, List.length_take, List.length_drop, true_and]
    refine ⟨?_, by omega⟩
    rw [List.take_append_of_le_length (by simp only [List.length_append, List.length_take]; omega)]
    rw [List.take_of_length_le (by simp only [List.length_append, List.length_take]; omega)]
  · simp only [hc, if_false, Slice.data, List.length_append, List.length_take, List.length_replicate, true_and]
    refine ⟨?_, by omega⟩
    rw [List.take_append_of_le_length (by simp only [List.length_append, List.length_take]; omega)]
    rw [List.take_of_length_le (by simp only [List.length_append, List.length_take]; omega)]

theorem make_ok (n c : Int) (h : 0 ≤ n ∧ n ≤ c) :
    Slice.make n c = Res.ok { arr := List.replicate c.toNat 0, len := n.toNat } := if_pos h

theorem make_panic (n c : Int) (h : n < 0 ∨ c < n) : Slice.make n c = Res.panic :=
  if_neg (by omega)

/-- `uint32(a)` of a non-negative `int` below `2^32` -/
theorem toNat_ofInt32 (n : Nat) (a : Int) (ha : a = (n : Int)) (h : n < 4294967296) : (UInt32.ofInt a).toNat = n := by
  subst ha
  unfold UInt32.ofInt
  simp only [UInt32.toNat_ofNat', Nat.reducePow, Int.reducePow] at *
  omega

/-- `uint32` / `uint64` addition without wrap-around -/
theorem u32_add (a b : UInt32) (h : a.toNat + b.toNat < 4294967296) : (a + b).toNat = a.toNat + b.toNat := by
  rw [UInt32.toNat_add, Nat.mod_eq_of_lt (by omega)]

theorem u64_add (a b : UInt64) (h : a.toNat + b.toNat < 18446744073709551616) : (a + b).toNat = a.toNat + b.toNat := by
  rw [UInt64.toNat_add, Nat.mod_eq_of_lt (by omega)]

/-! ## errors -/

/-- the model error a generated error value stands for; `none` for every other value -/
def errOf (e : Gen.Err) : Option LZ.Err :=
  if e = Gen.Err.ok then some .ok
  else if e = Gen.ErrFullBuffer then some .full
  else if e = Gen.ErrOutOfBuffer then some .outOfBuffer
  else if e = Gen.ErrEndOfBuffer then some .endOfBuffer
  else if e = Gen.errOffset then some .offset
  else if e = Gen.errMatchLen then some .matchLen
  else if e = Gen.errLitLen then some .litLen
  else none

@[simp] theorem errOf_ok : errOf Gen.Err.ok = some .ok := by decide
@[simp] theorem errOf_full : errOf Gen.ErrFullBuffer = some .full := by decide
@[simp] theorem errOf_oob : errOf Gen.ErrOutOfBuffer = some .outOfBuffer := by decide
@[simp] theorem errOf_eob : errOf Gen.ErrEndOfBuffer = some .endOfBuffer := by decide
@[simp] theorem errOf_offset : errOf Gen.errOffset = some .offset := by decide
@[simp] theorem errOf_matchLen : errOf Gen.errMatchLen = some .matchLen := by decide
@[simp] theorem errOf_litLen : errOf Gen.errLitLen = some .litLen := by decide

theorem errVars_distinct :
    [Gen.Err.ok, Gen.ErrFullBuffer, Gen.ErrOutOfBuffer, Gen.ErrEndOfBuffer, Gen.errOffset, Gen.errMatchLen,
     Gen.errLitLen].Nodup := by
  decide

/-- `s[i:j]` with `Int` bounds (any expressions; the side condition is linear arithmetic) -/
theorem slice_ok_and (s : Slice) (i j : Int) (h : 0 ≤ i ∧ i ≤ j ∧ j ≤ (s.arr.length : Int)) :
    Slice.slice s i j = Res.ok { arr := s.arr.drop i.toNat, len := j.toNat - i.toNat } := if_pos h

end LZ.GenBuf

/-! ### axiom audit (printed on every build) -/
#print axioms LZ.GenBuf.errVars_distinct
