/-
  The parser configuration HPConfig: `SetDefaults` / `Verify` through the reflective helpers, which appear in the
  generated code as the field copies the extractor read from their source.  `ofHP` reads the generated struct as the
  model's union record `Cfg` (fields the kind does not have are zero), `toHP` is the inverse on `Cfg.restrict .HP`.
  Go `int`/`int64` are unbounded `Int` on both sides (overflow is out of scope), `uint32`/`uint64` wrap around.  The
  proofs do not depend on the shape of the generated term (see GenPropsBase).
-/
import LzModel.Generated.CodeCfgHP
import LzProofs.GenPropsCfgBuf
import LzProofs.GenPropsCfgHash

set_option linter.unusedSimpArgs false

namespace LZ.GenProps
open LZ

def ofHP (c : Gen.HPConfig) : Cfg :=
  { shrinkSize := c.ShrinkSize, bufferSize := c.BufferSize, windowSize := c.WindowSize,
    blockSize := c.BlockSize,
    inputLen := c.InputLen, hashBits := c.HashBits }

def toHP (c : Cfg) : Gen.HPConfig :=
  { ShrinkSize := c.shrinkSize, BufferSize := c.bufferSize, WindowSize := c.windowSize,
    BlockSize := c.blockSize,
    InputLen := c.inputLen, HashBits := c.hashBits }

theorem ofHP_toHP (c : Cfg) : ofHP (toHP c) = c.restrict .HP := by
  simp [ofHP, toHP, Cfg.restrict, Kind.fields]

theorem toHP_ofHP (c : Gen.HPConfig) : toHP (ofHP c) = c := rfl

theorem gen_setDefaults_HP (c : Gen.HPConfig) :
    ofHP (Gen.HPConfig_SetDefaults c) = setDefaults .HP (ofHP c) := by
  simp only [Gen.HPConfig_SetDefaults, gen_helper, gen_bufDefaults', gen_hashDefaults']
  rfl

theorem gen_verify_HP (c : Gen.HPConfig) :
    Gen.HPConfig_Verify c = .ok ↔ verify .HP (ofHP c) = true := by
  -- the model's `verify` kind by kind (`verify_hash`), and what the two helper checks of the generated code mean
  have hb : Gen.BufConfig_Verify ⟨c.ShrinkSize, c.BufferSize, c.WindowSize, c.BlockSize⟩ = .ok ↔ bufVerify (ofHP c) = true := gen_bufVerify _
  have hh := gen_hashVerify ⟨c.InputLen, c.HashBits⟩
  rw [verify_hash (.inl rfl), ← hb]
  dsimp only [ofHP] at hh ⊢
  rw [← hh]
  -- the rest is propositional in the two results, whatever the shape of the generated function
  dsimp only [Gen.HPConfig_Verify, gen_helper]
  generalize Gen.BufConfig_Verify _ = e1
  generalize Gen.hashConfig_Verify _ = e2
  cases e1 <;> cases e2 <;> gen_ifs

theorem tieHP : CfgTie .HP ofHP toHP Gen.HPConfig_SetDefaults Gen.HPConfig_Verify :=
  ⟨ofHP_toHP, gen_setDefaults_HP, gen_verify_HP⟩

theorem gen_accepted_HP (c : Cfg) :
    accepted .HP c = true ↔ Gen.HPConfig_Verify (Gen.HPConfig_SetDefaults (toHP c)) = .ok :=
  tieHP.accepted c

end LZ.GenProps
