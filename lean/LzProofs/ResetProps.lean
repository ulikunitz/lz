/-
  LzProofs.ResetProps — property C13:
    "After Reset (with nil or with data) a parser behaves exactly like a newly created parser of
     the same configuration given the same subsequent calls: the emitted blocks are identical,
     whatever the parser processed before.  Likewise two parsers with equal configuration and
     equal call sequences emit identical blocks."

  Vocabulary (defined in LzProofs/ResetLemmas.lean and LzProofs/ParseHist.lean; `RInv` below):
    POp                       the calls: write p | readFrom r | parse flags | parseNil | shrink | reset data capExtra
    Parser.stepOut s op       new state and what the caller sees (`POut`: counts, errors, the block,
                              the bytes left in the reader)
    Parser.runOut s ops       final state and the list of all outputs of a history
    Reachable s0 s            `s = (s0.runOut ops).1` for some history `ops` (ANY operations, ANY readers)
    ObsEq s t                 equal in everything but `buf.cap` (the capacity of the backing array)
    PBuf.MarginInv b          `len(Data) ≤ BufferSize` and non-empty data have the 7 byte margin
    POp.Similar / OpsSimilar  calls the caller cannot tell apart: identical, except that the spare
                              capacity of the slice given to Reset and the chunking of an ERROR-FREE
                              reader (`FillR`) may differ
    RInv k c s            invariant of reachable states: constant kind/cfg, `MarginInv`, and the
                              search structure has the shape (sizes, parameters) of a fresh one

  Restriction on readers: the histories AFTER the reset may use `readFrom` only with error-free
  readers (`FillR`: no error codes, every answer offers a byte, enough answers for the payload).  For a
  reader that fails in the middle the number of bytes accepted before the failure depends on
  `cap` (`PBuf.readFrom_faulty_depends_on_cap` in LzProofs/PBufProps.lean), and `cap` is exactly
  what a reset parser and a fresh one may differ in.  The history BEFORE the reset is unrestricted.
-/
import LzProofs.ResetLemmas
import LzProofs.ParseEval
namespace LZ
open PBuf

/-! ## Reachable states -/

/-- Invariant of all states reachable from `NewParser`: kind and configuration are constant,
    the buffer configuration is the one derived from the configuration, the buffer has the
    margin invariant, and the dictionary has the shape of a fresh one. -/
structure RInv (k : Kind) (c : Cfg) (s : Parser) : Prop where
  kind : s.kind = k
  cfg : s.cfg = c
  bcfg : s.buf.cfg = c.bufCfg
  buf : s.buf.MarginInv
  dict : DictShape k c s.dict

theorem newParser_rinv (k : Kind) (raw : Cfg) (s0 : Parser) (h : newParser k raw = some s0) :
    RInv k s0.cfg s0 ∧ s0.dict = freshDict k s0.cfg ∧ s0.buf = PBuf.init s0.cfg.bufCfg := by
  rw [(newParser_eq_some h).2]
  exact ⟨⟨rfl, rfl, rfl, PBuf.marginInv_init _, dictShape_fresh _ _⟩, rfl, rfl⟩

theorem RInv.of_step {k : Kind} {c : Cfg} {s s' : Parser} (hs : Parser.Step s s') (h : RInv k c s) :
    RInv k c s' := by
  obtain ⟨hk, hc, hd⟩ := hs.keeps
    ((HashT.Kept.const _).and (HashT.Shape.kept _ _)) ((HashT.Kept.const _).and (HashT.Shape.kept _ _))
    (HashT.Shape.kept _ _)
    ((BucketT.Kept.const _).and (BucketT.Shape.kept _ _ _)) (G := k = .GSAP) (O := k = .OSAP)
  exact ⟨hk.trans h.kind, hc.trans h.cfg, hs.bufCfg.trans h.bcfg, hs.marginInv h.buf, hd h.dict⟩

/-- `s` is reachable from `s0` by a history of Write / ReadFrom / Parse / Parse(nil) / Shrink /
    Reset calls (any arguments, any scripted readers, failing ones included) -/
def Reachable (s0 s : Parser) : Prop := ∃ ops : List POp, s = (s0.runOut ops).1

/-- the same notion through `runOps` of LzProofs.ParseHist -/
theorem reachable_iff_runOps (s0 s : Parser) :
    Reachable s0 s ↔ ∃ ops : List POp, s = (runOps (s0, Ghost.init) ops).1 := by
  constructor <;> (intro ⟨ops, h⟩; refine ⟨ops, ?_⟩)
  · rw [runOps_runOut]; exact h
  · rw [← runOps_runOut ops s0 Ghost.init]; exact h

theorem reachable_runOps (s0 : Parser) (ops : List POp) :
    Reachable s0 (runOps (s0, Ghost.init) ops).1 :=
  (reachable_iff_runOps s0 _).2 ⟨ops, rfl⟩

theorem Reachable.refl (s0 : Parser) : Reachable s0 s0 := ⟨[], rfl⟩

theorem Reachable.stepOut {s0 s : Parser} (h : Reachable s0 s) (op : POp) :
    Reachable s0 (s.stepOut op).1 := by
  obtain ⟨ops, rfl⟩ := (reachable_iff_runOps s0 s).1 h
  refine (reachable_iff_runOps s0 _).2 ⟨ops ++ [op], ?_⟩
  rw [runOps_snoc]
  exact (step_stepOut _ _ op).symm

/-- Induction over the reachable states: a property that the start has and that every operation
    keeps on reachable states holds in every reachable state.  `Reachable.of_step` reads it for
    properties kept by every `Parser.Step`, `Reachable.keeps` (LzProofs/Reach.lean) for a parser made by
    `NewParser`, with what is known of its reachable states (`Base`) at hand. -/
theorem Reachable.induct {I : Parser → Prop} {s0 : Parser} (h0 : I s0)
    (hI : ∀ s op, Reachable s0 s → I s → I (s.stepOut op).1) {s : Parser} (hr : Reachable s0 s) :
    I s := by
  obtain ⟨ops, rfl⟩ := hr
  exact (Parser.runOut_invariant (fun s => Reachable s0 s ∧ I s)
    (fun s op h => ⟨h.1.stepOut op, hI s op h.1 h.2⟩) ops s0 ⟨.refl s0, h0⟩).2

theorem Reachable.of_step {I : Parser → Prop} (hI : ∀ {s s' : Parser}, Parser.Step s s' → I s → I s')
    {s0 s : Parser} (h0 : I s0) (hr : Reachable s0 s) : I s :=
  hr.induct h0 fun s op _ => hI (Parser.stepOut_step s op)

/-- Every state reachable from `NewParser` satisfies `RInv`: in particular its search structure
    has the table sizes and parameters `freshDict` would create, whatever was processed.
    Holds for all seven parsers and all accepted configurations, unconditionally. -/
theorem reachable_rinv (k : Kind) (raw : Cfg) (s0 : Parser) (h0 : newParser k raw = some s0)
    (s : Parser) (hr : Reachable s0 s) : RInv k s0.cfg s :=
  Reachable.of_step RInv.of_step (newParser_rinv k raw s0 h0).1 hr

/-- `Reset` clears the search structure of any reachable state to exactly the fresh one. -/
theorem reachable_clearDict (k : Kind) (raw : Cfg) (s0 : Parser) (h0 : newParser k raw = some s0)
    (s : Parser) (hr : Reachable s0 s) : s.clearDict = s0.dict := by
  rw [clearDict_eq_fresh s (reachable_rinv k raw s0 h0 s hr).dict, (newParser_rinv k raw s0 h0).2.1]

/-! ## Reset gives a state observationally equal to a fresh parser's -/

theorem RInv.reset_of_gt {k : Kind} {c : Cfg} {s : Parser} (h : RInv k c s)
    (data : List Byte) (ce : Nat) (hd : c.bufCfg.bufferSize < data.length) :
    s.reset data ce = (s, .oversize) := by
  unfold Parser.reset
  rw [reset_oversize s.buf data ce (by rw [h.bcfg]; exact hd)]
  rfl

/-- a successful `Reset(data)` leaves nothing of the history: the result is the new parser of the
    configuration, holding `data` in a slice of some capacity -/
theorem RInv.reset_of_le {k : Kind} {c : Cfg} {s : Parser} (h : RInv k c s)
    (data : List Byte) (ce : Nat) (hd : data.length ≤ c.bufCfg.bufferSize) :
    ∃ cap, s.reset data ce =
      ({ kind := k, cfg := c, buf := ⟨data, 0, 0, cap, c.bufCfg⟩, dict := freshDict k c }, .ok) := by
  obtain ⟨cap, e, -⟩ := reset_spec s.buf data ce (by rw [h.bcfg]; exact hd)
  refine ⟨cap, ?_⟩
  unfold Parser.reset
  rw [e, clearDict_eq_fresh s h.dict, h.bcfg, ← h.kind, ← h.cfg]
  rfl

/-- two states of the same kind/configuration with well-shaped dictionaries: `Reset(data)` reports
    the same error on both, and if it succeeds the results are observationally equal -/
theorem reset_obsEq_of_rinv {k : Kind} {c : Cfg} {s t : Parser} (hs : RInv k c s)
    (ht : RInv k c t) (data : List Byte) (ce ce' : Nat) :
    (s.reset data ce).2 = (t.reset data ce').2 ∧
    ((s.reset data ce).2 = .ok → ObsEq (s.reset data ce).1 (t.reset data ce').1) := by
  by_cases hd : data.length ≤ c.bufCfg.bufferSize
  · obtain ⟨c1, e1⟩ := hs.reset_of_le data ce hd
    obtain ⟨c2, e2⟩ := ht.reset_of_le data ce' hd
    rw [e1, e2]
    exact ⟨rfl, fun _ => ⟨rfl, rfl, rfl, rfl, rfl, rfl, rfl⟩⟩
  · rw [hs.reset_of_gt data ce (by omega), ht.reset_of_gt data ce' (by omega)]
    exact ⟨rfl, fun h => by cases h⟩

/-- Let `s0` be a newly created parser and `s` ANY state reachable from it
    (arbitrary history of Write/ReadFrom/Parse/Parse(nil)/Shrink/Reset).  `Reset(data)` on `s`
    and on `s0` report the same error (`ErrOversize` iff `len(data) > BufferSize`), and when they
    succeed the two resulting states are equal in every component except possibly `buf.cap`. -/
theorem reset_eq_fresh (k : Kind) (raw : Cfg) (s0 : Parser) (h0 : newParser k raw = some s0)
    (s : Parser) (hr : Reachable s0 s) (data : List Byte) (ce ce' : Nat) :
    (s.reset data ce).2 = (s0.reset data ce').2 ∧
    ((s.reset data ce).2 = .ok → ObsEq (s.reset data ce).1 (s0.reset data ce').1) :=
  reset_obsEq_of_rinv (reachable_rinv k raw s0 h0 s hr) (newParser_rinv k raw s0 h0).1 data ce ce'

/-- the same in the form "if both succeed with results `s1`, `t1` then `ObsEq s1 t1`" -/
theorem reset_eq_fresh' (k : Kind) (raw : Cfg) (s0 : Parser) (h0 : newParser k raw = some s0)
    (s : Parser) (hr : Reachable s0 s) (data : List Byte) (ce ce' : Nat) (s1 t1 : Parser)
    (h1 : s.reset data ce = (s1, .ok)) (h2 : s0.reset data ce' = (t1, .ok)) : ObsEq s1 t1 := by
  have := (reset_eq_fresh k raw s0 h0 s hr data ce ce').2 (by rw [h1])
  rw [h1, h2] at this
  exact this

/-- `Reset(nil)` (any reachable state): always succeeds and yields a state observationally equal
    to the newly created parser itself. -/
theorem reset_nil_eq_new (k : Kind) (raw : Cfg) (s0 : Parser) (h0 : newParser k raw = some s0)
    (s : Parser) (hr : Reachable s0 s) (ce : Nat) :
    (s.reset [] ce).2 = .ok ∧ ObsEq (s.reset [] ce).1 s0 := by
  obtain ⟨cap, e⟩ := (reachable_rinv k raw s0 h0 s hr).reset_of_le [] ce (Nat.zero_le _)
  rw [e, (newParser_eq_some h0).2]
  exact ⟨rfl, rfl, rfl, rfl, rfl, rfl, rfl, rfl⟩

/-! ## Observational equivalence is a bisimulation -/

/-- If `s` and `t` are equal up to `cap` and both buffers have the margin
    invariant (so the panic guard of `Parse` fires in neither), then indistinguishable calls
    `op`, `op'` (identical calls; `Reset` may be given slices of different spare capacity, and
    `ReadFrom` error-free readers with the same payload but different chunking) return identical
    outputs — `(n, err)`, the emitted block, the reader's remaining payload, the shrink delta —
    and lead to states that are again equal up to `cap`. -/
theorem obs_bisim {s t : Parser} (h : ObsEq s t) (hs : s.buf.MarginInv) (ht : t.buf.MarginInv)
    {op op' : POp} (ho : POp.Similar op op') :
    (s.stepOut op).2 = (t.stepOut op').2 ∧ ObsEq (s.stepOut op).1 (t.stepOut op').1 ∧
    (s.stepOut op).1.buf.MarginInv ∧ (t.stepOut op').1.buf.MarginInv :=
  ⟨(Parser.obs_step h hs ht ho).2, (Parser.obs_step h hs ht ho).1,
   Parser.stepOut_marginInv s op hs, Parser.stepOut_marginInv t op' ht⟩

/-- the same with the buffer invariant `BufOK` of LzProofs.WrapProps as hypothesis -/
theorem obs_bisim_bufOK {s t : Parser} (h : ObsEq s t) (hs : BufOK s.buf) (ht : BufOK t.buf)
    {op op' : POp} (ho : POp.Similar op op') :
    (s.stepOut op).2 = (t.stepOut op').2 ∧ ObsEq (s.stepOut op).1 (t.stepOut op').1 :=
  ⟨(obs_bisim h (marginInv_of_bufOK hs) (marginInv_of_bufOK ht) ho).1,
   (obs_bisim h (marginInv_of_bufOK hs) (marginInv_of_bufOK ht) ho).2.1⟩

/-- the per-operation reading of `obs_bisim` for `Parse`: same `n`, same error, same block -/
theorem obs_bisim_parse {s t : Parser} (h : ObsEq s t) (hs : s.buf.MarginInv) (ht : t.buf.MarginInv)
    (flags : Nat) :
    (s.parse flags).2 = (t.parse flags).2 ∧ ObsEq (s.parse flags).1 (t.parse flags).1 :=
  ⟨(Parser.parse_obs h hs ht flags).2, (Parser.parse_obs h hs ht flags).1⟩

/-- whole histories -/
theorem obs_bisim_run {s t : Parser} (h : ObsEq s t) (hs : s.buf.MarginInv) (ht : t.buf.MarginInv)
    {ops ops' : List POp} (ho : OpsSimilar ops ops') :
    (s.runOut ops).2 = (t.runOut ops').2 ∧ ObsEq (s.runOut ops).1 (t.runOut ops').1 := by
  induction ho generalizing s t with
  | nil => exact ⟨rfl, h⟩
  | cons hop _ ih =>
    obtain ⟨g1, g2, m1, m2⟩ := obs_bisim h hs ht hop
    obtain ⟨i1, i2⟩ := ih g2 m1 m2
    refine ⟨?_, i2⟩
    show _ :: _ = _ :: _
    rw [g1, i1]

/-! ### what holds for arbitrary (failing) readers -/

/-- `ReadFrom` with an ARBITRARY scripted reader on two states equal up to `cap`: kind, cfg,
    dictionary, `W`, `Off` and the buffer configuration stay equal, both buffers receive a prefix of
    the payload, and no byte is lost or duplicated — buffer contents followed by what the reader
    still holds is the same stream on both sides.  Only the split (the count `n`, hence possibly
    the error of the call) may differ; see `readFrom_faulty_distinguishes`. -/
theorem readFrom_any_conserves {s t : Parser} (h : ObsEq s t) (hs : s.buf.MarginInv)
    (ht : t.buf.MarginInv) (r : Reader) :
    (s.readFrom r).1.buf.data ++ (s.readFrom r).2.1.payload =
      (t.readFrom r).1.buf.data ++ (t.readFrom r).2.1.payload ∧
    (s.readFrom r).1.buf.data = s.buf.data ++ r.payload.take (s.readFrom r).2.2.1 ∧
    (t.readFrom r).1.buf.data = s.buf.data ++ r.payload.take (t.readFrom r).2.2.1 ∧
    (s.readFrom r).1.kind = (t.readFrom r).1.kind ∧ (s.readFrom r).1.cfg = (t.readFrom r).1.cfg ∧
    (s.readFrom r).1.dict = (t.readFrom r).1.dict ∧ (s.readFrom r).1.buf.w = (t.readFrom r).1.buf.w ∧
    (s.readFrom r).1.buf.off = (t.readFrom r).1.buf.off ∧
    (s.readFrom r).1.buf.cfg = (t.readFrom r).1.buf.cfg := by
  have ea : s.buf.readFrom r = ((s.buf.readFrom r).1, (s.buf.readFrom r).2.1, (s.buf.readFrom r).2.2.1,
    (s.buf.readFrom r).2.2.2) := rfl
  have eb : t.buf.readFrom r = ((t.buf.readFrom r).1, (t.buf.readFrom r).2.1, (t.buf.readFrom r).2.2.1,
    (t.buf.readFrom r).2.2.2) := rfl
  obtain ⟨ca, -, hba, hra, -⟩ := readFrom_master hs.1 ea
  obtain ⟨cb, -, hbb, hrb, -⟩ := readFrom_master ht.1 eb
  obtain ⟨h1, h2, h3, h4, h5, h6, h7⟩ := h
  have da : (s.readFrom r).1.buf.data = s.buf.data ++ r.payload.take (s.readFrom r).2.2.1 := by
    show (s.buf.readFrom r).1.data = _
    rw [hba]; rfl
  have db : (t.readFrom r).1.buf.data = s.buf.data ++ r.payload.take (t.readFrom r).2.2.1 := by
    show (t.buf.readFrom r).1.data = _
    rw [hbb, h4]; rfl
  have pa : (s.readFrom r).2.1.payload = r.payload.drop (s.readFrom r).2.2.1 := hra
  have pb : (t.readFrom r).2.1.payload = r.payload.drop (t.readFrom r).2.2.1 := hrb
  refine ⟨?_, da, db, h1, h2, h3, ?_, ?_, ?_⟩
  · rw [da, db, pa, pb, List.append_assoc, List.append_assoc, List.take_append_drop,
      List.take_append_drop]
  · show (s.buf.readFrom r).1.w = (t.buf.readFrom r).1.w
    rw [hba, hbb]; exact h5
  · show (s.buf.readFrom r).1.off = (t.buf.readFrom r).1.off
    rw [hba, hbb]; exact h6
  · show (s.buf.readFrom r).1.cfg = (t.buf.readFrom r).1.cfg
    rw [hba, hbb]; exact h7

/-- Limit of `obs_bisim`: a reader that fails while still holding data can tell two states
    apart that differ only in `cap` (lifted from `PBuf.readFrom_faulty_depends_on_cap`): with
    BufferSize 100000, an empty buffer of capacity 0 accepts 65536 bytes before the reader's error
    is returned, an empty buffer of capacity 100007 all 100000.  This is why the histories after
    the reset are restricted to error-free readers; it does not affect the emitted blocks for the
    bytes that were accepted, and `readFrom_any_conserves` shows no byte is lost. -/
theorem readFrom_faulty_distinguishes (pl : List Byte) (hl : pl.length = 100000) :
    ∃ s t : Parser, ObsEq s t ∧ s.buf.MarginInv ∧ t.buf.MarginInv ∧
      (s.stepOut (.readFrom ⟨pl, [(100000, 2)]⟩)).2 ≠ (t.stepOut (.readFrom ⟨pl, [(100000, 2)]⟩)).2 := by
  obtain ⟨-, h2, h3⟩ := readFrom_faulty_depends_on_cap pl hl
  refine ⟨{ kind := .GSAP, cfg := default, buf := init cfgBig, dict := .gsap GsapD.empty },
    { kind := .GSAP, cfg := default, buf := { init cfgBig with cap := 100007 }, dict := .gsap GsapD.empty },
    ⟨rfl, rfl, rfl, rfl, rfl, rfl, rfl⟩, ⟨Nat.zero_le _, Or.inl rfl⟩, ⟨Nat.zero_le _, Or.inl rfl⟩, ?_⟩
  intro h
  have g1 : ((init cfgBig).readFrom ⟨pl, [(100000, 2)]⟩).2.2.1 = 65536 := congrArg Prod.fst h2
  have g2 : (({ init cfgBig with cap := 100007 } : PBuf).readFrom ⟨pl, [(100000, 2)]⟩).2.2.1
      = 100000 := congrArg Prod.fst h3
  injection h with hn _ _
  rw [(Parser.readFrom_buf _ _).2, (Parser.readFrom_buf _ _).2] at hn
  have hn' : ((init cfgBig).readFrom ⟨pl, [(100000, 2)]⟩).2.2.1 =
     (({ init cfgBig with cap := 100007 } : PBuf).readFrom ⟨pl, [(100000, 2)]⟩).2.2.1 := hn
  rw [g1, g2] at hn'
  exact absurd hn' (by decide)

/-! ## C13 -/

/-- C13 (Reset ≙ new parser).  `s0` a newly created parser (any of the seven kinds, any accepted
    configuration), `s` any state reachable from it by any history.  If `Reset(data)` succeeds on
    `s` (i.e. `len(data) ≤ BufferSize`; it then also succeeds on `s0`), every subsequent history
    `ops` — Write, Parse (any flags), Parse(nil), Shrink, further Resets, ReadFrom with error-free
    readers — produces on the reset parser exactly the outputs (counts, errors, emitted blocks)
    it produces on the reset fresh parser, and the final states are equal up to `cap`. -/
theorem C13_reset_equiv (k : Kind) (raw : Cfg) (s0 : Parser) (h0 : newParser k raw = some s0)
    (s : Parser) (hr : Reachable s0 s) (data : List Byte) (ce ce' : Nat)
    (hok : (s.reset data ce).2 = .ok) {ops ops' : List POp} (ho : OpsSimilar ops ops') :
    ((s.reset data ce).1.runOut ops).2 = ((s0.reset data ce').1.runOut ops').2 ∧
    ObsEq ((s.reset data ce).1.runOut ops).1 ((s0.reset data ce').1.runOut ops').1 := by
  have hs := reachable_rinv k raw s0 h0 s hr
  have ht := (newParser_rinv k raw s0 h0).1
  have hobs := (reset_eq_fresh k raw s0 h0 s hr data ce ce').2 hok
  have m1 : (s.reset data ce).1.buf.MarginInv :=
    Parser.stepOut_marginInv s (.reset data ce) hs.buf
  have m2 : (s0.reset data ce').1.buf.MarginInv :=
    Parser.stepOut_marginInv s0 (.reset data ce') ht.buf
  exact obs_bisim_run hobs m1 m2 ho

/-- C13 with literally the same subsequent calls on both sides -/
theorem C13_reset_equiv_same (k : Kind) (raw : Cfg) (s0 : Parser) (h0 : newParser k raw = some s0)
    (s : Parser) (hr : Reachable s0 s) (data : List Byte) (ce : Nat)
    (hok : (s.reset data ce).2 = .ok) (ops : List POp) (hf : ∀ op ∈ ops, op.FillOK) :
    ((s.reset data ce).1.runOut ops).2 = ((s0.reset data ce).1.runOut ops).2 :=
  (C13_reset_equiv k raw s0 h0 s hr data ce ce hok (OpsSimilar.of_fillOK hf)).1

/-- C13 (Reset(nil) ≙ NewParser).  After `Reset(nil)` a used parser answers every subsequent
    history exactly like the parser `NewParser` returns for the same configuration. -/
theorem C13_reset_nil_equiv_new (k : Kind) (raw : Cfg) (s0 : Parser) (h0 : newParser k raw = some s0)
    (s : Parser) (hr : Reachable s0 s) (ce : Nat) {ops ops' : List POp} (ho : OpsSimilar ops ops') :
    ((s.reset [] ce).1.runOut ops).2 = (s0.runOut ops').2 ∧
    ObsEq ((s.reset [] ce).1.runOut ops).1 (s0.runOut ops').1 := by
  have hs := reachable_rinv k raw s0 h0 s hr
  have ht := (newParser_rinv k raw s0 h0).1
  have m1 : (s.reset [] ce).1.buf.MarginInv := Parser.stepOut_marginInv s (.reset [] ce) hs.buf
  exact obs_bisim_run (reset_nil_eq_new k raw s0 h0 s hr ce).2 m1 ht.buf ho

/-- blocks only: the list of blocks emitted by the `Parse` calls of a history -/
def blocksOf : List POut → List Block
  | [] => []
  | .parse _ .ok blk :: r => blk :: blocksOf r
  | _ :: r => blocksOf r

/-- the clause "the emitted blocks are identical" literally -/
theorem C13_reset_blocks (k : Kind) (raw : Cfg) (s0 : Parser) (h0 : newParser k raw = some s0)
    (s : Parser) (hr : Reachable s0 s) (data : List Byte) (ce ce' : Nat)
    (hok : (s.reset data ce).2 = .ok) {ops ops' : List POp} (ho : OpsSimilar ops ops') :
    blocksOf ((s.reset data ce).1.runOut ops).2 = blocksOf ((s0.reset data ce').1.runOut ops').2 := by
  rw [(C13_reset_equiv k raw s0 h0 s hr data ce ce' hok ho).1]

/-- a parser state is determined by kind and (defaults-completed) configuration -/
theorem newParser_determined (k : Kind) (raw raw' : Cfg) (a b : Parser)
    (ha : newParser k raw = some a) (hb : newParser k raw' = some b) (hc : a.cfg = b.cfg) : a = b := by
  rw [(newParser_eq_some ha).2, (newParser_eq_some hb).2] at hc ⊢
  rw [show setDefaults k (raw.restrict k) = setDefaults k (raw'.restrict k) from hc]

/-- C13 (determinism).  Two parsers created with equal (defaults-completed) configuration and
    driven by indistinguishable call sequences produce identical outputs, blocks included.
    (The model is a function of the parser's own state and the call arguments only; that the Go
    code has no other inputs — no package-level mutable state, no `init`, no imports of
    `sync`/`time`/`math/rand`/… — is the source-level fact `package_vars_are_errors`,
    `no_init_functions`, `no_stateful_imports` in LzProofs/FactsProps.lean, which is what
    discharges the "other instances used concurrently / any goroutine schedule" clause:
    distinct instances share nothing, so a schedule cannot influence any of them.) -/
theorem C13_deterministic (k : Kind) (raw raw' : Cfg) (a b : Parser)
    (ha : newParser k raw = some a) (hb : newParser k raw' = some b) (hc : a.cfg = b.cfg)
    {ops ops' : List POp} (ho : OpsSimilar ops ops') :
    (a.runOut ops).2 = (b.runOut ops').2 ∧ ObsEq (a.runOut ops).1 (b.runOut ops').1 := by
  have e := newParser_determined k raw raw' a b ha hb hc
  subst e
  have ht := (newParser_rinv k raw a ha).1
  exact obs_bisim_run (ObsEq.refl a) ht.buf ht.buf ho

/-- identical call sequences (no restriction on the readers): identical everything -/
theorem C13_deterministic_same (k : Kind) (raw raw' : Cfg) (a b : Parser)
    (ha : newParser k raw = some a) (hb : newParser k raw' = some b) (hc : a.cfg = b.cfg)
    (ops : List POp) : a.runOut ops = b.runOut ops := by
  rw [newParser_determined k raw raw' a b ha hb hc]

/-! ## Counter-witness: what happened before the fix -/

/-- `Parse` of the double-hash parsers with the fuel-based loop (kernel-evaluable) -/
def Parser.parse2F (s : Parser) (d : Hash2) (flags : Nat) : Parser × Nat × Err × Block :=
  let w := s.buf.w
  let p := s.buf.data.take (w + s.blockN)
  let hh := processSegment2 d.h1 d.h2 s.buf.data ((w : Int) - d.h2.inputLen + 1) w
  let e1 := p.length + 1 - hh.1.inputLen
  let e2 := p.length + 1 - hh.2.inputLen
  let r := runGreedyF ⟨dhpProbe s.buf.cfg.windowSize s.minMatch e1 e2 (s.kind == .BDHP)⟩
    ⟨hh.1, hh.2⟩ p w e1 flags
  ({ s with buf := { s.buf with w := r.2.1 }, dict := .double r.1 }, r.2.1 - w, .ok, r.2.2.1)

theorem Parser.parse_double_F (s : Parser) (flags : Nat) (d : Hash2) (hd : s.dict = .double d)
    (hn : s.blockN ≠ 0) (hm : s.MarginOK) : s.parse flags = s.parse2F d flags := by
  rw [Parser.parse_double s flags d hd hn hm]
  simp only [Parser.runGreedy_eq_F]
  rfl

/-- `Reset` as the Go code behaved before the fix: for the double-hash parsers only the buffer is
    reset, the two hash tables keep their entries; all other parsers as in the model -/
def Parser.resetNoClear (s : Parser) (data : List Byte) (capExtra : Nat) : Parser × Err :=
  let (b, e) := s.buf.reset data capExtra
  if e = .ok then
    ({ s with buf := b, dict := match s.dict with | .double d => .double d | _ => s.clearDict }, e)
  else (s, e)

def cwCfg : Cfg :=
  { windowSize := 64, bufferSize := 64, blockSize := 32, shrinkSize := 16,
    inputLen1 := 4, hashBits1 := 6, inputLen2 := 6, hashBits2 := 6 }

def cwX : List Byte := [48, 49, 50, 51, 52, 97, 98, 99, 100, 53, 54, 55, 56, 57]
def cwY : List Byte := [48, 49, 50, 51, 52, 97, 98, 99, 88, 53, 97, 98, 99, 100, 54, 55, 56, 57]

def cwC : Cfg := setDefaults .DHP (cwCfg.restrict .DHP)
def cwD0 : Hash2 := { h1 := HashT.new 4 6, h2 := HashT.new 6 6 }
def cwNew : Parser := { kind := .DHP, cfg := cwC, buf := PBuf.init cwC.bufCfg, dict := .double cwD0 }

theorem cwNew_new : newParser .DHP cwCfg = some cwNew := by rfl

/-- the new parser after `Write(cwX)` -/
def cwS1 : Parser := (cwNew.write cwX).1
/-- ... after `Parse(&blk, 0)`: a used parser, reachable from `cwNew` -/
def cwUsed : Parser := (cwS1.parse 0).1

theorem cwS1_parse : cwS1.parse 0 = cwS1.parse2F cwD0 0 :=
  Parser.parse_double_F cwS1 0 cwD0 rfl (by decide)
    (Parser.marginOK_of_cap _ (Or.inr (by decide)) (by decide))

theorem cwUsed_reachable : Reachable cwNew cwUsed := ⟨[.write cwX, .parse 0], rfl⟩

/-- the stale tables of the used parser -/
def cwD3 : Hash2 := (cwS1.parse2F cwD0 0).1.dict.casesOn (fun _ => default) id (fun _ => default)
  (fun _ => default) (fun _ => default)

theorem cwStale_dict : (cwUsed.resetNoClear cwY 0).1.dict = .double cwD3 := by
  unfold cwUsed
  rw [cwS1_parse]
  rfl

/-- the block the stale parser emits for `cwY`: one spurious match found through a table entry
    left over from `cwX` -/
theorem cwStale_block : ((cwUsed.resetNoClear cwY 0).1.parse 0).2 =
    (18, .ok, ⟨[⟨10, 3, 5, 0⟩], [48, 49, 50, 51, 52, 97, 98, 99, 88, 53, 100, 54, 55, 56, 57]⟩) := by
  rw [Parser.parse_double_F _ 0 cwD3 cwStale_dict (by decide)
    (Parser.marginOK_of_cap _ (Or.inr (by decide)) (by decide))]
  unfold cwUsed
  rw [cwS1_parse]
  decide +kernel

/-- the block a new parser emits for `cwY` after `Reset(cwY)`: literals only -/
theorem cwFresh_block : ((cwNew.reset cwY 0).1.parse 0).2 = (18, .ok, ⟨[], cwY⟩) := by
  rw [Parser.parse_double_F _ 0 cwD0 rfl (by decide)
    (Parser.marginOK_of_cap _ (Or.inr (by decide)) (by decide))]
  decide +kernel

/-- the historical defect, kernel-checked: a double-hash parser whose `Reset` keeps the
    tables (the Go code before the fix: `doubleHashDictionary` had no `Reset`, so the promoted
    `ParserBuffer.Reset` ran) emits, after having parsed `cwX`, another block for `cwY` than a
    new parser does. -/
theorem resetNoClear_differs :
    ((cwUsed.resetNoClear cwY 0).1.parse 0).2.2.2 ≠ ((cwNew.reset cwY 0).1.parse 0).2.2.2 := by
  rw [cwStale_block, cwFresh_block]
  decide

/-- both blocks are correct encodings of `cwY` — which is why round-trip tests cannot see it -/
example : expand [] ((cwUsed.resetNoClear cwY 0).1.parse 0).2.2.2 = some cwY ∧
    expand [] ((cwNew.reset cwY 0).1.parse 0).2.2.2 = some cwY := by
  rw [cwStale_block, cwFresh_block]
  decide

/-- with the model's `Reset` (the fixed code) the used parser emits the new parser's block; this is
    an instance of `C13_reset_equiv`, not a computation -/
theorem cwReset_block : ((cwUsed.reset cwY 0).1.parse 0).2 = (18, .ok, ⟨[], cwY⟩) := by
  have h := (C13_reset_equiv .DHP cwCfg cwNew cwNew_new cwUsed cwUsed_reachable cwY 0 0 (by decide +kernel)
    (ops := [.parse 0]) (ops' := [.parse 0]) (OpsSimilar.of_fillOK (by intro op h; simp at h; subst h; trivial))).1
  simp only [Parser.runOut, Parser.stepOut, List.cons.injEq, POut.parse.injEq, and_true] at h
  rw [← cwFresh_block]
  exact Prod.ext h.1 (Prod.ext h.2.1 h.2.2)


/-! ## Non-vacuity -/

/-- the hypotheses of `C13_reset_equiv` hold for the concrete used DHP parser above:
    it is reachable, `Reset(cwY)` succeeds … -/
example : newParser .DHP cwCfg = some cwNew ∧ Reachable cwNew cwUsed ∧ (cwUsed.reset cwY 0).2 = .ok :=
  ⟨cwNew_new, cwUsed_reachable, by decide +kernel⟩

/-- … its tables really are dirty (so the statement is not about a fresh parser in disguise) … -/
example : cwD3.h1.tbl ≠ cwD0.h1.tbl := by decide +kernel

/-- … and the reset used parser and the reset new parser do differ in `cap`, i.e. `ObsEq` cannot
    be replaced by equality -/
example : (cwUsed.reset cwY 0).1.buf.cap = 71 ∧ (cwNew.reset cwY 0).1.buf.cap = 25 := by decide +kernel

/-- the invariant of reachable states, instantiated -/
example : RInv .DHP cwC cwUsed := reachable_rinv .DHP cwCfg cwNew cwNew_new cwUsed cwUsed_reachable

example : (cwUsed.reset cwY 0).1.buf.MarginInv :=
  Parser.stepOut_marginInv cwUsed (.reset cwY 0)
    (reachable_rinv .DHP cwCfg cwNew cwNew_new cwUsed cwUsed_reachable).buf

/-- an error-free reader -/
example : FillR ⟨[1, 2, 3, 4, 5], [(2, 0), (2, 0), (9, 0), (1, 0), (1, 0)]⟩ := by unfold FillR; decide

/-- two indistinguishable histories that differ in the spare capacity given to `Reset` and in
    the chunking of the reader -/
example : OpsSimilar
    [.reset [1, 2] 0, .readFrom ⟨[1, 2, 3], [(1, 0), (1, 0), (1, 0)]⟩, .parse 1, .shrink, .parseNil, .write [7]]
    [.reset [1, 2] 50, .readFrom ⟨[1, 2, 3], [(3, 0), (3, 0), (3, 0)]⟩, .parse 1, .shrink, .parseNil, .write [7]] :=
  .cons (.reset _ _ _) (.cons (.readFrom _ _ rfl (by unfold FillR; decide) (by unfold FillR; decide))
    (.cons (.parse _) (.cons .shrink (.cons .parseNil (.cons (.write _) .nil)))))

/-- `C13_reset_nil_equiv_new` on the concrete parser: after `Reset(nil)`, `Write(cwY)`, `Parse`
    gives the block of a new parser -/
example (ce : Nat) :
    ((cwUsed.reset [] ce).1.runOut [.write cwY, .parse 0]).2 = (cwNew.runOut [.write cwY, .parse 0]).2 :=
  (C13_reset_nil_equiv_new .DHP cwCfg cwNew cwNew_new cwUsed cwUsed_reachable ce
    (OpsSimilar.of_fillOK (by intro op h; simp at h; rcases h with rfl | rfl <;> trivial))).1

end LZ

#print axioms LZ.reachable_rinv
#print axioms LZ.reachable_clearDict
#print axioms LZ.reset_obsEq_of_rinv
#print axioms LZ.reset_eq_fresh
#print axioms LZ.reset_eq_fresh'
#print axioms LZ.reset_nil_eq_new
#print axioms LZ.obs_bisim
#print axioms LZ.obs_bisim_bufOK
#print axioms LZ.obs_bisim_parse
#print axioms LZ.obs_bisim_run
#print axioms LZ.readFrom_any_conserves
#print axioms LZ.readFrom_faulty_distinguishes
#print axioms LZ.C13_reset_equiv
#print axioms LZ.C13_reset_equiv_same
#print axioms LZ.C13_reset_nil_equiv_new
#print axioms LZ.C13_reset_blocks
#print axioms LZ.newParser_determined
#print axioms LZ.C13_deterministic
#print axioms LZ.RInv.of_step
#print axioms LZ.Reachable.induct
#print axioms LZ.C13_deterministic_same
#print axioms LZ.cwStale_block
#print axioms LZ.cwFresh_block
#print axioms LZ.resetNoClear_differs
#print axioms LZ.cwReset_block
