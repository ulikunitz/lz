/-
  LzProofs.GenWrapProps — the TRANSLATED `(*WrappedParser).Parse` and `Reset` of wrap.go
  (LzModel/Generated/CodeWrap.lean), instantiated with the model's `Parser.parse`,
  `Parser.shrink`, `Parser.readFrom`, `Parser.reset` as the opaque callees, compute what the
  hand-written model `Wrapped.parse` / `Wrapped.reset` (LzModel/Parser.lean) computes.

  Abstraction: the abstract state of the `Parser` interface value is `LZ.Parser`, the abstract
  state of the `io.Reader` is the scripted `LZ.Reader`; errors are mapped by `genErr` (injective,
  `genErr_injective`), blocks by an arbitrary function `rb : LZ.Block → Gen.Block'` (the wrapper
  only passes the block through; `repBlock` is a concrete choice).  Where a model method returns
  the marker `.panic`, the instantiated callee is `Res.panic` (a Go panic propagates).

  * `readFrom_consumes` (unconditional): `Parser.readFrom` with a nonzero count consumes a reader
    response, so the defensive branch of `Wrapped.parse` is unreachable.
  * `loop_spec` : the loop of `Parse`, for every `J` with `ReadSafe flags J` (no `ReadFrom` of the
    refill loop panics AFTER having read something — the one place where the model, which goes on
    looping, and the Go code, which panics, would differ) and every `ReadFrom` callee that agrees
    with `mReadFrom` where the refill step calls it.
  * `gen_wrapped_parse_of` : from it, for `J wp`, every `blk0` and every `fuel > wp.r.resps.length`:
      WrappedParser_Parse fuel … ⟨wp.r, wp.s⟩ blk0 flags = (model result, `.panic` ↦ `Res.panic`).
  * `gen_wrapped_parse` : the same from `ParseSpec I` and `WInv I wp fed` (LzProofs/WrapProps.lean;
    `refill_WInv`), `gen_wrapped_parse_all` : for all seven parser kinds (`I_all`,
    LzProofs/WrapAll.lean), where moreover the result is `Res.ok`.
  * `gen_wrapped_parseT` : the variant with a `ReadFrom` callee that never panics (`mReadFromT`),
    under the same invariant.
  * `gen_wrapped_reset` (unconditional), `gen_wrapped_reset_ok`.
-/
import LzProofs.WrapAll
import LzProofs.GenBufPropsBase
import LzProofs.ParseBuf
import LzModel.Generated.CodeWrap

set_option linter.unusedSimpArgs false
set_option linter.unusedVariables false

namespace LZ.GenWrap
open LZ.GenBuf (bind_ok bind_panic bind_fuel)

/-! ## the abstraction -/

/-- model error ↦ Go error value of the translation; the package's and `io`'s error variables
    go to their constants, the others to fresh codes -/
def genErr : LZ.Err → Gen.Err
  | .ok => Gen.Err.ok
  | .empty => Gen.ErrEmptyBuffer
  | .full => Gen.ErrFullBuffer
  | .eof => Gen.io_EOF
  | .outOfBuffer => Gen.ErrOutOfBuffer
  | .endOfBuffer => Gen.ErrEndOfBuffer
  | .litLen => Gen.errLitLen
  | .matchLen => Gen.errMatchLen
  | .offset => Gen.errOffset
  | .oversize => Gen.Err.error 2901
  | .shortWrite => Gen.io_ErrShortWrite
  | .cfg => Gen.Err.error 2902
  | .panic => Gen.Err.error 2903
  | .reader c => Gen.Err.error (3000 + 2 * c)
  | .writer c => Gen.Err.error (3001 + 2 * c)

/-- reading a Go error value back (the reader's and writer's codes first: they are the values from 3000 on) -/
def absErr : Gen.Err → LZ.Err
  | .ok => .ok
  | .error k =>
    if 3000 ≤ k then (if k % 2 = 0 then .reader ((k - 3000) / 2) else .writer ((k - 3001) / 2))
    else if .error k = Gen.ErrEmptyBuffer then .empty
    else if .error k = Gen.ErrFullBuffer then .full
    else if .error k = Gen.io_EOF then .eof
    else if .error k = Gen.ErrOutOfBuffer then .outOfBuffer
    else if .error k = Gen.ErrEndOfBuffer then .endOfBuffer
    else if .error k = Gen.errLitLen then .litLen
    else if .error k = Gen.errMatchLen then .matchLen
    else if .error k = Gen.errOffset then .offset
    else if k = 2901 then .oversize
    else if .error k = Gen.io_ErrShortWrite then .shortWrite
    else if k = 2902 then .cfg
    else .panic

theorem absErr_genErr (e : LZ.Err) : absErr (genErr e) = e := by
  cases e
  case reader c =>
    simp only [absErr, genErr]
    rw [if_pos (by omega), if_pos (by omega)]
    congr 1; omega
  case writer c =>
    simp only [absErr, genErr]
    rw [if_pos (by omega), if_neg (by omega)]
    congr 1; omega
  all_goals rfl

theorem genErr_injective (a b : LZ.Err) (h : genErr a = genErr b) : a = b := by
  rw [← absErr_genErr a, h, absErr_genErr]

theorem genErr_eq_iff (e c : LZ.Err) : genErr e = genErr c ↔ e = c :=
  ⟨genErr_injective e c, congrArg genErr⟩

theorem genErr_ok (e : LZ.Err) : genErr e = Gen.Err.ok ↔ e = .ok := genErr_eq_iff e .ok

theorem genErr_empty (e : LZ.Err) : genErr e = Gen.ErrEmptyBuffer ↔ e = .empty := genErr_eq_iff e .empty

theorem genErr_full (e : LZ.Err) : genErr e = Gen.ErrFullBuffer ↔ e = .full := genErr_eq_iff e .full

theorem genErr_eof (e : LZ.Err) : genErr e = Gen.io_EOF ↔ e = .eof := genErr_eq_iff e .eof

/-! the same with the operands the other way round (`ErrEmptyBuffer == err`) -/

theorem genErr_ok' (e : LZ.Err) : Gen.Err.ok = genErr e ↔ e = .ok := eq_comm.trans (genErr_ok e)

theorem genErr_empty' (e : LZ.Err) : Gen.ErrEmptyBuffer = genErr e ↔ e = .empty :=
  eq_comm.trans (genErr_empty e)

theorem genErr_full' (e : LZ.Err) : Gen.ErrFullBuffer = genErr e ↔ e = .full :=
  eq_comm.trans (genErr_full e)

theorem genErr_eof' (e : LZ.Err) : Gen.io_EOF = genErr e ↔ e = .eof := eq_comm.trans (genErr_eof e)

theorem zero_eq_natCast (k : Nat) : (0 : Int) = k ↔ k = 0 := by omega

/-- `wrap_ifs [facts]` resolves the `if`s of the translated code and of the model, and the
    `Res.bind`s that become visible: every test of the translated code is turned into the test on
    the MODEL's values it stands for — whichever way the source spells it (`err == E`, `err != E`,
    `E == err`, `k == 0`, `0 != k`, `!(…)`, `&&`, `||`) — and the case facts given as arguments
    decide it.  Nothing is said about the text of a test, the order of the arms or the nesting. -/
macro "wrap_ifs" "[" facts:Lean.Parser.Tactic.simpLemma,* "]" : tactic =>
  `(tactic| simp only [genErr_ok, genErr_ok', genErr_empty, genErr_empty', genErr_full, genErr_full',
      genErr_eof, genErr_eof', Int.natCast_eq_zero, zero_eq_natCast, ne_eq, Classical.not_not,
      not_true_eq_false, not_false_eq_true, eq_self, reduceCtorEq, and_true, true_and, and_false,
      false_and, or_true, true_or, or_false, false_or, if_true, if_false, bind_ok, bind_panic,
      $facts,*])

/-- a concrete representation of a model block (the theorems hold for every `rb`) -/
def repSeq (s : LZ.Seq) : Gen.Seq :=
  { LitLen := UInt32.ofNat s.litLen, MatchLen := UInt32.ofNat s.matchLen,
    Offset := UInt32.ofNat s.offset, Aux := UInt32.ofNat s.aux }

def repBlock (b : LZ.Block) : Gen.Block' :=
  { Sequences := b.seqs.map repSeq, Literals := { arr := b.lits, len := b.lits.length } }

/-- reading back (`absSeq` is `GenProps.ofSeq` of LzProofs/GenPropsLen.lean; `Gen.Block'` has its literals in a slice) -/
def absSeq (s : Gen.Seq) : LZ.Seq :=
  { litLen := s.LitLen.toNat, matchLen := s.MatchLen.toNat, offset := s.Offset.toNat,
    aux := s.Aux.toNat }

def absBlock (b : Gen.Block') : LZ.Block :=
  { seqs := b.Sequences.map absSeq, lits := b.Literals.data }

/-- `repBlock` loses nothing on blocks whose sequence fields are `uint32` values -/
theorem absBlock_repBlock (b : LZ.Block)
    (h : ∀ s ∈ b.seqs, s.litLen < 2 ^ 32 ∧ s.matchLen < 2 ^ 32 ∧ s.offset < 2 ^ 32 ∧
      s.aux < 2 ^ 32) : absBlock (repBlock b) = b := by
  obtain ⟨seqs, lits⟩ := b
  simp only [absBlock, repBlock, Gen.Slice.data, List.take_length, List.map_map, LZ.Block.mk.injEq,
    and_true]
  have : ∀ s ∈ seqs, (absSeq ∘ repSeq) s = s := by
    intro s hs
    obtain ⟨h1, h2, h3, h4⟩ := h s hs
    obtain ⟨a, b, c, d⟩ := s
    simp only [Function.comp, absSeq, repSeq, UInt32.toNat_ofNat', LZ.Seq.mk.injEq] at h1 h2 h3 h4 ⊢
    refine ⟨?_, ?_, ?_, ?_⟩ <;> exact Nat.mod_eq_of_lt (by assumption)
  rw [List.map_congr_left this]; simp

def rep (wp : Wrapped) : Gen.WrappedParser Reader Parser := { r := wp.r, s := wp.s }

/-! ## the instantiated callees -/

/-- `Parser.Parse(blk, flags)`: the incoming block is overwritten -/
def mParse (rb : LZ.Block → Gen.Block') (s : Parser) (_blk : Gen.Block') (flags : Int) :
    Gen.Res (Parser × Gen.Block' × Int × Gen.Err) :=
  let r := s.parse flags.toNat
  if r.2.2.1 = .panic then Gen.Res.panic
  else Gen.Res.ok (r.1, rb r.2.2.2, (r.2.1 : Int), genErr r.2.2.1)

theorem mParse_nat (rb : LZ.Block → Gen.Block') (s : Parser) (blk : Gen.Block') (flags : Nat) :
    mParse rb s blk (flags : Int) =
      if (s.parse flags).2.2.1 = .panic then Gen.Res.panic
      else Gen.Res.ok ((s.parse flags).1, rb (s.parse flags).2.2.2, ((s.parse flags).2.1 : Int),
        genErr (s.parse flags).2.2.1) := rfl

/-- `Parser.Shrink()` -/
def mShrink (s : Parser) : Gen.Res (Parser × Int) := Gen.Res.ok (s.shrink.1, (s.shrink.2 : Int))

/-- `Parser.ReadFrom(r)` -/
def mReadFrom (s : Parser) (r : Reader) : Gen.Res (Parser × Reader × Int × Gen.Err) :=
  let x := s.readFrom r
  if x.2.2.2 = .panic then Gen.Res.panic
  else Gen.Res.ok (x.1, x.2.1, (x.2.2.1 : Int), genErr x.2.2.2)

/-- `Parser.Reset(data)`: `cap(data) = len(data) + capExtra` -/
def mReset (s : Parser) (data : Gen.Slice) : Gen.Res (Parser × Gen.Slice × Gen.Err) :=
  let x := s.reset data.data (data.arr.length - data.len)
  if x.2 = .panic then Gen.Res.panic else Gen.Res.ok (x.1, data, genErr x.2)

/-- what the Go call returns for a result of the model: the marker `.panic` is a Go panic -/
def out (rb : LZ.Block → Gen.Block') (x : Wrapped × Nat × LZ.Err × LZ.Block) :
    Gen.Res (Gen.WrappedParser Reader Parser × Gen.Block' × Int × Gen.Err) :=
  if x.2.2.1 = .panic then Gen.Res.panic
  else Gen.Res.ok (rep x.1, rb x.2.2.2, (x.2.1 : Int), genErr x.2.2.1)

/-! ## a `ReadFrom` that returns a nonzero count has consumed a reader response -/

/-- **unconditional**: `k ≠ 0` ⇒ at least one response of the script was consumed (the defensive
    branch of `Wrapped.parse` is unreachable) -/
theorem readFrom_consumes (s : Parser) (r : Reader) (hk : (s.readFrom r).2.2.1 ≠ 0) :
    (s.readFrom r).2.1.resps.length < r.resps.length :=
  PBuf.readFrom_consumes s.buf r hk

/-! ## `Parse` -/

/-- the statements of `WrappedParser_Parse` after its loop -/
def fin {R P : Type}
    (x : Gen.Res (Nat × Gen.WrappedParser R P × Gen.Block' × Int × Gen.Err × Int × Gen.Err)) :
    Gen.Res (Gen.WrappedParser R P × Gen.Block' × Int × Gen.Err) :=
  Gen.Res.bind x fun r_1 => Gen.Res.ok (r_1.2.1, r_1.2.2.1, r_1.2.2.2.2.2.1, r_1.2.2.2.2.2.2)

theorem gen_parse_eq_fin {R P : Type} (fuel : Nat)
    (pp : P → Gen.Block' → Int → Gen.Res (P × Gen.Block' × Int × Gen.Err))
    (ps : P → Gen.Res (P × Int)) (pr : P → R → Gen.Res (P × R × Int × Gen.Err))
    (s : Gen.WrappedParser R P) (blk : Gen.Block') (flags : Int) :
    Gen.WrappedParser_Parse fuel pp ps pr s blk flags =
      fin (Gen.WrappedParser_Parse_loop_1 pp ps pr flags fuel s blk 0 Gen.Err.ok 0 Gen.Err.ok) := rfl

/-- The only place where the model and the Go code could differ: a `ReadFrom` of the refill loop
    that panics after having read something (`k ≠ 0`) — the Go panic propagates, the model would
    go on looping.  `ReadSafe flags J`: on the states satisfying `J` this does not happen, and
    the state after the refill satisfies `J` again. -/
def ReadSafe (flags : Nat) (J : Wrapped → Prop) : Prop :=
  ∀ w, J w → (w.s.parse flags).2.2.1 = .empty →
    ((w.s.parse flags).1.shrink.1.readFrom w.r).2.2.1 ≠ 0 →
    ((w.s.parse flags).1.shrink.1.readFrom w.r).2.2.2 ≠ .panic ∧
    J ⟨((w.s.parse flags).1.shrink.1.readFrom w.r).2.1,
       ((w.s.parse flags).1.shrink.1.readFrom w.r).1⟩

/-- the loop of `Parse` with ANY `ReadFrom` callee `pr` that agrees with `mReadFrom` where the
    refill step calls it from a state in `J` -/
theorem loop_spec (rb : LZ.Block → Gen.Block') (flags : Nat) (J : Wrapped → Prop)
    (hJ : ReadSafe flags J) (pr : Parser → Reader → Gen.Res (Parser × Reader × Int × Gen.Err))
    (hpr : ∀ w, J w → (w.s.parse flags).2.2.1 = .empty →
      pr (w.s.parse flags).1.shrink.1 w.r = mReadFrom (w.s.parse flags).1.shrink.1 w.r) :
    ∀ (fuel : Nat) (wp : Wrapped), J wp → wp.r.resps.length < fuel →
    ∀ (blk0 : Gen.Block') (n0 : Int) (e0 : Gen.Err) (r1 : Int) (r2 : Gen.Err),
      fin (Gen.WrappedParser_Parse_loop_1 (mParse rb) mShrink pr (flags : Int) fuel
        (rep wp) blk0 n0 e0 r1 r2) = out rb (wp.parse flags) := by
  intro fuel
  induction fuel with
  | zero => intro wp _ hf; omega
  | succ f ih =>
    intro wp hwp hf blk0 n0 e0 r1 r2
    rw [Wrapped.parse_eq]
    -- one round of the translated loop; the cases are those of the MODEL
    simp only [Gen.WrappedParser_Parse_loop_1, rep, mParse_nat, mShrink]
    by_cases hep : (wp.s.parse flags).2.2.1 = .panic
    · wrap_ifs [hep, fin, out]
    by_cases hee : (wp.s.parse flags).2.2.1 = .empty
    · have hstep := hJ wp hwp hee
      have hcons := readFrom_consumes (wp.s.parse flags).1.shrink.1 wp.r
      wrap_ifs [hee]
      rw [hpr wp hwp hee, mReadFrom]
      generalize (wp.s.parse flags).1.shrink.1.readFrom wp.r = rf at hstep hcons ⊢
      by_cases hk : rf.2.2.1 = 0
      · by_cases he2 : rf.2.2.2 = .panic
        · wrap_ifs [hk, he2, fin, out]
        · by_cases hfu : rf.2.2.2 = .full
          · wrap_ifs [hk, hfu, fin, out]
          · wrap_ifs [hk, he2, hfu, fin, out, rep, Int.natCast_zero]
      · obtain ⟨he2, hJ'⟩ := hstep hk
        have hlt := hcons hk
        wrap_ifs [hk, he2, hlt]
        exact ih ⟨rf.2.1, rf.1⟩ hJ' (by simp only []; omega) _ _ _ _ _
    · wrap_ifs [hep, hee, fin, out, rep]

/-- **`WrappedParser.Parse`, general form.**  For every `J` closed under the refill step on which
    no `ReadFrom` panics after having read something, every state `wp` with `J wp`, every incoming
    block and every fuel above the number of reader responses left, the translated `Parse`
    returns what the model returns (the marker `.panic` standing for a Go panic). -/
theorem gen_wrapped_parse_of (rb : LZ.Block → Gen.Block') (flags : Nat) (J : Wrapped → Prop)
    (hJ : ReadSafe flags J) (wp : Wrapped) (hwp : J wp) (blk0 : Gen.Block') (fuel : Nat)
    (hf : wp.r.resps.length < fuel) :
    Gen.WrappedParser_Parse fuel (mParse rb) mShrink mReadFrom
        ({ r := wp.r, s := wp.s } : Gen.WrappedParser Reader Parser) blk0 (flags : Int) =
      match wp.parse flags with
      | (wp', n, e, b) =>
        if e = .panic then Gen.Res.panic
        else Gen.Res.ok ({ r := wp'.r, s := wp'.s }, rb b, (n : Int), genErr e) := by
  rw [gen_parse_eq_fin]
  exact loop_spec rb flags J hJ _ (fun _ _ _ => rfl) fuel wp hwp hf blk0 0 Gen.Err.ok 0 Gen.Err.ok

/-- under the buffer invariant of the Wrap theorems (LzProofs/WrapProps.lean) the `ReadFrom` of
    the refill step does not panic and re-establishes the invariant -/
theorem refill_WInv {I : Parser → Prop} (hP : ParseSpec I) (flags : Nat) (w : Wrapped)
    (fed : List Byte) (hinv : WInv I w fed) (hemp : (w.s.parse flags).2.2.1 = .empty) :
    ((w.s.parse flags).1.shrink.1.readFrom w.r).2.2.2 ≠ .panic ∧
    ∃ fed', WInv I ⟨((w.s.parse flags).1.shrink.1.readFrom w.r).2.1,
      ((w.s.parse flags).1.shrink.1.readFrom w.r).1⟩ fed' := by
  rcases Parser.parse_cases hP w.s flags hinv.inv (bufOK_of_pinv hinv.view) with ⟨hw, hpe⟩ | ⟨-, hok, -⟩
  · rw [hpe]
    have rf := Wrapped.parse_refill hP w flags fed hinv hw
    exact ⟨rf.ne_panic, _, rf.winv⟩
  · rw [hok] at hemp; cases hemp

theorem readSafe_WInv {I : Parser → Prop} (hP : ParseSpec I) (flags : Nat) :
    ReadSafe flags (fun w => ∃ fed, WInv I w fed) :=
  fun w ⟨fed, hinv⟩ hemp _ => refill_WInv hP flags w fed hinv hemp

/-- **`WrappedParser.Parse`** under `ParseSpec I` and the invariant `WInv I wp fed`
    (`ShrinkSize < BufferSize`, the buffer views the bytes `fed` read so far, parser invariant
    `I`): the hypothesis is what makes `ReadFrom` panic-free. -/
theorem gen_wrapped_parse {I : Parser → Prop} (hP : ParseSpec I) (rb : LZ.Block → Gen.Block')
    (wp : Wrapped) (fed : List Byte) (h : WInv I wp fed) (flags : Nat) (blk0 : Gen.Block')
    (fuel : Nat) (hf : wp.r.resps.length < fuel) :
    Gen.WrappedParser_Parse fuel (mParse rb) mShrink mReadFrom
        ({ r := wp.r, s := wp.s } : Gen.WrappedParser Reader Parser) blk0 (flags : Int) =
      match wp.parse flags with
      | (wp', n, e, b) =>
        if e = .panic then Gen.Res.panic
        else Gen.Res.ok ({ r := wp'.r, s := wp'.s }, rb b, (n : Int), genErr e) :=
  gen_wrapped_parse_of rb flags _ (readSafe_WInv hP flags) wp ⟨fed, h⟩ blk0 fuel hf

/-- … and then the translated `Parse` does not panic at all (`C08_wrap_no_panic`) -/
theorem gen_wrapped_parse_ok {I : Parser → Prop} (hP : ParseSpec I) (rb : LZ.Block → Gen.Block')
    (wp : Wrapped) (fed : List Byte) (h : WInv I wp fed) (flags : Nat) (blk0 : Gen.Block')
    (fuel : Nat) (hf : wp.r.resps.length < fuel) :
    Gen.WrappedParser_Parse fuel (mParse rb) mShrink mReadFrom
        ({ r := wp.r, s := wp.s } : Gen.WrappedParser Reader Parser) blk0 (flags : Int) =
      Gen.Res.ok ({ r := (wp.parse flags).1.r, s := (wp.parse flags).1.s },
        rb (wp.parse flags).2.2.2, ((wp.parse flags).2.1 : Int), genErr (wp.parse flags).2.2.1) := by
  rw [gen_wrapped_parse hP rb wp fed h flags blk0 fuel hf]
  have hnp := (C08_wrap_no_panic hP wp flags fed h).1
  generalize wp.parse flags = res at hnp
  obtain ⟨wp', n, e, b⟩ := res
  simp only [] at hnp ⊢
  rw [if_neg hnp]

/-- all seven parser kinds (`I_all`, `parseSpec_all` of LzProofs/WrapAll.lean) -/
theorem gen_wrapped_parse_all (rb : LZ.Block → Gen.Block')
    (wp : Wrapped) (fed : List Byte) (h : WInv I_all wp fed) (flags : Nat) (blk0 : Gen.Block')
    (fuel : Nat) (hf : wp.r.resps.length < fuel) :
    Gen.WrappedParser_Parse fuel (mParse rb) mShrink mReadFrom
        ({ r := wp.r, s := wp.s } : Gen.WrappedParser Reader Parser) blk0 (flags : Int) =
      Gen.Res.ok ({ r := (wp.parse flags).1.r, s := (wp.parse flags).1.s },
        rb (wp.parse flags).2.2.2, ((wp.parse flags).2.1 : Int), genErr (wp.parse flags).2.2.1) :=
  gen_wrapped_parse_ok parseSpec_all rb wp fed h flags blk0 fuel hf

/-! ## the variant with a `ReadFrom` callee that never panics

`mReadFromT` hands the marker `.panic` on as an error value instead of panicking.  Under the
invariant `WInv` no `ReadFrom` of the refill loop returns `.panic` at all (`refill_WInv`), so the
two callees agree there. -/

/-- `Parser.ReadFrom(r)`, total -/
def mReadFromT (s : Parser) (r : Reader) : Gen.Res (Parser × Reader × Int × Gen.Err) :=
  let x := s.readFrom r
  Gen.Res.ok (x.1, x.2.1, (x.2.2.1 : Int), genErr x.2.2.2)

/-- **`WrappedParser.Parse`** with the total `ReadFrom` callee, under the invariant -/
theorem gen_wrapped_parseT {I : Parser → Prop} (hP : ParseSpec I) (rb : LZ.Block → Gen.Block')
    (wp : Wrapped) (fed : List Byte) (h : WInv I wp fed) (flags : Nat) (blk0 : Gen.Block')
    (fuel : Nat) (hf : wp.r.resps.length < fuel) :
    Gen.WrappedParser_Parse fuel (mParse rb) mShrink mReadFromT
        ({ r := wp.r, s := wp.s } : Gen.WrappedParser Reader Parser) blk0 (flags : Int) =
      match wp.parse flags with
      | (wp', n, e, b) =>
        if e = .panic then Gen.Res.panic
        else Gen.Res.ok ({ r := wp'.r, s := wp'.s }, rb b, (n : Int), genErr e) := by
  rw [gen_parse_eq_fin]
  refine loop_spec rb flags _ (readSafe_WInv hP flags) _ ?_ fuel wp ⟨fed, h⟩ hf blk0 0 Gen.Err.ok 0
    Gen.Err.ok
  intro w ⟨fed', hinv⟩ hemp
  exact (if_neg (refill_WInv hP flags w fed' hinv hemp).1).symm

/-! ## `Reset` -/

/-- **`WrappedParser.Reset`** (unconditional) -/
theorem gen_wrapped_reset (wp : Wrapped) (r : Reader) :
    Gen.WrappedParser_Reset mReset
        ({ r := wp.r, s := wp.s } : Gen.WrappedParser Reader Parser) r =
      match Wrapped.reset wp r with
      | (wp', e) =>
        if e = .panic then Gen.Res.panic else Gen.Res.ok { r := wp'.r, s := wp'.s } := by
  have hd : Gen.Slice.nil.data = [] := rfl
  have hc : Gen.Slice.nil.arr.length - Gen.Slice.nil.len = 0 := rfl
  simp only [Gen.WrappedParser_Reset, mReset, Wrapped.reset, hd, hc]
  by_cases hok : (wp.s.reset [] 0).2 = .ok
  · wrap_ifs [hok]
  · by_cases hp : (wp.s.reset [] 0).2 = .panic
    · wrap_ifs [hp]
    · wrap_ifs [hp, hok]

/-- the model's `Parser.reset [] 0` never fails, so `Reset` returns -/
theorem gen_wrapped_reset_ok (wp : Wrapped) (r : Reader) :
    Gen.WrappedParser_Reset mReset
        ({ r := wp.r, s := wp.s } : Gen.WrappedParser Reader Parser) r =
      Gen.Res.ok { r := r, s := (wp.s.reset [] 0).1 } := by
  rw [gen_wrapped_reset, Wrapped.reset_eq]
  rfl

end LZ.GenWrap

#print axioms LZ.GenWrap.genErr_injective
#print axioms LZ.GenWrap.readFrom_consumes
#print axioms LZ.GenWrap.loop_spec
#print axioms LZ.GenWrap.gen_wrapped_parse_of
#print axioms LZ.GenWrap.gen_wrapped_parse
#print axioms LZ.GenWrap.gen_wrapped_parse_ok
#print axioms LZ.GenWrap.gen_wrapped_parse_all
#print axioms LZ.GenWrap.gen_wrapped_parseT
#print axioms LZ.GenWrap.gen_wrapped_reset
#print axioms LZ.GenWrap.gen_wrapped_reset_ok
