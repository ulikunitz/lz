/-
  LzProofs.GenHistBuf — the buffer part of the history invariants of the translated parsers, once.

  Every history invariant (`HistOK` of HP and of BHP, `HistOKD`, `HistOKBD`, `HistOKU`, `HistOKG`, `HistOKO`) says of the embedded
  `ParserBuffer` that its configuration is the fixed `bc`, `W ≤ len(Data) ≤ BufferSize`, and the capacity invariant
  `CapOK`: `BufOK bc` of the abstracted buffer.  `BufOK` is kept by the model's `write`, `readFrom`, successful `reset`,
  `shrink` (on the buffer and on the parser) and by advancing `W` inside the data; `pbuf_write` is the translated
  `ParserBuffer.Write` on a Go buffer with `BufOK`: it returns, with the model's results, a well-formed buffer with
  `BufOK`, the same `W` and no less data (`pbuf_readFrom`, for a rendering of `ReadFrom`: LzProofs/GenHPHistRF.lean).

  Then: what it means that one translated method is simulated by the model's under a relation `Rel` between Go states and
  model states (`WriteRel`, `ParseRel`, `ShrinkRel`, `ResetRel`), and `BufHost bc Rel`: the Go state holds its
  `ParserBuffer` at a place `Rel` reads the model's buffer from.  `BufHost.write` is the promoted `Write` of any such state
  (`BufHost.readFrom`: LzProofs/GenHPHistRF.lean); `GenDrain.drain_go` and `C14_go` read the buffer through it.
-/
import LzProofs.GenHPParse
import LzProofs.GenBufPropsDCopy
import LzProofs.GenHistMachine

namespace LZ.GenHPHist
open LZ LZ.Gen LZ.GenBuf LZ.GenHash LZ.GenHPParse

theorem ofSeq_seqRep (q : LZ.Seq) (h1 : q.litLen < 2 ^ 32) (h2 : q.matchLen < 2 ^ 32) (h3 : q.offset < 2 ^ 32)
    (h4 : q.aux = 0) : ofSeq (seqRep q) = q := by
  obtain ⟨a, b, c, d⟩ := q
  simp only at h4; subst h4
  simp only [ofSeq, seqRep, toNat_ofInt32_small _ h1, toNat_ofInt32_small _ h2, toNat_ofInt32_small _ h3]
  rfl

end LZ.GenHPHist

namespace LZ.GenHist
open LZ LZ.Gen LZ.GenBuf

structure BufOK (bc : BufCfg) (b : PBuf) : Prop where
  cfg : b.cfg = bc
  w : b.w ≤ b.data.length
  len : b.data.length ≤ bc.bufferSize
  cap : b.CapOK

namespace BufOK
variable {bc : BufCfg} {b : PBuf}

theorem mlen (h : BufOK bc b) : b.data.length ≤ b.cfg.bufferSize := by rw [h.cfg]; exact h.len

/-- `Write` and `ReadFrom`: `W` stays, the data only grow -/
theorem appended {b' : PBuf} {q : List Byte} (h : BufOK bc b) (a : b.Appended b' q) :
    BufOK bc b' ∧ b'.w = b.w ∧ b.data.length ≤ b'.data.length := by
  have hl : b.data.length ≤ b'.data.length := by rw [a.data, List.length_append]; exact Nat.le_add_right _ _
  exact ⟨⟨a.cfg.trans h.cfg, a.w ▸ Nat.le_trans h.w hl, h.cfg ▸ a.len_le h.mlen, a.cap h.cap⟩, a.w, hl⟩

theorem write (h : BufOK bc b) (p : List Byte) :
    BufOK bc (b.write p).1 ∧ ((b.write p).2.2 = .ok ∨ (b.write p).2.2 = .full) ∧ (b.write p).1.w = b.w ∧
      b.data.length ≤ (b.write p).1.data.length := by
  obtain ⟨k1, k2, k3⟩ := h.appended (PBuf.write_appended b p)
  exact ⟨k1, PBuf.write_err b p h.mlen, k2, k3⟩

theorem readFrom (h : BufOK bc b) (r : Reader) :
    BufOK bc (b.readFrom r).1 ∧ (b.readFrom r).2.2.2 ≠ .panic ∧ (b.readFrom r).1.w = b.w ∧
      b.data.length ≤ (b.readFrom r).1.data.length := by
  obtain ⟨k1, k2, k3⟩ := h.appended (PBuf.readFrom_appended b r)
  exact ⟨k1, (PBuf.readFrom_err b r h.mlen).2, k2, k3⟩

theorem reset (h : BufOK bc b) (data : List Byte) (ce : Nat) (hok : (b.reset data ce).2 = .ok) :
    BufOK bc (b.reset data ce).1 := by
  rcases PBuf.reset_frame b data ce with ⟨-, b1, b2, -, b4, b5⟩ | ⟨b0, -⟩
  · refine ⟨b4.trans h.cfg, by rw [b2]; exact Nat.zero_le _, ?_, b5⟩
    rw [b1]
    have hno : ¬ b.cfg.bufferSize < data.length := by
      intro hc
      have := (PBuf.reset_err_iff b data ce).mpr hc
      rw [hok] at this; cases this
    rw [h.cfg] at hno
    omega
  · exact absurd hok b0

theorem shrink (h : BufOK bc b) : BufOK bc b.shrink.1 := by
  have a := PBuf.shrink_dropped b
  have hw := h.w
  have hl := h.len
  have := a.w
  exact ⟨a.cfg.trans h.cfg, by rw [a.length]; omega, by rw [a.length]; omega, a.capOK h.cap⟩

/-- `BufOK` of the abstraction of a well-formed Go buffer, from the Go quantities … -/
theorem ofGo {b : Gen.ParserBuffer} (hwf : PBWF b) (hcfg : ofCfg b.BufConfig = bc) (hW : b.W ≤ b.Data.len)
    (hlen : b.Data.len ≤ bc.bufferSize) (hcap : (ofPB b).CapOK) : BufOK bc (ofPB b) := by
  have hdl : (ofPB b).data.length = b.Data.len := data_length hwf.data
  refine ⟨hcfg, ?_, hdl ▸ hlen, hcap⟩
  rw [hdl]
  show b.W.toNat ≤ _
  omega

/-- … and back -/
theorem go {b : Gen.ParserBuffer} (h : BufOK bc (ofPB b)) (hwf : PBWF b) : b.W ≤ b.Data.len ∧ b.Data.len ≤ bc.bufferSize := by
  have hdl : (ofPB b).data.length = b.Data.len := data_length hwf.data
  have hw : b.W.toNat ≤ (ofPB b).data.length := h.w
  have hl := h.len
  rw [hdl] at hw hl
  exact ⟨by omega, hl⟩

/-- advancing `W` inside the data (what `Parse` does to the buffer) -/
theorem setW (h : BufOK bc b) (w' : Nat) (hw : w' ≤ b.data.length) : BufOK bc { b with w := w' } :=
  ⟨h.cfg, hw, h.len, h.cap⟩

theorem pshrink {s : Parser} (h : BufOK bc s.buf) : BufOK bc s.shrink.1.buf := by
  by_cases hd : s.buf.shrink.2 = 0
  · rw [Parser.shrink_zero hd]; exact h
  · rw [Parser.shrink_pos hd]; exact h.shrink

theorem preset {s : Parser} (h : BufOK bc s.buf) (data : List Byte) (ce : Nat) : BufOK bc (s.reset data ce).1.buf := by
  by_cases he : (s.buf.reset data ce).2 = .ok
  · rw [Parser.reset_ok he]; exact h.reset data ce he
  · rw [Parser.reset_err he]; exact h

end BufOK

/-- the translated `ParserBuffer.Write` on a Go buffer whose abstraction has `BufOK` -/
theorem pbuf_write {bc : BufCfg} (grow : Nat → Nat → Nat) (b : Gen.ParserBuffer) (hwf : PBWF b) (h : BufOK bc (ofPB b))
    (p : Slice) (hp : SWF p) :
    ∃ b' n e, ParserBuffer_Write grow b p = Res.ok (b', n, e) ∧ PBWF b' ∧ ofPB b' = ((ofPB b).write p.data).1 ∧
      n = (((ofPB b).write p.data).2.1 : Int) ∧ errOf e = some ((ofPB b).write p.data).2.2 ∧
      (((ofPB b).write p.data).2.2 = .ok ∨ ((ofPB b).write p.data).2.2 = .full) ∧ BufOK bc (ofPB b') ∧
      (ofPB b').w = (ofPB b).w ∧ (ofPB b).data.length ≤ (ofPB b').data.length := by
  have hA := gen_pbuf_write grow b hwf p hp
  obtain ⟨k1, herr, k3, k4⟩ := h.write p.data
  cases hr : ParserBuffer_Write grow b p with
  | ok v =>
    obtain ⟨b', n, e⟩ := v
    rw [hr] at hA
    obtain ⟨-, hof, hn, he, hwf'⟩ := hA
    exact ⟨b', n, e, rfl, hwf', hof, hn, he, herr, by rw [hof]; exact k1, by rw [hof]; exact k3, by rw [hof]; exact k4⟩
  | panic =>
    rw [hr] at hA
    have hA' : ((ofPB b).write p.data).2.2 = .panic := hA
    rcases herr with h1 | h1 <;> rw [h1] at hA' <;> cases hA'
  | fuel =>
    rw [hr] at hA
    exact hA.elim

/-- the block a translated `Parse` returns (`uint32` renderings `seqRep` of the model's sequences) abstracts to the
    model's block when every field of every sequence is at most `2^32 - 8` -/
theorem ofBlock_rep {blk' : Gen.Block'} {b : LZ.Block} (hs : blk'.Sequences = b.seqs.map GenHPParse.seqRep)
    (hl : blk'.Literals.data = b.lits)
    (hq : ∀ q ∈ b.seqs, q.litLen ≤ 4294967288 ∧ q.matchLen ≤ 4294967288 ∧ q.offset ≤ 4294967288 ∧ q.aux = 0) :
    GenBuf.ofBlock blk' = b := by
  have hmap : List.map (GenBuf.ofSeq ∘ GenHPParse.seqRep) b.seqs = b.seqs := by
    conv => rhs; rw [← List.map_id b.seqs]
    apply List.map_congr_left
    intro q hq'
    obtain ⟨g1, g2, g3, g4⟩ := hq q hq'
    exact GenHPHist.ofSeq_seqRep q (by omega) (by omega) (by omega) g4
  unfold GenBuf.ofBlock
  rw [hs, hl, List.map_map, hmap]

/-! ## the methods of a translated parser, simulated one by one

  `Rel : σ → Parser → Prop` ties a Go state to a model state: for six parsers an invariant of the Go state and an abstraction
  FUNCTION (`FRel`), for GSAP a relation (the rank array of the model is determined by the Go bitset only up to a choice).
  `WriteRel Rel wr` … say that one translated method is simulated by the model's under `Rel`: from related states it does
  not fail, returns the model's results, and leads to related states.  (`ReadFromRel`: LzProofs/GenHPHistRF.lean,
  `ParseNilRel`: LzProofs/GenHPHistNil.lean.) -/

section
open LZ.GenHash LZ.GenHPParse
variable {σ : Type} (Rel : σ → Parser → Prop)

def WriteRel (wr : σ → Slice → Res (σ × Int × Gen.Err)) : Prop :=
  ∀ t m p, Rel t m → SWF p → ∃ t' n e, wr t p = Res.ok (t', n, e) ∧ Rel t' (m.write p.data).1 ∧
    n = ((m.write p.data).2.1 : Int) ∧ errOf e = some (m.write p.data).2.2

/-- `P`: what `Parse` needs to know of the model state beyond `Rel`.  The block returned ABSTRACTS (`ofBlock`: fields as
    natural numbers) to the model's block. -/
def ParseRel (P : Parser → Prop) (pa : σ → Gen.Block' → Int → Res (σ × Gen.Block' × Int × Gen.Err)) : Prop :=
  ∀ t m blk flags, Rel t m → P m → 0 ≤ flags → ∃ t' blk',
    pa t blk flags = Res.ok (t', blk', ((m.parse flags.toNat).2.1 : Int), parseErr (m.parse flags.toNat).2.2.1) ∧
    Rel t' (m.parse flags.toNat).1 ∧ ofBlock blk' = (m.parse flags.toNat).2.2.2 ∧
    SWF blk'.Literals ∧ ((m.parse flags.toNat).2.2.1 = .ok ∨ (m.parse flags.toNat).2.2.1 = .empty)

def ShrinkRel (sh : σ → Res (σ × Int)) : Prop :=
  ∀ t m, Rel t m → ∃ t', sh t = Res.ok (t', (m.shrink.2 : Int)) ∧ Rel t' m.shrink.1

def ResetRel (rs : σ → Slice → Res (σ × Gen.Err)) : Prop :=
  ∀ t m data, Rel t m → SWF data → ∃ t' e, rs t data = Res.ok (t', e) ∧
    Rel t' (m.reset data.data (data.cap - data.len)).1 ∧
    errOfReset e = some (m.reset data.data (data.cap - data.len)).2

end

/-! ## a Go state that holds a `ParserBuffer` -/

/-- `Rel` reads the model's buffer from the `ParserBuffer` at `pb`, and survives an exchange of that buffer for one with
    the same `W` and no less data.  `Write` and `ReadFrom` of every parser are promoted from that buffer. -/
structure BufHost {σ : Type} (bc : BufCfg) (Rel : σ → Parser → Prop) where
  pb : σ → Gen.ParserBuffer
  setPB : σ → Gen.ParserBuffer → σ
  get : ∀ {t m}, Rel t m → PBWF (pb t) ∧ BufOK bc (ofPB (pb t)) ∧ m.buf = ofPB (pb t)
  put : ∀ {t m} (b' : Gen.ParserBuffer), Rel t m → PBWF b' → BufOK bc (ofPB b') → (ofPB b').w = (ofPB (pb t)).w →
    (ofPB (pb t)).data.length ≤ (ofPB b').data.length → Rel (setPB t b') { m with buf := ofPB b' }

/-- the promoted `Write` -/
theorem BufHost.write {σ : Type} {bc : BufCfg} {Rel : σ → Parser → Prop} (B : BufHost bc Rel) (grow : Nat → Nat → Nat)
    {wr : σ → Slice → Res (σ × Int × Gen.Err)}
    (hwr : ∀ t p, wr t p =
      Res.bind (ParserBuffer_Write grow (B.pb t) p) fun r => Res.ok (B.setPB t r.1, r.2.1, r.2.2)) :
    WriteRel Rel wr := by
  intro t m p h hp
  obtain ⟨hwf, hb, hm⟩ := B.get h
  obtain ⟨b', n, e, h1, hwf', hof, hn, he, -, hb', hW, hl⟩ := pbuf_write grow (B.pb t) hwf hb p hp
  rw [Parser.write_def, hm, ← hof]
  exact ⟨B.setPB t b', n, e, by rw [hwr, h1]; rfl, B.put b' h hwf' hb' hW hl, hn, he⟩

end LZ.GenHist

#print axioms LZ.GenHist.pbuf_write
#print axioms LZ.GenHist.ofBlock_rep
#print axioms LZ.GenHist.BufHost.write
