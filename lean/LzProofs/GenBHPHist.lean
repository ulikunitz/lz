/-
  LzProofs.GenBHPHist — what LzProofs/GenHPHist.lean does for HP, for the backward hash parser BHP
  (bhp.go `backwardHashParser`: `init`, `Parse` translated — CodeBHPInit / CodeBHPParse, `lcs` an opaque parameter of
  the translation under `LcsSpec` —; `Write`, `Reset`, `Shrink` promoted from the embedded `hashDictionary` /
  `ParserBuffer` exactly as for HP).  Also here: `gen_bhp_init`, `gen_bhp_init_fresh`, `gen_bhp_init_parseOK`
  (`backwardHashParser.init` = the model's `newParser .BHP`; the Go text of bhp.go `init` is that of hp.go modulo the
  type names, and so are the proofs).  The parser-independent lemmas (`BCOK`, `mparse_hist`, `ofSeq_seqRep`, …) are
  those of GenHPHist.  No sorry, no axioms of its own.
-/
import LzProofs.GenHPHist
import LzProofs.GenBHPParse
import LzModel.Generated.CodeBHPInit

set_option linter.unusedSimpArgs false
set_option linter.unusedVariables false

namespace LZ.GenBHPHist
open LZ LZ.Gen LZ.GenBuf LZ.GenHash LZ.GenHPParse LZ.GenBHPParse LZ.GenProps
open LZ.GenHPHist (BCOK newParser_fresh hash_same mparse_hist)
open LZ.GenHist (FRel WriteRel ParseRel ShrinkRel ResetRel BufHost)

/-! ## init -/

/-- `backwardHashParser.init(cfg)`: `raw` is the configuration as the model sees it (`toBHP raw` the Go
    struct with the fields of `raw` that BHPConfig has) -/
theorem gen_bhp_init (s : Gen.backwardHashParser) (raw : Cfg) (hw : GWF s.hashDictionary.hash.table) :
    match newParser .BHP raw with
    | none => ∃ e, backwardHashParser_init s (toBHP raw) = Res.ok (s, e) ∧ e ≠ Gen.Err.ok
    | some p => ∃ s', backwardHashParser_init s (toBHP raw) = Res.ok (s', Gen.Err.ok) ∧
        ofBHPs s' = { p with buf := { p.buf with cap := s.hashDictionary.ParserBuffer.Data.cap } } ∧
        DictWF s'.hashDictionary := by
  rcases tieBHP.newParser_cases raw with ⟨hbad, hn⟩ | ⟨hok, -, hn⟩ <;> rw [hn] <;> unfold backwardHashParser_init
  · simp only [hbad, ne_eq, not_false_eq_true, if_true]
    exact ⟨_, rfl, hbad⟩
  · have hb := tieBHP.buf_ready hok
    have hh := tieBHP.hash_ready (.inr rfl) hok
    generalize BHPConfig_SetDefaults (toBHP raw) = c' at *
    obtain ⟨f', hf, hofpb, hofg, hwf⟩ := gen_hdict_init s.hashDictionary ⟨c'.InputLen, c'.HashBits⟩
      ⟨c'.ShrinkSize, c'.BufferSize, c'.WindowSize, c'.BlockSize⟩ hw hb hh
    simp only [hok, ne_eq, not_true_eq_false, if_false, hf, bind_ok]
    exact ⟨_, rfl, congr (congrArg (Parser.mk .BHP _) hofpb) (congrArg Dict.single hofg), hwf⟩

/-- … for the receiver `new(backwardHashParser)` (all fields zero): exactly the model's fresh parser -/
theorem gen_bhp_init_fresh (raw : Cfg) (p : Parser) (hp : newParser .BHP raw = some p) :
    ∃ s', backwardHashParser_init default (toBHP raw) = Res.ok (s', Gen.Err.ok) ∧ ofBHPs s' = p ∧ DictWF s'.hashDictionary := by
  have := gen_bhp_init default raw (by unfold GWF; exact Nat.le_refl 0)
  rw [hp] at this
  obtain ⟨s', h1, h2, h3⟩ := this
  exact ⟨s', h1, h2.trans (fresh_cap0 hp), h3⟩

/-- **`ParseOKB` is what `init` establishes** (non-vacuity of the hypotheses of `gen_bhp_parse`): for every
    configuration `NewParser` accepts, the translated `backwardHashParser.init` on `new(backwardHashParser)` yields a Go state that
    abstracts to the model's fresh parser and satisfies `ParseOKB`.  (`gen_bhp_parse` then shows that `Parse`
    preserves `ParseOKB`.) -/
theorem gen_bhp_init_parseOK (raw : Cfg) (p : Parser) (hp : newParser .BHP raw = some p) :
    ∃ s', backwardHashParser_init default (GenProps.toBHP raw) = Res.ok (s', Gen.Err.ok) ∧ ofBHPs s' = p ∧ ParseOKB s' := by
  obtain ⟨s', h1, h2, h3⟩ := gen_bhp_init_fresh raw p hp
  refine ⟨s', h1, h2, ?_⟩
  obtain ⟨hv, rfl⟩ := newParser_eq_some hp
  generalize setDefaults .BHP (raw.restrict .BHP) = c at hv h2
  obtain ⟨hb1, hb2, hb3, hb4', hb4⟩ := verify_hash_bounds (.inr (.inl rfl)) hv
  obtain ⟨_, hbs⟩ := verify_static .BHP c hv
  have hcfg : GenProps.ofBHP s'.BHPConfig = c := congrArg Parser.cfg h2
  have hdict : Dict.single (ofHash s'.hashDictionary.hash) =
      Dict.single (HashT.new c.inputLen.toNat c.hashBits.toNat) := congrArg Parser.dict h2
  injection hdict with hdict
  obtain ⟨hws, hbl, hw, hlen⟩ := fresh_pbuf (cap := 0) h3.1 (congrArg Parser.buf h2 :)
  have hil : s'.hashDictionary.hash.inputLen.toNat = c.inputLen.toNat := congrArg HashT.inputLen hdict
  have hhb : 64 - s'.hashDictionary.hash.shift.toNat = c.hashBits.toNat := congrArg HashT.hashBits hdict
  have cW : s'.BHPConfig.WindowSize = c.windowSize := congrArg Cfg.windowSize hcfg
  have cB : s'.BHPConfig.BlockSize = c.blockSize := congrArg Cfg.blockSize hcfg
  have cI : s'.BHPConfig.InputLen = c.inputLen := congrArg Cfg.inputLen hcfg
  have hbs' : 1 ≤ c.blockSize.toNat := hbs
  have hs64 := h3.2.2.2.2.1
  exact ⟨h3, by rw [cW, hws], by rw [cB, hbl], by rw [cI, hil], by rw [cB]; omega, by rw [hlen]; omega,
    by omega, by omega, by rw [hlen]; decide⟩


/-! ## the promoted methods -/

/-- `s.Write(p)` for `s *backwardHashParser`: `ParserBuffer.Write` on the embedded buffer -/
def bhp_Write (grow : Nat → Nat → Nat) (s : Gen.backwardHashParser) (p : Slice) : Res (Gen.backwardHashParser × Int × Gen.Err) :=
  Res.bind (ParserBuffer_Write grow s.hashDictionary.ParserBuffer p) fun r =>
  Res.ok ({ s with hashDictionary := { s.hashDictionary with ParserBuffer := r.1 } }, r.2.1, r.2.2)

/-- `s.Reset(data)` for `s *backwardHashParser`: `hashDictionary.Reset` on the embedded dictionary -/
def bhp_Reset (s : Gen.backwardHashParser) (data : Slice) : Res (Gen.backwardHashParser × Gen.Err) :=
  Res.bind (hashDictionary_Reset s.hashDictionary data) fun r =>
  Res.ok ({ s with hashDictionary := r.1 }, r.2)

/-- `s.Shrink()` for `s *backwardHashParser`: `hashDictionary.Shrink` on the embedded dictionary -/
def bhp_Shrink (s : Gen.backwardHashParser) : Res (Gen.backwardHashParser × Int) :=
  Res.bind (hashDictionary_Shrink s.hashDictionary) fun r =>
  Res.ok ({ s with hashDictionary := r.1 }, r.2)

/-! ## the invariant -/

structure HistOK (bc : BufCfg) (t : Gen.backwardHashParser) : Prop where
  pok : ParseOKB t
  cfg : ofCfg t.hashDictionary.ParserBuffer.BufConfig = bc
  len : t.hashDictionary.ParserBuffer.Data.len ≤ bc.bufferSize
  cap : (ofPB t.hashDictionary.ParserBuffer).CapOK
  il8 : t.BHPConfig.InputLen.toNat ≤ 8

theorem HistOK.buf {bc : BufCfg} {t : Gen.backwardHashParser} (h : HistOK bc t) : GenHist.BufOK bc (ofBHPs t).buf :=
  GenHist.BufOK.ofGo h.pok.wf.1 h.cfg h.pok.w h.len h.cap

/-- the bounds on `InputLen` as the model's parsers ask for them -/
theorem HistOK.dictOK {bc : BufCfg} {t : Gen.backwardHashParser} (h : HistOK bc t) :
    ProbeW.HashDictOK (ofBHPs t).dict ∧ 1 ≤ (ofBHPs t).minMatch ∧ (ofBHPs t).minMatch ≤ 8 := by
  have hil1 := h.pok.il1
  have hcil := h.pok.cil
  have hil8 := h.il8
  show (1 ≤ t.hashDictionary.hash.inputLen.toNat ∧ t.hashDictionary.hash.inputLen.toNat ≤ 8) ∧
    1 ≤ Min.min 3 t.BHPConfig.InputLen.toNat ∧ Min.min 3 t.BHPConfig.InputLen.toNat ≤ 8
  omega

/-- `HistOK` after an operation that replaced the embedded dictionary: what has to be known about the new one -/
theorem histOK_update {bc : BufCfg} (hbc : BCOK bc) {t : Gen.backwardHashParser} (h : HistOK bc t)
    (f' : Gen.hashDictionary) (hwf : DictWF f')
    (hil : (ofHash f'.hash).inputLen = (ofHash t.hashDictionary.hash).inputLen)
    (hhb : (ofHash f'.hash).hashBits = (ofHash t.hashDictionary.hash).hashBits)
    (hb : GenHist.BufOK bc (ofPB f'.ParserBuffer)) :
    HistOK bc { t with hashDictionary := f' } := by
  obtain ⟨hw, hlen⟩ := hb.go hwf.1
  obtain ⟨ei, es⟩ := hash_same hwf.2 h.pok.wf.2 hil hhb
  have hc : ofCfg f'.ParserBuffer.BufConfig = ofCfg t.hashDictionary.ParserBuffer.BufConfig := hb.cfg.trans h.cfg.symm
  exact ⟨⟨hwf, h.pok.cws.trans (congrArg BufCfg.windowSize hc).symm, h.pok.cbs.trans (congrArg BufCfg.blockSize hc).symm,
    ei ▸ h.pok.cil, h.pok.bs0, hw, ei ▸ h.pok.il1, es ▸ h.pok.sh,
    Nat.lt_of_le_of_lt (Nat.le_trans hlen hbc.bmax) (by decide)⟩, hb.cfg, hlen, hb.cap, h.il8⟩

/-! ## Write -/

/-- the Go state holds its `ParserBuffer` inside the embedded dictionary -/
def bufHost {bc : BufCfg} (hbc : BCOK bc) : BufHost bc (FRel (HistOK bc) ofBHPs) where
  pb t := t.hashDictionary.ParserBuffer
  setPB t b := { t with hashDictionary := { t.hashDictionary with ParserBuffer := b } }
  get := fun ⟨h, e⟩ => ⟨h.pok.wf.1, h.buf, e ▸ rfl⟩
  put := fun {t m} b' ⟨h, e⟩ hwf hb _ _ =>
    ⟨histOK_update hbc h { t.hashDictionary with ParserBuffer := b' } ⟨hwf, h.pok.wf.2⟩ rfl rfl hb, e ▸ rfl⟩

theorem hist_write {bc : BufCfg} (hbc : BCOK bc) (grow : Nat → Nat → Nat) :
    WriteRel (FRel (HistOK bc) ofBHPs) (bhp_Write grow) :=
  (bufHost hbc).write grow fun _ _ => rfl

/-! ## Shrink -/

theorem hist_shrink {bc : BufCfg} (hbc : BCOK bc) : ShrinkRel (FRel (HistOK bc) ofBHPs) bhp_Shrink := by
  rintro t _ ⟨h, rfl⟩
  have hW := h.pok.w
  have hS := h.pok.small
  have hss := h.pok.wf.1.ss
  obtain ⟨f', hf, hof, hwf⟩ := gen_hp_shrink .BHP (ofBHP t.BHPConfig) t.hashDictionary h.pok.wf (by omega) (by omega)
  unfold bhp_Shrink
  rw [hf]
  refine ⟨_, rfl, ?_, hof⟩
  obtain ⟨h', hd', hi', hb'⟩ := Parser.single_kept (ofBHPs t) .shrink (ofHash t.hashDictionary.hash) rfl
  have hdict : Dict.single (ofHash f'.hash) = Dict.single h' := (congrArg Parser.dict hof).trans hd'
  injection hdict with hdict
  have hbuf : ofPB f'.ParserBuffer = (ofBHPs t).shrink.1.buf := congrArg Parser.buf hof
  exact histOK_update hbc h f' hwf (by rw [hdict]; exact hi') (by rw [hdict]; exact hb') (hbuf ▸ h.buf.pshrink)

/-! ## Reset -/

theorem hist_reset {bc : BufCfg} (hbc : BCOK bc) : ResetRel (FRel (HistOK bc) ofBHPs) bhp_Reset := by
  rintro t _ data ⟨h, rfl⟩ hdat
  obtain ⟨f', e, hf, hof, herr, hwf⟩ := gen_hp_reset .BHP (ofBHP t.BHPConfig) t.hashDictionary h.pok.wf data hdat
  unfold bhp_Reset
  rw [hf]
  refine ⟨_, e, rfl, ⟨?_, hof⟩, herr⟩
  obtain ⟨h', hd', hi', hb'⟩ := Parser.single_kept (ofBHPs t) (.reset data.data (data.cap - data.len)) (ofHash t.hashDictionary.hash) rfl
  have hdict : Dict.single (ofHash f'.hash) = Dict.single h' := (congrArg Parser.dict hof).trans hd'
  injection hdict with hdict
  have hbuf : ofPB f'.ParserBuffer = ((ofBHPs t).reset data.data (data.cap - data.len)).1.buf := congrArg Parser.buf hof
  exact histOK_update hbc h f' hwf (by rw [hdict]; exact hi') (by rw [hdict]; exact hb') (hbuf ▸ h.buf.preset _ _)

/-! ## Parse -/

theorem hist_parse {bc : BufCfg} (hbc : BCOK bc) (grow : Nat → Nat → Nat) (fuel : Nat) (lcs : Slice → Slice → Int)
    (hlcs : LcsSpec lcs)
    (hfuel : 2 * bc.bufferSize + 3 ≤ fuel) :
    ParseRel (FRel (HistOK bc) ofBHPs) (fun _ => True) (backwardHashParser_Parse grow fuel lcs) := by
  rintro t _ blk flags ⟨h, rfl⟩ - hfl
  have hfuel : 2 * t.hashDictionary.ParserBuffer.Data.len + 3 ≤ fuel := by have := h.len; omega
  obtain ⟨hd, hm1, hm8⟩ := h.dictOK
  have hW := ProbeW.parseW_eq (ofBHPs t) (staleOfB t) flags.toNat h.buf.w h.pok.backing h.cap hd hm8
  have hnot : ∀ o, (ofBHPs t).dict ≠ .osap o := by intro o ho; cases ho
  obtain ⟨f1, f2, -, f4⟩ := mparse_hist (ofBHPs t) flags.toNat h.buf hm1 hnot hbc.bmax hbc.wmax
  have hm := gen_bhp_parse grow fuel lcs hlcs t blk flags h.pok hfl hfuel
  rw [hW] at hm
  generalize (ofBHPs t).parse flags.toNat = R at hm f1 f2 f4 ⊢
  obtain ⟨t', blk', h1, h2, h3, h4, h5, h6, h7, h8⟩ := hm
  refine ⟨t', blk', h1, ⟨?_, h2⟩, f4 blk' h5 h6, h7, h4⟩
  rw [← h2] at f1 f2
  have hHP : t'.BHPConfig = t.BHPConfig := by
    have := congrArg toBHP (show ofBHP t'.BHPConfig = ofBHP t.BHPConfig from f1)
    rw [toBHP_ofBHP, toBHP_ofBHP] at this; exact this
  have hb : GenHist.BufOK bc (ofPB t'.hashDictionary.ParserBuffer) := f2
  exact ⟨h8, hb.cfg, data_length h8.wf.1.data ▸ hb.len, hb.cap, by rw [hHP]; exact h.il8⟩

/-! ## init -/

/-- `backwardHashParser.init(cfg)` on `new(backwardHashParser)`: if it returns `nil`, the configuration is one the model's `NewParser`
    accepts, the Go state abstracts to the model's fresh parser, and `HistOK` holds for its buffer configuration -/
theorem hist_init (cfg : Gen.BHPConfig) (s0 : Gen.backwardHashParser)
    (hinit : backwardHashParser_init default cfg = Res.ok (s0, Gen.Err.ok)) :
    ∃ p, newParser .BHP (ofBHP cfg) = some p ∧ ofBHPs s0 = p ∧ BCOK p.buf.cfg ∧ HistOK p.buf.cfg s0 := by
  have hg := gen_bhp_init default (ofBHP cfg) (by unfold GWF; exact Nat.le_refl 0)
  rw [toBHP_ofBHP] at hg
  cases hp : newParser .BHP (ofBHP cfg) with
  | none =>
    rw [hp] at hg
    obtain ⟨e, he, hne⟩ := hg
    rw [hinit] at he
    injection he with he
    injection he with _ he
    exact absurd he.symm hne
  | some p =>
    obtain ⟨s', h1, h2, h3⟩ := gen_bhp_init_parseOK (ofBHP cfg) p hp
    rw [toBHP_ofBHP, hinit] at h1
    injection h1 with h1
    injection h1 with h1 _
    subst h1
    subst h2
    obtain ⟨hBC, c, hv, hcf, hbuf, -⟩ := newParser_fresh .BHP _ _ hp
    have hil8 := (verify_hash_bounds (.inr (.inl rfl)) hv).2.1
    have hI : s0.BHPConfig.InputLen = c.inputLen := congrArg Cfg.inputLen hcf
    refine ⟨_, rfl, rfl, hBC, h3, rfl, ?_, Or.inl (congrArg PBuf.data hbuf), ?_⟩
    · rw [(fresh_pbuf (cap := 0) h3.wf.1 hbuf).2.2.2]; exact Nat.zero_le _
    · rw [hI]; omega

end LZ.GenBHPHist

#print axioms LZ.GenBHPHist.gen_bhp_init
#print axioms LZ.GenBHPHist.gen_bhp_init_parseOK
#print axioms LZ.GenBHPHist.hist_write
#print axioms LZ.GenBHPHist.hist_shrink
#print axioms LZ.GenBHPHist.hist_reset
#print axioms LZ.GenBHPHist.hist_parse
#print axioms LZ.GenBHPHist.hist_init
