/-
  LzProofs.GenDHPInit — initialisation of the double hash parsers DHP and BDHP: the model (`newParser .DHP`,
  `newParser .BDHP`; LzModel/Parser.lean) equals the mechanical translation of
      hash.go  doubleHashDictionary.init    (CodeDHashDict.lean)
      dhp.go   doubleHashParser.init        (CodeDHPInit.lean)
      bdhp.go  bdhp.init                    (CodeBDHPInit.lean)
  and the translated `init` on the zero value establishes the invariant bundles `ParseOKD` / `ParseOKBD` of
  `gen_dhp_parse` / `gen_bdhp_parse` (non-vacuity of their hypotheses).  No sorry, no axioms of its own.

      gen_ddict_init          doubleHashDictionary.init on configurations that are `SetDefaults` images and verify:
                              buffer = `PBuf.init` (capacity of the receiver's old array), tables = `HashT.new`
      gen_dhp_init            doubleHashParser.init(cfg) vs newParser .DHP: rejected configurations leave the
                              receiver unchanged and return an error; accepted ones yield the model's fresh parser
      gen_dhp_init_fresh      … for the receiver `new(doubleHashParser)`: exactly the model's fresh parser
      gen_dhp_init_parseOK    … and `ParseOKD` holds
      gen_bdhp_init, gen_bdhp_init_fresh, gen_bdhp_init_parseOK    the same for bdhp.go (`ParseOKBD`)
  The proofs have the skeleton of every `init` of the family (`CfgTie.newParser_cases`, then the dictionary's `init`
  lemma; GenHashPropsDict.lean for HP, GenBHPHist.lean, GenBUPHistInit.lean).
  Shape independence: what the configurations satisfy after `SetDefaults` / `Verify` is derived from the MODEL through the
  ties of the configuration topics (`CfgTie.buf_ready`, `CfgTie.dh_ready`); only the three `init`
  functions are unfolded, and their `err` tests are decided by `init_simp` from the VALUE of `err`, in any spelling.
-/
import LzModel.Generated.CodeDHPInit
import LzModel.Generated.CodeBDHPInit
import LzProofs.GenHashPropsDict2
import LzProofs.GenPropsCfgDHP
import LzProofs.GenPropsCfgBDHP
import LzProofs.GenDHPParse
import LzProofs.GenBDHPParse
import LzProofs.ParseProps
import LzProofs.ConfigLemmas
import LzProofs.GenDictFrame

set_option linter.unusedSimpArgs false
set_option linter.unusedVariables false

namespace LZ.GenDHPInit
open LZ LZ.Gen LZ.GenBuf LZ.GenHash LZ.GenProps LZ.GenDHPParse LZ.GenBDHPParse

theorem dhVerify_parts (d : Gen.dhConfig) (h : dhConfig_Verify d = Gen.Err.ok) :
    InitOK d.H1.InputLen d.H1.HashBits ∧ InitOK d.H2.InputLen d.H2.HashBits ∧ d.H1.InputLen < d.H2.InputLen := by
  obtain ⟨a, b, c⟩ := (gen_dhVerify d).mp h
  exact ⟨hashVerify_initOK _ ((gen_hashVerify _).mpr a), hashVerify_initOK _ ((gen_hashVerify _).mpr b), c⟩

/-! ## the double-hash kinds of the model (`.DHP`, `.BDHP`)

    What `setDefaults` / `verify` of the model say about the helper configuration `dhConfig` that the Go code cuts out
    of the parser configuration (`bufOf_ready`, GenDictFrame, does the same for `BufConfig`).  Everything goes through
    the tie lemmas of the configuration topics (`gen_dhDefaults`, `gen_dhVerify`: GenPropsCfgHash) and the model; no
    generated function is unfolded, so `DHPConfig.Verify` / `BDHPConfig.Verify` / `SetDefaults` may be spelled in any
    way that keeps the ties `gen_verify_DHP`, `gen_setDefaults_DHP` (… `_BDHP`) provable. -/

/-- `dhCfg(&cfg)` on the union record -/
def dhOf (c : Cfg) : Gen.dhConfig := ⟨⟨c.inputLen1, c.hashBits1⟩, ⟨c.inputLen2, c.hashBits2⟩⟩

/-- the double-hash part of a defaults-completed, verified configuration of a double-hash kind: a fixed point of
    `dhConfig.SetDefaults`, accepted by `dhConfig.Verify` -/
theorem dhOf_ready {k : Kind} (hk : k = .DHP ∨ k = .BDHP) (x : Cfg) (hv : verify k (setDefaults k x) = true) :
    dhConfig_SetDefaults (dhOf (setDefaults k x)) = dhOf (setDefaults k x) ∧
    dhConfig_Verify (dhOf (setDefaults k x)) = Gen.Err.ok := by
  have h := setDefaults_idem' k x
  have e1 := congrArg Cfg.inputLen1 h
  have e2 := congrArg Cfg.hashBits1 h
  have e3 := congrArg Cfg.inputLen2 h
  have e4 := congrArg Cfg.hashBits2 h
  rw [gen_dhDefaults, gen_dhVerify]
  refine ⟨?_, ((verify_dh hk).mp hv).2⟩
  rcases hk with rfl | rfl <;>
    exact congr (congrArg Gen.dhConfig.mk (congr (congrArg Gen.hashConfig.mk e1) e2))
      (congr (congrArg Gen.hashConfig.mk e3) e4)

theorem _root_.LZ.GenProps.CfgTie.dh_ready {k : Kind} {γ : Type} {abs : γ → Cfg} {conc : Cfg → γ} {sd : γ → γ}
    {vf : γ → Gen.Err} (t : CfgTie k abs conc sd vf) (hk : k = .DHP ∨ k = .BDHP) {g : γ}
    (hok : vf (sd g) = Gen.Err.ok) :
    dhConfig_SetDefaults (dhOf (abs (sd g))) = dhOf (abs (sd g)) ∧ dhConfig_Verify (dhOf (abs (sd g))) = Gen.Err.ok := by
  have hv := (t.vf_ok _).mp hok
  rw [t.abs_sd] at hv ⊢
  exact dhOf_ready hk _ hv

/-- `dhConfig.SetDefaults` is idempotent: `gen_dhDefaults` makes its value the double-hash part of a `setDefaults`
    image, which the model's idempotence fixes; the generated function is not unfolded, so the
    spelling of its tests (`il1 < 5` / `il1 >= 5` with swapped arms, order of the defaults) is immaterial -/
theorem dhDefaults_idem (d : Gen.dhConfig) :
    dhConfig_SetDefaults (dhConfig_SetDefaults d) = dhConfig_SetDefaults d := by
  rw [gen_dhDefaults d]
  have h := setDefaults_idem' .DHP (ofDh d)
  rw [gen_dhDefaults]
  exact congr (congrArg Gen.dhConfig.mk (congr (congrArg Gen.hashConfig.mk (congrArg Cfg.inputLen1 h))
    (congrArg Cfg.hashBits1 h))) (congr (congrArg Gen.hashConfig.mk (congrArg Cfg.inputLen2 h)) (congrArg Cfg.hashBits2 h))

/-- simp set that decides the `err != nil` / `err == nil` tests of the translated `init` functions once the value of
    `err` is known (`Err.ok ≠ Err.ok`, `¬Err.ok = Err.ok`, `Err.ok = Err.ok`, `False`/`True` from a hypothesis), in
    either spelling and with either arm first; no condition is spelled out in the proofs below -/
macro "init_simp" "[" ls:Lean.Parser.Tactic.simpLemma,* "]" : tactic =>
  `(tactic| simp only [$ls,*, bind_ok, ne_eq, not_true_eq_false, not_false_eq_true, Classical.not_not, eq_self,
      reduceCtorEq, if_true, if_false, ↓reduceIte])

/-! ## `doubleHashDictionary.init` -/

/-- hash.go `doubleHashDictionary.init(cfg, bcfg)` for configurations that `SetDefaults` leaves alone and `Verify`
    accepts (what `doubleHashParser.init` / `bdhp.init` pass after their own `SetDefaults` / `Verify`) -/
theorem gen_ddict_init (f : Gen.doubleHashDictionary) (dc : Gen.dhConfig) (bc : Gen.BufConfig)
    (hw1 : GWF f.h1.table) (hw2 : GWF f.h2.table)
    (hbi : BufConfig_SetDefaults bc = bc) (hvb : BufConfig_Verify bc = Gen.Err.ok)
    (hdi : dhConfig_SetDefaults dc = dc) (hvd : dhConfig_Verify dc = Gen.Err.ok) :
    ∃ f', doubleHashDictionary_init f dc bc = Res.ok (f', Gen.Err.ok) ∧
      ofPB f'.ParserBuffer = { PBuf.init (ofCfg bc) with cap := f.ParserBuffer.Data.cap } ∧
      ofHash f'.h1 = HashT.new dc.H1.InputLen.toNat dc.H1.HashBits.toNat ∧
      ofHash f'.h2 = HashT.new dc.H2.InputLen.toNat dc.H2.HashBits.toNat ∧ DDictWF f' := by
  obtain ⟨i1, i2, _⟩ := dhVerify_parts dc hvd
  obtain ⟨pb', hpi, hofpb, hpwf⟩ := (gen_pbuf_init f.ParserBuffer bc).2 (by rw [hbi]; exact hvb)
  obtain ⟨g1, hg1, hof1, hwf1⟩ := gen_hash_init f.h1 dc.H1.InputLen dc.H1.HashBits hw1 i1
  obtain ⟨g2, hg2, hof2, hwf2⟩ := gen_hash_init f.h2 dc.H2.InputLen dc.H2.HashBits hw2 i2
  unfold doubleHashDictionary_init
  init_simp [hpi, hdi, hvd, hg1, hg2]
  rw [hbi] at hofpb
  exact ⟨_, rfl, hofpb, hof1, hof2, ⟨hpwf, hwf1, hwf2⟩⟩

/-! ## DHP -/

/-- `doubleHashParser.init(cfg)`: `raw` is the configuration as the model sees it (`toDHP raw` the Go struct with
    the fields of `raw` that DHPConfig has) -/
theorem gen_dhp_init (s : Gen.doubleHashParser) (raw : Cfg) (hw1 : GWF s.doubleHashDictionary.h1.table)
    (hw2 : GWF s.doubleHashDictionary.h2.table) :
    match newParser .DHP raw with
    | none => ∃ e, doubleHashParser_init s (toDHP raw) = Res.ok (s, e) ∧ e ≠ Gen.Err.ok
    | some p => ∃ s', doubleHashParser_init s (toDHP raw) = Res.ok (s', Gen.Err.ok) ∧
        ofDHPs s' = { p with buf := { p.buf with cap := s.doubleHashDictionary.ParserBuffer.Data.cap } } ∧
        DDictWF s'.doubleHashDictionary := by
  rcases tieDHP.newParser_cases raw with ⟨hbad, hn⟩ | ⟨hok, -, hn⟩ <;> rw [hn] <;> unfold doubleHashParser_init
  · init_simp [hbad]
    exact ⟨_, rfl, hbad⟩
  · obtain ⟨hbi, hvb⟩ := tieDHP.buf_ready hok
    obtain ⟨hdi, hvd⟩ := tieDHP.dh_ready (.inl rfl) hok
    generalize DHPConfig_SetDefaults (toDHP raw) = c' at *
    obtain ⟨f', hf, hofpb, hof1, hof2, hwf⟩ := gen_ddict_init s.doubleHashDictionary
      ⟨⟨c'.InputLen1, c'.HashBits1⟩, ⟨c'.InputLen2, c'.HashBits2⟩⟩
      ⟨c'.ShrinkSize, c'.BufferSize, c'.WindowSize, c'.BlockSize⟩ hw1 hw2 hbi hvb hdi hvd
    init_simp [hok, hf]
    exact ⟨_, rfl, congr (congrArg (Parser.mk .DHP _) hofpb)
      (congrArg Dict.double (congr (congrArg Hash2.mk hof1) hof2)), hwf⟩

/-- … for the receiver `new(doubleHashParser)` (all fields zero): exactly the model's fresh parser -/
theorem gen_dhp_init_fresh (raw : Cfg) (p : Parser) (hp : newParser .DHP raw = some p) :
    ∃ s', doubleHashParser_init default (toDHP raw) = Res.ok (s', Gen.Err.ok) ∧ ofDHPs s' = p ∧
      DDictWF s'.doubleHashDictionary := by
  have := gen_dhp_init default raw (by unfold GWF; exact Nat.le_refl 0) (by unfold GWF; exact Nat.le_refl 0)
  rw [hp] at this
  obtain ⟨s', h1, h2, h3⟩ := this
  exact ⟨s', h1, h2.trans (fresh_cap0 hp), h3⟩

/-- what the model's fresh parser of a double-hash kind says about a Go dictionary that abstracts to it: the facts
    `ParseOKD` / `ParseOKBD` add to `DDictWF`, in terms of the verified configuration `c` -/
theorem fresh_ddict_facts (k : Kind) (hk : k = .DHP ∨ k = .BDHP) (c : Cfg) (hv : verify k c = true)
    (f : Gen.doubleHashDictionary) (h3 : DDictWF f) (hbuf : ofPB f.ParserBuffer = PBuf.init c.bufCfg)
    (hd1 : ofHash f.h1 = HashT.new c.inputLen1.toNat c.hashBits1.toNat)
    (hd2 : ofHash f.h2 = HashT.new c.inputLen2.toNat c.hashBits2.toNat) :
    c.windowSize.toNat = f.ParserBuffer.BufConfig.WindowSize.toNat ∧
    c.blockSize.toNat = f.ParserBuffer.BufConfig.BlockSize.toNat ∧
    c.inputLen1.toNat = f.h1.inputLen.toNat ∧ 0 ≤ c.blockSize ∧
    f.ParserBuffer.W ≤ f.ParserBuffer.Data.len ∧ 1 ≤ f.h1.inputLen ∧ f.h1.inputLen ≤ f.h2.inputLen ∧
    32 ≤ f.h1.shift.toNat ∧ 32 ≤ f.h2.shift.toNat ∧ f.ParserBuffer.Data.len < 4294967296 := by
  have hdb := verify_dh_bounds hk hv
  obtain ⟨_, hbs⟩ := verify_static k c hv
  obtain ⟨hws, hbl, hw, hlen⟩ := fresh_pbuf (cap := 0) h3.1 hbuf
  have hil1 : f.h1.inputLen.toNat = c.inputLen1.toNat := congrArg HashT.inputLen hd1
  have hil2 : f.h2.inputLen.toNat = c.inputLen2.toNat := congrArg HashT.inputLen hd2
  have hhb1 : 64 - f.h1.shift.toNat = c.hashBits1.toNat := congrArg HashT.hashBits hd1
  have hhb2 : 64 - f.h2.shift.toNat = c.hashBits2.toNat := congrArg HashT.hashBits hd2
  have hbs' : 1 ≤ c.blockSize.toNat := hbs
  have hs641 := h3.2.1.2.2.2.1
  have hs642 := h3.2.2.2.2.2.1
  have hi01 := h3.2.1.2.1
  exact ⟨hws.symm, hbl.symm, hil1.symm, by omega, by rw [hlen]; omega, by omega, by omega, by omega, by omega,
    by rw [hlen]; decide⟩

/-- **`ParseOKD` is what `init` establishes** (non-vacuity of the hypotheses of `gen_dhp_parse`) -/
theorem gen_dhp_init_parseOK (raw : Cfg) (p : Parser) (hp : newParser .DHP raw = some p) :
    ∃ s', doubleHashParser_init default (toDHP raw) = Res.ok (s', Gen.Err.ok) ∧ ofDHPs s' = p ∧ ParseOKD s' := by
  obtain ⟨s', h1, h2, h3⟩ := gen_dhp_init_fresh raw p hp
  refine ⟨s', h1, h2, ?_⟩
  obtain ⟨hv, rfl⟩ := newParser_eq_some hp
  generalize setDefaults .DHP (raw.restrict .DHP) = c at hv h2
  have hcfg : ofDHP s'.DHPConfig = c := congrArg Parser.cfg h2
  have hdict : Dict.double ⟨ofHash s'.doubleHashDictionary.h1, ofHash s'.doubleHashDictionary.h2⟩ =
      Dict.double ⟨HashT.new c.inputLen1.toNat c.hashBits1.toNat, HashT.new c.inputLen2.toNat c.hashBits2.toNat⟩ :=
    congrArg Parser.dict h2
  injection hdict with hdict
  injection hdict with hd1 hd2
  obtain ⟨f1, f2, f3, f4, f5, f6, f7, f8, f9, f10⟩ := fresh_ddict_facts .DHP (Or.inl rfl) c hv
    s'.doubleHashDictionary h3 (congrArg Parser.buf h2) hd1 hd2
  have cW : s'.DHPConfig.WindowSize = c.windowSize := congrArg Cfg.windowSize hcfg
  have cB : s'.DHPConfig.BlockSize = c.blockSize := congrArg Cfg.blockSize hcfg
  have cI : s'.DHPConfig.InputLen1 = c.inputLen1 := congrArg Cfg.inputLen1 hcfg
  exact ⟨h3, by rw [cW]; exact f1, by rw [cB]; exact f2, by rw [cI]; exact f3, by rw [cB]; exact f4,
    f5, f6, f7, f8, f9, f10⟩

/-! ## BDHP (bdhp.go `init` is dhp.go `init` modulo the type names, and so are the proofs) -/

/-- `bdhp.init(cfg)`: `raw` is the configuration as the model sees it (`toBDHP raw` the Go struct with
    the fields of `raw` that BDHPConfig has) -/
theorem gen_bdhp_init (s : Gen.bdhp) (raw : Cfg) (hw1 : GWF s.doubleHashDictionary.h1.table)
    (hw2 : GWF s.doubleHashDictionary.h2.table) :
    match newParser .BDHP raw with
    | none => ∃ e, bdhp_init s (toBDHP raw) = Res.ok (s, e) ∧ e ≠ Gen.Err.ok
    | some p => ∃ s', bdhp_init s (toBDHP raw) = Res.ok (s', Gen.Err.ok) ∧
        ofBDHPs s' = { p with buf := { p.buf with cap := s.doubleHashDictionary.ParserBuffer.Data.cap } } ∧
        DDictWF s'.doubleHashDictionary := by
  rcases tieBDHP.newParser_cases raw with ⟨hbad, hn⟩ | ⟨hok, -, hn⟩ <;> rw [hn] <;> unfold bdhp_init
  · init_simp [hbad]
    exact ⟨_, rfl, hbad⟩
  · obtain ⟨hbi, hvb⟩ := tieBDHP.buf_ready hok
    obtain ⟨hdi, hvd⟩ := tieBDHP.dh_ready (.inr rfl) hok
    generalize BDHPConfig_SetDefaults (toBDHP raw) = c' at *
    obtain ⟨f', hf, hofpb, hof1, hof2, hwf⟩ := gen_ddict_init s.doubleHashDictionary
      ⟨⟨c'.InputLen1, c'.HashBits1⟩, ⟨c'.InputLen2, c'.HashBits2⟩⟩
      ⟨c'.ShrinkSize, c'.BufferSize, c'.WindowSize, c'.BlockSize⟩ hw1 hw2 hbi hvb hdi hvd
    init_simp [hok, hf]
    exact ⟨_, rfl, congr (congrArg (Parser.mk .BDHP _) hofpb)
      (congrArg Dict.double (congr (congrArg Hash2.mk hof1) hof2)), hwf⟩

/-- … for the receiver `new(bdhp)` (all fields zero): exactly the model's fresh parser -/
theorem gen_bdhp_init_fresh (raw : Cfg) (p : Parser) (hp : newParser .BDHP raw = some p) :
    ∃ s', bdhp_init default (toBDHP raw) = Res.ok (s', Gen.Err.ok) ∧ ofBDHPs s' = p ∧
      DDictWF s'.doubleHashDictionary := by
  have := gen_bdhp_init default raw (by unfold GWF; exact Nat.le_refl 0) (by unfold GWF; exact Nat.le_refl 0)
  rw [hp] at this
  obtain ⟨s', h1, h2, h3⟩ := this
  exact ⟨s', h1, h2.trans (fresh_cap0 hp), h3⟩

/-- **`ParseOKBD` is what `init` establishes** (non-vacuity of the hypotheses of `gen_bdhp_parse`) -/
theorem gen_bdhp_init_parseOK (raw : Cfg) (p : Parser) (hp : newParser .BDHP raw = some p) :
    ∃ s', bdhp_init default (toBDHP raw) = Res.ok (s', Gen.Err.ok) ∧ ofBDHPs s' = p ∧ ParseOKBD s' := by
  obtain ⟨s', h1, h2, h3⟩ := gen_bdhp_init_fresh raw p hp
  refine ⟨s', h1, h2, ?_⟩
  obtain ⟨hv, rfl⟩ := newParser_eq_some hp
  generalize setDefaults .BDHP (raw.restrict .BDHP) = c at hv h2
  have hcfg : ofBDHP s'.BDHPConfig = c := congrArg Parser.cfg h2
  have hdict : Dict.double ⟨ofHash s'.doubleHashDictionary.h1, ofHash s'.doubleHashDictionary.h2⟩ =
      Dict.double ⟨HashT.new c.inputLen1.toNat c.hashBits1.toNat, HashT.new c.inputLen2.toNat c.hashBits2.toNat⟩ :=
    congrArg Parser.dict h2
  injection hdict with hdict
  injection hdict with hd1 hd2
  obtain ⟨f1, f2, f3, f4, f5, f6, f7, f8, f9, f10⟩ := fresh_ddict_facts .BDHP (Or.inr rfl) c hv
    s'.doubleHashDictionary h3 (congrArg Parser.buf h2) hd1 hd2
  have cW : s'.BDHPConfig.WindowSize = c.windowSize := congrArg Cfg.windowSize hcfg
  have cB : s'.BDHPConfig.BlockSize = c.blockSize := congrArg Cfg.blockSize hcfg
  have cI : s'.BDHPConfig.InputLen1 = c.inputLen1 := congrArg Cfg.inputLen1 hcfg
  exact ⟨h3, by rw [cW]; exact f1, by rw [cB]; exact f2, by rw [cI]; exact f3, by rw [cB]; exact f4,
    f5, f6, f7, f8, f9, f10⟩

end LZ.GenDHPInit

#print axioms LZ.GenDHPInit.gen_ddict_init
#print axioms LZ.GenDHPInit.gen_dhp_init
#print axioms LZ.GenDHPInit.gen_dhp_init_fresh
#print axioms LZ.GenDHPInit.gen_dhp_init_parseOK
#print axioms LZ.GenDHPInit.gen_bdhp_init
#print axioms LZ.GenDHPInit.gen_bdhp_init_fresh
#print axioms LZ.GenDHPInit.gen_bdhp_init_parseOK
#print axioms LZ.GenDHPInit.dhOf_ready
