/-
  LzProofs.RunsBucket — property C19, last sentence (the "run clause"), for BUP: a proven upper
  bound.

  BUP does NOT satisfy "at most one literal byte": a run block that starts exactly where the run
  starts can take the longest candidate of its bucket (an older run at a far offset) that ends fewer
  than `InputLen` bytes before the block end; those bytes cannot be hashed any more and stay
  literals (`bup_two_literals` below is a kernel-checked instance with 2 literals).  What holds for
  EVERY state with well-formed tables (in particular every reachable state) is

      blk.lits.length ≤ max 1 (InputLen - 1).

  The invariant `BucketOK` is purely structural (table sizes, ring indexes in range, `InputLen` of
  the table = `InputLen` of the configuration); nothing about the CONTENTS of the buckets is needed:
  whatever the first probe of the block does, from the second probed position on the bucket of the
  run key contains the entry the previous probe (or the re-indexing after the previous match)
  added, the scan prefers longer matches, and that entry offers a match up to the block end.
-/
import LzProofs.Runs
namespace LZ
open Parser PBuf

/-! ## keys of the bucket table -/

theorem BucketT.key_eq_hash (bk : BucketT) (p : List Byte) (i : Nat) :
    bk.key p i = (⟨#[], bk.inputLen, bk.hashBits⟩ : HashT).key p i := rfl

theorem bkey_take (bk : BucketT) (p : List Byte) (n i : Nat) (hi : i + bk.inputLen ≤ n) :
    bk.key (p.take n) i = bk.key p i := by
  rw [BucketT.key_eq_hash, BucketT.key_eq_hash]
  exact key_take _ p n i hi

/-! ## a bucket holds an entry -/

theorem BucketT.has_add {bk : BucketT} (hok : bk.OK) (h pos val : Nat) (hh : h < 2 ^ bk.hashBits) :
    (bk.add h pos val).Has h (pos, val) := by
  obtain ⟨h1, h2, h3, h4⟩ := hok
  refine ⟨bk.indexes.getD h 0, h4 h, ?_⟩
  show (bk.buckets.setIfInBounds (h * bk.bucketSize + bk.indexes.getD h 0) (pos, val)).getD
    (h * bk.bucketSize + bk.indexes.getD h 0) (0, 0) = (pos, val)
  have hlt : h * bk.bucketSize + bk.indexes.getD h 0 < bk.buckets.size := by
    rw [h1]
    have := h4 h
    calc h * bk.bucketSize + bk.indexes.getD h 0
        < h * bk.bucketSize + bk.bucketSize := by omega
      _ = (h + 1) * bk.bucketSize := by rw [Nat.add_mul, Nat.one_mul]
      _ ≤ 2 ^ bk.hashBits * bk.bucketSize := Nat.mul_le_mul_right _ hh
  rw [Array.getD_eq_getD_getElem?, Array.getElem?_setIfInBounds, if_pos rfl, if_pos hlt]
  rfl

theorem BucketT.has_insert {bk : BucketT} (hok : bk.OK) (p : List Byte) (i : Nat) :
    (bk.insert p i).Has (hashValue (bk.key p i) bk.hashBits) (i, lo32 (bk.key p i)) :=
  BucketT.has_add hok _ _ _ (hashValue_lt _ _)

theorem BucketT.insert_key (bk : BucketT) (p : List Byte) (i : Nat) (p' : List Byte) (j : Nat) :
    (bk.insert p i).key p' j = bk.key p' j := rfl

theorem BucketT.insert_hashBits (bk : BucketT) (p : List Byte) (i : Nat) :
    (bk.insert p i).hashBits = bk.hashBits := rfl

theorem BucketT.insert_inputLen (bk : BucketT) (p : List Byte) (i : Nat) :
    (bk.insert p i).inputLen = bk.inputLen := rfl

theorem BucketT.insertRange_inputLen (p : List Byte) : ∀ (n a : Nat) (bk : BucketT),
    (bk.insertRange p a n).inputLen = bk.inputLen :=
  fun n a _ => (BucketT.inputLen_kept _).insertRange p n a rfl

theorem BucketT.insertRange_succ (bk : BucketT) (p : List Byte) (a n : Nat) :
    bk.insertRange p a (n + 1) = (bk.insert p a).insertRange p (a + 1) n := rfl

theorem BucketT.has_insertRange (p : List Byte) : ∀ (n a : Nat) (bk : BucketT), bk.OK →
    (bk.insertRange p a (n + 1)).Has (hashValue (bk.key p (a + n)) bk.hashBits)
      (a + n, lo32 (bk.key p (a + n))) := by
  intro n
  induction n with
  | zero =>
    intro a bk hok
    exact BucketT.has_insert hok p a
  | succ n ih =>
    intro a bk hok
    rw [BucketT.insertRange_succ]
    have := ih (a + 1) (bk.insert p a) (BucketT.ok_insert hok p a)
    rw [BucketT.insert_key, BucketT.insert_hashBits] at this
    have e : a + 1 + n = a + (n + 1) := by omega
    rw [e] at this
    exact this

/-! ## insertion keeps hash bits, keys and `InputLen` -/

theorem BucketT.insertRange_hashBits (p : List Byte) : ∀ (n a : Nat) (bk : BucketT),
    (bk.insertRange p a n).hashBits = bk.hashBits := by
  intro n
  induction n with
  | zero => intro a bk; rfl
  | succ n ih => intro a bk; exact ih _ _

theorem BucketT.insertRange_key (p : List Byte) (n a : Nat) (bk : BucketT) (p' : List Byte) (j : Nat) :
    (bk.insertRange p a n).key p' j = bk.key p' j := by
  unfold BucketT.key
  rw [BucketT.insertRange_inputLen]

theorem bupProbe_inputLen (ws mm ie : Nat) (bk : BucketT) (p : List Byte) (i li : Nat) :
    (bupProbe ws mm ie bk p i li).1.inputLen = bk.inputLen :=
  bupProbe_kept (BucketT.inputLen_kept _) ws mm ie rfl p i li

theorem processSegmentB_inputLen (bk : BucketT) (data : List Byte) (a e : Int) :
    (processSegmentB bk data a e).inputLen = bk.inputLen :=
  processSegmentB_kept (BucketT.inputLen_kept _) rfl data a e

/-! ## block level -/

/-- block level, BUP: `runGreedy` on a run block without `NoTrailingLiterals`, from ANY
    well-formed bucket table, emits at most `max 1 (inputLen - 1)` literals: behind the first probe
    the bucket of the run key holds the position just inserted, the scan prefers longer matches, and
    that entry offers a match up to the block end -/
theorem bup_run_block (ws mm : Nat) (bk : BucketT) (p : List Byte) (w n : Nat) (b : Byte)
    (flags : Nat) (hf : flags % 2 = 0)
    (hR : RunBlock p w n b) (hok : bk.OK) (hil1 : 1 ≤ bk.inputLen) (hil8 : bk.inputLen ≤ 8)
    (hws : 1 ≤ ws) (hmm1 : 1 ≤ mm) (hmm : mm ≤ bk.inputLen) :
    (Parser.runGreedy ⟨bupProbe ws mm (p.length + 1 - bk.inputLen)⟩ bk p w
      (p.length + 1 - bk.inputLen) flags).2.2.1.lits.length ≤ max 1 (bk.inputLen - 1) := by
  have hlen := hR.len
  have hn := hR.n32
  have hkey : ∀ q, w ≤ q → q + bk.inputLen ≤ w + n → bk.key p q = bk.key p w :=
    fun q h1 h2 => hR.key_eq ⟨#[], bk.inputLen, bk.hashBits⟩ q h1 h2
  apply runGreedy_two_probes _ p w _ _ flags bk
    (fun d i => w + 1 ≤ i ∧ i + bk.inputLen ≤ w + n ∧
      d.Has (hashValue (d.key p i) d.hashBits) (i - 1, lo32 (d.key p i)))
    hf (by omega) (by omega)
  · intro d i li ⟨h1, h2, hhas⟩ hli
    have hge := bupBest_ge d p i ws (i - 1) hhas (by omega) (by omega)
    have hle := bupBest_le d p i ws
    rw [hR.lcp (i - 1) i (by omega) (by omega) (by omega)] at hge
    have hpe := bupProbe_eq ws mm (p.length + 1 - bk.inputLen) d p i li
    rw [if_neg (by omega), show (bupBest d p i ws).2 = p.length - i + 0 by omega] at hpe
    exact ⟨by omega, _, 0, _, Nat.zero_le _, hpe⟩
  · -- no match at `w`: one literal, then the match with the entry of `w`
    intro d' hp
    dsimp only at hp
    rw [bupProbe_eq] at hp
    split at hp
    · cases hp
      refine ⟨Nat.le_refl _, by omega, ?_⟩
      rw [BucketT.insert_key, BucketT.insert_hashBits, hkey (w + 1) (by omega) (by omega), Nat.add_sub_cancel]
      exact BucketT.has_insert hok p w
    · cases hp
  · -- a match from an older entry
    intro d' s k o hp
    dsimp only at hp
    rw [bupProbe_eq] at hp
    split at hp
    · cases hp
    · rename_i hc
      cases hp
      have hle := bupBest_le bk p w ws
      generalize (bupBest bk p w ws).2 = k at hc hle ⊢
      refine ⟨rfl, by omega, ?_⟩
      by_cases hend : w + k + bk.inputLen ≤ w + n
      · -- the match ends where positions can still be hashed: the next probe reaches the block end
        left
        refine ⟨by omega, hend, ?_⟩
        rw [min_sub_succ w k _ (by omega), ← BucketT.insertRange_succ, BucketT.insertRange_key, BucketT.insertRange_hashBits,
          hkey (w + k) (by omega) hend]
        have := BucketT.has_insertRange p (k - 1) w bk hok
        rw [hkey (w + (k - 1)) (by omega) (by omega), show w + (k - 1) = w + k - 1 by omega] at this
        exact this
      · -- the match ends behind the last hashable position: fewer than `inputLen` bytes are left
        right; omega

/-! ## the state invariant -/

/-- The state has a well-formed bucket table (`2^hashBits * bucketSize` slots, `2^hashBits` ring
    indexes, each `< bucketSize`, `bucketSize ≥ 1`) whose `InputLen` is the one of the configuration.
    Nothing is said about the contents of the buckets. -/
def BucketOK (s : Parser) : Prop :=
  ∃ bk, s.dict = .bucket bk ∧ bk.OK ∧ bk.inputLen = s.cfg.inputLen.toNat

/-! ## one `Parse` call -/

/-- C19, run clause, BUP, one call: the proven bound.  `s` is a BUP state with a well-formed
    bucket table (`BucketOK`; every reachable BUP state is one, `Base.bucketOK`),
    `1 ≤ InputLen ≤ 8`, window size `≥ 1`.  If `Parse(&blk, flags)` without `NoTrailingLiterals`
    returns a block of `n ≥ 32` bytes that all equal `b`, the block has at most
    `max 1 (InputLen - 1)` literals.  (The bound `1` of the other hash parsers does not hold:
    `bup_two_literals`.) -/
theorem C19_run_bup_partial (s : Parser) (hk : s.kind = .BUP) (hF : BucketOK s)
    (hw : s.buf.w ≤ s.buf.data.length) (hil1 : 1 ≤ s.cfg.inputLen.toNat)
    (hil8 : s.cfg.inputLen.toNat ≤ 8) (hws : 1 ≤ s.buf.cfg.windowSize)
    (flags : Nat) (s' : Parser) (n : Nat) (blk : Block) (b : Byte)
    (hp : s.parse flags = (s', n, .ok, blk)) (hf : flags % 2 = 0) (hn : 32 ≤ n)
    (hrun : ∀ t, t < n → s.buf.data[s.buf.w + t]? = some b) :
    blk.lits.length ≤ max 1 (s.cfg.inputLen.toNat - 1) := by
  obtain ⟨bk, hd, hok, hil⟩ := hF
  obtain ⟨hR, -, rfl⟩ := run_call _ _ _ hw hp hf hn hrun
    (fun hn0 hm => ⟨_, _, parse_bucket s flags bk hd hn0 hm⟩)
  have hil' := processSegmentB_inputLen bk s.buf.data ((s.buf.w : Int) - bk.inputLen + 1) s.buf.w
  have hmm : s.minMatch = min 3 s.cfg.inputLen.toNat := by
    unfold Parser.minMatch; rw [hk]
  refine Nat.le_trans (bup_run_block s.buf.cfg.windowSize s.minMatch _ s.blockPrefix s.buf.w n b flags hf hR
    (ok_processSegmentB hok _ _ _) (by rw [hil', hil]; exact hil1) (by rw [hil', hil]; exact hil8) hws
    (by rw [hmm]; omega) (by rw [hil', hil, hmm]; omega)) ?_
  rw [hil', hil]
  exact Nat.le_refl _

/-! ## history level -/

/-- a reachable BUP state has a well-formed bucket table with the `InputLen` of the configuration -/
theorem Base.bucketOK {s0 s : Parser} (hB : Base .BUP s0 s) : BucketOK s := by
  obtain ⟨bk, hd, hs⟩ := hB.shape.bucket
  have ht := hB.tables
  rw [hd] at ht
  exact ⟨bk, hd, ht, by rw [hs.2.2.1, hB.cfg]⟩

/-- C19, run clause, history level, BUP: the proven bound.  For every accepted BUP
    configuration, every history of `Write`, `ReadFrom`, `Parse` (any flags), `Parse(nil)`, `Shrink`,
    `Reset`: if the next `Parse(&blk, flags)` without `NoTrailingLiterals` returns a block of
    `n ≥ 32` bytes, all equal to one byte `b`, the block carries at most `max 1 (InputLen - 1)` literal
    bytes (`InputLen` of the configuration `ParserConfig()` reports; `2 ≤ InputLen ≤ 8`, so the bound
    is `1` for `InputLen = 2` and `InputLen - 1` otherwise). -/
theorem C19_run_bup_partial_reachable (raw : Cfg) (s0 : Parser) (h0 : newParser .BUP raw = some s0)
    (ops : List POp) (flags : Nat) (s' : Parser) (n : Nat) (blk : Block) (b : Byte) :
    let s := (runOps (s0, Ghost.init) ops).1
    s.parse flags = (s', n, .ok, blk) → flags % 2 = 0 → 32 ≤ n →
    (∀ t, t < n → s.buf.data[s.buf.w + t]? = some b) →
    blk.lits.length ≤ max 1 (s0.cfg.inputLen.toNat - 1) := by
  intro s hp hf hn hrun
  have hr := reachable_runOps s0 ops
  have hB := hr.base h0
  obtain ⟨hw, hws, -⟩ := reachable_hash h0 (by decide) hr
  obtain ⟨b2, b3⟩ := (verify_inputLen (newParser_verify h0)).1 (Or.inr (Or.inr rfl))
  have := C19_run_bup_partial s hB.kind hB.bucketOK hw (by rw [hB.cfg]; omega) (by rw [hB.cfg]; exact b3)
    hws flags s' n blk b hp hf hn hrun
  rw [hB.cfg] at this
  exact this

/-! ## non-vacuity, and a kernel-checked witness that the bound `1` fails -/

section Examples

/-- all hypotheses of `C19_run_bup_partial_reachable` are satisfiable (configuration `runCfg` of
    LzProofs/Runs.lean: InputLen 3, 16 buckets, BucketSize 10 by default): after writing 40 equal
    bytes the first `Parse` returns a block of `n = 32 = BlockSize` equal bytes -/
example : ∃ s' blk,
    let s := (runOps (runS0 .BUP, Ghost.init) runOpsEx).1
    newParser .BUP runCfg = some (runS0 .BUP) ∧
    s.parse 0 = (s', 32, .ok, blk) ∧ (∀ t, t < 32 → s.buf.data[s.buf.w + t]? = some 97) ∧
    blk.lits.length ≤ max 1 ((runS0 .BUP).cfg.inputLen.toNat - 1) ∧
    max 1 ((runS0 .BUP).cfg.inputLen.toNat - 1) = 2 := by
  have hv : verify .BUP (setDefaults .BUP (runCfg.restrict .BUP)) = true := by decide
  obtain ⟨s', blk, hp, hrun⟩ := runOpsEx_block .BUP (by decide) hv (by decide) (by decide) (by decide)
  exact ⟨s', blk, runS0_new .BUP hv, hp, hrun,
    C19_run_bup_partial_reachable runCfg _ (runS0_new .BUP hv) runOpsEx 0 s' 32 blk 97 hp rfl
      (Nat.le_refl _) hrun, by decide⟩

/-- WindowSize 64 = BufferSize, BlockSize 32, InputLen 3, 2 buckets of 32 slots -/
def bupCfg : Cfg :=
  { windowSize := 64, bufferSize := 64, blockSize := 32, shrinkSize := 16, inputLen := 3, hashBits := 1,
    bucketSize := 32 }

/-- the parser `NewParser` returns for `bupCfg` -/
def bupS0 : Parser :=
  { kind := .BUP, cfg := setDefaults .BUP (bupCfg.restrict .BUP),
    buf := PBuf.init (setDefaults .BUP (bupCfg.restrict .BUP)).bufCfg,
    dict := freshDict .BUP (setDefaults .BUP (bupCfg.restrict .BUP)) }

theorem bupS0_new : newParser .BUP bupCfg = some bupS0 :=
  newParser_of_verify (by decide)

/-- the history: `Write(a^30 b)`, `Parse(nil)`, `Write(a^32)` -/
def bupOps : List POp :=
  [.write (List.replicate 30 97 ++ [98]), .parseNil, .write (List.replicate 32 97)]

/-- The bound `≤ 1` of HP/BHP/DHP is violated by BUP (kernel-checked, `decide`): in the state
    reached by the history `bupOps` from `NewParser(bupCfg)` (InputLen 3) the next `Parse` returns the
    block `[31, 63)` of 32 bytes `a`; it is parsed as ONE match of length 30 with offset 31 (the old
    run `a^30` at position 0, the longest candidate of the bucket) followed by TWO literals — the
    last `InputLen - 1` bytes cannot be hashed.  `C19_run_bup_partial` is sharp here. -/
theorem bup_two_literals :
    let s := (runOps (bupS0, Ghost.init) bupOps).1
    newParser .BUP bupCfg = some bupS0 ∧
    (s.parse 0).2.1 = 32 ∧ (s.parse 0).2.2.1 = .ok ∧
    (∀ t, t < 32 → s.buf.data[s.buf.w + t]? = some 97) ∧
    (s.parse 0).2.2.2.seqs = [⟨0, 30, 31, 0⟩] ∧ (s.parse 0).2.2.2.lits = [97, 97] ∧
    (s.parse 0).2.2.2.lits.length = max 1 (s.cfg.inputLen.toNat - 1) := by
  intro s
  have hdata : s.buf.w = 31 ∧ s.buf.data = List.replicate 30 97 ++ [98] ++ List.replicate 32 97 := by
    decide +kernel
  have hpar : (s.parse 0).2.1 = 32 ∧ (s.parse 0).2.2.1 = .ok ∧
      (s.parse 0).2.2.2.seqs = [⟨0, 30, 31, 0⟩] ∧ (s.parse 0).2.2.2.lits = [97, 97] := by
    unfold Parser.parse
    simp only [Parser.runGreedy_eq_F]
    decide +kernel
  refine ⟨bupS0_new, hpar.1, hpar.2.1, ?_, hpar.2.2.1, hpar.2.2.2, ?_⟩
  · intro t ht
    rw [hdata.1, hdata.2, List.getElem?_append_right (by simp), List.getElem?_replicate,
      if_pos (by simp; omega)]
  · rw [hpar.2.2.2]; decide

end Examples

end LZ

#print axioms LZ.C19_run_bup_partial_reachable
#print axioms LZ.bup_two_literals
