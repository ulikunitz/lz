/-
  The translated code of suffix/segments.go
  (LzModel/Generated/CodeSuffixSegments.lean) equals the hand-written model (LzModel/Suffix.lean:
  `popLoop`, `scanFrom`, `scanLCP`, `segments`).

  The callback `f` of `scanLCP` / `Segments` is logged by the translation (code_part4.go): the
  translated functions return the list of the calls `(m, sa[lo:hi])` in call order, the slice as a
  value.  The model returns `(m, lo, hi)`; `cbOf sa` maps a model callback to the logged pair.

  Stack: the Go slice has its top at the end, the model's list at the head:
  `stack.data = d.reverse`, model stack `d.map ofItem`.  The model side of the inner loop is
  rewritten by the equations of `popLoop` in Scan.lean (`popLoop_pop`, `popLoop_same`, `popLoop_push`).
-/
import LzModel.Generated.CodeSuffixSegments
import LzModel.Suffix
import LzProofs.GenSuffixPropsBase
import LzProofs.Scan

set_option linter.unusedSimpArgs false
set_option linter.unusedVariables false

namespace LZ.GenSuffix
open LZ LZ.Gen LZ.GenBuf LZ.GenHash

abbrev GItem := suffix_scanLCP_item
abbrev Log := List (Int × GSlice Int32)

/-- a stack entry of the translation as the model's `Item` -/
def ofItem (it : GItem) : Item := ⟨it.n.toInt, it.j.toInt.toNat⟩

/-- the logged form of the model callback `(m, lo, hi)` = `f(m, sa[lo:hi])` -/
def cbOf (sa : GSlice Int32) (c : Callback) : Int × GSlice Int32 :=
  ((c.1 : Int), { arr := sa.arr.drop c.2.1, len := c.2.2 - c.2.1 })

/-! ## slice operations on the stack -/

theorem glast {α : Type} (z : α) (s : GSlice α) (h : GWF s) (init : List α) (t0 : α) (hd : s.data = init ++ [t0]) :
    s.len = init.length + 1 ∧
    GSlice.index z s ((Int.ofNat s.len) - 1) = Res.ok t0 ∧
    ∃ s', GSlice.slice s 0 ((Int.ofNat s.len) - 1) = Res.ok s' ∧ s'.data = init ∧ GWF s' ∧ s'.len = init.length := by
  have hlen : s.len = init.length + 1 := by
    have := gdata_length h; rw [hd] at this; simp at this; omega
  unfold GWF at h
  refine ⟨hlen, ?_, ?_⟩
  · rw [gindex_ok z s _ init.length (by show (s.len : Int) - 1 = _; omega) (by omega)]
    have : s.data[init.length]? = some t0 := by rw [hd]; simp
    rw [gdata_getElem?] at this
    simp only [show init.length < s.len by omega, if_true] at this
    rw [this]; rfl
  · rw [gslice_ok s 0 _ 0 init.length rfl (by show (s.len : Int) - 1 = _; omega) (by omega) (by omega)]
    refine ⟨_, rfl, ?_, ?_, rfl⟩
    · simp only [GSlice.data, List.drop_zero, Nat.sub_zero]
      have : (s.arr.take s.len).take init.length = (init ++ [t0]).take init.length := by
        show s.data.take init.length = _; rw [hd]
      rw [List.take_take] at this
      simp [show min init.length s.len = init.length by omega] at this
      exact this
    · unfold GWF; simp; omega

/-! ## the inner loop (pop) -/

/-- a `bind` whose first computation succeeds with a value that satisfies `P` (the computation
    itself is taken from the goal by unification, it is never written down in the proofs) -/
theorem bind_ex {α β : Type} {e : Res α} {k : α → Res β} {Q : β → Prop} (P : α → Prop)
    (h1 : ∃ a, e = Res.ok a ∧ P a) (h2 : ∀ a, P a → ∃ r, k a = Res.ok r ∧ Q r) :
    ∃ r, Res.bind e k = Res.ok r ∧ Q r := by
  obtain ⟨a, rfl, ha⟩ := h1
  exact h2 a ha

/-- invariant of the entries of the stack at index `j` -/
def StackOK (d : List GItem) (j : Int32) : Prop :=
  ∀ it ∈ d, 0 ≤ it.n.toInt ∧ 0 ≤ it.j.toInt ∧ it.j.toInt ≤ j.toInt

/-- The inner loop.  State in declaration order `(f, stack, left)`, result `(code, f, stack, left)`.
    `jn`, `ln` are the values of the `int32` variables `j`, `left`.
    The proof decides every `if` of the translated text by `omega` from the case of the model
    (`simp (disch := omega) only [… if_pos, if_neg]`), so the order, the polarity and the number of
    the `if`s do not matter. -/
theorem pop_loop_eq (grow : Nat → Nat → Nat) (n minLen : Int32) (sa : GSlice Int32) (j : Int32) (jn : Nat)
    (hj : j.toInt = jn) (hjc : jn ≤ sa.arr.length) :
    ∀ (d : List GItem) (fuel : Nat) (f : Log) (stack : GSlice GItem) (left : Int32) (ln : Nat) (out : List Callback),
      d.length < fuel → GWF stack → stack.data = d.reverse → d ≠ [] → StackOK d j →
      left.toInt = ln → ln ≤ jn → f = out.map (cbOf sa) →
      ∃ r, suffix_scanLCP_loop_2 grow n minLen sa j fuel f stack left = Res.ok r ∧
        (r.2.1 = (popLoop minLen.toInt n.toInt jn ln (d.map ofItem) out).2.map (cbOf sa) ∧
        GWF r.2.2.1 ∧
        match (popLoop minLen.toInt n.toInt jn ln (d.map ofItem) out).1 with
        | some st' => r.1 = 1 ∧ ∃ d', r.2.2.1.data = d'.reverse ∧ st' = d'.map ofItem ∧ d' ≠ [] ∧
            d'.length ≤ d.length + 1 ∧ StackOK d' j
        | none => r.1 = 2) := by
  intro d
  induction d with
  | nil => intro _ _ _ _ _ _ _ _ _ h; exact absurd rfl h
  | cons t0 d1 ih =>
    intro fuel f stack left ln out hfuel hw hdata _ hok hl hlj hf
    obtain ⟨fuel', rfl⟩ : ∃ k, fuel = k + 1 := ⟨fuel - 1, by simp at hfuel; omega⟩
    have hdata' : stack.data = d1.reverse ++ [t0] := by rw [hdata, List.reverse_cons]
    obtain ⟨hlen, hidx, s', hsl, hsd, hsw, hsl'⟩ := glast ({ n := 0, j := 0 } : GItem) stack hw _ _ hdata'
    obtain ⟨ht0n, ht0j, ht0jj⟩ := hok t0 List.mem_cons_self
    have ht0jn : t0.j.toInt = (t0.j.toInt.toNat : Nat) := (Int.toNat_of_nonneg ht0j).symm
    have ht0le : t0.j.toInt.toNat ≤ jn := by omega
    have hofn : (ofItem t0).n = t0.n.toInt := rfl
    have hofj : (ofItem t0).j = t0.j.toInt.toNat := rfl
    have hslice := gslice_ok sa t0.j.toInt j.toInt t0.j.toInt.toNat jn ht0jn hj ht0le hjc
    rw [suffix_scanLCP_loop_2]
    simp only [hidx, hsl, hslice, bind_ok, List.map_cons]
    clear hslice hidx hsl hdata' ht0jn
    rcases Int.lt_trichotomy n.toInt t0.n.toInt with hlt | heq | hgt
    · -- pop
      rw [popLoop_pop _ _ _ _ _ _ _ (show n.toInt < (ofItem t0).n from hlt)]
      simp only [hofn, hofj]
      generalize hout' : (if t0.n.toInt ≥ minLen.toInt then out ++ [(t0.n.toInt.toNat, t0.j.toInt.toNat, jn)] else out) = out'
      simp (disch := omega) only [i32_gt_iff, i32_ge_iff, i32_lt_iff, i32_le_iff, i32_eq_iff, if_pos, if_neg]
      refine bind_ex (fun fj => fj = out'.map (cbOf sa)) ?_ ?_
      · subst hf hout'
        by_cases h3 : t0.n.toInt ≥ minLen.toInt
        · simp (disch := omega) only [if_pos, if_neg]
          refine ⟨_, rfl, ?_⟩
          simp only [List.map_append, List.map_cons, List.map_nil, cbOf, Int.toNat_of_nonneg ht0n]
        · simp (disch := omega) only [if_pos, if_neg]
          exact ⟨_, rfl, rfl⟩
      · intro fj hfj
        cases d1 with
        | nil =>
          have : s'.len = 0 := by simpa using hsl'
          simp (disch := omega) only [Int.ofNat_eq_natCast, if_pos, if_neg, List.map_nil, popLoop]
          exact ⟨_, rfl, hfj, hsw, rfl⟩
        | cons t1 d2 =>
          have : s'.len = d2.length + 1 := by simpa using hsl'
          simp (disch := omega) only [Int.ofNat_eq_natCast, if_pos, if_neg, List.map_cons]
          obtain ⟨r, e1, e2, e3, e4⟩ := ih fuel' fj s' t0.j _ out'
            (by simp at hfuel ⊢; omega) hsw (by rw [hsd]) (List.cons_ne_nil _ _)
            (fun it hit => hok it (List.mem_cons_of_mem _ hit)) (Int.toNat_of_nonneg ht0j).symm ht0le hfj
          simp only [List.map_cons] at e2 e4
          refine ⟨r, e1, e2, e3, ?_⟩
          revert e4
          split
          · rintro ⟨hc, d', h1, h2, h3, h4, h5⟩
            exact ⟨hc, d', h1, h2, h3, Nat.le_succ_of_le h4, h5⟩
          · exact id
    · -- equal: nothing happens
      rw [popLoop_same _ _ _ _ _ _ _ (show n.toInt = (ofItem t0).n from heq)]
      simp (disch := omega) only [i32_gt_iff, i32_ge_iff, i32_lt_iff, i32_le_iff, i32_eq_iff, if_pos, if_neg]
      exact ⟨_, rfl, by rw [hf], hw, rfl, t0 :: d1, hdata, rfl, List.cons_ne_nil _ _, Nat.le_succ _, hok⟩
    · -- push
      rw [popLoop_push _ _ _ _ _ _ _ (show (ofItem t0).n < n.toInt from hgt)]
      simp (disch := omega) only [i32_gt_iff, i32_ge_iff, i32_lt_iff, i32_le_iff, i32_eq_iff, if_pos, if_neg]
      obtain ⟨ad, aw⟩ := gappend_data ({ n := 0, j := 0 } : GItem) grow stack hw ({ n := n, j := left } : GItem)
      refine ⟨_, rfl, by rw [hf], aw, rfl, ({ n := n, j := left } : GItem) :: t0 :: d1, ?_, ?_,
        List.cons_ne_nil _ _, Nat.le_refl _, ?_⟩
      · rw [ad, hdata, List.reverse_cons (a := ({ n := n, j := left } : GItem))]
      · simp only [List.map_cons, ofItem, hl, Int.toNat_natCast]
      · intro it hit
        rcases List.mem_cons.1 hit with rfl | hit
        · exact ⟨show 0 ≤ n.toInt by omega, show 0 ≤ left.toInt by omega, show left.toInt ≤ j.toInt by omega⟩
        · exact hok it hit

/-! ## the outer loop (scan) -/

theorem stackOK_mono {d : List GItem} {j j' : Int32} (h : StackOK d j) (hjj : j.toInt ≤ j'.toInt) : StackOK d j' :=
  fun it hit => ⟨(h it hit).1, (h it hit).2.1, by have := (h it hit).2.2; omega⟩

/-- The outer loop.  State in declaration order `(f, stack, j)`; `jn` is the value of `j`.  The clamped
    table entry `n` is whatever computation the translated text binds first (inline `if`s, or a helper
    unfolded by `gen_helper`); only its value is specified (`bind_ex`). -/
theorem scan_loop_eq (grow : Nat → Nat → Nat) (lcp sa : GSlice Int32) (maxLen minLen : Int32)
    (hl : GWF lcp) (hnn : NonNeg lcp) (h31 : lcp.len ≤ 2147483647) (hcap : lcp.len ≤ sa.arr.length) :
    ∀ (m fuel : Nat) (f : Log) (stack : GSlice GItem) (j : Int32) (jn : Nat) (d : List GItem) (out : List Callback),
      j.toInt = jn → 1 ≤ jn → jn + m = lcp.len + 1 → 1 ≤ m → d.length + 2 * m ≤ fuel →
      GWF stack → stack.data = d.reverse → d ≠ [] → StackOK d j → f = out.map (cbOf sa) →
      ∃ r, suffix_scanLCP_loop_1 grow lcp maxLen minLen sa fuel f stack j = Res.ok r ∧
        r.1 = (scanFrom (absI32 lcp) minLen.toInt maxLen.toInt jn (d.map ofItem) out).map (cbOf sa) := by
  intro m
  induction m with
  | zero => intro _ _ _ _ _ _ _ _ _ _ h; omega
  | succ m' ih =>
    intro fuel f stack j jn d out hj hj1 hjm _ hfuel hw hdata hne hok hf
    obtain ⟨fuel', rfl⟩ : ∃ k, fuel = k + 1 := ⟨fuel - 1, by omega⟩
    have hlen32 : (Int32.ofInt (Int.ofNat lcp.len)).toInt = (lcp.len : Int) := i32_ofNat _ h31
    have hleft := i32_pred_nat j hj hj1
    rw [suffix_scanLCP_loop_1, scanFrom]
    simp only [gen_helper, bind_ok, absI32_size hl, show jn ≤ lcp.len by omega, if_true]
    -- the clipped value n
    refine bind_ex (fun nn : Int32 => nn.toInt =
      (if jn < lcp.len then min (((absI32 lcp).getD jn 0 : Nat) : Int) maxLen.toInt else -1)) ?_ ?_
    · by_cases hlt' : jn < lcp.len
      · have hidx := gindex_ok (0 : Int32) lcp j.toInt jn hj hlt'
        simp (disch := omega) only [i32_gt_iff, i32_ge_iff, i32_lt_iff, i32_le_iff, i32_eq_iff, hlen32,
          if_pos, if_neg, hidx, bind_ok]
        refine ⟨_, rfl, ?_⟩
        have hx0 := hnn _ hlt'
        rw [absI32_getD hl _ hlt']
        generalize (lcp.arr[jn]?).getD 0 = x at hx0
        have hxi : ((i32n x : Nat) : Int) = x.toInt := Int.toNat_of_nonneg hx0
        rw [hxi]
        split <;> omega
      · simp (disch := omega) only [i32_gt_iff, i32_ge_iff, i32_lt_iff, i32_le_iff, i32_eq_iff, hlen32,
          if_pos, if_neg, bind_ok]
        exact ⟨_, rfl, i32_neg_one⟩
    intro nn hn2
    have hneg : ¬ jn < lcp.len → nn.toInt = -1 := fun h => by rw [hn2, if_neg h]
    rw [← hn2]
    clear hn2 hlen32
    obtain ⟨⟨code, f', stack', left'⟩, e1, e2, e3, e4⟩ := pop_loop_eq grow nn minLen sa j jn hj (by omega)
      d fuel' f stack (j - 1) (jn - 1) out (by omega) hw hdata hne hok hleft (Nat.sub_le _ _) hf
    rw [e1]
    simp only [bind_ok]
    generalize hpr : popLoop minLen.toInt nn.toInt jn (jn - 1) (d.map ofItem) out = pr at e2 e4 ⊢
    obtain ⟨o, out'⟩ := pr
    cases o with
    | none =>
      have e4 : code = 2 := e4
      subst e4
      simp (disch := omega) only [if_pos, if_neg]
      exact ⟨_, rfl, e2⟩
    | some st' =>
      obtain ⟨hc, d', h1, h2, h3, h4, h5⟩ := e4
      subst hc
      simp (disch := omega) only [if_pos, if_neg]
      -- j < len(lcp), otherwise n = -1 and the stack would have been emptied
      have hjlt : jn < lcp.len := by
        apply Classical.byContradiction
        intro hge
        have := popLoop_neg minLen.toInt jn (d.map ofItem) (jn - 1) out (by
          intro it hit
          obtain ⟨g, hg, rfl⟩ := List.mem_map.1 hit
          exact (hok g hg).1)
        rw [← hneg hge, hpr] at this
        exact absurd this (by simp)
      have hsucc := i32_succ_nat j hj (by omega)
      obtain ⟨r, e, er⟩ := ih fuel' f' stack' (j + 1) (jn + 1) d' out' hsucc
        (by omega) (by omega) (by omega) (by omega) e3 h1 h3 (stackOK_mono h5 (by omega)) e2
      exact ⟨r, e, by rw [er, h2]⟩

/-- `make([]item, 1, c)` for any capacity `c ≥ 1`: a stack that holds one zero entry -/
theorem bind_make {β : Type} (c : Int) (hc : 1 ≤ c) (k : GSlice GItem → Res β) (r : Res β)
    (h : ∀ s0 : GSlice GItem, GWF s0 → s0.data = [({ n := 0, j := 0 } : GItem)] → k s0 = r) :
    Res.bind (GSlice.make ({ n := 0, j := 0 } : GItem) (1 : Int) c) k = r := by
  rw [gmake_eq _ (1 : Int) c ⟨by decide, hc⟩]
  simp only [bind_ok]
  apply h
  · exact gwf_make _ (by omega)
  · obtain ⟨n, rfl⟩ : ∃ n : Nat, c = ((n + 1 : Nat) : Int) := ⟨(c - 1).toNat, by omega⟩
    simp [GSlice.data, List.replicate_succ]

/-- `scanLCP` = `LZ.scanLCP` on a non-empty table.  (For `len(lcp) = 0` code and model differ: the Go loop
    starts at `j = 1`, reads `n = -1`, pops the bottom entry and — if `minLen ≤ 0` — calls
    `f(0, sa[0:1])` or panics in `sa[0:1]`, whereas `LZ.scanLCP #[] = []`.  `Segments` returns before
    the scan when `len(sa) = 0`, so the difference is unreachable through it: `gen_segments` has no such hypothesis.) -/
theorem gen_scanLCP (grow : Nat → Nat → Nat) (fuel : Nat) (sa lcp : GSlice Int32) (minLen maxLen : Int32)
    (hl : GWF lcp) (hnn : NonNeg lcp) (hpos : 1 ≤ lcp.len) (h31 : lcp.len ≤ 2147483647)
    (hcap : lcp.len ≤ sa.arr.length) (hf : 2 * lcp.len + 3 ≤ fuel) :
    suffix_scanLCP grow fuel sa lcp minLen maxLen =
      Res.ok ((scanLCP (absI32 lcp) minLen.toInt maxLen.toInt).map (cbOf sa)) := by
  unfold suffix_scanLCP
  apply bind_make _ (by decide)
  intro s0 hw0 hd0
  obtain ⟨r, e, er⟩ := scan_loop_eq grow lcp sa maxLen minLen hl hnn h31 hcap lcp.len fuel []
    s0 1 1 [({ n := 0, j := 0 } : GItem)] [] i32_one (Nat.le_refl _) (by omega) hpos
    (by show 1 + 2 * lcp.len ≤ fuel; omega) hw0 (by rw [hd0]; rfl) (List.cons_ne_nil _ _)
    (by intro it hit; simp at hit; subst hit; simp [i32_zero, i32_one]) rfl
  simp only [e, bind_ok, er, scanLCP]
  rfl

/-- `Segments` = `LZ.segments`: the two argument panics, the early returns (`maxLen < minLen`,
    empty `sa`, `minLen > MaxInt32`), the clamp of `maxLen` to MaxInt32, then the scan.  The log of
    the callback `f` is the model's callback list.

    The proof follows the cases of the model and decides every `if` of the translated text by
    `omega`; the two `int32` arguments of the scan are taken from the goal by unification (`rw [gen_scanLCP … _ _ …]`),
    only their values are proved. -/
theorem gen_segments (grow : Nat → Nat → Nat) (fuel : Nat) (sa lcp : GSlice Int32) (minLen maxLen : Int)
    (hsa : GWF sa) (hl : GWF lcp) (hnn : NonNeg lcp) (h31 : lcp.len ≤ 2147483647)
    (hf : 2 * lcp.len + 3 ≤ fuel) :
    suffix_Segments grow fuel sa lcp minLen maxLen =
      match segments sa.len (absI32 lcp) minLen maxLen with
      | none => Res.panic
      | some cbs => Res.ok (cbs.map (cbOf sa)) := by
  unfold suffix_Segments segments
  rw [absI32_size hl]
  have h32 : (2147483647 : Int32).toInt = 2147483647 := by decide
  by_cases h1 : sa.len = lcp.len
  · by_cases h2 : minLen < 0
    · simp (disch := omega) only [Int.ofNat_eq_natCast, if_pos, if_neg]
    · -- every atomic condition of the early returns is decided, so that grouping and order of
      -- the `||` chain in the source do not matter
      by_cases ha : maxLen < minLen
      · simp (disch := omega) only [Int.ofNat_eq_natCast, if_pos, if_neg, List.map_nil]
      by_cases hb : sa.len = 0
      · simp (disch := omega) only [Int.ofNat_eq_natCast, if_pos, if_neg, List.map_nil]
      by_cases hc : minLen > 2147483647
      · simp (disch := omega) only [Int.ofNat_eq_natCast, if_pos, if_neg, List.map_nil]
      have hcap : lcp.len ≤ sa.arr.length := by unfold GWF at hsa; omega
      have hpos : 1 ≤ lcp.len := by omega
      simp (disch := omega) only [Int.ofNat_eq_natCast, if_pos, if_neg]
      clear h1 hb hsa
      rcases Int.lt_trichotomy maxLen 2147483647 with hm | hm | hm
      all_goals try subst hm
      all_goals
        simp (disch := omega) only [if_pos, if_neg]
        rw [gen_scanLCP grow fuel sa lcp _ _ hl hnn hpos h31 hcap hf]
        simp (disch := omega) only [bind_ok, List.nil_append, i32_ofInt, h32]
  · simp (disch := omega) only [Int.ofNat_eq_natCast, if_pos, if_neg]

end LZ.GenSuffix

#print axioms LZ.GenSuffix.gen_scanLCP
#print axioms LZ.GenSuffix.gen_segments
