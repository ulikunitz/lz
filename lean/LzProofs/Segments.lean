/-
  LzProofs.Segments — what SuffixProps.lean needs to read `scanLCP_spec` over natural numbers:
  range minima `cmin`, `LcpInterval` (existence, uniqueness), `Reports` (what is used of a callback
  list: membership and order), the range minima of the LCP table of a suffix array (`cmin_specAt`),
  and the Go slice `sa[lo:hi]` (`segmentOf`).
-/
import LzProofs.Scan
import LzProofs.Kasai
namespace LZ

/-- clipped LCP value `min lcp[x] maxLen` -/
def clip (lcp : Array Nat) (maxLen : Nat) (x : Nat) : Nat := min (lcp.getD x 0) maxLen

/-- minimum of `f` over `a+1 … a+k+1` -/
def minOn (f : Nat → Nat) (a : Nat) : Nat → Nat
  | 0 => f (a+1)
  | k+1 => min (minOn f a k) (f (a+k+2))

/-- `cmin f a b` = minimum of `f` over the indices `a < x ≤ b` (meaningful for `a < b`) -/
def cmin (f : Nat → Nat) (a b : Nat) : Nat := minOn f a (b - a - 1)

theorem cmin_succ_self (f : Nat → Nat) (a : Nat) : cmin f a (a+1) = f (a+1) := by
  simp [cmin, minOn]

theorem cmin_succ (f : Nat → Nat) {a b : Nat} (h : a < b) :
    cmin f a (b+1) = min (cmin f a b) (f (b+1)) := by
  unfold cmin
  have e : b + 1 - a - 1 = (b - a - 1) + 1 := by omega
  rw [e, minOn]
  have : a + (b - a - 1) + 2 = b + 1 := by omega
  rw [this]

/-- induction on the right end of a non-empty range `(a, b]`, along `cmin_succ_self` and `cmin_succ` -/
theorem range_induction {a : Nat} {P : Nat → Prop} (base : P (a+1))
    (step : ∀ b, a < b → P b → P (b+1)) : ∀ b, a < b → P b
  | 0, h => absurd h (Nat.not_lt_zero a)
  | b+1, h =>
    if e : a = b then e ▸ base
    else step b (by omega) (range_induction base step b (by omega))

theorem cmin_spec (f : Nat → Nat) (a : Nat) : ∀ b, a < b →
    (∀ x, a < x → x ≤ b → cmin f a b ≤ f x) ∧ ∃ x, a < x ∧ x ≤ b ∧ f x = cmin f a b := by
  refine range_induction ?_ fun b hab ⟨h1, x, hx1, hx2, hx3⟩ => ?_
  · rw [cmin_succ_self]
    exact ⟨fun x h1 h2 => by rw [show x = a+1 by omega]; exact Nat.le_refl _,
      a+1, by omega, Nat.le_refl _, rfl⟩
  · rw [cmin_succ f hab]
    constructor
    · intro y hy1 hy2
      by_cases e' : y = b + 1
      · subst e'; exact Nat.min_le_right _ _
      · exact Nat.le_trans (Nat.min_le_left _ _) (h1 y hy1 (by omega))
    · by_cases hle : cmin f a b ≤ f (b+1)
      · exact ⟨x, hx1, by omega, by rw [hx3, Nat.min_eq_left hle]⟩
      · exact ⟨b+1, by omega, Nat.le_refl _, by rw [Nat.min_eq_right (by omega)]⟩

/-- any value with the two properties of `cmin_spec` is `cmin` -/
theorem cmin_unique (f : Nat → Nat) {a b c : Nat} (h : a < b)
    (h1 : ∀ x, a < x → x ≤ b → c ≤ f x) (h2 : ∃ x, a < x ∧ x ≤ b ∧ f x = c) : c = cmin f a b := by
  obtain ⟨g1, y, hy1, hy2, hy3⟩ := cmin_spec f a b h
  obtain ⟨x, hx1, hx2, hx3⟩ := h2
  have := h1 y hy1 hy2
  have := g1 x hx1 hx2
  omega

theorem cmin_min (g : Nat → Nat) (M : Nat) (a : Nat) : ∀ b, a < b →
    cmin (fun x => min (g x) M) a b = min (cmin g a b) M := by
  refine range_induction ?_ fun b hab ih => ?_
  · rw [cmin_succ_self, cmin_succ_self]
  · rw [cmin_succ _ hab, cmin_succ _ hab, ih, Nat.min_assoc, Nat.min_assoc, Nat.min_left_comm M,
      Nat.min_self]

/-- `[lo, hi)` (ranks) is an LCP-interval of value `m` of the table `f` with `size` entries:
    all values strictly inside are `≥ m`, it cannot be extended to the left or to the right,
    and the value `m` is attained (or it is the root interval `[0,size)` with `m = 0`). -/
structure LcpInterval (f : Nat → Nat) (size m lo hi : Nat) : Prop where
  lt : lo < hi
  le : hi ≤ size
  ge : ∀ x, lo < x → x < hi → m ≤ f x
  left_max : lo = 0 ∨ f lo < m
  right_max : hi = size ∨ f hi < m
  attained : (m = 0 ∧ lo = 0) ∨ ∃ x, lo < x ∧ x < hi ∧ f x = m

/-! `clip` and `LcpInterval` are `vclip` and `IsLcpIv` of Scan.lean over `Nat` -/

theorem vclip_eq_clip (lcp : Array Nat) {maxLen : Int} (h : 0 ≤ maxLen) (x : Nat) :
    vclip lcp maxLen x = ((clip lcp maxLen.toNat x : Nat) : Int) := by
  unfold vclip clip; omega

theorem isLcpIv_iff {v : Nat → Int} {f : Nat → Nat} (hvf : ∀ x, v x = ((f x : Nat) : Int))
    (size m lo hi : Nat) : IsLcpIv v size (m : Int) lo hi ↔ LcpInterval f size m lo hi := by
  simp only [IsLcpIv, Open, hvf, Int.ofNat_le, Int.ofNat_lt, Int.natCast_inj, Int.natCast_eq_zero]
  exact ⟨fun ⟨⟨h1, h2, h3, h4⟩, h5, h6⟩ => ⟨h1, h5, h2, h3, h6, h4⟩,
    fun ⟨h1, h5, h2, h3, h6, h4⟩ => ⟨⟨h1, h2, h3, h4⟩, h5, h6⟩⟩

/-! ### generic facts on LCP-intervals -/

theorem LcpInterval.value_le {f : Nat → Nat} {size m lo hi M : Nat} (h : LcpInterval f size m lo hi)
    (hf : ∀ x, f x ≤ M) : m ≤ M := by
  rcases h.attained with ⟨e, _⟩ | ⟨x, _, _, e⟩
  · omega
  · rw [← e]; exact hf x

theorem LcpInterval.two {f : Nat → Nat} {size m lo hi : Nat} (h : LcpInterval f size m lo hi)
    (hm : 0 < m) : lo + 1 < hi := by
  rcases h.attained with ⟨e, _⟩ | ⟨x, h1, h2, _⟩ <;> omega

theorem lcpInterval_exists (f : Nat → Nat) {size a b : Nat} (hab : a < b) (hb : b < size) :
    ∃ lo hi, LcpInterval f size (cmin f a b) lo hi ∧ lo ≤ a ∧ b < hi := by
  obtain ⟨hc1, x0, hx1, hx2, hx3⟩ := cmin_spec f a b hab
  obtain ⟨lo, l1, l2, l3⟩ := exists_left (v := fun x => ((f x : Nat) : Int)) (cmin f a b : Int) (a+1) (by omega)
  obtain ⟨hi, r1, r2, r3, r4⟩ := exists_right (v := fun x => ((f x : Nat) : Int)) (cmin f a b : Int) size
    (size - b) b (by omega) hb
  refine ⟨lo, hi, ⟨by omega, r2, fun x h1 h2 => ?_, by omega, by omega, Or.inr ⟨x0, by omega, by omega, hx3⟩⟩,
    by omega, r1⟩
  by_cases c1 : x ≤ a
  · have := l2 x h1 (by omega); omega
  · by_cases c2 : x ≤ b
    · exact hc1 x (by omega) c2
    · have := r3 x (by omega) h2; omega

theorem lcpInterval_unique (f : Nat → Nat) {size m a b lo hi lo' hi' : Nat} (hab : a < b)
    (h : LcpInterval f size m lo hi) (h' : LcpInterval f size m lo' hi')
    (hlo : lo ≤ a) (hhi : b < hi) (hlo' : lo' ≤ a) (hhi' : b < hi') : lo = lo' ∧ hi = hi' := by
  constructor
  · rcases Nat.lt_trichotomy lo lo' with c | c | c
    · rcases h'.left_max with e | e
      · omega
      · have := h.ge lo' c (by omega); omega
    · exact c
    · rcases h.left_max with e | e
      · omega
      · have := h'.ge lo c (by omega); omega
  · rcases Nat.lt_trichotomy hi hi' with c | c | c
    · rcases h.right_max with e | e
      · have := h'.le; omega
      · have := h'.ge hi (by omega) c; omega
    · exact c
    · rcases h'.right_max with e | e
      · have := h.le; omega
      · have := h.ge hi' (by omega) c; omega

theorem LcpInterval.value_le_cmin {f : Nat → Nat} {size m lo hi a b : Nat}
    (h : LcpInterval f size m lo hi) (hab : a < b) (hlo : lo ≤ a) (hhi : b < hi) :
    m ≤ cmin f a b := by
  obtain ⟨_, x, h1, h2, h3⟩ := cmin_spec f a b hab
  rw [← h3]; exact h.ge x (by omega) (by omega)

/-! ### order of the callbacks -/

theorem sublist_pair_of_pairwise {α : Type} {R : α → α → Prop} {l : List α} {a b : α}
    (hp : l.Pairwise R) (ha : a ∈ l) (hb : b ∈ l) (hne : a ≠ b) (hr : ¬ R b a) : [a, b].Sublist l := by
  obtain ⟨s, t, rfl⟩ := List.append_of_mem ha
  rcases List.mem_append.1 hb with h | h
  · exact absurd ((List.pairwise_append.1 hp).2.2 b h a List.mem_cons_self) hr
  · have hbt : b ∈ t := (List.mem_cons.1 h).resolve_left (Ne.symm hne)
    exact ((List.singleton_sublist.2 hbt).cons_cons a).trans (List.sublist_append_right s _)

theorem countP_eq_one_of_nodup {α : Type} [BEq α] [LawfulBEq α] {l : List α} (hn : l.Nodup)
    {p : α → Bool} {x : α} (hx : x ∈ l) (hpx : p x = true) (hu : ∀ y ∈ l, p y = true → y = x) :
    l.countP p = 1 := by
  rw [List.countP_congr (q := (· == x)) fun y hy =>
    ⟨fun h => beq_iff_eq.2 (hu y hy h), fun h => beq_iff_eq.1 h ▸ hpx⟩]
  exact hn.count.trans (if_pos hx)

/-! ### a callback list that reports the LCP-intervals of a table -/

/-- `cbs` lists exactly the LCP-intervals of value `≥ μ` of the table `f`, by right end and, for
    one right end, by decreasing value (so nested intervals come children first).  This is all that
    is ever used of the result of `scanLCP` / `Segments`. -/
structure Reports (f : Nat → Nat) (size μ : Nat) (cbs : List Callback) : Prop where
  mem : ∀ m lo hi, (m, lo, hi) ∈ cbs ↔ μ ≤ m ∧ LcpInterval f size m lo hi
  ordered : cbs.Pairwise CbBefore

namespace Reports
variable {f : Nat → Nat} {size μ : Nat} {cbs : List Callback}

/-- nothing is reported where no interval reaches the value `μ` -/
theorem nil (h : ∀ m lo hi, LcpInterval f size m lo hi → m < μ) : Reports f size μ [] :=
  ⟨fun m lo hi => ⟨(nomatch ·), fun ⟨h1, h2⟩ => absurd (h m lo hi h2) (by omega)⟩, List.Pairwise.nil⟩

variable (H : Reports f size μ cbs)
include H

theorem nodup : cbs.Nodup := by
  refine List.Pairwise.imp ?_ H.ordered
  intro a b hab e
  subst e
  unfold CbBefore at hab
  omega

/-- the ranks `a < b` lie in exactly one reported interval whose value is their range minimum -/
theorem complete_unique {a b : Nat} (hab : a < b) (hb : b < size) (hc : μ ≤ cmin f a b) :
    ∃ cb : Callback, (cb ∈ cbs ∧ cb.1 = cmin f a b ∧ cb.2.1 ≤ a ∧ b < cb.2.2) ∧
      ∀ cb' : Callback, (cb' ∈ cbs ∧ cb'.1 = cmin f a b ∧ cb'.2.1 ≤ a ∧ b < cb'.2.2) → cb' = cb := by
  obtain ⟨lo, hi, hiv, hlo, hhi⟩ := lcpInterval_exists f hab hb
  refine ⟨(_, lo, hi), ⟨(H.mem _ lo hi).2 ⟨hc, hiv⟩, rfl, hlo, hhi⟩, ?_⟩
  rintro ⟨m', lo', hi'⟩ ⟨hmem, hm, hlo', hhi'⟩
  simp only at hm hlo' hhi'
  subst hm
  obtain ⟨e1, e2⟩ := lcpInterval_unique _ hab hiv ((H.mem _ _ _).1 hmem).2 hlo hhi hlo' hhi'
  rw [e1, e2]

/-- of two reported intervals the one with the larger value comes first unless it ends later; so
    an interval nested in another one is reported before it -/
theorem children_first {m1 lo1 hi1 m2 lo2 hi2 : Nat} (h1 : (m1, lo1, hi1) ∈ cbs)
    (h2 : (m2, lo2, hi2) ∈ cbs) (hhi : hi1 ≤ hi2) (hm : m2 < m1) :
    [(m1, lo1, hi1), (m2, lo2, hi2)].Sublist cbs := by
  apply sublist_pair_of_pairwise H.ordered h1 h2
  · intro e; simp only [Prod.mk.injEq] at e; omega
  · unfold CbBefore; simp only; omega

end Reports

/-! ### range minima of the LCP table of a suffix array -/

theorem cmin_congr {f g : Nat → Nat} (a : Nat) : ∀ b, a < b → (∀ x, a < x → x ≤ b → f x = g x) →
    cmin f a b = cmin g a b := by
  refine range_induction (fun hfg => ?_) fun b hab ih hfg => ?_
  · rw [cmin_succ_self, cmin_succ_self]; exact hfg _ (by omega) (by omega)
  · rw [cmin_succ _ hab, cmin_succ _ hab, ih (fun x h1 h2 => hfg x h1 (by omega)),
      hfg (b+1) (by omega) (by omega)]

/-- common-prefix length of the suffixes at the ranks `a` and `b` -/
def sufLcp (t : List Byte) (sa : List Nat) (a b : Nat) : Nat :=
  lcpLen (t.drop (sa.getD a 0)) (t.drop (sa.getD b 0))

theorem sufLcp_comm (t : List Byte) (sa : List Nat) (a b : Nat) : sufLcp t sa a b = sufLcp t sa b a :=
  lcpLen_comm _ _

theorem sufLcp_of_some {t : List Byte} {sa : List Nat} {a b p q : Nat} (ha : sa[a]? = some p)
    (hb : sa[b]? = some q) : sufLcp t sa a b = lcpLen (t.drop p) (t.drop q) := by
  simp [sufLcp, ha, hb]

theorem specAt_succ (t : List Byte) (sa : List Nat) (a : Nat) :
    specAt t sa (a+1) = sufLcp t sa a (a+1) := by
  simp [specAt, sufLcp]

/-- the minimum of the LCP table over `(a, b]` is the common-prefix length of the suffixes at the
    ranks `a` and `b` (sandwich lemma, by induction on `b`) -/
theorem cmin_specAt {t : List Byte} {sa : List Nat} (h : IsSuffixArray t sa) (a : Nat) :
    ∀ b, a < b → b < sa.length → cmin (specAt t sa) a b = sufLcp t sa a b := by
  refine range_induction (fun _ => ?_) fun b hab ih hb => ?_
  · rw [cmin_succ_self, specAt_succ]
  · rw [cmin_succ _ hab, ih (by omega), specAt_succ]
    exact (lcpLen_sandwich_eq _ _ _ (h.mono_getD (Nat.le_of_lt hab) (by omega))
      (h.mono_getD (Nat.le_succ b) hb)).symm

/-- clipped version, for the table produced by `lcpSpec` (equivalently by `lcpKasai`) -/
theorem cmin_clip_lcpSpec {t : List Byte} {sa : List Nat} (h : IsSuffixArray t sa) (M : Nat)
    {a b : Nat} (hab : a < b) (hb : b < sa.length) :
    cmin (clip (lcpSpec t sa).toArray M) a b = min (sufLcp t sa a b) M := by
  rw [← cmin_specAt h a b hab hb, ← cmin_min _ _ _ _ hab]
  apply cmin_congr a b hab
  intro x _ hx2
  unfold clip
  rw [getD_lcpSpec t sa (by omega)]


/-! ### segments as lists of positions -/

/-- the Go slice `sa[lo:hi]` -/
def segmentOf (sa : List Nat) (lo hi : Nat) : List Nat := (sa.take hi).drop lo

theorem mem_segmentOf {sa : List Nat} {lo hi p : Nat} :
    p ∈ segmentOf sa lo hi ↔ ∃ k, lo ≤ k ∧ k < hi ∧ sa[k]? = some p := by
  unfold segmentOf
  rw [List.mem_iff_getElem?]
  constructor
  · rintro ⟨i, hi'⟩
    rw [List.getElem?_drop, List.getElem?_take] at hi'
    split at hi'
    · exact ⟨lo + i, by omega, by omega, hi'⟩
    · exact absurd hi' (by simp)
  · rintro ⟨k, h1, h2, h3⟩
    refine ⟨k - lo, ?_⟩
    rw [List.getElem?_drop, List.getElem?_take]
    have : lo + (k - lo) = k := by omega
    rw [this]
    simp [h2, h3]

theorem segmentOf_nodup {sa : List Nat} (hn : sa.Nodup) (lo hi : Nat) : (segmentOf sa lo hi).Nodup :=
  (hn.sublist (List.take_sublist _ _)).sublist (List.drop_sublist _ _)

theorem le_lcpLen_of_take_eq : ∀ (m : Nat) (a b : List Byte), a.take m = b.take m → m ≤ a.length →
    m ≤ b.length → m ≤ lcpLen a b :=
  fun m a b h h1 h2 => (le_lcpLen_iff m a b).2 ⟨h1, h2, h⟩

end LZ
