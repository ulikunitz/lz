/-
  LzProofs.DpProps — C11 (iii): the dynamic program `shortestPath` of OSAP returns a valid
  parse of minimum cost among all parses over the admissible steps `Adm` (literals and the
  match edges stored for the block).
-/
import LzProofs.SapLemmas
namespace LZ.Sap

/-! ## Specification: parses over the stored edges -/

section Spec
variable (minMatch n : Nat) (edges : Array (List Edge)) (k0 : Nat)

/-- the match steps the DP may take at block position `i`: a stored edge `(mx, o)` of that
    position, any length `max 1 minMatch ≤ m ≤ min mx (n - i)` -/
def Adm (i m o : Nat) : Prop :=
  ∃ mx, (mx, o) ∈ edges.getD (k0 + i) [] ∧ 1 ≤ m ∧ minMatch ≤ m ∧ m ≤ mx ∧ i + m ≤ n

/-- a step `(m, o)` at position `i`: the literal `(1, 0)` or an admissible match -/
def StepOK (i m o : Nat) : Prop :=
  (m = 1 ∧ o = 0 ∧ i < n) ∨ Adm minMatch n edges k0 i m o

/-- `π` is a parse of the positions `a … b` -/
def PathOK : Nat → Nat → List Edge → Prop
  | a, b, [] => a = b
  | a, b, (m, o) :: r => StepOK minMatch n edges k0 a m o ∧ PathOK (a + m) b r

/-- a parse of the whole block of `n` bytes -/
def ValidParse (π : List Edge) : Prop := PathOK minMatch n edges k0 0 n π

end Spec

/-- cost of a parse: the sum of `XZCost` over its steps -/
def pathCost (π : List Edge) : Nat := (π.map fun e => xzCost e.1 e.2).sum

/-- number of bytes a parse covers -/
def pathLen (π : List Edge) : Nat := (π.map fun e => e.1).sum

@[simp] theorem pathCost_nil : pathCost [] = 0 := rfl
@[simp] theorem pathCost_cons (e : Edge) (r : List Edge) :
    pathCost (e :: r) = xzCost e.1 e.2 + pathCost r := by simp [pathCost]
@[simp] theorem pathLen_nil : pathLen [] = 0 := rfl
@[simp] theorem pathLen_cons (e : Edge) (r : List Edge) :
    pathLen (e :: r) = e.1 + pathLen r := by simp [pathLen]

theorem PathOK.len {minMatch n edges k0} : ∀ {a b π}, PathOK minMatch n edges k0 a b π → a + pathLen π = b
  | _, _, [], h => by simpa [PathOK] using h
  | a, b, (m, o) :: r, h => by
    have := PathOK.len h.2
    simp only [pathLen_cons]; omega

/-- a parse of `a … b` has at most `b - a` steps: every step covers at least one byte -/
theorem PathOK.length_le {minMatch n : Nat} {edges : Array (List Edge)} {k0 : Nat} :
    ∀ {a b : Nat} {π : List Edge}, PathOK minMatch n edges k0 a b π → a + π.length ≤ b
  | _, _, [], h => Nat.le_of_eq h
  | a, b, (m, o) :: r, h => by
    have h1 : 1 ≤ m := by
      rcases h.1 with ⟨rfl, -, -⟩ | ⟨_, -, h1, -⟩
      · exact Nat.le_refl _
      · exact h1
    have := PathOK.length_le h.2
    simp only [List.length_cons]; omega

/-! ## Invariants of the table -/

section Inv
variable (minMatch n : Nat) (edges : Array (List Edge)) (k0 : Nat)

/-- entry `j` records a legal last step whose predecessor cost accounts for its own cost -/
def GoodEntry (d : Array Opt) (j : Nat) : Prop :=
  1 ≤ (d.getD j default).m ∧ (d.getD j default).m ≤ j ∧
  StepOK minMatch n edges k0 (j - (d.getD j default).m) (d.getD j default).m (d.getD j default).o ∧
  cst d (j - (d.getD j default).m) + xzCost (d.getD j default).m (d.getD j default).o ≤ cst d j

def Good (d : Array Opt) : Prop := ∀ j, 1 ≤ j → j ≤ n → GoodEntry minMatch n edges k0 d j

/-- `d'` arises from `d` by lowering costs at indices `≥ i` only -/
structure Ext (i : Nat) (d d' : Array Opt) : Prop where
  size : d'.size = d.size
  le : ∀ k, cst d' k ≤ cst d k
  low : ∀ k, k < i → d'.getD k default = d.getD k default

theorem Ext.refl (i : Nat) (d : Array Opt) : Ext i d d :=
  ⟨rfl, fun _ => Nat.le_refl _, fun _ _ => rfl⟩

theorem Ext.trans {i : Nat} {d d' d'' : Array Opt} (h1 : Ext i d d') (h2 : Ext i d' d'') : Ext i d d'' :=
  ⟨h2.size.trans h1.size, fun k => Nat.le_trans (h2.le k) (h1.le k),
   fun k hk => (h2.low k hk).trans (h1.low k hk)⟩

theorem Ext.mono {i i' : Nat} {d d' : Array Opt} (h : Ext i d d') (hi : i' ≤ i) : Ext i' d d' :=
  ⟨h.size, h.le, fun k hk => h.low k (by omega)⟩

theorem Ext.cst_low {i : Nat} {d d' : Array Opt} (h : Ext i d d') {k : Nat} (hk : k < i) :
    cst d' k = cst d k := by unfold cst; rw [h.low k hk]

theorem relax1_ext (d : Array Opt) {i j : Nat} (e : Opt) (h : i ≤ j) : Ext i d (relax1 d j e) :=
  ⟨relax1_size d j e, fun k => relax1_cst_le d j k e,
   fun k hk => relax1_getD_ne d e (by omega)⟩

theorem relax1_good {d : Array Opt} {j : Nat} {e : Opt}
    (hg : Good minMatch n edges k0 d)
    (he : e.c < cst d j → ∃ a, a + e.m = j ∧ 1 ≤ e.m ∧ StepOK minMatch n edges k0 a e.m e.o ∧
        cst d a + xzCost e.m e.o ≤ e.c) :
    Good minMatch n edges k0 (relax1 d j e) := by
  by_cases hc : e.c < cst d j
  · obtain ⟨a, ha, h1, h3, h4⟩ := he hc
    have h2 : e.m ≤ j := by omega
    have hsub : j - e.m = a := by omega
    rw [← hsub] at h3 h4
    intro k hk1 hkn
    unfold GoodEntry
    by_cases hkj : k = j
    · subst hkj
      have hself : (relax1 d k e).getD k default = e := by rw [relax1_getD_self]; simp [hc]
      have hc' : cst (relax1 d k e) k = e.c := by unfold cst; rw [hself]
      rw [hself, hc']
      exact ⟨h1, h2, h3, Nat.le_trans (Nat.add_le_add_right (relax1_cst_le d k _ e) _) h4⟩
    · have hne : (relax1 d j e).getD k default = d.getD k default := relax1_getD_ne d e hkj
      have hc' : cst (relax1 d j e) k = cst d k := by unfold cst; rw [hne]
      rw [hne, hc']
      obtain ⟨g1, g2, g3, g4⟩ := hg k hk1 hkn
      exact ⟨g1, g2, g3, Nat.le_trans (Nat.add_le_add_right (relax1_cst_le d j _ e) _) g4⟩
  · rw [relax1_noop d j e (by omega)]; exact hg

/-! ### the inner loops -/

theorem relaxLens_spec (i ci o : Nat) : ∀ (cnt m0 : Nat) (d : Array Opt), cst d i ≤ ci →
    Ext (i + 1) d (relaxLens minMatch i ci o cnt m0 d) ∧
    (∀ m, m0 ≤ m → m < m0 + cnt → cst (relaxLens minMatch i ci o cnt m0 d) (i + m) ≤ ci + xzCost m o) ∧
    (Good minMatch n edges k0 d →
      (∀ m, m0 ≤ m → m < m0 + cnt → 1 ≤ m → StepOK minMatch n edges k0 i m o) →
      Good minMatch n edges k0 (relaxLens minMatch i ci o cnt m0 d)) := by
  intro cnt
  induction cnt with
  | zero =>
    intro m0 d _
    refine ⟨Ext.refl _ _, ?_, fun hg _ => hg⟩
    intro m h1 h2; omega
  | succ cnt ih =>
    intro m0 d hci
    have hstep : relaxLens minMatch i ci o (cnt + 1) m0 d =
        relaxLens minMatch i ci o cnt (m0 + 1) (relax1 d (i + m0) ⟨m0, o, ci + xzCost m0 o⟩) := rfl
    rw [hstep]
    have hext1 : Ext (i + 1) d (relax1 d (i + m0) ⟨m0, o, ci + xzCost m0 o⟩) := by
      by_cases hm : m0 = 0
      · subst hm
        rw [relax1_noop]
        · exact Ext.refl _ _
        · show cst d (i + 0) ≤ ci + xzCost 0 o
          simp only [Nat.add_zero]; omega
      · exact relax1_ext d _ (by omega)
    have hci' : cst (relax1 d (i + m0) ⟨m0, o, ci + xzCost m0 o⟩) i ≤ ci :=
      Nat.le_trans (hext1.le i) hci
    obtain ⟨e2, c2, g2⟩ := ih (m0 + 1) _ hci'
    refine ⟨hext1.trans e2, ?_, ?_⟩
    · intro m h1 h2
      by_cases hm : m = m0
      · subst hm
        exact Nat.le_trans (e2.le _) (relax1_cst_self d (i + m) _)
      · exact c2 m (by omega) (by omega)
    · intro hg hs
      apply g2
      · apply relax1_good minMatch n edges k0 hg
        intro hlt
        have hlt' : ci + xzCost m0 o < cst d (i + m0) := hlt
        have hm1 : 1 ≤ m0 := by
          rcases Nat.eq_zero_or_pos m0 with h | h
          · subst h; simp only [Nat.add_zero] at hlt'; omega
          · exact h
        exact ⟨i, rfl, hm1, hs m0 (Nat.le_refl _) (by omega) hm1, Nat.add_le_add_right hci _⟩
      · intro m h1 h2 h3; exact hs m (by omega) (by omega) h3

theorem relaxEdges_spec (i ci maxLen : Nat) : ∀ (es : List Edge) (d : Array Opt), cst d i ≤ ci →
    Ext (i + 1) d (relaxEdges minMatch i ci maxLen es d) ∧
    (∀ mx o, (mx, o) ∈ es → ∀ m, minMatch ≤ m → m ≤ mx → m ≤ maxLen →
      cst (relaxEdges minMatch i ci maxLen es d) (i + m) ≤ ci + xzCost m o) ∧
    (Good minMatch n edges k0 d →
      (∀ mx o, (mx, o) ∈ es → ∀ m, minMatch ≤ m → m ≤ mx → m ≤ maxLen → 1 ≤ m →
        StepOK minMatch n edges k0 i m o) →
      Good minMatch n edges k0 (relaxEdges minMatch i ci maxLen es d)) := by
  intro es
  induction es with
  | nil =>
    intro d _
    refine ⟨Ext.refl _ _, ?_, fun hg _ => hg⟩
    intro mx o h; simp at h
  | cons e rest ih =>
    intro d hci
    obtain ⟨mx, o⟩ := e
    have hstep : relaxEdges minMatch i ci maxLen ((mx, o) :: rest) d =
        relaxEdges minMatch i ci maxLen rest
          (relaxLens minMatch i ci o (min mx maxLen + 1 - minMatch) minMatch d) := rfl
    rw [hstep]
    obtain ⟨e1, c1, g1⟩ := relaxLens_spec minMatch n edges k0 i ci o
      (min mx maxLen + 1 - minMatch) minMatch d hci
    have hci' := Nat.le_trans (e1.le i) hci
    obtain ⟨e2, c2, g2⟩ := ih _ hci'
    refine ⟨e1.trans e2, ?_, ?_⟩
    · intro mx' o' hmem m h1 h2 h3
      rcases List.mem_cons.1 hmem with h | h
      · have hmx : mx' = mx := congrArg Prod.fst h
        have ho : o' = o := congrArg Prod.snd h
        subst hmx; subst ho
        exact Nat.le_trans (e2.le _) (c1 m h1 (by omega))
      · exact c2 mx' o' h m h1 h2 h3
    · intro hg hs
      apply g2
      · apply g1 hg
        intro m h1 h2 h3
        exact hs mx o (List.mem_cons_self) m h1 (by omega) (by omega) h3
      · intro mx' o' hmem
        exact hs mx' o' (List.mem_cons_of_mem _ hmem)

/-! ### the outer loop -/

/-- state of the table when the loop is about to process position `i` -/
structure Inv (i : Nat) (d : Array Opt) : Prop where
  size : d.size = n + 1
  zero : cst d 0 = 0
  lit : ∀ j, 1 ≤ j → j < i → cst d j ≤ cst d (j - 1) + 9
  mat : ∀ i' m o, i' < i → Adm minMatch n edges k0 i' m o → cst d (i' + m) ≤ cst d i' + xzCost m o
  good : Good minMatch n edges k0 d

/-- the literal relaxation at position `i` -/
def litRelax (d : Array Opt) (i : Nat) : Array Opt :=
  if i > 0 then relax1 d i ⟨1, 0, cst d (i - 1) + xzCost 1 0⟩ else d

theorem litRelax_spec {i : Nat} {d : Array Opt} (hi : i ≤ n) (hg : Good minMatch n edges k0 d) :
    Ext i d (litRelax d i) ∧ (1 ≤ i → cst (litRelax d i) i ≤ cst (litRelax d i) (i - 1) + 9) ∧
    Good minMatch n edges k0 (litRelax d i) := by
  unfold litRelax
  by_cases h0 : i > 0
  · simp only [h0, if_true]
    have hext := relax1_ext d (i := i) (j := i) ⟨1, 0, cst d (i - 1) + xzCost 1 0⟩ (Nat.le_refl _)
    refine ⟨hext, ?_, ?_⟩
    · intro _
      rw [hext.cst_low (k := i - 1) (by omega)]
      have := relax1_cst_self d i ⟨1, 0, cst d (i - 1) + xzCost 1 0⟩
      rw [xzCost_one_zero] at this ⊢
      exact this
    · apply relax1_good minMatch n edges k0 hg
      intro _
      exact ⟨i - 1, Nat.sub_add_cancel h0, Nat.le_refl _, Or.inl ⟨rfl, rfl, by omega⟩, Nat.le_refl _⟩
  · simp only [h0, if_false]
    exact ⟨Ext.refl _ _, fun h => by omega, hg⟩

theorem Inv.ext {i : Nat} {d d' : Array Opt} (h : Inv minMatch n edges k0 i d) (e : Ext i d d')
    (hg : Good minMatch n edges k0 d') : Inv minMatch n edges k0 i d' := by
  refine ⟨e.size.trans h.size, ?_, ?_, ?_, hg⟩
  · have := e.le 0; have := h.zero; omega
  · intro j h1 h2
    rw [e.cst_low h2, e.cst_low (k := j - 1) (by omega)]
    exact h.lit j h1 h2
  · intro i' m o hi' ha
    rw [e.cst_low hi']
    exact Nat.le_trans (e.le _) (h.mat i' m o hi' ha)

theorem dpLoop_step_eq (fuel i : Nat) (d : Array Opt) :
    dpLoop minMatch n edges k0 (fuel + 1) i d =
      dpLoop minMatch n edges k0 fuel (i + 1)
        (relaxEdges minMatch i (cst (litRelax d i) i) (n - i) (edges.getD (k0 + i) []).reverse
          (litRelax d i)) := rfl

theorem dp_step {i : Nat} {d : Array Opt} (hi : i < n) (h : Inv minMatch n edges k0 i d) :
    Inv minMatch n edges k0 (i + 1)
      (relaxEdges minMatch i (cst (litRelax d i) i) (n - i) (edges.getD (k0 + i) []).reverse
        (litRelax d i)) := by
  obtain ⟨e1, l1, g1⟩ := litRelax_spec minMatch n edges k0 (Nat.le_of_lt hi) h.good
  have h1 := h.ext minMatch n edges k0 e1 g1
  obtain ⟨e2, c2, g2⟩ := relaxEdges_spec minMatch n edges k0 i (cst (litRelax d i) i) (n - i)
    (edges.getD (k0 + i) []).reverse (litRelax d i) (Nat.le_refl _)
  have hg2 := g2 g1 (by
    intro mx o hmem m a b c h1
    exact Or.inr ⟨mx, List.mem_reverse.1 hmem, h1, a, b, by omega⟩)
  have h2 := h1.ext minMatch n edges k0 (e2.mono (Nat.le_succ i)) hg2
  refine ⟨h2.size, h2.zero, ?_, ?_, hg2⟩
  · intro j hj1 hj2
    by_cases hji : j < i
    · exact h2.lit j hj1 hji
    · have hj : j = i := by omega
      subst hj
      rw [e2.cst_low (k := j) (by omega), e2.cst_low (k := j - 1) (by omega)]
      exact l1 hj1
  · intro i' m o hi' ha
    by_cases hlt : i' < i
    · exact h2.mat i' m o hlt ha
    · have hj : i' = i := by omega
      subst hj
      obtain ⟨mx, hmem, _, a, b, c⟩ := ha
      rw [e2.cst_low (k := i') (by omega)]
      exact c2 mx o (List.mem_reverse.2 hmem) m a b (by omega)

theorem dpLoop_inv : ∀ (fuel i : Nat) (d : Array Opt), i + fuel = n → Inv minMatch n edges k0 i d →
    Inv minMatch n edges k0 n (dpLoop minMatch n edges k0 fuel i d) := by
  intro fuel
  induction fuel with
  | zero =>
    intro i d hi h
    have : i = n := by omega
    subst this; exact h
  | succ fuel ih =>
    intro i d hi h
    rw [dpLoop_step_eq]
    exact ih (i + 1) _ (by omega) (dp_step minMatch n edges k0 (by omega) h)

/-! ### the initial table -/

def d0 (n : Nat) : Array Opt :=
  (Array.range (n + 1)).map fun i => if i = 0 then ⟨0, 0, 0⟩ else ⟨1, 0, xzCost i 0⟩

theorem d0_getD {j : Nat} (hj : j ≤ n) :
    (d0 n).getD j default = if j = 0 then ⟨0, 0, 0⟩ else ⟨1, 0, 9 * j⟩ := by
  unfold d0
  have : j < ((Array.range (n + 1)).map fun i => if i = 0 then (⟨0, 0, 0⟩ : Opt) else ⟨1, 0, xzCost i 0⟩).size := by
    simp; omega
  simp only [Array.getD_eq_getD_getElem?, Array.getElem?_eq_getElem this]
  simp [xzCost_zero_offset]

theorem d0_cst {j : Nat} (hj : j ≤ n) : cst (d0 n) j = 9 * j := by
  unfold cst; rw [d0_getD n hj]; split
  · subst_vars; rfl
  · rfl

theorem inv_init : Inv minMatch n edges k0 0 (d0 n) := by
  refine ⟨by simp [d0], by rw [d0_cst n (Nat.zero_le _)], ?_, ?_, ?_⟩
  · intro j _ h; omega
  · intro i' m o h; omega
  · intro j h1 h2
    unfold GoodEntry
    rw [d0_getD n h2, d0_cst n h2]
    have : j ≠ 0 := by omega
    simp only [this, if_false]
    refine ⟨Nat.le_refl _, h1, Or.inl ⟨rfl, rfl, by omega⟩, ?_⟩
    rw [d0_cst n (by omega), xzCost_one_zero]; omega

/-- the table `shortestPath` back-tracks over -/
def dFinal : Array Opt :=
  litRelax (dpLoop minMatch n edges k0 n 0 (d0 n)) n

/-- the table is closed — the invariant holds past the last position: every literal and match edge of
    the block is relaxed -/
theorem dFinal_closed : Inv minMatch n edges k0 (n + 1) (dFinal minMatch n edges k0) := by
  have h := dpLoop_inv minMatch n edges k0 n 0 (d0 n) (by omega) (inv_init minMatch n edges k0)
  obtain ⟨e1, l1, g1⟩ := litRelax_spec minMatch n edges k0 (Nat.le_refl n) h.good
  have h1 := h.ext minMatch n edges k0 e1 g1
  refine ⟨h1.size, h1.zero, ?_, ?_, g1⟩
  · intro j hj1 hj2
    by_cases hjn : j < n
    · exact h1.lit j hj1 hjn
    · have : j = n := by omega
      subst this; exact l1 hj1
  · intro i m o _ ha
    by_cases hin : i < n
    · exact h1.mat i m o hin ha
    · obtain ⟨mx, _, _, _, _, c⟩ := ha
      omega

/-! ### lower bound: the table entry is below every parse -/

theorem closed_lower {d : Array Opt} (h : Inv minMatch n edges k0 (n + 1) d) :
    ∀ (π : List Edge) (a b : Nat), PathOK minMatch n edges k0 a b π → b ≤ n →
      cst d b ≤ cst d a + pathCost π := by
  intro π
  induction π with
  | nil => intro a b hp _; have : a = b := hp; subst this; simp
  | cons e r ih =>
    intro a b hp hb
    obtain ⟨m, o⟩ := e
    obtain ⟨hs, hr⟩ := hp
    have h1 := ih (a + m) b hr hb
    have h2 : cst d (a + m) ≤ cst d a + xzCost m o := by
      rcases hs with ⟨rfl, rfl, han⟩ | ha
      · have := h.lit (a + 1) (by omega) (by omega)
        rw [xzCost_one_zero]; simpa using this
      · exact h.mat a m o (by obtain ⟨_, _, _, _, _, _⟩ := ha; omega) ha
    simp only [pathCost_cons]; omega

/-! ### back-tracking -/

theorem backtrack_spec {d : Array Opt} (hg : Good minMatch n edges k0 d) :
    ∀ (fuel i : Nat) (acc : List Edge), i ≤ fuel → i ≤ n → PathOK minMatch n edges k0 i n acc →
      PathOK minMatch n edges k0 0 n (backtrack d fuel i acc) ∧
      pathCost (backtrack d fuel i acc) ≤ cst d i + pathCost acc := by
  intro fuel
  induction fuel with
  | zero =>
    intro i acc hi _ hp
    have : i = 0 := by omega
    subst this
    exact ⟨hp, Nat.le_add_left _ _⟩
  | succ fuel ih =>
    intro i acc hi hin hp
    unfold backtrack
    by_cases h0 : i = 0
    · subst h0; simp only [if_true]; exact ⟨hp, Nat.le_add_left _ _⟩
    · simp only [h0, if_false]
      obtain ⟨g1, g2, g3, g4⟩ := hg i (by omega) hin
      have hp' : PathOK minMatch n edges k0 (i - (d.getD i default).m) n
          (((d.getD i default).m, (d.getD i default).o) :: acc) := by
        refine ⟨g3, ?_⟩
        have : i - (d.getD i default).m + (d.getD i default).m = i := by omega
        rw [this]; exact hp
      obtain ⟨r1, r2⟩ := ih (i - (d.getD i default).m) _ (by omega) (by omega) hp'
      refine ⟨r1, ?_⟩
      simp only [pathCost_cons] at r2
      omega

end Inv

/-! ## C11 (iii): `shortestPath` is optimal over the stored edges -/

theorem shortestPath_eq (minMatch n : Nat) (edges : Array (List Edge)) (k0 : Nat) :
    shortestPath minMatch n edges k0 = backtrack (dFinal minMatch n edges k0) n n [] := rfl

theorem shortestPath_spec (minMatch n : Nat) (edges : Array (List Edge)) (k0 : Nat) :
    ValidParse minMatch n edges k0 (shortestPath minMatch n edges k0) ∧
    pathCost (shortestPath minMatch n edges k0) = cst (dFinal minMatch n edges k0) n ∧
    ∀ π, ValidParse minMatch n edges k0 π → cst (dFinal minMatch n edges k0) n ≤ pathCost π := by
  have hc := dFinal_closed minMatch n edges k0
  have lower : ∀ π, ValidParse minMatch n edges k0 π → cst (dFinal minMatch n edges k0) n ≤ pathCost π := by
    intro π hπ
    have := closed_lower minMatch n edges k0 hc π 0 n hπ (Nat.le_refl _)
    rwa [hc.zero, Nat.zero_add] at this
  obtain ⟨r1, r2⟩ := backtrack_spec minMatch n edges k0 hc.good n n [] (Nat.le_refl _) (Nat.le_refl _) rfl
  rw [shortestPath_eq]
  exact ⟨r1, Nat.le_antisymm r2 (lower _ r1), lower⟩

/-- The path returned by `shortestPath` is a parse of the `n` block bytes over literals and the
    stored edges, and no such parse is cheaper. -/
theorem dp_optimal (minMatch n : Nat) (edges : Array (List Edge)) (k0 : Nat) :
    ValidParse minMatch n edges k0 (shortestPath minMatch n edges k0) ∧
    ∀ π, ValidParse minMatch n edges k0 π →
      pathCost (shortestPath minMatch n edges k0) ≤ pathCost π := by
  obtain ⟨h1, h2, h3⟩ := shortestPath_spec minMatch n edges k0
  exact ⟨h1, fun π hπ => h2 ▸ h3 π hπ⟩

theorem shortestPath_cost (minMatch n : Nat) (edges : Array (List Edge)) (k0 : Nat) :
    pathCost (shortestPath minMatch n edges k0) = cst (dFinal minMatch n edges k0) n :=
  (shortestPath_spec minMatch n edges k0).2.1

theorem shortestPath_len (minMatch n : Nat) (edges : Array (List Edge)) (k0 : Nat) :
    pathLen (shortestPath minMatch n edges k0) = n := by
  have := (dp_optimal minMatch n edges k0).1.len
  omega

/-! ## Non-vacuity and the counter-witness for the DP without the literal relaxation (D10) -/

/-- `shortestPath` before the repair: no literal edge is relaxed -/
def dpLoopOld (minMatch n : Nat) (edges : Array (List Edge)) (k0 : Nat) : Nat → Nat → Array Opt → Array Opt
  | 0, _, d => d
  | fuel+1, i, d =>
    let ci := (d.getD i default).c
    let d := relaxEdges minMatch i ci (n - i) (edges.getD (k0 + i) []).reverse d
    dpLoopOld minMatch n edges k0 fuel (i+1) d

def shortestPathOld (minMatch n : Nat) (edges : Array (List Edge)) (k0 : Nat) : List Edge :=
  backtrack (dpLoopOld minMatch n edges k0 n 0 (d0 n)) n n []

theorem d0_3 : d0 3 = #[⟨0,0,0⟩, ⟨1,0,9⟩, ⟨1,0,18⟩, ⟨1,0,27⟩] := by
  apply Array.ext'
  simp [d0, xzCost, List.range, List.range.loop]

/-- Three bytes, position 0 offers a far 3-byte match (19 bits) and a near 2-byte match
    (8 bits).  The optimum is the near match followed by a literal (17 bits); the DP without
    the literal relaxation prices `d[3]` only as 27 (all literals) or 19 and returns the far
    match. -/
example : shortestPathOld 2 3 #[[(3, 5000), (2, 1)], [], []] 0 = [(3, 5000)] ∧
    pathCost [(3, 5000)] = 19 ∧
    shortestPath 2 3 #[[(3, 5000), (2, 1)], [], []] 0 = [(2, 1), (1, 0)] ∧
    pathCost [(2, 1), (1, 0)] = 17 := by
  rw [shortestPath_eq, dFinal, shortestPathOld, d0_3]
  decide

/-- the old result is a valid parse, so it witnesses non-optimality of the old DP -/
example : ValidParse 2 3 #[[(3, 5000), (2, 1)], [], []] 0 [(3, 5000)] :=
  ⟨Or.inr ⟨3, by decide, by decide, by decide, by decide, by decide⟩, rfl⟩

example : ValidParse 2 3 #[[(3, 5000), (2, 1)], [], []] 0 [(2, 1), (1, 0)] :=
  ⟨Or.inr ⟨2, by decide, by decide, by decide, by decide, by decide⟩, Or.inl ⟨rfl, rfl, by decide⟩, rfl⟩

#print axioms dp_optimal
#print axioms shortestPath_cost
#print axioms shortestPath_len

end LZ.Sap
