/-
  LzProofs.AcceptDefs — definitions shared by the decoder side (LzProofs.AcceptLemmas /
  AcceptProps) and the parser side (LzProofs.AcceptParse) of property C07.

  `WFSeqs W n ll seqs` is exactly the negation of the guards (`litLen`, `offset`) of the decoder's
  sequence loop, which only depend on the window size, on the number `n` of stream bytes before the
  sequences and on the number `ll` of literal bytes available.  `DEvent` is what a decoder is fed:
  a block, or raw bytes (`Write`).
-/
import LzProofs.DecBufLemmas
namespace LZ

/-! ## well-formed sequences, blocks, streams -/

/-- `seqs` are well-formed for window size `W` on top of `n` stream bytes with `ll` literal bytes
    available: for each sequence in turn `LitLen ≤` remaining literals, `MatchLen = 0 ∨ 1 ≤ Offset`,
    `Offset ≤ min W (bytes before the match)`. -/
def WFSeqs (W : Nat) : Nat → Nat → List Seq → Prop
  | _, _, [] => True
  | n, ll, s :: ss =>
    s.litLen ≤ ll ∧ (s.matchLen = 0 ∨ 1 ≤ s.offset) ∧ s.offset ≤ min W (n + s.litLen) ∧
    WFSeqs W (n + s.litLen + s.matchLen) (ll - s.litLen) ss

/-- a block is well-formed for window size `W` over the history `hist` -/
def WellFormedBlock (W : Nat) (hist : List Byte) (blk : Block) : Prop :=
  WFSeqs W hist.length blk.lits.length blk.seqs

/-- a stream of blocks is well-formed over `hist`: each block is well-formed over the reference
    expansion of the previous ones -/
def WellFormedStream (W : Nat) : List Byte → List Block → Prop
  | _, [] => True
  | h, b :: bs => WellFormedBlock W h b ∧ ∃ h', expand h b = some h' ∧ WellFormedStream W h' bs

/-- every sequence is at most `m` bytes long (`LitLen + MatchLen ≤ m`) -/
def SeqsFit (m : Nat) (seqs : List Seq) : Prop := ∀ s ∈ seqs, s.litLen + s.matchLen ≤ m

/-- reference expansion of a stream of blocks -/
def expandStream : List Byte → List Block → Option (List Byte)
  | h, [] => some h
  | h, b :: bs =>
    match expand h b with
    | some h' => expandStream h' bs
    | none => none

/-! ## the reference expander on well-formed input -/

theorem WFSeqs.expandSeqs_defined {W : Nat} : ∀ (seqs : List Seq) (hist lits : List Byte),
    WFSeqs W hist.length lits.length seqs →
    ∃ out rest, expandSeqs hist lits seqs = some (out, rest) := by
  intro seqs
  induction seqs with
  | nil => intro hist lits _; exact ⟨hist, lits, rfl⟩
  | cons s ss ih =>
    intro hist lits h
    obtain ⟨h1, h2, h3, h4⟩ := h
    have hlen : (hist ++ lits.take s.litLen).length = hist.length + s.litLen := by
      simp only [List.length_append, List.length_take]; omega
    obtain ⟨r, hr⟩ := Option.isSome_iff_exists.mp
      ((copyRef_isSome_iff (hist ++ lits.take s.litLen) s.offset s.matchLen).mpr (by rw [hlen]; omega))
    obtain ⟨out, rest, ho⟩ := ih r (lits.drop s.litLen) (by
      rw [copyRef_length hr, hlen, List.length_drop]; exact h4)
    exact ⟨out, rest, expandSeqs_cons_eq_some.mpr ⟨h1, r, hr, ho⟩⟩

theorem WellFormedBlock.expand_defined {W : Nat} {hist : List Byte} {blk : Block}
    (h : WellFormedBlock W hist blk) : ∃ out, expand hist blk = some out := by
  obtain ⟨out, rest, ho⟩ := WFSeqs.expandSeqs_defined blk.seqs hist blk.lits h
  exact ⟨out ++ rest, by simp only [expand, ho]⟩

theorem WFSeqs.drop {W : Nat} : ∀ (seqs : List Seq) (k : Nat) (hist lits w1 rest : List Byte),
    WFSeqs W hist.length lits.length seqs →
    expandSeqs hist lits (seqs.take k) = some (w1, rest) →
    WFSeqs W w1.length rest.length (seqs.drop k) := by
  intro seqs
  induction seqs with
  | nil =>
    intro k hist lits w1 rest _ hx
    simp only [List.take_nil, expandSeqs, Option.some.injEq, Prod.mk.injEq] at hx
    simp only [List.drop_nil, WFSeqs]
  | cons s ss ih =>
    intro k hist lits w1 rest h hx
    cases k with
    | zero =>
      simp only [List.take_zero, expandSeqs, Option.some.injEq, Prod.mk.injEq] at hx
      obtain ⟨rfl, rfl⟩ := hx
      simpa using h
    | succ k =>
      obtain ⟨h1, h2, h3, h4⟩ := h
      obtain ⟨-, out', hc, hx⟩ := expandSeqs_cons_eq_some.mp hx
      apply ih k out' (lits.drop s.litLen) w1 rest _ hx
      rw [copyRef_length hc, List.length_append, List.length_take, List.length_drop, Nat.min_eq_left h1]
      exact h4

theorem WFSeqs.mono {W W' : Nat} (hW : W ≤ W') : ∀ (seqs : List Seq) (n n' ll : Nat), n ≤ n' →
    WFSeqs W n ll seqs → WFSeqs W' n' ll seqs := by
  intro seqs
  induction seqs with
  | nil => intro _ _ _ _ _; trivial
  | cons s ss ih =>
    intro n n' ll hn ⟨h1, h2, h3, h4⟩
    exact ⟨h1, h2, by omega, ih _ _ _ (by omega) h4⟩

theorem SeqsFit.mono {m m' : Nat} {seqs : List Seq} (h : SeqsFit m seqs) (hm : m ≤ m') :
    SeqsFit m' seqs := fun s hs => Nat.le_trans (h s hs) hm

theorem SeqsFit.drop {m : Nat} {seqs : List Seq} (h : SeqsFit m seqs) (k : Nat) :
    SeqsFit m (seqs.drop k) := fun s hs => h s (List.mem_of_mem_drop hs)

/-! ## what a decoder is fed -/

/-- one item of a compressed stream as the decoder sees it: a block (`WriteBlock`) or bytes that
    are passed verbatim (`Write`; the parser side skipped them with `Parse(nil)`) -/
inductive DEvent where
  | block (blk : Block)
  | raw (bytes : List Byte)

/-- feed one item to the decoder -/
def Decoder.feed (g : Grow) (d : Decoder) : DEvent → Decoder × Err
  | .block blk => ((d.writeBlock g blk.seqs blk.lits 0 0 0).1, (d.writeBlock g blk.seqs blk.lits 0 0 0).2.2.2.2)
  | .raw p => ((d.write g p 0).1, (d.write g p 0).2.2)

/-- feed the items in order, stopping at the first error -/
def Decoder.feedAll (g : Grow) : Decoder → List DEvent → Decoder × Err
  | d, [] => (d, .ok)
  | d, e :: es => if (d.feed g e).2 = .ok then Decoder.feedAll g (d.feed g e).1 es else d.feed g e

theorem Decoder.feedAll_cons_ok (g : Grow) (d : Decoder) (e : DEvent) (es : List DEvent)
    (h : (d.feed g e).2 = .ok) : d.feedAll g (e :: es) = (d.feed g e).1.feedAll g es := by
  simp only [Decoder.feedAll, h, ↓reduceIte]

theorem Decoder.feedAll_cons_err (g : Grow) (d : Decoder) (e : DEvent) (es : List DEvent)
    (h : (d.feed g e).2 ≠ .ok) : d.feedAll g (e :: es) = d.feed g e := by
  simp only [Decoder.feedAll, h, ↓reduceIte]

theorem Decoder.flush_snd (d : Decoder) : d.flush.2 = d.writeTo.2.2 := rfl

/-- reference decoder of a list of items -/
def refDecode : List Byte → List DEvent → Option (List Byte)
  | out, [] => some out
  | out, .block blk :: es =>
    match expand out blk with
    | some out' => refDecode out' es
    | none => none
  | out, .raw p :: es => refDecode (out ++ p) es

/-- the items are well-formed for window size `W` over the history `hist` -/
def WellFormedEvents (W : Nat) : List Byte → List DEvent → Prop
  | _, [] => True
  | h, .block blk :: es => WellFormedBlock W h blk ∧ ∃ h', expand h blk = some h' ∧ WellFormedEvents W h' es
  | h, .raw p :: es => WellFormedEvents W (h ++ p) es

/-- all sequences of all blocks are at most `m` bytes long -/
def EventsFit (m : Nat) : List DEvent → Prop
  | [] => True
  | .block blk :: es => SeqsFit m blk.seqs ∧ EventsFit m es
  | .raw _ :: es => EventsFit m es

theorem EventsFit.mono {m m' : Nat} (hm : m ≤ m') : ∀ es, EventsFit m es → EventsFit m' es := by
  intro es
  induction es with
  | nil => intro _; trivial
  | cons e es ih =>
    cases e with
    | block blk => intro ⟨a, b⟩; exact ⟨a.mono hm, ih b⟩
    | raw p => intro h; exact ih h

theorem expand_length_le {hist h' : List Byte} {blk : Block}
    (hx : expand hist blk = some h') : hist.length ≤ h'.length := by
  unfold expand at hx
  split at hx
  · rename_i out rest ho
    simp only [Option.some.injEq] at hx
    subst hx
    have := (expandSeqs_prefix ho).length_le
    rw [List.length_append]; omega
  · cases hx

theorem WellFormedEvents.mono {W W' : Nat} (hW : W ≤ W') : ∀ (es : List DEvent) (h : List Byte),
    WellFormedEvents W h es → WellFormedEvents W' h es := by
  intro es
  induction es with
  | nil => intro _ _; trivial
  | cons e es ih =>
    intro h hwf
    cases e with
    | block blk =>
      obtain ⟨h1, h', h2, h3⟩ := hwf
      exact ⟨WFSeqs.mono hW _ _ _ _ (Nat.le_refl _) h1, h', h2, ih h' h3⟩
    | raw p => exact ih _ hwf

theorem wellFormedEvents_blocks (W : Nat) : ∀ (blks : List Block) (h : List Byte),
    WellFormedStream W h blks → WellFormedEvents W h (blks.map .block) := by
  intro blks
  induction blks with
  | nil => intro _ _; trivial
  | cons b bs ih =>
    intro h ⟨h1, h', h2, h3⟩
    exact ⟨h1, h', h2, ih h' h3⟩

theorem refDecode_blocks : ∀ (blks : List Block) (h : List Byte),
    refDecode h (blks.map .block) = expandStream h blks := by
  intro blks
  induction blks with
  | nil => intro _; rfl
  | cons b bs ih =>
    intro h
    simp only [List.map_cons, refDecode, expandStream]
    split <;> simp_all

theorem eventsFit_blocks (m : Nat) : ∀ (blks : List Block),
    (∀ b ∈ blks, SeqsFit m b.seqs) → EventsFit m (blks.map .block) := by
  intro blks
  induction blks with
  | nil => intro _; trivial
  | cons b bs ih =>
    intro h
    exact ⟨h b (by simp), ih (fun b' hb' => h b' (by simp [hb']))⟩

end LZ
