/-
  LzProofs.SuffixLemmas — `IsSuffixArray` and its elementary consequences (for entries given as
  `sa[k]` and as `sa[k]? = some i`), the specification `saSpec` satisfies it, the adjacent
  formulation that the checker `checkSA` tests (`isSuffixArray_iff_adjacent`), and `invertSA` on a
  permutation.
-/
import LzProofs.Lex
namespace LZ

/-- `sa` is the suffix array of `t`: a permutation of the positions `0 … |t|-1` whose
    suffixes are in (pairwise) lexicographic order.  Because different suffixes of one text are
    different strings, the order is automatically strict (`IsSuffixArray.strict`). -/
def IsSuffixArray (t : List Byte) (sa : List Nat) : Prop :=
  sa.Perm (List.range t.length) ∧
  sa.Pairwise (fun i j => lexLe (t.drop i) (t.drop j) = true)

namespace IsSuffixArray
variable {t : List Byte} {sa : List Nat}

theorem length_eq (h : IsSuffixArray t sa) : sa.length = t.length := by
  simpa using h.1.length_eq

theorem mem_iff (h : IsSuffixArray t sa) (i : Nat) : i ∈ sa ↔ i < t.length := by
  simpa using h.1.mem_iff (a := i)

theorem nodup (h : IsSuffixArray t sa) : sa.Nodup :=
  (h.1.nodup_iff).2 List.nodup_range

theorem getElem_lt (h : IsSuffixArray t sa) (k : Nat) (hk : k < sa.length) : sa[k] < t.length :=
  (h.mem_iff _).1 (List.getElem_mem hk)

theorem getElem_inj (h : IsSuffixArray t sa) {a b : Nat} (ha : a < sa.length) (hb : b < sa.length)
    (e : sa[a] = sa[b]) : a = b :=
  (List.getElem_inj h.nodup).1 e

/-- ranks are ordered like their suffixes -/
theorem mono (h : IsSuffixArray t sa) {a b : Nat} (hab : a ≤ b) (hb : b < sa.length) :
    lexLe (t.drop (sa[a]'(by omega))) (t.drop sa[b]) = true := by
  by_cases e : a = b
  · subst e; exact lexLe_refl _
  · exact (List.pairwise_iff_getElem.1 h.2) a b (by omega) hb (by omega)

theorem mono_getD (h : IsSuffixArray t sa) {a b : Nat} (hab : a ≤ b) (hb : b < sa.length) :
    lexLe (t.drop (sa.getD a 0)) (t.drop (sa.getD b 0)) = true := by
  rw [List.getD_eq_getElem?_getD, List.getD_eq_getElem?_getD, List.getElem?_eq_getElem hb,
    List.getElem?_eq_getElem (show a < sa.length by omega)]
  exact h.mono hab hb

/-- … strictly, since different suffixes of one text are different strings -/
theorem strict (h : IsSuffixArray t sa) {a b : Nat} (hab : a < b) (hb : b < sa.length) :
    lexLe (t.drop sa[b]) (t.drop (sa[a]'(by omega))) = false := by
  have ha : a < sa.length := by omega
  refine not_lexLe_of_lexLe_ne (h.mono (Nat.le_of_lt hab) hb) fun e => ?_
  have := h.getElem_inj ha hb (drop_injective_of_le (Nat.le_of_lt (h.getElem_lt a ha))
    (Nat.le_of_lt (h.getElem_lt b hb)) e)
  omega

theorem rank_le_of_lexLe (h : IsSuffixArray t sa) {a b : Nat} (ha : a < sa.length)
    (hb : b < sa.length) (hle : lexLe (t.drop sa[a]) (t.drop sa[b]) = true) : a ≤ b :=
  Nat.le_of_not_lt fun hlt => by simp [h.strict hlt ha] at hle

/-! the same facts for entries given as `sa[k]? = some i` -/

theorem some_lt (h : IsSuffixArray t sa) {k i : Nat} (hk : sa[k]? = some i) :
    k < sa.length ∧ i < t.length := by
  obtain ⟨hk', rfl⟩ := List.getElem?_eq_some_iff.1 hk
  exact ⟨hk', h.getElem_lt k hk'⟩

theorem mono? (h : IsSuffixArray t sa) {a b i j : Nat} (hab : a ≤ b) (ha : sa[a]? = some i)
    (hb : sa[b]? = some j) : lexLe (t.drop i) (t.drop j) = true := by
  obtain ⟨_, rfl⟩ := List.getElem?_eq_some_iff.1 ha
  obtain ⟨hb', rfl⟩ := List.getElem?_eq_some_iff.1 hb
  exact h.mono hab hb'

theorem rank_le? (h : IsSuffixArray t sa) {a b i j : Nat} (ha : sa[a]? = some i)
    (hb : sa[b]? = some j) (hle : lexLe (t.drop i) (t.drop j) = true) : a ≤ b := by
  obtain ⟨ha', rfl⟩ := List.getElem?_eq_some_iff.1 ha
  obtain ⟨hb', rfl⟩ := List.getElem?_eq_some_iff.1 hb
  exact h.rank_le_of_lexLe ha' hb' hle

theorem inj? (h : IsSuffixArray t sa) {a b i : Nat} (ha : sa[a]? = some i)
    (hb : sa[b]? = some i) : a = b := by
  obtain ⟨ha', e1⟩ := List.getElem?_eq_some_iff.1 ha
  obtain ⟨hb', e2⟩ := List.getElem?_eq_some_iff.1 hb
  exact h.getElem_inj ha' hb' (e1.trans e2.symm)

theorem surj? (h : IsSuffixArray t sa) {i : Nat} (hi : i < t.length) : ∃ k : Nat, sa[k]? = some i :=
  List.mem_iff_getElem?.1 ((h.mem_iff i).2 hi)

end IsSuffixArray

/-- `saSpec t` (the model of `suffix.Sort`) is a suffix array of `t` -/
theorem isSuffixArray_saSpec (t : List Byte) : IsSuffixArray t (saSpec t) :=
  ⟨List.mergeSort_perm _ _, List.pairwise_mergeSort (le := fun i j => lexLe (t.drop i) (t.drop j))
    (fun _ _ _ => lexLe_trans _ _ _) (fun _ _ => lexLe_total' _ _) _⟩

/-! ### adjacent formulation and the checker `checkSA` -/

/-- pigeonhole: a duplicate-free list contained in a list of the same length is a permutation of it -/
theorem perm_of_nodup_subset_length : ∀ {l m : List Nat}, l.Nodup → (∀ x ∈ l, x ∈ m) →
    l.length = m.length → l.Perm m
  | [], m, _, _, hl => by
    have : m = [] := List.eq_nil_of_length_eq_zero hl.symm
    subst this; exact List.Perm.refl _
  | a :: l, m, hn, hs, hl => by
    have ham : a ∈ m := hs a List.mem_cons_self
    have hn' := List.nodup_cons.1 hn
    have ih := perm_of_nodup_subset_length (l := l) (m := m.erase a) hn'.2
      (fun x hx => by
        have hxm := hs x (List.mem_cons_of_mem _ hx)
        have hne : x ≠ a := fun e => hn'.1 (e ▸ hx)
        exact (List.mem_erase_of_ne hne).2 hxm)
      (by rw [List.length_erase_of_mem ham]; simp at hl; omega)
    exact (List.Perm.cons a ih).trans (List.perm_cons_erase ham).symm

theorem isPerm_iff (n : Nat) (sa : List Nat) : isPerm n sa = true ↔ sa.Perm (List.range n) := by
  simp only [isPerm, Bool.and_eq_true, beq_iff_eq, List.all_eq_true, List.mem_range,
    List.contains_iff_mem]
  constructor
  · rintro ⟨hl, hall⟩
    exact (perm_of_nodup_subset_length List.nodup_range (fun x hx => hall x (List.mem_range.1 hx))
      (by simp [hl])).symm
  · intro hp
    refine ⟨by simpa using hp.length_eq, fun i hi => ?_⟩
    exact hp.mem_iff.2 (List.mem_range.2 hi)

/-- adjacent entries are strictly increasing (as suffixes) -/
def AdjSorted (t : List Byte) (sa : List Nat) : Prop :=
  ∀ k (hk : k + 1 < sa.length),
    lexLe (t.drop (sa[k]'(by omega))) (t.drop sa[k+1]) = true ∧ sa[k]'(by omega) ≠ sa[k+1]

theorem sortedSuffixes_iff (t : List Byte) : ∀ sa : List Nat,
    sortedSuffixes t sa = true ↔ AdjSorted t sa
  | [] => by simp [sortedSuffixes, AdjSorted]
  | [a] => by simp [sortedSuffixes, AdjSorted]
  | a :: b :: rest => by
    have ih := sortedSuffixes_iff t (b :: rest)
    simp only [sortedSuffixes, Bool.and_eq_true, ih, AdjSorted, bne_iff_ne, ne_eq]
    constructor
    · rintro ⟨⟨h1, h2⟩, h3⟩ k hk
      cases k with
      | zero => exact ⟨h1, h2⟩
      | succ k => exact h3 k (by simpa using hk)
    · intro h
      refine ⟨h 0 (by simp), fun k hk => ?_⟩
      exact h (k+1) (by simpa using hk)

theorem pairwise_of_adjacent {R : Nat → Nat → Prop} (tr : ∀ a b c, R a b → R b c → R a c) :
    ∀ (l : List Nat), (∀ k (hk : k + 1 < l.length), R (l[k]'(by omega)) l[k+1]) → l.Pairwise R
  | [], _ => List.Pairwise.nil
  | [a], _ => by simp
  | a :: b :: rest, h => by
    have ih := pairwise_of_adjacent tr (b :: rest) (fun k hk => h (k+1) (by simpa using hk))
    refine List.Pairwise.cons ?_ ih
    have hab : R a b := h 0 (by simp)
    intro x hx
    rcases List.mem_cons.1 hx with e | hx'
    · exact e ▸ hab
    · exact tr _ _ _ hab ((List.pairwise_cons.1 ih).1 x hx')

theorem isSuffixArray_iff_adjacent (t : List Byte) (sa : List Nat) :
    IsSuffixArray t sa ↔ sa.Perm (List.range t.length) ∧ AdjSorted t sa := by
  constructor
  · intro h
    refine ⟨h.1, fun k hk => ⟨h.mono (Nat.le_succ k) hk, fun e => ?_⟩⟩
    have := h.getElem_inj (by omega) hk e
    omega
  · rintro ⟨hp, hadj⟩
    refine ⟨hp, ?_⟩
    exact pairwise_of_adjacent (R := fun i j => lexLe (t.drop i) (t.drop j) = true)
      (fun a b c => lexLe_trans _ _ _) sa (fun k hk => (hadj k hk).1)

/-! ### `invertSA` -/

def invertStep (sa : Array Nat) (inv : Array Nat) (j : Nat) : Array Nat :=
  inv.setIfInBounds (sa.getD j 0) j

theorem invertSA_eq (sa : Array Nat) :
    invertSA sa = (List.range sa.size).foldl (invertStep sa) (Array.replicate sa.size 0) := rfl

theorem foldl_invertStep_size (sa : Array Nat) (l : List Nat) (init : Array Nat) :
    (l.foldl (invertStep sa) init).size = init.size := by
  induction l generalizing init with
  | nil => rfl
  | cons a l ih => simp [List.foldl_cons, ih, invertStep]

/-- what `invertSA` needs of `sa`: the permutation half of `IsSuffixArray`, without a text -/
def IsPermOfRange (sa : List Nat) : Prop := sa.Perm (List.range sa.length)

theorem IsSuffixArray.isPermOfRange {t : List Byte} {sa : List Nat} (h : IsSuffixArray t sa) :
    IsPermOfRange sa := by
  unfold IsPermOfRange; rw [h.length_eq]; exact h.1

theorem IsPermOfRange.lt {sa : List Nat} (hp : IsPermOfRange sa) {a v : Nat} (h : sa[a]? = some v) :
    v < sa.length := by
  have : v ∈ sa := List.mem_of_getElem? h
  simpa using hp.mem_iff.1 this

theorem IsPermOfRange.inj {sa : List Nat} (hp : IsPermOfRange sa) {a b : Nat} (ha : a < sa.length)
    (hb : b < sa.length) (h : sa[a]? = sa[b]?) : a = b := by
  have hn : sa.Nodup := hp.nodup_iff.2 List.nodup_range
  rw [List.getElem?_eq_getElem ha, List.getElem?_eq_getElem hb] at h
  exact (List.getElem_inj hn).1 (Option.some.inj h)

theorem IsPermOfRange.surj {sa : List Nat} (hp : IsPermOfRange sa) {i : Nat} (hi : i < sa.length) :
    ∃ k, k < sa.length ∧ sa[k]? = some i := by
  have : i ∈ sa := hp.mem_iff.2 (List.mem_range.2 hi)
  obtain ⟨k, hk, e⟩ := List.getElem_of_mem this
  exact ⟨k, hk, by rw [List.getElem?_eq_getElem hk, e]⟩

theorem invertSA_size (sa : Array Nat) : (invertSA sa).size = sa.size := by
  rw [invertSA_eq, foldl_invertStep_size, Array.size_replicate]

theorem invertSA_sa {sa : List Nat} (hp : IsPermOfRange sa) {j v : Nat} (h : sa[j]? = some v) :
    (invertSA sa.toArray)[v]? = some j := by
  -- after `m` steps the entries at the positions of the first `m` ranks are in place
  have steps : ∀ m, m ≤ sa.length → ∀ j v, j < m → sa[j]? = some v →
      ((List.range m).foldl (invertStep sa.toArray) (Array.replicate sa.length 0))[v]? = some j := by
    intro m
    induction m with
    | zero => intro _ j v hj; omega
    | succ m ih =>
      intro hm j v hj hv
      have ihv := ih (by omega)
      have ihs := foldl_invertStep_size sa.toArray (List.range m) (Array.replicate sa.length 0)
      rw [Array.size_replicate] at ihs
      rw [List.range_succ, List.foldl_append]
      simp only [List.foldl_cons, List.foldl_nil]
      generalize (List.range m).foldl (invertStep sa.toArray) (Array.replicate sa.length 0) = inv
        at ihs ihv
      have hm' : m < sa.length := by omega
      have hd : sa.toArray.getD m 0 = sa[m] := by simp [hm']
      simp only [invertStep, hd]
      by_cases e : j = m
      · subst e
        cases (List.getElem?_eq_getElem hm').symm.trans hv
        exact Array.getElem?_setIfInBounds_self_of_lt (ihs ▸ hp.lt hv)
      · have hne : sa[m] ≠ v := fun e' =>
          e (hp.inj (by omega) hm' (by rw [hv, List.getElem?_eq_getElem hm', e']))
        rw [Array.getElem?_setIfInBounds_ne hne]
        exact ihv j v (by omega) hv
  exact steps sa.length (Nat.le_refl _) j v (List.getElem?_eq_some_iff.1 h).1 h

theorem sa_invertSA {sa : List Nat} (hp : IsPermOfRange sa) {i : Nat} (hi : i < sa.length) :
    ∃ k, (invertSA sa.toArray)[i]? = some k ∧ k < sa.length ∧ sa[k]? = some i := by
  obtain ⟨k, hk, e⟩ := hp.surj hi
  exact ⟨k, invertSA_sa hp e, hk, e⟩

end LZ
