/-
  LzProofs.RunsGsapCex — the run clause of C19 is FALSE for GSAP with `BufferSize > WindowSize`
  (known finding, here as a kernel-checked reachable state of the model):

    configuration  WindowSize 8, BufferSize 80, BlockSize 33, MinMatchLen 3   (accepted)
    history        Write(a^32 'A' a^32), Parse(&blk, 0)                        (block [0, 33))
    next           Parse(&blk, 0) returns the block [33, 65) of 32 bytes 'a' with NO sequence and
                   32 literals                                                 (`gsap_run_counterexample`)

  Reason: the suffix `a^m` at a block position `i` has the rank neighbours `a^(m-1) A…` and
  `a^m A…` of the OLD run (both marked, 33 positions back); the better one, `a^m A…`, shadows position
  `i - 1` (`a^(m+1)`, one rank further up), is as long as anything can be — and is then rejected by
  the window check `i - f < WindowSize`.  So `BufferSize ≤ WindowSize` in `C19_run_gsap` /
  `C19_run_gsap_reachable` (LzProofs/RunsGsap.lean) cannot be dropped.

  Also here (section `Sharp`): with `BufferSize ≤ WindowSize` the bounds of `C19_run_gsap_sharp`
  (`max 1 (MinMatchLen - 1)`, `gsap_two_literals`) and of `C19_run_gsap` (`MinMatchLen`, for
  `MinMatchLen = 32 = n`, `gsap_minMatch_literals`) are attained.

  The suffix arrays of the buffers are given explicitly and certified by the checker `checkSA`
  (`checkSA_eq_saSpec`), so that `gsap.sort()` can be evaluated inside the kernel.
-/
import LzProofs.RunsGsap
import LzProofs.RunsEval
import LzProofs.SuffixProps
namespace LZ
open Parser

/-- the `.gsap` branch of `parseF` when it re-sorts: the state may as well hold the sorted
    structure already -/
theorem parseF_gsap_sort (s : Parser) (flags : Nat) (g G : GsapD) (hd : s.dict = .gsap g)
    (hn : s.blockN ≠ 0) (hre : s.buf.w + s.blockN > g.sa.size) (hG : gsapSort s.buf.data s.buf.w = G)
    (hcov : ¬ s.buf.w + s.blockN > G.sa.size) :
    s.parseF flags = ({ s with dict := .gsap G } : Parser).parseF flags := by
  unfold parseF
  simp only [hd]
  have e1 : ({ s with dict := Dict.gsap G } : Parser).blockN = s.blockN := rfl
  have e2 : ({ s with dict := Dict.gsap G } : Parser).minMatch = s.minMatch := rfl
  simp only [e1, e2, if_pos hre, hG, if_neg hcov, if_neg hn, ne_eq, not_true_eq_false, false_and, if_false]

/-- `gsap.sort()` for a suffix array given explicitly and certified by `checkSA`, so that it can be
    evaluated inside the kernel -/
theorem gsapSort_of_checkSA {data : List Byte} {saL : List Nat} (w : Nat) (h : checkSA data saL = true) :
    gsapSort data w =
      { sa := saL.toArray, isa := invertSA saL.toArray,
        bits := insertRanks (invertSA saL.toArray) (Array.replicate saL.toArray.size false) 0 w } := by
  unfold gsapSort
  rw [← checkSA_eq_saSpec h]

section Cex

/-- WindowSize 8 < BufferSize 80, BlockSize 33, MinMatchLen 3 -/
def gsCexCfg : Cfg :=
  { windowSize := 8, bufferSize := 80, blockSize := 33, shrinkSize := 40, minMatchLen := 3 }

/-- the parser `NewParser` returns for `gsCexCfg` -/
def gsCexS0 : Parser :=
  { kind := .GSAP, cfg := setDefaults .GSAP (gsCexCfg.restrict .GSAP),
    buf := PBuf.init (setDefaults .GSAP (gsCexCfg.restrict .GSAP)).bufCfg,
    dict := freshDict .GSAP (setDefaults .GSAP (gsCexCfg.restrict .GSAP)) }

theorem gsCexS0_new : newParser .GSAP gsCexCfg = some gsCexS0 :=
  newParser_of_verify (by decide)

/-- `a^32 'A' a^32` -/
def gsCexData : List Byte := List.replicate 32 97 ++ [65] ++ List.replicate 32 97

/-- the history: `Write(a^32 'A' a^32)`, `Parse(&blk, 0)` -/
def gsCexOps : List POp := [.write gsCexData, .parse 0]

/-- the suffix array of `gsCexData` (`#eval saSpec gsCexData`): the suffixes `a^k` (position
    `65 - k`) and `a^k A a^32` (position `32 - k`) interleave -/
def gsCexSA : List Nat :=
  [32, 64, 31, 63, 30, 62, 29, 61, 28, 60, 27, 59, 26, 58, 25, 57, 24, 56, 23, 55, 22, 54, 21, 53, 20,
   52, 19, 51, 18, 50, 17, 49, 16, 48, 15, 47, 14, 46, 13, 45, 12, 44, 11, 43, 10, 42, 9, 41, 8, 40, 7,
   39, 6, 38, 5, 37, 4, 36, 3, 35, 2, 34, 1, 33, 0]

/-- what `gsap.sort()` produces for `gsCexData` with the window head at 0 -/
def gsCexG : GsapD :=
  { sa := gsCexSA.toArray, isa := invertSA gsCexSA.toArray,
    bits := insertRanks (invertSA gsCexSA.toArray) (Array.replicate gsCexSA.toArray.size false) 0 0 }

theorem gsCex_sort : gsapSort gsCexData 0 = gsCexG :=
  gsapSort_of_checkSA 0 (by decide +kernel)

/-- Counterexample to the run clause for GSAP with `BufferSize > WindowSize` (kernel-checked):
    in the state reached by `gsCexOps` from `NewParser(gsCexCfg)` the next `Parse` returns the
    block `[33, 65)` of 32 bytes `a` as 32 literals — more than `MinMatchLen = 3`.  All hypotheses of
    `C19_run_gsap_reachable` hold except `BufferSize ≤ WindowSize`. -/
theorem gsap_run_counterexample :
    let s := (runOps (gsCexS0, Ghost.init) gsCexOps).1
    newParser .GSAP gsCexCfg = some gsCexS0 ∧
    ¬ gsCexS0.buf.cfg.bufferSize ≤ gsCexS0.buf.cfg.windowSize ∧
    (s.parse 0).2.1 = 32 ∧ (s.parse 0).2.2.1 = .ok ∧
    (∀ t, t < 32 → s.buf.data[s.buf.w + t]? = some 97) ∧
    (s.parse 0).2.2.2.seqs = [] ∧ (s.parse 0).2.2.2.lits.length = 32 ∧ s.minMatch = 3 := by
  intro s
  -- the state after `Write`
  have hs1 : s = ((gsCexS0.write gsCexData).1.parse 0).1 := by
    show (runOps (gsCexS0, Ghost.init) gsCexOps).1 = _
    rw [runOps_fst]
    rfl
  have hd1 : (gsCexS0.write gsCexData).1.buf.data = gsCexData ∧ (gsCexS0.write gsCexData).1.buf.w = 0 := by
    decide
  -- the first `Parse` sorts; use the explicit suffix array
  have hs2 : s = (({ (gsCexS0.write gsCexData).1 with dict := .gsap gsCexG } : Parser).parseF 0).1 := by
    rw [hs1, parse_eq_parseF,
      parseF_gsap_sort (gsCexS0.write gsCexData).1 0 GsapD.empty gsCexG rfl (by decide) (by decide)
        (by rw [hd1.1, hd1.2]; exact gsCex_sort) (by decide)]
  have hev : (s.buf.w = 33 ∧ s.buf.data = gsCexData ∧ s.minMatch = 3) ∧
      (s.parse 0).2.1 = 32 ∧ (s.parse 0).2.2.1 = .ok ∧ (s.parse 0).2.2.2.seqs = [] ∧
      (s.parse 0).2.2.2.lits.length = 32 := by
    rw [hs2, parse_eq_parseF]
    decide +kernel
  obtain ⟨hdata, hpar⟩ := hev
  refine ⟨gsCexS0_new, by decide, hpar.1, hpar.2.1, ?_, hpar.2.2.1, hpar.2.2.2, hdata.2.2⟩
  intro t ht
  rw [hdata.1, hdata.2.1]
  unfold gsCexData
  rw [List.getElem?_append_right (by simp), List.getElem?_replicate, if_pos (by simp; omega)]

end Cex

/-! ## `BufferSize ≤ WindowSize`: the bounds of `C19_run_gsap` / `C19_run_gsap_sharp` are attained -/

section Sharp

/-- WindowSize 64 = BufferSize, BlockSize 32, MinMatchLen 3 -/
def gsWCfg : Cfg :=
  { windowSize := 64, bufferSize := 64, blockSize := 32, shrinkSize := 16, minMatchLen := 3 }

def gsWS0 : Parser :=
  { kind := .GSAP, cfg := setDefaults .GSAP (gsWCfg.restrict .GSAP),
    buf := PBuf.init (setDefaults .GSAP (gsWCfg.restrict .GSAP)).bufCfg,
    dict := freshDict .GSAP (setDefaults .GSAP (gsWCfg.restrict .GSAP)) }

theorem gsWS0_new : newParser .GSAP gsWCfg = some gsWS0 :=
  newParser_of_verify (by decide)

/-- `a^30 b a^32` -/
def gsWData : List Byte := List.replicate 30 97 ++ [98] ++ List.replicate 32 97

/-- the history: `Write(a^30 b)`, `Parse(nil)`, `Write(a^32)` -/
def gsWOps : List POp := [.write (List.replicate 30 97 ++ [98]), .parseNil, .write (List.replicate 32 97)]

/-- the suffix array of `gsWData`: `a^1 < … < a^32` (positions 62 … 31), then `a^30 b… < … < b…`
    (positions 0 … 30) -/
def gsWSA : List Nat := (List.range 32).map (fun k => 62 - k) ++ List.range 31

/-- what `gsap.sort()` produces for `gsWData` with the window head at 31 -/
def gsWG : GsapD :=
  { sa := gsWSA.toArray, isa := invertSA gsWSA.toArray,
    bits := insertRanks (invertSA gsWSA.toArray) (Array.replicate gsWSA.toArray.size false) 0 31 }

theorem gsW_sort : gsapSort gsWData 31 = gsWG :=
  gsapSort_of_checkSA 31 (by decide +kernel)

/-- GSAP does not satisfy "at most one literal" either, and `C19_run_gsap_sharp` is sharp
    (kernel-checked; `BufferSize = WindowSize`, MinMatchLen 3): after `gsWOps` the next `Parse`
    returns the block `[31, 63)` of 32 bytes `a`, parsed as one match of length 30 with offset 31 (the
    old run) followed by `MinMatchLen - 1 = 2` literals (no match of 3 bytes fits any more). -/
theorem gsap_two_literals :
    let s := (runOps (gsWS0, Ghost.init) gsWOps).1
    newParser .GSAP gsWCfg = some gsWS0 ∧
    gsWS0.buf.cfg.bufferSize ≤ gsWS0.buf.cfg.windowSize ∧
    (s.parse 0).2.1 = 32 ∧ (s.parse 0).2.2.1 = .ok ∧
    (∀ t, t < 32 → s.buf.data[s.buf.w + t]? = some 97) ∧
    (s.parse 0).2.2.2.seqs = [⟨0, 30, 31, 0⟩] ∧ (s.parse 0).2.2.2.lits = [97, 97] ∧
    (s.parse 0).2.2.2.lits.length = max 1 (s.minMatch - 1) := by
  intro s
  have hdata : s.buf.w = 31 ∧ s.buf.data = gsWData ∧ s.minMatch = 3 := by decide
  have hpf : s.parse 0 = ({ s with dict := .gsap gsWG } : Parser).parseF 0 := by
    rw [parse_eq_parseF]
    exact parseF_gsap_sort s 0 GsapD.empty gsWG rfl (by decide) (by decide)
      (by rw [hdata.1, hdata.2.1]; exact gsW_sort) (by decide)
  have hpar : (s.parse 0).2.1 = 32 ∧ (s.parse 0).2.2.1 = .ok ∧
      (s.parse 0).2.2.2.seqs = [⟨0, 30, 31, 0⟩] ∧ (s.parse 0).2.2.2.lits = [97, 97] := by
    rw [hpf]
    decide +kernel
  refine ⟨gsWS0_new, by decide, hpar.1, hpar.2.1, ?_, hpar.2.2.1, hpar.2.2.2, ?_⟩
  · intro t ht
    rw [hdata.1, hdata.2.1]
    unfold gsWData
    rw [List.getElem?_append_right (by simp), List.getElem?_replicate, if_pos (by simp; omega)]
  · rw [hpar.2.2.2, hdata.2.2]; decide

/-- WindowSize 64 = BufferSize, BlockSize 32, MinMatchLen 32 -/
def gsMCfg : Cfg :=
  { windowSize := 64, bufferSize := 64, blockSize := 32, shrinkSize := 16, minMatchLen := 32 }

def gsMS0 : Parser :=
  { kind := .GSAP, cfg := setDefaults .GSAP (gsMCfg.restrict .GSAP),
    buf := PBuf.init (setDefaults .GSAP (gsMCfg.restrict .GSAP)).bufCfg,
    dict := freshDict .GSAP (setDefaults .GSAP (gsMCfg.restrict .GSAP)) }

theorem gsMS0_new : newParser .GSAP gsMCfg = some gsMS0 :=
  newParser_of_verify (by decide)

/-- the suffix array of `a^40`: positions 39, 38, …, 0 -/
def gsMSA : List Nat := (List.range 40).map (fun k => 39 - k)

def gsMG : GsapD :=
  { sa := gsMSA.toArray, isa := invertSA gsMSA.toArray,
    bits := insertRanks (invertSA gsMSA.toArray) (Array.replicate gsMSA.toArray.size false) 0 0 }

theorem gsM_sort : gsapSort (List.replicate 40 97) 0 = gsMG :=
  gsapSort_of_checkSA (saL := gsMSA) 0 (by decide +kernel)

/-- The bound `MinMatchLen` of `C19_run_gsap` is attained in the degenerate case
    `MinMatchLen = 32 = n` (kernel-checked): after `Write(a^40)` the first `Parse` returns the block
    `[0, 32)` as 32 literals — no match of 32 bytes fits into the block behind its first byte. -/
theorem gsap_minMatch_literals :
    let s := (runOps (gsMS0, Ghost.init) [.write (List.replicate 40 97)]).1
    newParser .GSAP gsMCfg = some gsMS0 ∧
    gsMS0.buf.cfg.bufferSize ≤ gsMS0.buf.cfg.windowSize ∧
    (s.parse 0).2.1 = 32 ∧ (s.parse 0).2.2.1 = .ok ∧
    (∀ t, t < 32 → s.buf.data[s.buf.w + t]? = some 97) ∧
    (s.parse 0).2.2.2.seqs = [] ∧ (s.parse 0).2.2.2.lits.length = 32 ∧ s.minMatch = 32 := by
  intro s
  have hdata : s.buf.w = 0 ∧ s.buf.data = List.replicate 40 97 ∧ s.minMatch = 32 := by decide
  have hpf : s.parse 0 = ({ s with dict := .gsap gsMG } : Parser).parseF 0 := by
    rw [parse_eq_parseF]
    exact parseF_gsap_sort s 0 GsapD.empty gsMG rfl (by decide) (by decide)
      (by rw [hdata.1, hdata.2.1]; exact gsM_sort) (by decide)
  have hpar : (s.parse 0).2.1 = 32 ∧ (s.parse 0).2.2.1 = .ok ∧
      (s.parse 0).2.2.2.seqs = [] ∧ (s.parse 0).2.2.2.lits.length = 32 := by
    rw [hpf]
    decide +kernel
  refine ⟨gsMS0_new, by decide, hpar.1, hpar.2.1, ?_, hpar.2.2.1, hpar.2.2.2, hdata.2.2⟩
  intro t ht
  rw [hdata.1, hdata.2.1, Nat.zero_add, List.getElem?_replicate, if_pos (by omega)]

end Sharp

end LZ

