/-
  LzProofs.ProbeW — the word-level byte code of the hash parsers *inside* the parser model.

  The model has two descriptions of the byte comparisons of hp.go, bhp.go, dhp.go, bdhp.go, bup.go:

   (A) `LzModel.Hash`: the match finders `hpProbe`, `dhpProbe`, `bupProbe` compute keys and match
       lengths with the list-level functions `le64At`, `lcpLen`, `lcsLen` (`backExt`);
   (B) `LzModel.BytesW`: the Go text of `_getLE64`, `lcp`, `lcs` and of the match length
       computation inlined in `Parse` (`matchLenInline`), with `Option` for panics, proved equal
       to the list-level functions *in isolation* (LzProofs/BytesProps.lean).

  This file composes them.  `hpProbeW`, `dhpProbeW`, `bupProbeW` are the model's finders in which
  EVERY access to the bytes of the buffer is the Go access:

    * the key            `_getLE64(_p[i:]) & mask`            (`loadKey`, reads up to 7 bytes behind `p`)
    * the match length   the inlined code                     (`BytesW.matchLenInline`)
                         `lcp(p[j:], p[i:])` in bup.go        (`BytesW.lcpW?` on `sliceFrom`)
                         `p[j+k-1] != p[i+k-1]` in bup.go     (`index`, panics out of range)
    * backward extension `lcs(p[j-back:j], p[:i])`            (`backExtW`: `slice`, `BytesW.lcsW?`)
    * re-indexing        `_getLE64(_p[j:]) & mask` per position (`insertRangeW`)

  on the memory `p ++ behind`: `p = s.Data[:W+n]`, `behind` = the bytes physically behind `p` in
  the backing array up to `cap(s.Data)` — the rest of `s.Data` and the stale bytes behind
  `len(s.Data)`, ARBITRARY contents.  Result `none` = the Go code panics.

  Subtleties, made explicit:

   1. *Reads behind the block.*  `_p = s.Data[:inputEnd+7]`, `inputEnd = len(p) - inputLen + 1`.
      The loads `_getLE64(_p[i:])`, `_getLE64(_p[j:])` (`j < i < inputEnd`) read the positions
      `i … i+7 ≤ inputEnd+6 = len(p) + 7 - inputLen`: up to `8 - inputLen ≤ 7` bytes behind
      `len(p)`, i.e. bytes of `behind` (later buffer bytes or stale memory).  Key: the mask keeps
      `inputLen` bytes, all inside `p` (`loadKey_eq`).  Match length: the first-word value is
      clamped with `if k > len(p)-i { k = len(p)-i }` — against the BLOCK END `len(p)`, not against
      `inputEnd`; the model's `lcpLen (p.drop j) (p.drop i)` is bounded by `len(p) - i` as well, so
      both agree, and a match found at `i < inputEnd` may extend behind `inputEnd` up to `len(p)`
      in both (`BytesW.matchLen8_eq`; examples with `nines` behind the block below).
   2. *`minMatchLen`.*  Go tests `k < minMatchLen` on the clamped first-word value (`≤ 8`), the
      model on the full length; equal for `minMatchLen ≤ 8` (the parsers have `min 3 inputLen`).
   3. *DHP / BDHP* use `_p = s.Data[:e1+7]` in both loops: the first loop (`i < e2`) is inside `_p`
      only for `e2 ≤ e1`, i.e. `InputLen1 ≤ InputLen2` (`Verify` demands `<`; an example shows the
      panic otherwise).
   4. *BUP*: `p[j+k-1]`, `p[i+k-1]` are index expressions (panic behind `len(p)`); they are in range
      because the running best `k` is a match length at `i` (`bupScanW_eq` carries `k ≤ len(p)-i`).
   5. *`processSegment`* reslices `f.Data[:b+7]` itself.  The model's guard in `parse`
      (`MarginOK`) covers only the reslice of `Parse`; `processSegment` needs `CapOK`, which holds
      in every reachable state.  Outside `CapOK` model and Go differ: `exOdd` below (checked
      against the Go library: "slice bounds out of range [:16] with capacity 15").
   6. Table accesses (`table[h]`, buckets) stay `getD` / `setIfInBounds` as in the model; their
      range safety is `C16_table_access` (LzProofs/SafeTables.lean).

  `candTail` is the part the hash finders share.  The `do`-free forms of these definitions, for the proofs
  about the translated Go text, are in ProbeWForms.lean.
-/
import LzModel.BytesW
import LzModel.Parser
import LzProofs.BytesProps
import LzProofs.ParseParser
import LzProofs.RunsBdhp
import LzProofs.RunsBucket
namespace LZ.ProbeW
open LZ.BytesW

/-! ## Go memory accesses -/

/-- `p[lo:hi]` for a slice `p` with the bytes `behind` inside its capacity: legal for
    `lo ≤ hi ≤ cap(p)` -/
def slice (p behind : List Byte) (lo hi : Nat) : Option (List Byte) :=
  if lo ≤ hi ∧ hi ≤ (p ++ behind).length then some (((p ++ behind).take hi).drop lo) else none

/-- `p[i]` (panics for `i ≥ len(p)`; an index expression never sees the capacity) -/
def index (p : List Byte) (i : Nat) : Option Byte := p[i]?

/-- `_getLE64(_p[i:]) & mask` -/
def loadKey (_p : List Byte) (inputLen i : Nat) : Option UInt64 := do
  let y ← le64 (← sliceFrom _p i)
  return y &&& maskOf inputLen

/-! ## table updates with word-level keys -/

/-- `x := _getLE64(_p[i:]) & mask; table[hashValue(x, shift)] = hashEntry{pos: i, value: uint32(x)}` -/
def insertW (h : HashT) (_p : List Byte) (i : Nat) : Option HashT := do
  let x ← loadKey _p h.inputLen i
  return { h with tbl := h.tbl.setIfInBounds (hashValue x h.hashBits) (i, lo32 x) }

/-- `for j = a; j < a+n; j++ { … }` -/
def insertRangeW (h : HashT) (_p : List Byte) (a : Nat) : Nat → Option HashT
  | 0 => some h
  | n + 1 => do insertRangeW (← insertW h _p a) _p (a + 1) n

/-- `x := _getLE64(_p[i:]) & mask; s.add(hashValue(x, shift), i, uint32(x))` -/
def binsertW (b : BucketT) (_p : List Byte) (i : Nat) : Option BucketT := do
  let x ← loadKey _p b.inputLen i
  return b.add (hashValue x b.hashBits) i (lo32 x)

def binsertRangeW (b : BucketT) (_p : List Byte) (a : Nat) : Nat → Option BucketT
  | 0 => some b
  | n + 1 => do binsertRangeW (← binsertW b _p a) _p (a + 1) n

/-! ## the finders -/

/-- `if back := i - litIndex; back > 0 { if back > j { back = j }; m := lcs(p[j-back:j], p[:i]) }` -/
def backExtW (p behind : List Byte) (i li j : Nat) : Option Nat :=
  if i > li then do
    let back := i - li
    let back := if back > j then j else back
    lcsW? (← slice p behind (j - back) j) (← slice p behind 0 i)
  else some 0

/-- one iteration of the loop of hp.go (`back = false`) / bhp.go (`back = true`) -/
def hpProbeW (ws minMatch inputEnd : Nat) (back : Bool) (behind : List Byte)
    (h : HashT) (p : List Byte) (i li : Nat) : Option (HashT × Option (Nat × Nat × Nat)) := do
  let _p ← sliceTo p behind (inputEnd + 7)
  let x ← loadKey _p h.inputLen i
  let idx := hashValue x h.hashBits
  let entry := h.tbl.getD idx (0, 0)
  let v := lo32 x
  let h1 : HashT := { h with tbl := h.tbl.setIfInBounds idx (i, v) }
  if v ≠ entry.2 then return (h1, none)
  let j := entry.1
  if ¬ (j < i ∧ i - j ≤ ws) then return (h1, none)
  match ← matchLenInline p behind inputEnd minMatch i j with
  | none => return (h1, none)
  | some k =>
    let m ← if back then backExtW p behind i li j else pure 0
    let s := i - m
    let k := k + m
    let b := min (s + k) inputEnd
    let h2 ← insertRangeW h1 _p (s + 1) (b - (s + 1))
    return (h2, some (s, k, i - j))

/-- one iteration of the loops of dhp.go (`back = false`) / bdhp.go (`back = true`);
    `_p = s.Data[:e1+7]` in both loops -/
def dhpProbeW (ws minMatch e1 e2 : Nat) (back : Bool) (behind : List Byte)
    (d : Hash2) (p : List Byte) (i li : Nat) : Option (Hash2 × Option (Nat × Nat × Nat)) := do
  let _p ← sliceTo p behind (e1 + 7)
  if i < e2 then
    let x2 ← loadKey _p d.h2.inputLen i
    let idx2 := hashValue x2 d.h2.hashBits
    let entry2 := d.h2.tbl.getD idx2 (0, 0)
    let v2 := lo32 x2
    let t2 : HashT := { d.h2 with tbl := d.h2.tbl.setIfInBounds idx2 (i, v2) }
    let x1 ← loadKey _p d.h1.inputLen i
    let idx1 := hashValue x1 d.h1.hashBits
    let entry1 := d.h1.tbl.getD idx1 (0, 0)
    let v1 := lo32 x1
    let t1 : HashT := { d.h1 with tbl := d.h1.tbl.setIfInBounds idx1 (i, v1) }
    let d1 : Hash2 := { h1 := t1, h2 := t2 }
    let cand : Option (Nat × Nat) :=
      if v2 ≠ entry2.2 then (if v1 ≠ entry1.2 then none else some entry1) else some entry2
    match cand with
    | none => return (d1, none)
    | some entry =>
      let j := entry.1
      if ¬ (j < i ∧ i - j ≤ ws) then return (d1, none)
      match ← matchLenInline p behind e1 minMatch i j with
      | none => return (d1, none)
      | some k =>
        let m ← if back then backExtW p behind i li j else pure 0
        let s := i - m
        let k := k + m
        let li' := s + k
        let n1 := min li' e1 - (s + 1)
        let n2 := min li' e2 - (s + 1)
        let t1' ← insertRangeW t1 _p (s + 1) n1
        let t2' ← if back then pure t2 else insertRangeW t2 _p (s + 1) n2
        return ({ h1 := t1', h2 := t2' }, some (s, k, i - j))
  else
    let x1 ← loadKey _p d.h1.inputLen i
    let idx1 := hashValue x1 d.h1.hashBits
    let entry := d.h1.tbl.getD idx1 (0, 0)
    let v1 := lo32 x1
    let t1 : HashT := { d.h1 with tbl := d.h1.tbl.setIfInBounds idx1 (i, v1) }
    let d1 : Hash2 := { d with h1 := t1 }
    if v1 ≠ entry.2 then return (d1, none)
    let j := entry.1
    if ¬ (j < i ∧ i - j ≤ ws) then return (d1, none)
    match ← matchLenInline p behind e1 minMatch i j with
    | none => return (d1, none)
    | some k =>
      let m ← if back then backExtW p behind i li j else pure 0
      let s := i - m
      let k := k + m
      let b := min (s + k) e1
      let t1' ← insertRangeW t1 _p j (b - j)
      return ({ d1 with h1 := t1' }, some (s, k, i - j))

/-- `for _, e := range s.bucket(h) { … }` of bup.go: `p[j+k-1] != p[i+k-1]` are index expressions,
    `ke := lcp(p[j:], p[i:])` -/
def bupScanW (bk : BucketT) (p : List Byte) (i ws v base : Nat) :
    List Nat → Nat → Nat → Option (Nat × Nat)
  | [], o, k => some (o, k)
  | s :: rest, o, k =>
    let e := bk.buckets.getD (base + s) (0, 0)
    if v ≠ e.2 then bupScanW bk p i ws v base rest o k
    else
      let j := e.1
      if ¬ (j < i ∧ i - j ≤ ws) then bupScanW bk p i ws v base rest o k
      else do
        let differ ← if k > 0 then do
            let a ← index p (j + k - 1)
            let b ← index p (i + k - 1)
            pure (a != b)
          else pure false
        if differ then bupScanW bk p i ws v base rest o k
        else
          let ke ← lcpW? (← sliceFrom p j) (← sliceFrom p i)
          if ke < k ∨ (ke = k ∧ i - j ≥ o) then bupScanW bk p i ws v base rest o k
          else bupScanW bk p i ws v base rest (i - j) ke

/-- one iteration of the loop of bup.go -/
def bupProbeW (ws minMatch inputEnd : Nat) (behind : List Byte)
    (bk : BucketT) (p : List Byte) (i _li : Nat) : Option (BucketT × Option (Nat × Nat × Nat)) := do
  let _p ← sliceTo p behind (inputEnd + 7)
  let x ← loadKey _p bk.inputLen i
  let h := hashValue x bk.hashBits
  let v := lo32 x
  let (o, k) ← bupScanW bk p i ws v (h * bk.bucketSize) (List.range bk.bucketSize) 0 0
  let bk1 := bk.add h i v
  if k < minMatch then return (bk1, none)
  let b := min (i + k) inputEnd
  let bk2 ← binsertRangeW bk1 _p (i + 1) (b - (i + 1))
  return (bk2, some (i, k, o))

/-! ## what the hash finders do with a candidate -/

/-- What every hash finder does with a candidate `j`: window test, inlined match length, backward
    extension (`back`), then the finder's own re-indexing `K k m`; `A` is the answer when `j` is not
    verified. -/
def candTail {α} (ws mm e : Nat) (back : Bool) (p behind : List Byte) (i li j : Nat) (A : α)
    (K : Nat → Nat → Option α) : Option α :=
  if ¬ (j < i ∧ i - j ≤ ws) then some A
  else
    (matchLenInline p behind e mm i j).bind fun r =>
    match r with
    | none => some A
    | some k => (if back then backExtW p behind i li j else some 0).bind fun m => K k m

/-- the shape in which the `do` blocks of the finders spell it -/
theorem candTail_do {α} (ws mm e : Nat) (back : Bool) (p behind : List Byte) (i li j : Nat) (A : α)
    (K : Nat → Nat → Option α) :
    (if ¬ (j < i ∧ i - j ≤ ws) then some A else
      (matchLenInline p behind e mm i j).bind fun r =>
        match r with
        | none => some A
        | some k =>
          if back = true then (backExtW p behind i li j).bind fun m => K k m
          else (some 0).bind fun m => K k m) = candTail ws mm e back p behind i li j A K := by
  unfold candTail
  cases back <;> rfl

/-! ## the accesses stay inside the capacity and do not depend on `behind` -/

theorem slice_eq_some (p behind : List Byte) (lo hi : Nat) (h1 : lo ≤ hi) (h2 : hi ≤ p.length) :
    slice p behind lo hi = some ((p.take hi).drop lo) := by
  unfold slice
  rw [if_pos ⟨h1, by rw [List.length_append]; omega⟩, List.take_append_of_le_length h2]

theorem index_eq_some (p : List Byte) (i : Nat) (h : i < p.length) : index p i = some p[i] := by
  unfold index; exact List.getElem?_eq_getElem h

/-- the key load through `_p = s.Data[:inputEnd+7]`: for `i < inputEnd` no panic, and the masked
    value is the model's key — whatever the (at most 7) bytes read behind `p` contain -/
theorem loadKey_eq (p behind : List Byte) (e n i : Nat) (hcap : e + 7 ≤ (p ++ behind).length)
    (hi : i < e) (h : i + min n 8 ≤ p.length) :
    loadKey ((p ++ behind).take (e + 7)) n i = some (le64At p i &&& maskOf n) := by
  unfold loadKey
  have hlen : ((p ++ behind).take (e + 7)).length = e + 7 := by rw [List.length_take]; omega
  rw [sliceFrom_eq_some _ i (by omega)]
  obtain ⟨y, hy, hyv⟩ := le64_eq_some' (((p ++ behind).take (e + 7)).drop i)
    (by rw [List.length_drop, hlen]; omega)
  simp only [hy, bind, Option.bind, pure]
  congr 1
  exact key_window hyv p i n (window_eq p behind (e + 7) i (min n 8) h (by omega))

theorem insertW_eq (hsh : HashT) (p behind : List Byte) (e i : Nat)
    (hcap : e + 7 ≤ (p ++ behind).length) (hi : i < e) (h : i + min hsh.inputLen 8 ≤ p.length) :
    insertW hsh ((p ++ behind).take (e + 7)) i = some (hsh.insert p i) := by
  unfold insertW
  rw [loadKey_eq p behind e _ i hcap hi h]
  rfl

/-- re-indexing the positions `a, …, b-1`, all `< e` and with their `inputLen` bytes inside `p` -/
theorem insertRangeW_eq (p behind : List Byte) (e : Nat) (hcap : e + 7 ≤ (p ++ behind).length)
    (hsh : HashT) (a b : Nat)
    (h : a < b → b ≤ e ∧ b + min hsh.inputLen 8 ≤ p.length + 1) :
    insertRangeW hsh ((p ++ behind).take (e + 7)) a (b - a) = some (hsh.insertRange p a (b - a)) := by
  induction hn : b - a generalizing a hsh with
  | zero => rfl
  | succ n ih =>
    have hb := h (by omega)
    unfold insertRangeW HashT.insertRange
    rw [insertW_eq hsh p behind e a hcap (by omega) (by omega)]
    exact ih (hsh.insert p a) (a + 1) (fun _ => hb) (by omega)

theorem binsertW_eq (bk : BucketT) (p behind : List Byte) (e i : Nat)
    (hcap : e + 7 ≤ (p ++ behind).length) (hi : i < e) (h : i + min bk.inputLen 8 ≤ p.length) :
    binsertW bk ((p ++ behind).take (e + 7)) i = some (bk.insert p i) := by
  unfold binsertW
  rw [loadKey_eq p behind e _ i hcap hi h]
  rfl

theorem binsertRangeW_eq (p behind : List Byte) (e : Nat) (hcap : e + 7 ≤ (p ++ behind).length)
    (bk : BucketT) (a b : Nat)
    (h : a < b → b ≤ e ∧ b + min bk.inputLen 8 ≤ p.length + 1) :
    binsertRangeW bk ((p ++ behind).take (e + 7)) a (b - a) = some (bk.insertRange p a (b - a)) := by
  induction hn : b - a generalizing a bk with
  | zero => rfl
  | succ n ih =>
    have hb := h (by omega)
    unfold binsertRangeW BucketT.insertRange
    rw [binsertW_eq bk p behind e a hcap (by omega) (by omega)]
    exact ih (bk.insert p a) (a + 1) (fun _ => hb) (by omega)

/-- the backward extension of bhp.go / bdhp.go: the two slice expressions are in range for
    `j < i ≤ len(p)`, `lcs` does not panic, and the result is the model's `backExt` -/
theorem backExtW_eq (p behind : List Byte) (i li j : Nat) (hj : j ≤ i) (hi : i ≤ p.length) :
    backExtW p behind i li j = some (backExt p i li j) := by
  unfold backExtW backExt
  split
  · have hmin : (if i - li > j then j else i - li) = min (i - li) j := by split <;> omega
    simp only [hmin]
    rw [slice_eq_some p behind _ j (by omega) (by omega), slice_eq_some p behind 0 i (by omega) hi]
    simp only [bind, Option.bind, List.drop_zero]
    exact lcsW?_eq _ _
  · rfl

/-- … as it occurs in the finders, where only bhp.go / bdhp.go (`back`) extend backwards -/
theorem backExtW_bind {α} (back : Bool) (p behind : List Byte) (i li j : Nat) (hj : j ≤ i)
    (hi : i ≤ p.length) (F : Nat → Option α) :
    (if back = true then backExtW p behind i li j else some 0).bind F =
      F (if back = true then backExt p i li j else 0) := by
  cases back
  · rfl
  · rw [if_pos rfl, if_pos rfl, backExtW_eq p behind i li j hj hi, Option.bind_some]

/-! ## the word-level finders compute the model's finders -/

theorem matchLenInline_model (p behind : List Byte) (e mm i j : Nat)
    (hj : j < i) (hi : i < e) (hE : e ≤ p.length) (hcap : e + 7 ≤ (p ++ behind).length)
    (hmm : mm ≤ 8) :
    matchLenInline p behind e mm i j =
      some (if lcpLen (p.drop j) (p.drop i) < mm then none else some (lcpLen (p.drop j) (p.drop i))) :=
  matchLenInline_eq_probe p behind e mm i j hj hi hE hcap hmm

theorem loadKey_key (hsh : HashT) (p behind : List Byte) (e i : Nat)
    (hcap : e + 7 ≤ (p ++ behind).length) (hi : i < e) (h : i + min hsh.inputLen 8 ≤ p.length) :
    loadKey ((p ++ behind).take (e + 7)) hsh.inputLen i = some (hsh.key p i) :=
  loadKey_eq p behind e _ i hcap hi h

theorem loadKey_bkey (bk : BucketT) (p behind : List Byte) (e i : Nat)
    (hcap : e + 7 ≤ (p ++ behind).length) (hi : i < e) (h : i + min bk.inputLen 8 ≤ p.length) :
    loadKey ((p ++ behind).take (e + 7)) bk.inputLen i = some (bk.key p i) :=
  loadKey_eq p behind e _ i hcap hi h

/-- No access of `candTail` panics, and the outcome is the model's: nothing (`A`) unless `j` is
    verified, else `B`, the value of the finder's re-indexing. -/
theorem candTailW {α} (ws mm e : Nat) (back : Bool) (p behind : List Byte) (i li j : Nat) (A B : α)
    (K : Nat → Nat → Option α) (hi : i < e) (hE : e ≤ p.length) (hcap : e + 7 ≤ (p ++ behind).length)
    (hmm : mm ≤ 8)
    (hK : K (lcpLen (p.drop j) (p.drop i)) (if back = true then backExt p i li j else 0) = some B) :
    candTail ws mm e back p behind i li j A K =
      some (if ¬ (j < i ∧ i - j ≤ ws) then A
        else if lcpLen (p.drop j) (p.drop i) < mm then A else B) := by
  unfold candTail
  by_cases hw : ¬ (j < i ∧ i - j ≤ ws)
  · simp only [if_pos hw]
  simp only [if_neg hw]
  have hw' := Decidable.not_not.mp hw
  rw [matchLenInline_model p behind e mm i j hw'.1 hi hE hcap hmm, Option.bind_some]
  by_cases hk : lcpLen (p.drop j) (p.drop i) < mm
  · simp only [if_pos hk]
  simp only [if_neg hk]
  rw [backExtW_bind back p behind i li j (by omega) (by omega), hK]

/-- HP / BHP.  One iteration of the loop of `Parse` at a position `i < inputEnd`: the Go byte
    code (`_getLE64` loads through `_p`, inlined match length, `lcs`) does not panic and computes
    exactly the model's `hpProbe` — for every table `h`, every `li`, every `behind`. -/
theorem hpProbeW_eq (ws mm inputEnd : Nat) (back : Bool) (behind : List Byte)
    (h : HashT) (p : List Byte) (i li : Nat)
    (hcap : inputEnd + 7 ≤ (p ++ behind).length) (hi : i < inputEnd)
    (hil : 1 ≤ h.inputLen) (hE : inputEnd ≤ p.length + 1 - h.inputLen) (hmm : mm ≤ 8) :
    hpProbeW ws mm inputEnd back behind h p i li = some (hpProbe ws mm inputEnd back h p i li) := by
  -- re-indexing stops at `inputEnd`, whatever the match found
  have hins : ∀ (tbl : Array (Nat × Nat)) (a x : Nat),
      insertRangeW { h with tbl := tbl } ((p ++ behind).take (inputEnd + 7)) a (min x inputEnd - a) =
        some (({ h with tbl := tbl } : HashT).insertRange p a (min x inputEnd - a)) := fun tbl a x =>
    insertRangeW_eq p behind inputEnd hcap _ a _ fun _ => ⟨Nat.min_le_right _ _, by simp only []; omega⟩
  unfold hpProbeW hpProbe
  simp only [Option.bind_eq_bind, Option.pure_def]
  rw [sliceTo_eq_some _ _ _ hcap, Option.bind_some,
    loadKey_key h p behind inputEnd i hcap hi (by omega), Option.bind_some]
  generalize h.key p i = x
  generalize h.tbl.getD (hashValue x h.hashBits) (0, 0) = entry
  by_cases hv : lo32 x ≠ entry.2
  · simp only [if_pos hv]
  simp only [if_neg hv]
  exact (candTail_do ..).trans (candTailW ws mm inputEnd back p behind i li entry.1 _ _ _ hi (by omega)
    hcap hmm (by rw [hins, Option.bind_some]))

/-- DHP / BDHP.  One iteration of either loop of `Parse` (`i < e2`: both tables; `e2 ≤ i < e1`:
    the table of the short hash only) — no panic, result = the model's `dhpProbe`. -/
theorem dhpProbeW_eq (ws mm e1 e2 : Nat) (back : Bool) (behind : List Byte)
    (d : Hash2) (p : List Byte) (i li : Nat)
    (hcap : e1 + 7 ≤ (p ++ behind).length) (hi : i < e1) (he : e2 ≤ e1)
    (hil : 1 ≤ d.h1.inputLen) (hE1 : e1 ≤ p.length + 1 - d.h1.inputLen)
    (hE2 : e2 ≤ p.length + 1 - d.h2.inputLen) (hmm : mm ≤ 8) :
    dhpProbeW ws mm e1 e2 back behind d p i li = some (dhpProbe ws mm e1 e2 back d p i li) := by
  -- re-indexing of the short hash stops at `e1`, of the long hash at `e2`
  have hins1 : ∀ (tbl : Array (Nat × Nat)) (a x : Nat),
      insertRangeW { d.h1 with tbl := tbl } ((p ++ behind).take (e1 + 7)) a (min x e1 - a) =
        some (({ d.h1 with tbl := tbl } : HashT).insertRange p a (min x e1 - a)) := fun tbl a x =>
    insertRangeW_eq p behind e1 hcap _ a _ fun _ => ⟨Nat.min_le_right _ _, by simp only []; omega⟩
  have hins2 : ∀ (tbl : Array (Nat × Nat)) (a x : Nat),
      insertRangeW { d.h2 with tbl := tbl } ((p ++ behind).take (e1 + 7)) a (min x e2 - a) =
        some (({ d.h2 with tbl := tbl } : HashT).insertRange p a (min x e2 - a)) := fun tbl a x =>
    insertRangeW_eq p behind e1 hcap _ a _ fun _ =>
      ⟨Nat.le_trans (Nat.min_le_right _ _) he, by simp only []; omega⟩
  unfold dhpProbeW dhpProbe
  simp only [Option.bind_eq_bind, Option.pure_def]
  rw [sliceTo_eq_some _ _ _ hcap, Option.bind_some]
  by_cases hi2 : i < e2
  · simp only [if_pos hi2]
    rw [loadKey_key d.h2 p behind e1 i hcap hi (by omega), Option.bind_some,
      loadKey_key d.h1 p behind e1 i hcap hi (by omega), Option.bind_some]
    generalize d.h2.key p i = x2
    generalize d.h1.key p i = x1
    generalize d.h2.tbl.getD (hashValue x2 d.h2.hashBits) (0, 0) = entry2
    generalize d.h1.tbl.getD (hashValue x1 d.h1.hashBits) (0, 0) = entry1
    generalize (if lo32 x2 ≠ entry2.2 then (if lo32 x1 ≠ entry1.2 then none else some entry1)
      else some entry2) = cand
    cases cand with
    | none => rfl
    | some entry =>
      simp only []
      refine (candTail_do ..).trans (candTailW ws mm e1 back p behind i li entry.1 _ _ _ hi (by omega) hcap
        hmm ?_)
      rw [hins1, Option.bind_some]
      cases back
      · simp only [Bool.false_eq_true, if_false]
        rw [hins2, Option.bind_some]
      · rfl
  · simp only [if_neg hi2]
    rw [loadKey_key d.h1 p behind e1 i hcap hi (by omega), Option.bind_some]
    generalize d.h1.key p i = x1
    generalize d.h1.tbl.getD (hashValue x1 d.h1.hashBits) (0, 0) = entry
    by_cases hv : lo32 x1 ≠ entry.2
    · simp only [if_pos hv]
    simp only [if_neg hv]
    exact (candTail_do ..).trans (candTailW ws mm e1 back p behind i li entry.1 _ _ _ hi (by omega) hcap
      hmm (by rw [hins1, Option.bind_some]))

/-- the scan over one bucket in bup.go: the two index expressions `p[j+k-1]`, `p[i+k-1]` are in
    range because the running best length `k` is a match length at `i` (`k ≤ len(p) - i`), `lcp`
    does not panic; the result is the model's `bupScan` -/
theorem bupScanW_eq (bk : BucketT) (p : List Byte) (i ws v base : Nat) (hi : i ≤ p.length) :
    ∀ (slots : List Nat) (o k : Nat), k ≤ p.length - i →
      bupScanW bk p i ws v base slots o k = some (bupScan bk p i ws v base slots o k) := by
  intro slots
  induction slots with
  | nil => intro o k _; rfl
  | cons s rest ih =>
    intro o k hk
    unfold bupScanW bupScan
    simp only [Option.bind_eq_bind, Option.pure_def]
    generalize bk.buckets.getD (base + s) (0, 0) = e
    by_cases hv : v ≠ e.2
    · simp only [if_pos hv]; exact ih o k hk
    simp only [if_neg hv]
    by_cases hw : ¬ (e.1 < i ∧ i - e.1 ≤ ws)
    · simp only [if_pos hw]; exact ih o k hk
    simp only [if_neg hw]
    have hw' := Decidable.not_not.mp hw
    have hle : lcpLen (p.drop e.1) (p.drop i) ≤ p.length - i := by
      have := lcpLen_le_right (p.drop e.1) (p.drop i)
      rw [List.length_drop] at this; exact this
    have tail : ((sliceFrom p e.1).bind fun a => (sliceFrom p i).bind fun b => (lcpW? a b).bind fun ke =>
          if ke < k ∨ ke = k ∧ i - e.1 ≥ o then bupScanW bk p i ws v base rest o k
          else bupScanW bk p i ws v base rest (i - e.1) ke) =
        some (if lcpLen (p.drop e.1) (p.drop i) < k ∨
              lcpLen (p.drop e.1) (p.drop i) = k ∧ i - e.1 ≥ o then bupScan bk p i ws v base rest o k
          else bupScan bk p i ws v base rest (i - e.1) (lcpLen (p.drop e.1) (p.drop i))) := by
      rw [sliceFrom_eq_some p e.1 (by omega), Option.bind_some, sliceFrom_eq_some p i hi,
        Option.bind_some, lcpW?_eq, Option.bind_some]
      split
      · exact ih o k hk
      · exact ih _ _ hle
    by_cases hk0 : k > 0
    · simp only [if_pos hk0]
      obtain ⟨a, ha⟩ : ∃ a, p[e.1 + k - 1]? = some a :=
        ⟨_, List.getElem?_eq_getElem (by omega : e.1 + k - 1 < p.length)⟩
      obtain ⟨b, hb⟩ : ∃ b, p[i + k - 1]? = some b :=
        ⟨_, List.getElem?_eq_getElem (by omega : i + k - 1 < p.length)⟩
      simp only [index, ha, hb, Option.bind_some]
      by_cases hab : a = b
      · subst hab
        simp only [bne_self_eq_false, Bool.false_eq_true, if_false, ne_eq, not_true_eq_false,
          and_false]
        exact tail
      · have h1 : (a != b) = true := by simpa using hab
        have h2 : k > 0 ∧ some a ≠ some b := ⟨hk0, by simpa using hab⟩
        simp only [h1, if_true, if_pos h2]
        exact ih o k hk
    · simp only [if_neg hk0, Option.bind_some, Bool.false_eq_true, if_false]
      have h2 : ¬ (k > 0 ∧ p[e.1 + k - 1]? ≠ p[i + k - 1]?) := fun h => hk0 h.1
      simp only [if_neg h2]
      exact tail

/-- BUP.  One iteration of the loop of `Parse`: key load through `_p`, the bucket scan with
    `lcp` and the two index expressions, re-indexing — no panic, result = the model's `bupProbe`. -/
theorem bupProbeW_eq (ws mm inputEnd : Nat) (behind : List Byte)
    (bk : BucketT) (p : List Byte) (i li : Nat)
    (hcap : inputEnd + 7 ≤ (p ++ behind).length) (hi : i < inputEnd)
    (hil : 1 ≤ bk.inputLen) (hE : inputEnd ≤ p.length + 1 - bk.inputLen) :
    bupProbeW ws mm inputEnd behind bk p i li = some (bupProbe ws mm inputEnd bk p i li) := by
  unfold bupProbeW bupProbe
  simp only [Option.bind_eq_bind, Option.pure_def]
  rw [sliceTo_eq_some _ _ _ hcap, Option.bind_some,
    loadKey_bkey bk p behind inputEnd i hcap hi (by omega), Option.bind_some,
    bupScanW_eq bk p i ws _ _ (by omega) _ 0 0 (Nat.zero_le _), Option.bind_some]
  generalize bk.key p i = x
  generalize bupScan bk p i ws (lo32 x) (hashValue x bk.hashBits * bk.bucketSize)
    (List.range bk.bucketSize) 0 0 = r
  obtain ⟨o, k⟩ := r
  simp only []
  by_cases hk : k < mm
  · simp only [if_pos hk]
  simp only [if_neg hk]
  rw [binsertRangeW_eq p behind inputEnd hcap _ _ _ fun _ =>
    ⟨Nat.min_le_right _ _, by show _ + min bk.inputLen 8 ≤ _; omega⟩, Option.bind_some]

/-! ## the loop of `Parse` with a word-level finder -/

/-- `greedyLoop` (LzModel/Loop.lean) for a finder that may panic: a panic ends the run -/
def greedyLoopW {δ} (f : δ → List Byte → Nat → Nat → Option (δ × Option (Nat × Nat × Nat)))
    (p : List Byte) (stop : Nat) (st : LoopSt δ) : Option (LoopSt δ) :=
  if _h : st.i < stop then
    match _hp : f st.dict p st.i st.litIndex with
    | none => none
    | some (d, none) => greedyLoopW f p stop { st with dict := d, i := st.i + 1 }
    | some (d, some (s, k, o)) =>
      if _hk : s + k > st.i then
        let q := (p.drop st.litIndex).take (s - st.litIndex)
        greedyLoopW f p stop
          { dict := d, i := s + k, litIndex := s + k,
            seqs := st.seqs ++ [{ litLen := q.length, matchLen := k, offset := o }],
            lits := st.lits ++ q }
      else some { st with dict := d, i := stop }
  else some st
termination_by stop - st.i
decreasing_by all_goals simp_wf; all_goals omega

/-- `Parser.runGreedy` with a word-level finder -/
def runGreedyW {δ} (f : δ → List Byte → Nat → Nat → Option (δ × Option (Nat × Nat × Nat)))
    (d : δ) (p : List Byte) (w stop flags : Nat) : Option (δ × Nat × Block × Nat) := do
  let st ← greedyLoopW f p stop { dict := d, i := w, litIndex := w, seqs := [], lits := [] }
  let r := finishBlock p flags st
  return (st.dict, r.1, r.2, st.litIndex)

/-- `runGreedyW` of a run whose loop did not panic -/
theorem runGreedyW_of_loop {δ} {f : δ → List Byte → Nat → Nat → Option (δ × Option (Nat × Nat × Nat))}
    {d : δ} {p : List Byte} {w stop flags : Nat} {st : LoopSt δ}
    (h : greedyLoopW f p stop { dict := d, i := w, litIndex := w, seqs := [], lits := [] } = some st) :
    runGreedyW f d p w stop flags =
      some (st.dict, (finishBlock p flags st).1, (finishBlock p flags st).2, st.litIndex) := by
  unfold runGreedyW
  simp only [Option.bind_eq_bind, Option.pure_def]
  rw [h, Option.bind_some]

theorem greedyLoopW_done {δ} (f : δ → List Byte → Nat → Nat → Option (δ × Option (Nat × Nat × Nat)))
    (p : List Byte) (stop : Nat) (st : LoopSt δ) (h : ¬ st.i < stop) :
    greedyLoopW f p stop st = some st := by
  rw [greedyLoopW]; simp only [h, dite_false]

/-- a panic of the finder ends the run -/
theorem greedyLoopW_noneP {δ} (f : δ → List Byte → Nat → Nat → Option (δ × Option (Nat × Nat × Nat)))
    (p : List Byte) (stop : Nat) (st : LoopSt δ) (h : st.i < stop)
    (hp : f st.dict p st.i st.litIndex = none) : greedyLoopW f p stop st = none := by
  rw [greedyLoopW]; simp only [h, dite_true]
  split
  · rfl
  · rename_i d2 heq; rw [hp] at heq; cases heq
  · rename_i d2 s2 k2 o2 heq; rw [hp] at heq; cases heq

theorem greedyLoopW_none {δ} (f : δ → List Byte → Nat → Nat → Option (δ × Option (Nat × Nat × Nat)))
    (p : List Byte) (stop : Nat) (st : LoopSt δ) (d : δ) (h : st.i < stop)
    (hp : f st.dict p st.i st.litIndex = some (d, none)) :
    greedyLoopW f p stop st = greedyLoopW f p stop { st with dict := d, i := st.i + 1 } := by
  rw [greedyLoopW]; simp only [h, dite_true]
  split
  · rename_i heq; rw [hp] at heq; cases heq
  · rename_i d2 heq; rw [hp] at heq; cases heq; rfl
  · rename_i d2 s2 k2 o2 heq; rw [hp] at heq; cases heq

theorem greedyLoopW_some {δ} (f : δ → List Byte → Nat → Nat → Option (δ × Option (Nat × Nat × Nat)))
    (p : List Byte) (stop : Nat) (st : LoopSt δ) (d : δ) (s k o : Nat) (h : st.i < stop)
    (hp : f st.dict p st.i st.litIndex = some (d, some (s, k, o))) (hk : s + k > st.i) :
    greedyLoopW f p stop st = greedyLoopW f p stop
      { dict := d, i := s + k, litIndex := s + k,
        seqs := st.seqs ++ [{ litLen := ((p.drop st.litIndex).take (s - st.litIndex)).length,
                              matchLen := k, offset := o }],
        lits := st.lits ++ (p.drop st.litIndex).take (s - st.litIndex) } := by
  rw [greedyLoopW]; simp only [h, dite_true]
  split
  · rename_i heq; rw [hp] at heq; cases heq
  · rename_i d2 heq; rw [hp] at heq; cases heq
  · rename_i d2 s2 k2 o2 heq; rw [hp] at heq; cases heq
    simp only [hk, dite_true]

theorem greedyLoopW_bad {δ} (f : δ → List Byte → Nat → Nat → Option (δ × Option (Nat × Nat × Nat)))
    (p : List Byte) (stop : Nat) (st : LoopSt δ) (d : δ) (s k o : Nat) (h : st.i < stop)
    (hp : f st.dict p st.i st.litIndex = some (d, some (s, k, o))) (hk : ¬ s + k > st.i) :
    greedyLoopW f p stop st = some { st with dict := d, i := stop } := by
  rw [greedyLoopW]; simp only [h, dite_true]
  split
  · rename_i heq; rw [hp] at heq; cases heq
  · rename_i d2 heq; rw [hp] at heq; cases heq
  · rename_i d2 s2 k2 o2 heq; rw [hp] at heq; cases heq
    simp only [hk, dite_false]

/-- If the word-level finder agrees with the finder `F` at all positions `< stop` for all
    dictionaries satisfying an invariant `P` of `F`, the two loops agree (and no panic occurs). -/
theorem greedyLoopW_eq {δ} (F : Finder δ)
    (f : δ → List Byte → Nat → Nat → Option (δ × Option (Nat × Nat × Nat)))
    (p : List Byte) (stop : Nat) (P : δ → Prop)
    (hP : ∀ d i li, P d → P (F.probe d p i li).1)
    (hf : ∀ d i li, P d → i < stop → f d p i li = some (F.probe d p i li)) :
    ∀ st : LoopSt δ, P st.dict → greedyLoopW f p stop st = some (greedyLoop F p stop st) := by
  intro st
  induction st using greedyLoop.induct F p stop with
  | case1 st h d hp ih =>
    intro hd
    have hpd : P d := by have := hP st.dict st.i st.litIndex hd; rw [hp] at this; exact this
    rw [greedyLoop_none F p stop st d h hp,
      greedyLoopW_none f p stop st d h (by rw [hf _ _ _ hd h, hp])]
    exact ih hpd
  | case2 st h d s k o hp hk q ih =>
    intro hd
    have hpd : P d := by have := hP st.dict st.i st.litIndex hd; rw [hp] at this; exact this
    rw [greedyLoop_some F p stop st d s k o h hp hk,
      greedyLoopW_some f p stop st d s k o h (by rw [hf _ _ _ hd h, hp]) hk]
    exact ih hpd
  | case3 st h d s k o hp hk =>
    intro hd
    rw [greedyLoop_bad F p stop st d s k o h hp hk,
      greedyLoopW_bad f p stop st d s k o h (by rw [hf _ _ _ hd h, hp]) hk]
  | case4 st h =>
    intro _
    rw [greedyLoop_done F p stop st h, greedyLoopW_done f p stop st h]

theorem runGreedyW_eq {δ} (F : Finder δ)
    (f : δ → List Byte → Nat → Nat → Option (δ × Option (Nat × Nat × Nat)))
    (p : List Byte) (stop : Nat) (P : δ → Prop)
    (hP : ∀ d i li, P d → P (F.probe d p i li).1)
    (hf : ∀ d i li, P d → i < stop → f d p i li = some (F.probe d p i li))
    (d : δ) (hd : P d) (w flags : Nat) :
    runGreedyW f d p w stop flags = some (Parser.runGreedy F d p w stop flags) := by
  rw [runGreedyW_of_loop (greedyLoopW_eq F f p stop P hP hf _ hd)]
  rfl

/-! ## `processSegment` (hash.go, bucket_hash.go) with word-level keys

  `data = f.Data`, `stale` = the bytes behind `len(f.Data)` up to the capacity. -/

/-- `hashDictionary.processSegment(a, b)`: `_p := f.Data[:b+7]` -/
def processSegment1W (h : HashT) (data stale : List Byte) (a b : Int) : Option HashT :=
  let a := if a < 0 then 0 else a
  let c : Int := (data.length : Int) - h.inputLen + 1
  let b := if c < b then c else b
  if b ≤ 0 then some h
  else do
    let _p ← sliceTo data stale (b.toNat + 7)
    insertRangeW h _p a.toNat (b.toNat - a.toNat)

/-- `doubleHashDictionary.processSegment(a, b)`: `_p := f.Data[:b1+7]` (no early return) -/
def processSegment2W (h1 h2 : HashT) (data stale : List Byte) (a b : Int) : Option (HashT × HashT) :=
  let a := if a < 0 then 0 else a
  let c1 : Int := (data.length : Int) - h1.inputLen + 1
  let b1 := if c1 < b then c1 else b
  let b1 := if b1 < 0 then 0 else b1
  let c2 : Int := (data.length : Int) - h2.inputLen + 1
  let b2 := if c2 < b then c2 else b
  let b2 := if b2 < 0 then 0 else b2
  do
    let _p ← sliceTo data stale (b1.toNat + 7)
    let h1a ← insertRangeW h1 _p a.toNat (b2.toNat - a.toNat)
    let h1b ← insertRangeW h1a _p b2.toNat (b1.toNat - b2.toNat)
    let h2' ← insertRangeW h2 _p a.toNat (b2.toNat - a.toNat)
    return (h1b, h2')

/-- `bucketDictionary.processSegment(a, b)` -/
def processSegmentBW (bk : BucketT) (data stale : List Byte) (a e : Int) : Option BucketT :=
  let a := if a < 0 then 0 else a
  let c : Int := (data.length : Int) - bk.inputLen + 1
  let e := if c < e then c else e
  if e ≤ 0 then some bk
  else do
    let _p ← sliceTo data stale (e.toNat + 7)
    binsertRangeW bk _p a.toNat (e.toNat - a.toNat)

/-- the reslice `f.Data[:b+7]` and the loop over `[a, b)` for `b ≤ len(Data) - inputLen + 1` -/
theorem segW_eq (h : HashT) (data stale : List Byte) (a b : Nat)
    (hcap : b + 7 ≤ (data ++ stale).length) (hb : b + min h.inputLen 8 ≤ data.length + 1) :
    ((sliceTo data stale (b + 7)).bind fun _p => insertRangeW h _p a (b - a)) =
      some (h.insertRange data a (b - a)) := by
  rw [sliceTo_eq_some _ _ _ hcap, Option.bind_some,
    insertRangeW_eq data stale b hcap h a b fun _ => ⟨Nat.le_refl _, hb⟩]

theorem bsegW_eq (bk : BucketT) (data stale : List Byte) (a b : Nat)
    (hcap : b + 7 ≤ (data ++ stale).length) (hb : b + min bk.inputLen 8 ≤ data.length + 1) :
    ((sliceTo data stale (b + 7)).bind fun _p => binsertRangeW bk _p a (b - a)) =
      some (bk.insertRange data a (b - a)) := by
  rw [sliceTo_eq_some _ _ _ hcap, Option.bind_some,
    binsertRangeW_eq data stale b hcap bk a b fun _ => ⟨Nat.le_refl _, hb⟩]

/-- `processSegment` of the single table: with 7 bytes of capacity behind `len(Data)` no panic,
    result = the model's `processSegment1` -/
theorem processSegment1W_eq (h : HashT) (data stale : List Byte) (a b : Int)
    (hil : 1 ≤ h.inputLen) (hcap : data.length + 7 ≤ (data ++ stale).length) :
    processSegment1W h data stale a b = some (processSegment1 h data a b) := by
  unfold processSegment1W processSegment1
  simp only [Option.bind_eq_bind]
  have hb' : (if (data.length : Int) - h.inputLen + 1 < b then (data.length : Int) - h.inputLen + 1
      else b) ≤ (data.length : Int) - h.inputLen + 1 := by split <;> omega
  generalize (if (data.length : Int) - h.inputLen + 1 < b then (data.length : Int) - h.inputLen + 1
      else b) = b' at hb' ⊢
  generalize (if a < 0 then 0 else a) = a'
  by_cases hb0 : b' ≤ 0
  · simp only [if_pos hb0]
  · simp only [if_neg hb0]
    exact segW_eq h data stale _ _ (by omega) (by omega)

theorem processSegmentBW_eq (bk : BucketT) (data stale : List Byte) (a e : Int)
    (hil : 1 ≤ bk.inputLen) (hcap : data.length + 7 ≤ (data ++ stale).length) :
    processSegmentBW bk data stale a e = some (processSegmentB bk data a e) := by
  unfold processSegmentBW processSegmentB
  simp only [Option.bind_eq_bind]
  have hb' : (if (data.length : Int) - bk.inputLen + 1 < e then (data.length : Int) - bk.inputLen + 1
      else e) ≤ (data.length : Int) - bk.inputLen + 1 := by split <;> omega
  generalize (if (data.length : Int) - bk.inputLen + 1 < e then (data.length : Int) - bk.inputLen + 1
      else e) = e' at hb' ⊢
  generalize (if a < 0 then 0 else a) = a'
  by_cases hb0 : e' ≤ 0
  · simp only [if_pos hb0]
  · simp only [if_neg hb0]
    exact bsegW_eq bk data stale _ _ (by omega) (by omega)

/-- `processSegment` of the two tables (`InputLen1 ≤ InputLen2`, so `b2 ≤ b1`) -/
theorem processSegment2W_eq (h1 h2 : HashT) (data stale : List Byte) (a b : Int)
    (hil : 1 ≤ h1.inputLen) (h12 : h1.inputLen ≤ h2.inputLen)
    (hcap : data.length + 7 ≤ (data ++ stale).length) :
    processSegment2W h1 h2 data stale a b = some (processSegment2 h1 h2 data a b) := by
  unfold processSegment2W processSegment2
  simp only [Option.bind_eq_bind, Option.pure_def]
  have hb1 : (if (data.length : Int) - h1.inputLen + 1 < b then (data.length : Int) - h1.inputLen + 1
      else b) ≤ (data.length : Int) - h1.inputLen + 1 := by split <;> omega
  have hb2 : (if (data.length : Int) - h2.inputLen + 1 < b then (data.length : Int) - h2.inputLen + 1
      else b) ≤ (data.length : Int) - h2.inputLen + 1 := by split <;> omega
  have hb12 : (if (data.length : Int) - h2.inputLen + 1 < b then (data.length : Int) - h2.inputLen + 1
      else b) ≤ (if (data.length : Int) - h1.inputLen + 1 < b then (data.length : Int) - h1.inputLen + 1
      else b) := by split <;> split <;> omega
  generalize (if (data.length : Int) - h1.inputLen + 1 < b then (data.length : Int) - h1.inputLen + 1
      else b) = b1 at hb1 hb12 ⊢
  generalize (if (data.length : Int) - h2.inputLen + 1 < b then (data.length : Int) - h2.inputLen + 1
      else b) = b2 at hb2 hb12 ⊢
  have hc1 : (if b1 < 0 then 0 else b1).toNat = 0 ∨
      (if b1 < 0 then 0 else b1).toNat + min h1.inputLen 8 ≤ data.length + 1 := by
    split <;> omega
  have hc2 : (if b2 < 0 then 0 else b2).toNat = 0 ∨
      (if b2 < 0 then 0 else b2).toNat + min h2.inputLen 8 ≤ data.length + 1 := by
    split <;> omega
  have hc12 : (if b2 < 0 then 0 else b2).toNat ≤ (if b1 < 0 then 0 else b1).toNat := by
    split <;> split <;> omega
  generalize (if b1 < 0 then 0 else b1).toNat = n1 at hc1 hc12 ⊢
  generalize (if b2 < 0 then 0 else b2).toNat = n2 at hc2 hc12 ⊢
  generalize (if a < 0 then 0 else a).toNat = a'
  have hcap1 : n1 + 7 ≤ (data ++ stale).length := by omega
  rw [sliceTo_eq_some _ _ _ hcap1, Option.bind_some,
    insertRangeW_eq data stale n1 hcap1 _ _ _ (by omega), Option.bind_some,
    insertRangeW_eq data stale n1 hcap1 _ _ _ (by rw [HashT.insertRange_inputLen]; omega),
    Option.bind_some,
    insertRangeW_eq data stale n1 hcap1 _ _ _ (by omega), Option.bind_some]

/-! ## `Parse(&blk, flags)` of HP, BHP, DHP, BDHP, BUP at word level -/

/-- `inputEnd := len(p) - inputLen + 1; _p := s.Data[:inputEnd+7]` in Go `int` arithmetic:
    the slice expression panics for `inputEnd + 7 < 0` and for `inputEnd + 7 > cap(s.Data)` -/
def resliceMargin (p behind : List Byte) (inputLen : Nat) : Option Unit :=
  let e : Int := (p.length : Int) - inputLen + 1
  if e + 7 < 0 ∨ ((p ++ behind).length : Int) < e + 7 then none else some ()

/-- `Parse(&blk, flags)` of the five hash parsers with all byte accesses at word level.
    `stale` = the bytes of the backing array behind `len(s.Data)` up to `cap(s.Data)`.
    `p = s.Data[:W+n]`; behind `p` lie the rest of `s.Data` and `stale`.
    (GSAP / OSAP: the model's `parse`; their byte code is not the subject of this file.) -/
def parseW (s : Parser) (stale : List Byte) (flags : Nat) : Option (Parser × Nat × Err × Block) :=
  let n := s.blockN
  if n = 0 then some (s, 0, .empty, ⟨[], []⟩)
  else
    let w := s.buf.w
    let data := s.buf.data
    let p := data.take (w + n)
    let behind := data.drop (w + n) ++ stale
    let ws := s.buf.cfg.windowSize
    let mm := s.minMatch
    match s.dict with
    | .single h => do
      let h ← processSegment1W h data stale ((w : Int) - h.inputLen + 1) w
      let _ ← resliceMargin p behind h.inputLen
      let inputEnd := p.length + 1 - h.inputLen
      let r ← runGreedyW (hpProbeW ws mm inputEnd (s.kind == .BHP) behind) h p w inputEnd flags
      return ({ s with buf := { s.buf with w := r.2.1 }, dict := .single r.1 }, r.2.1 - w, .ok, r.2.2.1)
    | .double d => do
      let hh ← processSegment2W d.h1 d.h2 data stale ((w : Int) - d.h2.inputLen + 1) w
      let _ ← resliceMargin p behind hh.1.inputLen
      let e1 := p.length + 1 - hh.1.inputLen
      let e2 := p.length + 1 - hh.2.inputLen
      let r ← runGreedyW (dhpProbeW ws mm e1 e2 (s.kind == .BDHP) behind) ⟨hh.1, hh.2⟩ p w e1 flags
      return ({ s with buf := { s.buf with w := r.2.1 }, dict := .double r.1 }, r.2.1 - w, .ok, r.2.2.1)
    | .bucket bk => do
      let bk ← processSegmentBW bk data stale ((w : Int) - bk.inputLen + 1) w
      let _ ← resliceMargin p behind bk.inputLen
      let inputEnd := p.length + 1 - bk.inputLen
      let r ← runGreedyW (bupProbeW ws mm inputEnd behind) bk p w inputEnd flags
      return ({ s with buf := { s.buf with w := r.2.1 }, dict := .bucket r.1 }, r.2.1 - w, .ok, r.2.2.1)
    | _ => some (s.parse flags)

theorem parseW_empty (s : Parser) (stale : List Byte) (flags : Nat) (hn : s.blockN = 0) :
    parseW s stale flags = some (s, 0, .empty, ⟨[], []⟩) := by
  unfold parseW; simp only [hn, if_true]

/-- `1 ≤ InputLen ≤ 8` for the tables of the hash parsers (`InputLen1 ≤ InputLen2` for the two
    tables of DHP / BDHP); holds in every reachable state (`reachable_hashDictOK`) -/
def HashDictOK : Dict → Prop
  | .single h => 1 ≤ h.inputLen ∧ h.inputLen ≤ 8
  | .double d => 1 ≤ d.h1.inputLen ∧ d.h1.inputLen ≤ d.h2.inputLen ∧ d.h2.inputLen ≤ 8
  | .bucket b => 1 ≤ b.inputLen ∧ b.inputLen ≤ 8
  | _ => True

/-- `stale` are the bytes between `len(s.Data)` and `cap(s.Data)` -/
def Backing (s : Parser) (stale : List Byte) : Prop :=
  s.buf.data.length + stale.length = s.buf.cap

theorem resliceMargin_eq_some (p behind : List Byte) (il : Nat) (hil : il ≤ 8)
    (hcap : p.length + 1 - il + 7 ≤ (p ++ behind).length) :
    resliceMargin p behind il = some () := by
  unfold resliceMargin
  simp only []
  rw [if_neg (by omega)]

theorem resliceMargin_eq_none (p behind : List Byte) (il : Nat)
    (hcap : ((p ++ behind).length : Int) < (p.length : Int) - il + 1 + 7) :
    resliceMargin p behind il = none := by
  unfold resliceMargin
  simp only []
  rw [if_pos (Or.inr hcap)]

theorem backing_length (s : Parser) (stale : List Byte) (hb : Backing s stale) (m : Nat) :
    (s.buf.data.take m ++ (s.buf.data.drop m ++ stale)).length = s.buf.cap := by
  unfold Backing at hb
  rw [← List.append_assoc, List.take_append_drop, List.length_append]; exact hb

/-- The loop of `Parse`, HP / BHP: on a block prefix `p` with `inputEnd + 7 ≤ cap` (the model's
    margin check) the word-level run does not panic and equals the model's run, whatever the
    table contains at the start and whatever lies behind `p`. -/
theorem hpRunW_eq (ws mm : Nat) (back : Bool) (behind : List Byte) (h : HashT) (p : List Byte)
    (w flags : Nat) (hil : 1 ≤ h.inputLen) (hmm : mm ≤ 8)
    (hcap : p.length + 1 - h.inputLen + 7 ≤ (p ++ behind).length) :
    runGreedyW (hpProbeW ws mm (p.length + 1 - h.inputLen) back behind) h p w
        (p.length + 1 - h.inputLen) flags =
      some (Parser.runGreedy ⟨hpProbe ws mm (p.length + 1 - h.inputLen) back⟩ h p w
        (p.length + 1 - h.inputLen) flags) := by
  apply runGreedyW_eq ⟨hpProbe ws mm (p.length + 1 - h.inputLen) back⟩ _ p _
    (fun d => d.inputLen = h.inputLen)
  · intro d i li hd
    show (hpProbe ws mm _ back d p i li).1.inputLen = h.inputLen
    rw [hpProbe_inputLen]; exact hd
  · intro d i li hd hi
    have hd' : d.inputLen = h.inputLen := hd
    exact hpProbeW_eq ws mm _ back behind d p i li hcap hi (by omega) (by rw [hd']; exact Nat.le_refl _) hmm
  · rfl

theorem dhpRunW_eq (ws mm : Nat) (back : Bool) (behind : List Byte) (d : Hash2) (p : List Byte)
    (w flags : Nat) (hil : 1 ≤ d.h1.inputLen) (h12 : d.h1.inputLen ≤ d.h2.inputLen) (hmm : mm ≤ 8)
    (hcap : p.length + 1 - d.h1.inputLen + 7 ≤ (p ++ behind).length) :
    runGreedyW (dhpProbeW ws mm (p.length + 1 - d.h1.inputLen) (p.length + 1 - d.h2.inputLen) back
        behind) d p w (p.length + 1 - d.h1.inputLen) flags =
      some (Parser.runGreedy ⟨dhpProbe ws mm (p.length + 1 - d.h1.inputLen)
        (p.length + 1 - d.h2.inputLen) back⟩ d p w (p.length + 1 - d.h1.inputLen) flags) := by
  apply runGreedyW_eq ⟨dhpProbe ws mm (p.length + 1 - d.h1.inputLen)
      (p.length + 1 - d.h2.inputLen) back⟩ _ p _
    (fun d' => d'.h1.inputLen = d.h1.inputLen ∧ d'.h2.inputLen = d.h2.inputLen)
  · intro d' i li hd
    have := dhpProbe_inputLen ws mm (p.length + 1 - d.h1.inputLen) (p.length + 1 - d.h2.inputLen)
      back d' p i li
    exact ⟨this.1.trans hd.1, this.2.trans hd.2⟩
  · intro d' i li hd hi
    obtain ⟨hd1, hd2⟩ := hd
    exact dhpProbeW_eq ws mm _ _ back behind d' p i li hcap hi (by omega) (by omega)
      (by rw [hd1]; exact Nat.le_refl _) (by rw [hd2]; exact Nat.le_refl _) hmm
  · exact ⟨rfl, rfl⟩

theorem bupRunW_eq (ws mm : Nat) (behind : List Byte) (bk : BucketT) (p : List Byte)
    (w flags : Nat) (hil : 1 ≤ bk.inputLen)
    (hcap : p.length + 1 - bk.inputLen + 7 ≤ (p ++ behind).length) :
    runGreedyW (bupProbeW ws mm (p.length + 1 - bk.inputLen) behind) bk p w
        (p.length + 1 - bk.inputLen) flags =
      some (Parser.runGreedy ⟨bupProbe ws mm (p.length + 1 - bk.inputLen)⟩ bk p w
        (p.length + 1 - bk.inputLen) flags) := by
  apply runGreedyW_eq ⟨bupProbe ws mm (p.length + 1 - bk.inputLen)⟩ _ p _
    (fun d => d.inputLen = bk.inputLen)
  · intro d i li hd
    show (bupProbe ws mm _ d p i li).1.inputLen = bk.inputLen
    rw [bupProbe_inputLen]; exact hd
  · intro d i li hd hi
    have hd' : d.inputLen = bk.inputLen := hd
    exact bupProbeW_eq ws mm _ behind d p i li hcap hi (by omega) (by rw [hd']; exact Nat.le_refl _)
  · rfl

/-- `Parse(&blk, flags)` at word level (HP, BHP, DHP, BDHP, BUP; trivially GSAP, OSAP).
    State: `W ≤ len(Data)`; `stale` are the `cap - len` bytes behind `Data` (ARBITRARY contents);
    `Data` is empty or has 7 bytes of capacity behind it (`CapOK`, the invariant of
    `ParserBuffer`); `1 ≤ InputLen ≤ 8`; `minMatchLen ≤ 8`.
    Then no byte access of `Parse` panics and `Parse` returns what the model's `parse` returns:
    same new state (tables included), same `n`, same error, same block. -/
theorem parseW_eq (s : Parser) (stale : List Byte) (flags : Nat)
    (hw : s.buf.w ≤ s.buf.data.length) (hb : Backing s stale) (hc : s.buf.CapOK)
    (hd : HashDictOK s.dict) (hmm : s.minMatch ≤ 8) :
    parseW s stale flags = some (s.parse flags) := by
  by_cases hn : s.blockN = 0
  · rw [Parser.parse_empty s flags hn, parseW_empty s stale flags hn]
  have hlen := s.blockPrefix_length hw
  have hN := s.blockN_le
  have hM := PBuf.margin_eq
  have hb' : s.buf.data.length + stale.length = s.buf.cap := hb
  have hdata : s.buf.data.length + 7 ≤ s.buf.cap := by
    rcases hc with h | h
    · rw [h] at hN; simp only [List.length_nil] at hN; omega
    · omega
  have hcapD : s.buf.data.length + 7 ≤ (s.buf.data ++ stale).length := by
    rw [List.length_append]; omega
  have hm : s.MarginOK := by
    unfold Parser.MarginOK; rw [hlen]; omega
  -- the reslice `s.Data[:inputEnd+7]` of `Parse` stays inside the backing array
  have hcapP : ∀ il, 1 ≤ il → (s.buf.data.take (s.buf.w + s.blockN)).length + 1 - il + 7 ≤
      (s.buf.data.take (s.buf.w + s.blockN) ++
        (s.buf.data.drop (s.buf.w + s.blockN) ++ stale)).length := by
    intro il h1
    rw [backing_length s stale hb, show (s.buf.data.take _).length = _ from hlen]; omega
  cases hdict : s.dict with
  | single h =>
    obtain ⟨h1, h8⟩ : 1 ≤ h.inputLen ∧ h.inputLen ≤ 8 := by rw [hdict] at hd; exact hd
    rw [Parser.parse_single s flags h hdict hn hm]
    unfold parseW
    simp only [hn, if_false, hdict, Option.bind_eq_bind, Option.pure_def]
    rw [processSegment1W_eq h _ stale _ _ h1 hcapD, Option.bind_some]
    have hil := processSegment1_inputLen h s.buf.data ((s.buf.w : Int) - h.inputLen + 1) s.buf.w
    rw [resliceMargin_eq_some _ _ _ (by rw [hil]; exact h8) (hcapP _ (by rw [hil]; exact h1)),
      Option.bind_some,
      hpRunW_eq _ _ _ _ _ _ _ _ (by rw [hil]; exact h1) hmm (hcapP _ (by rw [hil]; exact h1)),
      Option.bind_some]
    rfl
  | double d =>
    obtain ⟨h1, h12, h8⟩ : 1 ≤ d.h1.inputLen ∧ d.h1.inputLen ≤ d.h2.inputLen ∧ d.h2.inputLen ≤ 8 := by
      rw [hdict] at hd; exact hd
    rw [Parser.parse_double s flags d hdict hn hm]
    unfold parseW
    simp only [hn, if_false, hdict, Option.bind_eq_bind, Option.pure_def]
    rw [processSegment2W_eq d.h1 d.h2 _ stale _ _ h1 h12 hcapD, Option.bind_some]
    obtain ⟨hi1, hi2⟩ := processSegment2_inputLen d.h1 d.h2 s.buf.data
      ((s.buf.w : Int) - d.h2.inputLen + 1) s.buf.w
    generalize processSegment2 d.h1 d.h2 s.buf.data ((s.buf.w : Int) - d.h2.inputLen + 1) s.buf.w = hh
      at hi1 hi2 ⊢
    obtain ⟨t1, t2⟩ := hh
    simp only [] at hi1 hi2 ⊢
    rw [resliceMargin_eq_some _ _ _ (by omega) (hcapP _ (by omega)), Option.bind_some,
      dhpRunW_eq _ _ _ _ ⟨t1, t2⟩ _ _ _ (by simp only []; omega) (by simp only []; omega) hmm
        (hcapP _ (by simp only []; omega)), Option.bind_some]
    rfl
  | bucket bk =>
    obtain ⟨h1, h8⟩ : 1 ≤ bk.inputLen ∧ bk.inputLen ≤ 8 := by rw [hdict] at hd; exact hd
    rw [Parser.parse_bucket s flags bk hdict hn hm]
    unfold parseW
    simp only [hn, if_false, hdict, Option.bind_eq_bind, Option.pure_def]
    rw [processSegmentBW_eq bk _ stale _ _ h1 hcapD, Option.bind_some]
    have hil := processSegmentB_inputLen bk s.buf.data ((s.buf.w : Int) - bk.inputLen + 1) s.buf.w
    rw [resliceMargin_eq_some _ _ _ (by rw [hil]; exact h8) (hcapP _ (by rw [hil]; exact h1)),
      Option.bind_some,
      bupRunW_eq _ _ _ _ _ _ _ (by rw [hil]; exact h1) (hcapP _ (by rw [hil]; exact h1)),
      Option.bind_some]
    rfl
  | gsap g =>
    unfold parseW
    simp only [hn, if_false, hdict]
  | osap o =>
    unfold parseW
    simp only [hn, if_false, hdict]

/-! ### the other direction: the model's `.panic` is a panic of the Go code -/

theorem insertW_inputLen {h h' : HashT} {_p : List Byte} {i : Nat} (e : insertW h _p i = some h') :
    h'.inputLen = h.inputLen := by
  obtain ⟨x, -, e⟩ := Option.bind_eq_some_iff.1 e
  cases e; rfl

theorem insertRangeW_inputLen {_p : List Byte} : ∀ {n a : Nat} {h h' : HashT},
    insertRangeW h _p a n = some h' → h'.inputLen = h.inputLen
  | 0, _, _, _, e => by cases e; rfl
  | n + 1, _, _, _, e => by
    obtain ⟨h1, e1, e⟩ := Option.bind_eq_some_iff.1 e
    rw [insertRangeW_inputLen e, insertW_inputLen e1]

theorem binsertW_inputLen {b b' : BucketT} {_p : List Byte} {i : Nat}
    (e : binsertW b _p i = some b') : b'.inputLen = b.inputLen := by
  obtain ⟨x, -, e⟩ := Option.bind_eq_some_iff.1 e
  cases e; rfl

theorem binsertRangeW_inputLen {_p : List Byte} : ∀ {n a : Nat} {b b' : BucketT},
    binsertRangeW b _p a n = some b' → b'.inputLen = b.inputLen
  | 0, _, _, _, e => by cases e; rfl
  | n + 1, _, _, _, e => by
    obtain ⟨b1, e1, e⟩ := Option.bind_eq_some_iff.1 e
    rw [binsertRangeW_inputLen e, binsertW_inputLen e1]

theorem processSegment1W_inputLen (h h' : HashT) (data stale : List Byte) (a b : Int)
    (e : processSegment1W h data stale a b = some h') : h'.inputLen = h.inputLen := by
  unfold processSegment1W at e
  simp only [Option.bind_eq_bind] at e
  generalize (if (data.length : Int) - h.inputLen + 1 < b then (data.length : Int) - h.inputLen + 1
    else b) = b' at e
  by_cases hb0 : b' ≤ 0
  · rw [if_pos hb0] at e; cases e; rfl
  · rw [if_neg hb0] at e
    obtain ⟨_p, -, e⟩ := Option.bind_eq_some_iff.1 e
    exact insertRangeW_inputLen e

theorem processSegmentBW_inputLen (bk bk' : BucketT) (data stale : List Byte) (a b : Int)
    (e : processSegmentBW bk data stale a b = some bk') : bk'.inputLen = bk.inputLen := by
  unfold processSegmentBW at e
  simp only [Option.bind_eq_bind] at e
  generalize (if (data.length : Int) - bk.inputLen + 1 < b then (data.length : Int) - bk.inputLen + 1
    else b) = b' at e
  by_cases hb0 : b' ≤ 0
  · rw [if_pos hb0] at e; cases e; rfl
  · rw [if_neg hb0] at e
    obtain ⟨_p, -, e⟩ := Option.bind_eq_some_iff.1 e
    exact binsertRangeW_inputLen e

theorem processSegment2W_inputLen (h1 h2 : HashT) (hh : HashT × HashT) (data stale : List Byte)
    (a b : Int) (e : processSegment2W h1 h2 data stale a b = some hh) :
    hh.1.inputLen = h1.inputLen := by
  obtain ⟨_p, -, e⟩ := Option.bind_eq_some_iff.1 e
  obtain ⟨h1a, hA, e⟩ := Option.bind_eq_some_iff.1 e
  obtain ⟨h1b, hB, e⟩ := Option.bind_eq_some_iff.1 e
  obtain ⟨h2', -, e⟩ := Option.bind_eq_some_iff.1 e
  cases e
  rw [insertRangeW_inputLen hB, insertRangeW_inputLen hA]

/-- The model's `.panic` of `parse` is a panic of the Go code: if the capacity behind the block
    prefix is too small for `s.Data[:inputEnd+7]` (`¬ MarginOK`, the guard of the model), the
    word-level `Parse` panics — in `processSegment` or at the reslice, before the loop. -/
theorem parseW_panic (s : Parser) (stale : List Byte) (flags : Nat) (hb : Backing s stale)
    (hn : s.blockN ≠ 0) (hm : ¬ s.MarginOK) :
    parseW s stale flags = none ∧ (s.parse flags).2.2.1 = .panic := by
  refine ⟨?_, parse_panic_of_not_margin s flags hn hm⟩
  unfold Parser.MarginOK Parser.dictInputLen Parser.blockPrefix at hm
  have hm' := Decidable.not_not.mp hm
  have hM := PBuf.margin_eq
  unfold parseW
  simp only [hn, if_false, Option.bind_eq_bind, Option.pure_def]
  cases hdict : s.dict with
  | single h =>
    simp only [hdict] at hm' ⊢
    cases hp : processSegment1W h s.buf.data stale ((s.buf.w : Int) - h.inputLen + 1) s.buf.w with
    | none => rfl
    | some h' =>
      rw [Option.bind_some, processSegment1W_inputLen _ _ _ _ _ _ hp,
        resliceMargin_eq_none _ _ _ (by rw [backing_length s stale hb]; omega)]
      rfl
  | double d =>
    simp only [hdict] at hm' ⊢
    cases hp : processSegment2W d.h1 d.h2 s.buf.data stale ((s.buf.w : Int) - d.h2.inputLen + 1)
        s.buf.w with
    | none => rfl
    | some hh =>
      rw [Option.bind_some, processSegment2W_inputLen _ _ _ _ _ _ _ hp,
        resliceMargin_eq_none _ _ _ (by rw [backing_length s stale hb]; omega)]
      rfl
  | bucket bk =>
    simp only [hdict] at hm' ⊢
    cases hp : processSegmentBW bk s.buf.data stale ((s.buf.w : Int) - bk.inputLen + 1) s.buf.w with
    | none => rfl
    | some bk' =>
      rw [Option.bind_some, processSegmentBW_inputLen _ _ _ _ _ _ hp,
        resliceMargin_eq_none _ _ _ (by rw [backing_length s stale hb]; omega)]
      rfl
  | gsap g => simp only [hdict] at hm'; exact absurd rfl hm'.1
  | osap o => simp only [hdict] at hm'; exact absurd rfl hm'.1

/-! ## every reachable state -/

/-- the five hash parsers -/
def HashKind (k : Kind) : Prop := k = .HP ∨ k = .BHP ∨ k = .DHP ∨ k = .BDHP ∨ k = .BUP

theorem HashKind.not_sa {k : Kind} (hk : HashKind k) : k ≠ .GSAP ∧ k ≠ .OSAP := by
  rcases hk with rfl | rfl | rfl | rfl | rfl <;> decide

/-- after every history from `NewParser` the tables of a hash parser have `1 ≤ InputLen ≤ 8`
    (`InputLen1 ≤ InputLen2`): they carry the `InputLen`s of the configuration `verify` accepted -/
theorem reachable_hashDictOK (k : Kind) (raw : Cfg) (s0 : Parser)
    (h0 : newParser k raw = some s0) (ops : List POp) :
    HashDictOK (runOps (s0, Ghost.init) ops).1.dict := by
  have hv := verify_inputLen (newParser_verify h0)
  have hs := ((reachable_runOps s0 ops).base h0).shape
  cases hd : (runOps (s0, Ghost.init) ops).1.dict with
  | single t =>
    rw [hd] at hs
    obtain ⟨hk, -, e, -⟩ := hs
    have := hv.1 (by rcases hk with rfl | rfl <;> simp)
    show 1 ≤ t.inputLen ∧ t.inputLen ≤ 8
    rw [e]; omega
  | double t =>
    rw [hd] at hs
    obtain ⟨⟨hk, -, e1, -⟩, -, e2, -⟩ := hs
    have := hv.2 hk
    show 1 ≤ t.h1.inputLen ∧ t.h1.inputLen ≤ t.h2.inputLen ∧ t.h2.inputLen ≤ 8
    rw [e1, e2]; omega
  | bucket bk =>
    rw [hd] at hs
    obtain ⟨hk, -, -, e, -⟩ := hs
    have := hv.1 (Or.inr (Or.inr hk))
    show 1 ≤ bk.inputLen ∧ bk.inputLen ≤ 8
    rw [e]; omega
  | gsap _ | osap _ => trivial

/-- in a reachable state the capacity is at least the length: `stale` exists -/
theorem reachable_backing (k : Kind) (hk : HashKind k) (raw : Cfg) (s0 : Parser)
    (h0 : newParser k raw = some s0) (ops : List POp) :
    ∃ stale, Backing (runOps (s0, Ghost.init) ops).1 stale := by
  refine ⟨List.replicate ((runOps (s0, Ghost.init) ops).1.buf.cap -
    (runOps (s0, Ghost.init) ops).1.buf.data.length) 0xAA, ?_⟩
  unfold Backing
  rw [List.length_replicate]
  rcases ((reachable_runOps s0 ops).base h0).room.2 with h | h
  · rw [h]; simp
  · omega

/-- History level.  For every accepted configuration of HP, BHP, DHP, BDHP, BUP and every
    history of `Write`, `ReadFrom`, `Parse`, `Parse(nil)`, `Shrink`, `Reset`: in the state reached,
    with ANY contents `stale` of the `cap - len` bytes behind `s.Data`, the word-level `Parse`
    (Go byte code: `_getLE64` through `_p`, inlined match length, `lcp`, `lcs`, index
    expressions, `processSegment`) does not panic and returns exactly the model's `parse`. -/
theorem parseW_reachable (k : Kind) (hk : HashKind k) (raw : Cfg) (s0 : Parser)
    (h0 : newParser k raw = some s0) (ops : List POp) (stale : List Byte) (flags : Nat)
    (hb : Backing (runOps (s0, Ghost.init) ops).1 stale) :
    parseW (runOps (s0, Ghost.init) ops).1 stale flags =
      some ((runOps (s0, Ghost.init) ops).1.parse flags) := by
  have hr := reachable_runOps s0 ops
  have hB := hr.base h0
  have h3 := (reachable_hash h0 hk.not_sa hr).2.2.2
  exact parseW_eq _ stale flags hB.hw hb hB.room.2 (reachable_hashDictOK k raw s0 h0 ops) (by omega)

/-! ## `Parse(nil, flags)`: only `processSegment` touches the bytes -/

/-- `Parse(nil, flags)` of the hash parsers at word level -/
def parseNilW (s : Parser) (stale : List Byte) : Option (Parser × Nat × Err) :=
  let n := s.blockN
  if n = 0 then some (s, 0, .empty)
  else
    let w := s.buf.w
    let t := w + n
    let data := s.buf.data
    match s.dict with
    | .single h => do
      let h' ← processSegment1W h data stale ((w : Int) - h.inputLen + 1) t
      return ({ s with buf := { s.buf with w := t }, dict := .single h' }, n, .ok)
    | .double d => do
      let hh ← processSegment2W d.h1 d.h2 data stale ((w : Int) - d.h2.inputLen + 1) t
      return ({ s with buf := { s.buf with w := t }, dict := .double { h1 := hh.1, h2 := hh.2 } }, n, .ok)
    | .bucket bk => do
      let bk' ← processSegmentBW bk data stale ((w : Int) - bk.inputLen + 1) t
      return ({ s with buf := { s.buf with w := t }, dict := .bucket bk' }, n, .ok)
    | _ => some s.parseNil

theorem parseNilW_empty (s : Parser) (stale : List Byte) (hn : s.blockN = 0) :
    parseNilW s stale = some (s, 0, .empty) := by
  unfold parseNilW; simp only [hn, if_true]

theorem parseNilW_eq (s : Parser) (stale : List Byte) (hb : Backing s stale) (hc : s.buf.CapOK)
    (hd : HashDictOK s.dict) : parseNilW s stale = some s.parseNil := by
  unfold parseNilW Parser.parseNil
  by_cases hn : s.blockN = 0
  · simp only [hn, if_true]
  simp only [hn, if_false, Option.bind_eq_bind, Option.pure_def]
  have hN := s.blockN_le
  have hM := PBuf.margin_eq
  have hb' : s.buf.data.length + stale.length = s.buf.cap := hb
  have hcapD : s.buf.data.length + 7 ≤ (s.buf.data ++ stale).length := by
    rw [List.length_append]
    rcases hc with h | h
    · rw [h] at hN; simp only [List.length_nil] at hN; omega
    · omega
  cases hdict : s.dict with
  | single h =>
    rw [hdict] at hd
    simp only []
    rw [processSegment1W_eq h _ stale _ _ hd.1 hcapD, Option.bind_some]
  | double d =>
    rw [hdict] at hd
    simp only []
    rw [processSegment2W_eq d.h1 d.h2 _ stale _ _ hd.1 hd.2.1 hcapD, Option.bind_some]
  | bucket bk =>
    rw [hdict] at hd
    simp only []
    rw [processSegmentBW_eq bk _ stale _ _ hd.1 hcapD, Option.bind_some]
  | gsap g => rfl
  | osap o => rfl

theorem parseNilW_reachable (k : Kind) (hk : HashKind k) (raw : Cfg) (s0 : Parser)
    (h0 : newParser k raw = some s0) (ops : List POp) (stale : List Byte)
    (hb : Backing (runOps (s0, Ghost.init) ops).1 stale) :
    parseNilW (runOps (s0, Ghost.init) ops).1 stale = some (runOps (s0, Ghost.init) ops).1.parseNil := by
  exact parseNilW_eq _ stale hb ((reachable_runOps s0 ops).base h0).room.2
    (reachable_hashDictOK k raw s0 h0 ops)

/-! ## the memory behind the block is irrelevant -/

theorem hpProbeW_behind_irrelevant (ws mm inputEnd : Nat) (back : Bool) (b1 b2 : List Byte)
    (h : HashT) (p : List Byte) (i li : Nat)
    (h1 : inputEnd + 7 ≤ (p ++ b1).length) (h2 : inputEnd + 7 ≤ (p ++ b2).length) (hi : i < inputEnd)
    (hil : 1 ≤ h.inputLen) (hE : inputEnd ≤ p.length + 1 - h.inputLen) (hmm : mm ≤ 8) :
    hpProbeW ws mm inputEnd back b1 h p i li = hpProbeW ws mm inputEnd back b2 h p i li := by
  rw [hpProbeW_eq ws mm inputEnd back b1 h p i li h1 hi hil hE hmm,
    hpProbeW_eq ws mm inputEnd back b2 h p i li h2 hi hil hE hmm]

/-- two contents of the stale bytes behind `s.Data` give the same `Parse` -/
theorem parseW_stale_irrelevant (s : Parser) (st1 st2 : List Byte) (flags : Nat)
    (hw : s.buf.w ≤ s.buf.data.length) (h1 : Backing s st1) (h2 : Backing s st2) (hc : s.buf.CapOK)
    (hd : HashDictOK s.dict) (hmm : s.minMatch ≤ 8) :
    parseW s st1 flags = parseW s st2 flags := by
  rw [parseW_eq s st1 flags hw h1 hc hd hmm, parseW_eq s st2 flags hw h2 hc hd hmm]

/-! ## non-vacuity and concrete evaluations (kernel-checked, no `native_decide`)

  `BytesW.exP` (LzProofs/BytesProps.lean) = six times the bytes 1 2 3, then four bytes 9
  (22 bytes), `InputLen = 3`, `inputEnd = 20`. -/

section Examples

/-- 7 bytes of garbage behind the block -/
def garbage : List Byte := [0xde, 0xad, 0xbe, 0xef, 0xaa, 0x55, 0x09]
/-- garbage that continues the last bytes of the block -/
def nines : List Byte := [9, 9, 9, 9, 9, 9, 9]
/-- a 16-slot table with the positions `0, …, n-1` of `exP` indexed -/
def exH (n : Nat) : HashT := (HashT.new 3 4).insertRange exP 0 n
def exD (n : Nat) : Hash2 :=
  { h1 := (HashT.new 3 4).insertRange exP 0 n, h2 := (HashT.new 6 4).insertRange exP 0 n }
def exB (n : Nat) : BucketT := (BucketT.new 3 4 2).insertRange exP 0 n

def view (r : HashT × Option (Nat × Nat × Nat)) := (r.1.tbl, r.2)
def viewD (r : Hash2 × Option (Nat × Nat × Nat)) := (r.1.h1.tbl, r.1.h2.tbl, r.2)
def viewB (r : BucketT × Option (Nat × Nat × Nat)) := (r.1.buckets, r.1.indexes, r.2)

/-- the hypotheses of `hpProbeW_eq` are satisfiable -/
example : 20 + 7 ≤ (exP ++ garbage).length ∧ 3 < 20 ∧ 1 ≤ (exH 3).inputLen ∧
    20 ≤ exP.length + 1 - (exH 3).inputLen ∧ 3 ≤ 8 := by decide
example : hpProbeW 64 3 20 false garbage (exH 3) exP 3 3 = some (hpProbe 64 3 20 false (exH 3) exP 3 3) :=
  hpProbeW_eq 64 3 20 false garbage (exH 3) exP 3 3 (by decide) (by decide) (by decide) (by decide)
    (by decide)

-- HP, i = 3, candidate j = 0: first word full, extension, result 15; table compared as well
example : (hpProbeW 64 3 20 false garbage (exH 3) exP 3 3).map view =
    some (view (hpProbe 64 3 20 false (exH 3) exP 3 3)) := by decide +kernel
example : ((hpProbeW 64 3 20 false garbage (exH 3) exP 3 3).map view).map (·.2) =
    some (some (3, 15, 3)) := by decide +kernel
-- BHP, i = 6, litIndex = 4, candidate j = 3: `lcs(p[1:3], p[:6]) = 2`, match (4, 12 + 2, 3)
example : ((hpProbeW 64 3 20 true garbage (exH 6) exP 6 4).map view).map (·.2) =
    some (some (4, 14, 3)) := by decide +kernel
example : (hpProbeW 64 3 20 true garbage (exH 6) exP 6 4).map view =
    some (view (hpProbe 64 3 20 true (exH 6) exP 6 4)) := by decide +kernel
-- the last position i = 19 = inputEnd - 1, candidate j = 18: both loads read 5 bytes behind `p`;
-- the bytes `9` behind the block make the first words agree in all 8 bytes, the clamp
-- `k > len(p) - i` cuts the length to 3 = `len(p) - i` (block end, not `inputEnd`)
example : ((hpProbeW 64 3 20 false nines (exH 19) exP 19 19).map view).map (·.2) =
    some (some (19, 3, 1)) := by decide +kernel
example : ((hpProbeW 64 3 20 false garbage (exH 19) exP 19 19).map view).map (·.2) =
    some (some (19, 3, 1)) := by decide +kernel
example : (hpProbe 64 3 20 false (exH 19) exP 19 19).2 = some (19, 3, 1) := by decide +kernel
-- no capacity behind the block: panic
example : (hpProbeW 64 3 20 false [] (exH 3) exP 3 3).map view = none := by decide +kernel

-- DHP / BDHP: first loop (i = 3 < e2 = 17), second loop (i = 19 ≥ e2)
example : (dhpProbeW 64 3 20 17 false garbage (exD 3) exP 3 3).map viewD =
    some (viewD (dhpProbe 64 3 20 17 false (exD 3) exP 3 3)) := by decide +kernel
example : ((dhpProbeW 64 3 20 17 false garbage (exD 3) exP 3 3).map viewD).map (·.2.2) =
    some (some (3, 15, 3)) := by decide +kernel
example : (dhpProbeW 64 3 20 17 true nines (exD 19) exP 19 19).map viewD =
    some (viewD (dhpProbe 64 3 20 17 true (exD 19) exP 19 19)) := by decide +kernel
example : ((dhpProbeW 64 3 20 17 true nines (exD 19) exP 19 19).map viewD).map (·.2.2) =
    some (some (19, 3, 1)) := by decide +kernel
/-- the hypothesis `e2 ≤ e1` (`InputLen1 ≤ InputLen2`, enforced by `Verify`: `il1 < il2`) is
    necessary: with `InputLen1 = 6 > InputLen2 = 3` the first loop reaches `i = 17 = e1`, where
    `_p[17:]` has only 7 bytes — Go panics, the (list-level) model does not notice -/
example : (dhpProbeW 64 3 17 20 false garbage
      { h1 := HashT.new 6 4, h2 := HashT.new 3 4 } exP 17 17).map viewD = none := by decide +kernel

-- BUP: two candidates (positions 0 and 3) in the bucket of the key 1 2 3 at i = 6
example : (bupProbeW 64 3 20 garbage (exB 6) exP 6 6).map viewB =
    some (viewB (bupProbe 64 3 20 (exB 6) exP 6 6)) := by decide +kernel
example : ((bupProbeW 64 3 20 garbage (exB 6) exP 6 6).map viewB).map (·.2.2) =
    some (some (6, 12, 3)) := by decide +kernel
example : ((bupProbeW 64 3 20 nines (exB 19) exP 19 19).map viewB).map (·.2.2) =
    some (some (19, 3, 1)) := by decide +kernel

/-! ### whole `Parse` calls in reachable states: `NewParser` (configuration `runCfg` of
    LzProofs/Runs.lean), `Write(exP)`; then `cap = 71`, 49 stale bytes behind the 22 data bytes -/

/-- 49 bytes of garbage behind `s.Data` -/
def staleEx : List Byte := (List.range 49).map fun i => UInt8.ofNat (i * 37 + 11)
def exOpsW : List POp := [.write exP]
def exS (k : Kind) : Parser := (runOps (runS0 k, Ghost.init) exOpsW).1
def view2 (r : Parser × Nat × Err × Block) : Nat × Err × Block × Nat :=
  (r.2.1, r.2.2.1, r.2.2.2, r.1.buf.w)
/-- the block all five parsers emit (the Go library emits the same block for this input with
    these and other stale bytes behind the data) -/
def exBlk : Block := ⟨[⟨3, 15, 3, 0⟩, ⟨1, 3, 1, 0⟩], [1, 2, 3, 9]⟩

example : Backing (exS .HP) staleEx ∧ (exS .HP).buf.cap = 71 ∧ (exS .HP).buf.data = exP := by
  unfold Backing; decide
/-- `parseW_reachable` applies (all hypotheses satisfiable), for all five kinds -/
example : parseW (exS .HP) staleEx 0 = some ((exS .HP).parse 0) :=
  parseW_reachable .HP (Or.inl rfl) runCfg (runS0 .HP) (runS0_new .HP (by decide)) exOpsW staleEx 0
    (by unfold Backing; decide)
example : parseW (exS .BHP) staleEx 0 = some ((exS .BHP).parse 0) :=
  parseW_reachable .BHP (Or.inr (Or.inl rfl)) runCfg (runS0 .BHP) (runS0_new .BHP (by decide))
    exOpsW staleEx 0 (by unfold Backing; decide)
example : parseW (exS .DHP) staleEx 0 = some ((exS .DHP).parse 0) :=
  parseW_reachable .DHP (Or.inr (Or.inr (Or.inl rfl))) runCfg (runS0 .DHP) (runS0_new .DHP (by decide))
    exOpsW staleEx 0 (by unfold Backing; decide)
example : parseW (exS .BDHP) staleEx 0 = some ((exS .BDHP).parse 0) :=
  parseW_reachable .BDHP (Or.inr (Or.inr (Or.inr (Or.inl rfl)))) runCfg (runS0 .BDHP)
    (runS0_new .BDHP (by decide)) exOpsW staleEx 0 (by unfold Backing; decide)
example : parseW (exS .BUP) staleEx 0 = some ((exS .BUP).parse 0) :=
  parseW_reachable .BUP (Or.inr (Or.inr (Or.inr (Or.inr rfl)))) runCfg (runS0 .BUP)
    (runS0_new .BUP (by decide)) exOpsW staleEx 0 (by unfold Backing; decide)
-- the word-level runs evaluated: the last sequence (1, 3, 1) comes from the probe at i = 19 whose
-- loads read 5 stale bytes
example : (parseW (exS .HP) staleEx 0).map view2 = some (22, .ok, exBlk, 22) := by decide +kernel
example : (parseW (exS .BHP) staleEx 0).map view2 = some (22, .ok, exBlk, 22) := by decide +kernel
example : (parseW (exS .DHP) staleEx 0).map view2 = some (22, .ok, exBlk, 22) := by decide +kernel
example : (parseW (exS .BDHP) staleEx 0).map view2 = some (22, .ok, exBlk, 22) := by decide +kernel
example : (parseW (exS .BUP) staleEx 0).map view2 = some (22, .ok, exBlk, 22) := by decide +kernel
example : (parseW (exS .HP) (List.replicate 49 9) 0).map view2 = some (22, .ok, exBlk, 22) := by
  decide +kernel
example : (parseW (exS .BUP) (List.replicate 49 9) 0).map view2 = some (22, .ok, exBlk, 22) := by
  decide +kernel

/-- capacity 26 < inputEnd + 7 = 27: the model reports `.panic`, the word-level code panics
    (`parseW_panic`) -/
def exSmall : Parser := { exS .HP with buf := { (exS .HP).buf with cap := 26 } }
example : Backing exSmall [9, 9, 9, 9] ∧ (parseW exSmall [9, 9, 9, 9] 0).map view2 = none ∧
    (exSmall.parse 0).2.2.1 = .panic :=
  ⟨by unfold Backing; decide, by decide +kernel, by decide +kernel⟩

/-- A state outside the buffer invariant `CapOK` where model and Go differ (not reachable
    through the API: `history_inv … .cap`).  12 data bytes with capacity 15, `W = 10`, `BlockSize = 1`,
    `InputLen = 4`: the model's guard in `parse` (`inputEnd + 7 = 15 ≤ cap`) passes and `parse`
    returns `n = 1`, `nil`; Go panics before the loop in `processSegment(7, 10)`:
    `f.Data[:b+7]` with `b = min(12 - 4 + 1, 10) = 9`, "slice bounds out of range [:16] with
    capacity 15".  The model guards only the reslice of `Parse`, not the one of `processSegment`;
    `parseW_eq` therefore assumes `CapOK`. -/
def exOdd : Parser :=
  { kind := .HP, cfg := {},
    buf := { data := [1, 2, 3, 4, 5, 6, 7, 8, 9, 10, 11, 12], w := 10, off := 0, cap := 15,
             cfg := { shrinkSize := 0, bufferSize := 64, windowSize := 64, blockSize := 1 } },
    dict := .single (HashT.new 4 4) }
example : Backing exOdd [0xaa, 0xbb, 0xcc] ∧ exOdd.MarginOK ∧ ¬ exOdd.buf.CapOK ∧
    view2 (exOdd.parse 0) = (1, .ok, ⟨[], [11]⟩, 11) ∧
    (parseW exOdd [0xaa, 0xbb, 0xcc] 0).map view2 = none :=
  ⟨by unfold Backing; decide, by unfold Parser.MarginOK; decide, by unfold PBuf.CapOK; decide,
    by decide +kernel, by decide +kernel⟩

end Examples

#print axioms slice_eq_some
#print axioms loadKey_eq
#print axioms insertRangeW_eq
#print axioms binsertRangeW_eq
#print axioms backExtW_eq
#print axioms candTail_do
#print axioms candTailW
#print axioms hpProbeW_eq
#print axioms dhpProbeW_eq
#print axioms bupScanW_eq
#print axioms bupProbeW_eq
#print axioms greedyLoopW_eq
#print axioms runGreedyW_eq
#print axioms processSegment1W_eq
#print axioms processSegment2W_eq
#print axioms processSegmentBW_eq
#print axioms hpRunW_eq
#print axioms dhpRunW_eq
#print axioms bupRunW_eq
#print axioms parseW_eq
#print axioms parseW_panic
#print axioms reachable_hashDictOK
#print axioms reachable_backing
#print axioms parseW_reachable
#print axioms parseNilW_eq
#print axioms parseNilW_reachable
#print axioms hpProbeW_behind_irrelevant
#print axioms parseW_stale_irrelevant

end LZ.ProbeW
