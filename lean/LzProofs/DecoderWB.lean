/-
  LzProofs.DecoderWB — C18 for blocks: the content of `WriteBlock`.  `wbSpec` states it for the buffer in terms of
  `Ext` alone (from `DecBuf.writeBlock_run`, which rests on `DecBuf.seqLoop_spec` and the doubling-copy proof
  `copyMatch_eq_copyRef` of LzProofs/DecBufLemmas.lean); the C18 block theorems state it for the decoder's log.
-/
import LzProofs.DecoderProps
namespace LZ
open DecBuf Decoder

/-- content of `DecoderBuffer.WriteBlock`: the bytes `x` that a call appends to
    the buffer are the reference expansion, over the window `b.data`, of the `k` sequences and `l`
    literal bytes the call reports. -/
def WBSpec (g : Grow) : Prop :=
  ∀ (b : DecBuf) (blk : Block) (x : List Byte), DecBuf.Inv b → Ext b (b.writeBlock g blk).1 x →
    Expands b.data blk.lits blk.seqs (b.writeBlock g blk).2.2.1 (b.writeBlock g blk).2.2.2.1 (b.data ++ x)

/-- it holds for every growth function: the bytes a call appends are determined by the buffer
    reached, and `DecBuf.writeBlock_run` says they are the expansion. -/
theorem wbSpec (g : Grow) : WBSpec g := by
  intro b blk x h hx
  rcases hr : b.writeBlock g blk with ⟨b', n, k, l, e⟩
  rw [hr] at hx
  obtain ⟨x', s⟩ := writeBlock_run g h blk hr
  cases List.append_cancel_left ((hx.pending h.1).symm.trans (s.step.ext.pending h.1))
  exact s.expands

/-! ## C18 for blocks, on the log -/

/-- C18 (iii), `WriteBlock`, content.  Whatever the writer did and whatever error is returned,
    the log after the call is the reference expansion of the first `k` sequences and `l` literals
    over the log before the call. -/
theorem C18_writeBlock_expands' (g : Grow) (d : Decoder) (seqs : List Seq) (lits : List Byte)
    (h : DecBuf.Inv d.buf) (hh : Hist d) :
    Expands d.log lits seqs (d.writeBlock g seqs lits 0 0 0).2.2.1
      (d.writeBlock g seqs lits 0 0 0).2.2.2.1 (d.writeBlock g seqs lits 0 0 0).1.log ∧
    Hist (d.writeBlock g seqs lits 0 0 0).1 := by
  obtain ⟨_, kk, ll, z, r, q1, q2, _, _, _, _, q8⟩ := writeBlock_post g d seqs lits 0 0 0 h
  rw [Nat.zero_add] at q1 q2
  rw [q1, q2, r.log]
  exact ⟨q8 hh, r.closed _ Hist.stepClosed hh⟩

/-- C18, prefix property.  What the writer has accepted at return of `WriteBlock` (with or
    without error) is a prefix of the reference expansion `full` of the block. -/
theorem C18_got_prefix_of_expansion' (g : Grow) (d : Decoder) (seqs : List Seq) (lits : List Byte)
    (full : List Byte) (h : DecBuf.Inv d.buf) (hh : Hist d)
    (hf : expand d.log ⟨seqs, lits⟩ = some full) :
    ∃ t, (d.writeBlock g seqs lits 0 0 0).1.w.got ++ t = full := by
  obtain ⟨t, ht⟩ := (C18_writeBlock_expands' g d seqs lits h hh).1.prefix_full hf
  exact ⟨(d.writeBlock g seqs lits 0 0 0).1.buf.pending ++ t, by rw [← List.append_assoc]; exact ht⟩

/-- C18 (iv), `WriteBlock`: exactly once.  The retry protocol (`retryBlock`: re-submit
    `(seqs[k:], lits[l:])` after every writer fault, finally flush until success) with one unit of
    fuel per scripted writer response plus one always finishes; it ends with a buffer error
    (bad block) or in success, and on success the writer has received the old log followed by the
    full reference expansion of the block — exactly once — and nothing is pending. -/
theorem C18_retryBlock_exactly_once' (g : Grow) (d : Decoder) (seqs : List Seq) (lits : List Byte)
    (h : DecBuf.Inv d.buf) (hh : Hist d) :
    ∃ d' e, retryBlock g (d.w.resps.length + 1) d seqs lits = some (d', e) ∧ BufErr e ∧
      (e = .ok → expand d.log ⟨seqs, lits⟩ = some d'.w.got ∧ d'.buf.pending = []) := by
  obtain ⟨d', e, z, h1, h2, h3, h4⟩ := retryBlock_spec g _ d seqs lits h (Nat.lt_succ_self _)
  refine ⟨d', e, h1, h2, fun he => ?_⟩
  obtain ⟨p1, p2⟩ := h4 he
  refine ⟨?_, p1⟩
  rw [p2 hh, ← h3.log, Decoder.log, p1, List.append_nil]

end LZ

#print axioms LZ.wbSpec
#print axioms LZ.C18_writeBlock_expands'
#print axioms LZ.C18_got_prefix_of_expansion'
#print axioms LZ.C18_retryBlock_exactly_once'
