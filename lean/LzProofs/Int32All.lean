/-
  LzProofs.Int32All — the D18 bound `Sap.Int32OK` is a consequence of `NewParser`.

  `OSAPConfig.Verify` and `GSAPConfig.Verify` reject `BufferSize > MaxInt32` (the fix for D18;
  `LZ.verify` follows), so every OSAP parser `NewParser` returns satisfies `Sap.Int32OK` (its first
  disjunct: `Sap.int32OK_of_newParser`, GlueLemmas.lean), and the statements about reachable states
  (`Sap.osap_reachable`, `Sap.C11_optimal_reachable`, `C19_run_osap_of_reachable`) do not mention it.
  The history-level theorems stated with `(hb : Int32OK s0)` next to
  `(h0 : newParser .OSAP raw = some s0)` are restated without it as `<name>_all`, conclusions
  verbatim: here those of GlueSuffix.lean, in Int32AllGlue.lean those of GlueProps.lean, in
  Int32AllRuns.lean those of RunsOsap.lean.
-/
import LzProofs.GlueSuffix
namespace LZ.Sap

/-- every OSAP parser `NewParser` returns has `BufferSize ≤ MaxInt32` (`Verify`, fix for D18) -/
theorem newParser_osap_bufferSize (raw : Cfg) (s0 : Parser)
    (h0 : newParser .OSAP raw = some s0) : s0.buf.cfg.bufferSize ≤ 2147483647 := by
  obtain ⟨hv, rfl⟩ := newParser_eq_some h0
  have hle : (setDefaults .OSAP (raw.restrict .OSAP)).bufferSize ≤ 2147483647 :=
    (verify_osap.mp hv).2.2.2.2
  simp only [PBuf.init, Cfg.bufCfg]
  omega

/-! ## GlueLemmas.lean -/

/-! ## GlueSuffix.lean -/

/-- C11, unconditional, for every accepted OSAP configuration.  Start from a new OSAP parser,
    apply any sequence of `Write`, `ReadFrom`, `Parse(&blk, flags)`, `Parse(nil)`, `Shrink`,
    `Reset`; the next block emitted with flags 0 is an LZ77 parse of its bytes (lengths in
    `[MinMatchLen, MaxMatchLen]`, offsets `≤ WindowSize`, sources in the buffer) of minimum
    `XZCost`. -/
theorem C11_optimal_unconditional_all (raw : Cfg) (s0 : Parser)
    (h0 : newParser .OSAP raw = some s0)
    (ops : List POp) (flags : Nat) (hf : flags % 2 = 0)
    (hn : (runOps s0 ops).blockN ≠ 0) :
    let s := runOps s0 ops
    ∃ o, s.dict = .osap o ∧
      LzParse (s.buf.data.take (s.buf.w + s.blockN)) s.buf.w s.buf.cfg.windowSize
        s.minMatch s.cfg.maxMatchLen.toNat s.blockN (osapPath s o) ∧
      ∀ π, LzParse (s.buf.data.take (s.buf.w + s.blockN)) s.buf.w s.buf.cfg.windowSize
          s.minMatch s.cfg.maxMatchLen.toNat s.blockN π →
        blockCost (s.parse flags).2.2.2 ≤ pathCost π :=
  C11_optimal_reachable h0 (reachable_sapRunOps s0 ops) flags hf hn

/-- the hypothesis `CEAt` of `C11_all_histories` holds for every buffer along every history of
    every accepted OSAP configuration -/
theorem ceAt_holds_all (raw : Cfg) (s0 : Parser) (h0 : newParser .OSAP raw = some s0)
    (ops : List POp) : CEAt (runOps s0 ops) :=
  let ⟨_, _, _, hce, _⟩ := osap_reachable h0 (reachable_sapRunOps s0 ops)
  hce

/-! ## non-vacuity -/

example : Int32OK glueOsap0 := int32OK_of_newParser glueOsapCfg glueOsap0 glueOsap0_new

example := C11_optimal_unconditional_all glueOsapCfg glueOsap0 glueOsap0_new glueOps 0 rfl
  glueOps_blockN

example : CEAt (runOps glueOsap0 glueOps) := ceAt_holds_all glueOsapCfg glueOsap0 glueOsap0_new
  glueOps

/-! ## axioms -/

#print axioms newParser_osap_bufferSize
#print axioms C11_optimal_unconditional_all
#print axioms ceAt_holds_all

end LZ.Sap
