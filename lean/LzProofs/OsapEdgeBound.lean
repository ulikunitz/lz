/-
  LzProofs.OsapEdgeBound — a concrete bound on the number of edges the model `computeEdges` stores per
  position, so that the hypothesis `CESpec B ce` of the translated OSAP `Parse`
  (LzProofs/GenOSAPParseLemmas.lean) is satisfiable: the offsets stored for one position are strictly
  decreasing (the Go test `(*p)[len(*p)-1].o <= o ⇒ continue`) and, for `len(data) ≤ MaxInt32`, lie in
  `[1, len(data)]`; hence at most `len(data)` edges per position.
-/
import LzProofs.EdgesProps
import LzProofs.GlueSuffix

namespace LZ.Sap

theorem length_le_of_desc : ∀ (l : List Nat) (N : Nat), l.Pairwise (fun a b => b < a) →
    (∀ x ∈ l, 1 ≤ x ∧ x ≤ N) → l.length ≤ N
  | [], N, _, _ => Nat.zero_le _
  | x :: r, N, hp, hb => by
    have hp' := List.pairwise_cons.1 hp
    have hx := hb x List.mem_cons_self
    have := length_le_of_desc r (x - 1) hp'.2 (fun y hy => by
      have h1 := hp'.1 y hy
      have h2 := hb y (List.mem_cons_of_mem _ hy)
      omega)
    simp only [List.length_cons]
    omega

/-- the offsets of the edges stored for every position are strictly decreasing -/
def DescTable (edges : Array (List Edge)) : Prop :=
  ∀ k, ((edges.getD k []).map (fun e => e.2)).Pairwise (fun a b => b < a)

theorem desc_last {l : List Edge} (hp : (l.map (fun e => e.2)).Pairwise (fun a b => b < a)) {e : Edge}
    (hl : l.getLast? = some e) : ∀ a ∈ l, e.2 ≤ a.2 := by
  obtain ⟨ys, rfl⟩ := List.getLast?_eq_some_iff.1 hl
  rw [List.map_append, List.pairwise_append] at hp
  intro a ha
  rcases List.mem_append.1 ha with ha | ha
  · have := hp.2.2 a.2 (List.mem_map.2 ⟨a, ha, rfl⟩) e.2 (by simp)
    omega
  · simp only [List.mem_singleton] at ha
    subst ha; exact Nat.le_refl _

/-- a store as the callback makes it (`edgeCallback_keeps`) keeps the offsets decreasing -/
theorem DescTable.store {edges : Array (List Edge)} (h : DescTable edges) (k m o : Nat)
    (hlast : ∀ e, (edges.getD k []).getLast? = some e → o < e.2) :
    DescTable (edges.setIfInBounds k (edges.getD k [] ++ [(m, o)])) := by
  intro k'
  rw [getD_setIfInBounds]
  split
  · rw [List.map_append, List.pairwise_append]
    refine ⟨h k, by simp, ?_⟩
    intro a ha b hb
    simp only [List.map_cons, List.map_nil, List.mem_singleton] at hb
    subst hb
    obtain ⟨a', ha', rfl⟩ := List.mem_map.1 ha
    cases hl : (edges.getD k []).getLast? with
    | none =>
      rw [List.getLast?_eq_none_iff] at hl
      rw [hl] at ha'; cases ha'
    | some e =>
      have := desc_last (h k) hl a' ha'
      have := hlast e hl
      omega
  · exact h k'

/-- the offsets `computeEdges` stores for a position are strictly decreasing (unconditional) -/
theorem computeEdges_desc (data : List Byte) (w ws minMatch maxMatch : Nat) :
    DescTable (computeEdges data w ws minMatch maxMatch).edges :=
  computeEdges_keeps (P := fun st => DescTable st.1) data w ws minMatch maxMatch
    (fun k => by rw [replicate_getD_nil]; exact List.Pairwise.nil)
    fun m _ _ k o _ hlast h => h.store k m o hlast

/-- every stored edge `(m, o)` has `1 ≤ o ≤ len(data)` and `m ≤ len(data)`, for buffers of at most `MaxInt32`
    bytes (what `OSAPConfig.Verify` enforces) -/
theorem computeEdges_entry_le (data : List Byte) (w ws minMatch maxMatch : Nat) (hw : w ≤ data.length)
    (hlen : data.length ≤ 2147483647) (k me oe : Nat)
    (h : (me, oe) ∈ (computeEdges data w ws minMatch maxMatch).edges.getD k []) :
    1 ≤ oe ∧ oe ≤ data.length ∧ me ≤ data.length := by
  have hC := ceHyps_holds data w ws minMatch maxMatch hlen
  rcases computeEdges_cases hC with ⟨-, h0⟩ | ⟨cbs, st, -, hI, he⟩ | h0
  · rw [h0 k] at h; cases h
  · rw [he] at h
    by_cases hk : k < data.length - w
    · obtain ⟨a1, a2, a3, a4, -⟩ := hI.prov k me oe h
      have hl := lcpLen_le_left ((ceT data w ws).drop (k + (w - (w - ws))))
        ((ceT data w ws).drop (k + (w - (w - ws)) - oe))
      simp only [List.length_drop] at hl
      have hct : (ceT data w ws).length = data.length - (w - ws) := by simp [ceT]
      refine ⟨a1, by omega, by omega⟩
    · have : st.1.getD k [] = [] := by
        rw [Array.getD_eq_getD_getElem?, Array.getElem?_eq_none (by rw [hI.size]; omega)]
        rfl
      rw [this] at h; cases h
  · rw [computeEdges_none _ _ _ _ _ (Or.inl h0), replicate_getD_nil] at h; cases h

/-- at most `len(data)` edges per position -/
theorem computeEdges_len_le (data : List Byte) (w ws minMatch maxMatch : Nat) (hw : w ≤ data.length)
    (hlen : data.length ≤ 2147483647) (k : Nat) :
    ((computeEdges data w ws minMatch maxMatch).edges.getD k []).length ≤ data.length := by
  have h1 := computeEdges_desc data w ws minMatch maxMatch k
  have := length_le_of_desc _ data.length h1 (by
    intro x hx
    obtain ⟨e, he, rfl⟩ := List.mem_map.1 hx
    obtain ⟨a, b, -⟩ := computeEdges_entry_le data w ws minMatch maxMatch hw hlen k e.1 e.2 he
    exact ⟨a, b⟩)
  simpa using this

end LZ.Sap

#print axioms LZ.Sap.computeEdges_desc
#print axioms LZ.Sap.computeEdges_entry_le
#print axioms LZ.Sap.computeEdges_len_le
