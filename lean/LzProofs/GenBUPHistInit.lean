/-
  LzProofs.GenBUPHistInit — initialisation of the bucket parser BUP: the model (`newParser .BUP`; LzModel/Parser.lean)
  equals the mechanical translation of
      bucket_hash.go   bucketHash.init, bucketDictionary.init     (topic BucketInit, CodeBucketInit.lean)
      bup.go           bucketParser.init
  for EVERY configuration, and the translated `init` on the zero value `new(bucketParser)` establishes the bundle
  `ParseOKU` of `gen_bup_parse` (non-vacuity of its hypotheses; GenBUPParseEx shows it for one configuration by
  evaluation).

      gen_bucketHash_init     bucketHash.init on a configuration that is a `SetDefaults` image and verifies:
                              table = `BucketT.new` (two zeroed `make`s of `2^HashBits·BucketSize` / `2^HashBits`),
                              the table invariant `BOK`, the mask, the shift
      gen_bdict_init          bucketDictionary.init: buffer = `PBuf.init`, table as above
      gen_bup_init            bucketParser.init(cfg) vs newParser .BUP: rejected configurations leave the receiver
                              unchanged and return an error; accepted ones yield the model's fresh parser
      gen_bup_init_fresh      … for the receiver `new(bucketParser)`: exactly the model's fresh parser
      gen_bup_init_parseOK    … and `ParseOKU` holds
      gen_bup_init_go         the same, stated from the Go side: `bucketParser_init default cfg = Res.ok (s0, nil)`
  The proofs follow `gen_hp_init*` (GenHashPropsDict, GenHPParse), `gen_bhp_init*` (GenBHPHist), GenDHPInit.
  No sorry, no axioms of its own.
-/
import LzModel.Generated.CodeBucketInit
import LzProofs.GenBUPParse
import LzProofs.GenHashPropsDict
import LzProofs.ParseProps
import LzProofs.GenDictFrame

set_option linter.unusedSimpArgs false
set_option linter.unusedVariables false

namespace LZ.GenBUPHist
open LZ LZ.Gen LZ.GenBuf LZ.GenHash LZ.GenHPParse LZ.GenBUPParse LZ.GenProps

/-! ## `bucketConfig`: `SetDefaults` is idempotent, what `Verify` accepts -/

/-- `bucketCfg(&cfg)` on the union record -/
def bucketOf (c : Cfg) : Gen.bucketConfig := ⟨c.inputLen, c.hashBits, c.bucketSize⟩

/-- the bucket part of a defaults-completed, verified BUP configuration: a fixed point of
    `bucketConfig.SetDefaults`, accepted by `bucketConfig.Verify` (from the model, through the ties) -/
theorem bucketOf_ready (x : Cfg) (hv : verify .BUP (setDefaults .BUP x) = true) :
    bucketConfig_SetDefaults (bucketOf (setDefaults .BUP x)) = bucketOf (setDefaults .BUP x) ∧
    bucketConfig_Verify (bucketOf (setDefaults .BUP x)) = Gen.Err.ok := by
  have h := setDefaults_idem' .BUP x
  have e1 := congrArg Cfg.inputLen h
  have e2 := congrArg Cfg.hashBits h
  have e3 := congrArg Cfg.bucketSize h
  rw [gen_bucketDefaults, gen_bucketVerify]
  exact ⟨congr (congr (congrArg Gen.bucketConfig.mk e1) e2) e3, (verify_bup.mp hv).2⟩

theorem _root_.LZ.GenProps.CfgTie.bucket_ready {γ : Type} {abs : γ → Cfg} {conc : Cfg → γ} {sd : γ → γ}
    {vf : γ → Gen.Err} (t : CfgTie .BUP abs conc sd vf) {g : γ} (hok : vf (sd g) = Gen.Err.ok) :
    bucketConfig_SetDefaults (bucketOf (abs (sd g))) = bucketOf (abs (sd g)) ∧
    bucketConfig_Verify (bucketOf (abs (sd g))) = Gen.Err.ok := by
  have hv := (t.vf_ok _).mp hok
  rw [t.abs_sd] at hv ⊢
  exact bucketOf_ready _ hv

/-- the arguments `bucketHash.init` accepts -/
def BInitOK (il hb bs : Int) : Prop := 2 ≤ il ∧ il ≤ 8 ∧ 0 ≤ hb ∧ hb ≤ 23 ∧ hb ≤ 8 * il ∧ 1 ≤ bs ∧ bs ≤ 128

theorem bucketVerify_initOK (c : Gen.bucketConfig) (h : bucketConfig_Verify c = Gen.Err.ok) :
    BInitOK c.InputLen c.HashBits c.BucketSize := by
  have hv := (gen_bucketVerify c).mp h
  have := hashVerify_bounds hv.1
  have := bucketHashBits_domain _ _ hv.1
  have := FactsOb.minInputLen_ge_two
  have := FactsOb.maxInputLen_le_eight
  have := FactsOb.maxBucketSize_le
  have : Facts.minBucketSize = 1 := rfl
  unfold BInitOK
  omega

theorem maskB_eq (il : Int) (h1 : 2 ≤ il) (h2 : il ≤ 8) :
    (shlU64 (1 : UInt64) (il * 8).toNat) - 1 = maskOf il.toNat := by
  have key : ∀ k : Fin 9, 2 ≤ k.val → (shlU64 (1 : UInt64) (((k.val : Nat) : Int) * 8).toNat) - 1 = maskOf k.val := by
    decide
  have := key ⟨il.toNat, by omega⟩ (by show 2 ≤ il.toNat; omega)
  have e : ((il.toNat : Nat) : Int) = il := by omega
  simpa only [e] using this

/-! ## `bucketHash.init` -/

/-- bucket_hash.go `bucketHash.init(cfg)` for a configuration that `SetDefaults` leaves alone and `Verify` accepts
    (what `bucketDictionary.init` passes after its own `SetDefaults` / `Verify`); the receiver's old tables are
    dropped (`make`), so nothing is assumed about them -/
theorem gen_bucketHash_init (g : Gen.bucketHash) (c : Gen.bucketConfig)
    (hdi : bucketConfig_SetDefaults c = c) (hv : bucketConfig_Verify c = Gen.Err.ok) :
    ∃ g', bucketHash_init g c = Res.ok (g', c, Gen.Err.ok) ∧
      ofBucket g' = BucketT.new c.InputLen.toNat c.HashBits.toNat c.BucketSize.toNat ∧ BOK g' ∧
      g'.mask = maskOf g'.inputLen.toNat ∧ g'.inputLen = c.InputLen ∧ g'.shift.toNat = 64 - c.HashBits.toNat := by
  obtain ⟨h1, h2, h3, h4, h5, h6, h7⟩ := bucketVerify_initOK c hv
  obtain ⟨bsN, hbsN⟩ : ∃ n : Nat, c.BucketSize = (n : Int) := ⟨c.BucketSize.toNat, by omega⟩
  have hbsN' : c.BucketSize.toNat = bsN := by omega
  have hmul : ((2 ^ c.HashBits.toNat : Nat) : Int) * c.BucketSize = ((2 ^ c.HashBits.toNat * bsN : Nat) : Int) := by
    rw [hbsN, Int.natCast_mul]
  have hsh := shift_toNat c.HashBits h3 (by omega)
  have hmk := maskB_eq c.InputLen h1 h2
  have hbits : 64 - (64 - c.HashBits.toNat) = c.HashBits.toNat := by omega
  unfold bucketHash_init
  simp only [hdi, hv, ne_eq, not_true_eq_false, if_false]
  rw [shiftCount_ok _ h3]
  simp only [bind_ok, pow_cast]
  rw [hmul, gmake_eq _ _ _ ⟨Int.natCast_nonneg _, Int.le_refl _⟩]
  simp only [bind_ok]
  rw [make_ok _ _ ⟨Int.natCast_nonneg _, Int.le_refl _⟩]
  simp only [bind_ok]
  rw [shiftCount_ok _ (by omega)]
  simp only [bind_ok, Int.toNat_natCast]
  refine ⟨_, rfl, ?_, ?_, ?_, rfl, hsh⟩
  · apply bucketT_ext
    · simp only [GenHash.ofBucket, BucketT.new, GSlice.data, List.take_replicate, List.map_replicate, Array.toList_replicate,
        ofBEntry_zero', Nat.min_self, List.toList_toArray, hsh, hbits, hbsN']
    · simp only [GenHash.ofBucket, BucketT.new, Slice.data, List.take_replicate, List.map_replicate, Array.toList_replicate,
        UInt8.toNat_zero, Nat.min_self, List.toList_toArray, hsh, hbits]
    · rfl
    · simp only [GenHash.ofBucket, BucketT.new, hsh, hbits]
    · rfl
  · refine ⟨?_, ?_, h6, (by show c.BucketSize ≤ 256; omega), ?_, ?_, ?_⟩
    · simp only [GWF, List.length_replicate]; omega
    · simp only [SWF, List.length_replicate]; omega
    · simp only [hsh, hbits]
    · simp only [hsh, hbits, hbsN']
    · intro h hh
      show ((List.replicate (2 ^ c.HashBits.toNat) (0 : UInt8)).getD h 0).toNat < c.BucketSize.toNat
      have e : (List.replicate (2 ^ c.HashBits.toNat) (0 : UInt8)).getD h 0 = 0 := by
        rw [List.getD_eq_getElem?_getD, List.getElem?_replicate]
        split <;> rfl
      rw [e]
      show 0 < c.BucketSize.toNat
      omega
  · simpa using hmk

/-! ## `bucketDictionary.init` -/

/-- bucket_hash.go `bucketDictionary.init(cfg, bcfg)` for configurations that `SetDefaults` leaves alone and `Verify`
    accepts (what `bucketParser.init` passes after its own `SetDefaults` / `Verify`) -/
theorem gen_bdict_init (f : Gen.bucketDictionary) (c : Gen.bucketConfig) (bc : Gen.BufConfig)
    (hbi : BufConfig_SetDefaults bc = bc) (hvb : BufConfig_Verify bc = Gen.Err.ok)
    (hdi : bucketConfig_SetDefaults c = c) (hv : bucketConfig_Verify c = Gen.Err.ok) :
    ∃ f', bucketDictionary_init f c bc = Res.ok (f', Gen.Err.ok) ∧
      ofPB f'.ParserBuffer = { PBuf.init (ofCfg bc) with cap := f.ParserBuffer.Data.cap } ∧ PBWF f'.ParserBuffer ∧
      ofBucket f'.bucketHash = BucketT.new c.InputLen.toNat c.HashBits.toNat c.BucketSize.toNat ∧
      BOK f'.bucketHash ∧ f'.bucketHash.mask = maskOf f'.bucketHash.inputLen.toNat ∧
      f'.bucketHash.inputLen = c.InputLen ∧ f'.bucketHash.shift.toNat = 64 - c.HashBits.toNat := by
  obtain ⟨pb', hpi, hofpb, hpwf⟩ := (gen_pbuf_init f.ParserBuffer bc).2 (by rw [hbi]; exact hvb)
  obtain ⟨g', hg, hofg, hbok, hmask, hil, hsh⟩ := gen_bucketHash_init f.bucketHash c hdi hv
  unfold bucketDictionary_init
  simp only [hpi, bind_ok, ne_eq, not_true_eq_false, if_false, hdi, hv, hg]
  rw [hbi] at hofpb
  exact ⟨_, rfl, hofpb, hpwf, hofg, hbok, hmask, hil, hsh⟩

/-! ## `bucketParser.init` -/

/-- bup.go `bucketParser.init(cfg)`: `raw` is the configuration as the model sees it (`toBUP raw` the Go struct with
    the fields of `raw` that BUPConfig has) -/
theorem gen_bup_init (s : Gen.bucketParser) (raw : Cfg) :
    match newParser .BUP raw with
    | none => ∃ e, bucketParser_init s (toBUP raw) = Res.ok (s, e) ∧ e ≠ Gen.Err.ok
    | some p => ∃ s', bucketParser_init s (toBUP raw) = Res.ok (s', Gen.Err.ok) ∧
        ofBUPs s' = { p with buf := { p.buf with cap := s.bucketDictionary.ParserBuffer.Data.cap } } ∧
        PBWF s'.bucketDictionary.ParserBuffer ∧ BOK s'.bucketDictionary.bucketHash ∧
        s'.bucketDictionary.bucketHash.mask = maskOf s'.bucketDictionary.bucketHash.inputLen.toNat ∧
        s'.bucketDictionary.bucketHash.inputLen = s'.BUPConfig.InputLen ∧
        s'.bucketDictionary.bucketHash.shift.toNat = 64 - s'.BUPConfig.HashBits.toNat := by
  rcases tieBUP.newParser_cases raw with ⟨hbad, hn⟩ | ⟨hok, -, hn⟩ <;> rw [hn] <;> unfold bucketParser_init
  · simp only [hbad, ne_eq, not_false_eq_true, if_true]
    exact ⟨_, rfl, hbad⟩
  · obtain ⟨hbi, hvb⟩ := tieBUP.buf_ready hok
    obtain ⟨hhi, hvh⟩ := tieBUP.bucket_ready hok
    generalize BUPConfig_SetDefaults (toBUP raw) = c' at *
    obtain ⟨f', hf, hofpb, hpwf, hofg, hbok, hmask, hil, hsh⟩ := gen_bdict_init s.bucketDictionary
      ⟨c'.InputLen, c'.HashBits, c'.BucketSize⟩ ⟨c'.ShrinkSize, c'.BufferSize, c'.WindowSize, c'.BlockSize⟩ hbi hvb hhi hvh
    simp only [hok, ne_eq, not_true_eq_false, if_false, hf, bind_ok]
    exact ⟨_, rfl, congr (congrArg (Parser.mk .BUP _) hofpb) (congrArg Dict.bucket hofg), hpwf, hbok, hmask, hil, hsh⟩

/-- … for the receiver `new(bucketParser)` (all fields zero): exactly the model's fresh parser -/
theorem gen_bup_init_fresh (raw : Cfg) (p : Parser) (hp : newParser .BUP raw = some p) :
    ∃ s', bucketParser_init default (toBUP raw) = Res.ok (s', Gen.Err.ok) ∧ ofBUPs s' = p ∧
      PBWF s'.bucketDictionary.ParserBuffer ∧ BOK s'.bucketDictionary.bucketHash ∧
      s'.bucketDictionary.bucketHash.mask = maskOf s'.bucketDictionary.bucketHash.inputLen.toNat ∧
      s'.bucketDictionary.bucketHash.inputLen = s'.BUPConfig.InputLen ∧
      s'.bucketDictionary.bucketHash.shift.toNat = 64 - s'.BUPConfig.HashBits.toNat := by
  have := gen_bup_init default raw
  rw [hp] at this
  obtain ⟨s', h1, h2, h3⟩ := this
  exact ⟨s', h1, h2.trans (fresh_cap0 hp), h3⟩

/-- **`ParseOKU` is what `init` establishes** (non-vacuity of the hypotheses of `gen_bup_parse`), for EVERY
    configuration `NewParser` accepts: the translated `bucketParser.init` on `new(bucketParser)` yields a Go state that
    abstracts to the model's fresh parser and satisfies `ParseOKU`. -/
theorem gen_bup_init_parseOK (raw : Cfg) (p : Parser) (hp : newParser .BUP raw = some p) :
    ∃ s', bucketParser_init default (toBUP raw) = Res.ok (s', Gen.Err.ok) ∧ ofBUPs s' = p ∧ ParseOKU s' := by
  obtain ⟨s', h1, h2, hpwf, hbok, hmask, hilE, hshE⟩ := gen_bup_init_fresh raw p hp
  refine ⟨s', h1, h2, ?_⟩
  obtain ⟨hv, rfl⟩ := newParser_eq_some hp
  generalize setDefaults .BUP (raw.restrict .BUP) = c at hv h2
  have hil := verify_hash_bounds (.inr (.inr rfl)) hv
  have hhb := bucketHashBits_domain _ _ (verify_bup.mp hv).2.1
  have hvb := verify_bounds hv
  have hcfg : GenProps.ofBUP s'.BUPConfig = c := congrArg Parser.cfg h2
  obtain ⟨hws, hbl, hw, hlen⟩ := fresh_pbuf (cap := 0) hpwf (congrArg Parser.buf h2 :)
  have cW : s'.BUPConfig.WindowSize = c.windowSize := congrArg Cfg.windowSize hcfg
  have cB : s'.BUPConfig.BlockSize = c.blockSize := congrArg Cfg.blockSize hcfg
  have cI : s'.BUPConfig.InputLen = c.inputLen := congrArg Cfg.inputLen hcfg
  have cH : s'.BUPConfig.HashBits = c.hashBits := congrArg Cfg.hashBits hcfg
  rw [cH] at hshE
  exact ⟨⟨hpwf, hbok.gwf, hbok.swf⟩, hbok, by rw [cW, hws], by rw [cB, hbl], by rw [hilE], by rw [cB]; omega,
    by rw [cW]; exact hvb.2.2.2.1, by rw [hlen]; omega, by rw [hilE, cI]; omega, hmask, by omega, by omega,
    by rw [hlen]; decide⟩

/-- **The same from the Go side.**  `cfg` is any `BUPConfig` for which the translated `bucketParser.init`, called on
    the zero value `new(bucketParser)`, returns `nil`: then the model's `NewParser` accepts it, the Go state abstracts
    to the model's fresh parser and satisfies `ParseOKU`. -/
theorem gen_bup_init_go (cfg : Gen.BUPConfig) (s0 : Gen.bucketParser)
    (hinit : bucketParser_init default cfg = Res.ok (s0, Gen.Err.ok)) :
    ∃ p, newParser .BUP (ofBUP cfg) = some p ∧ ofBUPs s0 = p ∧ ParseOKU s0 := by
  have hg := gen_bup_init default (ofBUP cfg)
  rw [toBUP_ofBUP] at hg
  cases hp : newParser .BUP (ofBUP cfg) with
  | none =>
    rw [hp] at hg
    obtain ⟨e, he, hne⟩ := hg
    rw [hinit] at he
    injection he with he
    injection he with _ he
    exact absurd he.symm hne
  | some p =>
    obtain ⟨s', h1, h2, h3⟩ := gen_bup_init_parseOK (ofBUP cfg) p hp
    rw [toBUP_ofBUP, hinit] at h1
    injection h1 with h1
    injection h1 with h1 _
    subst h1
    exact ⟨p, rfl, h2, h3⟩

end LZ.GenBUPHist

#print axioms LZ.GenBUPHist.gen_bucketHash_init
#print axioms LZ.GenBUPHist.gen_bdict_init
#print axioms LZ.GenBUPHist.gen_bup_init
#print axioms LZ.GenBUPHist.gen_bup_init_fresh
#print axioms LZ.GenBUPHist.gen_bup_init_parseOK
#print axioms LZ.GenBUPHist.gen_bup_init_go
#print axioms LZ.GenBUPHist.bucketOf_ready
