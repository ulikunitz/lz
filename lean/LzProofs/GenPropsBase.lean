/-
  Lemmas shared by the GenProps topic files that do not mention any
  translated function: the model's verification predicates as propositions, the two
  error-propagation idioms of the generated code (over `Gen.Err` of CodePrelude), the
  domain of `hashBits` on verified configurations, and `CfgTie`: what the tie of one parser
  configuration type consists of and what follows from it for `NewParser`.
-/
import LzModel.Generated.CodePrelude
import LzModel.Basic
import LzModel.Config
import LzModel.Hash
import LzModel.Sap
import LzModel.DecBuf
import LzProofs.ConfigLemmas

set_option linter.unusedSimpArgs false

namespace LZ.GenProps
open LZ

/-! ## shape-independent proofs

The generated term changes with every behaviour-preserving rewrite of the Go source (negated
conditions with swapped arms, De Morgan, early returns, reordered statements …).  The proofs
about generated configuration functions therefore do not match a particular shape.  The
generated function and the helpers the translator followed are unfolded by `dsimp only`, which
unlike `simp only` also rewrites the `Decidable` instances of the conditions.  A `Verify` is a
nest of `if`s with `Err` leaves: `ite_eq_iff` turns "it returns `e`" into a proposition over the
conditions, which are linear, so `omega` decides it (`gen_ifs`); the result of another generated
`Verify` is made a variable of type `Err` and split by `cases` first.  A `SetDefaults` is a nest of
`if`s with record leaves: projections (`apply_ite`) and shifts (`shiftRight_ite`) are pushed
to the leaves, and `omega` compares the integer-valued `if`s field by field. -/

theorem ite_eq_iff {α : Sort _} {p : Prop} [Decidable p] (a b c : α) :
    (if p then a else b) = c ↔ (p ∧ a = c) ∨ (¬p ∧ b = c) := by
  by_cases h : p
  · rw [if_pos h]; exact ⟨fun e => .inl ⟨h, e⟩, fun e => e.elim And.right fun e => absurd h e.1⟩
  · rw [if_neg h]; exact ⟨fun e => .inr ⟨h, e⟩, fun e => e.elim (fun e => absurd e.1 h) And.right⟩

theorem shiftRight_ite (p : Prop) [Decidable p] (a b : Int) (n : Nat) :
    (if p then a else b) >>> n = if p then a >>> n else b >>> n :=
  apply_ite (fun x : Int => x >>> n) p a b

/-- Decides what a nest of `if`s with `Err` leaves returns, after the generated function has been unfolded by
    `dsimp only [Gen.F, gen_helper]` (`dsimp`, not `simp`: it also rewrites the `Decidable` instances of the
    conditions, so that a helper followed into a condition leaves a term the lemmas below still match).  Every `if`
    becomes a proposition over its condition by `ite_eq_iff`, whatever the shape of the condition and the order
    of the arms; conditions kept in a Go `bool` are read back; clashes of `Err` constructors and propositional
    constants are evaluated.  What is left is propositional over linear atoms: `omega`.  Results of other generated
    functions (`err := bc.Verify()`) have to be variables of type `Err` split by `cases` before the call; lemmas
    about the particular function (constants of `Facts`) are passed in the brackets. -/
macro "gen_ifs" "[" ls:Lean.Parser.Tactic.simpLemma,+ "]" : tactic =>
  `(tactic| (simp only [ite_eq_iff, $ls,*, ne_eq, decide_eq_true_eq, decide_eq_false_iff_not, Bool.not_eq_true,
      Bool.and_eq_true, Bool.or_eq_true, reduceCtorEq, Gen.Err.error.injEq, eq_self, not_true_eq_false,
      not_false_eq_true, and_true, true_and, and_false, false_and, or_true, true_or, or_false, false_or, iff_true,
      true_iff, iff_false, false_iff, ↓reduceIte] <;> omega))

macro "gen_ifs" : tactic => `(tactic| gen_ifs [ite_eq_iff])

/-! ## the tie of one parser configuration type -/

/-- what GenPropsCfg<K> proves about the Go configuration type `γ` of kind `k`: `abs` reads it as the union record,
    `conc` writes it, `sd` / `vf` are the translated `SetDefaults` / `Verify`.  A proposition about the four functions
    (not a record holding them), so that its consequences speak of the generated functions by name. -/
structure CfgTie (k : Kind) {γ : Type} (abs : γ → Cfg) (conc : Cfg → γ) (sd : γ → γ) (vf : γ → Gen.Err) : Prop where
  abs_conc : ∀ c, abs (conc c) = c.restrict k
  abs_sd : ∀ g, abs (sd g) = setDefaults k (abs g)
  vf_ok : ∀ g, vf g = .ok ↔ verify k (abs g) = true

namespace CfgTie
variable {k : Kind} {γ : Type} {abs : γ → Cfg} {conc : Cfg → γ} {sd : γ → γ} {vf : γ → Gen.Err}
  (t : CfgTie k abs conc sd vf)
include t

theorem completed (raw : Cfg) : abs (sd (conc raw)) = setDefaults k (raw.restrict k) := by
  rw [t.abs_sd, t.abs_conc]

theorem verify_conc (c : Cfg) : vf (conc c) = .ok ↔ verify k (c.restrict k) = true := by
  rw [t.vf_ok, t.abs_conc]

theorem accepted (c : Cfg) : LZ.accepted k c = true ↔ vf (sd (conc c)) = .ok := by
  rw [t.vf_ok, t.completed]; rfl

/-- the two outcomes of `NewParser`, read off the Go `Verify` of the completed configuration -/
theorem newParser_cases (raw : Cfg) :
    (vf (sd (conc raw)) ≠ .ok ∧ newParser k raw = none) ∨
    (vf (sd (conc raw)) = .ok ∧ verify k (abs (sd (conc raw))) = true ∧
      newParser k raw = some ⟨k, abs (sd (conc raw)), PBuf.init (abs (sd (conc raw))).bufCfg,
        freshDict k (abs (sd (conc raw)))⟩) := by
  have hv := t.vf_ok (sd (conc raw))
  rw [t.completed] at hv ⊢
  cases hm : verify k (setDefaults k (raw.restrict k))
  · exact .inl ⟨fun h => Bool.false_ne_true (hm.symm.trans (hv.mp h)), newParser_of_reject hm⟩
  · exact .inr ⟨hv.mpr hm, rfl, newParser_of_verify hm⟩

end CfgTie

/-! ## configurations: the four helper configurations -/

/-- the model's verification predicates as propositions (constants of `Facts` unfolded) -/
theorem bufVerify_iff (c : Cfg) : bufVerify c = true ↔
    ((1 ≤ c.bufferSize ∧ c.bufferSize ≤ 4294967288) ∧ (0 ≤ c.shrinkSize ∧ c.shrinkSize < c.bufferSize) ∧
     (0 ≤ c.windowSize ∧ c.windowSize ≤ 4294967288) ∧ (1 ≤ c.blockSize ∧ c.blockSize ≤ 4294967288)) := by
  unfold bufVerify
  simp +zetaHave only [decide_eq_true_eq]
  simp only [Facts.maxUint32, Facts.margin]
  omega

theorem hashVerify_iff (il hb mb : Int) : hashVerify il hb mb = true ↔
    ((2 ≤ il ∧ il ≤ 8) ∧ (0 ≤ hb ∧ hb ≤ (if 8 * il < mb then 8 * il else mb))) := by
  unfold hashVerify
  simp +zetaHave only [decide_eq_true_eq]
  simp only [Facts.minInputLen, Facts.maxInputLen]

/-- an error-propagating step `if err = f(); err != nil { return err }; rest` -/
theorem seq_ok (a b : Gen.Err) : (if a ≠ .ok then a else b) = .ok ↔ a = .ok ∧ b = .ok := by
  split <;> simp_all

/-- a check `if !(p) { return error k }; rest` -/
theorem chk_ok {p : Prop} [Decidable p] (k : Nat) (r : Gen.Err) :
    (if ¬p then Gen.Err.error k else r) = .ok ↔ p ∧ r = .ok := by
  split <;> simp_all

/-! ### the domain on which `hashValue` is used

The model's `hashValue x hashBits` returns a `Nat` without the `uint32(…)` truncation, so it
equals the Go function only for `hashBits ≤ 32` (`gen_hashValue`).  Every caller takes
`hashBits` from a verified configuration, where it is at most 24 (23 for the bucket hash). -/

theorem hashBits_domain (il hb : Int) (h : hashVerify il hb Facts.maxHashBits = true) :
    0 ≤ hb ∧ hb ≤ 24 := by
  rw [hashVerify_iff] at h
  simp only [Facts.maxHashBits] at h
  omega

theorem bucketHashBits_domain (il hb : Int) (h : hashVerify il hb Facts.maxBucketHashBits = true) :
    0 ≤ hb ∧ hb ≤ 23 := by
  rw [hashVerify_iff] at h
  simp only [Facts.maxBucketHashBits] at h
  omega

/-- `if bc.BufferSize == 0 { bc.SetDefaults(); bc.BufferSize = bc.WindowSize }` changes nothing:
    that is what `BufConfig.SetDefaults` yields anyway -/
theorem bufDefaults_bufferSize_of_zero (c : Cfg) (h : c.bufferSize = 0) :
    (bufDefaults c).bufferSize = (bufDefaults c).windowSize := by
  simp [bufDefaults, h]

end LZ.GenProps
