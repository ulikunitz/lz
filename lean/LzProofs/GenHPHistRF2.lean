/-
  The hypothesis `RFSpec` of LzProofs/GenHPHistRF.lean discharged: `ParserBuffer.ReadFrom` is translated (topic
  PBufReadFrom, tools/extract/code_lend.go; LzModel/Generated/CodePBufReadFrom.lean) and LzProofs/GenPBufReadFrom.lean
  proves that the translation, with `io.Reader.Read` instantiated by the model's scripted reader (`GenBuf.mRead`), is
  `PBuf.readFrom`.  So histories of the hash parser HP that contain `ReadFrom` are executed on translated Go text
  only (`rfGo`, `gen_hp_history_rf_go`, `C01_go_text_hp_rf_go`).

  What stays trusted about `ReadFrom`: the reading of `r.Read(p)` as an opaque state-passing callee that may write the
  window it is lent (code_iface.go, code_lend.go) and the choice of the scripted reader as its instance (it can mimic
  every sequence of `(n ≤ len(p), err)` answers, incl. `(0, nil)`; it cannot return `n > len(p)` or `n < 0`).
-/
import LzProofs.GenHPHistRF
import LzProofs.GenPBufReadFrom

set_option linter.unusedSimpArgs false
set_option linter.unusedVariables false

namespace LZ.GenHPHist
open LZ LZ.Gen LZ.GenBuf LZ.GenHash LZ.GenHPParse LZ.GenProps

theorem rfErr_eq_genErr : GenBuf.rfErr = genErr := by
  funext e
  cases e <;> rfl

/-- the translated `(*ParserBuffer).ReadFrom` run against the scripted reader; the fuel is computed from the script
    (one iteration per answer, one more for the `io.EOF` of the exhausted script), `extra` is arbitrary -/
def rfGo (extra : Nat) : RFun := fun b r => ParserBuffer_ReadFrom (r.resps.length + 1 + extra) mRead b r

theorem rfGo_spec (extra : Nat) : RFSpec (rfGo extra) := by
  intro b r hwf hcap hlen _
  obtain ⟨b', h1, h2, h3⟩ := gen_pbuf_readFrom b hwf hcap hlen r (r.resps.length + 1 + extra) (by omega)
  refine ⟨b', ?_, h2, h3⟩
  unfold rfGo
  rw [h1, rfErr_eq_genErr]

theorem gen_hp_history_rf_go (cfg : Gen.HPConfig) (s0 : Gen.hashParser)
    (hinit : hashParser_init default cfg = Res.ok (s0, Gen.Err.ok))
    (extra : Nat) (grow : Nat → Nat → Nat) (fuel : Nat)
    (hfuel : s0.hashDictionary.ParserBuffer.BufConfig.BufferSize.toNat + 3 ≤ fuel)
    (ops : List GOpR) (hwf : ∀ op ∈ ops, op.WF) :
    ∃ p t rs, newParser .HP (ofHP cfg) = some p ∧ ofHPs s0 = p ∧
      runGR (rfGo extra) grow fuel s0 ops = Res.ok (t, rs) ∧ ParseOK t ∧
      ofHPs t = (runOps (p, Ghost.init) (ops.map GOpR.abs)).1 ∧
      ghostRunR Ghost.init ops rs = (runOps (p, Ghost.init) (ops.map GOpR.abs)).2 ∧
      ResultsAgreeR (p, Ghost.init) ops rs :=
  gen_hp_history_rf cfg s0 hinit (rfGo extra) (rfGo_spec extra) grow fuel hfuel ops hwf

/-- C01 about the Go text of HP, histories of Write / ReadFrom / Parse / Shrink / Reset — no hypothesis about
    `ReadFrom` is left: it is the translated function run against the scripted reader. -/
theorem C01_go_text_hp_rf_go (cfg : Gen.HPConfig) (s0 : Gen.hashParser)
    (hinit : hashParser_init default cfg = Res.ok (s0, Gen.Err.ok))
    (extra : Nat) (grow : Nat → Nat → Nat) (fuel : Nat)
    (hfuel : s0.hashDictionary.ParserBuffer.BufConfig.BufferSize.toNat + 3 ≤ fuel)
    (ops : List GOpR) (hwf : ∀ op ∈ ops, op.WF) :
    ∃ t rs, runGR (rfGo extra) grow fuel s0 ops = Res.ok (t, rs) ∧
      decode [] (ghostRunR Ghost.init ops rs).log =
        some ((ghostRunR Ghost.init ops rs).fed.take (ghostRunR Ghost.init ops rs).consumed) :=
  C01_go_text_hp_rf cfg s0 hinit (rfGo extra) (rfGo_spec extra) grow fuel hfuel ops hwf

end LZ.GenHPHist

#print axioms LZ.GenHPHist.rfGo_spec
#print axioms LZ.GenHPHist.gen_hp_history_rf_go
#print axioms LZ.GenHPHist.C01_go_text_hp_rf_go
