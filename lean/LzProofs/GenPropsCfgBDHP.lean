/-
  The parser configuration BDHPConfig: `SetDefaults` / `Verify` through the reflective helpers, which appear in the
  generated code as the field copies the extractor read from their source.  `ofBDHP` reads the generated struct as the
  model's union record `Cfg` (fields the kind does not have are zero), `toBDHP` is the inverse on `Cfg.restrict .BDHP`.
  Go `int`/`int64` are unbounded `Int` on both sides (overflow is out of scope), `uint32`/`uint64` wrap around.  The
  proofs do not depend on the shape of the generated term (see GenPropsBase).
-/
import LzModel.Generated.CodeCfgBDHP
import LzProofs.GenPropsCfgBuf
import LzProofs.GenPropsCfgHash

set_option linter.unusedSimpArgs false

namespace LZ.GenProps
open LZ

def ofBDHP (c : Gen.BDHPConfig) : Cfg :=
  { shrinkSize := c.ShrinkSize, bufferSize := c.BufferSize, windowSize := c.WindowSize,
    blockSize := c.BlockSize,
    inputLen1 := c.InputLen1, hashBits1 := c.HashBits1, inputLen2 := c.InputLen2, hashBits2 := c.HashBits2 }

def toBDHP (c : Cfg) : Gen.BDHPConfig :=
  { ShrinkSize := c.shrinkSize, BufferSize := c.bufferSize, WindowSize := c.windowSize,
    BlockSize := c.blockSize,
    InputLen1 := c.inputLen1, HashBits1 := c.hashBits1, InputLen2 := c.inputLen2, HashBits2 := c.hashBits2 }

theorem ofBDHP_toBDHP (c : Cfg) : ofBDHP (toBDHP c) = c.restrict .BDHP := by
  simp [ofBDHP, toBDHP, Cfg.restrict, Kind.fields]

theorem toBDHP_ofBDHP (c : Gen.BDHPConfig) : toBDHP (ofBDHP c) = c := rfl

theorem gen_setDefaults_BDHP (c : Gen.BDHPConfig) :
    ofBDHP (Gen.BDHPConfig_SetDefaults c) = setDefaults .BDHP (ofBDHP c) := by
  simp only [Gen.BDHPConfig_SetDefaults, gen_helper, gen_bufDefaults', gen_dhDefaults]
  rfl

theorem gen_verify_BDHP (c : Gen.BDHPConfig) :
    Gen.BDHPConfig_Verify c = .ok ↔ verify .BDHP (ofBDHP c) = true := by
  -- the model's `verify` kind by kind (`verify_dh`), and what the two helper checks of the generated code mean
  have hb : Gen.BufConfig_Verify ⟨c.ShrinkSize, c.BufferSize, c.WindowSize, c.BlockSize⟩ = .ok ↔ bufVerify (ofBDHP c) = true := gen_bufVerify _
  have hd := gen_dhVerify ⟨⟨c.InputLen1, c.HashBits1⟩, ⟨c.InputLen2, c.HashBits2⟩⟩
  rw [verify_dh (.inr rfl), ← hb]
  dsimp only [ofBDHP] at hd ⊢
  rw [← hd]
  -- the rest is propositional in the two results, whatever the shape of the generated function
  dsimp only [Gen.BDHPConfig_Verify, gen_helper]
  generalize Gen.BufConfig_Verify _ = e1
  generalize Gen.dhConfig_Verify _ = e2
  cases e1 <;> cases e2 <;> gen_ifs

theorem tieBDHP : CfgTie .BDHP ofBDHP toBDHP Gen.BDHPConfig_SetDefaults Gen.BDHPConfig_Verify :=
  ⟨ofBDHP_toBDHP, gen_setDefaults_BDHP, gen_verify_BDHP⟩

theorem gen_accepted_BDHP (c : Cfg) :
    accepted .BDHP c = true ↔ Gen.BDHPConfig_Verify (Gen.BDHPConfig_SetDefaults (toBDHP c)) = .ok :=
  tieBDHP.accepted c

end LZ.GenProps
