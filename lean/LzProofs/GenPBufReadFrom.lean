/-
  LzProofs.GenPBufReadFrom — the translated `(*ParserBuffer).ReadFrom` (parser_buffer.go; topic PBufReadFrom,
  LzModel/Generated/CodePBufReadFrom.lean) equals the model's `PBuf.readFrom` (LzModel/PBuf.lean).

  The translation (tools/extract/code_lend.go) has `io.Reader` as an abstract state `io_Reader` and `r.Read(p)` as the
  opaque state-passing parameter `io_Reader_Read : io_Reader → Slice → Res (io_Reader × Slice × Int × Err)`; the window
  `p := b.Data[len(b.Data):end]` is LENT to the callee and written back (`Slice.writeBack`).  Here the callee is
  instantiated with the model's scripted reader (`LZ.Reader`, `Reader.read`): `mRead`.

    gen_pbuf_readFrom_agree   for EVERY buffer with `PBWF`, every script, fuel ≥ script length + 1:
                              Go panics iff the model reports `.panic`; otherwise same buffer (under `ofPB`), same
                              reader, same `n`, same error (`rfErr`), `PBWF` preserved
    gen_pbuf_readFrom         the same under `len ≤ BufferSize` and the capacity invariant `CapOK`: no panic
  `(0, nil)` answers are passed through and the loop continues (LzProofs/ReaderNil.lean); an exhausted script answers
  `(0, io.EOF)`.  No sorry, no axioms of its own.

  Shape independence.  No statement of this file mentions the loop function `ParserBuffer_ReadFrom_loop_1` (its argument
  list, state tuple and exit codes change when the Go loop is restructured, e.g. `for { if full { err = …; break } … }`
  ↦ `for !full { … return … }; return …`).  `gen_pbuf_readFrom_agree` unfolds `ParserBuffer_ReadFrom`, generalises the
  start length and proves the WHOLE block `Res.bind (loop …) tail` by induction on the fuel inside the one proof: the
  loop function is unfolded by its defining equation only, every `if` of the Go text is decided by `omega` from the
  model's case split (`decide_ite`: any spelling, either arm), `t`, the `grow` idiom, the clamp of `end` and the two
  slice bounds are taken from the goal by unification (`generalize` of the first `if` of a type / `∀ e', e' = … →`
  lemmas whose side condition is `omega` / `split <;> omega`), the exit code of a returning loop is evaluated by `simp`.
  What the proof does depend on: the state of the loop other than `b`, `r` is re-entered unchanged after a `nil` error
  (`err = nil` is rewritten), the order window — read — write-back — re-slice — error test, and the lemmas about them
  (`lend_read`; `PBuf.readLoop_read` of LzProofs/PBufLemmas.lean; `gen_ensure` of LzProofs/GenBufPropsP.lean, `decide_ite` of LzProofs/GenBufPropsBase.lean).
-/
import LzModel.Generated.CodePBufReadFrom
import LzProofs.GenBufPropsP
import LzProofs.PBufLemmas
import LzProofs.ParseBuf
import LzProofs.GenPropsInts

set_option linter.unusedSimpArgs false
set_option linter.unusedVariables false

namespace LZ.GenBuf
open LZ LZ.Gen

/-- model error ↦ Go error value on the errors `ReadFrom` can return: `ErrFullBuffer`, `io.EOF`, the reader's own
    error `c ≥ 2` as a fresh code (the table of `GenHPHist.genErr`) -/
def rfErr : LZ.Err → Gen.Err
  | .ok => Gen.Err.ok
  | .full => Gen.ErrFullBuffer
  | .eof => Gen.io_EOF
  | .reader c => Gen.Err.error (3000 + 2 * c)
  | _ => Gen.Err.error 2903

theorem rfErr_errOfCode_ne (c : Nat) (h : c ≠ 0) : rfErr (errOfCode c) ≠ Gen.Err.ok := by
  unfold errOfCode
  split
  · exact absurd rfl h
  · intro hc; cases hc
  · intro hc; cases hc

/-- `r.Read(p)` of the scripted reader: the bytes of the answer are written to the front of `p`; the rest of the array
    of `p` is untouched; `n` = number of bytes, error = the code of the answer (`(0, io.EOF)` on an exhausted script) -/
def mRead (r : Reader) (p : Slice) : Res (Reader × Slice × Int × Gen.Err) :=
  Res.ok ((r.read p.len).1,
    { arr := (r.read p.len).2.1 ++ p.arr.drop (r.read p.len).2.1.length, len := p.len },
    ((r.read p.len).2.1.length : Int), rfErr (errOfCode (r.read p.len).2.2))

theorem read_nil (p : List Byte) (sz : Nat) : Reader.read ⟨p, []⟩ sz = (⟨p, []⟩, [], 1) := rfl

/-- the lent window: slice, call, write-back, re-slice — in terms of the list of bytes the reader delivered -/
theorem lend_read (s : Slice) (hs : SWF s) (e : Nat) (he1 : s.len ≤ e) (he2 : e ≤ s.arr.length) (r : Reader) :
    ∃ p p' s', Slice.slice s (s.len : Int) (e : Int) = Res.ok p ∧ p.len = e - s.len ∧
      mRead r p = Res.ok ((r.read (e - s.len)).1, p', ((r.read (e - s.len)).2.1.length : Int),
        rfErr (errOfCode (r.read (e - s.len)).2.2)) ∧
      Slice.slice (Slice.writeBack s p') 0 (((Slice.writeBack s p').len : Int) + ((r.read (e - s.len)).2.1.length : Int))
        = Res.ok s' ∧
      s'.data = s.data ++ (r.read (e - s.len)).2.1 ∧ s'.arr.length = s.arr.length ∧
      s'.len = s.len + (r.read (e - s.len)).2.1.length := by
  have hs' : s.len ≤ s.arr.length := hs
  have hle := Reader.read_length_le r (e - s.len)
  refine ⟨Slice.mk (s.arr.drop s.len) (e - s.len),
    Slice.mk ((r.read (e - s.len)).2.1 ++ (s.arr.drop s.len).drop (r.read (e - s.len)).2.1.length) (e - s.len),
    Slice.mk ((Slice.writeBack s (Slice.mk ((r.read (e - s.len)).2.1 ++
        (s.arr.drop s.len).drop (r.read (e - s.len)).2.1.length) (e - s.len))).arr.drop 0)
      (s.len + (r.read (e - s.len)).2.1.length - 0),
    ?_, rfl, rfl, ?_, ?_, ?_, ?_⟩
  · exact slice_ok s s.len e he1 he2
  · have h0 : ((0 : Nat) : Int) = 0 := rfl
    have hcast : ((Slice.writeBack s
        { arr := (r.read (e - s.len)).2.1 ++ (s.arr.drop s.len).drop (r.read (e - s.len)).2.1.length, len := e - s.len }).len : Int) +
        ((r.read (e - s.len)).2.1.length : Int) = ((s.len + (r.read (e - s.len)).2.1.length : Nat) : Int) := by
      show ((s.len : Nat) : Int) + _ = _
      omega
    rw [hcast, ← h0]
    apply slice_ok
    · omega
    · simp only [Slice.writeBack, List.length_append, List.length_take, List.length_drop]
      omega
  · simp only [Slice.writeBack, Slice.data, List.length_append, List.length_drop, List.drop_zero, Nat.sub_zero]
    have h1 : s.arr.length - ((r.read (e - s.len)).2.1.length + (s.arr.length - s.len - (r.read (e - s.len)).2.1.length)) = s.len := by
      omega
    rw [h1, ← List.append_assoc]
    rw [List.take_append_of_le_length (by simp only [List.length_append, List.length_take]; omega)]
    rw [List.take_of_length_le (by simp only [List.length_append, List.length_take]; omega)]
  · simp only [Slice.writeBack, List.length_append, List.length_take, List.length_drop, List.drop_zero]
    omega
  · simp only [Nat.sub_zero]

/-- agreement of the results of `ReadFrom`; a model `.panic` stands for a Go panic -/
def RFAgree (x : Res (ParserBuffer × Reader × Int × Gen.Err)) (m : PBuf × Reader × Nat × LZ.Err) : Prop :=
  match x with
  | .ok (b', r', n, e) => m.2.2.2 ≠ .panic ∧ ofPB b' = m.1 ∧ r' = m.2.1 ∧ n = (m.2.2.1 : Int) ∧ e = rfErr m.2.2.2 ∧ PBWF b'
  | .panic => m.2.2.2 = .panic
  | .fuel => False


/-- `RFAgree` with the start length a parameter `N0` (the induction over the loop generalises it: `b` changes from
    iteration to iteration, the start length does not) and the model LOOP on the right -/
def RFAgreeN (N0 : Nat) (x : Res (ParserBuffer × Reader × Int × Gen.Err)) (m : PBuf × Reader × LZ.Err) : Prop :=
  match x with
  | .ok (b', r', n, e) => m.2.2 ≠ .panic ∧ ofPB b' = m.1 ∧ r' = m.2.1 ∧ n = ((m.1.data.length - N0 : Nat) : Int) ∧
      e = rfErr m.2.2 ∧ PBWF b'
  | .panic => m.2.2 = .panic
  | .fuel => False

theorem RFAgree_of_N (x : Res (ParserBuffer × Reader × Int × Gen.Err)) (b : PBuf) (r : Reader)
    (h : RFAgreeN b.data.length x (PBuf.readLoop b r)) : RFAgree x (PBuf.readFrom b r) := by
  rw [PBuf.readFrom_eq]
  cases x with
  | ok v => obtain ⟨b', r', n, e⟩ := v; exact h
  | panic => exact h
  | fuel => exact h

/-- a successful return of the Go text: what has to be shown about its four components (`n` as the DIFFERENCE of the
    lengths, computed in `Int`) -/
theorem RFAgreeN_ok {N0 : Nat} {b' : ParserBuffer} {r' : Reader} {n : Int} {e : Gen.Err} {m : PBuf × Reader × LZ.Err}
    (h1 : m.2.2 ≠ .panic) (h2 : ofPB b' = m.1) (h3 : r' = m.2.1) (h6 : PBWF b') (hN : N0 ≤ b'.Data.len)
    (h4 : n = (b'.Data.len : Int) - (N0 : Int)) (h5 : e = rfErr m.2.2) :
    RFAgreeN N0 (Res.ok (b', r', n, e)) m := by
  refine ⟨h1, h2, h3, ?_, h5, h6⟩
  have : m.1.data.length = b'.Data.len := by rw [← h2]; exact data_length h6.data
  rw [this, h4]
  omega

/-- **`ReadFrom` of the Go text = `PBuf.readFrom`**, for every buffer, every reader script (short reads, `(0, nil)`
    answers, errors at any call, exhausted script = `io.EOF`), explicit fuel: one more than the script length.

    The proof does not mention the argument list, the state tuple or the exit codes of the loop function: the function
    is unfolded, the start length is generalised (`N0 ≤ len`), and the WHOLE block `Res.bind (loop …) tail` is treated by
    induction on the fuel, using only the defining equation of the loop function; each `if` of the Go text is decided
    from the model's case split by `omega`, the pieces `t`, `grow`, `end`, window, read, re-slice are related to the
    model by lemmas that take the spelled terms by unification. -/
theorem gen_pbuf_readFrom_agree (b : ParserBuffer) (h : PBWF b) (r : Reader) (fuel : Nat) (hf : r.resps.length + 1 ≤ fuel) :
    RFAgree (ParserBuffer_ReadFrom fuel mRead b r) (PBuf.readFrom (ofPB b) r) := by
  apply RFAgree_of_N
  rw [show (ofPB b).data.length = b.Data.len from data_length h.data]
  unfold ParserBuffer_ReadFrom
  simp only [Int.ofNat_eq_natCast]
  -- the start length: from now on a constant `N0 ≤ len(b.Data)`
  generalize hN : b.Data.len = N0
  have hle : N0 ≤ b.Data.len := by omega
  clear hN
  induction fuel generalizing b r with
  | zero => omega
  | succ fuel IH =>
    rw [ParserBuffer_ReadFrom_loop_1]
    simp only [Int.ofNat_eq_natCast, LZ.GenProps.gen_min, Int.min_def, Slice.cap]
    generalize hM : PBuf.readLoop (ofPB b) r = M
    rw [PBuf.readLoop_read] at hM
    have hcap : b.Data.cap = b.Data.arr.length := rfl
    have hlen : (ofPB b).data.length = b.Data.len := data_length h.data
    obtain ⟨B, hB⟩ : ∃ B : Nat, b.BufConfig.BufferSize = (B : Int) := ⟨b.BufConfig.BufferSize.toNat, by have := h.bs; omega⟩
    have hbs : (ofPB b).cfg.bufferSize = B := by simp only [ofPB, ofCfg]; omega
    -- the chunk size as a number `C`: terms like `len + Facts.chunkSize` are costly for the kernel to evaluate
    generalize hC : Facts.chunkSize = C at hM
    have hchunk : C = 32768 := hC.symm.trans (by decide)
    clear hC
    by_cases hfull : (ofPB b).data.length ≥ (ofPB b).cfg.bufferSize
    · -- the buffer is full
      simp only [hfull, if_true] at hM
      subst hM
      decide_ite
      simp only [bind_ok, Nat.reduceEqDiff, if_true, if_false]
      exact RFAgreeN_ok (by intro hc; cases hc) rfl rfl h hle rfl rfl
    · simp only [hfull, if_false] at hM
      subst hM
      decide_ite
      -- `t`: the clamp in whatever spelling (helper `min`, `if` either way round)
      generalize ht : (@ite Int _ (_) _ _) = t
      have htT : t = ((Min.min ((ofPB b).data.length + C) (ofPB b).cfg.bufferSize : Nat) : Int) := by
        rw [← ht, hlen, hbs]; split <;> omega
      clear ht
      subst htT
      -- the `grow` idiom
      generalize hx : (@ite (Res ParserBuffer) _ (_) _ _) = x
      have hE := gen_ensure b h (Min.min ((ofPB b).data.length + C) (ofPB b).cfg.bufferSize) _ x
        (fun hc => by rw [← hx]; decide_ite <;> try simp only [bind_ok_right])
        (fun hc => by rw [← hx]; decide_ite <;> try simp only [bind_ok_right]) rfl
      clear hx
      revert hE
      generalize (if Min.min ((ofPB b).data.length + C) (ofPB b).cfg.bufferSize + Facts.margin > (ofPB b).cap
        then (ofPB b).grow (Min.min ((ofPB b).data.length + C) (ofPB b).cfg.bufferSize) else some (ofPB b)) = o
      intro hE
      cases o with
      | none =>
        simp only [] at hE
        subst hE
        exact rfl
      | some m =>
        simp only [] at hE
        obtain ⟨b1, hE1, hE2, hE3, hE4, -⟩ := hE
        subst hE1
        simp only [bind_ok]
        subst hE2
        have hlen1 : (ofPB b1).data.length = b1.Data.len := data_length hE3.data
        have hL : b.Data.len = b1.Data.len := by rw [← hlen, ← hlen1, hE4]
        obtain ⟨B1, hB1⟩ : ∃ B : Nat, b1.BufConfig.BufferSize = (B : Int) :=
          ⟨b1.BufConfig.BufferSize.toNat, by have := hE3.bs; omega⟩
        have hbs1 : (ofPB b1).cfg.bufferSize = B1 := by simp only [ofPB, ofCfg]; omega
        have hcap1 : (ofPB b1).cap = b1.Data.arr.length := rfl
        have hm : Facts.margin = 7 := PBuf.margin_eq
        rw [hlen1, hbs1, hcap1, hm]
        by_cases hbad : b1.Data.arr.length < 7 ∨ Min.min (b1.Data.arr.length - 7) B1 < b1.Data.len
        · simp only [hbad, if_true]
          rw [slice_panic]
          · exact rfl
          · -- the clamp of `end`, whatever its spelling
            first
            | omega
            | (split <;> omega)
        · simp only [hbad, if_false]
          obtain ⟨p, p', s', h1, h2, h3, h4, h5, h6, h7⟩ :=
            lend_read b1.Data hE3.data (Min.min (b1.Data.arr.length - 7) B1) (by omega) (by omega) r
          have hsl : ∀ e' : Int, e' = ((Min.min (b1.Data.arr.length - 7) B1 : Nat) : Int) →
              Slice.slice b1.Data (b1.Data.len : Int) e' = Res.ok p := by
            intro e' he; rw [he]; exact h1
          rw [hsl]
          rotate_left
          · -- the clamp of `end`, whatever its spelling
            first
            | omega
            | (split <;> omega)
          simp only [bind_ok]
          rw [h3]
          simp only [bind_ok]
          have hsl2 : ∀ e' : Int, e' = ((Slice.writeBack b1.Data p').len : Int) +
                ((r.read (Min.min (b1.Data.arr.length - 7) B1 - b1.Data.len)).2.1.length : Int) →
              Slice.slice (Slice.writeBack b1.Data p') 0 e' = Res.ok s' := by
            intro e' he; rw [he]; exact h4
          rw [hsl2 _ (by omega)]
          simp only [bind_ok]
          generalize hx : r.read (Min.min (b1.Data.arr.length - 7) B1 - b1.Data.len) = x at h3 h4 h5 h6 h7 ⊢
          have hof : ofPB { Data := s', W := b1.W, Off := b1.Off, BufConfig := b1.BufConfig } =
              { data := (ofPB b1).data ++ x.2.1, w := (ofPB b1).w, off := (ofPB b1).off, cap := b1.Data.arr.length,
                cfg := (ofPB b1).cfg } := by
            simp only [ofPB, h5, Slice.cap, h6]
          have hwf2 : PBWF { Data := s', W := b1.W, Off := b1.Off, BufConfig := b1.BufConfig } := by
            refine ⟨?_, hE3.w, hE3.off, hE3.ss, hE3.bs⟩
            show s'.len ≤ s'.arr.length
            have := Reader.read_length_le r (Min.min (b1.Data.arr.length - 7) B1 - b1.Data.len)
            rw [hx] at this
            omega
          by_cases hcode : x.2.2 = 0
          · -- a nil error: the loop continues, in the state it was entered with except for `b` and `r`
            have hne : ¬ (x.2.2 ≠ 0) := by omega
            have hgo : rfErr (errOfCode x.2.2) = Gen.Err.ok := by rw [hcode]; rfl
            simp only [hne, hgo, ne_eq, not_true_eq_false, if_false, if_true]
            rw [← hof]
            apply IH
            · exact hwf2
            · have := Reader.read_code_zero r (Min.min (b1.Data.arr.length - 7) B1 - b1.Data.len) (by rw [hx]; exact hcode)
              rw [hx] at this
              omega
            · show N0 ≤ s'.len
              omega
          · have hgo : rfErr (errOfCode x.2.2) ≠ Gen.Err.ok := rfErr_errOfCode_ne _ hcode
            -- the error test with the operands either way round (`err != nil`, `nil == err`), either arm first
            have hgo' : ¬ (Gen.Err.ok = rfErr (errOfCode x.2.2)) := fun hc => hgo hc.symm
            simp only [hcode, hgo, hgo', ne_eq, not_false_eq_true, if_true, bind_ok, Nat.reduceEqDiff, if_false]
            refine RFAgreeN_ok ?_ hof rfl hwf2 ?_ rfl rfl
            · show errOfCode x.2.2 ≠ .panic
              unfold errOfCode
              split <;> intro hc <;> cases hc
            · show N0 ≤ s'.len
              omega


/-- the capacity invariant of the history theorems: empty, or 7 spare bytes -/
theorem gen_pbuf_readFrom (b : ParserBuffer) (h : PBWF b) (hcap : (ofPB b).CapOK)
    (hlen : (ofPB b).data.length ≤ (ofPB b).cfg.bufferSize) (r : Reader) (fuel : Nat) (hf : r.resps.length + 1 ≤ fuel) :
    ∃ b', ParserBuffer_ReadFrom fuel mRead b r = Res.ok (b', (PBuf.readFrom (ofPB b) r).2.1,
        ((PBuf.readFrom (ofPB b) r).2.2.1 : Int), rfErr (PBuf.readFrom (ofPB b) r).2.2.2) ∧
      ofPB b' = (PBuf.readFrom (ofPB b) r).1 ∧ PBWF b' := by
  have hnp := (PBuf.readFrom_err (ofPB b) r hlen).2
  have ha := gen_pbuf_readFrom_agree b h r fuel hf
  revert ha
  generalize ParserBuffer_ReadFrom fuel mRead b r = X
  intro ha
  cases X with
  | ok v =>
    obtain ⟨b', r', n, e⟩ := v
    obtain ⟨h1, h2, h3, h4, h5, h6⟩ := ha
    subst h3; subst h4; subst h5
    exact ⟨b', rfl, h2, h6⟩
  | panic => exact absurd ha hnp
  | fuel => exact ha.elim

end LZ.GenBuf

#print axioms LZ.GenBuf.gen_pbuf_readFrom_agree
#print axioms LZ.GenBuf.gen_pbuf_readFrom
