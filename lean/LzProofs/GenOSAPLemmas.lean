/-
  LzProofs.GenOSAPLemmas — abstraction maps between the translated osap.go (LzModel/Generated/CodeOSAPPath.lean:
  structures `edge`, `optSuffixArrayParser`, `optSuffixArrayParser_shortestPath_opt`) and the hand model
  (LzModel/Sap.lean: `Edge`, `Opt`, `OsapD`), shared by GenOSAPPath / GenOSAPParse / GenOSAPEdges / GenOSAPInit.
-/
import LzModel.Generated.CodeOSAPPath
import LzModel.Sap
import LzProofs.GenSuffixPropsBase
import LzProofs.GenPropsCost

set_option linter.unusedSimpArgs false

namespace LZ.GenOSAP
open LZ LZ.Gen LZ.GenHash LZ.GenSuffix

/-- a Go `edge{m, o uint32}` as the model's pair -/
def edgeAbs (e : Gen.edge) : Edge := (e.m.toNat, e.o.toNat)

/-- the edge table `s.edges : [][]edge` (elements only, up to `len`) -/
def edgesAbs (es : GSlice (GSlice Gen.edge)) : Array (List Edge) :=
  (es.data.map (fun q => q.data.map edgeAbs)).toArray

/-- an entry of the DP table of `shortestPath` -/
def optAbs (x : Gen.optSuffixArrayParser_shortestPath_opt) : Opt := ⟨x.m.toNat, x.o.toNat, x.c.toNat⟩

/-! ## general-purpose lemmas (used by GenOSAPPath; nothing below mentions a translated function) -/

/-- the DP table `d []opt` of `shortestPath` (elements only) -/
def tabAbs (d : GSlice Gen.optSuffixArrayParser_shortestPath_opt) : Array Opt := (d.data.map optAbs).toArray

theorem edgesAbs_size {es : GSlice (GSlice Gen.edge)} (h : GWF es) : (edgesAbs es).size = es.len :=
  gabs_size _ h

theorem edgesAbs_getElem? {es : GSlice (GSlice Gen.edge)} (h : GWF es) (i : Nat) (hi : i < es.len) :
    (edgesAbs es)[i]? = some (((es.arr[i]?).getD GSlice.nil).data.map edgeAbs) :=
  gabs_getElem? _ GSlice.nil h i hi

/-- a bound on the number of edges per position, read off the abstraction -/
theorem edgesAbs_len_le {es : GSlice (GSlice Gen.edge)} (h : GWF es) (hq : ∀ q ∈ es.data, GWF q) {B : Nat}
    (hB : ∀ i, ((edgesAbs es).getD i []).length ≤ B) : ∀ q ∈ es.data, q.len ≤ B := by
  intro q hq'
  obtain ⟨i, hi, rfl⟩ := List.mem_iff_getElem.1 hq'
  have hil : i < es.len := by rw [gdata_length h] at hi; exact hi
  have h1 : es.data[i]? = some (es.data[i]) := List.getElem?_eq_getElem hi
  rw [gdata_getElem?, if_pos hil] at h1
  have hb := hB i
  rw [Array.getD_eq_getD_getElem?, edgesAbs_getElem? h i hil, h1] at hb
  rw [Option.getD_some, List.length_map] at hb
  exact (gdata_length (hq _ (List.getElem_mem hi))) ▸ (hb : (es.data[i]).data.length ≤ B)

theorem tabAbs_size {d : GSlice Gen.optSuffixArrayParser_shortestPath_opt} (h : GWF d) : (tabAbs d).size = d.len :=
  gabs_size _ h

/-! ### `XZCost` -/

/-- `XZCost(m, o)` of two uint32 values is below `2^36` (`9·m` for a literal run, at most 44 for a match) -/
theorem xzCost_lt (m o : Nat) (hm : m < 4294967296) (ho : o < 4294967296) : xzCost m o < 68719476736 := by
  unfold xzCost
  split
  · omega
  · have hl : Nat.log2 (o - 1) < 32 ∨ o - 1 = 0 := by
      by_cases hd : o - 1 = 0
      · exact Or.inr hd
      · exact Or.inl ((Nat.log2_lt hd).2 (by omega))
    simp only []
    -- the code of the length is at most 10
    generalize hc : (if (m + 4294967296 - 2) % 4294967296 < 8 then 4
      else if (m + 4294967296 - 2) % 4294967296 < 16 then 5 else 10) = c
    have : c ≤ 10 := by
      rw [← hc]
      split
      · omega
      · split <;> omega
    split <;> omega

/-- the dispatch on the field `cost` when it holds `XZCost` -/
theorem cost_ok (code : Int) (h : code = 1) (m o : UInt32) :
    Gen.optSuffixArrayParser_cost code m o = Res.ok (Gen.XZCost m o) := by
  unfold Gen.optSuffixArrayParser_cost
  simp only [h, if_true]

theorem gen_cost_lt (m o : UInt32) : (Gen.XZCost m o).toNat < 68719476736 := by
  rw [GenProps.gen_xzCost]
  exact xzCost_lt _ _ (UInt32.toNat_lt m) (UInt32.toNat_lt o)

end LZ.GenOSAP
