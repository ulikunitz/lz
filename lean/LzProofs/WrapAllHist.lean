/-
  LzProofs.WrapAllHist — C08 at history level, for all seven parser kinds.

  A wrapped history is a list of `WOp` (`WrappedParser.Parse(&blk, flags)` with any flags,
  `WrappedParser.Reset(r)` with any reader script) run from `{ r := r0, s := s0 }` where
  `newParser k raw = some s0`.
-/
import LzProofs.WrapAll
namespace LZ
open PBuf

/-! ## wrapped histories -/

/-- the calls of a wrapped history -/
inductive WOp where
  | parse (flags : Nat)
  | reset (r : Reader)

/-- what a wrapped call returns: `(n, err, block)`; `Reset` returns `(0, err, empty block)` -/
abbrev WOut := Nat × Err × Block

def Wrapped.stepW (wp : Wrapped) : WOp → Wrapped × WOut
  | .parse f => wp.parse f
  | .reset r => ((wp.reset r).1, 0, (wp.reset r).2, ⟨[], []⟩)

/-- run a wrapped history: final state and the list of results, in order -/
def Wrapped.runW : Wrapped → List WOp → Wrapped × List WOut
  | wp, [] => (wp, [])
  | wp, op :: ops =>
    ((Wrapped.runW (wp.stepW op).1 ops).1, (wp.stepW op).2 :: (Wrapped.runW (wp.stepW op).1 ops).2)

/-! ## `Reset` -/

theorem WInv.reset {wp : Wrapped} {fed : List Byte} (h : WInv I_all wp fed) (r : Reader) :
    WInv I_all (wp.reset r).1 [] := by
  rw [Wrapped.reset_eq]
  refine ⟨h.inv.reset [] 0, ?_, ?_⟩
  · simp only [Parser.reset_nil]
    constructor <;> simp
  · simp only [Parser.reset_nil]
    exact h.cfg

/-! ## the invariant holds in every reachable wrapped state -/

/-- a wrapper around a new parser satisfies the invariant of the Wrap theorems
    (`ShrinkSize < BufferSize` is what `Verify` guarantees) -/
theorem newParser_winv (k : Kind) (raw : Cfg) (s0 : Parser) (h0 : newParser k raw = some s0)
    (r0 : Reader) : WInv I_all ⟨r0, s0⟩ [] := by
  have hI := newParser_I_all k raw s0 h0
  obtain ⟨hv, rfl⟩ := newParser_eq_some h0
  have hv := verify_buf _ _ hv
  simp only [bufVerify, Bool.decide_and, Bool.and_eq_true, decide_eq_true_eq] at hv
  exact ⟨hI, pinv_init _, by simp only [PBuf.init, Cfg.bufCfg]; omega⟩

theorem WInv.stepW {wp : Wrapped} {fed : List Byte} (h : WInv I_all wp fed) (op : WOp) :
    ∃ fed', WInv I_all (wp.stepW op).1 fed' := by
  cases op with
  | parse f =>
    obtain ⟨q, hq, -⟩ := C08_wrap_step_all wp f fed h
    exact ⟨_, hq⟩
  | reset r => exact ⟨[], h.reset r⟩

theorem WInv.runW (ops : List WOp) : ∀ {wp : Wrapped} {fed : List Byte}, WInv I_all wp fed →
    ∃ fed', WInv I_all (wp.runW ops).1 fed' := by
  induction ops with
  | nil => intro wp fed h; exact ⟨fed, h⟩
  | cons op ops ih =>
    intro wp fed h
    obtain ⟨fed1, h1⟩ := h.stepW op
    exact ih h1

/-- The invariant of the Wrap theorems holds in every reachable wrapped state, for every kind:
    after any sequence of wrapped calls on a wrapper around a new parser, `WInv I_all` holds (for
    the bytes `fed` read since the last `Reset`), so `C08_wrap_step_all` … apply. -/
theorem C08_reachable_winv (k : Kind) (raw : Cfg) (s0 : Parser) (h0 : newParser k raw = some s0)
    (r0 : Reader) (ops : List WOp) :
    ∃ fed, WInv I_all (Wrapped.runW ⟨r0, s0⟩ ops).1 fed :=
  (newParser_winv k raw s0 h0 r0).runW ops

/-- … hence no call of any wrapped history panics or returns `ErrFullBuffer`/`ErrEmptyBuffer` -/
theorem C08_reachable_no_panic (k : Kind) (raw : Cfg) (s0 : Parser) (h0 : newParser k raw = some s0)
    (r0 : Reader) (ops : List WOp) (flags : Nat) :
    let wp := (Wrapped.runW ⟨r0, s0⟩ ops).1
    (wp.parse flags).2.2.1 ≠ .panic ∧ (wp.parse flags).2.2.1 ≠ .full ∧
    (wp.parse flags).2.2.1 ≠ .empty := by
  intro wp
  obtain ⟨fed, h⟩ := C08_reachable_winv k raw s0 h0 r0 ops
  exact C08_wrap_no_panic_all wp flags fed h

/-! ## C08: the results do not depend on how the readers chunk -/

theorem Parser.reset_sim {a b : Parser} (h : Parser.Sim a b) :
    Parser.Sim (a.reset [] 0).1 (b.reset [] 0).1 := by
  obtain ⟨h1, h2, h3, h4, h5, h6, h7⟩ := h
  rw [Parser.reset_nil, Parser.reset_nil]
  refine ⟨h1, h2, ?_, rfl, rfl, rfl, h7⟩
  show a.clearDict = b.clearDict
  unfold Parser.clearDict; rw [h3]

/-- the same call; for `Reset` the two reader scripts are error free (`FillR`) and carry the same
    payload, chunked in any way (short reads, single bytes, all at once) -/
def WOp.Sim : WOp → WOp → Prop
  | .parse f, .parse f' => f = f'
  | .reset r, .reset r' => r.payload = r'.payload ∧ FillR r ∧ FillR r'
  | _, _ => False

/-- two histories of the same calls -/
def OpsSim : List WOp → List WOp → Prop
  | [], [] => True
  | a :: as, b :: bs => a.Sim b ∧ OpsSim as bs
  | _, _ => False

/-- the same call; for `Reset` the two readers are in the class `R` and carry the same payload -/
def WOp.SimR (R : Reader → Prop) : WOp → WOp → Prop
  | .parse f, .parse f' => f = f'
  | .reset r, .reset r' => r.payload = r'.payload ∧ R r ∧ R r'
  | _, _ => False

/-- two histories of the same calls, readers of `Reset` in the class `R` -/
inductive OpsSimR (R : Reader → Prop) : List WOp → List WOp → Prop
  | nil : OpsSimR R [] []
  | cons {a b : WOp} {as bs : List WOp} : a.SimR R b → OpsSimR R as bs → OpsSimR R (a :: as) (b :: bs)

theorem WOp.Sim.toR {a b : WOp} (h : a.Sim b) : a.SimR FillR b := by
  cases a <;> cases b <;> exact h

theorem OpsSim.toR : ∀ {as bs : List WOp}, OpsSim as bs → OpsSimR FillR as bs
  | [], [], _ => .nil
  | _ :: _, _ :: _, h => .cons h.1.toR (OpsSim.toR h.2)
  | [], _ :: _, h => h.elim
  | _ :: _, [], h => h.elim

theorem Wrapped.stepW_chunking {R : Reader → Prop} (hR : Truthful R) {wa wb : Wrapped}
    {fa fb : List Byte} (ha : WInv I_all wa fa) (hb : WInv I_all wb fb) (hs : WSimR R wa wb)
    {a b : WOp} (hab : a.SimR R b) :
    (wa.stepW a).2 = (wb.stepW b).2 ∧ WSimR R (wa.stepW a).1 (wb.stepW b).1 := by
  cases a <;> cases b
  case parse.parse f f' =>
    have : f = f' := hab
    subst this
    exact Wrapped.parse_chunking_aux parseSpec_all hR f _ wa wb fa fb rfl ha hb hs
  case reset.reset r r' =>
    simp only [Wrapped.stepW, Wrapped.reset_eq, true_and]
    exact ⟨Parser.reset_sim hs.1, hab⟩
  all_goals exact hab.elim

theorem Wrapped.runW_chunking {R : Reader → Prop} (hR : Truthful R) {opsA opsB : List WOp}
    (ho : OpsSimR R opsA opsB) : ∀ {wa wb : Wrapped} {fa fb : List Byte},
    WInv I_all wa fa → WInv I_all wb fb → WSimR R wa wb →
    (wa.runW opsA).2 = (wb.runW opsB).2 ∧ WSimR R (wa.runW opsA).1 (wb.runW opsB).1 := by
  induction ho with
  | nil => intro wa wb fa fb _ _ hs; exact ⟨rfl, hs⟩
  | @cons a b _ _ hab _ ih =>
    intro wa wb fa fb ha hb hs
    obtain ⟨e1, s1⟩ := Wrapped.stepW_chunking hR ha hb hs hab
    obtain ⟨fa', ha'⟩ := ha.stepW a
    obtain ⟨fb', hb'⟩ := hb.stepW b
    obtain ⟨e2, s2⟩ := ih ha' hb' s1
    simp only [Wrapped.runW]
    exact ⟨by rw [e1, e2], s2⟩

theorem Parser.Sim.refl (s : Parser) : Parser.Sim s s := ⟨rfl, rfl, rfl, rfl, rfl, rfl, rfl⟩

/-- C08, chunking independence over histories (all seven kinds).  Two wrappers around the
    same new parser, whose readers are error free and carry the same payload but chunk it in
    any two ways (short reads, single bytes, everything at once — `FillR`), run through the same
    calls (`Parse` with the same flags; `Reset` with readers that again carry equal payloads,
    chunked arbitrarily): the two sequences of results `(n, err, block)` are identical. -/
theorem C08_chunking_independent (k : Kind) (raw : Cfg) (s0 : Parser)
    (h0 : newParser k raw = some s0) (ra rb : Reader) (hp : ra.payload = rb.payload)
    (hfa : FillR ra) (hfb : FillR rb) (opsA opsB : List WOp) (ho : OpsSim opsA opsB) :
    (Wrapped.runW ⟨ra, s0⟩ opsA).2 = (Wrapped.runW ⟨rb, s0⟩ opsB).2 :=
  (Wrapped.runW_chunking truthful_fillR ho.toR (newParser_winv k raw s0 h0 ra)
    (newParser_winv k raw s0 h0 rb) ⟨.refl s0, hp, hfa, hfb⟩).1

/-! ## a wrapped call is a finite sequence of parser operations -/

/-- the parser operations one call of `WrappedParser.Parse` performs: `Parse`, and as long as that
    returns `ErrEmptyBuffer`: `Shrink`, `ReadFrom(r)`, `Parse` again … (same recursion as
    `Wrapped.parse`) -/
def Wrapped.parseOps (wp : Wrapped) (flags : Nat) : List POp :=
  if (wp.s.parse flags).2.2.1 ≠ .empty then [.parse flags]
  else
    if ((wp.s.parse flags).1.shrink.1.readFrom wp.r).2.2.1 = 0 then
      [.parse flags, .shrink, .readFrom wp.r]
    else if _h : ((wp.s.parse flags).1.shrink.1.readFrom wp.r).2.1.resps.length
        < wp.r.resps.length then
      [.parse flags, .shrink, .readFrom wp.r] ++
        Wrapped.parseOps ⟨((wp.s.parse flags).1.shrink.1.readFrom wp.r).2.1,
          ((wp.s.parse flags).1.shrink.1.readFrom wp.r).1⟩ flags
    else [.parse flags, .shrink, .readFrom wp.r]
termination_by wp.r.resps.length

theorem Wrapped.parseOps_block (wp : Wrapped) (flags : Nat)
    (h : (wp.s.parse flags).2.2.1 ≠ .empty) : wp.parseOps flags = [.parse flags] := by
  rw [Wrapped.parseOps, if_pos h]

theorem Wrapped.parseOps_stop (wp : Wrapped) (flags : Nat)
    (hpe : wp.s.parse flags = (wp.s, 0, .empty, ⟨[], []⟩))
    (hk : (wp.s.shrink.1.readFrom wp.r).2.2.1 = 0) :
    wp.parseOps flags = [.parse flags, .shrink, .readFrom wp.r] := by
  rw [Wrapped.parseOps]
  simp only [hpe, ne_eq, not_true_eq_false, if_false, hk, if_true]

theorem Wrapped.parseOps_retry (wp : Wrapped) (flags : Nat)
    (hpe : wp.s.parse flags = (wp.s, 0, .empty, ⟨[], []⟩))
    (hk : (wp.s.shrink.1.readFrom wp.r).2.2.1 ≠ 0)
    (hlt : (wp.s.shrink.1.readFrom wp.r).2.1.resps.length < wp.r.resps.length) :
    wp.parseOps flags = [.parse flags, .shrink, .readFrom wp.r] ++
      Wrapped.parseOps ⟨(wp.s.shrink.1.readFrom wp.r).2.1, (wp.s.shrink.1.readFrom wp.r).1⟩ flags := by
  rw [Wrapped.parseOps]
  simp only [hpe, ne_eq, not_true_eq_false, if_false, hk, hlt, dite_true]

theorem Wrapped.runOps_refill (wp : Wrapped) (flags : Nat) (g : Ghost)
    (hpe : wp.s.parse flags = (wp.s, 0, .empty, ⟨[], []⟩)) :
    runOps (wp.s, g) [.parse flags, .shrink, .readFrom wp.r] =
      ((wp.s.shrink.1.readFrom wp.r).1,
       { g with fed := g.fed ++ wp.r.payload.take (wp.s.shrink.1.readFrom wp.r).2.2.1 }) := by
  simp [runOps, step, hpe]

/-- Projection of one wrapped call.  Running the parser operations `wp.parseOps flags` with
    the ghost bookkeeping of the parser histories (ParseHist.lean) ends in the parser of
    `wp.parse flags`, and the ghost state changes as the results of the wrapped call say:
    `fed` gains exactly the bytes `q` the reader lost, `consumed` gains `n`, the log gains the
    block iff the call returned `nil`. -/
theorem Wrapped.parse_project (flags : Nat) : ∀ (wp : Wrapped) (fed : List Byte),
    WInv I_all wp fed → ∀ g : Ghost,
      ∃ q, wp.r.payload = q ++ (wp.parse flags).1.r.payload ∧
        runOps (wp.s, g) (wp.parseOps flags) =
          ((wp.parse flags).1.s,
           { fed := g.fed ++ q, consumed := g.consumed + (wp.parse flags).2.1,
             log := if (wp.parse flags).2.2.1 = .ok then
               g.log ++ [.block (wp.parse flags).2.1 flags (wp.parse flags).2.2.2] else g.log }) := by
  apply Wrapped.refill_induct parseSpec_all
  · intro wp fed hinv hlt g
    obtain ⟨h1, h2, -⟩ := Wrapped.parse_block parseSpec_all wp flags fed hinv hlt
    rw [Wrapped.parseOps_block wp flags (by rw [h2]; simp), h1]
    refine ⟨[], by simp, ?_⟩
    simp [runOps, step, h2]
  · intro wp fed hinv hw hk g
    have hpe := C03_parse_empty wp.s flags (Nat.le_of_eq hw.symm)
    have rf := Wrapped.parse_refill parseSpec_all wp flags fed hinv hw
    rw [Wrapped.parseOps_stop wp flags hpe hk, (rf.stop hk).2.2, Wrapped.runOps_refill wp flags g hpe]
    refine ⟨_, rf.payload, ?_⟩
    simp only [(rf.stop hk).2.1.ne.1, if_false, Nat.add_zero]
  · intro wp fed hinv hw hk ih g
    have hpe := C03_parse_empty wp.s flags (Nat.le_of_eq hw.symm)
    have rf := Wrapped.parse_refill parseSpec_all wp flags fed hinv hw
    rw [Wrapped.parseOps_retry wp flags hpe hk (rf.retry hk).1, (rf.retry hk).2, runOps_append,
      Wrapped.runOps_refill wp flags g hpe]
    obtain ⟨q3, e1, e2⟩ := ih
      { g with fed := g.fed ++ wp.r.payload.take (wp.s.shrink.1.readFrom wp.r).2.2.1 }
    refine ⟨wp.r.payload.take (wp.s.shrink.1.readFrom wp.r).2.2.1 ++ q3, ?_, ?_⟩
    · rw [List.append_assoc, ← e1]; exact rf.payload
    · rw [e2]; simp only [List.append_assoc]

/-! ## wrapped histories with ghost state, and their projection to parser histories -/

/-- One wrapped call with ghost bookkeeping done at the level of the wrapper, from what a caller
    can observe (`Ghost` of ParseHist.lean): `fed` = the bytes the current reader has handed out
    (what its payload lost), `consumed` = sum of the returned `n`, `log` = the blocks returned
    with `nil`, all since the last `Reset`. -/
def Wrapped.stepG (wg : Wrapped × Ghost) : WOp → Wrapped × Ghost
  | .parse f =>
    ((wg.1.parse f).1,
     { fed := wg.2.fed ++
         wg.1.r.payload.take (wg.1.r.payload.length - (wg.1.parse f).1.r.payload.length),
       consumed := wg.2.consumed + (wg.1.parse f).2.1,
       log := if (wg.1.parse f).2.2.1 = .ok then
           wg.2.log ++ [.block (wg.1.parse f).2.1 f (wg.1.parse f).2.2.2]
         else wg.2.log })
  | .reset r => ((wg.1.reset r).1, Ghost.init)

def Wrapped.runG (wg : Wrapped × Ghost) (ops : List WOp) : Wrapped × Ghost :=
  ops.foldl Wrapped.stepG wg

theorem Wrapped.runG_cons (wg : Wrapped × Ghost) (op : WOp) (ops : List WOp) :
    Wrapped.runG wg (op :: ops) = Wrapped.runG (Wrapped.stepG wg op) ops := rfl

theorem Wrapped.runG_append (wg : Wrapped × Ghost) (a b : List WOp) :
    Wrapped.runG wg (a ++ b) = Wrapped.runG (Wrapped.runG wg a) b := by
  simp [Wrapped.runG, List.foldl_append]

theorem Wrapped.stepG_fst (wg : Wrapped × Ghost) (op : WOp) :
    (Wrapped.stepG wg op).1 = (wg.1.stepW op).1 := by
  cases op <;> rfl

/-- the ghost bookkeeping does not influence the run -/
theorem Wrapped.runG_fst (ops : List WOp) : ∀ (wg : Wrapped × Ghost),
    (Wrapped.runG wg ops).1 = (wg.1.runW ops).1 := by
  induction ops with
  | nil => intro wg; rfl
  | cons op ops ih =>
    intro wg
    rw [Wrapped.runG_cons, ih, Wrapped.stepG_fst]
    rfl

/-- the parser operations of a wrapped history -/
def Wrapped.project : Wrapped → List WOp → List POp
  | _, [] => []
  | wp, .parse f :: ops => wp.parseOps f ++ Wrapped.project (wp.parse f).1 ops
  | wp, .reset r :: ops => POp.reset [] 0 :: Wrapped.project (wp.reset r).1 ops

theorem take_of_append_eq {l q t : List Byte} (h : l = q ++ t) :
    l.take (l.length - t.length) = q := by
  subst h; simp

/-- Projection lemma.  A wrapped history is a parser history: running the parser operations
    `wp.project ops` from the wrapped parser's state, with the ghost bookkeeping of the parser
    histories, gives the parser state AND the ghost state of the wrapped run. -/
theorem Wrapped.project_runG (ops : List WOp) : ∀ (wp : Wrapped) (g : Ghost) (fed : List Byte),
    WInv I_all wp fed →
    runOps (wp.s, g) (wp.project ops) =
      ((Wrapped.runG (wp, g) ops).1.s, (Wrapped.runG (wp, g) ops).2) := by
  induction ops with
  | nil => intro wp g fed _; rfl
  | cons op ops ih =>
    intro wp g fed hinv
    cases op with
    | parse f =>
      obtain ⟨q, e1, e2⟩ := Wrapped.parse_project f wp fed hinv g
      obtain ⟨q', w1, -⟩ := C08_wrap_step_all wp f fed hinv
      simp only [Wrapped.project, Wrapped.runG_cons, Wrapped.stepG]
      rw [runOps_append, e2, take_of_append_eq e1]
      exact ih _ _ _ w1
    | reset r =>
      have hr := hinv.reset r
      simp only [Wrapped.project, Wrapped.runG_cons, Wrapped.stepG]
      rw [← ih (wp.reset r).1 Ghost.init [] hr]
      show runOps (step (wp.s, g) (.reset [] 0)) _ = _
      rw [Wrapped.reset_eq]
      simp [step, Parser.reset_nil, Ghost.init]

/-- the static side conditions of the parser histories hold for every kind (for OSAP through
    `computeEdgesSound_holds`) -/
theorem static_all (k : Kind) (c : Cfg) (bc : BufCfg) (hmm : 1 ≤ mmOf k c) (hbs : 1 ≤ bc.blockSize) :
    Static k c bc :=
  ⟨hmm, hbs, fun _ => computeEdgesSound_holds _ _ _⟩

/-- the payload of the reader installed last (by `Reset`, or the initial reader) -/
def curSrc : List Byte → List WOp → List Byte
  | src, [] => src
  | src, .parse _ :: ops => curSrc src ops
  | _, .reset r :: ops => curSrc r.payload ops

/-- Invariant of a wrapped history with ghost state: the invariant of the Wrap theorems for the
    ghost stream, the invariant of the parser histories (ParseHist.lean: C01, C02, C03 for the
    log), and `fed ++ (what the reader still holds) = src`, the payload of the current reader. -/
structure HInv (k : Kind) (c : Cfg) (bc : BufCfg) (src : List Byte) (wg : Wrapped × Ghost) :
    Prop where
  winv : WInv I_all wg.1 wg.2.fed
  inv : Inv k c bc (wg.1.s, wg.2)
  src : wg.2.fed ++ wg.1.r.payload = src

theorem HInv.parse {k : Kind} {c : Cfg} {bc : BufCfg} {src : List Byte} {wg : Wrapped × Ghost}
    (hS : Static k c bc) (h : HInv k c bc src wg) (f : Nat) :
    HInv k c bc src (Wrapped.stepG wg (.parse f)) := by
  obtain ⟨wp, g⟩ := wg
  obtain ⟨q, e1, e2⟩ := Wrapped.parse_project f wp g.fed h.winv g
  obtain ⟨q', w1, w2, -⟩ := C08_wrap_step_all wp f g.fed h.winv
  have hq : q' = q := List.append_cancel_right (w2.symm.trans e1)
  have ht := take_of_append_eq e1
  have hi := runOps_inv hS (wp.parseOps f) (wp.s, g) h.inv
  rw [e2] at hi
  have hsrc := h.src
  simp only [] at hsrc
  refine ⟨?_, ?_, ?_⟩
  · simp only [Wrapped.stepG]; rw [ht, ← hq]; exact w1
  · simp only [Wrapped.stepG]; rw [ht]; exact hi
  · simp only [Wrapped.stepG]; rw [ht, List.append_assoc, ← e1]; exact hsrc

theorem HInv.reset {k : Kind} {c : Cfg} {bc : BufCfg} {src : List Byte} {wg : Wrapped × Ghost}
    (h : HInv k c bc src wg) (r : Reader) :
    HInv k c bc r.payload (Wrapped.stepG wg (.reset r)) := by
  obtain ⟨wp, g⟩ := wg
  refine ⟨h.winv.reset r, ?_, ?_⟩
  · have := step_reset h.inv [] 0
    simp only [Wrapped.stepG, Wrapped.reset_eq]
    simpa [step, Parser.reset_nil, Ghost.init] using this
  · simp [Wrapped.stepG, Wrapped.reset_eq, Ghost.init]

theorem HInv.stepG {k : Kind} {c : Cfg} {bc : BufCfg} {src : List Byte} {wg : Wrapped × Ghost}
    (hS : Static k c bc) (h : HInv k c bc src wg) (op : WOp) :
    HInv k c bc (curSrc src [op]) (Wrapped.stepG wg op) := by
  cases op with
  | parse f => exact h.parse hS f
  | reset r => exact h.reset r

theorem HInv.runG {k : Kind} {c : Cfg} {bc : BufCfg} (hS : Static k c bc) (ops : List WOp) :
    ∀ {src : List Byte} {wg : Wrapped × Ghost}, HInv k c bc src wg →
      HInv k c bc (curSrc src ops) (Wrapped.runG wg ops) := by
  induction ops with
  | nil => intro src wg h; exact h
  | cons op ops ih =>
    intro src wg h
    rw [Wrapped.runG_cons]
    cases op with
    | parse f => exact ih (h.parse hS f)
    | reset r => exact ih (h.reset r)

/-- what the invariant says about the blocks delivered so far: they expand (reference decoder
    `decode` of ParseHist.lean) to the first `consumed` bytes of the current reader's payload;
    `consumed` is the sum of the returned `n`, the absolute parse position, and at most the
    number of bytes the reader has handed out -/
theorem HInv.facts {k : Kind} {c : Cfg} {bc : BufCfg} {src : List Byte} {wg : Wrapped × Ghost}
    (h : HInv k c bc src wg) :
    wg.2.consumed = wg.1.pos ∧ wg.2.consumed = logSpan wg.2.log ∧
    wg.2.consumed ≤ wg.2.fed.length ∧
    decode [] wg.2.log = some (wg.2.fed.take wg.2.consumed) ∧
    decode [] wg.2.log = some (src.take wg.2.consumed) := by
  have h1 : wg.2.consumed = wg.1.pos := h.inv.consumed
  have h2 := h.inv.span
  simp only [] at h2
  have h3 : wg.2.consumed ≤ wg.2.fed.length := by
    have a := h.winv.view.fed_length
    have b := h.winv.view.w_le
    simp only [Wrapped.pos] at h1
    omega
  have h4 : decode [] wg.2.log = some (wg.2.fed.take wg.2.consumed) := by
    have := decode_of_logAll wg.2.fed _ _ _ wg.2.log 0 (Nat.zero_le _) h.inv.log
    rw [h2] at this
    simpa using this
  exact ⟨h1, h2.symm, h3, h4, by rw [h4, ← h.src, List.take_append_of_le_length h3]⟩

theorem HInv.init (k : Kind) (raw : Cfg) (s0 : Parser) (h0 : newParser k raw = some s0)
    (r0 : Reader) :
    Static k s0.cfg s0.buf.cfg ∧
    HInv k s0.cfg s0.buf.cfg r0.payload (⟨r0, s0⟩, Ghost.init) := by
  obtain ⟨hi, hmm, hbs⟩ := newParser_inv k raw s0 h0
  exact ⟨static_all _ _ _ hmm hbs, newParser_winv k raw s0 h0 r0, hi, rfl⟩

/-- C08 over histories (all kinds): the ghost invariant.  After any wrapped history `ops` from
    a wrapper around a new parser: `HInv` holds for the ghost state kept from the caller's
    observations; the blocks returned since the last `Reset` expand to the first `consumed` bytes
    of the payload `src` of the current reader, where `consumed` = sum of the returned `n`; the
    bytes handed out by the reader are `fed`, and `fed ++ (rest held by the reader) = src`
    (nothing lost, nothing duplicated). -/
theorem C08_history (k : Kind) (raw : Cfg) (s0 : Parser) (h0 : newParser k raw = some s0)
    (r0 : Reader) (ops : List WOp) :
    let wg := Wrapped.runG (⟨r0, s0⟩, Ghost.init) ops
    let src := curSrc r0.payload ops
    HInv k s0.cfg s0.buf.cfg src wg ∧
    wg.1 = (Wrapped.runW ⟨r0, s0⟩ ops).1 ∧
    wg.2.consumed = wg.1.pos ∧ wg.2.consumed = logSpan wg.2.log ∧
    wg.2.consumed ≤ wg.2.fed.length ∧
    decode [] wg.2.log = some (src.take wg.2.consumed) ∧
    wg.2.fed ++ wg.1.r.payload = src := by
  intro wg src
  obtain ⟨hS, hI⟩ := HInv.init k raw s0 h0 r0
  have h := HInv.runG hS ops hI
  obtain ⟨f1, f2, f3, -, f5⟩ := h.facts
  exact ⟨h, Wrapped.runG_fst ops _, f1, f2, f3, f5, h.src⟩

/-- the wrapped history IS the parser history `project ops` of ParseHist.lean (same parser, same
    ghost state), so every history theorem about `runOps` (C01, C02, C03, …) speaks about it -/
theorem C08_history_projects (k : Kind) (raw : Cfg) (s0 : Parser) (h0 : newParser k raw = some s0)
    (r0 : Reader) (ops : List WOp) :
    runOps (s0, Ghost.init) (Wrapped.project ⟨r0, s0⟩ ops) =
      ((Wrapped.runG (⟨r0, s0⟩, Ghost.init) ops).1.s, (Wrapped.runG (⟨r0, s0⟩, Ghost.init) ops).2) :=
  Wrapped.project_runG ops ⟨r0, s0⟩ Ghost.init [] (newParser_winv k raw s0 h0 r0)

/-! ## C08: an error-free reader is delivered completely, then `io.EOF` forever -/

theorem Wrapped.runW_truthful {R : Reader → Prop} (hR : Truthful R) (ops : List WOp) :
    ∀ {wp : Wrapped} {fed : List Byte}, WInv I_all wp fed → R wp.r →
    (∀ r, WOp.reset r ∈ ops → R r) → R (wp.runW ops).1.r := by
  induction ops with
  | nil => intro wp fed _ hf _; exact hf
  | cons op ops ih =>
    intro wp fed hinv hf hr
    obtain ⟨fed1, h1⟩ := hinv.stepW op
    refine ih h1 ?_ (fun r hm => hr r (List.mem_cons_of_mem _ hm))
    cases op with
    | parse f => exact (Wrapped.parse_truthful parseSpec_all hR f wp fed hinv hf).1
    | reset r =>
      show R (wp.reset r).1.r
      rw [Wrapped.reset_eq]
      exact hr r List.mem_cons_self

/-- from a drained state (reader done, nothing unparsed) every further call, whatever its flags,
    returns `(0, io.EOF)` -/
theorem Wrapped.drained_forever (fs : List Nat) : ∀ {wp : Wrapped} {fed : List Byte},
    WInv I_all wp fed → Drained wp →
    ∀ o ∈ (wp.runW (fs.map WOp.parse)).2, o.1 = 0 ∧ o.2.1 = .eof := by
  induction fs with
  | nil => intro wp fed _ _ o ho; simp [Wrapped.runW] at ho
  | cons f fs ih =>
    intro wp fed hinv hd o ho
    obtain ⟨g1, g2, g3, g4⟩ := C08_wrap_eof_all wp f fed hinv hd
    simp only [List.map_cons, Wrapped.runW, List.mem_cons] at ho
    rcases ho with ho | ho
    · subst ho; exact ⟨g1, g2⟩
    · exact ih g3 g4 o ho

/-- A failing call (`err ≠ nil`) in a state satisfying the history invariant returns `n = 0` with
    nothing unparsed; the log is unchanged and already expands to all bytes read so far. -/
theorem HInv.stopped {k : Kind} {c : Cfg} {bc : BufCfg} {src : List Byte} {wg : Wrapped × Ghost}
    (hS : Static k c bc) (h : HInv k c bc src wg) (f : Nat) (he : (wg.1.parse f).2.2.1 ≠ .ok) :
    let wg' := Wrapped.stepG wg (.parse f)
    HInv k c bc src wg' ∧ (wg.1.parse f).2.1 = 0 ∧
    wg'.1.s.buf.w = wg'.1.s.buf.data.length ∧
    ReaderSaid wg.1.r wg'.1.r (wg.1.parse f).2.2.1 ∧
    wg'.2.log = wg.2.log ∧ decode [] wg.2.log = some wg'.2.fed := by
  intro wg'
  obtain ⟨c1, hw, c3, -⟩ := C08_wrap_error_all wg.1 f wg.2.fed h.winv he
  have h' : HInv k c bc src wg' := h.parse hS f
  have hlog : wg'.2.log = wg.2.log := by
    simp only [wg', Wrapped.stepG, he, if_false]
  obtain ⟨f1, -, -, f4, -⟩ := h'.facts
  have hfl := h'.winv.view.fed_length
  have e3 : wg'.1 = (wg.1.parse f).1 := rfl
  have hcons : wg'.2.consumed = wg'.2.fed.length := by
    rw [f1, hfl, e3]; simp only [Wrapped.pos]; omega
  rw [hcons, List.take_length, hlog] at f4
  exact ⟨h', c1, hw, c3, hlog, f4⟩

/-- One call in a state satisfying the history invariant, reader of a truthful class: either a
    block is delivered, or `(0, io.EOF)` is returned, and then the blocks delivered since the last
    `Reset` expand to exactly the payload `src` of the reader, the state is drained and the log
    unchanged. -/
theorem HInv.complete_of {R : Reader → Prop} (hR : Truthful R) {k : Kind} {c : Cfg} {bc : BufCfg}
    {src : List Byte} {wg : Wrapped × Ghost} (hS : Static k c bc) (h : HInv k c bc src wg)
    (hf : R wg.1.r) (f : Nat) :
    ((wg.1.parse f).2.2.1 = .ok ∧ 1 ≤ (wg.1.parse f).2.1) ∨
    ((wg.1.parse f).2.1 = 0 ∧ (wg.1.parse f).2.2.1 = .eof ∧
      decode [] wg.2.log = some src ∧ Drained (wg.1.parse f).1 ∧
      (Wrapped.stepG wg (.parse f)).2.log = wg.2.log) := by
  obtain ⟨q, -, -, -, -, hc⟩ := C08_wrap_step_all wg.1 f wg.2.fed h.winv
  rcases hc with hc | ⟨c1, -, c3⟩
  · exact Or.inl hc
  · right
    have hne : (wg.1.parse f).2.2.1 ≠ .ok := c3.ne.1
    obtain ⟨hf', hfe⟩ := Wrapped.parse_truthful parseSpec_all hR f wg.1 wg.2.fed h.winv hf
    obtain ⟨e1, e2⟩ := hfe hne
    obtain ⟨h', -, hw, -, hlog, hdec⟩ := h.stopped hS f hne
    have hsrc := h'.src
    rw [show (Wrapped.stepG wg (.parse f)).1.r.payload = [] from e2, List.append_nil] at hsrc
    rw [hsrc] at hdec
    exact ⟨c1, e1, hdec, ⟨⟨e2, hR.done hf' e2⟩, hw⟩, hlog⟩

theorem HInv.complete {k : Kind} {c : Cfg} {bc : BufCfg} {src : List Byte} {wg : Wrapped × Ghost}
    (hS : Static k c bc) (h : HInv k c bc src wg) (hf : FillR wg.1.r) (f : Nat) :
    ((wg.1.parse f).2.2.1 = .ok ∧ 1 ≤ (wg.1.parse f).2.1) ∨
    ((wg.1.parse f).2.1 = 0 ∧ (wg.1.parse f).2.2.1 = .eof ∧
      decode [] wg.2.log = some src ∧ Drained (wg.1.parse f).1 ∧
      (Wrapped.stepG wg (.parse f)).2.log = wg.2.log) :=
  h.complete_of truthful_fillR hS hf f

/-- Completeness for a truthful class `R` of readers.  Take any wrapped history `ops` all of whose
    readers are in `R`, and any further call `Parse(&blk, f)`.  It returns a block (`nil`, `1 ≤ n`)
    or `(0, io.EOF)`; the blocks returned since the last `Reset` always expand (reference decoder)
    to the first `Σ n` bytes of the payload `src` of the current reader; and when the call
    returns `io.EOF`, they expand to exactly `src`, and every later call `Parse(&blk, f')`, for
    any flags, returns `(0, io.EOF)` again. -/
theorem C08_complete_of {R : Reader → Prop} (hR : Truthful R) (k : Kind) (raw : Cfg) (s0 : Parser)
    (h0 : newParser k raw = some s0) (r0 : Reader) (hf0 : R r0) (ops : List WOp)
    (hfr : ∀ r, WOp.reset r ∈ ops → R r) (f : Nat) :
    let wg := Wrapped.runG (⟨r0, s0⟩, Ghost.init) ops
    let src := curSrc r0.payload ops
    let res := (Wrapped.runW ⟨r0, s0⟩ ops).1.parse f
    decode [] wg.2.log = some (src.take wg.2.consumed) ∧
    ((res.2.2.1 = .ok ∧ 1 ≤ res.2.1) ∨
     (res.2.1 = 0 ∧ res.2.2.1 = .eof ∧ decode [] wg.2.log = some src ∧
      ∀ fs : List Nat, ∀ o ∈ (res.1.runW (fs.map WOp.parse)).2, o.1 = 0 ∧ o.2.1 = .eof)) := by
  intro wg src res
  obtain ⟨hS, hI⟩ := HInv.init k raw s0 h0 r0
  have h : HInv k s0.cfg s0.buf.cfg src wg := HInv.runG hS ops hI
  have hfst : wg.1 = (Wrapped.runW ⟨r0, s0⟩ ops).1 := Wrapped.runG_fst ops _
  have hf : R wg.1.r := by
    rw [hfst]
    exact Wrapped.runW_truthful hR ops (newParser_winv k raw s0 h0 r0) hf0 hfr
  refine ⟨h.facts.2.2.2.2, ?_⟩
  have hres : res = wg.1.parse f := by rw [hfst]
  rw [hres]
  rcases h.complete_of hR hS hf f with hc | ⟨c1, c2, c3, c4, -⟩
  · exact Or.inl hc
  · refine Or.inr ⟨c1, c2, c3, fun fs => ?_⟩
    exact Wrapped.drained_forever fs (h.parse hS f).winv c4

/-- C08, completeness (all seven kinds).  `C08_complete_of` for error-free reader scripts
    (`FillR`: no error before the payload is exhausted; chunking arbitrary). -/
theorem C08_complete (k : Kind) (raw : Cfg) (s0 : Parser) (h0 : newParser k raw = some s0)
    (r0 : Reader) (hf0 : FillR r0) (ops : List WOp) (hfr : ∀ r, WOp.reset r ∈ ops → FillR r)
    (f : Nat) :
    let wg := Wrapped.runG (⟨r0, s0⟩, Ghost.init) ops
    let src := curSrc r0.payload ops
    let res := (Wrapped.runW ⟨r0, s0⟩ ops).1.parse f
    decode [] wg.2.log = some (src.take wg.2.consumed) ∧
    ((res.2.2.1 = .ok ∧ 1 ≤ res.2.1) ∨
     (res.2.1 = 0 ∧ res.2.2.1 = .eof ∧ decode [] wg.2.log = some src ∧
      ∀ fs : List Nat, ∀ o ∈ (res.1.runW (fs.map WOp.parse)).2, o.1 = 0 ∧ o.2.1 = .eof)) :=
  C08_complete_of truthful_fillR k raw s0 h0 r0 hf0 ops hfr f

theorem not_reset_mem_map_parse (fs : List Nat) (r : Reader) (P : Prop)
    (hm : WOp.reset r ∈ fs.map WOp.parse) : P := by
  rw [List.mem_map] at hm
  obtain ⟨a, -, ha⟩ := hm
  cases ha

theorem curSrc_map_parse (fs : List Nat) : ∀ (src : List Byte), curSrc src (fs.map WOp.parse) = src := by
  induction fs with
  | nil => intro src; rfl
  | cons a as ih => intro src; exact ih src

/-- the events (blocks) of the calls of a reset-free history that returned `nil` -/
def okEvents : List Nat → List WOut → List Event
  | f :: fs, (n, e, blk) :: outs =>
    if e = .ok then .block n f blk :: okEvents fs outs else okEvents fs outs
  | _, _ => []

theorem okEvents_cons (f : Nat) (fs : List Nat) (o : WOut) (outs : List WOut) :
    okEvents (f :: fs) (o :: outs) =
      (if o.2.1 = .ok then [Event.block o.1 f o.2.2] else []) ++ okEvents fs outs := by
  obtain ⟨n, e, blk⟩ := o
  simp only [okEvents]
  split <;> rfl

theorem Wrapped.stepG_parse_log (wg : Wrapped × Ghost) (f : Nat) :
    (Wrapped.stepG wg (.parse f)).2.log = wg.2.log ++
      (if (wg.1.parse f).2.2.1 = .ok then [.block (wg.1.parse f).2.1 f (wg.1.parse f).2.2.2]
       else []) := by
  simp only [Wrapped.stepG]
  split
  · rfl
  · exact (List.append_nil _).symm

theorem Wrapped.runG_parse_log (fs : List Nat) : ∀ (wg : Wrapped × Ghost),
    (Wrapped.runG wg (fs.map WOp.parse)).2.log =
      wg.2.log ++ okEvents fs (wg.1.runW (fs.map WOp.parse)).2 ∧
    (Wrapped.runG wg (fs.map WOp.parse)).2.consumed =
      wg.2.consumed + (((wg.1.runW (fs.map WOp.parse)).2).map (·.1)).sum ∧
    ∃ x, (Wrapped.runG wg (fs.map WOp.parse)).2.fed = wg.2.fed ++ x := by
  induction fs with
  | nil => intro wg; exact ⟨(List.append_nil _).symm, rfl, [], (List.append_nil _).symm⟩
  | cons f fs ih =>
    intro wg
    obtain ⟨i1, i2, x, i3⟩ := ih (Wrapped.stepG wg (.parse f))
    simp only [List.map_cons, Wrapped.runG_cons, Wrapped.runW, List.sum_cons]
    rw [i1, i2, i3, okEvents_cons, Wrapped.stepG_parse_log, List.append_assoc]
    exact ⟨rfl, Nat.add_assoc _ _ _, _ ++ x, by rw [← List.append_assoc]; rfl⟩

theorem Wrapped.runW_outs {R : Reader → Prop} (hR : Truthful R) (fs : List Nat) :
    ∀ (wp : Wrapped) (fed : List Byte), WInv I_all wp fed → R wp.r →
    ∀ o ∈ (wp.runW (fs.map WOp.parse)).2, (o.2.1 = .ok ∧ 1 ≤ o.1) ∨ (o.1 = 0 ∧ o.2.1 = .eof) := by
  induction fs with
  | nil => intro wp fed _ _ o ho; simp [Wrapped.runW] at ho
  | cons a as ih =>
    intro wp fed hinv hf o ho
    obtain ⟨q, w1, -, -, -, hc⟩ := C08_wrap_step_all wp a fed hinv
    obtain ⟨hf', hfe⟩ := Wrapped.parse_truthful parseSpec_all hR a wp fed hinv hf
    simp only [List.map_cons, Wrapped.runW, List.mem_cons] at ho
    rcases ho with ho | ho
    · subst ho
      rcases hc with hc | ⟨c1, -, c3⟩
      · exact Or.inl hc
      · exact Or.inr ⟨c1, (hfe c3.ne.1).1⟩
    · exact ih _ _ w1 hf' o ho

/-- C08, completeness, for a history of `Parse` calls only, stated on the list of results:
    with an error-free reader `r0`, the blocks of the calls that returned `nil` expand to the
    first `Σ n` bytes of `r0.payload`; if the next call returns `io.EOF` they expand to exactly
    `r0.payload`. -/
theorem C08_complete_calls (k : Kind) (raw : Cfg) (s0 : Parser) (h0 : newParser k raw = some s0)
    (r0 : Reader) (hf0 : FillR r0) (fs : List Nat) (f : Nat) :
    let run := Wrapped.runW ⟨r0, s0⟩ (fs.map WOp.parse)
    decode [] (okEvents fs run.2) = some (r0.payload.take ((run.2.map (·.1)).sum)) ∧
    (∀ o ∈ run.2, (o.2.1 = .ok ∧ 1 ≤ o.1) ∨ (o.1 = 0 ∧ o.2.1 = .eof)) ∧
    ((run.1.parse f).2.2.1 = .eof → decode [] (okEvents fs run.2) = some r0.payload) := by
  intro run
  have hsrc := curSrc_map_parse fs
  obtain ⟨l1', l2', -⟩ := Wrapped.runG_parse_log fs (⟨r0, s0⟩, Ghost.init)
  have l1 : (Wrapped.runG (⟨r0, s0⟩, Ghost.init) (fs.map WOp.parse)).2.log = okEvents fs run.2 := by
    simpa [Ghost.init] using l1'
  have l2 : (Wrapped.runG (⟨r0, s0⟩, Ghost.init) (fs.map WOp.parse)).2.consumed =
      (run.2.map (·.1)).sum := by
    simpa [Ghost.init] using l2'
  obtain ⟨c1, c2⟩ := C08_complete k raw s0 h0 r0 hf0 (fs.map WOp.parse)
    (fun r hm => not_reset_mem_map_parse fs r _ hm) f
  rw [hsrc, l1, l2] at c1
  rw [hsrc, l1] at c2
  refine ⟨c1, ?_, ?_⟩
  · exact Wrapped.runW_outs truthful_fillR fs _ _ (newParser_winv k raw s0 h0 r0) hf0
  · intro he
    rcases c2 with ⟨c3, -⟩ | ⟨-, -, c5, -⟩
    · rw [he] at c3; cases c3
    · exact c5

/-! ## C08: reader failures -/

theorem decode_append (a b : List Event) : ∀ (out : List Byte),
    decode out (a ++ b) = (decode out a).bind (fun o => decode o b) := by
  induction a with
  | nil => intro out; simp [decode]
  | cons e es ih =>
    intro out
    cases e with
    | block n fl blk =>
      simp only [List.cons_append, decode]
      cases expand out blk with
      | none => rfl
      | some o => exact ih o
    | skip x =>
      simp only [List.cons_append, decode]
      exact ih _

/-- One failing call in a state satisfying the history invariant (`err ≠ nil`: the reader's
    error, or `io.EOF`): `n = 0`; the error is the reader's own report; the log is unchanged and
    ALREADY expands to all bytes `fed'` the reader has handed out (so the error comes only after
    every byte read before the failure has been delivered); `fed' ++ (rest in the reader) = src`.
    Continuing with any further `Parse` calls `more` (the reader goes on with the rest of its
    script): the invariant holds again, the log and the bytes read are only extended, and the new
    blocks `evs` expand, starting from the bytes `fed'` delivered before the failure, to the
    prefix `consumed''` of `src` — nothing lost, nothing duplicated.  If the rest of the reader
    script is error free, the next failing call returns `io.EOF` and by then all of `src` has
    been delivered exactly once. -/
theorem HInv.fault {k : Kind} {c : Cfg} {bc : BufCfg} {src : List Byte} {wg : Wrapped × Ghost}
    (hS : Static k c bc) (h : HInv k c bc src wg) (f : Nat)
    (he : (wg.1.parse f).2.2.1 ≠ .ok) :
    let wg' := Wrapped.stepG wg (.parse f)
    (wg.1.parse f).2.1 = 0 ∧
    ReaderSaid wg.1.r wg'.1.r (wg.1.parse f).2.2.1 ∧
    wg'.2.log = wg.2.log ∧
    wg'.2.fed ++ wg'.1.r.payload = src ∧
    decode [] wg'.2.log = some wg'.2.fed ∧
    ∀ more : List Nat,
      let wg'' := Wrapped.runG wg' (more.map WOp.parse)
      HInv k c bc src wg'' ∧
      ∃ evs x, wg''.2.log = wg'.2.log ++ evs ∧ wg''.2.fed = wg'.2.fed ++ x ∧
        decode wg'.2.fed evs = some (src.take wg''.2.consumed) ∧
        (FillR wg'.1.r → ∀ f2, (wg''.1.parse f2).2.2.1 ≠ .ok →
          (wg''.1.parse f2).2.2.1 = .eof ∧ decode wg'.2.fed evs = some src) := by
  intro wg'
  obtain ⟨h', c1, -, c3, hlog, f4⟩ := h.stopped hS f he
  rw [← hlog] at f4
  refine ⟨c1, c3, hlog, h'.src, f4, ?_⟩
  intro more wg''
  have h'' : HInv k c bc src wg'' := by
    have := HInv.runG hS (more.map WOp.parse) h'
    rw [curSrc_map_parse] at this
    exact this
  obtain ⟨m1, -, x, m2⟩ := Wrapped.runG_parse_log more wg'
  generalize okEvents more _ = evs at m1
  obtain ⟨-, -, -, -, g5⟩ := h''.facts
  have hdec : decode wg'.2.fed evs = some (src.take wg''.2.consumed) := by
    have : decode [] wg''.2.log = some (src.take wg''.2.consumed) := g5
    rw [m1, decode_append, f4] at this
    exact this
  refine ⟨h'', evs, x, m1, m2, hdec, ?_⟩
  intro hf f2 he2
  have hf'' : FillR wg''.1.r := by
    have : wg''.1 = (wg'.1.runW (more.map WOp.parse)).1 := Wrapped.runG_fst _ _
    rw [this]
    exact Wrapped.runW_truthful truthful_fillR _ h'.winv hf
      (fun r hm => not_reset_mem_map_parse more r _ hm)
  rcases h''.complete hS hf'' f2 with ⟨hc, -⟩ | ⟨-, d2, d3, -, -⟩
  · exact absurd hc he2
  · refine ⟨d2, ?_⟩
    rw [m1, decode_append, f4] at d3
    exact d3

/-- C08, reader failures (all seven kinds).  After any wrapped history `ops` (any readers:
    short reads, data together with errors, errors, recovery), if the next call returns the
    reader's error `reader(c)`: see `HInv.fault` — `n = 0`, every byte the reader handed out so
    far is covered by the blocks already delivered, and continuing with the rest of the reader
    script loses and duplicates nothing. -/
theorem C08_fault (k : Kind) (raw : Cfg) (s0 : Parser) (h0 : newParser k raw = some s0)
    (r0 : Reader) (ops : List WOp) (f : Nat) (c : Nat)
    (he : ((Wrapped.runW ⟨r0, s0⟩ ops).1.parse f).2.2.1 = .reader c) :
    let wg := Wrapped.runG (⟨r0, s0⟩, Ghost.init) ops
    let src := curSrc r0.payload ops
    let wg' := Wrapped.stepG wg (.parse f)
    wg.1 = (Wrapped.runW ⟨r0, s0⟩ ops).1 ∧
    (wg.1.parse f).2.1 = 0 ∧
    ReaderSaid wg.1.r wg'.1.r (.reader c) ∧
    wg'.2.log = wg.2.log ∧
    wg'.2.fed ++ wg'.1.r.payload = src ∧
    decode [] wg'.2.log = some wg'.2.fed ∧
    ∀ more : List Nat,
      let wg'' := Wrapped.runG wg' (more.map WOp.parse)
      HInv k s0.cfg s0.buf.cfg src wg'' ∧
      ∃ evs x, wg''.2.log = wg'.2.log ++ evs ∧ wg''.2.fed = wg'.2.fed ++ x ∧
        decode wg'.2.fed evs = some (src.take wg''.2.consumed) ∧
        (FillR wg'.1.r → ∀ f2, (wg''.1.parse f2).2.2.1 ≠ .ok →
          (wg''.1.parse f2).2.2.1 = .eof ∧ decode wg'.2.fed evs = some src) := by
  intro wg src wg'
  obtain ⟨hS, hI⟩ := HInv.init k raw s0 h0 r0
  have h : HInv k s0.cfg s0.buf.cfg src wg := HInv.runG hS ops hI
  have hfst : wg.1 = (Wrapped.runW ⟨r0, s0⟩ ops).1 := Wrapped.runG_fst ops _
  have he' : (wg.1.parse f).2.2.1 = .reader c := by rw [hfst]; exact he
  have hne : (wg.1.parse f).2.2.1 ≠ .ok := by rw [he']; simp
  obtain ⟨a1, a2, a3, a4, a5, a6⟩ := h.fault hS f hne
  rw [he'] at a2
  exact ⟨hfst, a1, a2, a3, a4, a5, a6⟩

end LZ

#print axioms LZ.HInv.runG
#print axioms LZ.Wrapped.runW_chunking
#print axioms LZ.C08_complete_of
#print axioms LZ.C08_reachable_winv
#print axioms LZ.C08_reachable_no_panic
#print axioms LZ.C08_chunking_independent
#print axioms LZ.Wrapped.parse_project
#print axioms LZ.Wrapped.project_runG
#print axioms LZ.C08_history
#print axioms LZ.C08_history_projects
#print axioms LZ.C08_complete
#print axioms LZ.C08_complete_calls
#print axioms LZ.HInv.fault
#print axioms LZ.C08_fault
