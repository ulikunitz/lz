/-
  LzProofs.GenBHPParseNil — the NIL PATH of the mechanical translation of bhp.go `(*backwardHashParser).Parse`:
  `backwardHashParser_Parse_nilable grow fuel lcs s true blk flags` (LzModel/Generated/CodeBHPParse.lean; the pointer
  parameter `blk` is modelled by a flag plus a value, tools/extract/code_nil.go) is the call `Parse(nil, flags)`; with
  `false` it is `backwardHashParser_Parse` (`gen_bhp_parse_nonnil`).  Built like LzProofs/GenHPParseNil.lean.  The nil
  path neither looks at `flags` nor calls `lcs`: no hypothesis on either; fuel `len + 2` suffices.  The result is that of
  `parseNilW` with THE SAME `blk` (nothing is written), and only `W` and the table of the Go state change.
-/
import LzProofs.GenBHPParse
import LzProofs.GenHPParseNil

set_option linter.unusedSimpArgs false
set_option linter.unusedVariables false

namespace LZ.GenBHPParse
open LZ LZ.Gen LZ.GenBuf LZ.GenHash LZ.GenProps LZ.GenHPParse

theorem gen_bhp_parse_nonnil (grow : Nat → Nat → Nat) (fuel : Nat) (lcs : Slice → Slice → Int)
    (s : Gen.backwardHashParser) (blk : Gen.Block') (flags : Int) :
    backwardHashParser_Parse grow fuel lcs s blk flags =
      backwardHashParser_Parse_nilable grow fuel lcs s false blk flags := rfl

/-- the straight-line prefix of the nil path: nothing buffered ⇒ `(0, ErrEmptyBuffer)`, the parser and the ghost block
    unchanged; for every `grow`, `fuel`, `lcs`, `flags` -/
theorem gen_bhp_parseNil_empty (grow : Nat → Nat → Nat) (fuel : Nat) (lcs : Slice → Slice → Int)
    (s : Gen.backwardHashParser) (blk : Gen.Block') (flags : Int) (h : Min.min s.BHPConfig.BlockSize
      ((s.hashDictionary.ParserBuffer.Data.len : Int) - s.hashDictionary.ParserBuffer.W) = 0) :
    backwardHashParser_Parse_nilable grow fuel lcs s true blk flags = Res.ok (s, blk, (0 : Int), ErrEmptyBuffer) := by
  unfold backwardHashParser_Parse_nilable
  simp only [if_true, gt_iff_lt, ge_iff_le, ite_lt_min, ite_le_min]
  split
  all_goals first
    | rfl
    | (exfalso; int_omega)

theorem gen_bhp_parseNil (grow : Nat → Nat → Nat) (fuel : Nat) (lcs : Slice → Slice → Int)
    (s : Gen.backwardHashParser) (blk : Gen.Block') (flags : Int)
    (h : ParseOKB s) (hfuel : s.hashDictionary.ParserBuffer.Data.len + 2 ≤ fuel) :
    match ProbeW.parseNilW (ofBHPs s) (staleOfB s) with
    | none => backwardHashParser_Parse_nilable grow fuel lcs s true blk flags = Res.panic
    | some (s', n, e) =>
      ∃ t, backwardHashParser_Parse_nilable grow fuel lcs s true blk flags = Res.ok (t, blk, (n : Int), parseErr e) ∧
        ofBHPs t = s' ∧ staleOfB t = staleOfB s ∧ (e = .ok ∨ e = .empty) ∧ ParseOKB t ∧
        ∃ t', t = withWTB s ((s'.buf.w : Nat) : Int) t' := by
  obtain ⟨Wn, iln, hWn, hiln, hil1, (hLlen : Wn + (ofBHPs s).blockN ≤ _),
      (hnG : Min.min _ _ = (((ofBHPs s).blockN : Nat) : Int))⟩ :=
    blockN_nats h.frame h.il1
  have hwn : (ofBHPs s).buf.w = Wn := by show s.hashDictionary.ParserBuffer.W.toNat = Wn; omega
  by_cases hn : (ofBHPs s).blockN = 0
  · rw [gen_bhp_parseNil_empty grow fuel lcs s blk flags (h.frame.clamp.trans (by rw [hn]; rfl))]
    rw [ProbeW.parseNilW_empty _ _ hn]
    refine ⟨s, rfl, rfl, rfl, Or.inr rfl, h, s.hashDictionary.hash.table, ?_⟩
    rw [hwn, ← hWn]
  generalize hG : backwardHashParser_Parse_nilable grow fuel lcs s true blk flags = G
  unfold backwardHashParser_Parse_nilable at hG
  simp only [if_true] at hG
  -- `n = min(len(s.Data) - s.W, s.BlockSize)` in whatever form the text computes it
  bhp_val (((ofBHPs s).blockN : Nat) : Int) at hG
  clear hnG
  rw [ProbeW.parseNilW_single_nf (ofBHPs s) (staleOfB s) (ofHash s.hashDictionary.hash) rfl hn]
  bhp_ifc at hG
  -- the arguments of `processSegment` in any spelling
  rw [pseg_argsB fuel s.hashDictionary ((s.hashDictionary.ParserBuffer.W - s.hashDictionary.hash.inputLen) + 1)
    (s.hashDictionary.ParserBuffer.W + (((ofBHPs s).blockN : Nat) : Int)) (by bhp_cond) (by bhp_cond)] at hG
  generalize hp1 : ProbeW.processSegment1W _ _ _ _ _ = r
  have hps := gen_processSegment_at fuel s.hashDictionary h.wf h.sh h.small (by omega) hp1
    ((s.hashDictionary.ParserBuffer.W - s.hashDictionary.hash.inputLen) + 1)
    (s.hashDictionary.ParserBuffer.W + (((ofBHPs s).blockN : Nat) : Int)) rfl rfl
    (by rw [hwn, hWn]; show _ - ((s.hashDictionary.hash.inputLen.toNat : Nat) : Int) + 1 = _; omega)
    (by rw [hwn, hWn]; omega)
  cases r with
  | none =>
    rw [(hps :)] at hG
    exact hG.symm
  | some h' =>
    obtain ⟨t0, ht0, rfl, hps⟩ := hps
    rw [hps, bind_ok] at hG
    rw [Option.bind_some]
    dsimp only at hG ⊢
    have hwt : s.hashDictionary.ParserBuffer.W + (((ofBHPs s).blockN : Nat) : Int) =
        (((ofBHPs s).buf.w + (ofBHPs s).blockN : Nat) : Int) := by rw [hwn]; omega
    refine ⟨withWTB s (((ofBHPs s).buf.w + (ofBHPs s).blockN : Nat) : Int) t0, hG.symm.trans ?_, ?_, rfl, Or.inl rfl, ?_, t0, rfl⟩
    · rw [hwt]; rfl
    · show ofBHPs (withWTB s _ t0) = _
      unfold ofBHPs ofDict ofPB
      simp only [Int.toNat_natCast]
      rfl
    · exact h.update _ (by rw [hwn]; exact hLlen) ht0

/-- Go text → list-level model, nil path: where the buffer is within its capacity and `inputLen` within the model's
    bounds (`ProbeW.parseNilW_eq`; both hold along every history) no panic, the result of `Parser.parseNil`. -/
theorem gen_bhp_parseNil_model (grow : Nat → Nat → Nat) (fuel : Nat) (lcs : Slice → Slice → Int)
    (s : Gen.backwardHashParser) (blk : Gen.Block') (flags : Int)
    (h : ParseOKB s) (hfuel : s.hashDictionary.ParserBuffer.Data.len + 2 ≤ fuel)
    (hcap : (ofBHPs s).buf.CapOK) (hd : ProbeW.HashDictOK (ofBHPs s).dict) :
    ∃ t, backwardHashParser_Parse_nilable grow fuel lcs s true blk flags =
        Res.ok (t, blk, (((ofBHPs s).parseNil).2.1 : Int), parseErr ((ofBHPs s).parseNil).2.2) ∧
      ofBHPs t = ((ofBHPs s).parseNil).1 ∧ staleOfB t = staleOfB s ∧ ParseOKB t ∧
      ∃ t', t = withWTB s ((((ofBHPs s).parseNil).1.buf.w : Nat) : Int) t' := by
  have hW := ProbeW.parseNilW_eq (ofBHPs s) (staleOfB s) h.backing hcap hd
  have hm := gen_bhp_parseNil grow fuel lcs s blk flags h hfuel
  rw [hW] at hm
  obtain ⟨t, h1, h2, h3, _, h5, h6⟩ := hm
  exact ⟨t, h1, h2, h3, h5, h6⟩

end LZ.GenBHPParse

#print axioms LZ.GenBHPParse.gen_bhp_parse_nonnil
#print axioms LZ.GenBHPParse.gen_bhp_parseNil_empty
#print axioms LZ.GenBHPParse.gen_bhp_parseNil
#print axioms LZ.GenBHPParse.gen_bhp_parseNil_model
