/-
  LzProofs.IdxOsap — C16 ("never panics") for the index / slice expressions of osap.go, and the
  combined statement `parseChk` for the two suffix-array parsers.

  As in LzProofs/IdxGsap.lean: the model of `computeEdges`, `shortestPath` and the path conversion
  (LzModel/Sap.lean, LzModel/Parser.lean) uses the total accessors `getD`, `setIfInBounds`, `drop`,
  `take` and truncated subtraction; here every one of them is range-checked (`none` = Go panics, or
  Go and the model diverge) and `checked = some unchecked` is proved: for the DP and the
  back-tracking from the invariant `Sap.Good` of LzProofs/DpProps.lean, for the edge table from the
  suffix-array facts `Sap.CEHyps` / `SegHyps`, for the path conversion from `Sap.shortestPath_len`.

  Go expression (osap.go)                     checked model expression                bound used
  ------------------------------------------------------------------------------------------------------
  computeEdges
   L265 `k := len(data) - s.start`, `make(k)` `if w ≤ data.length`                     W ≤ len(Data)  (`Inv.hw`)
   L267/273 `s.edges[:k]`, `s.edgeBuf[:k]`    — guarded by `k < cap(...)` in the Go code
   L281 `s.edges[i] = s.edgeBuf[k:k:k+4]`     — `i < len(edges)`, `4i+4 ≤ 4·len(edges) = len(edgeBuf)` (arithmetic of
                                                the two lines above; the model has no `edgeBuf`)
   L295 `t := data[winStart:]`                `sliceFromChk data (w - ws)`              doz(W, ws) ≤ W ≤ len(Data)
   L299 `suffix.LCP`: `sainv[sa[j]] = j`      `invertSAChk`                             sa is a permutation
        `_lcp`: `sainv[i]`, `sa[k-1]`,        `kasaiLoopChk` (LzProofs/Kasai.lean)       `kasai_no_panic`
        `t[i+l:]`, `t[j+l:]`, `lcp[k] =`
   L358 `Segments`: argument panics           `segments32 … = none ↦ none`              len(Data) ≤ MaxInt32 (D18, `Verify`)
        `f(m, sa[lo:hi])`  (segments.go)      `edgeStepChk`: `sliceChk saL lo hi`       `SegHyps.sound`: lo < hi ≤ len(sa)
   L337/344 `seg[j]`, `seg[j-1]`              — `0 < j ≤ len(seg)-1` by the loop header (list pattern in the model)
   L348 `p := &s.edges[k]`  (read)            `edgeCallbackChk`: `edges[k.toNat]?`      k = i + winStart - W, i < len(t) = len(Data) - winStart
   L355 `*p = append(*p, …)` (write)          `edgeCallbackChk`: `setChk edges k.toNat` same
  shortestPath
   L379 `k := s.W - s.start`                  `parseOsapChk`: `if o.start ≤ w`          `OsapOK`: start ≤ W
   L380 `edges := s.edges[k : k+n]`           `shortestPathChk`: `if k0 + n ≤ |edges|`  the test `W+n > start+len(edges)` of `Parse` L454
   L396 `range edges` (`q := edges[i]`)       `dpLoopChk`: `edges[k0 + i]?`             i < n
   L398 `d[i-1]`, `d[i]`, L399 `d[i] =`       `litRelaxChk`: `d[i-1]?`, `relax1Chk d i` i ≤ n, |d| = n+1
   L402 `d[i].c`                              `dpLoopChk`: `d[i]?`                      i < n
   L405/409 `q[k]`                            — `0 ≤ k < len(q)` by the loop header (list in the model)
   L413 `d[j].c`, L414 `d[j] =`  (j = i+m)    `relaxLensChk`: `relax1Chk d (i+m)`       m ≤ max ≤ maxLen = n - i
   L420 `d[n-1]`, `d[n]`, L421 `d[n] =`       `shortestPathChk`: `n = 0 ↦ none`, `litRelaxChk d n`   n ≥ 1 (`Parse` L450), |d| = n+1
   L426 `d[i]` in the back-tracking           `backtrackChk`: `d[i]?`                   i ≤ n
   L428 `i -= m`  (uint32: wraps for m > i)   `backtrackChk`: `if e.m ≤ i`              `Good`: 1 ≤ d[i].m ≤ i
   L425 `for i != 0` (terminates?)            `backtrackChk`: fuel `n`, `none` if it runs out     `Good`: d[i].m ≥ 1
  Parse
   L461 `s.Data[w:s.W]`                       `sliceChk data w (w+n)`                   n ≤ len(Data) - W
   L465 `s.tmp[:0]`                           — constant
   L468 `p := s.Data[:s.W+n]`                 `sliceToChk data (w+n)`                   n ≤ len(Data) - W
   L470 `sp[j]`                               — loop header (list in the model)
   L475 `q := p[litIndex:i]`                  `pathToSeqsChk`: `sliceChk p li i`        li ≤ i, i + (rest of the path) = W + n
   L489 `p[litIndex:]`                        `sliceFromChk p li`                       li ≤ W + n
  Not covered (not transliterated at index level in the model): the interior of `suffix.Sort`
  (`saSpec` is a specification), the stack of `scanLCP` in segments.go (a list in the model; its `lcp[j]`
  reads are guarded by `j < lcp.size` in the model itself), `slices.Sort`, `append`, and uint32 overflow of
  `i`, `litIndex` (`uint32(s.W)`) — positions are `≤ BufferSize ≤ MaxInt32` for every accepted configuration.
-/
import LzProofs.IdxGsap
import LzProofs.Int32All
namespace LZ
open Parser
namespace Idx

/-! ## The checked model of OSAP -/

/-- the callback `f(m, seg)` of `computeEdges` with `s.edges[k]` checked (read and write) -/
def edgeCallbackChk (ws : Nat) (w : Int) (m : Nat) :
    List Nat → Array (List Edge) × Nat → Option (Array (List Edge) × Nat)
  | i :: prev :: rest, (edges, cnt) =>
    let k : Int := (i : Int) + w
    if k < 0 then some (edges, cnt)          -- break
    else
      let o := i - prev
      match edges[k.toNat]? with
      | none => none
      | some cur =>
        let skip : Bool := decide (o > ws) || (match cur.getLast? with | some e => decide (e.2 ≤ o) | none => false)
        if skip then edgeCallbackChk ws w m (prev :: rest) (edges, cnt)
        else
          match setChk edges k.toNat (cur ++ [(m, o)]) with
          | none => none
          | some edges' => edgeCallbackChk ws w m (prev :: rest) (edges', cnt + 1)
  | _, acc => some acc

/-- one callback `f(m, sa[lo:hi])` issued by `Segments`: the slice of `sa` checked -/
def edgeStepChk (saL : List Nat) (ws : Nat) (woff : Int) (acc : Array (List Edge) × Nat)
    (cb : Callback) : Option (Array (List Edge) × Nat) :=
  match sliceChk saL cb.2.1 cb.2.2 with
  | none => none
  | some seg0 =>
    edgeCallbackChk ws woff cb.1 (seg0.mergeSort (fun a b => decide (a ≤ b))).reverse acc

/-- `computeEdges()` checked -/
def computeEdgesChk (data : List Byte) (w ws minMatch maxMatch : Nat) : Option OsapD :=
  if w ≤ data.length then
    let k := data.length - w
    let edges0 : Array (List Edge) := Array.replicate k []
    if data.length = 0 then some { edges := edges0, start := w, nEdges := 0 }
    else
      let winStart := w - ws
      match sliceFromChk data winStart with
      | none => none
      | some t =>
        let saL := saSpec t
        let sa := saL.toArray
        match invertSAChk sa with
        | none => none
        | some isa =>
          match kasaiLoopChk t sa isa isa.size 0 0 (Array.replicate t.length 0) with
          | none => none
          | some lcp =>
            let maxLen := min (lcp.foldl max 0) maxMatch
            let woff : Int := (winStart : Int) - (w : Int)
            match segments32 sa.size lcp (minMatch : Int) (maxLen : Int) with
            | none => none
            | some cbs =>
              match cbs.foldlM (edgeStepChk saL ws woff) (edges0, 0) with
              | none => none
              | some r => some { edges := r.1, start := w, nEdges := r.2 }
  else none

/-- `if e.c < d[j].c { d[j] = e }` -/
def relax1Chk (d : Array Opt) (j : Nat) (e : Opt) : Option (Array Opt) :=
  match d[j]? with
  | none => none
  | some x => if e.c < x.c then setChk d j e else some d

def relaxLensChk (minMatch i ci o : Nat) : Nat → Nat → Array Opt → Option (Array Opt)
  | 0, _, d => some d
  | cnt+1, m, d =>
    match relax1Chk d (i + m) ⟨m, o, ci + xzCost m o⟩ with
    | none => none
    | some d' => relaxLensChk minMatch i ci o cnt (m+1) d'

def relaxEdgesChk (minMatch i ci maxLen : Nat) : List Edge → Array Opt → Option (Array Opt)
  | [], d => some d
  | (mx, o) :: rest, d =>
    let mx' := min mx maxLen
    match relaxLensChk minMatch i ci o (mx' + 1 - minMatch) minMatch d with
    | none => none
    | some d' => relaxEdgesChk minMatch i ci maxLen rest d'

/-- `if i > 0 { if c := d[i-1].c + lit; c < d[i].c { d[i] = … } }` -/
def litRelaxChk (d : Array Opt) (i : Nat) : Option (Array Opt) :=
  if i > 0 then
    match d[i-1]? with
    | none => none
    | some x => relax1Chk d i ⟨1, 0, x.c + xzCost 1 0⟩
  else some d

def dpLoopChk (minMatch n : Nat) (edges : Array (List Edge)) (k0 : Nat) :
    Nat → Nat → Array Opt → Option (Array Opt)
  | 0, _, d => some d
  | fuel+1, i, d =>
    match litRelaxChk d i with
    | none => none
    | some d =>
      match d[i]? with
      | none => none
      | some x =>
        match edges[k0 + i]? with
        | none => none
        | some q =>
          match relaxEdgesChk minMatch i x.c (n - i) q.reverse d with
          | none => none
          | some d => dpLoopChk minMatch n edges k0 fuel (i+1) d

/-- back-tracking: `d[i]` checked, `i -= m` must not wrap, and the loop must end within the fuel -/
def backtrackChk (d : Array Opt) : Nat → Nat → List Edge → Option (List Edge)
  | 0, i, acc => if i = 0 then some acc else none
  | fuel+1, i, acc =>
    if i = 0 then some acc
    else
      match d[i]? with
      | none => none
      | some e => if e.m ≤ i then backtrackChk d fuel (i - e.m) ((e.m, e.o) :: acc) else none

def shortestPathChk (minMatch n : Nat) (edges : Array (List Edge)) (k0 : Nat) : Option (List Edge) :=
  if k0 + n ≤ edges.size then
    let d0 : Array Opt := (Array.range (n+1)).map fun i => if i = 0 then ⟨0, 0, 0⟩ else ⟨1, 0, xzCost i 0⟩
    match dpLoopChk minMatch n edges k0 n 0 d0 with
    | none => none
    | some d =>
      if n = 0 then none     -- `d[n-1]`
      else
        match litRelaxChk d n with
        | none => none
        | some d => backtrackChk d n n []
  else none

def pathToSeqsChk (p : List Byte) :
    List Edge → Nat → Nat → List Seq → List Byte → Option (List Seq × List Byte × Nat × Nat)
  | [], i, li, seqs, lits => some (seqs, lits, i, li)
  | (m, o) :: rest, i, li, seqs, lits =>
    if o = 0 then pathToSeqsChk p rest (i + m) li seqs lits
    else
      match sliceChk p li i with
      | none => none
      | some q =>
        pathToSeqsChk p rest (i + m) (i + m)
          (seqs ++ [{ litLen := q.length, matchLen := m, offset := o }]) (lits ++ q)

/-- the `.osap` branch of `Parser.parse`, every index / slice expression checked -/
def parseOsapChk (s : Parser) (o : OsapD) (flags : Nat) : Option (Parser × Nat × Err × Block) :=
  let n := s.blockN
  if n = 0 then some (s, 0, .empty, ⟨[], []⟩)
  else
    let w := s.buf.w
    let data := s.buf.data
    match (if w + n > o.start + o.edges.size then
             computeEdgesChk data w s.buf.cfg.windowSize s.minMatch s.cfg.maxMatchLen.toNat
           else some o) with
    | none => none
    | some o =>
      if o.nEdges = 0 then
        match sliceChk data w (w + n) with
        | none => none
        | some lits =>
          some ({ s with buf := { s.buf with w := w + n }, dict := .osap o }, n, .ok, ⟨[], lits⟩)
      else if o.start ≤ w then
        match shortestPathChk s.minMatch n o.edges (w - o.start) with
        | none => none
        | some path =>
          match sliceToChk data (w + n) with
          | none => none
          | some p =>
            match pathToSeqsChk p path w w [] [] with
            | none => none
            | some r =>
              if flags % 2 = 1 ∧ r.1 ≠ [] then
                some ({ s with buf := { s.buf with w := r.2.2.2 }, dict := .osap o }, r.2.2.2 - w, .ok,
                      ⟨r.1, r.2.1⟩)
              else
                match sliceFromChk p r.2.2.2 with
                | none => none
                | some tail =>
                  some ({ s with buf := { s.buf with w := p.length }, dict := .osap o }, p.length - w, .ok,
                        ⟨r.1, r.2.1 ++ tail⟩)
      else none

/-! ## The DP and the back-tracking -/

open Sap (relax1 Good litRelax dFinal)

theorem relax1Chk_eq (d : Array Opt) (j : Nat) (e : Opt) (h : j < d.size) :
    relax1Chk d j e = some (relax1 d j e) := by
  unfold relax1Chk relax1
  rw [getElem?_getD d j default h]
  by_cases hc : e.c < (d.getD j default).c
  · simp only [hc, if_true]; exact setChk_eq _ _ _ h
  · simp only [hc, if_false]

theorem relaxLensChk_eq (minMatch i ci o N : Nat) : ∀ (cnt m : Nat) (d : Array Opt), d.size = N →
    (cnt = 0 ∨ i + m + cnt ≤ N) →
    relaxLensChk minMatch i ci o cnt m d = some (relaxLens minMatch i ci o cnt m d) := by
  intro cnt
  induction cnt with
  | zero => intro m d _ _; rfl
  | succ cnt ih =>
    intro m d hd h
    unfold relaxLensChk relaxLens
    rw [relax1Chk_eq d (i + m) _ (by omega)]
    exact ih (m+1) _ (by rw [← hd]; exact Sap.relax1_size _ _ _) (by omega)

theorem relaxEdgesChk_eq (minMatch i ci maxLen N : Nat) (hN : i + maxLen + 1 ≤ N) :
    ∀ (es : List Edge) (d : Array Opt), d.size = N →
      relaxEdgesChk minMatch i ci maxLen es d = some (relaxEdges minMatch i ci maxLen es d) := by
  intro es
  induction es with
  | nil => intro d _; rfl
  | cons e rest ih =>
    intro d hd
    obtain ⟨mx, o⟩ := e
    unfold relaxEdgesChk relaxEdges
    simp only
    rw [relaxLensChk_eq minMatch i ci o N _ _ d hd (by omega)]
    exact ih _ (by rw [relaxLens_size]; exact hd)

theorem litRelaxChk_eq (d : Array Opt) (i : Nat) (h : i < d.size) :
    litRelaxChk d i = some (litRelax d i) := by
  unfold litRelaxChk litRelax
  split
  · rw [getElem?_getD d (i-1) default (by omega)]
    exact relax1Chk_eq d i _ h
  · rfl

theorem litRelax_size (d : Array Opt) (i : Nat) : (litRelax d i).size = d.size := by
  unfold litRelax; split
  · exact Sap.relax1_size _ _ _
  · rfl

theorem dpLoopChk_eq (minMatch n : Nat) (edges : Array (List Edge)) (k0 : Nat)
    (he : k0 + n ≤ edges.size) : ∀ (fuel i : Nat) (d : Array Opt), i + fuel = n → d.size = n + 1 →
      dpLoopChk minMatch n edges k0 fuel i d = some (dpLoop minMatch n edges k0 fuel i d) := by
  intro fuel
  induction fuel with
  | zero => intro i d _ _; rfl
  | succ fuel ih =>
    intro i d hi hd
    rw [Sap.dpLoop_step_eq]
    unfold dpLoopChk
    rw [litRelaxChk_eq d i (by omega)]
    simp only
    have hs1 : (litRelax d i).size = n + 1 := by rw [litRelax_size]; exact hd
    rw [getElem?_getD (litRelax d i) i default (by omega),
      getElem?_getD edges (k0 + i) [] (by omega)]
    simp only
    rw [relaxEdgesChk_eq minMatch i _ (n - i) (n + 1) (by omega) _ _ hs1]
    exact ih (i+1) _ (by omega) (by rw [relaxEdges_size]; exact hs1)

/-- the back-tracking never indexes out of range, never wraps and ends within `n` steps: every
    entry of a `Good` table has `1 ≤ m ≤ j` -/
theorem backtrackChk_eq (minMatch n : Nat) (edges : Array (List Edge)) (k0 : Nat) {d : Array Opt}
    (hg : Good minMatch n edges k0 d) (hd : d.size = n + 1) :
    ∀ (fuel i : Nat) (acc : List Edge), i ≤ fuel → i ≤ n →
      backtrackChk d fuel i acc = some (backtrack d fuel i acc) := by
  intro fuel
  induction fuel with
  | zero =>
    intro i acc hi _
    have : i = 0 := by omega
    subst this; rfl
  | succ fuel ih =>
    intro i acc hi hin
    unfold backtrackChk backtrack
    by_cases h0 : i = 0
    · simp only [h0, if_true]
    · simp only [h0, if_false]
      obtain ⟨g1, g2, -, -⟩ := hg i (by omega) hin
      rw [getElem?_getD d i default (by omega)]
      simp only
      rw [if_pos g2]
      exact ih _ _ (by omega) (by omega)

/-- `shortestPath` never indexes out of range for a block of `n ≥ 1` bytes covered by the edge
    table (`k0 + n ≤ |edges|`) -/
theorem shortestPathChk_eq (minMatch n : Nat) (edges : Array (List Edge)) (k0 : Nat)
    (hn : n ≠ 0) (he : k0 + n ≤ edges.size) :
    shortestPathChk minMatch n edges k0 = some (shortestPath minMatch n edges k0) := by
  have hd0 : (Sap.d0 n).size = n + 1 := by simp [Sap.d0]
  have hds : (dpLoop minMatch n edges k0 n 0 (Sap.d0 n)).size = n + 1 := by rw [dpLoop_size]; exact hd0
  rw [Sap.shortestPath_eq]
  unfold shortestPathChk
  rw [if_pos he]
  simp only
  rw [show (Array.range (n + 1)).map _ = Sap.d0 n from rfl,
    dpLoopChk_eq minMatch n edges k0 he n 0 (Sap.d0 n) (by omega) hd0]
  simp only [hn, if_false]
  rw [litRelaxChk_eq _ n (by omega)]
  exact backtrackChk_eq minMatch n edges k0 (Sap.dFinal_closed minMatch n edges k0).good (by
    unfold dFinal; rw [litRelax_size]; exact hds) n n [] (Nat.le_refl _) (Nat.le_refl _)

/-! ## The edge table -/

open Sap (edgeStep sortedSeg ceT ceLcp ceMaxLen ceSegs)

theorem edgeCallbackChk_eq (ws : Nat) (woff : Int) (m : Nat) :
    ∀ (desc : List Nat) (edges : Array (List Edge)) (cnt : Nat),
      (∀ x ∈ desc, (x : Int) + woff < (edges.size : Int)) →
      edgeCallbackChk ws woff m desc (edges, cnt) = some (edgeCallback ws woff m desc (edges, cnt))
  | [], _, _, _ => rfl
  | [_], _, _, _ => rfl
  | i :: prev :: rest, edges, cnt, h => by
    have hrest : ∀ x ∈ prev :: rest, (x : Int) + woff < (edges.size : Int) :=
      fun x hx => h x (List.mem_cons_of_mem _ hx)
    unfold edgeCallbackChk edgeCallback
    simp only
    by_cases hk : (i : Int) + woff < 0
    · simp only [hk, if_true]
    · simp only [hk, if_false]
      have hlt : ((i : Int) + woff).toNat < edges.size := by
        have := h i List.mem_cons_self
        omega
      rw [getElem?_getD edges _ [] hlt]
      simp only
      generalize (decide (i - prev > ws) || _) = skip
      cases skip with
      | true =>
        simp only [if_true]
        exact edgeCallbackChk_eq ws woff m (prev :: rest) edges cnt hrest
      | false =>
        simp only [Bool.false_eq_true, if_false]
        rw [setChk_eq _ _ _ hlt]
        exact edgeCallbackChk_eq ws woff m (prev :: rest) _ (cnt + 1)
          (fun x hx => by rw [Array.size_setIfInBounds]; exact hrest x hx)

theorem foldlM_edges (saL : List Nat) (ws : Nat) (woff : Int) (K : Nat)
    (hsa : ∀ x ∈ saL, (x : Int) + woff < (K : Int)) (cbs : List Callback)
    (st : Array (List Edge) × Nat) (hst : st.1.size = K)
    (hcb : ∀ cb ∈ cbs, cb.2.1 ≤ cb.2.2 ∧ cb.2.2 ≤ saL.length) :
    cbs.foldlM (edgeStepChk saL ws woff) st = some (cbs.foldl (edgeStep saL ws woff) st) := by
  refine foldlM_some (fun st => st.1.size = K) cbs st hst ?_
  intro cb h st hst
  refine ⟨?_, (Sap.edgeCallback_cnt ws woff cb.1 _ st.1 st.2).1.trans hst⟩
  unfold edgeStepChk
  rw [sliceChk_eq saL _ _ (hcb cb h).1 (hcb cb h).2]
  refine edgeCallbackChk_eq ws woff cb.1 (sortedSeg saL cb.2.1 cb.2.2).reverse st.1 st.2 ?_
  intro x hx
  rw [hst]
  exact hsa x (List.mem_of_mem_drop (List.mem_of_mem_take
    (List.mem_mergeSort.1 (List.mem_reverse.1 hx))))

/-- `Segments` does not refuse its arguments when the buffer has at most `MaxInt32` bytes -/
theorem ceSegs_isSome (data : List Byte) (w ws mm maxM : Nat) (hlen : data.length ≤ 2147483647) :
    ∃ cbs, ceSegs data w ws mm maxM = some cbs ∧
      ∀ cb ∈ cbs, cb.2.1 ≤ cb.2.2 ∧ cb.2.2 ≤ (saSpec (ceT data w ws)).length := by
  have h := Sap.ceHyps_holds data w ws mm maxM hlen
  by_cases hmm : mm ≤ ceMaxLen data w ws maxM
  · obtain ⟨cbs, h1, h2⟩ := h.segs hmm
    refine ⟨cbs, h1, ?_⟩
    intro cb hcb
    obtain ⟨-, -, a, b, -⟩ := h2.sound cb.1 cb.2.1 cb.2.2 hcb
    exact ⟨by omega, b⟩
  · refine ⟨[], ?_, by simp⟩
    have hle := Sap.ceMaxLen_le_length data w ws maxM
    have hsz : (saSpec (ceT data w ws)).toArray.size = (ceLcp data w ws).size := by
      unfold ceLcp
      rw [Sap.lcpKasai_saSpec]
      simp [lcpSpec]
    unfold ceSegs
    rw [segments32_eq _ _ _ _ (by omega), segments_eq _ _ _ _ hsz (by omega), if_pos (Or.inl (by omega))]

/-- `computeEdges` never indexes out of range for a buffer of at most `MaxInt32` bytes (every
    accepted configuration: `Verify`, D18) with `W ≤ len(Data)` -/
theorem computeEdgesChk_eq (data : List Byte) (w ws mm maxM : Nat) (hw : w ≤ data.length)
    (hlen : data.length ≤ 2147483647) :
    computeEdgesChk data w ws mm maxM = some (computeEdges data w ws mm maxM) := by
  unfold computeEdgesChk
  rw [if_pos hw]
  by_cases hne : data.length = 0
  · rw [Sap.computeEdges_none _ _ _ _ _ (Or.inl hne)]
    simp only [hne, if_true]
  simp only [hne, if_false]
  rw [sliceFromChk_eq data (w - ws) (by omega)]
  simp only
  rw [show data.drop (w - ws) = ceT data w ws from rfl, invertSAChk_saSpec]
  simp only
  have hsa := isSuffixArray_saSpec (ceT data w ws)
  rw [kasai_no_panic hsa _ (by simp)]
  simp only
  have hl : (lcpSpec (ceT data w ws) (saSpec (ceT data w ws))).toArray = ceLcp data w ws := by
    unfold ceLcp; rw [Sap.lcpKasai_saSpec]
  rw [hl]
  obtain ⟨cbs, hseg, hb⟩ := ceSegs_isSome data w ws mm maxM hlen
  have hseg' : segments32 (saSpec (ceT data w ws)).toArray.size (ceLcp data w ws) (mm : Int)
      ((min ((ceLcp data w ws).foldl max 0) maxM : Nat) : Int) = some cbs := hseg
  rw [hseg']
  simp only
  rw [Sap.computeEdges_some _ _ _ _ _ hne hseg]
  rw [foldlM_edges (saSpec (ceT data w ws)) ws _ (data.length - w) ?_ cbs _ (by simp) hb]
  intro x hx
  have hx' : x < (ceT data w ws).length := (hsa.mem_iff x).1 hx
  unfold ceT at hx'
  simp only [List.length_drop] at hx'
  omega

/-! ## The path conversion -/

theorem pathToSeqsChk_eq (p : List Byte) : ∀ (π : List Edge) (i li : Nat) (seqs : List Seq) (lits : List Byte),
    li ≤ i → i + Sap.pathLen π ≤ p.length →
    pathToSeqsChk p π i li seqs lits = some (pathToSeqs p π i li seqs lits)
  | [], _, _, _, _, _, _ => rfl
  | (m, o) :: r, i, li, seqs, lits, h1, h2 => by
    simp only [Sap.pathLen_cons] at h2
    unfold pathToSeqsChk pathToSeqs
    by_cases ho : o = 0
    · simp only [ho, if_true]
      exact pathToSeqsChk_eq p r (i + m) li seqs lits (by omega) (by omega)
    · simp only [ho, if_false]
      rw [sliceChk_eq p li i h1 (by omega)]
      exact pathToSeqsChk_eq p r (i + m) (i + m) _ _ (Nat.le_refl _) (by omega)

/-! ## One `Parse` call -/

/-- one `Parse(&blk, flags)` call of OSAP never indexes out of range on a state with
    `W ≤ len(Data) ≤ MaxInt32` whose edge table starts at or before `W` -/
theorem parseOsapChk_eq (s : Parser) (o : OsapD) (hd : s.dict = .osap o) (flags : Nat)
    (hw : s.buf.w ≤ s.buf.data.length) (hlen : s.buf.data.length ≤ 2147483647)
    (hst : o.start ≤ s.buf.w) :
    parseOsapChk s o flags = some (s.parse flags) := by
  by_cases hn : s.blockN = 0
  · rw [parse_empty s flags hn]
    unfold parseOsapChk
    exact if_pos hn
  have hle := Sap.blockN_le s hn
  rw [Sap.parse_osap_eq s o hd flags hn]
  unfold parseOsapChk
  simp only [hn, if_false]
  have hE : (if s.buf.w + s.blockN > o.start + o.edges.size then
        computeEdgesChk s.buf.data s.buf.w s.buf.cfg.windowSize s.minMatch s.cfg.maxMatchLen.toNat
      else some o) = some (Sap.osapEdges s o) ∧ (Sap.osapEdges s o).start ≤ s.buf.w ∧
      s.buf.w - (Sap.osapEdges s o).start + s.blockN ≤ (Sap.osapEdges s o).edges.size := by
    unfold Sap.osapEdges
    split
    · refine ⟨computeEdgesChk_eq _ _ _ _ _ hw hlen, ?_⟩
      rw [Sap.computeEdges_start,
        Sap.computeEdges_edges_size]
      omega
    · exact ⟨rfl, by omega⟩
  rw [hE.1]
  simp only
  by_cases h0 : (Sap.osapEdges s o).nEdges = 0
  · simp only [h0, if_true]
    rw [sliceChk_eq _ _ _ (Nat.le_add_right _ _) hle, Nat.add_sub_cancel_left]
  · simp only [h0, if_false]
    rw [if_pos hE.2.1, shortestPathChk_eq _ _ _ _ hn hE.2.2]
    simp only
    rw [sliceToChk_eq _ _ hle]
    simp only
    have hpl : (s.buf.data.take (s.buf.w + s.blockN)).length = s.buf.w + s.blockN :=
      List.length_take_of_le hle
    have hlen' : Sap.pathLen (Sap.osapPath s o) = s.blockN := Sap.shortestPath_len _ _ _ _
    have hpc := pathToSeqsChk_eq (s.buf.data.take (s.buf.w + s.blockN)) (Sap.osapPath s o)
      s.buf.w s.buf.w [] [] (Nat.le_refl _) (by rw [hpl, hlen']; exact Nat.le_refl _)
    have hli := (Sap.osapSeqs_spec s o hn).2.1
    rw [show shortestPath _ _ _ _ = Sap.osapPath s o from rfl, hpc]
    simp only
    split
    · rfl
    · rw [sliceFromChk_eq _ _ (by rw [hpl]; exact hli)]

/-! ## What a successful check consists of -/

theorem pathToSeqsChk_facts (p : List Byte) : ∀ (π : List Edge) (i li : Nat) (seqs : List Seq) (lits : List Byte)
    (r : List Seq × List Byte × Nat × Nat), li ≤ i → pathToSeqsChk p π i li seqs lits = some r →
    r.2.2.1 = i + Sap.pathLen π ∧ li ≤ r.2.2.2 ∧ r.2.2.2 ≤ r.2.2.1
  | [], i, li, seqs, lits, r, hle, h => by
    unfold pathToSeqsChk at h
    injection h with h
    subst h
    simp only [Sap.pathLen_nil]
    omega
  | (m, o) :: rest, i, li, seqs, lits, r, hle, h => by
    unfold pathToSeqsChk at h
    simp only [Sap.pathLen_cons]
    by_cases ho : o = 0
    · simp only [ho, if_true] at h
      have := pathToSeqsChk_facts p rest (i + m) li seqs lits r (by omega) h
      omega
    · simp only [ho, if_false] at h
      cases hq : sliceChk p li i with
      | none => rw [hq] at h; cases h
      | some q =>
        rw [hq] at h
        have := pathToSeqsChk_facts p rest (i + m) (i + m) _ _ r (Nat.le_refl _) h
        omega

/-- a successful `shortestPathChk` for a block of `n ≥ 1` bytes returns the model's path: at most `n` edges, of total
    length `n` -/
theorem shortestPathChk_facts (mm n : Nat) (edges : Array (List Edge)) (k0 : Nat) (path : List Edge) (hn : n ≠ 0)
    (h : shortestPathChk mm n edges k0 = some path) : path.length ≤ n ∧ Sap.pathLen path = n := by
  have he : k0 + n ≤ edges.size := by
    unfold shortestPathChk at h
    by_cases hc : k0 + n ≤ edges.size
    · exact hc
    · rw [if_neg hc] at h; cases h
  rw [shortestPathChk_eq mm n edges k0 hn he] at h
  cases h
  have := (Sap.dp_optimal mm n edges k0).1.length_le
  exact ⟨by omega, Sap.shortestPath_len mm n edges k0⟩

theorem computeEdgesChk_start (data : List Byte) (w ws mm mx : Nat) (o : OsapD)
    (h : computeEdgesChk data w ws mm mx = some o) : o.start = w := by
  unfold computeEdgesChk at h
  simp only at h
  repeat' split at h
  all_goals first
    | (cases h; rfl)
    | cases h

theorem parseOsapChk_some (s : Parser) (o : OsapD) (flags : Nat) (r : Parser × Nat × LZ.Err × Block)
    (hn : s.blockN ≠ 0) (h : parseOsapChk s o flags = some r) :
    ∃ o1, (if s.buf.w + s.blockN > o.start + o.edges.size then
             computeEdgesChk s.buf.data s.buf.w s.buf.cfg.windowSize s.minMatch s.cfg.maxMatchLen.toNat
           else some o) = some o1 ∧
      ((o1.nEdges = 0 ∧ ∃ lits, sliceChk s.buf.data s.buf.w (s.buf.w + s.blockN) = some lits ∧
          r = ({ s with buf := { s.buf with w := s.buf.w + s.blockN }, dict := .osap o1 }, s.blockN, .ok, ⟨[], lits⟩)) ∨
       (o1.nEdges ≠ 0 ∧ o1.start ≤ s.buf.w ∧ ∃ path p r',
          shortestPathChk s.minMatch s.blockN o1.edges (s.buf.w - o1.start) = some path ∧
          sliceToChk s.buf.data (s.buf.w + s.blockN) = some p ∧
          pathToSeqsChk p path s.buf.w s.buf.w [] [] = some r' ∧
          ((flags % 2 = 1 ∧ r'.1 ≠ [] ∧
              r = ({ s with buf := { s.buf with w := r'.2.2.2 }, dict := .osap o1 }, r'.2.2.2 - s.buf.w, .ok,
                    ⟨r'.1, r'.2.1⟩)) ∨
           (¬ (flags % 2 = 1 ∧ r'.1 ≠ []) ∧ ∃ tail, sliceFromChk p r'.2.2.2 = some tail ∧
              r = ({ s with buf := { s.buf with w := p.length }, dict := .osap o1 }, p.length - s.buf.w, .ok,
                    ⟨r'.1, r'.2.1 ++ tail⟩))))) := by
  unfold parseOsapChk at h
  simp only [hn, if_false] at h
  split at h
  · cases h
  rename_i o1 hE
  refine ⟨o1, hE, ?_⟩
  split at h
  · rename_i h0
    split at h
    · cases h
    rename_i lits hS
    exact Or.inl ⟨h0, lits, hS, (Option.some.inj h).symm⟩
  rename_i h0
  split at h
  case isFalse => cases h
  rename_i hst
  split at h
  · cases h
  rename_i path hP
  split at h
  · cases h
  rename_i p hT
  split at h
  · cases h
  rename_i r' hR
  refine Or.inr ⟨h0, hst, path, p, r', hP, hT, hR, ?_⟩
  split at h
  · rename_i hc
    exact Or.inl ⟨hc.1, hc.2, (Option.some.inj h).symm⟩
  rename_i hc
  split at h
  · cases h
  rename_i tail hF
  exact Or.inr ⟨hc, tail, hF, (Option.some.inj h).symm⟩

/-! ## History level -/

/-- C16 for the index expressions of osap.go, every history.  For every accepted OSAP
    configuration and every history of `Write`, `ReadFrom`, `Parse(&blk, flags)`, `Parse(nil)`,
    `Shrink`, `Reset`: the next `Parse(&blk, flags)` evaluated with every array index and slice
    expression of `Parse` / `computeEdges` / `shortestPath` range-checked succeeds, with exactly the
    result of the model. -/
theorem osap_parseChk_reachable (raw : Cfg) (s0 : Parser) (h0 : newParser .OSAP raw = some s0)
    (ops : List POp) (flags : Nat) :
    let s := (runOps (s0, Ghost.init) ops).1
    ∃ o, s.dict = .osap o ∧ parseOsapChk s o flags = some (s.parse flags) := by
  intro s
  -- every reachable OSAP state (`Base`) has `W ≤ len(Data) ≤ BufferSize ≤ MaxInt32` (`Verify`) and an edge
  -- table that starts at or before `W` (`OsapOK`)
  have hB := (reachable_runOps s0 ops).base h0
  obtain ⟨o, hd⟩ := hB.shape.osap
  refine ⟨o, hd, parseOsapChk_eq s o hd flags hB.hw ?_ (hB.osap o hd).1⟩
  calc s.buf.data.length ≤ s.buf.cfg.bufferSize := hB.room.1
    _ = s0.buf.cfg.bufferSize := congrArg _ hB.bcfg
    _ ≤ 2147483647 := Sap.newParser_osap_bufferSize raw s0 h0

end Idx

/-- `Parse(&blk, flags)` with every index / slice expression of the two suffix-array parsers
    range-checked (`none` = an index-out-of-range / slice-bounds panic of gsap.go / osap.go, or a
    point where the total accessors of the model would silently diverge from Go).  For the five hash
    parsers the model itself returns `.panic` where `s.Data[:inputEnd+7]` is out of range
    (`C16_safe` of LzProofs/SafeProps.lean, `TablesOK` of LzProofs/SafeTables.lean for the tables). -/
def Parser.parseChk (s : Parser) (flags : Nat) : Option (Parser × Nat × Err × Block) :=
  match s.dict with
  | .gsap g => Idx.parseGsapChk s g flags
  | .osap o => Idx.parseOsapChk s o flags
  | _ => some (s.parse flags)

namespace Idx

/-- C16, index panics of the suffix-array parsers.  For every parser `NewParser` returns for a
    GSAP or OSAP configuration and every history of `Write`, `ReadFrom`, `Parse`, `Parse(nil)`,
    `Shrink`, `Reset`, the range-checked `Parse` succeeds and agrees with the model:
    `parseChk s flags = some (s.parse flags)`. -/
theorem C16_index_reachable (k : Kind) (hk : k = .GSAP ∨ k = .OSAP) (raw : Cfg) (s0 : Parser)
    (h0 : newParser k raw = some s0) (ops : List POp) (flags : Nat) :
    (runOps (s0, Ghost.init) ops).1.parseChk flags = some ((runOps (s0, Ghost.init) ops).1.parse flags) := by
  unfold Parser.parseChk
  rcases hk with rfl | rfl
  · obtain ⟨g, hd, h⟩ := gsap_parseChk_reachable raw s0 h0 ops flags
    rw [hd]; exact h
  · obtain ⟨o, hd, h⟩ := osap_parseChk_reachable raw s0 h0 ops flags
    rw [hd]; exact h

/-- with `C16_safe`: the checked `Parse` of a reachable suffix-array parser returns a result, and the
    error of that result is not `.panic` -/
theorem C16_index_no_panic (k : Kind) (hk : k = .GSAP ∨ k = .OSAP) (raw : Cfg) (s0 : Parser)
    (h0 : newParser k raw = some s0) (ops : List POp) (flags : Nat) :
    ∃ r, (runOps (s0, Ghost.init) ops).1.parseChk flags = some r ∧ r.2.2.1 ≠ .panic := by
  refine ⟨_, C16_index_reachable k hk raw s0 h0 ops flags, ?_⟩
  have h := (C16_safe k raw s0 h0 (ops ++ [.parse flags]) ops.length (by simp)).2
  simp only [List.take_left', List.getElem_concat_length, opErr] at h
  exact h

/-! ## Non-vacuity: the checks bite -/

section Examples

-- the callback: segment {1, 3} (descending [3, 1]), `woff = 0`, four edge slots: edge (m=2, o=2) at 3
example : edgeCallbackChk 8 0 2 [3, 1] (#[[], [], [], []], 0) = some (#[[], [], [], [(2, 2)]], 1) := by decide +kernel
example : edgeCallbackChk 8 0 2 [3, 1] (#[[], [], [], []], 0) =
    some (edgeCallback 8 0 2 [3, 1] (#[[], [], [], []], 0)) := by decide +kernel
-- `s.edges` one slot short: `&s.edges[3]` panics; the unchecked model drops the edge silently
example : (edgeCallbackChk 8 0 2 [3, 1] (#[[], [], []], 0)).isNone = true := by decide +kernel
example : edgeCallback 8 0 2 [3, 1] (#[[], [], []], 0) = (#[[], [], []], 1) := by decide +kernel
-- `k < 0` is the `break` of the Go loop, not a panic
example : edgeCallbackChk 8 (-5) 2 [3, 1] (#[[], [], []], 0) = some (#[[], [], []], 0) := by decide +kernel
-- `sa[lo:hi]` out of range
example : (edgeStepChk [2, 0, 3, 1] 8 0 (#[[], [], [], []], 0) (2, 3, 5)).isNone = true := by decide +kernel
#guard edgeStepChk [2, 0, 3, 1] 8 0 (#[[], [], [], []], 0) (2, 0, 2) == some (#[[], [], [(2, 2)], []], 1)

-- the DP table
def exD : Array Opt := #[⟨0, 0, 0⟩, ⟨1, 0, 9⟩, ⟨1, 0, 18⟩, ⟨2, 2, 20⟩]
example : (relax1Chk exD 4 ⟨1, 0, 5⟩).isNone = true := by decide +kernel
example : (relax1Chk exD 3 ⟨1, 0, 5⟩).isSome = true := by decide +kernel
example : (relaxLensChk 2 1 9 2 3 2 exD).isNone = true := by decide +kernel      -- `d[1+4]`
example : (relaxLensChk 2 1 9 2 1 2 exD).isSome = true := by decide +kernel      -- `d[1+2]`
-- back-tracking over a good table, over a table with `m = 0` (Go: endless loop), over a table with
-- `m > i` (Go: uint32 wrap-around, then an index panic); the unchecked model returns something each time
example : backtrackChk exD 3 3 [] = some [(1, 0), (2, 2)] := by decide +kernel
example : (backtrackChk (exD.setIfInBounds 1 ⟨0, 0, 9⟩) 3 3 []).isNone = true := by decide +kernel
example : (backtrackChk (exD.setIfInBounds 3 ⟨5, 2, 20⟩) 3 3 []).isNone = true := by decide +kernel
example : backtrack (exD.setIfInBounds 3 ⟨5, 2, 20⟩) 3 3 [] = [(5, 2)] := by decide +kernel
example : (backtrackChk exD 3 4 []).isNone = true := by decide +kernel           -- `d[4]`

-- `shortestPath`: block of 3 bytes, edge table of 3 / of 2 slots (`s.edges[k:k+n]` out of range)
#guard shortestPathChk 2 3 #[[], [(2, 1)], []] 0 == some (shortestPath 2 3 #[[], [(2, 1)], []] 0)
#guard shortestPathChk 2 3 #[[], [(2, 1)], []] 0 == some [(1, 0), (2, 1)]
example : (shortestPathChk 2 3 #[[], [(2, 1)]] 0).isNone = true := by decide +kernel
example : (shortestPathChk 2 3 #[[], [(2, 1)], []] 1).isNone = true := by decide +kernel
#guard shortestPath 2 3 #[[], [(2, 1)], []] 1 == [(2, 1), (1, 0)]   -- the model does not notice
example : (shortestPathChk 2 0 #[[]] 0).isNone = true := by decide +kernel       -- `d[n-1]` for `n = 0`

-- the path conversion: `p[litIndex:i]` with a path that overshoots the block
example : (pathToSeqsChk [97, 98, 97, 98] [(3, 0), (2, 2)] 0 0 [] []).isSome = true := by decide +kernel
example : (pathToSeqsChk [97, 98, 97, 98] [(5, 0), (2, 2)] 0 0 [] []).isNone = true := by decide +kernel

-- `computeEdges` with `W > len(Data)`: `make([][]edge, len(data) - s.start)` with a negative length
example : (computeEdgesChk [97, 98] 3 8 2 4).isNone = true := by decide +kernel

/-- whole `Parse` calls on the OSAP parser of LzProofs/GlueLemmas.lean holding `"abababab"` -/
def exData : List Byte := [97, 98, 97, 98, 97, 98, 97, 98]
def exO : Parser := stepP Sap.glueOsap0 (.write exData)
-- a state that is NOT reachable (`start > W`): `k := s.W - s.start` is negative, `s.edges[k:k+n]` panics
def exOBad : Parser :=
  { exO with dict := .osap { edges := Array.replicate 16 [(2, 2)], start := 3, nEdges := 16 } }

#guard (exO.parseChk 0).map (·.2.2.2) == some (exO.parse 0).2.2.2
#guard (exO.parseChk 0).map (·.2.2.2) == some ⟨[⟨2, 6, 2, 0⟩], [97, 98]⟩
#guard (exOBad.parseChk 0).isNone
#guard (exOBad.parse 0).2.2.1 == .ok        -- the unchecked model "succeeds" on the bad state
-- the second block of a history: stored edges are reused (`W + n ≤ start + len(edges)`)
#guard ((stepP (stepP exO (.parse 1)) (.write exData)).parseChk 0).isSome

/-- the history-level theorems applied to concrete histories -/
example := C16_index_reachable .OSAP (Or.inr rfl) Sap.glueOsapCfg Sap.glueOsap0 Sap.glueOsap0_new
  [.write exData, .parse 1, .parseNil, .write exData, .shrink, .write exData] 0
example := C16_index_reachable .GSAP (Or.inl rfl) exCfg exS0 exS0_new
  [.write exData, .parse 1, .parseNil, .write exData, .shrink, .write exData] 1

end Examples

#print axioms shortestPathChk_eq
#print axioms computeEdgesChk_eq
#print axioms parseOsapChk_eq
#print axioms osap_parseChk_reachable
#print axioms C16_index_reachable
#print axioms C16_index_no_panic

end Idx
end LZ
