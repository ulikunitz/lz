/-
  LzProofs.GenBHPHistRun — histories of translated operations of the backward hash parser BHP
  (`backwardHashParser.init`, `Parse`; promoted `Write`, `Reset`, `Shrink`), built like LzProofs/GenHPHistRun.lean: the
  simulation theorem `gen_bhp_history` and C01/C02/C03 about the translation of the Go text (`C01_go_text_bhp`, …).
  `lcs` (bytes.go) is the opaque parameter of the translation of bhp.go; the theorems hold for every `lcs` with
  `LcsSpec lcs` (it returns the length of the longest common suffix — what `BytesW.lcsW?_eq`, LzProofs/BytesProps.lean, proves of the
  word-level transcription of bytes.go `lcs`).  Fuel `2·BufferSize + 3` (see `gen_bhp_parse`).
  The operation type `GOp`, the results `GRes`, `GOp.WF`, `GOp.abs`, `resAgree`, `ResultsAgree`, `ghostStep`, `ghostRun`
  are those of GenHPHistRun (they do not mention the parser state).
-/
import LzProofs.GenHPHistRun
import LzProofs.GenBHPHist

set_option linter.unusedSimpArgs false
set_option linter.unusedVariables false

namespace LZ.GenBHPHist
open LZ LZ.Gen LZ.GenBuf LZ.GenHash LZ.GenHPParse LZ.GenBHPParse LZ.GenProps
open LZ.GenHPHist (BCOK GOp GRes GOp.WF GOp.abs resAgree ResultsAgree ghostStep ghostRun calls ghostRun_eq resultsAgree_eq
  stepRel_G)

/-- one call, on the translated functions -/
def stepG (grow : Nat → Nat → Nat) (fuel : Nat) (lcs : Slice → Slice → Int) (s : Gen.backwardHashParser) : GOp → Res (Gen.backwardHashParser × GRes)
  | .write p => Res.bind (bhp_Write grow s p) fun r => Res.ok (r.1, .write r.2.1 r.2.2)
  | .parse blk flags =>
    Res.bind (backwardHashParser_Parse grow fuel lcs s blk flags) fun r => Res.ok (r.1, .parse r.2.1 r.2.2.1 r.2.2.2)
  | .shrink => Res.bind (bhp_Shrink s) fun r => Res.ok (r.1, .shrink r.2)
  | .reset data => Res.bind (bhp_Reset s data) fun r => Res.ok (r.1, .reset r.2)

/-- a history of calls; the results in order -/
def runG (grow : Nat → Nat → Nat) (fuel : Nat) (lcs : Slice → Slice → Int) : Gen.backwardHashParser → List GOp → Res (Gen.backwardHashParser × List GRes)
  | s, [] => Res.ok (s, [])
  | s, op :: ops =>
    Res.bind (stepG grow fuel lcs s op) fun r =>
    Res.bind (runG grow fuel lcs r.1 ops) fun q => Res.ok (q.1, r.2 :: q.2)

/-! ## histories -/

theorem runG_eq (grow : Nat → Nat → Nat) (fuel : Nat) (lcs : Slice → Slice → Int) :
    runG grow fuel lcs = GenHist.run (stepG grow fuel lcs) :=
  GenHist.run_unique (fun _ => rfl) (fun _ _ _ => rfl)

theorem stepG_sim {bc : BufCfg} (hbc : BCOK bc) (grow : Nat → Nat → Nat) (fuel : Nat) (lcs : Slice → Slice → Int) (hlcs : LcsSpec lcs)
    (hfuel : 2 * bc.bufferSize + 3 ≤ fuel) :
    GenHist.StepSim calls (stepG grow fuel lcs) (GenHist.FInv (HistOK bc) ofBHPs) :=
  stepRel_G (fun _ _ _ => trivial) (fun _ _ => trivial) (hist_write hbc grow) (hist_parse hbc grow fuel lcs hlcs hfuel) (hist_shrink hbc) (hist_reset hbc)
    (fun _ _ => rfl) (fun _ _ _ => rfl) (fun _ => rfl) (fun _ _ => rfl)

theorem runG_sim {bc : BufCfg} (hbc : BCOK bc) (grow : Nat → Nat → Nat) (fuel : Nat) (lcs : Slice → Slice → Int) (hlcs : LcsSpec lcs)
    (hfuel : 2 * bc.bufferSize + 3 ≤ fuel) (ops : List GOp) (t : Gen.backwardHashParser) (sg : Parser × Ghost)
    (h : GenHist.FInv (HistOK bc) ofBHPs t sg) (hwf : ∀ op ∈ ops, op.WF) :
    ∃ t' rs, runG grow fuel lcs t ops = Res.ok (t', rs) ∧
      GenHist.FInv (HistOK bc) ofBHPs t' (runOps sg (ops.map GOp.abs)) ∧
      ghostRun sg.2 ops rs = (runOps sg (ops.map GOp.abs)).2 ∧ ResultsAgree sg ops rs := by
  rw [runG_eq, ghostRun_eq, resultsAgree_eq]
  exact GenHist.run_sim (stepG_sim hbc grow fuel lcs hlcs hfuel) ops t sg h hwf

theorem init_inv (cfg : Gen.BHPConfig) (s0 : Gen.backwardHashParser)
    (hinit : backwardHashParser_init default cfg = Res.ok (s0, Gen.Err.ok)) (fuel : Nat)
    (hfuel : 2 * s0.hashDictionary.ParserBuffer.BufConfig.BufferSize.toNat + 3 ≤ fuel) :
    ∃ p, newParser .BHP (ofBHP cfg) = some p ∧ BCOK p.buf.cfg ∧ 2 * p.buf.cfg.bufferSize + 3 ≤ fuel ∧
      GenHist.FInv (HistOK p.buf.cfg) ofBHPs s0 (p, Ghost.init) := by
  obtain ⟨p, hp, h2, hbc, hH⟩ := hist_init cfg s0 hinit
  exact ⟨p, hp, hbc, by rw [← hH.cfg]; exact hfuel, ⟨hH, h2⟩, trivial⟩

/-- `backwardHashParser.init(cfg)` on `new(backwardHashParser)` returned `nil`; then for every history of
    well-formed calls the translated functions never panic and never run out of fuel, the state reached satisfies
    `ParseOKB`, abstracts to the state the model reaches from `NewParser` with the abstracted history, and every
    returned value — `n`, the error, the block — is the model's. -/
theorem gen_bhp_history (cfg : Gen.BHPConfig) (s0 : Gen.backwardHashParser)
    (hinit : backwardHashParser_init default cfg = Res.ok (s0, Gen.Err.ok))
    (grow : Nat → Nat → Nat) (fuel : Nat) (lcs : Slice → Slice → Int) (hlcs : LcsSpec lcs)
    (hfuel : 2 * s0.hashDictionary.ParserBuffer.BufConfig.BufferSize.toNat + 3 ≤ fuel)
    (ops : List GOp) (hwf : ∀ op ∈ ops, op.WF) :
    ∃ p t rs, newParser .BHP (ofBHP cfg) = some p ∧ ofBHPs s0 = p ∧
      runG grow fuel lcs s0 ops = Res.ok (t, rs) ∧ ParseOKB t ∧
      ofBHPs t = (runOps (p, Ghost.init) (ops.map GOp.abs)).1 ∧
      ghostRun Ghost.init ops rs = (runOps (p, Ghost.init) (ops.map GOp.abs)).2 ∧
      ResultsAgree (p, Ghost.init) ops rs := by
  obtain ⟨p, hp, hbc, hf, h0⟩ := init_inv cfg s0 hinit fuel hfuel
  obtain ⟨t, rs, k1, ⟨⟨k2, k3⟩, -⟩, k4, k5⟩ := runG_sim hbc grow fuel lcs hlcs hf ops s0 _ h0 hwf
  exact ⟨p, t, rs, hp, h0.1.2, k1, k2.pok, k3, k4, k5⟩

/-- … and `ParseOKB` holds in EVERY state the history passes through: after every prefix `ops.take k` the run is
    `Res.ok` with a state satisfying `ParseOKB`, and the whole run continues from that state. -/
theorem gen_bhp_history_states (cfg : Gen.BHPConfig) (s0 : Gen.backwardHashParser)
    (hinit : backwardHashParser_init default cfg = Res.ok (s0, Gen.Err.ok))
    (grow : Nat → Nat → Nat) (fuel : Nat) (lcs : Slice → Slice → Int) (hlcs : LcsSpec lcs)
    (hfuel : 2 * s0.hashDictionary.ParserBuffer.BufConfig.BufferSize.toNat + 3 ≤ fuel)
    (ops : List GOp) (hwf : ∀ op ∈ ops, op.WF) (k : Nat) :
    ∃ tk rk t rs', runG grow fuel lcs s0 (ops.take k) = Res.ok (tk, rk) ∧ ParseOKB tk ∧
      runG grow fuel lcs tk (ops.drop k) = Res.ok (t, rs') ∧ runG grow fuel lcs s0 ops = Res.ok (t, rk ++ rs') := by
  obtain ⟨p, -, hbc, hf, h0⟩ := init_inv cfg s0 hinit fuel hfuel
  rw [runG_eq]
  obtain ⟨tk, rk, t, rs', k1, k2, j1, j2⟩ := GenHist.run_states (stepG_sim hbc grow fuel lcs hlcs hf) ops s0 _ h0 hwf k
  exact ⟨tk, rk, t, rs', k1, k2.1.1.pok, j1, j2⟩

/-! ## the property theorems about the translation -/

/-- C01 about the Go text of BHP.  `cfg` is any configuration for which the translated `backwardHashParser.init`, called
    on the zero value, returns `nil`.  Run any history of `Write(p)`, `Parse(&blk, flags)`, `Shrink()`, `Reset(data)`
    (slices with `len ≤ cap`, `flags ≥ 0`) on the TRANSLATED functions, with any capacity policy for `append` and any
    `fuel ≥ 2·BufferSize + 3`, any `lcs` with `LcsSpec lcs`.  Then no call panics or runs out of fuel, and the reference decoder, applied to the blocks
    the translated `Parse` returned since the last successful `Reset`, yields exactly the first `consumed` bytes of
    what the translated `Write` / `Reset` accepted since then, `consumed` = the sum of the returned `n`. -/
theorem C01_go_text_bhp (cfg : Gen.BHPConfig) (s0 : Gen.backwardHashParser)
    (hinit : backwardHashParser_init default cfg = Res.ok (s0, Gen.Err.ok))
    (grow : Nat → Nat → Nat) (fuel : Nat) (lcs : Slice → Slice → Int) (hlcs : LcsSpec lcs)
    (hfuel : 2 * s0.hashDictionary.ParserBuffer.BufConfig.BufferSize.toNat + 3 ≤ fuel)
    (ops : List GOp) (hwf : ∀ op ∈ ops, op.WF) :
    ∃ t rs, runG grow fuel lcs s0 ops = Res.ok (t, rs) ∧
      decode [] (ghostRun Ghost.init ops rs).log =
        some ((ghostRun Ghost.init ops rs).fed.take (ghostRun Ghost.init ops rs).consumed) := by
  obtain ⟨p, t, rs, hp, -, h1, -, -, h4, -⟩ := gen_bhp_history cfg s0 hinit grow fuel lcs hlcs hfuel ops hwf
  exact ⟨t, rs, h1, GenHist.C01_ghost hp (histHyp_of_ne .BHP p (by decide)) h4⟩

/-- C02 about the Go text of BHP: every sequence of every block the translated `Parse` returned has
    `1 ≤ Offset ≤ WindowSize`, `Offset ≤` the stream bytes before its match, `MatchLen ≥ min(3, InputLen)`, `Aux = 0`,
    and the `LitLen`s of a block do not exceed its literals. -/
theorem C02_go_text_bhp (cfg : Gen.BHPConfig) (s0 : Gen.backwardHashParser)
    (hinit : backwardHashParser_init default cfg = Res.ok (s0, Gen.Err.ok))
    (grow : Nat → Nat → Nat) (fuel : Nat) (lcs : Slice → Slice → Int) (hlcs : LcsSpec lcs)
    (hfuel : 2 * s0.hashDictionary.ParserBuffer.BufConfig.BufferSize.toNat + 3 ≤ fuel)
    (ops : List GOp) (hwf : ∀ op ∈ ops, op.WF) :
    ∃ t rs, runG grow fuel lcs s0 ops = Res.ok (t, rs) ∧
      LogAll (fun pos e => ∀ n fl blk, e = .block n fl blk →
        SeqsAll (SeqWF s0.hashDictionary.ParserBuffer.BufConfig.WindowSize.toNat
          (Min.min 3 s0.BHPConfig.InputLen.toNat)) pos blk.seqs ∧
        litSum blk.seqs ≤ blk.lits.length) 0 (ghostRun Ghost.init ops rs).log := by
  obtain ⟨p, t, rs, hp, h0, h1, -, -, h4, -⟩ := gen_bhp_history cfg s0 hinit grow fuel lcs hlcs hfuel ops hwf
  subst h0
  exact ⟨t, rs, h1, GenHist.C02_ghost hp (histHyp_of_ne .BHP _ (by decide)) h4⟩

/-- C03 about the Go text of BHP: the blocks tile the consumed stream — each has `1 ≤ n ≤ BlockSize`, represents
    exactly `n` bytes (`Block.Len`), expands the stream up to its start to the stream up to its end; the `n` add up
    to `consumed`, which never exceeds what was fed. -/
theorem C03_go_text_bhp (cfg : Gen.BHPConfig) (s0 : Gen.backwardHashParser)
    (hinit : backwardHashParser_init default cfg = Res.ok (s0, Gen.Err.ok))
    (grow : Nat → Nat → Nat) (fuel : Nat) (lcs : Slice → Slice → Int) (hlcs : LcsSpec lcs)
    (hfuel : 2 * s0.hashDictionary.ParserBuffer.BufConfig.BufferSize.toNat + 3 ≤ fuel)
    (ops : List GOp) (hwf : ∀ op ∈ ops, op.WF) :
    ∃ t rs, runG grow fuel lcs s0 ops = Res.ok (t, rs) ∧
      let g := ghostRun Ghost.init ops rs
      LogAll (fun pos e => 1 ≤ e.n ∧ e.n ≤ s0.hashDictionary.ParserBuffer.BufConfig.BlockSize.toNat ∧
        pos + e.n ≤ g.fed.length ∧
        ∀ n fl blk, e = .block n fl blk →
          blk.len = n ∧ expand (g.fed.take pos) blk = some (g.fed.take (pos + n)) ∧
          (fl % 2 = 1 → blk.seqs ≠ [] → blk.lits.length = litSum blk.seqs ∧ n = seqsSpan blk.seqs)) 0 g.log ∧
      logSpan g.log = g.consumed ∧ g.consumed ≤ g.fed.length := by
  obtain ⟨p, t, rs, hp, h0, h1, -, -, h4, -⟩ := gen_bhp_history cfg s0 hinit grow fuel lcs hlcs hfuel ops hwf
  subst h0
  exact ⟨t, rs, h1, GenHist.C03_ghost hp (histHyp_of_ne .BHP _ (by decide)) h4⟩

end LZ.GenBHPHist

#print axioms LZ.GenBHPHist.stepG_sim
#print axioms LZ.GenBHPHist.runG_sim
#print axioms LZ.GenBHPHist.gen_bhp_history
#print axioms LZ.GenBHPHist.gen_bhp_history_states
#print axioms LZ.GenBHPHist.C01_go_text_bhp
#print axioms LZ.GenBHPHist.C02_go_text_bhp
#print axioms LZ.GenBHPHist.C03_go_text_bhp
