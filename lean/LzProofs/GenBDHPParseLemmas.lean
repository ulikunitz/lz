/-
  LzProofs.GenBDHPParseLemmas — helper lemmas for LzProofs/GenBDHPParse.lean (translated bdhp.go `(*bdhp).Parse`
  versus `ProbeW.parseW` for kind `.BDHP`): the instances of the shared loop lemmas (GenParseShared) for the generated
  loops of bdhp.go.  `doubleHashDictionary.processSegment` and the abstraction of the two tables (`setDD`, `HOK`) are
  those of GenDHPParseLemmas, the do-free forms of `ProbeW.dhpProbeW` those of ProbeWForms; `LcsSpec`, `gen_backExt` those
  of GenBHPParseLemmas.

  Shape independence (notes/robust.md).  No lemma of this file NAMES a generated loop function: the numbering
  `bdhp_Parse_loop_n` changes whenever a loop is added, removed or moved into a helper.  Instead
    * the inner loops are characterised generically (`F` with its defining equation as a hypothesis) and used in the
      "at" form `Res.bind (F …) K = G → … → K v = G`: `F` and the continuation `K` are taken from the hypothesis by
      unification, i.e. the lemma speaks about whatever function the generated text calls at that point; the defining
      equation is discharged by `unfold_head` (rewrites with the equation of the function at the head of the left-hand
      side, whatever its name); `join_at` is the "at" form for a join `Res.bind m K`: the value of `m` is computed
      in a hypothesis of its own;
    * the two outer loops are denoted `callee_loop% bdhp_Parse_nilable 0/1` — the first/second loop function called
      directly in the body of the generated `bdhp_Parse_nilable` (a term elaborator that reads the generated
      definition; it produces the constant itself, no wrapper);
    * `resBind_assoc`: straight-line code in a join (`Res.bind (Res.bind m f) K`) and the same code inline or in an
      extracted helper (unfolded by `simp only [gen_helper]`) have the same normal form.
-/
import Lean
import LzModel.Generated.CodeBDHPParse
import LzProofs.GenDHPParseLemmas
import LzProofs.GenBHPParseLemmas
import LzProofs.GenPropsCfgBDHP

set_option linter.unusedSimpArgs false
set_option linter.unusedVariables false

namespace LZ.GenBDHPParse
open LZ LZ.Gen LZ.GenBuf LZ.GenHash LZ.GenHPParse LZ.GenParse LZ.GenDHPParse LZ.GenBHPParse

/-! ## name-independent access to generated functions -/

section Meta
open Lean Elab Tactic Meta Term

/-- the loop functions (constants named `…_loop_n`) occurring in `e`, in order of first occurrence -/
partial def collectLoops (e : Expr) (acc : Array Name) : Array Name :=
  match e with
  | .app f a => collectLoops a (collectLoops f acc)
  | .lam _ t b _ => collectLoops b (collectLoops t acc)
  | .forallE _ t b _ => collectLoops b (collectLoops t acc)
  | .letE _ t v b _ => collectLoops b (collectLoops v (collectLoops t acc))
  | .mdata _ b => collectLoops b acc
  | .proj _ _ b => collectLoops b acc
  | .const n _ =>
    if (n.toString.splitOn "_loop_").length > 1 && !acc.contains n then acc.push n else acc
  | _ => acc

/-- `callee_loop% f n` : the `n`-th (from 0) loop function called directly in the body of the generated function `f`
    (the constant itself).  Only used in STATEMENTS of auxiliary lemmas; the main theorems do not mention loops. -/
elab "callee_loop% " f:ident n:num : term => do
  let c ← realizeGlobalConstNoOverloadWithInfo f
  let info ← getConstInfo c
  let some v := info.value? | throwError "callee_loop%: {c} has no body"
  let loops := collectLoops v #[]
  let some l := loops[n.getNat]? | throwError "callee_loop%: {c} calls only {loops.size} loop functions"
  mkConstWithLevelParams l

def lhsHead (t : Expr) : MetaM Name := do
  let t ← instantiateMVars t
  let some (_, lhs, _) := t.eq? | throwError "unfold_head: not an equation"
  let .const n _ := lhs.getAppFn | throwError "unfold_head: the left-hand side is not an application of a constant"
  return n

/-- `unfold_head` / `unfold_head at h`: rewrite with the defining equation of the function at the head of the
    left-hand side of the goal / of `h` — whatever its name is -/
elab "unfold_head" : tactic => withMainContext do
  let n ← lhsHead (← getMainTarget)
  evalTactic (← `(tactic| rw [$(mkIdent n):ident]))

@[inherit_doc tacticUnfold_head]
elab "unfold_head" " at " h:ident : tactic => withMainContext do
  let d ← getLocalDeclFromUserName h.getId
  let n ← lhsHead d.type
  evalTactic (← `(tactic| rw [$(mkIdent n):ident] at $h:ident))

/-- `unfold_helpers at h`: unfold (delta + equation, no simplification) the unexported helpers the translator followed
    automatically — the constants of `h` carrying the attribute `gen_helper`, whatever they are — except the byte loads,
    which the shared lemmas (`gen_load_ok`, `gen_getLE64`, …) are about -/
elab "unfold_helpers" " at " h:ident : tactic => do
  let some ext ← getSimpExtension? `gen_helper | throwError "unfold_helpers: no simp attribute gen_helper"
  let thms ← ext.getTheorems
  let keep : List Name := [``LZ.Gen._getLE64, ``LZ.Gen.getLE64, ``LZ.Gen._getLE32]
  for _ in [0:8] do
    let cs ← withMainContext do
      let d ← getLocalDeclFromUserName h.getId
      let t ← instantiateMVars d.type
      pure (t.getUsedConstants.filter fun n => thms.isDeclToUnfold n && !keep.contains n)
    if cs.isEmpty then break
    for c in cs do
      evalTactic (← `(tactic| unfold $(mkIdent c):ident at $h:ident))

end Meta

/-- omega after normalising `Int.ofNat` -/
macro "omegaI" : tactic =>
  `(tactic| first | omega | rfl | (simp only [Int.ofNat_eq_natCast] at * <;> omega))

section Meta2
open Lean Elab Tactic Meta Term

/-- `decide_if at h`: the first `if` of `h` (outermost, leftmost; whatever the spelling of its condition `c`) is
    decided from the context: `c` or `¬ c` is proved by omega, then `if_pos` / `if_neg` rewrites.  Fails when omega
    proves neither. -/
elab "decide_if" " at " h:ident : tactic => withMainContext do
  let d ← getLocalDeclFromUserName h.getId
  let t ← instantiateMVars d.type
  let some e := t.find? (fun e => e.isAppOfArity ``ite 5 && !e.hasLooseBVars)
    | throwError "decide_if: no if-then-else in {h}"
  let c := e.getArg! 1
  let tryProve (p : Expr) : TacticM Bool := do
    let s ← saveState
    try
      let m ← mkFreshExprMVar p
      let gs ← Tactic.run m.mvarId! (withoutRecover (evalTactic (← `(tactic| omegaI))))
      unless gs.isEmpty do throwError "open goals"
      let pf ← instantiateMVars m
      liftMetaTactic fun g => do
        let g ← g.assert `hc_dec p pf
        let (_, g) ← g.intro1P
        return [g]
      return true
    catch _ =>
      s.restore
      return false
  if ← tryProve c then
    evalTactic (← `(tactic| (rw [if_pos $(mkIdent `hc_dec)] at $h:ident; clear $(mkIdent `hc_dec))))
  else if ← tryProve (mkNot c) then
    evalTactic (← `(tactic| (rw [if_neg $(mkIdent `hc_dec)] at $h:ident; clear $(mkIdent `hc_dec))))
  else
    throwError "decide_if: omega decides neither{indentExpr c}\nnor its negation"

/-- `first_loop% h n`: the first (outermost, leftmost) application of a generated loop function `…_loop_k` in the
    hypothesis `h`, without its last `n` arguments (the fuel and the loop state) — "the loop the text calls next" -/
elab "first_loop% " h:ident n:num : term => do
  let d ← getLocalDeclFromUserName h.getId
  let t ← instantiateMVars d.type
  let n := n.getNat
  let isLoop (e : Expr) : Bool :=
    e.isApp && e.getAppNumArgs ≥ n &&
    (match e.getAppFn with
     | .const c _ => (c.toString.splitOn "_loop_").length > 1
     | _ => false) &&
    !(mkAppN e.getAppFn (e.getAppArgs.extract 0 (e.getAppNumArgs - n))).hasLooseBVars
  let some e := t.find? isLoop | throwError "first_loop%: no call of a loop function in {h}"
  return mkAppN e.getAppFn (e.getAppArgs.extract 0 (e.getAppNumArgs - n))

end Meta2

/-- the value `v` of a join `m` in front of its continuation `K` (both taken from `hG`): `m` is run in a hypothesis
    of its own, which also determines `v` -/
theorem join_at {α β : Type} {m : Res α} {K : α → Res β} {G : Res β} {v : α}
    (hG : Res.bind m K = G) (hm : ∀ M, m = M → M = Res.ok v) : K v = G := by
  rw [hm m rfl] at hG; exact hG

@[reducible] def setTB (s : Gen.bdhp) (t1 t2 : GSlice hashEntry) : Gen.bdhp :=
  { s with doubleHashDictionary := setDD s.doubleHashDictionary t1 t2 }

/-! ## the forward extension -/

/-- the block `if k == 8 { … for len(q) >= 8 {…}; if len(q) > 0 {…}; match: }` in front of a continuation; `F` (the
    translated inner loop) and `K` are taken from `hG` -/
theorem extBlock_at {β : Type} (F : Nat → Int → Slice → Slice → Res (Nat × Int × Slice × Slice))
    (K : Int → Res β) (G : Res β) (fuel : Nat) (A : List UInt8) (L i j k8 : Nat) (ia : Int)
    (hG : Res.bind (extBlock F fuel { arr := A, len := L } ia (Int.ofNat j) ((k8 : Nat) : Int)) K = G)
    (hF : Loop2Spec F) (kk : Nat) (hia : ia = (i : Int))
    (hj : j < i) (hk8 : k8 ≤ L - i) (hLA : L ≤ A.length) (hfuel : L - i ≤ fuel)
    (hme : BytesW.matchExt (A.take L) i j k8 = some kk) : K ((kk : Nat) : Int) = G := by
  rw [extBlock_eq F hF fuel A L i j k8 kk ia hia hj hk8 hLA hfuel hme, bind_ok] at hG
  exact hG

/-! ## the backward extension -/

/-- the two slices of the backward extension in front of a continuation `K` (taken from `hG`; `back` =
    `min (i - litIndex) j` in any spelling: the lower bound `lo` is taken from `hG`, the equation `hlo` is left to the
    caller): `lcs` of the two slices is the model's `backExt` -/
theorem backLcs_at {β : Type} (lcs : Slice → Slice → Int) (hlcs : LcsSpec lcs) (A : List UInt8) (L i li j : Nat)
    (lo ia : Int) (K : Slice → Slice → Res β) (G : Res β)
    (hG : (Res.bind (Slice.slice { arr := A, len := L } lo (Int.ofNat j)) fun t_1 =>
           Res.bind (Slice.slice { arr := A, len := L } 0 ia) fun t_2 => K t_1 t_2) = G)
    (hlo : lo = ((j - Min.min (i - li) j : Nat) : Int)) (hia : ia = (i : Int)) (hb : li < i) (hj : j < i) (hi : i ≤ L)
    (hLA : L ≤ A.length) :
    ∃ s1 s2, lcs s1 s2 = ((backExt (A.take L) i li j : Nat) : Int) ∧ K s1 s2 = G := by
  rw [slice_okI _ _ (Int.ofNat j) (j - Min.min (i - li) j) j hlo rfl (by omega) (by show j ≤ A.length; omega), bind_ok,
    slice_okI _ 0 ia 0 i rfl hia (Nat.zero_le _) (by show i ≤ A.length; omega), bind_ok] at hG
  exact ⟨_, _, lcs_backExtB lcs hlcs A L i li j hb hj hi, hG⟩

/-! ## the re-indexing loops -/

/-- a re-indexing loop `for ; j < b; j++ { … }` of `Parse` on the table of h1 alone, run from `j` to `e ≥ j`, in front
    of a continuation: `F`, its bound `b`, `_p` and `K` are taken from `hG` and from the proof of the defining
    equation `heq` (`by intros; unfold_head; rfl` at the use site) -/
theorem loopH1_at {β : Type} (F : Nat → Int → Gen.bdhp → Res (Int × Gen.bdhp)) (b : Int) (_p : Slice)
    (K : Int × Gen.bdhp → Res β) (G : Res β) (fuel : Nat) (a : Int) (s : Gen.bdhp)
    (hG : Res.bind (F fuel a s) K = G)
    (heq : ∀ fuel j s, F (fuel + 1) j s =
      if j < b then
        Res.bind (Slice.slice _p j (Int.ofNat _p.len)) fun t_1 =>
        Res.bind (LZ.Gen._getLE64 t_1) fun r_2 =>
        Res.bind (storeKey s.doubleHashDictionary.h1 s.doubleHashDictionary.h1.table r_2 j) fun t_3 =>
        F fuel (j + 1) (setTB s t_3 s.doubleHashDictionary.h2.table)
      else Res.ok (j, s))
    (j e : Nat) (hje : j ≤ e)
    (ha : a = (j : Int)) (hb : b = (e : Int)) (hf : e - j < fuel) (hr : e = j ∨ e + 7 ≤ _p.len)
    (c1 : TCtx s.doubleHashDictionary.h1.mask s.doubleHashDictionary.h1.shift s.doubleHashDictionary.h1.inputLen _p)
    (ht1 : TOK s.doubleHashDictionary.h1.shift s.doubleHashDictionary.h1.table) :
    ∃ t1, TOK s.doubleHashDictionary.h1.shift t1 ∧
      ProbeW.insertRangeW (ofHash s.doubleHashDictionary.h1) _p.data j (e - j) =
        some (ofHashT s.doubleHashDictionary.h1 t1) ∧
      K ((e : Int), setTB s t1 s.doubleHashDictionary.h2.table) = G := by
  obtain ⟨t1, h1, h3, hl⟩ := reindex_loop (ι := Unit) (fun _ => F) (fun _ => b) _p (fun s => s.doubleHashDictionary.h1)
    (fun s t => setTB s t s.doubleHashDictionary.h2.table) (fun _ _ => rfl) (fun _ _ _ => rfl) (fun _ => rfl)
    (fun _ fuel a s (h : ¬ a < b) => by rw [heq, if_neg h])
    (fun _ fuel a s y t' (h : a < b) hF hset => by rw [heq, if_pos h, hF]; unfold storeKey; rw [hset, bind_ok])
    (e - j) fuel j s hf (by omega) c1 ht1
  rw [hl () a ha (by omega), bind_ok, Nat.add_sub_cancel' hje] at hG
  exact ⟨_, h1, h3, hG⟩

/-- the first re-indexing loop after a match of the first greedy loop (`for j = i + 1; j < b; j++ { … }`): in bdhp.go
    it updates the table of h1 ONLY; the loop state also carries the variables `x`, `h` of the enclosing loop, which
    the body assigns -/
theorem loopXH_at {β : Type} (F : Nat → Int → UInt64 → UInt32 → Gen.bdhp → Res (Int × UInt64 × UInt32 × Gen.bdhp))
    (b : Int) (_p : Slice) (K : Int × UInt64 × UInt32 × Gen.bdhp → Res β) (G : Res β)
    (fuel : Nat) (a : Int) (x : UInt64) (h : UInt32) (s : Gen.bdhp)
    (hG : Res.bind (F fuel a x h s) K = G)
    (heq : ∀ fuel j x h s, F (fuel + 1) j x h s =
      if j < b then
        Res.bind (Slice.slice _p j (Int.ofNat _p.len)) fun t_1 =>
        Res.bind (LZ.Gen._getLE64 t_1) fun r_2 =>
        Res.bind (storeKey s.doubleHashDictionary.h1 s.doubleHashDictionary.h1.table r_2 j) fun t_3 =>
        F fuel (j + 1) (r_2 &&& s.doubleHashDictionary.h1.mask)
          (LZ.Gen.hashValue (r_2 &&& s.doubleHashDictionary.h1.mask) s.doubleHashDictionary.h1.shift)
          (setTB s t_3 s.doubleHashDictionary.h2.table)
      else Res.ok (j, x, h, s))
    (j e : Nat) (hje : j ≤ e)
    (ha : a = (j : Int)) (hb : b = (e : Int)) (hf : e - j < fuel) (hr : e = j ∨ e + 7 ≤ _p.len)
    (c1 : TCtx s.doubleHashDictionary.h1.mask s.doubleHashDictionary.h1.shift s.doubleHashDictionary.h1.inputLen _p)
    (ht1 : TOK s.doubleHashDictionary.h1.shift s.doubleHashDictionary.h1.table) :
    ∃ t1 x' h', TOK s.doubleHashDictionary.h1.shift t1 ∧
      ProbeW.insertRangeW (ofHash s.doubleHashDictionary.h1) _p.data j (e - j) =
        some (ofHashT s.doubleHashDictionary.h1 t1) ∧
      K ((e : Int), x', h', setTB s t1 s.doubleHashDictionary.h2.table) = G := by
  obtain ⟨_, ⟨x', h', t1, rfl, h1⟩, h3, hl⟩ := insert_loop (ι := Unit) (σ := UInt64 × UInt32 × Gen.bdhp)
    (fun _ fuel j σ => F fuel j σ.1 σ.2.1 σ.2.2) (fun _ => b) (fun σ => ofHash σ.2.2.doubleHashDictionary.h1)
    (fun d i => ProbeW.insertW d _p.data i) (fun d i n => ProbeW.insertRangeW d _p.data i n) (fun _ _ => rfl)
    (fun _ _ _ => rfl)
    (fun σ => ∃ x' h' t1, σ = (x', h', setTB s t1 s.doubleHashDictionary.h2.table) ∧
      TOK s.doubleHashDictionary.h1.shift t1) j e
    (fun _ fuel a σ (h : ¬ a < b) => by rw [heq, if_neg h])
    (fun i σ ⟨x', h', t1, hσ, h1⟩ hlo hhi => by
      subst hσ
      obtain ⟨y, u1, hy, hF, hset, hu1, hins⟩ :=
        insert_step s.doubleHashDictionary.h1 _p c1 t1 h1 (i : Int) i rfl (by omega)
      exact ⟨_, ⟨_, _, u1, rfl, hu1⟩, hins, fun _ fuel (hb : (i : Int) < b) => by
        rw [heq, if_pos hb, hF]; unfold storeKey; rw [hset, bind_ok]⟩)
    (e - j) fuel j (x, h, s) hf (Nat.le_refl _) (by omega) ⟨x, h, s.doubleHashDictionary.h1.table, rfl, ht1⟩
  rw [show F fuel a x h s = _ from hl () a ha (by omega), bind_ok, Nat.add_sub_cancel' hje] at hG
  exact ⟨_, x', h', h1, h3, hG⟩

end LZ.GenBDHPParse

#print axioms LZ.GenBDHPParse.extBlock_at
#print axioms LZ.GenBDHPParse.backLcs_at
#print axioms LZ.GenBDHPParse.loopH1_at
#print axioms LZ.GenBDHPParse.loopXH_at
